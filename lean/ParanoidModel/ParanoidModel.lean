-- Root of the `ParanoidModel` library: executable model, proofs, property theorems.
import ParanoidModel.Model.Proto
import ParanoidModel.Model.Basic
import ParanoidModel.Model.NTheory
import ParanoidModel.Model.Factoring
import ParanoidModel.Model.BatchGcd
import ParanoidModel.Generated.Consts
import ParanoidModel.Proofs.Factoring
import ParanoidModel.Props.C01
import ParanoidModel.Model.RsaChecks
import ParanoidModel.Proofs.Fermat
import ParanoidModel.Proofs.Lehman
import ParanoidModel.Proofs.Pollard
import ParanoidModel.Proofs.Fraction
import ParanoidModel.Proofs.NTheoryTree
import ParanoidModel.Proofs.BatchGcd
import ParanoidModel.Props.C03
import ParanoidModel.Props.C04
import ParanoidModel.Props.C05
import ParanoidModel.Model.Ecdsa
import ParanoidModel.Model.ClosedForm
import ParanoidModel.Spec.Rfc6979
import ParanoidModel.Proofs.Basic
import ParanoidModel.Proofs.Ecdsa
import ParanoidModel.Proofs.ClosedForm
import ParanoidModel.Props.C06
import ParanoidModel.Props.C09
import ParanoidModel.Props.C09Sign
import ParanoidModel.Proofs.RsaChecks
import ParanoidModel.Model.Rng
import ParanoidModel.Spec.JavaRandom
import ParanoidModel.Spec.TruncLcg
import ParanoidModel.Proofs.Rng
import ParanoidModel.Props.C20
import ParanoidModel.Model.BM
import ParanoidModel.Spec.Lfsr
import ParanoidModel.Proofs.Lfsr
import ParanoidModel.Proofs.BMBounded
import ParanoidModel.Proofs.BM
import ParanoidModel.Props.C14
import ParanoidModel.Model.BitSeq
import ParanoidModel.Spec.BitDefs
import ParanoidModel.Proofs.BitSeq
import ParanoidModel.Props.C15
import ParanoidModel.Model.Bookkeeping
import ParanoidModel.Model.Checks
import ParanoidModel.Model.Suite
import ParanoidModel.Proofs.Bookkeeping
import ParanoidModel.Proofs.Checks
import ParanoidModel.Proofs.CheckAll
import ParanoidModel.Proofs.Suite
import ParanoidModel.Props.C16
import ParanoidModel.Proofs.CheckMerge
import ParanoidModel.Props.C16Merge
import ParanoidModel.Props.C13
import ParanoidModel.Proofs.SuiteHistory
import ParanoidModel.Props.C13History
import ParanoidModel.Proofs.EcJacobian
import ParanoidModel.Proofs.EcMul
import ParanoidModel.Proofs.EcBatchInverse
import ParanoidModel.Proofs.EcBatch
import ParanoidModel.Proofs.EcBatchJ
import ParanoidModel.Proofs.EcCombArith
import ParanoidModel.Proofs.EcComb
import ParanoidModel.Proofs.EcSequence
import ParanoidModel.Proofs.EcTable
import ParanoidModel.Proofs.EcOrder
import ParanoidModel.Proofs.EcNat
import ParanoidModel.Proofs.EcCurves
import ParanoidModel.Props.C11
import ParanoidModel.Model.Ec
import ParanoidModel.Proofs.Ec
import ParanoidModel.Props.C07
import ParanoidModel.Proofs.Totality
import ParanoidModel.Props.C17
import ParanoidModel.Proofs.NTheory
import ParanoidModel.Model.LinAlg
import ParanoidModel.Model.Lattice
import ParanoidModel.Proofs.LinAlg
import ParanoidModel.Proofs.Lattice
import ParanoidModel.Props.C19
import ParanoidModel.Props.C18
import ParanoidModel.Model.Hnp
import ParanoidModel.Model.Cr50
import ParanoidModel.Proofs.Hnp
import ParanoidModel.Proofs.Cr50
import ParanoidModel.Props.C08
import ParanoidModel.Model.Bsgs
import ParanoidModel.Proofs.Bsgs
import ParanoidModel.Proofs.BsgsComplete
import ParanoidModel.Proofs.BsgsMain
import ParanoidModel.Proofs.BsgsExt
import ParanoidModel.Proofs.BsgsDiff
import ParanoidModel.Proofs.BsgsDiffComplete
import ParanoidModel.Proofs.BsgsHistory
import ParanoidModel.Proofs.BsgsCurves
import ParanoidModel.Proofs.BsgsChecks
import ParanoidModel.Proofs.BsgsFast
import ParanoidModel.Proofs.Forall2
import ParanoidModel.Proofs.ExceptList
import ParanoidModel.Proofs.BsgsGroup
import ParanoidModel.Proofs.BsgsLoop
import ParanoidModel.Proofs.BsgsCheckLoop
import ParanoidModel.Props.C10
import ParanoidModel.Model.EcdsaChecks
import ParanoidModel.Proofs.EcdsaChecks
import ParanoidModel.Proofs.EcdsaChecksEc
import ParanoidModel.Props.C02S
import ParanoidModel.Props.C02
import ParanoidModel.Model.Nist
import ParanoidModel.Proofs.NistBits
import ParanoidModel.Proofs.NistTables
import ParanoidModel.Proofs.Nist
import ParanoidModel.Props.C12
import ParanoidModel.Proofs.Nist2Serial
import ParanoidModel.Proofs.Nist2Runs
import ParanoidModel.Proofs.Nist2Apen
import ParanoidModel.Proofs.Nist2Rank
import ParanoidModel.Proofs.Nist2RankAsym
import ParanoidModel.Proofs.Nist2Blocks
import ParanoidModel.Props.C12More
import ParanoidModel.Proofs.FractionPre
import ParanoidModel.Proofs.HlbeComplete
import ParanoidModel.Props.C05Pre
import ParanoidModel.Props.C04Hlbe
import ParanoidModel.Proofs.Pratt
import ParanoidModel.Proofs.PrattCurves
import ParanoidModel.Proofs.NamedCurves
import ParanoidModel.Props.C11Primes
import ParanoidModel.Model.RsaAll
import ParanoidModel.Proofs.RsaAll
import ParanoidModel.Proofs.RsaAllEval
import ParanoidModel.Props.C16RsaAll
import ParanoidModel.Model.EcAll
import ParanoidModel.Proofs.EcAll
import ParanoidModel.Proofs.EcAllFast
import ParanoidModel.Props.C16EcAll
import ParanoidModel.Proofs.Proper
import ParanoidModel.Proofs.ProperAll
import ParanoidModel.Props.C01Proper
import ParanoidModel.Model.BMCpp
import ParanoidModel.Proofs.BMCpp
import ParanoidModel.Proofs.BMCppClmul
import ParanoidModel.Proofs.BMCppBounded
import ParanoidModel.Props.C14Cpp
import ParanoidModel.Proofs.EcAllPrimes
import ParanoidModel.Proofs.EcAllBound
import ParanoidModel.Proofs.EcAllEval
import ParanoidModel.Proofs.EcPrivKey
import ParanoidModel.Proofs.BsgsDiffExact
import ParanoidModel.Proofs.BsgsDiffExactCheck
import ParanoidModel.Props.C02Cert
import ParanoidModel.Props.C10Cert
import ParanoidModel.Props.C16EcAllCert
import ParanoidModel.Props.C16RsaAllNV
import ParanoidModel.Props.C17Ec
import ParanoidModel.Proofs.EcTotalJ
import ParanoidModel.Proofs.EcTotal
import ParanoidModel.Proofs.EcTotalSolver
import ParanoidModel.Proofs.EcTotalAll
import ParanoidModel.Props.C18Ec
import ParanoidModel.Proofs.EcTotalComplete
import ParanoidModel.Props.C10Any
import ParanoidModel.Proofs.C08Chain
import ParanoidModel.Proofs.C08ChainCheck
import ParanoidModel.Props.C08Chain
import ParanoidModel.Props.C08ChainEx
import ParanoidModel.Props.C19Shipped
import ParanoidModel.Model.BMWrapper
import ParanoidModel.Proofs.BMWrapper
import ParanoidModel.Props.C14Wrapper
import ParanoidModel.Model.RngTotal
import ParanoidModel.Proofs.RngTotal
import ParanoidModel.Props.C20Total
import ParanoidModel.Model.Patterns
import ParanoidModel.Proofs.PollardProduct
import ParanoidModel.Proofs.Permuted
import ParanoidModel.Props.C05Pollard
import ParanoidModel.Props.C05Permuted
import ParanoidModel.Proofs.CfLarge
import ParanoidModel.Props.C05Cf
import ParanoidModel.Model.NistFloat
import ParanoidModel.Proofs.NistErrors
import ParanoidModel.Props.C12Errors
import ParanoidModel.Proofs.FwgComplete
import ParanoidModel.Proofs.FwgCompleteLoop
import ParanoidModel.Proofs.FwgCompleteSized
import ParanoidModel.Proofs.FwgCompleteFamilies
import ParanoidModel.Props.C04Guess
import ParanoidModel.Props.C04GuessCert
import ParanoidModel.Model.NistStats
import ParanoidModel.Proofs.NistStatsBits
import ParanoidModel.Proofs.NistStatsLc
import ParanoidModel.Proofs.NistStatsNotm
import ParanoidModel.Proofs.NistStatsExt
import ParanoidModel.Props.C12Stats
import ParanoidModel.Model.LcgShipped
import ParanoidModel.Proofs.C08ChainAny
import ParanoidModel.Props.C08ChainAny
import ParanoidModel.Props.C08ChainAnyEx
import ParanoidModel.Model.PollardFloat
import ParanoidModel.Props.C05PollardExps
import ParanoidModel.Props.C05PermutedRegion
import ParanoidModel.Props.C12ErrorsPre
import ParanoidModel.Props.C12RankSum
import ParanoidModel.Props.C13Tie
import ParanoidModel.Props.C14WrapperSized
import ParanoidModel.Props.C20TotalLink
import ParanoidModel.Proofs.KeypairGen
import ParanoidModel.Props.C06Gen
import ParanoidModel.Props.C02CertEx
