/-
Props/C17.lean — "A verdict does not depend on batch neighbours, batch order or earlier calls".

Single checks: the bookkeeping layer `runCheck` treats artefacts pointwise
(`runCheckFrom_pointwise`); `single_check_alone_eq_batch` is the corollary for a verdict that is
ASSUMED to be a function of the artefact alone. That a given REAL check has this shape is proved
per check elsewhere (RSA single checks: `RsaAll.checkAllRSA_single_independent`; CheckValidECKey /
CheckWeakCurve: Props/C17Ec.lean; nonce checks: `sig_verdict_independent`) or is the content of the
correspondence (harness/corr/c17.py: each real check alone / in random batches / after unrelated
calls). It is FALSE for CheckWeakECPrivateKey (Props/C17Ec.lean).
Joint checks: permutation-equivariance and healthy-addition invariance of BatchGCD (C03) and of
the boolean verdicts of CheckECKeySmallDifference (Props/C17Ec.lean; its recorded evidence is
order-dependent); the guaranteed part of the discrete-log search survives any history (C10,
`history_monotone`).
-/
import ParanoidModel.Props.C03
import ParanoidModel.Props.C16
import ParanoidModel.Props.C10
import ParanoidModel.Props.C02S
namespace Paranoid.C17
open Paranoid

/-- position `k` of the result of a single check on a batch is `checkOne` on the `k`-th
artefact with the `k`-th verdict — nothing else of the batch enters. -/
theorem runCheckFrom_pointwise (ver : String) (c : CheckSpec) (v : Nat → Verdict) :
    ∀ (i : Nat) (arts arts' : List Artifact) (w : Bool),
      runCheckFrom ver c v i arts = .ok (arts', w) →
      ∀ (k : Nat) (a : Artifact), arts[k]? = some a →
        ∃ a' wk, checkOne ver c a (v (i + k)) = .ok (a', wk) ∧ arts'[k]? = some a'
  | _, [], _, _, _, k, a, ha => by cases ha
  | i, x :: xs, arts', w, h, k, a, ha => by
    unfold runCheckFrom at h
    split at h
    · cases h
    · rename_i a0 w0 h0
      split at h
      · cases h
      · rename_i as' w' hrest
        cases h
        cases k with
        | zero => cases ha; exact ⟨a0, w0, h0, rfl⟩
        | succ k =>
          obtain ⟨a', wk, h1, h2⟩ := runCheckFrom_pointwise ver c v (i + 1) xs as' w' hrest k a ha
          exact ⟨a', wk, Nat.add_right_comm i 1 k ▸ h1, h2⟩

/-- Bookkeeping half of "single checks judge artefacts individually".  IF the verdict handed to
`runCheck` is a function `f` of the artefact alone (this is the HYPOTHESIS of the statement, built
into the verdict argument — nothing here says that a real check has this shape), then in any batch,
at any position, the annotated artefact equals the result of `runCheck` on the singleton batch: the
`SetTestResult` / `AttachFactors` / `AttachInfo` layer does not leak between artefacts.  That the
verdict of a particular check IS a function of the artefact alone is a separate statement per check:
proved end to end for the fifteen RSA single checks under equal singleton state and equal per-key
oracle answers (`RsaAll.checkAllRSA_single_independent`), for CheckValidECKey and CheckWeakCurve
(`C17Ec.checkAllEC_individual_entries_local`), for the ECDSA nonce checks as a function of (curve,
own issuer key, guess list of the curve group) (`sig_verdict_independent`); it is FALSE for
CheckWeakECPrivateKey, whose table size depends on the number of keys of the batch
(`C17Ec.weakKey_verdict_depends_on_batch`). -/
theorem single_check_alone_eq_batch (ver : String) (c : CheckSpec) (f : Artifact → Verdict)
    (arts arts' : List Artifact) (w : Bool)
    (h : runCheck ver c (fun i => match arts[i]? with | some a => f a | none => ⟨false, none, none⟩) arts
          = .ok (arts', w))
    (k : Nat) (a : Artifact) (ha : arts[k]? = some a) :
    ∃ a' wk, runCheck ver c (fun _ => f a) [a] = .ok ([a'], wk) ∧ arts'[k]? = some a' := by
  obtain ⟨a', wk, h1, h2⟩ := runCheckFrom_pointwise ver c _ 0 arts arts' w h k a ha
  simp only [Nat.zero_add, ha] at h1
  refine ⟨a', wk || false, ?_, h2⟩
  unfold runCheck runCheckFrom
  rw [h1]
  simp [runCheckFrom]

/-- joint check (shared factors): permuting the batch permutes the gcds. -/
theorem gcd_perm (values values' : List Nat) (other : Option Nat)
    (hpos : ∀ v ∈ values, 0 < v) (hp : values.Perm values') :
    ∃ r r', batchGCD values other = .ok r ∧ batchGCD values' other = .ok r' ∧
      (values.zip r).Perm (values'.zip r') :=
  C03.perm_equivariant values values' other hpos hp

/-- joint check: adding a healthy (coprime) modulus changes nothing for the others. -/
theorem gcd_add_healthy (values : List Nat) (w : Nat) (other : Option Nat)
    (hpos : ∀ v ∈ values, 0 < v) (hw : 0 < w) (hc : ∀ v ∈ values, Nat.Coprime v w) :
    ∃ g r, batchGCD values other = .ok r ∧ batchGCD (w :: values) other = .ok (g :: r) :=
  C03.coprime_key_irrelevant values w other hpos hw hc

/-- joint check: the gcds are a function of the SET of moduli — duplicates, order and any
re-batching with the same set give the same per-modulus answer. -/
theorem gcd_set_function (values values' : List Nat) (other : Option Nat)
    (hpos : ∀ v ∈ values, 0 < v) (hset : ∀ x, x ∈ values' ↔ x ∈ values) :
    ∃ f : Nat → Nat, batchGCD values other = .ok (values.map f) ∧
      batchGCD values' other = .ok (values'.map f) :=
  C03.same_set_same_function values values' other hpos hset

/-! ### EC keys: the cached discrete-log table (state of the curve singletons) -/

section ec
open Paranoid.Ec Paranoid.Bsgs WeierstrassCurve
variable (c : Curve) [Fact (Nat.Prime c.p)]

/-- The part of "anything flagged in a fresh process is also flagged after arbitrary earlier work"
that is proved for `BatchDL` — and ONLY this: after any sequence of earlier BatchDL /
ExtendedBatchDL / BatchDLOfDifferences calls on the same curve object (none of which raised), a
`BatchDL` call on on-curve points does not raise, leaves a reachable table, and every REDUCED
point `x • G` with `0 ≤ x < n` (the range the function guarantees) gets SOME log `v` with
`v • G = P`.  NOT stated: (i) that `v = x` (`C10.batchDL_complete` gives it under a no-wrap
condition); (ii) anything about logs outside `[0, n)` that a fresh call happens to find — for an
arbitrary split value `m` such a log CAN be lost after earlier work
(`C10.history_superset_fails_for_some_split`; with the real `m = int(sqrt(ts))` no loss was
observed, search only); (iii) ExtendedBatchDL / BatchDLOfDifferences and the two checks built on
them — for those the same "guaranteed part survives any history" statements are
`C10.extended_complete` / `C10.diff_complete` (any `StateOK` state, `C10.history_stateOK`) and, at
check level, `C17Ec.weakKey_guaranteed_any_context`, `C17Ec.smallDiff_guaranteed_any_context`;
(iv) the converse: a later call can flag MORE (`C17Ec.smallDiff_verdict_depends_on_history`). -/
theorem dl_history_monotone (hv : ValidCurve c) (ops : List Bsgs.Op) (st : EcState)
    (h : Bsgs.runOps c (StateG.init listImpl) ops = .ok st) (points : List Pt)
    (hpts : ∀ P ∈ points, onCurve c P = true) (n ts m : Nat) (hts : 1 ≤ ts)
    (hm : st.tableSize < ts → 1 ≤ m) :
    ∃ res st', batchDL c st points n ts m = .ok (res, st') ∧ TableIs c st' ∧
      List.Forall₂ (fun P r => ∀ x : Nat, Reduced c P → x < n → toPoint c P = x • Gp c →
        ∃ v : Int, r = some v ∧ v • Gp c = toPoint c P) points res :=
  C10.history_monotone c hv ops st h points hpts n ts m hts hm

end ec

/-! ### ECDSA signature checks -/

section ecdsa
open Paranoid.EcdsaChecks

/-- the verdict of a signature is a function of (its curve, its own issuer key tuple, the list of
guesses of its curve group): two runs — different batches, positions, orders, check kinds, cache
contents, earlier or later in the process — agree on signatures that agree on these three. -/
theorem sig_verdict_independent
    (k k' : Kind) (O O' : Nat → GroupOracle) (factory factory' : EcdsaChecks.Factory)
    (arts arts' : List Sig) (res res' : CheckResult)
    (hF : FactoryOK factory) (hR : FactoryReduced factory) (hnd : (factory.map Prod.fst).Nodup)
    (hF' : FactoryOK factory') (hR' : FactoryReduced factory') (hnd' : (factory'.map Prod.fst).Nodup)
    (h : check k O factory arts = .ok res) (h' : check k' O' factory' arts' = .ok res')
    (bi bi' : Nat) (s s' : Sig) (hs : arts[bi]? = some s) (hs' : arts'[bi']? = some s')
    (obj obj' : CurveObj) (hobj : (s.curve, some obj) ∈ factory) (hobj' : (s'.curve, some obj') ∈ factory')
    (hcurve : obj.curve = obj'.curve) (hkey : s.key = s'.key)
    (hgl : (O s.curve).guessList = (O' s'.curve).guessList) :
    verdictOf res.writes bi = verdictOf res'.writes bi' :=
  C02S.verdict_independent k k' O O' factory factory' arts arts' res res' hF hR hnd hF' hR' hnd'
    h h' bi bi' s s' hs hs' obj obj' hobj hobj' hcurve hkey hgl

/-- grouping signatures by issuer key is a partition of the batch indices (results are written
back by index). -/
theorem issuer_groups_partition (sigs : List Sig) :
    ((mapIssuerSigIndexes sigs).map Prod.snd).flatten.Perm (List.range sigs.length) :=
  (C02S.mapIssuer_partition sigs).2.2.2.2

end ecdsa

end Paranoid.C17
