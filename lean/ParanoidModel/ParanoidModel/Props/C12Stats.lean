/-
Props/C12Stats.lean — C12 ("NIST SP 800-22 statistics and p-values are computed as specified").
Property theorems only; the definitions are in Model/NistStats.lean (no Mathlib, evaluated by the driver ops
`nist.lcstat`, `nist.notmstat`, `nist.largematrix`, `nist.scatterbits`, `nist.rotate` against the real
functions on every run), the proofs in Proofs/NistStats*.lean.

Bit order, everywhere: the string is ε₁ … εₙ = bit 0 … bit n−1 of the Python int `bits` (least significant
bit first, `C12.bitList_spec`); block i = 0, 1, … of size M holds bits i·M … i·M + M − 1 in this order
(`util.SplitSequence`: `(bits >> i·M) & (2^M − 1)`), an incomplete last block is ignored.

 1. LinearComplexity (2.10): each block value is the TRUE length of the shortest LFSR generating the block
    (C14 composed: no oracle left); the code's integer binning (`length <= median − 3` …) is NIST's binning of
    T = (−1)^M (L − μ) + 2/9 into (−∞, −2.5], (−2.5, −1.5], …, (2.5, ∞) for even M and its mirror image for
    odd M; with the shipped π tables the χ² is NIST's Σ (νᵢ − N πᵢ)² / (N πᵢ) for every M.
 2. NonOverlappingTemplateMatching (2.7): per block and template the count is the number of hits of NIST's
    scan (slide by 1 after a miss, by m after a hit), given as a recursive specification; μ, σ², χ² as exact
    rationals, σ² > 0.
 3. LargeBinaryMatrixRank / LinearComplexityScatter (extended suite): which sub-matrix / which interleaved
    sequences (index formulas), GF(2) rank = span rank of exactly that matrix, shortest-LFSR length of exactly
    those sequences, the p-value (table entry) / the arguments of BinomialCdf as exact expressions.
 4. Invariances for the INTEGER API: `bitList` of `util.ReverseBits(bits, n)` / of the rotated int is the
    reversed / rotated list, hence Frequency, Runs, Serial, ApproximateEntropy, cusum invariances of
    Props/C12.lean hold for the functions `bits ↦ …` themselves.

Still float / oracle only (NOT proved here): every tail function (igamc, erfc, scipy binom.cdf), i.e. the
value of each p-value; the float-underflow oracles of Props/C12Errors.lean; Spectral (2.6), which has no exact
model at all (the comparison |S_j|² < n·ln 20 is between an algebraic and a
transcendental number — a kernel computation can bound it but there is no exact finite criterion to state).
-/
import ParanoidModel.Props.C12More
import ParanoidModel.Props.C12Errors
import ParanoidModel.Props.C14Wrapper
import ParanoidModel.Props.C15
import ParanoidModel.Proofs.NistStatsLc
import ParanoidModel.Proofs.NistStatsNotm
import ParanoidModel.Proofs.NistStatsExt
namespace Paranoid.C12Stats
open Paranoid Paranoid.Nist Paranoid.NistStats

/-! ## 0. Blocks -/

/-- block order / bit order: the blocks every block-wise test works on are, as bit lists,
block i = [bits_{i·M}, …, bits_{i·M+M−1}], i < ⌊n/M⌋, and as integers `(bits >> i·M) mod 2^M`
(= `util.SplitSequence`, C15 `splitSequence_def`). -/
theorem blocks_spec (bits n M : Nat) :
    chunks (bitList bits n) M =
      (List.range (n / M)).map (fun i => (List.range M).map (fun j => bits.testBit (i * M + j))) ∧
    (chunks (bitList bits n) M).map natOfBits = BitDefs.splitDef bits n M ∧
    BitDefs.splitDef bits n M = (List.range (n / M)).map (blockInt bits M) :=
  ⟨chunks_bitList bits n M, chunks_bitList_int bits n M, rfl⟩

/-! ## 1. LinearComplexity (NIST 2.10) -/

/-- ★ the value recorded for block i is the length of the SHORTEST LFSR generating
bits_{i·M}, …, bits_{i·M+M−1} (in this order), for every bit string, length and block size … -/
theorem linearComplexity_block_values (bits n M : Nat) :
    blockComplexities bits n M =
      (List.range (n / M)).map (fun i =>
        Lfsr.shortestLfsr ((List.range M).map (fun j => bits.testBit (i * M + j)))) ∧
    (blockComplexities bits n M).length = n / M ∧ ∀ c ∈ blockComplexities bits n M, c ≤ M :=
  ⟨blockComplexities_eq bits n M, blockComplexities_length bits n M, blockComplexities_le bits n M⟩

/-- … and that is the value `berlekamp_massey.LinearComplexity(block_i, M)` returns END TO END (Python
wrapper, `to_bytes`, pybind11, either C++ variant: C14), within the C++ size limit M ≤ 2^30. -/
theorem linearComplexity_block_values_real_code (v : BMCpp.Variant) (bits n M i : Nat) (hM : M ≤ 2 ^ 30)
    (hi : i < n / M) :
    ∃ L : Nat, (blockComplexities bits n M)[i]? = some L ∧
      BMCpp.linearComplexityCpp v (blockInt bits M i) M = .ok (some (L : Int)) := by
  refine ⟨Lfsr.shortestLfsr ((List.range M).map (fun j => bits.testBit (i * M + j))), ?_, ?_⟩
  · rw [blockComplexities_eq, List.getElem?_map, List.getElem?_range hi]; rfl
  · exact C14Wrapper.nist_block_linear_complexity v bits i M hM

/-- ★ the integer criterion by which `LinearComplexityImpl` bins a block (`median = (M + 1) // 2`;
class 0 for `L <= median − 3`, 6 for `L >= median + 3`, else `L − median + 3`) is NIST's class of
T = (−1)^M (L − μ) + 2/9, μ = M/2 + (9 + (−1)^(M+1))/36 − (M/3 + 2/9)/2^M (exact rationals;
ν₀: T ≤ −2.5, ν₁: −2.5 < T ≤ −1.5, …, ν₆: T > 2.5) when M is even, and the mirrored class 6 − class(T) when
M is odd — for EVERY M and L (no size hypothesis). -/
theorem linearComplexity_class_criterion (M L : Nat) :
    lcClass ((M + 1) / 2) L = if M % 2 = 0 then nistLcClass (lcT M L) else 6 - nistLcClass (lcT M L) :=
  lcClass_eq_nist M L

/-- T is never exactly on a class boundary −2.5, −1.5, …, 2.5 (T = integer ± ε with 0 < ε < ½), so the result
does not depend on which end of NIST's intervals is closed. -/
theorem linearComplexity_T_off_boundary (M L : Nat) (j : ℤ) : lcT M L ≠ (j : ℚ) + 1 / 2 := by
  obtain ⟨δ, h1, h2, hT⟩ := lcT_near M L
  generalize (if M % 2 = 0 then (L : ℤ) - ((M + 1) / 2 : ℕ) else ((M + 1) / 2 : ℕ) - (L : ℤ)) = z at hT
  intro he
  have h3 : (0 : ℚ) < ((j - z : ℤ) : ℚ) + 1 ∧ ((j - z : ℤ) : ℚ) < 0 := by
    push_cast; constructor <;> linarith
  have h4 : 0 < j - z + 1 ∧ j - z < 0 := by exact_mod_cast h3
  omega

/-- the π table: the literals in the source are NIST's π₀ … π₆ = 1/96, 1/32, 1/8, 1/2, 1/4, 1/16, 1/48 for
even M and the same list mirrored for odd M; NIST's printed decimals are these rounded to 6 digits. -/
theorem linearComplexity_pi_table :
    Paranoid.Consts.Nist.linCompPiEven.map qOf = nistLcPi ∧
    Paranoid.Consts.Nist.linCompPiOdd.map qOf = nistLcPi.reverse ∧
    (∀ M, codeLcPi M = if M % 2 = 0 then Paranoid.Consts.Nist.linCompPiEven.map qOf
      else Paranoid.Consts.Nist.linCompPiOdd.map qOf) ∧
    nistLcPi.map (fun p => (p * 10 ^ 6 + 1 / 2).floor) = [10417, 31250, 125000, 500000, 250000, 62500, 20833] ∧
    nistLcPi.sum = 1 := by
  have h1 : Paranoid.Consts.Nist.linCompPiEven.map qOf = nistLcPi := by
    rw [lincomp_pi_consts.1]; simp [qOf, nistLcPi]
  have h2 : Paranoid.Consts.Nist.linCompPiOdd.map qOf = nistLcPi.reverse := by
    rw [lincomp_pi_consts.2]; simp [qOf, nistLcPi]
  refine ⟨h1, h2, ?_, by decide +kernel, by decide +kernel⟩
  intro M
  rw [h1, h2]; rfl

/-- ★ NIST 2.10.4 for the whole test, as a function of the bit string: when `LinearComplexity(bits, n, M)`
returns, M ≥ 10 and there are N = ⌊n/M⌋ ≥ 200 blocks; with Lᵢ the shortest-LFSR length of block i
(`linearComplexity_block_values`) and ν = NIST's histogram of the classes of Tᵢ,
 * the histogram `v` handed to `ChiSquare` is ν for even M and ν reversed for odd M,
 * the statistic `ChiSquare` computes from `v` and the shipped `pi` is NIST's χ² = Σᵢ (νᵢ − N πᵢ)² / (N πᵢ)
   (p₁ = igamc(3, χ²/2): float tail),
 * Σ νᵢ = N, and
 * q = Σᵢ xᵢ where 2^(−xᵢ) = `LfsrCount(M, Lᵢ)/2^M` is the probability that a random M-bit block has linear
   complexity Lᵢ (`C12.linearComplexity_count`), N ≤ q (so `BinomialCdf(N − 1, q − 1)`, the second p-value
   P[Bin(q − 1, ½) ≤ N − 1], has natural arguments; its value is float tail). -/
theorem linearComplexity_statistic (bits n M : Nat) (o : LinCompOut)
    (h : linearComplexityBits bits n M = .ok o) :
    10 ≤ M ∧ M * 200 ≤ n ∧ o.blockSize = M ∧ o.nblocks = n / M ∧ 200 ≤ o.nblocks ∧
    o.hist = (if M % 2 = 0 then nistLcHist M (blockComplexities bits n M)
      else (nistLcHist M (blockComplexities bits n M)).reverse) ∧
    lcChi o = chiSquare (nistLcHist M (blockComplexities bits n M)) nistLcPi ∧
    (nistLcHist M (blockComplexities bits n M)).sum = n / M ∧
    (∃ xs : List Nat, List.Forall₂ (fun c x => lfsrNegLogProb M c = .ok x) (blockComplexities bits n M) xs ∧
      o.q = xs.sum) ∧
    o.nblocks ≤ o.q := by
  obtain ⟨h10, h200, himpl⟩ := linearComplexity_ok n M _ o h
  obtain ⟨_, q, hq, rfl⟩ := linearComplexityImpl_ok M _ o himpl
  obtain ⟨xs, hx, rfl⟩ := (sumNegLogProb_ok_iff M _ _).mp hq
  have hlen := blockComplexities_length bits n M
  have hN : 200 ≤ n / M := (Nat.le_div_iff_mul_le (by omega)).mpr (by rw [Nat.mul_comm]; exact h200)
  exact ⟨h10, h200, rfl, hlen, hlen ▸ hN, lcHist_eq_nist M _, lcChi_eq_nist M _,
    by rw [nistLcHist_sum, hlen], ⟨xs, hx, rfl⟩, forall₂_sum_ge (fun c x => lfsrNegLogProb_pos M c x) hx⟩

/-- χ² ≥ 0: the second argument of igamc is in its domain. -/
theorem linearComplexity_chi_nonneg (o : LinCompOut) : 0 ≤ lcChi o := by
  have h0 : ∀ p ∈ nistLcPi, (0 : ℚ) < p := by decide +kernel
  unfold lcChi
  rw [chiSquare_eq_chiSq]
  apply C12.chiSquare_nonneg
  intro p hp
  unfold codeLcPi at hp
  split at hp
  · exact h0 p hp
  · exact h0 p (List.mem_reverse.mp hp)

/-- as a function of the bit string the test raises InsufficientDataError exactly below the documented minimum
(block size < 10 or fewer than 200 blocks) and nothing else: Berlekamp–Massey always answers with a value
≤ M, once per block. -/
theorem linearComplexity_raises (bits n M : Nat) (e : PyErr) :
    linearComplexityBits bits n M = .error e ↔ (M < 10 ∨ n < M * 200) ∧ e = .insufficientData :=
  C12Errors.linearComplexity_raises_of_oracle_ok n M _ e (blockComplexities_length bits n M)
    (blockComplexities_le bits n M)

/-! ## 2. NonOverlappingTemplateMatching (NIST 2.7) -/

/-- ★ NIST's scan (2.7.4 (2): compare the window with the template; on a hit count and move the window by m,
otherwise by 1) — `notmW`, a recursive specification independent of the implementation — returns, for every
template that cannot overlap itself (`IsNonOverlappingTemplate`), the number of ALL positions p ≤ |block| − m
at which the template occurs, which is what the implementation reads off `FrequencyCount(block, n, m, False)`.
Template bit j (value `t`, bit j = `(t >> j) & 1`) is compared with block bit p + j; the label
`format(t, "0mb")` in the result prints these bits in REVERSE sequence order. -/
theorem nonOverlapping_scan_spec (l : List Bool) (m t : Nat) (hm : 1 ≤ m)
    (hno : isNonOverlapping t m = true) :
    notmW l m t = (if l.length < m then 0 else
      ((List.range (l.length - m + 1)).map (fun p => natOfBits ((l.drop p).take m))).count t) :=
  notmW_eq_occCount l m t hm hno

/-- two occurrences of a non-overlapping template are at least m positions apart. -/
theorem nonOverlapping_occurrences_disjoint (l : List Bool) (m t d : Nat)
    (hno : isNonOverlapping t m = true) (hd1 : 1 ≤ d) (hdm : d < m)
    (h0 : natOfBits (l.take m) = t) : natOfBits ((l.drop d).take m) ≠ t :=
  fun hd => no_overlap l m t d hno hd1 hdm h0 hd

/-- ★ the whole test: when `NonOverlappingTemplateMatching(bits, n, blocks, m, templates)` returns (template
length m ≥ 1 when given explicitly), the block size is ⌊n/blocks⌋, the blocks are the consecutive pieces
(`blocks_spec`), every template is non-overlapping and fits a block, and `counts[j][i]` = W of NIST's scan of
block j for template i.  From these, per template i: μ = (M − m + 1)/2^m, σ² = M(1/2^m − (2m − 1)/2^(2m)),
χ²ᵢ = Σⱼ (Wⱼᵢ − μ)²/σ² (`notmChis`), p = igamc(N/2, χ²/2) (float tail). -/
theorem nonOverlapping_statistic (bits n nblocks : Nat) (m : Option Nat) (ts : Option (List Nat))
    (o : NotmOut) (hm : ∀ m', m = some m' → 1 ≤ m')
    (h : nonOverlapping bits n nblocks m ts = .ok o) :
    o.blockSize = n / nblocks ∧ 1 ≤ o.m ∧
    (∀ t ∈ o.templates, isNonOverlapping t o.m = true) ∧
    (o.counts ≠ [] → o.m ≤ o.blockSize) ∧
    o.counts = (chunks (bitList bits n) o.blockSize).map (fun b => o.templates.map (fun t => notmW b o.m t)) ∧
    notmChis o = (List.range o.templates.length).map (fun i =>
      notmChi o.blockSize o.m (o.counts.filterMap (·[i]?))) := by
  obtain ⟨m', T, hm', hh⟩ := nonOverlapping_ok bits n nblocks m ts o hm h
  obtain ⟨hall, hfit, rfl⟩ := notmImpl_ok _ _ m' T o hm' (fun b hb => chunk_length _ _ b hb) hh
  exact ⟨rfl, hm', hall, fun hne => hfit fun hc => hne (List.map_eq_nil_iff.mpr hc), rfl, rfl⟩

/-- σ² > 0 for every template length and every non-empty block (2^m > 2m − 1), χ² ≥ 0: the division is
defined and igamc's argument is in its domain. -/
theorem nonOverlapping_variance_pos (M m : Nat) (hM : 1 ≤ M) (ws : List Nat) :
    0 < notmVar M m ∧ 0 ≤ notmChi M m ws :=
  ⟨notmVar_pos M m hM, notmChi_nonneg M m hM ws⟩

/-! ## 3. extended_nist_suite -/

/-- ★ `LargeBinaryMatrixRank`: result entry j exists iff (64·2^j)² ≤ n and is (size, rank), size = 64·2^j, where
rank is the GF(2) rank (2^rank = number of distinct linear combinations of the rows, C15) of the size × size
matrix whose entry (i, c) is bit i·size + c of the string — the FIRST size² bits, row-major, least significant
bit = column 0.  The p-value is the table entry `ASYMPTOTIC_RANK_SF[size − rank]` (0 beyond the table): a
decimal literal, no float computation (`largeRankP`). -/
theorem largeRank_statistic (bits n : Nat) (res : List (Nat × Nat))
    (h : largeBinaryMatrixRank bits n = .ok res) (j : Nat) :
    4096 ≤ n ∧
    res[j]? = (if 64 * 2 ^ j * (64 * 2 ^ j) ≤ n
      then some (64 * 2 ^ j, binaryRank (largeRankMatrix bits (64 * 2 ^ j))) else none) ∧
    2 ^ binaryRank (largeRankMatrix bits (64 * 2 ^ j)) = BitDefs.spanSize (largeRankMatrix bits (64 * 2 ^ j)) ∧
    (largeRankMatrix bits (64 * 2 ^ j)).length = 64 * 2 ^ j ∧
    ∀ i c, i < 64 * 2 ^ j →
      (largeRankMatrix bits (64 * 2 ^ j))[i]?.map (fun row => row.testBit c) =
        some (decide (c < 64 * 2 ^ j) && bits.testBit (i * (64 * 2 ^ j) + c)) := by
  refine ⟨?_, largeRank_get bits n res h j, (C12More.binaryRank_is_span_rank _).2,
    largeRankMatrix_length _ _, fun i c hi => largeRankMatrix_entry bits _ i c hi⟩
  by_contra hc
  have := (C12.largeRank_insufficient_iff bits n).mpr (by omega)
  obtain ⟨e, he⟩ := this
  rw [h] at he; cases he

/-- the same matrix and the same rank through the real primitives as modelled for C15:
`util.SplitSequence(bits & (2^(s²) − 1), s², s)` is `largeRankMatrix bits s` and `util.BinaryMatrixRank` of it
(table-driven path for s ≥ 50) is the rank of the model. -/
theorem largeRank_real_code (bits s : Nat) (hs : 0 < s) :
    BitSeq.splitSequence (bits % 2 ^ (s * s)) (s * s) s = .ok (largeRankMatrix bits s) ∧
    BitSeq.binaryMatrixRank ((largeRankMatrix bits s).map Int.ofNat) = .ok (binaryRank (largeRankMatrix bits s)) := by
  constructor
  · -- both are the blocks of the low `s²` bits (`largeRank_matrix`, `chunks_bitList_int`)
    rw [C15.splitSequence_def, if_neg (by omega), ← largeRank_matrix bits (s * s) s le_rfl,
      List.take_of_length_le (by rw [bitList_length]), ← bitList_mod_two_pow, chunks_bitList_int]
    rfl
  · obtain ⟨r, hr, hspan⟩ := C15.binaryMatrixRank_def (largeRankMatrix bits s)
    rw [hr]
    congr 1
    have h2 := (C12More.binaryRank_is_span_rank (largeRankMatrix bits s)).2
    exact Nat.pow_right_injective (Nat.le_refl 2) (by show 2 ^ r = 2 ^ _; rw [hspan, h2])

/-- ★ `LinearComplexityScatter`: with n' = min(n, step·max_block_size) the effective length, the test forms the
`step` interleaved sequences i = 0 … step − 1 consisting of bits i, i + step, i + 2·step, … below n'
(⌈(n' − i)/step⌉ of them, in this order), takes the TRUE shortest-LFSR length Lᵢ of each, and
q = Σᵢ xᵢ with 2^(−xᵢ) = P(linear complexity of a random sequence of that length = Lᵢ); step ≤ q, and
p = `BinomialCdf(step − 1, q − 1)` = P[Bin(q − 1, ½) ≤ step − 1] (float tail). -/
theorem scatter_statistic (bits n step : Nat) (mb : Option Nat) (o : ScatterOut)
    (h : linearComplexityScatterBits bits n step mb = .ok o) :
    o.n = scatterN n step mb ∧
    o.sizes = (List.range step).map (fun i => (o.n + step - 1 - i) / step) ∧
    (∀ i t, 0 < step → (t < (o.n + step - 1 - i) / step ↔ i + step * t < o.n)) ∧
    scatterComplexities bits o.n step = (List.range step).map (fun i =>
      Lfsr.shortestLfsr ((List.range ((o.n + step - 1 - i) / step)).map (fun t => bits.testBit (i + step * t)))) ∧
    (∃ xs : List Nat,
      List.Forall₂ (fun (sc : Nat × Nat) x => lfsrNegLogProb sc.1 sc.2 = .ok x)
        (o.sizes.zip (scatterComplexities bits o.n step)) xs ∧ o.q = xs.sum) ∧
    step ≤ o.q := by
  unfold linearComplexityScatterBits linearComplexityScatter at h
  cases hq : scatterSum (scatterSizes (scatterN n step mb) step)
      (scatterComplexities bits (scatterN n step mb) step) with
  | error e => rw [hq] at h; cases h
  | ok q =>
    rw [hq] at h
    cases h
    obtain ⟨xs, hx, rfl⟩ := (scatterSum_ok_iff _ _ _).mp hq
    refine ⟨rfl, rfl, fun i t hs => scatter_index _ step i t hs, scatterComplexities_eq _ _ _, ⟨xs, hx, rfl⟩, ?_⟩
    have := forall₂_sum_ge (fun (sc : Nat × Nat) x => lfsrNegLogProb_pos sc.1 sc.2 x) hx
    rwa [List.length_zip, scatterSizes_length, scatterComplexities_length, Nat.min_self] at this

/-- the same sequences and values through the real primitives (C15 `Scatter`, C14 `LinearComplexity`): for the
string `b` the code passes to `util.Scatter` (the n'-bit truncation of `bits`: `b < 2^n'`, same bits below n'),
ANY result with the specification C15 proves for `Scatter` (`IsScatter`) is, stream by stream, the integer the
model uses, and the wrapped C++ Berlekamp–Massey returns the model's Lᵢ on it (size limit 2^30). -/
theorem scatter_real_code (v : BMCpp.Variant) (bits b n' step : Nat) (res : List Nat) (hs : 0 < step)
    (hb : b < 2 ^ n') (hbits : ∀ j < n', b.testBit j = bits.testBit j)
    (hres : BitDefs.IsScatter b step res) (i : Nat) (hi : i < res.length)
    (hsize : (n' + step - 1 - i) / step ≤ 2 ^ 30) :
    res[i] = scatterSeqInt bits step i ((n' + step - 1 - i) / step) ∧
    ∃ L : Nat, (scatterComplexities bits n' step)[i]? = some L ∧
      BMCpp.linearComplexityCpp v res[i] (((n' + step - 1 - i) / step : Nat) : Int) = .ok (some (L : Int)) := by
  have e1 : res[i] = scatterSeqInt bits step i ((n' + step - 1 - i) / step) := by
    rw [isScatter_stream b n' step res hb hs hres i hi, scatterSeqInt_congr b bits n' step i hs hbits]
  refine ⟨e1, ?_⟩
  obtain ⟨L, h1, _, h3, _⟩ := C14Wrapper.linearComplexity_is_shortest_lfsr_bits v
    (scatterSeqInt bits step i ((n' + step - 1 - i) / step)) ((n' + step - 1 - i) / step) hsize
    (scatterSeqInt_lt _ _ _ _)
  refine ⟨L, ?_, by rw [e1]; exact h1⟩
  have hi' : i < step := by rw [hres.1] at hi; exact hi
  rw [scatterComplexities_eq, List.getElem?_map, List.getElem?_range hi', h3, bitsOf_scatterSeqInt]
  rfl

/-! ## 4. Invariances for the integer API -/

/-- ★ `util.ReverseBits(bits, n)`, whenever it returns, returns an int whose bit list is the reversed list … -/
theorem reverseBits_bitList (bits n r : Nat) (h : BitSeq.reverseBits bits n = .ok r) :
    bitList r n = (bitList bits n).reverse := by
  rcases C15.reverseBits_def bits n with ⟨_, h2⟩ | ⟨_, h2⟩
  · rw [h2] at h; cases h
  · rw [h2] at h
    simp only [Except.ok.injEq] at h
    rw [← h, bitList_reverseDef]

/-- … it does return for every well-formed string … -/
theorem reverseBits_ok (bits n : Nat) (h : bits < 2 ^ n) :
    ∃ r, BitSeq.reverseBits bits n = .ok r ∧ bitList r n = (bitList bits n).reverse :=
  ⟨_, C15.reverseBits_wf bits n h, bitList_reverseDef bits n⟩

/-- ★ … and the cyclic rotation of the int, `(bits >> j) | ((bits & (2^j − 1)) << (n − j))`, j = k mod n, has the
rotated bit list, for every well-formed string. -/
theorem rotateInt_bitList (bits n k : Nat) (h : bits < 2 ^ n) :
    bitList (rotateInt bits n k) n = (bitList bits n).rotate k := bitList_rotateInt bits n k h

/-- Frequency is invariant under reversal and rotation of the int (and complement: `C12.frequency_complement`). -/
theorem frequency_invariant (bits n k r : Nat) (h : bits < 2 ^ n) (hr : BitSeq.reverseBits bits n = .ok r) :
    frequency r n = frequency bits n ∧ frequency (rotateInt bits n k) n = frequency bits n := by
  unfold frequency
  rw [reverseBits_bitList bits n r hr, bitList_rotateInt bits n k h, ones_reverse]
  refine ⟨rfl, ?_⟩
  have : ones ((bitList bits n).rotate k) = ones (bitList bits n) := by
    unfold ones; exact (List.rotate_perm _ k).count_eq true
  rw [this]

/-- Runs is invariant under reversal of the int (and complement: `C12.runs_complement`). -/
theorem runs_invariant (bits n r : Nat) (hr : BitSeq.reverseBits bits n = .ok r) :
    runs r n = runs bits n := by
  unfold runs
  rw [reverseBits_bitList bits n r hr, ones_reverse, runsCount_reverse]

/-- ★ Serial and ApproximateEntropy — the complete results: every Σν², every count multiset, hence every ψ²,
∇ψ², ∇²ψ², ApEn and p-value — are invariant under every cyclic rotation of the int, for every m_max. -/
theorem serial_apen_invariant (bits n k : Nat) (mm : Option Nat) (h : bits < 2 ^ n) :
    serial (rotateInt bits n k) n mm = serial bits n mm ∧
    approximateEntropy (rotateInt bits n k) n mm = approximateEntropy bits n mm := by
  have hc : ∀ m, 1 ≤ m → m ≤ n →
      (countsWrap (bitList (rotateInt bits n k) n) m).toList = (countsWrap (bitList bits n) m).toList := by
    intro m h1 h2
    rw [bitList_rotateInt bits n k h]
    exact C12.serial_apen_rotation_invariant _ m k h1 (by rw [bitList_length]; exact h2)
  have hs : ∀ m, serialWith (rotateInt bits n k) n m = serialWith bits n m := by
    intro m
    unfold serialWith
    by_cases hm : m > n
    · rw [if_pos hm, if_pos hm]
    · rw [if_neg hm, if_neg hm]
      cases m with
      | zero => simp only [sumSqChain]
      | succ m' => rw [hc (m' + 1) (by omega) (by omega)]
  have ha : ∀ m, apenWith (rotateInt bits n k) n m = apenWith bits n m := by
    intro m
    unfold apenWith
    by_cases hm : m + 1 > n
    · rw [if_pos hm, if_pos hm]
    · rw [if_neg hm, if_neg hm, hc (m + 1) (by omega) (by omega)]
  exact ⟨hs _, ha _⟩

/-- cusum: the forward statistic of the reversed int is the backward statistic of the int, and vice versa
(repaired code, D4). -/
theorem cusum_invariant (bits n r ms mc msv : Nat) (o o' : RandomWalkOut)
    (hr : BitSeq.reverseBits bits n = .ok r)
    (ho : randomWalk .repaired bits n ms mc msv = .ok o)
    (ho' : randomWalk .repaired r n ms mc msv = .ok o') :
    o'.zFwd = o.zBwd ∧ o'.zBwd = o.zFwd := by
  obtain ⟨_, hf, hb, _⟩ := C12.randomWalk_statistics bits n ms mc msv o ho
  obtain ⟨_, hf', hb', _⟩ := C12.randomWalk_statistics r n ms mc msv o' ho'
  rw [reverseBits_bitList bits n r hr] at hf' hb'
  constructor
  · exact C12.cusum_reversal (bitList bits n) o'.zFwd o.zBwd hb hf'
  · refine (C12.cusum_reversal (bitList bits n).reverse o.zFwd o'.zBwd hb' ?_).symm
    rw [List.reverse_reverse]; exact hf

/-! ## Non-vacuity: concrete, non-trivial inputs (kernel evaluation) -/

/- M even / odd, T on both sides of every class boundary; integer criterion = rational definition -/
example : lcMu 10 = 167 / 32 ∧ lcT 10 5 = 1 / 288 ∧ lcT 10 2 = -863 / 288 ∧ lcT 10 8 = 865 / 288 ∧
    lcT 11 6 = -35 / 18432 ∧ lcT 11 3 = 55261 / 18432 := by decide +kernel
example : (List.range 12).map (fun L => nistLcClass (lcT 10 L)) = [0, 0, 0, 1, 2, 3, 4, 5, 6, 6, 6, 6] ∧
    (List.range 12).map (lcClass ((10 + 1) / 2)) = [0, 0, 0, 1, 2, 3, 4, 5, 6, 6, 6, 6] := by decide +kernel
example : (List.range 13).map (fun L => nistLcClass (lcT 11 L)) = [6, 6, 6, 6, 5, 4, 3, 2, 1, 0, 0, 0, 0] ∧
    (List.range 13).map (lcClass ((11 + 1) / 2)) = [0, 0, 0, 0, 1, 2, 3, 4, 5, 6, 6, 6, 6] := by decide +kernel
/- 200 blocks of 10 bits (M even: v = ν) and of 11 bits (M odd: v = ν reversed); all seven classes occur -/
example : (linearComplexityBits (0x2b7e151628aed2a6abf7158809cf4f3c ^ 17 % 2 ^ 2000) 2000 10).map
      (fun o => (o.hist, o.q, o.nblocks, lcChi o)) = .ok ([4, 7, 33, 99, 44, 10, 3], 424, 200, 597 / 100) ∧
    nistLcHist 10 (blockComplexities (0x2b7e151628aed2a6abf7158809cf4f3c ^ 17 % 2 ^ 2000) 2000 10) =
      [4, 7, 33, 99, 44, 10, 3] := by decide +kernel
example : (linearComplexityBits (0x2b7e151628aed2a6abf7158809cf4f3c ^ 19 % 2 ^ 2200) 2200 11).map
      (fun o => (o.hist, o.q)) = .ok ([6, 15, 48, 112, 12, 7, 0], 392) ∧
    nistLcHist 11 (blockComplexities (0x2b7e151628aed2a6abf7158809cf4f3c ^ 19 % 2 ^ 2200) 2200 11) =
      [0, 7, 12, 112, 48, 15, 6] := by decide +kernel
example : blockComplexities 0b1011001110001111 16 8 = [4, 5] ∧
    Lfsr.shortestLfsr ((List.range 8).map (fun j => (0b1011001110001111 : Nat).testBit (1 * 8 + j))) = 5 := by
  decide +kernel
example : linearComplexityBits 5 1999 10 = .error .insufficientData ∧
    linearComplexityBits 5 2000 9 = .error .insufficientData := by decide +kernel
/- template with value 0b100 (sequence order 0,0,1): scan of 0010010001 finds 3 occurrences -/
example : isNonOverlapping 0b100 3 = true ∧ isNonOverlapping 0b101 3 = false ∧
    notmW (bitList 0b1000100100 10) 3 0b100 = 3 ∧
    (countsNoWrap (bitList 0b1000100100 10) 3).toList = [1, 2, 2, 0, 3, 0, 0, 0] := by decide +kernel
/- for a template that overlaps itself the scan and the occurrence count differ: the hypothesis is needed -/
example : notmW (bitList 0b11111 5) 2 0b11 = 2 ∧ (countsNoWrap (bitList 0b11111 5) 2).toList = [0, 0, 0, 4] := by
  decide +kernel
example : (nonOverlapping 0x13a5_96c7_1e0f 48 2 (some 3) (some [1, 4])).map
      (fun o => (o.blockSize, o.counts, notmChis o)) = .ok (24, [[3, 3], [4, 3]], [13 / 9, 1 / 9]) ∧
    notmMean 24 3 = 11 / 4 ∧ notmVar 24 3 = 9 / 8 := by decide +kernel
example : (nonOverlapping 0xf3a1_16c7_1e0f 48 2 none none).map (fun o => (o.m, o.templates, o.counts, notmChis o)) =
    .ok (2, [1, 2], [[3, 3], [5, 6]], [65 / 12, 61 / 12]) := by decide +kernel
example : largeRankMatrix 0b110_011_101 3 = [0b101, 0b011, 0b110] ∧ binaryRank (largeRankMatrix 0b110_011_101 3) = 2 := by
  decide +kernel
example : largeRankP Paranoid.Consts.Nist.asymptoticRankSf 64 63 = 711212 / 1000000 ∧
    largeRankP Paranoid.Consts.Nist.asymptoticRankSf 64 20 = 0 := by decide +kernel
example : (linearComplexityScatterBits 0xd3a5_96c7_1e0f_55aa 64 3 (some 10)).map (fun o => (o.n, o.sizes, o.q)) =
    .ok (30, [10, 10, 10], 12) ∧ scatterSeqInt 0xd3a5_96c7_1e0f_55aa 3 1 10 = 877 ∧
    scatterComplexities 0xd3a5_96c7_1e0f_55aa 30 3 = [4, 2, 6] := by decide +kernel
example : BitSeq.reverseBits 0b0011011101 10 = .ok 0b1011101100 ∧ rotateInt 0b0011011101 10 3 = 0b1010011011 ∧
    bitList (rotateInt 0b0011011101 10 3) 10 = (bitList 0b0011011101 10).rotate 3 := by decide +kernel
example : serial (rotateInt 0b0011011101 10 7) 10 (some 3) = serial 0b0011011101 10 (some 3) ∧
    (serial 0b0011011101 10 (some 3)).map (fun o => o.sq) = .ok [52, 28, 16] := by decide +kernel

end Paranoid.C12Stats
