/-
Props/C06.lean — "Checks with a closed-form criterion flag exactly the artifacts that meet it"
(RSA half: CheckSizes, CheckExponents, CheckROCA, CheckROCAVariant, CheckOpensslDenylist,
CheckKeypairDenylist; EC half at the end of the file: CheckValidECKey / CheckWeakCurve, over
Model/Ec.lean `isValidPublicKey` and the check-level models of Model/Bsgs.lean).

Property theorems only; helper lemmas live in Proofs/ClosedForm.lean.  The ROCA prime tuples
and F4 come from Generated/Consts.lean, regenerated from /repo on every run, so the
`decide +kernel` facts below are re-checked against the current source.

Every `iff` is universally quantified over the modulus / exponent (no size bound) and, where
an oracle is involved, over EVERY oracle answer (SHA-1 digest, generator output) and every
supplied deny list / table.
-/
import ParanoidModel.Proofs.ClosedForm
import ParanoidModel.Proofs.BsgsChecks
namespace Paranoid.C06
open Paranoid Paranoid.Consts

/-! ### CheckSizes -/

/-- ★ `sizes_iff`. The size check flags exactly the moduli of bit length `< 2048`, i.e.
exactly `n < 2^2047` — NOT `n < 2^2048`: `2^2047` itself is a 2048-bit number and is not
flagged. Holds for every byte encoding of `n` (leading zeros do not change `bytes2int`). -/
theorem sizes_iff (nBytes : List Nat) :
    checkSizes nBytes = true ↔ bytes2int nBytes < 2 ^ 2047 :=
  sizesWeak_iff _

/-- "shorter than 2048 bits" in the words of the property. -/
theorem sizes_iff_bitLength (n : Nat) : sizesWeak n = true ↔ bitLength n < 2048 := by
  simp [sizesWeak]

theorem sizes_leading_zeros (k : Nat) (nBytes : List Nat) :
    checkSizes (List.replicate k 0 ++ nBytes) = checkSizes nBytes := by
  simp [checkSizes, bytes2int_zeros_append]

/-! ### CheckExponents -/

/-- ★ `exponent_iff`. Flagged exactly when the exponent is not 65537 … -/
theorem exponent_iff (eBytes : List Nat) :
    checkExponents eBytes = true ↔ bytes2int eBytes ≠ 65537 :=
  exponentWeak_iff _

/-- … and, over byte strings: NOT flagged exactly for `01 00 01` preceded by any number of
zero bytes. -/
theorem exponent_iff_bytes (eBytes : List Nat) (hb : ∀ x ∈ eBytes, x < 256) :
    checkExponents eBytes = false ↔ eBytes.dropWhile (· = 0) = [1, 0, 1] := by
  rw [← Bool.not_eq_true, exponent_iff, not_not, bytes2int_eq_iff eBytes hb]
  have : int2bytes 65537 = [1, 0, 1] := by decide +kernel
  rw [this]

/-! ### CheckROCA -/

/-- `_HasDiscreteLog(value, base, n)` for any `n ≠ 0`: tests exactly the exponents
`0 … n-2` (`range(1, n)` has `n-1` elements). -/
theorem hasDlog_range (value base n : Nat) (hn : n ≠ 0) :
    ∃ r, hasDiscreteLog value base n = .ok r ∧
      (r = true ↔ ∃ j, j < n - 1 ∧ base ^ j % n = value) :=
  hasDiscreteLog_eq value base n hn

/-- ★ `hasDlog_iff`. For a prime `p` not dividing the base the loop bound loses nothing
(the order of the base divides `p-1`): `True` iff `value` is a power of the base modulo `p`. -/
theorem hasDlog_iff (value base p : Nat) (hp : p.Prime) (hb : ¬ p ∣ base) :
    ∃ r, hasDiscreteLog value base p = .ok r ∧ (r = true ↔ ∃ k, base ^ k % p = value) :=
  hasDiscreteLog_prime value base p hp hb

/-- the regenerated `ROCAKeyDetector.PRIMES` are primes not dividing `F4`; the regenerated
`ROCAKeyVariantDetector.PRIMES` are primes (kernel-evaluated trial division). -/
theorem roca_tuples_good :
    (∀ p ∈ rocaPrimes, p.Prime ∧ ¬ p ∣ rocaF4) ∧ (∀ p ∈ rocaVariantPrimes, p.Prime) :=
  ⟨rocaPrimes_good, rocaVariantPrimes_prime⟩

/-- the tuples in the current source are the ones the property names: `F4 = 65537`,
"its 39 small primes" = all primes from 3 to the largest entry (39 of them, i.e. the 39
smallest odd primes), "48 of its primes" = all primes from 5 to the largest entry (48). -/
theorem roca_tuples_spec :
    rocaF4 = 65537 ∧
    rocaPrimes = primesBetween 3 (rocaPrimes.foldl max 0) ∧ rocaPrimes.length = 39 ∧
    rocaVariantPrimes = primesBetween 5 (rocaVariantPrimes.foldl max 0) ∧
    rocaVariantPrimes.length = 48 :=
  roca_tuples_eq

/-- ★ `roca_iff` (general tuple): never raises, and flags exactly the moduli whose residue
modulo every prime of the tuple is a power of the base. The initial
`modulus % product_of_primes` is harmless because each prime divides the product. -/
theorem roca_iff_general (ps : List Nat) (f4 n : Nat) (hg : ∀ p ∈ ps, p.Prime ∧ ¬ p ∣ f4) :
    ∃ r, rocaIsWeak ps f4 n = .ok r ∧ (r = true ↔ ∀ p ∈ ps, ∃ k, f4 ^ k % p = n % p) :=
  rocaIsWeak_iff ps f4 n hg

/-- ★ `roca_iff` on the constants of the current source: `CheckROCA` flags `n` iff for each
of its primes `p`, `n mod p` is a power of `F4` modulo `p`. -/
theorem roca_iff (n : Nat) :
    ∃ r, rocaIsWeak rocaPrimes rocaF4 n = .ok r ∧
      (r = true ↔ ∀ p ∈ rocaPrimes, ∃ k, rocaF4 ^ k % p = n % p) :=
  rocaIsWeak_iff _ _ n rocaPrimes_good

/-! ### CheckROCAVariant -/

/-- the table `_QuadraticResidues(p)[n % p]` is the quadratic-residue predicate (0 counts as
a residue), for every `p ≠ 0` — primality is not needed. -/
theorem qrTable_iff (p n : Nat) (hp : p ≠ 0) :
    ∃ b, qrLookup p n = .ok b ∧ (b = true ↔ ∃ y, y * y % p = n % p) :=
  qrLookup_iff p n hp

/-- ★ `rocaVariant_iff`: flagged iff `n` is a square modulo each of the variant's primes and
is NOT flagged by the ROCA detector. -/
theorem rocaVariant_iff (n : Nat) :
    ∃ r, rocaVariantIsWeak rocaVariantPrimes rocaPrimes rocaF4 n = .ok r ∧
      (r = true ↔ (∀ p ∈ rocaVariantPrimes, ∃ y, y * y % p = n % p) ∧
        ¬ ∀ p ∈ rocaPrimes, ∃ k, rocaF4 ^ k % p = n % p) :=
  rocaVariantIsWeak_iff _ _ _ n (fun p hp => (rocaVariantPrimes_prime p hp).ne_zero) rocaPrimes_good

/-- … in terms of the ROCA check's own verdict. -/
theorem rocaVariant_excludes_roca (n : Nat)
    (h : rocaIsWeak rocaPrimes rocaF4 n = .ok true) :
    rocaVariantIsWeak rocaVariantPrimes rocaPrimes rocaF4 n = .ok false := by
  obtain ⟨r, hr, hri⟩ := rocaVariant_iff n
  obtain ⟨w, hw, hwi⟩ := roca_iff n
  rw [hw] at h
  cases h
  cases r with
  | false => exact hr
  | true => exact absurd (hwi.1 rfl) (hri.1 rfl).2

/-! ### CheckOpensslDenylist -/

/-- ★ `openssl_iff`. For EVERY digest the hash oracle returns and EVERY supplied deny list:
flagged iff `"RSA-<bits>:" ++ digest[20:]` is an element of the list. -/
theorem openssl_iff (n : Nat) (sha1hex : List Char) (denylist : List (List Char)) :
    opensslWeak n sha1hex denylist = true ↔
      ("RSA-".toList ++ Nat.toDigits 10 (bitLength n) ++ [':'] ++ sha1hex.drop 20) ∈ denylist := by
  simp [opensslWeak, opensslKeyStr]

/-- the hashed string is `"Modulus=" ++ "%X" % n ++ "\n"`. -/
theorem openssl_hash_input (n : Nat) :
    opensslHashInput n = "Modulus=".toList ++ hexUpper n ++ ['\n'] := rfl

/-- `%X` formatting: injective (base-16 reading recovers `n`), only `0-9A-F`, exactly
`hexLen n` digits, no leading zero for `n ≠ 0`, and `"0"` for 0. -/
theorem hexUpper_spec (n : Nat) :
    hexNum (hexUpper n) = n ∧ (∀ c ∈ hexUpper n, c ∈ "0123456789ABCDEF".toList) ∧
    (hexUpper n).length = hexLen n ∧ (n ≠ 0 → (hexUpper n).head? ≠ some '0') ∧
    hexUpper 0 = ['0'] :=
  ⟨hexNum_hexUpper n, hexUpper_chars n, hexUpper_length n, hexUpper_head n, hexUpper_zero⟩

theorem hexUpper_inj {a b : Nat} (h : hexUpper a = hexUpper b) : a = b := by
  rw [← hexNum_hexUpper a, ← hexNum_hexUpper b, h]

/-- distinct moduli are hashed as distinct strings. -/
theorem openssl_hash_input_inj {a b : Nat} (h : opensslHashInput a = opensslHashInput b) :
    a = b := by
  unfold opensslHashInput at h
  rw [List.append_assoc, List.append_assoc] at h
  exact hexUpper_inj (List.append_cancel_right (List.append_cancel_left h))

/-! ### CheckKeypairDenylist -/

/-- ★ `keypair_step`, positive direction. For EVERY table and EVERY generator oracle: if the
table maps the 64 most significant bits of `n` to `metadata`, the seed rebuilt from it is
`seed`, and the generator returns `(p, q)` with `p * q = n`, the key is flagged and `{p, q}`
attached. -/
theorem keypair_step (table : List (Nat × List Nat)) (n : Nat)
    (gen : List Nat → Nat → Nat × Nat) (metadata seed : List Nat) (p q : Nat)
    (hbits : 64 ≤ bitLength n)
    (htab : table.lookup (n >>> (bitLength n - 64)) = some metadata)
    (hseed : seedFromMeta metadata = .ok seed)
    (heven : keypairSizeOk (bitLength n) = true)
    (hgen : gen seed (bitLength n) = (p, q)) (hpq : p * q = n) :
    keypairStep table n gen = .ok (true, [p, q]) := by
  simp [keypairStep, keypairMsb_of_le hbits, htab, hseed, hgen, hpq, heven]

/-- … negative directions: prefix not in the table, or the regenerated primes do not
multiply to `n` → not flagged, nothing attached. -/
theorem keypair_not_in_table (table : List (Nat × List Nat)) (n : Nat)
    (gen : List Nat → Nat → Nat × Nat) (hbits : 64 ≤ bitLength n)
    (htab : table.lookup (n >>> (bitLength n - 64)) = none) :
    keypairStep table n gen = .ok (false, []) := by
  simp [keypairStep, keypairMsb_of_le hbits, htab]

theorem keypair_wrong_product (table : List (Nat × List Nat)) (n : Nat)
    (gen : List Nat → Nat → Nat × Nat) (metadata seed : List Nat)
    (hbits : 64 ≤ bitLength n)
    (htab : table.lookup (n >>> (bitLength n - 64)) = some metadata)
    (hseed : seedFromMeta metadata = .ok seed)
    (hpq : (gen seed (bitLength n)).1 * (gen seed (bitLength n)).2 ≠ n) :
    keypairStep table n gen = .ok (false, []) := by
  simp [keypairStep, keypairMsb_of_le hbits, htab, hseed, hpq]

/-- a size `keypairSizeOk` rejects is never flagged and the generator is not consulted for it: the
verdict is the same for EVERY oracle. -/
theorem keypair_unsupported_size (table : List (Nat × List Nat)) (n : Nat)
    (gen : List Nat → Nat → Nat × Nat) (hbits : 64 ≤ bitLength n)
    (hsz : keypairSizeOk (bitLength n) = false) :
    keypairStep table n gen = .ok (false, []) := by
  cases htab : table.lookup (n >>> (bitLength n - 64)) <;>
    simp [keypairStep, keypairMsb_of_le hbits, htab, hsz]

/-- D21 (fixed in /repo 8de8de4): a modulus of odd bit length is never flagged — the vulnerable
generator multiplies two primes of `bits / 2` bits, whose product never has an odd size — and the
generator is not consulted for it: the verdict is the same for EVERY oracle, in particular for
the real `generate_key`, which does not return for an odd size. -/
theorem keypair_odd_size (table : List (Nat × List Nat)) (n : Nat)
    (gen : List Nat → Nat → Nat × Nat) (hbits : 64 ≤ bitLength n)
    (hodd : bitLength n % 2 = 1) :
    keypairStep table n gen = .ok (false, []) :=
  keypair_unsupported_size table n gen hbits (by simp [keypairSizeOk, hodd])

/-- an even size whose primes would have three or more forced zero bits (`(bits/2) % 8 ≥ 3`, e.g.
2046, 2044, 2040 bits) is never flagged either, and the generator is not consulted. -/
theorem keypair_short_prime_size (table : List (Nat × List Nat)) (n : Nat)
    (gen : List Nat → Nat → Nat × Nat) (hbits : 64 ≤ bitLength n)
    (h3 : 3 ≤ (bitLength n / 2) % 8) :
    keypairStep table n gen = .ok (false, []) :=
  keypair_unsupported_size table n gen hbits (by
    simp only [keypairSizeOk, Bool.and_eq_false_imp, decide_eq_false_iff_not]; omega)

/-- the generator oracle is consulted for supported sizes only: two oracles that agree on every
size with `keypairSizeOk` give the same verdict on every modulus (so the totality statements never
rely on `generate_key` returning for a size it cannot produce). -/
theorem keypair_gen_supported_only (table : List (Nat × List Nat)) (n : Nat)
    (gen gen' : List Nat → Nat → Nat × Nat)
    (h : ∀ seed bits, keypairSizeOk bits = true → gen seed bits = gen' seed bits) :
    keypairStep table n gen = keypairStep table n gen' := by
  unfold keypairStep
  split
  · rfl
  · split
    · rfl
    · split
      · rfl
      · rename_i hev
        have hev' : keypairSizeOk (bitLength n) = true := by simpa using hev
        split
        · rfl
        · rename_i seed _
          rw [h seed _ hev']

theorem keypair_gen_even_only (table : List (Nat × List Nat)) (n : Nat)
    (gen gen' : List Nat → Nat → Nat × Nat)
    (h : ∀ seed bits, bits % 2 = 0 → gen seed bits = gen' seed bits) :
    keypairStep table n gen = keypairStep table n gen' :=
  keypair_gen_supported_only table n gen gen' fun seed bits hb =>
    h seed bits (by simp only [keypairSizeOk, Bool.and_eq_true, beq_iff_eq] at hb; exact hb.1)

/-- a product of two numbers of `k` bits has `2k - 1` or `2k` bits: never `2k + 1`, which is why
`generate_key(2k + 1)` (primes of `(2k + 1) / 2 = k` bits, loop until the product has `2k + 1`
bits) cannot return.  Pure arithmetic: that `generate_prime(k)` returns `p < 2^k` is proved for the
construction (for `k % 8 ≥ 2`, modulo an explicit prime-gap hypothesis; FALSE for some byte streams when
`k % 8 ∈ {0, 1}`) in Props/C06Gen.lean (`generate_prime_lt_two_pow`, `generate_key_never_returns_odd`). -/
theorem product_size_never_odd (k p q : Nat) (hp : p < 2 ^ k) (hq : q < 2 ^ k) :
    p * q < 2 ^ (2 * k) := by
  calc p * q < 2 ^ k * 2 ^ k := Nat.mul_lt_mul'' hp hq
    _ = 2 ^ (2 * k) := by rw [← Nat.pow_add]; congr 1; omega

/-- Why `generate_key(bits)` cannot return for EVEN `bits = 2*(8m+r)` with `3 ≤ r`:
`generate_prime(8m+r)` draws only `8m` random bits and sets bit `8m+r-1`, so (with generous slack
`3·2^(8m-1)` for the "+31 - p%30" alignment and the prime search) both primes are below
`2^(8m+r-1) + 3·2^(8m-1)`, and then the product has at most `bits - 1` bits.
(Companion of C06.product_size_never_odd, which covers odd `bits` only.)
Pure arithmetic: the hypotheses `hp`, `hq` are proved for the construction in the code — modulo an
explicit prime-gap hypothesis — in Props/C06Gen.lean (`generate_prime_bound`,
`generate_key_never_returns_size`). -/
theorem product_size_never_reached (m r p q : ℕ) (hm : 1 ≤ m) (hr : 3 ≤ r)
    (hp : p < 2 ^ (8 * m + r - 1) + 3 * 2 ^ (8 * m - 1))
    (hq : q < 2 ^ (8 * m + r - 1) + 3 * 2 ^ (8 * m - 1)) :
    p * q < 2 ^ (2 * (8 * m + r) - 1) := by
  have hj : 8 * m - 1 + 3 ≤ 8 * m + r - 1 := by clear hp hq; omega
  have he : 2 * (8 * m + r) - 1 = 8 * m + r - 1 + (8 * m + r - 1) + 1 := by clear hp hq; omega
  have h8 : 8 * 2 ^ (8 * m - 1) ≤ 2 ^ (8 * m + r - 1) :=
    Nat.le_trans (by rw [Nat.pow_add, Nat.mul_comm]) (Nat.pow_le_pow_right Nat.two_pos hj)
  rw [he, Nat.pow_succ, Nat.pow_add, Nat.mul_comm _ 2]
  exact mul_lt_two_sq h8 hp hq

/-- soundness: whatever the table and the oracle, a key is flagged only together with two
factors whose product is `n`, and an unflagged key gets no factors. -/
theorem keypair_sound (table : List (Nat × List Nat)) (n : Nat)
    (gen : List Nat → Nat → Nat × Nat) (w : Bool) (fs : List Nat)
    (h : keypairStep table n gen = .ok (w, fs)) :
    (w = true ∧ ∃ p q, fs = [p, q] ∧ p * q = n) ∨ (w = false ∧ fs = []) := by
  rcases keypairStep_cases table n gen with h0 | ⟨seed, hpq, h1⟩ | ⟨_, he, _⟩
  · cases h.symm.trans h0; exact .inr ⟨rfl, rfl⟩
  · cases h.symm.trans h1; exact .inl ⟨rfl, _, _, rfl, hpq⟩
  · cases h.symm.trans he

/-- a modulus shorter than 64 bits makes the check raise `ValueError` (negative shift
count) before the table is consulted. -/
theorem keypair_short_modulus (table : List (Nat × List Nat)) (n : Nat)
    (gen : List Nat → Nat → Nat × Nat) (h : bitLength n < 64) :
    keypairStep table n gen = .error .valueError := by
  simp [keypairStep, keypairMsb, h]

/-- seed reconstruction from well-formed metadata `b0|i1|b1|i2|b2…` (all `i_k < 32`):
32 bytes, `b0` first, zeros elsewhere, `b_k` at position `i_k`. -/
theorem seed_from_metadata (b0 : Nat) (pairs : List (Nat × Nat)) (h : ∀ iv ∈ pairs, iv.1 < 32) :
    seedFromMeta (b0 :: flattenPairs pairs) =
      .ok (writePairs (b0 :: List.replicate 31 0) pairs) :=
  seedLoop_pairs pairs _ fun iv hiv => by
    rw [List.length_cons, List.length_replicate]; exact h iv hiv

theorem seed_length (m s : List Nat) (h : seedFromMeta m = .ok s) : s.length = 32 := by
  cases m with
  | nil => cases h
  | cons b0 rest => rw [seedLoop_length _ _ _ h]; simp

/-! ### exact acceptance rates (used by C07)

Fraction of residue vectors `(v_p)_p ∈ ∏ [0, p)` accepted by a detector =
`∏ accepted_p / ∏ p` (the per-prime tests are independent of each other). -/

/-- ★ `roca_fp_rate`, ROCA fingerprint (39 primes): the accepted fraction
`∏ ord_p(65537) / ∏ p` lies strictly between `2^-31` and `2^-30`.
NOTE: it is therefore NOT below `2^-37` (see `roca_fp_rate_not_37`). -/
theorem roca_fp_rate :
    (rocaPrimes.map (rocaAcceptedMod rocaF4)).prod * 2 ^ 30 < rocaPrimes.prod ∧
    rocaPrimes.prod < (rocaPrimes.map (rocaAcceptedMod rocaF4)).prod * 2 ^ 31 :=
  roca_rates.1

/-- the bound `accepted · 2^37 < total` that C07's "design false-positive rate ≤ 2^-37 per
key" would need FAILS for the ROCA fingerprint as coded. -/
theorem roca_fp_rate_not_37 :
    ¬ (rocaPrimes.map (rocaAcceptedMod rocaF4)).prod * 2 ^ 37 < rocaPrimes.prod := by
  intro h37
  have : (rocaPrimes.map (rocaAcceptedMod rocaF4)).prod * 2 ^ 31 ≤
      (rocaPrimes.map (rocaAcceptedMod rocaF4)).prod * 2 ^ 37 :=
    Nat.mul_le_mul_left _ (Nat.pow_le_pow_right (by decide) (by decide))
  exact Nat.lt_irrefl _ (Nat.lt_trans (Nat.lt_of_lt_of_le roca_fp_rate.2 this) h37)

/-- among residue vectors with all entries non-zero (moduli coprime to the 39 primes, as
every product of two large primes is) the accepted fraction is between `2^-28` and `2^-27`. -/
theorem roca_fp_rate_units :
    (rocaPrimes.map (rocaAcceptedMod rocaF4)).prod * 2 ^ 27 < (rocaPrimes.map (· - 1)).prod ∧
    (rocaPrimes.map (· - 1)).prod < (rocaPrimes.map (rocaAcceptedMod rocaF4)).prod * 2 ^ 28 :=
  roca_rates.2

/-- ★ `roca_fp_rate`, variant (48 primes): the fraction of residue vectors that are squares
modulo every prime, `∏ ((p+1)/2) / ∏ p`, is below `2^-46` — hence below `2^-37`. (The variant
additionally excludes ROCA-positive moduli, which only lowers it.) -/
theorem rocaVariant_fp_rate :
    (rocaVariantPrimes.map qrAcceptedMod).prod * 2 ^ 46 < rocaVariantPrimes.prod := by
  rw [List.map_congr_left qrAcceptedMod_variant]
  decide +kernel

theorem rocaVariant_fp_rate_37 :
    (rocaVariantPrimes.map qrAcceptedMod).prod * 2 ^ 37 < rocaVariantPrimes.prod := by
  have : (rocaVariantPrimes.map qrAcceptedMod).prod * 2 ^ 37 ≤
      (rocaVariantPrimes.map qrAcceptedMod).prod * 2 ^ 46 :=
    Nat.mul_le_mul_left _ (Nat.pow_le_pow_right (by decide) (by decide))
  exact Nat.lt_of_le_of_lt this rocaVariant_fp_rate

/-- among vectors of non-zero residues the variant's QR stage accepts exactly `2^-48`
(the figure in the docstring of `ROCAKeyVariantDetector.IsWeak`). -/
theorem rocaVariant_fp_rate_units :
    (rocaVariantPrimes.map fun p => qrAcceptedMod p - 1).prod * 2 ^ 48 =
      (rocaVariantPrimes.map (· - 1)).prod := by
  rw [List.map_congr_left fun p hp => congrArg (· - 1) (qrAcceptedMod_variant p hp)]
  decide +kernel

/-! Non-vacuity / boundary values. -/

example : sizesWeak (2 ^ 2047 - 1) = true ∧ sizesWeak (2 ^ 2047) = false := by decide +kernel
example : checkExponents [0, 0, 1, 0, 1] = false ∧ checkExponents [1, 0, 0] = true := by
  decide +kernel
-- 65537^3 mod (3·5·…·173) is ROCA-positive but the variant skips it; 4 is a square everywhere
example : rocaIsWeak rocaPrimes rocaF4 (65537 ^ 3) = .ok true := by decide +kernel
example : rocaIsWeak rocaPrimes rocaF4 2 = .ok false := by decide +kernel
-- (small tuples: the kernel evaluates the O(p²) table construction slowly)
example : rocaVariantIsWeak [5, 7, 11] [3, 5, 7] 65537 (65537 ^ 2) = .ok false := by
  decide +kernel
example : rocaVariantIsWeak [5, 7, 11] [3, 5, 73] 65537 4 = .ok true := by decide +kernel
example : rocaVariantIsWeak [5, 7, 11] [3, 5, 7] 65537 2 = .ok false := by decide +kernel
example : hexUpper 48879 = "BEEF".toList := by decide +kernel
-- the docstring example of storage.py: metadata 1e04081c02 ↦ seed 1e000000 08 00…00 02 000000
example : seedFromMeta [0x1e, 4, 8, 0x1c, 2] =
    .ok ([0x1e, 0, 0, 0, 8] ++ List.replicate 23 0 ++ [2, 0, 0, 0]) := by decide +kernel
example : keypairStep [(2 ^ 63, [7])] (2 ^ 63 * 2 ^ 16) (fun _ _ => (2 ^ 63, 2 ^ 16)) =
    .ok (true, [2 ^ 63, 2 ^ 16]) := by decide +kernel
-- odd size (75 bits): not flagged although the oracle's product is `n`; likewise 78 bits (39 % 8 = 7)
example : keypairStep [(2 ^ 63, [7])] (2 ^ 63 * 2 ^ 11) (fun _ _ => (2 ^ 63, 2 ^ 11)) =
    .ok (false, []) := by decide +kernel
example : keypairStep [(2 ^ 63, [7])] (2 ^ 63 * 2 ^ 14) (fun _ _ => (2 ^ 63, 2 ^ 14)) =
    .ok (false, []) := by decide +kernel
example : keypairSizeOk 2048 = true ∧ keypairSizeOk 2046 = false ∧ keypairSizeOk 2036 = true ∧
    keypairSizeOk 2047 = false := by decide

/-! ## EC half: CheckValidECKey, CheckWeakCurve -/

section ec
open Paranoid.Ec Paranoid.Bsgs WeierstrassCurve

/-- ★ `validKey_iff` (function level). For `p` prime, `p ≠ 2`, non-zero discriminant, and ANY integer
coordinates: `IsValidPublicKey((x, y))` never raises and is `True` exactly when
`0 ≤ x, y < p`, `y² ≡ x³ + a·x + b (mod p)` and (`h ≤ 1` or `n • P = ∞` in the group);
`IsValidPublicKey(INFINITY)` is `False`. -/
theorem validKey_iff (c : Curve) [Fact (Nat.Prime c.p)] (hc : c.Good) (x y : Int) :
    ∃ b, isValidPublicKey c (.aff x y) = .ok b ∧
      (b = true ↔ InRangeOnCurve c x y ∧ (c.h ≤ 1 ∨ c.n • toPoint c (.aff x y) = 0)) := by
  obtain ⟨b, hb, hiff⟩ := isValidPublicKey_spec c hc (.aff x y)
  refine ⟨b, hb, hiff.trans ?_⟩
  constructor
  · rintro ⟨hon, _, hord, x', y', he, h1, h2, h3, h4⟩
    cases he
    refine ⟨⟨h1, by omega, h3, by omega, (onCurve_iff_congr c x y).mp hon⟩, ?_⟩
    by_cases hh : c.h ≤ 1
    · exact .inl hh
    · exact .inr (hord (by omega))
  · rintro ⟨⟨h1, h2, h3, h4, h5⟩, hord⟩
    refine ⟨(onCurve_iff_congr c x y).mpr h5, by simp, fun hh => ?_, x, y, rfl, h1, by omega, h3, by omega⟩
    rcases hord with h | h
    · omega
    · exact h

theorem validKey_infinity (c : Curve) : isValidPublicKey c .inf = .ok false := by
  simp [isValidPublicKey, onCurve]

/-- cofactor 1 (every curve of `CURVE_FACTORY`, `curve_factory_cofactors`): the answer is the
closed-form criterion alone, for ANY curve parameters (no primality needed). -/
theorem validKey_iff_cofactor_one (c : Curve) (hh : c.h ≤ 1) (x y : Int) :
    isValidPublicKey c (.aff x y) = .ok (decide (InRangeOnCurve c x y)) :=
  isValidPublicKey_cofactor_one c hh x y

/-- ★ CheckValidECKey, check level, for every batch and every factory whose curves have cofactor
`≤ 1`: the check never raises, writes a result for EVERY key, attaches nothing, and flags exactly
the keys whose `curve_type` is not in the factory or maps to `None` (unknown and binary-field
curves) or whose point fails `0 ≤ x, y < p ∧ y² ≡ x³ + a·x + b (mod p)`. -/
theorem checkValidECKey_iff (f : Factory) (hf : ∀ id c, factoryGet f id = some c → c.h ≤ 1)
    (keys : List ECKey) :
    checkValidECKey f keys = .ok (keys.map fun k => some ⟨invalidKeySpec f k, none⟩) ∧
    ∀ k, invalidKeySpec f k = true ↔
      (factoryGet f k.curveType = none ∨
        ∃ c, factoryGet f k.curveType = some c ∧ ¬ InRangeOnCurve c (k.x : Int) (k.y : Int)) := by
  refine ⟨checkValidECKey_cofactor_one f hf keys, fun k => ?_⟩
  unfold invalidKeySpec
  cases factoryGet f k.curveType with
  | none => simp
  | some c => simp

/-- … with a cofactor `> 1` (general factory) the subgroup test is added, per key. -/
theorem validKeyOne_general (f : Factory) (k : ECKey) (c : Curve) [Fact (Nat.Prime c.p)]
    (hc : c.Good) (hget : factoryGet f k.curveType = some c) :
    ∃ b, validKeyOne f k = .ok (some ⟨b, none⟩) ∧
      (b = false ↔ InRangeOnCurve c (k.x : Int) (k.y : Int) ∧
        (c.h ≤ 1 ∨ c.n • toPoint c k.pt = 0)) := by
  obtain ⟨b, hb, hiff⟩ := validKey_iff c hc (k.x : Int) (k.y : Int)
  refine ⟨!b, by simp [validKeyOne, hget, ECKey.pt, hb], ?_⟩
  show (!b) = false ↔ _ ∧ (_ ∨ c.n • toPoint c (.aff (k.x : Int) (k.y : Int)) = 0)
  rw [← hiff]; simp

theorem validKeyOne_unknown (f : Factory) (k : ECKey) (hget : factoryGet f k.curveType = none) :
    validKeyOne f k = .ok (some ⟨true, none⟩) := by simp [validKeyOne, hget]

/-- the regenerated `CURVE_FACTORY`: nine prime-field curves, all of cofactor 1, under the ids
`2,4,1,3,5,6,17,18,19`; the ten binary-field ids `7…16` map to `None`; every other id
(`CURVE_UNKNOWN = 0`, …) is absent. -/
theorem curve_factory_eq : regenFactory =
    [⟨2, some secp256r1⟩, ⟨4, some secp384r1⟩, ⟨1, some secp192r1⟩, ⟨3, some secp224r1⟩,
     ⟨5, some secp521r1⟩, ⟨6, some secp256k1⟩,
     ⟨17, some brainpoolP256r1⟩, ⟨18, some brainpoolP384r1⟩, ⟨19, some brainpoolP512r1⟩,
     ⟨7, none⟩, ⟨8, none⟩, ⟨9, none⟩, ⟨10, none⟩,
     ⟨11, none⟩, ⟨12, none⟩, ⟨13, none⟩, ⟨14, none⟩, ⟨15, none⟩, ⟨16, none⟩] := regenFactory_eq

theorem curve_factory_cofactors : ∀ id c, factoryGet regenFactory id = some c → c.h ≤ 1 := by
  intro id c h
  obtain ⟨e, he, _, hc⟩ := factoryGet_mem h
  have : ∀ e ∈ regenFactory, ∀ c, e.curve = some c → c.h ≤ 1 := by
    rw [regenFactory_eq]
    decide +kernel
  exact this e he c hc

/-- ★ CheckValidECKey on the regenerated factory. -/
theorem checkValidECKey_factory (keys : List ECKey) :
    checkValidECKey regenFactory keys =
      .ok (keys.map fun k => some ⟨invalidKeySpec regenFactory k, none⟩) :=
  (checkValidECKey_iff regenFactory curve_factory_cofactors keys).1

/-- ★ `weakCurve_iff`. CheckWeakCurve, for every factory and batch: keys whose curve is unknown /
`None` get NO result (skipped — CheckValidECKey flags them); every other key gets a result, flagged
exactly when the order `n` of its curve has fewer than 224 bits (`n.bit_length() < 224`, i.e.
`n < 2^223`); nothing is attached. -/
theorem weakCurve_iff (f : Factory) (keys : List ECKey) :
    checkWeakCurve f keys = keys.map fun k =>
      match factoryGet f k.curveType with
      | none => none
      | some c => some ⟨decide (bitLength c.n < 224), none⟩ := rfl

theorem weakCurve_threshold (n : Nat) : bitLength n < 224 ↔ n < 2 ^ 223 :=
  Nat.lt_succ_iff.trans (bitLength_le_iff n 223)

/-- on the regenerated `CURVE_FACTORY` exactly the id `1` = secp192r1 (192-bit order) is flagged;
secp224r1 (224 bits) is not. -/
theorem weakCurve_factory :
    weakCurveIds regenFactory = [1] ∧ factoryGet regenFactory 1 = some secp192r1 ∧
    (regenFactory.filterMap fun e => e.curve.map fun c => (e.id, bitLength c.n)) =
      [(2, 256), (4, 384), (1, 192), (3, 224), (5, 521), (6, 256), (17, 256), (18, 384), (19, 512)] :=
  ⟨by rw [regenFactory_eq]; decide +kernel, by rw [regenFactory_eq]; decide +kernel, regenFactory_bits⟩

/-! non-vacuity -/
example : isValidPublicKey secp256r1 secp256r1.g = .ok true := by decide +kernel
example : isValidPublicKey secp256r1 (.aff (secp256r1.gx + secp256r1.p) secp256r1.gy) = .ok false := by
  decide +kernel
example : checkValidECKey regenFactory [⟨2, secp256r1.gx.toNat, secp256r1.gy.toNat⟩, ⟨0, 1, 2⟩, ⟨7, 1, 2⟩,
    ⟨2, 1, 2⟩] = .ok [some ⟨false, none⟩, some ⟨true, none⟩, some ⟨true, none⟩, some ⟨true, none⟩] := by
  decide +kernel
example : checkWeakCurve regenFactory [⟨1, 0, 0⟩, ⟨3, 0, 0⟩, ⟨0, 0, 0⟩, ⟨9, 0, 0⟩] =
    [some ⟨true, none⟩, some ⟨false, none⟩, none, none] := by decide +kernel

end ec

end Paranoid.C06
