/-
Props/C02Cert.lean — C02 ("every recorded discrete log is true") WITHOUT the two hypotheses the
statements of Props/C02.lean / Props/C02S.lean carry for the nine curves of `CURVE_FACTORY`:

* primality of the field moduli (`[Fact c.p.Prime]`, `hprime` of `C02S.namedFactory_ok`): it is
  kernel-checked (Pratt certificates, Props/C11Primes.lean) — `namedFactory_ok_certified`,
  `dlogs_sound_named`;
* `n • P = ∞` for the key (`hN` of `C02.extendedBatchDL_sound`): for a key that HAS a private key,
  `P = d • G` for some integer `d` — the quantifier of the property, "valid points with arbitrary
  private keys" — it follows from `n • G = ∞` (evaluated `paramsOK`, C11) —
  `extendedBatchDL_sound_of_privateKey`.

What is NOT proved: that EVERY point accepted by `IsValidPublicKey` on one of the nine (cofactor 1)
curves satisfies `n • P = ∞`.  That is `#E(F_p) = n` for the nine named curves — a fact of the
standards (SEC 2, RFC 5639) that needs point counting, which Mathlib does not have.  For such a
point (if one existed) the general statement `C02.extendedBatchDL_sound` keeps the hypothesis;
`C10.extended_needs_subgroup` shows on a cofactor-4 curve that the recorded value can be wrong
without it.
-/
import ParanoidModel.Props.C02
import ParanoidModel.Proofs.EcPrivKey
import ParanoidModel.Proofs.EcAllPrimes
namespace Paranoid.C02
open Paranoid Paranoid.Ec Paranoid.Bsgs Paranoid.EcdsaChecks WeierstrassCurve

/-- ★ `CURVE_FACTORY` of the current tree (fresh caches) satisfies `FactoryOK`, `FactoryReduced` and
has distinct ids — NO hypothesis (`C02S.namedFactory_ok` with its premise discharged by the Pratt
certificates of Props/C11Primes.lean).  With `C02S.check_preserves` this gives the hypothesis `hF`
of `weak_only_with_key` / `issuerDLogs_sound` for every state of the curve objects reachable by
nonce checks in one process. -/
theorem namedFactory_ok_certified :
    FactoryOK namedFactory ∧ FactoryReduced namedFactory ∧ (namedFactory.map Prod.fst).Nodup :=
  C02S.namedFactory_ok EcAll.named_primes

section curve
variable (c : Curve) [Fact (Nat.Prime c.p)]

/-- ★ clause 2 for keys with a private key.  `ExtendedBatchDL` on a valid curve object with
`n • G = ∞`, any state, oracle values and neighbours: if the point at position `i` is on the curve
and `P = d • G` for SOME integer `d` (no range condition), the recorded value `v` satisfies
`v • G = P`; when `G` has order exactly `n`, `v ≡ d (mod n)`. -/
theorem extendedBatchDL_sound_of_privateKey (hv : ValidCurve c) (hn : 2 ≤ c.n)
    (hNG : c.n • Gp c = 0) (st : EcState) (points : List Pt)
    (ts m : Nat) (res : List (Option Int)) (st' : EcState)
    (h : extendedBatchDL c st points ts m = .ok (res, st'))
    (i : Nat) (P : Pt) (v d : Int) (hP : points[i]? = some P) (hon : onCurve c P = true)
    (hd : toPoint c P = d • Gp c) (hres : res[i]? = some (some v)) :
    v • Gp c = toPoint c P ∧ (addOrderOf (Gp c) = c.n → (v - d) % (c.n : Int) = 0) := by
  have hs := extendedBatchDLB_sound_priv c hv.good hv.gOn hn hNG (2 ^ 32) st points ts m res st' h
    i P v d hP hon hd hres
  exact ⟨hs, fun hord => dlog_emod c hord (hs.trans hd)⟩

end curve

/-- the nine curve objects of `CURVE_FACTORY`. -/
def namedCurves : List Curve :=
  [secp256r1, secp384r1, secp192r1, secp224r1, secp521r1, secp256k1, brainpoolP256r1,
   brainpoolP384r1, brainpoolP512r1]

/-- ★ clauses 1 and 2 on the nine named curves, NO hypothesis on the curve: for every curve object
of `CURVE_FACTORY`, every state, point list and oracle value,
* `BatchDL`: every reported `v` satisfies `v • G = P`;
* `ExtendedBatchDL`: the value `v` recorded for an on-curve key `P = d • G` (any integer `d`)
  satisfies `v • G = P` and `v ≡ d (mod n)`. -/
theorem dlogs_sound_named (c : Curve) (hc : c ∈ namedCurves) :
    haveI : Fact (Nat.Prime c.p) := ⟨EcAll.named_primes c hc⟩
    (∀ (st : EcState) (points : List Pt) (n ts m : Nat) (res : List (Option Int)) (st' : EcState),
      batchDL c st points n ts m = .ok (res, st') →
      List.Forall₂ (fun P r => ∀ v, r = some v → v • Gp c = toPoint c P) points res) ∧
    (∀ (st : EcState) (points : List Pt) (ts m : Nat) (res : List (Option Int)) (st' : EcState),
      extendedBatchDL c st points ts m = .ok (res, st') →
      ∀ (i : Nat) (P : Pt) (v d : Int), points[i]? = some P → onCurve c P = true →
        toPoint c P = d • Gp c → res[i]? = some (some v) →
        v • Gp c = toPoint c P ∧ (v - d) % (c.n : Int) = 0) := by
  haveI : Fact (Nat.Prime c.p) := ⟨EcAll.named_primes c hc⟩
  obtain ⟨hv, hn, hNG, hord⟩ := C10.valid_of_paramsOK c (named_paramsOK c hc)
  refine ⟨fun st points n ts m res st' h => batchDL_sound c hv st points n ts m res st' h, ?_⟩
  intro st points ts m res st' h i P v d hP hon hd hres
  obtain ⟨h1, h2⟩ := extendedBatchDL_sound_of_privateKey c hv hn hNG st points ts m res st' h i P v
    d hP hon hd hres
  exact ⟨h1, h2 (hord (EcAll.named_orders_prime c hc))⟩

/-! ### non-vacuity -/

/-- the hypotheses of `extendedBatchDL_sound_of_privateKey` are met on secp256r1 by the key
`P = 5 • G` (kernel-evaluated scalar multiplication; `toPoint` of the result through
`C11.multiply_nsmul`).  This shows the point hypotheses only; an `.ok` RUN of `BatchDL` on secp256r1 with
recorded logs, to which `dlogs_sound_named` is applied, is in Props/C02CertEx.lean. -/
example : secp256r1 ∈ namedCurves ∧ onCurve secp256r1 secp256r1.g = true ∧
    (multiply secp256r1 secp256r1.g 5).toOption.map (onCurve secp256r1) = some true := by
  decide +kernel

end Paranoid.C02
