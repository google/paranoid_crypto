/-
Props/C12RankSum.lean — `RankDistribution` is a probability distribution (property C12).

`C12More.rankDistribution_formula` identifies the entries of the recurrence with the CLASSICAL closed-form
product  P(r, c, j) = ∏_{i<j} (2^c − 2^i)(2^r − 2^i) / (∏_{i<j} (2^j − 2^i) · 2^(r·c)).  That product is
taken as the specification: NO theorem of this project counts the r×c matrices over GF(2) of rank j
(|{M : rank M = j}| = P(r, c, j) · 2^(r·c) is textbook, e.g. via the Gaussian binomial `Nist.gauss`, but not
proved here).  What is added here is the part of "is a distribution" that can be proved from the code's
recurrence alone:

  * the list `res` of the recurrence sums to exactly 1 after every number of passes (mass conservation of
    `res[j+1] += res[j]·(1 − pd); res[j] *= pd`), hence
  * the closed-form values sum to 1 over j = 0 … min(r, c) (they vanish for j > c), and
  * the returned list `res[-k:][::-1] + [sum(res[:-k])]` sums to 1 for every 1 ≤ k ≤ r + 1 (exact rationals;
    the float list of the implementation is checked against `abs(sum − 1) ≤ 1e-4` by `ChiSquare` itself,
    oracle `ChiOracle.badSum`).

For k = 0 Python returns `res[::-1] + [0]` (r + 2 entries, also sum 1), which `ChiSquare` rejects by its
length check (Model/NistFloat.lean, `chiValidate`).
-/
import ParanoidModel.Proofs.Nist2Rank
namespace Paranoid.C12RankSum
open Paranoid Paranoid.Nist

/-- ★ mass conservation: the exact `res` of `RankDistribution(r, c, ·)` sums to 1, for every shape. -/
theorem rankRes_sum_one (r c : Nat) : (rankRes r c).sum = 1 := rankRes_sum r c

/-- the closed-form value at j is the j-th entry of `res` (restating `C12More.rankDistribution_formula`
through `Nist.rankP`) … -/
theorem rankP_eq_formula (r c j : Nat) :
    rankP r c j = (∏ i ∈ Finset.range j, ((2 : ℚ) ^ c - 2 ^ i)) * (∏ i ∈ Finset.range j, ((2 : ℚ) ^ r - 2 ^ i)) /
      ((∏ i ∈ Finset.range j, ((2 : ℚ) ^ j - 2 ^ i)) * (2 : ℚ) ^ (r * c)) :=
  rankP_eq r c j

/-- … and it vanishes for j > c (a rank above the number of columns is impossible: factor i = c). -/
theorem formula_zero_of_gt (r c j : Nat) (h : c < j) :
    (∏ i ∈ Finset.range j, ((2 : ℚ) ^ c - 2 ^ i)) * (∏ i ∈ Finset.range j, ((2 : ℚ) ^ r - 2 ^ i)) /
      ((∏ i ∈ Finset.range j, ((2 : ℚ) ^ j - 2 ^ i)) * (2 : ℚ) ^ (r * c)) = 0 := by
  have : ∏ i ∈ Finset.range j, ((2 : ℚ) ^ c - 2 ^ i) = 0 :=
    Finset.prod_eq_zero (Finset.mem_range.mpr h) (sub_self _)
  rw [this, zero_mul, zero_div]

theorem list_sum_map_range (f : Nat → ℚ) : ∀ n, ((List.range n).map f).sum = ∑ j ∈ Finset.range n, f j
  | 0 => by simp
  | n + 1 => by
    rw [List.range_succ, List.map_append, List.sum_append, list_sum_map_range f n, Finset.sum_range_succ]
    simp

/-- ★ the classical closed-form probabilities sum to 1 over j = 0 … r … -/
theorem formula_sum_one (r c : Nat) :
    ∑ j ∈ Finset.range (r + 1),
      ((∏ i ∈ Finset.range j, ((2 : ℚ) ^ c - 2 ^ i)) * (∏ i ∈ Finset.range j, ((2 : ℚ) ^ r - 2 ^ i)) /
        ((∏ i ∈ Finset.range j, ((2 : ℚ) ^ j - 2 ^ i)) * (2 : ℚ) ^ (r * c))) = 1 := by
  have h := rankRes_sum_one r c
  rw [rankRes_eq, list_sum_map_range] at h
  rw [← h]
  exact Finset.sum_congr rfl (fun j _ => (rankP_eq_formula r c j).symm)

/-- ★ … equivalently over the possible ranks j = 0 … min(r, c). -/
theorem formula_sum_one_min (r c : Nat) :
    ∑ j ∈ Finset.range (min r c + 1),
      ((∏ i ∈ Finset.range j, ((2 : ℚ) ^ c - 2 ^ i)) * (∏ i ∈ Finset.range j, ((2 : ℚ) ^ r - 2 ^ i)) /
        ((∏ i ∈ Finset.range j, ((2 : ℚ) ^ j - 2 ^ i)) * (2 : ℚ) ^ (r * c))) = 1 := by
  rw [← formula_sum_one r c]
  apply Finset.sum_subset
  · intro j hj
    rw [Finset.mem_range] at hj ⊢
    omega
  · intro j hj hnj
    rw [Finset.mem_range] at hj hnj
    exact formula_zero_of_gt r c j (by omega)

/-- ★ the list returned by `RankDistribution(r, c, k, allow_approximation=False)` (exact rationals) sums to 1
for every admissible k: k top ranks plus the lumped tail. -/
theorem rankDistribution_sum_one (r c k : Nat) (hk1 : 1 ≤ k) (_hk : k ≤ r + 1) :
    (rankDistribution r c k).sum = 1 := rankDistribution_sum_any r c k

/-- for k = 0 Python's `res[-0:][::-1] + [sum(res[:-0])]` is the whole reversed list plus a 0: also sum 1, but
r + 2 entries. -/
theorem rankDistribution_zero (r c : Nat) :
    (rankDistribution r c 0).sum = 1 ∧ (rankDistribution r c 0).length = r + 2 :=
  ⟨rankDistribution_sum_any r c 0, by simp [rankDistribution, rankRes_length]⟩

/-! ## Non-vacuity -/

example : rankDistribution 3 3 2 = [21 / 64, 147 / 256, 25 / 256] ∧ 1 ≤ 2 ∧ 2 ≤ 3 + 1 := by decide +kernel
example : rankRes 2 3 = [1 / 64, 21 / 64, 21 / 32] := by decide +kernel

end Paranoid.C12RankSum
