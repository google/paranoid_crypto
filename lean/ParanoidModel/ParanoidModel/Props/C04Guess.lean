/-
Props/C04Guess.lean — third sentence of C04 (guess-based families), COMPLETENESS for the repaired
`FactorWithGuess` (fix bc0d52f: every convergent with `u·v ≤ n^(1/3)` is tried).

"q is the next prime after p + D" / "a prime within a prime gap of a listed output" is not a
statement Lean can use (it would need a bound on prime gaps); it is replaced by an explicit
GAP BOUND `g ≤ G(L)`:

    GapOK L g  :=  (g + 2)² · 2^12 ≤ 2^(L/2)        (g + 2 ≤ 2^(L/4 − 6);  L = 384: g < 2^90)

Prime gaps near 2^384 … 2^2048 are below 2^13 in practice (largest known maximal gaps are
`< 2^11`; Cramér's heuristic `ln² x ≈ 2^21` for 2048-bit x), so every real member of the two
families satisfies `GapOK` with > 60 bits to spare.  The bound is what a Lehman-type worst-case
argument gives for ONE Fermat step per convergent: `|p0 − P| ≲ n^(1/8)`; experimentally random
members are factored up to `≈ n^(1/6)` (first misses at `|p0 − P| ≈ 2^(L/3)`), so beyond
`GapOK` the real code may or may not succeed — that region is sampled (statistics only) by
harness/corr/c04.py.

FLOAT ORACLE.  `bound = int((n >> 3·shift) ** (1/3)) << shift` is an explicit argument; the
theorems hold for EVERY value with `CbrtOK n cbrt`: `n ≤ 8·bound³ ∧ 16·bound³ ≤ 81·n`, i.e.
`bound ∈ [0.5, 1.717] · n^(1/3)`.  The real expression gives `bound³/n ∈ [1 − 6·10^-13, 1]` on
3000 random n of 128 … 4096 bits (c04.py re-checks `CbrtOK` on every modulus it sends, op
`cbrt-oracle`).  Outside `CbrtOK`: a `bound` below `n^(1/4)` makes no convergent admissible (returns
`None`), a `bound` above `1.717·n^(1/3)` can let a failing convergent with `u·v > n^(1/3)` pass.

PRIMALITY is not needed for factor recovery: the theorems hold for any `L`-bit `p`, `q`
(not even coprime or odd) and return a proper split `[g, n/g]`, `1 < g < n`, `g ∣ n`
(`…_complete`); for primes that split is `{p, q}` (`…_primes`).

No hypothesis on the convergent sequence: the proof (Proofs/FwgCompleteLoop.lean) is an induction
over Euclid's algorithm on `(p0, q0)` showing that the remainder stays `≥ 2^(L/2)` until a
convergent succeeds, that every failing admissible convergent before it has `u·v ≤ bound`, and
that the last convergent (remainder 0) cannot fail.  All six differences are covered by the same
argument (`D = 2^(L-2), 2^(L-3)`, where `p/q ∈ (2/3, 8/9)`, need nothing special: the successful
convergent is whichever one first has `(uQ − vP)² < 2(uQ + vP) − 1`).
-/
import ParanoidModel.Proofs.FwgCompleteFamilies

namespace Paranoid.C04Guess
open Paranoid Paranoid.FwgC

def GapOK (L g : Nat) : Prop := (g + 2) ^ 2 * 2 ^ 12 ≤ 2 ^ (L / 2)

instance (L g : Nat) : Decidable (GapOK L g) := by unfold GapOK; infer_instance

/-- closed form of the largest admissible gap (exact when `4 ∣ L`). -/
def gapBound (L : Nat) : Nat := 2 ^ (L / 4 - 6) - 2

theorem gapOK_mono {L g g' : Nat} (h : g ≤ g') (hg : GapOK L g') : GapOK L g := by
  unfold GapOK at *
  have : (g + 2) ^ 2 ≤ (g' + 2) ^ 2 := Nat.pow_le_pow_left (by omega) 2
  exact le_trans (Nat.mul_le_mul_right _ this) hg

theorem gapOK_of_le_gapBound {L g : Nat} (hL : 28 ≤ L) (h : g ≤ gapBound L) : GapOK L g := by
  apply gapOK_mono h
  unfold GapOK gapBound
  have h1 : 2 ≤ 2 ^ (L / 4 - 6) := by
    calc 2 = 2 ^ 1 := by norm_num
      _ ≤ 2 ^ (L / 4 - 6) := Nat.pow_le_pow_right (by omega) (by omega)
  rw [show 2 ^ (L / 4 - 6) - 2 + 2 = 2 ^ (L / 4 - 6) by omega, ← pow_mul, ← pow_add]
  exact Nat.pow_le_pow_right (by omega) (by omega)

/-- **`FactorWithGuess`, completeness.** `P`, `Q` any `L`-bit numbers, `n = P·Q`, a guess `p0`
within `E` of `P` with `GapOK L E`, every admissible oracle value: the repaired function returns
a proper split of `n`. -/
theorem fwg_complete (L P Q p0 E cbrt : Nat)
    (hP1 : 2 ^ (L - 1) ≤ P) (hP2 : P < 2 ^ L) (hQ1 : 2 ^ (L - 1) ≤ Q) (hQ2 : Q < 2 ^ L)
    (hE : GapOK L E) (hE1 : p0 ≤ P + E) (hE2 : P ≤ p0 + E) (horc : CbrtOK (P * Q) cbrt) :
    ∃ fs, factorWithGuess (P * Q) p0 cbrt = .ok (some fs) ∧ ProperSplit (P * Q) fs :=
  fwg_complete_sized L P Q p0 E cbrt hP1 hP2 hQ1 hQ2 hE hE1 hE2 horc

theorem sud_difference_even {L D : Nat} (hL : 257 ≤ L) (hD : D ∈ sudDifferences L) :
    ∃ k, D = 2 * k := by
  -- every difference is `2 ^ (L - j)` with `j ≤ 256 < L`
  obtain ⟨j, hj, rfl⟩ : ∃ j ∈ [100, 128, 160, 256, 2, 3], 2 ^ (L - j) = D := List.mem_map.mp hD
  have : j ≤ 256 := (by decide : ∀ j ∈ [100, 128, 160, 256, 2, 3], j ≤ 256) j hj
  exact ⟨2 ^ (L - j - 1), by rw [← Nat.pow_succ']; congr 1; omega⟩

/-- **(A) `sud_complete`.** `p < q` any two `L`-bit numbers, `L ≥ 384`, `D` one of the six
documented differences for that `L`, `q = p + D + g` with `GapOK L g`: for every admissible value
of the float oracle `CheckSmallUpperDifferences(p·q)` returns a proper split of `p·q`. -/
theorem sud_complete (L p q D g cbrt : Nat) (hL : 384 ≤ L)
    (hp1 : 2 ^ (L - 1) ≤ p) (hp2 : p < 2 ^ L) (hq1 : 2 ^ (L - 1) ≤ q) (hq2 : q < 2 ^ L)
    (hD : D ∈ sudDifferences L) (hq : q = p + D + g) (hg : GapOK L g)
    (horc : CbrtOK (p * q) cbrt) :
    ∃ fs, checkSmallUpperDifferences (p * q) cbrt = .ok (some fs) ∧ ProperSplit (p * q) fs := by
  obtain ⟨k, rfl⟩ := sud_difference_even (by omega) hD
  have hps := primeSize_eq L p q (by omega) hp1 hp2 hq1 hq2
  have hnear := sudGuess_near p k g
  rw [← hq] at hnear
  have hn : 0 < p * q := by
    have : 0 < 2 ^ (L - 1) := Nat.pow_pos (by omega)
    exact Nat.mul_pos (by omega) (by omega)
  have horc' : CbrtOK (q * p) cbrt := by rw [Nat.mul_comm]; exact horc
  obtain ⟨fs, hfs, _⟩ := fwg_complete L q p (sudGuess (p * q) (2 * k)) g cbrt hq1 hq2 hp1 hp2 hg
    (by omega) (by omega) horc'
  rw [Nat.mul_comm q p] at hfs
  unfold checkSmallUpperDifferences
  simp only [hps]
  rw [if_neg (by omega)]
  exact sudLoop_complete (p * q) cbrt hn (2 * k) fs hfs _ hD

/-- (A) for primes: both primes are returned. -/
theorem sud_complete_primes (L p q D g cbrt : Nat) (hL : 384 ≤ L) (hp : p.Prime) (hqp : q.Prime)
    (hp1 : 2 ^ (L - 1) ≤ p) (hq2 : q < 2 ^ L)
    (hD : D ∈ sudDifferences L) (hq : q = p + D + g) (hg : GapOK L g)
    (horc : CbrtOK (p * q) cbrt) :
    checkSmallUpperDifferences (p * q) cbrt = .ok (some [p, q]) ∨
      checkSmallUpperDifferences (p * q) cbrt = .ok (some [q, p]) := by
  obtain ⟨fs, h, hs⟩ := sud_complete L p q D g cbrt hL hp1 (by omega) (by omega) hq2 hD hq hg horc
  rcases properSplit_primes hp hqp hs with rfl | rfl
  · exact Or.inl h
  · exact Or.inr h

/-- (A) at check level: `CheckSmallUpperDifferences.Check` flags the key and records the split. -/
theorem sud_check_complete (L p q D g cbrt : Nat) (hL : 384 ≤ L)
    (hp1 : 2 ^ (L - 1) ≤ p) (hp2 : p < 2 ^ L) (hq1 : 2 ^ (L - 1) ≤ q) (hq2 : q < 2 ^ L)
    (hD : D ∈ sudDifferences L) (hq : q = p + D + g) (hg : GapOK L g)
    (horc : CbrtOK (p * q) cbrt) :
    ∃ fs, vSud (p * q) cbrt = .ok ⟨true, fs, false⟩ ∧ ProperSplit (p * q) fs := by
  obtain ⟨fs, h, hs⟩ := sud_complete L p q D g cbrt hL hp1 hp2 hq1 hq2 hD hq hg horc
  obtain ⟨g', rfl, _⟩ := hs
  refine ⟨_, ?_, ⟨g', rfl, by assumption⟩⟩
  unfold vSud
  rw [h]

/-- **(B) `unseeded_complete`.** `p` within `[x, x + G]` of a candidate `x` that
`CheckUnseededRand` tries (a listed output or one of its two msb variants — `cands` is the
flattened sequence the check iterates over, none of them 0), `GapOK L G`, `q` any `L`-bit
cofactor: the check flags the key and records a proper split, for every admissible oracle value. -/
theorem unseeded_complete (L p q x G cbrt : Nat) (cands : List Nat)
    (hp1 : 2 ^ (L - 1) ≤ p) (hp2 : p < 2 ^ L) (hq1 : 2 ^ (L - 1) ≤ q) (hq2 : q < 2 ^ L)
    (hx : x ∈ cands) (hnz : ∀ c ∈ cands, c ≠ 0) (hxp : x ≤ p) (hpx : p ≤ x + G) (hG : GapOK L G)
    (horc : CbrtOK (p * q) cbrt) :
    ∃ fs, vUnseeded (p * q) cbrt cands = .ok ⟨true, fs, false⟩ ∧ ProperSplit (p * q) fs := by
  obtain ⟨fs, hfs, _⟩ := fwg_complete L p q x G cbrt hp1 hp2 hq1 hq2 hG (by omega) (by omega) horc
  exact unseededLoop_complete (p * q) cbrt x fs hfs cands hnz hx

/-- (B) for primes: both primes are recorded. -/
theorem unseeded_complete_primes (L p q x G cbrt : Nat) (cands : List Nat)
    (hp : p.Prime) (hqp : q.Prime)
    (hp1 : 2 ^ (L - 1) ≤ p) (hp2 : p < 2 ^ L) (hq1 : 2 ^ (L - 1) ≤ q) (hq2 : q < 2 ^ L)
    (hx : x ∈ cands) (hnz : ∀ c ∈ cands, c ≠ 0) (hxp : x ≤ p) (hpx : p ≤ x + G) (hG : GapOK L G)
    (horc : CbrtOK (p * q) cbrt) :
    vUnseeded (p * q) cbrt cands = .ok ⟨true, [p, q], false⟩ ∨
      vUnseeded (p * q) cbrt cands = .ok ⟨true, [q, p], false⟩ := by
  obtain ⟨fs, h, hs⟩ := unseeded_complete L p q x G cbrt cands hp1 hp2 hq1 hq2 hx hnz hxp hpx hG horc
  rcases properSplit_primes hp hqp hs with rfl | rfl
  · exact Or.inl h
  · exact Or.inr h

/-- the documented msb variants of a listed output are among the values tried. -/
theorem variants_mem (n p0 : Nat) :
    p0 ∈ unseededVariants n p0 ∧
    (p0 ||| 2 ^ ((bitLength n + 1) / 2 - 1)) ∈ unseededVariants n p0 ∧
    (p0 ||| (2 ^ ((bitLength n + 1) / 2 - 1) ||| 2 ^ ((bitLength n + 1) / 2 - 2))) ∈
      unseededVariants n p0 := by
  simp [unseededVariants]

/-! ### Non-vacuity: real 768/1024-bit members (kernel-checked hypotheses).

`exP`, `exQ = next_prime(exP + 2^284)` are 384-bit primes (gmpy2; primality is not a hypothesis
of `sud_complete`), gap `g = 126`; `exP2`, `exQ2` a member for `D = 2^(L-2)` at the far end of
the gap bound (`g ≈ 2^89`); `exX` is the first 512-bit entry of the shipped 512-bit
unseeded-output table, `exP3 = next_prime(exX)` (gap 426), `exQ3` a random 512-bit prime.
The oracle values are the ones the real float expression returns. -/

def exP : Nat := 28338541162182932974829969125411287483968948220394556338552803126843652558550087648242744320538022771922850861886551
def exQ : Nat := 28338541162182932974829969125442370186244559885529267729061979429349931067974921880582773319093845240486134197857493
def exP2 : Nat := 28765986586431797000005180324879951165386075355844401793434804491700462134798419601669108844650938760584364473769559
def exQ2 : Nat := 38616488135530416803074940349915854616656010173460763460421877842761892577672722254522676027342187313476158920908597
def exX : Nat := 6825080171790613346706136283526557486078685663303362168350859239409210347648910642862340973331389357951713058161117316436625479619088945933106964728425863
def exP3 : Nat := 6825080171790613346706136283526557486078685663303362168350859239409210347648910642862340973331389357951713058161117316436625479619088945933106964728426289
def exQ3 : Nat := 12389925134805916985451036236557730816193273840722430697575847711929719827110701449393603416996331941897749576480003219901523341298876468530527541084286223

example : ∃ fs, checkSmallUpperDifferences (exP * exQ) 3615201796985306 = .ok (some fs) ∧
    ProperSplit (exP * exQ) fs :=
  sud_complete 384 exP exQ (2 ^ (384 - 100)) 126 3615201796985306 (by decide)
    (by decide +kernel) (by decide +kernel) (by decide +kernel) (by decide +kernel)
    (by decide +kernel) (by decide +kernel) (by decide +kernel) (by decide +kernel)

example : ∃ fs, checkSmallUpperDifferences (exP2 * exQ2) 4028081363164262 = .ok (some fs) ∧
    ProperSplit (exP2 * exQ2) fs :=
  sud_complete 384 exP2 exQ2 (2 ^ (384 - 2)) 618970019642690137449562334 4028081363164262 (by decide)
    (by decide +kernel) (by decide +kernel) (by decide +kernel) (by decide +kernel)
    (by decide +kernel) (by decide +kernel) (by decide +kernel) (by decide +kernel)

example : ∃ fs, vUnseeded (exP3 * exQ3) 4412893024483688 [7, exX, exX ||| 2 ^ 511] =
    .ok ⟨true, fs, false⟩ ∧ ProperSplit (exP3 * exQ3) fs :=
  unseeded_complete 512 exP3 exQ3 exX 426 4412893024483688 [7, exX, exX ||| 2 ^ 511]
    (by decide +kernel) (by decide +kernel) (by decide +kernel) (by decide +kernel)
    (by decide +kernel) (by decide +kernel) (by decide +kernel) (by decide +kernel)
    (by decide +kernel) (by decide +kernel)

/-- the model evaluated on the first member agrees (both primes, as the real code returns them). -/
example : checkSmallUpperDifferences (exP * exQ) 3615201796985306 = .ok (some [exP, exQ]) := by
  decide +kernel

/-- the gap bound at the documented sizes: `g + 2 ≤ 2^(L/4 − 6)`. -/
example : gapBound 384 = 2 ^ 90 - 2 ∧ gapBound 512 = 2 ^ 122 - 2 ∧ gapBound 1024 = 2 ^ 250 - 2 ∧
    gapBound 2048 = 2 ^ 506 - 2 := by decide +kernel
example : GapOK 384 (2 ^ 90 - 2) ∧ ¬ GapOK 384 (2 ^ 90 - 1) := by decide +kernel

end Paranoid.C04Guess
