/-
Props/C10.lean — "Small and structured discrete logarithms are always found", together with the
elliptic-curve half of C02 ("every recorded discrete log / key relation is true").
Property theorems only; helper lemmas live in Proofs/Bsgs*.lean.

Setting. Model/Bsgs.lean mirrors `EcCurve.BatchDL`, `ExtendedBatchDL`, `BatchDLOfDifferences` with
the mutable attributes `_table`, `_table_size` as explicit state `EcState`, and the values of
`int(math.sqrt(·))` as explicit arguments (`ts` = requested table size, `m` = PointTable split).
The specification is Mathlib's group `(W c).Point` through `toPoint` (Props/C11.lean);
`Gp c = toPoint c c.g` is the generator. Hypotheses on the curve object: `[Fact c.p.Prime]` and
`ValidCurve c` (both follow from the kernel-evaluated `paramsOK` for the nine named curves, see
`valid_of_paramsOK`); where stated, `addOrderOf G = n` (C11.generator_of_paramsOK: from `n` prime).

Every theorem quantifies over ALL point lists, bounds, oracle values and — through `StateOK` /
`TableIs` — all states left behind by earlier calls.
-/
import ParanoidModel.Proofs.BsgsCurves
import ParanoidModel.Proofs.BsgsFast
import ParanoidModel.Proofs.BsgsCheckLoop
import ParanoidModel.Proofs.BsgsDiffExactCheck
import ParanoidModel.Proofs.EcTotalComplete
namespace Paranoid.C10
open Paranoid Paranoid.Ec Paranoid.Bsgs WeierstrassCurve

section
variable (c : Curve) [Fact (Nat.Prime c.p)]

/-! ### BatchDL -/

/-- ★ `batchDL_sound` (C02). For EVERY state (even a corrupted table), bound, oracle value and point
list (points on the curve or not): every entry `some v` of the answer satisfies `v • G = P`. Covers
both branches `res[i] = dl` (`y[1] == p[1]`) and `res[i] = -dl` (`y[1] == -p[1] % mod`). -/
theorem batchDL_sound (hv : ValidCurve c) (st : EcState) (points : List Pt) (n ts m : Nat)
    (res : List (Option Int)) (st' : EcState) (h : batchDL c st points n ts m = .ok (res, st')) :
    List.Forall₂ (fun P r => ∀ v, r = some v → v • Gp c = toPoint c P) points res :=
  Bsgs.batchDL_sound c hv.good hv.gOn st points n ts m res st' h

/-- ★ `batchDL_complete`. For every state satisfying the table invariant `StateOK` (the cached table
may be larger OR smaller than the requested one; `history_stateOK` shows every reachable state
satisfies it), every requested table size `ts ≥ 1` (so: whatever `int(math.sqrt(n·len))` returned —
and `t = 2·ts - 1` is computed from the REQUESTED size also when a larger cached table is kept),
every split `m ≥ 1` if the table is rebuilt, every list of on-curve points of any length:
the call does not raise; the new state satisfies the invariant with size `max(old, ts)` and is the
old state when no rebuild was needed; and for every reduced point `P = x • G` with `0 ≤ x < n` the
entry is `some v` with `v • G = P`. It is `x` itself under the no-wrap condition
`2·n + (2·ts - 1) + V' ≤ N`, `V' = rangeAfter …` = number of multiples of `G` in the table in use
(`ceil(ts/m)·m` after a rebuild), when `G` has order `N`. -/
theorem batchDL_complete (hv : ValidCurve c) (st : EcState) (V : Nat) (hst : StateOK c st V)
    (points : List Pt) (hpts : ∀ P ∈ points, onCurve c P = true) (n ts m : Nat) (hts : 1 ≤ ts)
    (hm : st.tableSize < ts → 1 ≤ m) :
    ∃ res st', batchDL c st points n ts m = .ok (res, st') ∧
      StateOK c st' (rangeAfter st V ts m) ∧ st'.tableSize = max st.tableSize ts ∧
      (ts ≤ st.tableSize → st' = st) ∧
      List.Forall₂ (fun P r => ∀ x : Nat, Reduced c P → x < n → toPoint c P = x • Gp c →
        ∃ v : Int, r = some v ∧ v • Gp c = toPoint c P ∧
          (addOrderOf (Gp c) = c.n → 2 * n + (2 * ts - 1) + rangeAfter st V ts m ≤ c.n →
            v = (x : Int))) points res :=
  Bsgs.batchDL_complete c hv.good hv.gOn hv.gRed st V hst points hpts n ts m hts hm

omit [Fact (Nat.Prime c.p)] in
/-- the empty list: `table_size = int(sqrt(0)) = 0`, `t = -1`, `giant_steps = 2 - n ≤ 0` for
`n ≥ 2`, and `PointSequence` raises IndexError (the checks guard with `if not keys: continue`). -/
theorem batchDL_empty_raises (st : EcState) (n m : Nat) (hn : 2 ≤ n) :
    batchDL c st [] n 0 m = .error .indexError := by
  have h1 : multiply c c.g (-(2 * ((0 : Nat) : Int) - 1)) = .ok c.g := by
    simp [Curve.g, multiply, multiplyNat]
  have h2 : (2 + Int.fdiv (n : Int) (2 * ((0 : Nat) : Int) - 1)) ≤ 0 := by
    have : Int.fdiv (n : Int) (2 * ((0 : Nat) : Int) - 1) = -(n : Int) := by
      simp [Int.fdiv_eq_ediv_of_dvd]
    omega
  simp only [batchDL, batchDLG, ensureTableG, Nat.not_lt_zero, gt_iff_lt, if_false, batchDLCore, h1,
    pointSequenceI, if_pos h2]

/-! ### ExtendedBatchDL -/

/-- ★ `extendedBatchDL_sound` (C02). For every state, oracle value and point list: if the point at
position `i` is on the curve and `N • P = 0` (a valid public key: in the subgroup), the recorded
value `v` — which is `int(dlog · multiplier)`, unreduced and possibly negative, for the LAST
multiplier in list order whose transformed point `multiplier⁻¹ • P` has a log found by BatchDL —
satisfies `v • G = P`. -/
theorem extendedBatchDL_sound (hv : ValidCurve c) (hn : 2 ≤ c.n) (st : EcState) (points : List Pt)
    (ts m : Nat) (res : List (Option Int)) (st' : EcState)
    (h : extendedBatchDL c st points ts m = .ok (res, st'))
    (i : Nat) (P : Pt) (v : Int) (hP : points[i]? = some P) (hon : onCurve c P = true)
    (hN : c.n • toPoint c P = 0) (hres : res[i]? = some (some v)) : v • Gp c = toPoint c P :=
  extendedBatchDLB_sound c hv.good hv.gOn hn (2 ^ 32) st points ts m res st' h i P v hP hon hN hres

/-- ★ `extended_complete`. Valid curve with `N • G = 0` and every multiplier invertible mod `N`
(`valid_of_paramsOK`, `named_multipliers_invertible` for the named curves; true for every odd
prime `N` not dividing a repunit); any state satisfying the invariant; any `ts ≥ 1`; any list of
on-curve points. The call does not raise, and a reduced point `P = d • G` whose private key is
`d = i·2^(8j)` (`i < 2^32`, `8j + 32 ≤ bits`, i.e. `j ∈ range(0, bits - 31, 8)/8`) or
`d = i·(2^(32r) - 1)/(2^32 - 1)` (`i < 2^32`, `2 ≤ r ≤ bits // 32`: the 32-bit word `i` repeated `r`
times) is recorded with a value `v` such that `v • G = P`; with `G` of order `N` this is
`v ≡ d (mod N)`. (`v` is not reduced: on curves with `N < 2^32 + …` it can differ from `d`.) -/
theorem extended_complete (hv : ValidCurve c) (hn : 2 ≤ c.n) (hNG : c.n • Gp c = 0)
    (hmu : MultipliersOK c) (st : EcState) (V : Nat) (hst : StateOK c st V) (points : List Pt)
    (hpts : ∀ P ∈ points, onCurve c P = true) (ts m : Nat) (hts : 1 ≤ ts)
    (hm : st.tableSize < ts → 1 ≤ m) :
    ∃ res st', extendedBatchDL c st points ts m = .ok (res, st') ∧
      StateOK c st' (rangeAfter st V ts m) ∧ st'.tableSize = max st.tableSize ts ∧
      res.length = points.length ∧
      ∀ (k : Nat) (P : Pt) (d i : Nat), points[k]? = some P → Reduced c P →
        toPoint c P = d • Gp c → i < 2 ^ 32 →
        ((∃ j, 8 * j + 32 ≤ bitLength c.n ∧ d = i * 2 ^ (8 * j)) ∨
         (∃ r, 2 ≤ r ∧ r ≤ bitLength c.n / 32 ∧ d = i * ((2 ^ (32 * r) - 1) / (2 ^ 32 - 1)))) →
        ∃ v : Int, res[k]? = some (some v) ∧ v • Gp c = toPoint c P ∧
          (addOrderOf (Gp c) = c.n → (v - d) % (c.n : Int) = 0) := by
  obtain ⟨res, st', h1, h2, h3, h4, h5⟩ := extendedBatchDLB_complete c hv.good hv.gOn hv.gRed hn hNG
    hmu (2 ^ 32) st V hst points hpts ts m hts hm
  refine ⟨res, st', h1, h2, h3, h4, fun k P d i hP hPr hPd hi hform => ?_⟩
  obtain ⟨mu, hmem, hd⟩ := StructuredKey.mult hform
  obtain ⟨v, hv1, hv2⟩ := h5 k P d i mu hP hPr hPd hmem hd hi
  exact ⟨v, hv1, hv2, fun hord => dlog_emod c hord (by rw [hv2, hPd, natCast_zsmul])⟩

end

/-- the hypothesis `N • P = 0` of `extendedBatchDL_sound` is needed. Curve `y² = x³ + x` over
`p = 4N - 1`, subgroup of prime order `N = 1042515029291` (40 bits, cofactor 4); the 2-torsion point
`(0, 0)` is on the curve but not in the subgroup (`N • P = P ≠ ∞`); ExtendedBatchDL (here with the
literal `2**32` replaced by 4 so that the kernel can evaluate it; the real function returns the same
`[0]` for this point, see the note in evidence/C10.json) records the value `0`, and `0 • G = ∞ ≠ P`:
the multiplier `2^8` has an even inverse, which sends `P` to ∞, for which BatchDL answers `0`. -/
def ssCurve : Curve := ⟨1, 0, 4170060117163, 775860970346, 1419880254231, 1042515029291, 4⟩

theorem extended_needs_subgroup :
    onCurve ssCurve (.aff 0 0) = true ∧
    multiply ssCurve (.aff 0 0) ssCurve.n = .ok (.aff 0 0) ∧
    ((extendedBatchDLB listImpl ssCurve 4 (StateG.init listImpl) [.aff 0 0] 2 1).toOption.map Prod.fst)
      = some [some 0] ∧
    multiply ssCurve ssCurve.g 0 = .ok .inf ∧
    onCurve ssCurve ssCurve.g = true ∧ multiply ssCurve ssCurve.g ssCurve.n = .ok .inf := by
  decide +kernel

section
variable (c : Curve) [Fact (Nat.Prime c.p)]

/-! ### BatchDLOfDifferences -/

/-- ★ `diff_sound` (C02). All points of the call on the curve; every state, `max_diff`, oracle value.
Every relation `(Q, k)` recorded for the key at position `i` — the structured form of the string
`"key - (%x, %x) = %d * G"` — names (a representative of) ANOTHER key `Q` of the call
(`other_points ++ points`, position `≠ len(other) + i`), with `P ≠ Q` and `P - Q = k • G`. The
mirrored entry recorded for `Q` is the same statement with `Q - P = (-k) • G`. -/
theorem diff_sound (hv : ValidCurve c) (st : EcState) (points other : List Pt)
    (hL : ∀ Q ∈ other ++ points, onCurve c Q = true) (maxDiff m : Nat)
    (res : List (Option Rel)) (st' : EcState)
    (h : batchDLOfDifferences c st points other maxDiff m = .ok (res, st'))
    (i : Nat) (r : Rel) (hr : res[i]? = some (some r)) :
    ∃ P j Q, points[i]? = some P ∧ (other ++ points)[j]? = some Q ∧ j ≠ other.length + i ∧
      onCurve c (.aff r.qx r.qy) = true ∧ toPoint c (.aff r.qx r.qy) = toPoint c Q ∧
      toPoint c P - toPoint c Q = r.dl • Gp c ∧ toPoint c P ≠ toPoint c Q :=
  batchDLOfDifferences_sound c hv.good hv.gOn st points other hL maxDiff m res st' h i r hr

/-- identical keys are not flagged (the `if x is None: continue` skip): a key all of whose
companions are the same group element carries no relation. -/
theorem diff_identical_not_flagged (hv : ValidCurve c) (st : EcState) (points other : List Pt)
    (hL : ∀ Q ∈ other ++ points, onCurve c Q = true) (maxDiff m : Nat)
    (res : List (Option Rel)) (st' : EcState)
    (h : batchDLOfDifferences c st points other maxDiff m = .ok (res, st'))
    (i : Nat) (P : Pt) (hP : points[i]? = some P)
    (hsame : ∀ Q ∈ other ++ points, toPoint c Q = toPoint c P) : ¬ Flagged res i := by
  rintro ⟨r, hr⟩
  obtain ⟨P', j, Q, hP', hQ, _, _, _, _, hne⟩ := diff_sound c hv st points other hL maxDiff m res st' h i r hr
  rw [hP] at hP'; cases hP'
  exact hne (hsame Q (List.mem_of_getElem? hQ)).symm

/-- ★ `diff_complete`. All points of the call finite, reduced, on the curve; any state satisfying
the invariant; `m ≥ 1` if the table is rebuilt. The call does not raise, the state keeps the
invariant, and EVERY key `P` of `points` for which some other key `Q` of the call (in `points` or in
`other_points`) has `P ≠ Q` and `P - Q = k • G` with `|k| < max(cached table size, max_diff)` is
flagged — hence both keys of such a pair inside `points`. -/
theorem diff_complete (hv : ValidCurve c) (st : EcState) (V : Nat) (hst : StateOK c st V)
    (points other : List Pt) (hL : ∀ Q ∈ other ++ points, GoodPt c Q) (maxDiff m : Nat)
    (hm : st.tableSize < maxDiff → 1 ≤ m) :
    ∃ res st', batchDLOfDifferences c st points other maxDiff m = .ok (res, st') ∧
      res.length = points.length ∧ (∃ V', StateOK c st' V') ∧
      (st'.tableSize = st.tableSize ∨ st'.tableSize = max st.tableSize maxDiff) ∧
      ∀ (i j : Nat) (P Q : Pt), points[i]? = some P → (other ++ points)[j]? = some Q →
        j ≠ other.length + i → toPoint c P ≠ toPoint c Q →
        (∃ k : Int, toPoint c P - toPoint c Q = k • Gp c ∧ k.natAbs < max st.tableSize maxDiff) →
        Flagged res i := by
  obtain ⟨res, st', h1, h2, h3, h4, h5⟩ := batchDLOfDifferences_complete c hv.good hv.gOn hv.gRed st V
    hst points other hL maxDiff m hm
  exact ⟨res, st', h1, h2, h3, h4, fun i j P Q hP hQ hj hne hk => h5 i j P Q hP hQ hj ⟨hne, hk⟩⟩

/-! ### every history of earlier calls on the same curve object -/

omit [Fact (Nat.Prime c.p)] in
/-- ★ `history_invariant`. After ANY sequence of BatchDL / ExtendedBatchDL / BatchDLOfDifferences
calls (none of which raised) on a freshly constructed curve object, any arguments and oracle
values: `_table` is `{}` with `_table_size = 0`, or it is exactly `PointTable(g, _table_size)`
(`_table_size` never decreases: `history_size_monotone`). -/
theorem history_invariant (ops : List Op) (st : EcState)
    (h : runOps c (StateG.init listImpl) ops = .ok st) : TableIs c st :=
  (runOps_tableIs c ops (tableIs_init c) h).1

omit [Fact (Nat.Prime c.p)] in
theorem history_size_monotone (ops : List Op) (st st' : EcState) (hst : TableIs c st)
    (h : runOps c st ops = .ok st') : TableIs c st' ∧ st.tableSize ≤ st'.tableSize :=
  runOps_tableIs c ops hst h

/-- … and that invariant is what the completeness theorems ask of the state. -/
theorem history_stateOK (hv : ValidCurve c) (ops : List Op) (st : EcState)
    (h : runOps c (StateG.init listImpl) ops = .ok st) : ∃ V, StateOK c st V :=
  stateOK_of_tableIs c hv.good hv.gOn (history_invariant c ops st h)

/-- ★ `history_monotone`. Whatever was called before on the same curve object, BatchDL finds what it
is guaranteed to find from the fresh state: after any history, for any bound `n`, requested size
`ts ≥ 1` and on-curve point list, the call does not raise and every reduced `P = x • G` with
`0 ≤ x < n` gets an entry `some v`, `v • G = P`. (Same for `extended_complete` / `diff_complete`
through `history_stateOK`.) -/
theorem history_monotone (hv : ValidCurve c) (ops : List Op) (st : EcState)
    (h : runOps c (StateG.init listImpl) ops = .ok st) (points : List Pt)
    (hpts : ∀ P ∈ points, onCurve c P = true) (n ts m : Nat) (hts : 1 ≤ ts)
    (hm : st.tableSize < ts → 1 ≤ m) :
    ∃ res st', batchDL c st points n ts m = .ok (res, st') ∧ TableIs c st' ∧
      List.Forall₂ (fun P r => ∀ x : Nat, Reduced c P → x < n → toPoint c P = x • Gp c →
        ∃ v : Int, r = some v ∧ v • Gp c = toPoint c P) points res := by
  obtain ⟨V, hV⟩ := history_stateOK c hv ops st h
  obtain ⟨res, st', h1, _, _, _, h5⟩ := batchDL_complete c hv st V hV points hpts n ts m hts hm
  refine ⟨res, st', h1, (runOp_tableIs c (history_invariant c ops st h) (.dl points n ts m)
    (by rw [runOp, h1]; rfl)).1, h5.imp ?_⟩
  intro P r hr x hPr hx hPx
  obtain ⟨v, a, b, _⟩ := hr x hPr hx hPx
  exact ⟨v, a, b⟩

/-- the literal superset statement — "every entry found from the fresh state is found from every
later state" for the SAME call — is NOT asserted: for an arbitrary value of the PointTable split `m`
a table of requested size `ts` also holds the `ceil(ts/m)·m - ts` multiples beyond `ts`, a later
(larger) table built with another split may lack some of them, and a log outside `[0, n)` that was
found through such an entry can then be missed. With the real `m = int(math.sqrt(ts))` the covered
range is monotone in `ts`; that is a statement about floats and stays outside the theorems
(`history_superset_fails_for_some_split` is the kernel-checked counter-example for a split that the
float would not produce). What IS proved is `history_monotone`: everything BatchDL guarantees from the fresh state it guarantees
from every later state. (harness/corr/c10.py compares fresh / after-small / after-large answers on
the implementation exhaustively on toy curves.) -/
def history_superset : Prop :=
  ∀ (ops : List Op) (st : EcState), runOps c (StateG.init listImpl) ops = .ok st →
  ∀ (points : List Pt) (n ts m : Nat) (res0 res : List (Option Int)) (st0 st' : EcState),
    batchDL c (StateG.init listImpl) points n ts m = .ok (res0, st0) →
    batchDL c st points n ts m = .ok (res, st') →
    List.Forall₂ (fun r0 r => r0.isSome → r.isSome) res0 res

/-! ### the nine named curves -/

/-- a curve passing the kernel-evaluated parameter check (all nine named curves, `C11.*_params`)
satisfies the hypotheses used above. -/
theorem valid_of_paramsOK (h : c.paramsOK = true) :
    ValidCurve c ∧ 2 ≤ c.n ∧ c.n • Gp c = 0 ∧ (Nat.Prime c.n → addOrderOf (Gp c) = c.n) := by
  obtain ⟨h1, h2, _, h4, _, h6⟩ := generator_of_paramsOK c h
  obtain ⟨h7, h8⟩ := reduced_of_paramsOK c h
  exact ⟨⟨h1, h2, h7⟩, h8, h4, h6⟩

end

/-- every ExtendedBatchDL multiplier is invertible modulo the group order of each named curve, so
`gmpy.invert` never raises there (kernel-evaluated gcds on the regenerated constants). -/
theorem named_multipliers_invertible :
    MultipliersOK secp256r1 ∧ MultipliersOK secp384r1 ∧ MultipliersOK secp192r1 ∧
    MultipliersOK secp224r1 ∧ MultipliersOK secp521r1 ∧ MultipliersOK secp256k1 ∧
    MultipliersOK brainpoolP256r1 ∧ MultipliersOK brainpoolP384r1 ∧ MultipliersOK brainpoolP512r1 :=
  forall_named.1 fun c hc => multipliersOK_of_b (named_multipliersOK c hc)

/-- the multiplier list is exactly the one of the property: `2^(8j)` for `8j ≤ bits - 32` and the
repunits `(2^(32r) - 1)/(2^32 - 1)` for `2 ≤ r ≤ bits // 32`. -/
theorem multipliers_spec (c : Curve) : extMultipliers c =
    (List.range ((bitLength c.n - 31 + 7) / 8)).map (fun k => 2 ^ (8 * k)) ++
    (List.range (bitLength c.n / 32 + 1 - 2)).map (fun k => (2 ^ (32 * (k + 2)) - 1) / (2 ^ 32 - 1)) := by
  rw [extMultipliers, List.map_congr_left fun k _ => repUnit_eq (k + 2)]

/-! ### check level: CheckWeakECPrivateKey, CheckECKeySmallDifference

`f` is `CURVE_FACTORY.items()` (unique ids), `sts` the `_table` state of each curve object, `orc` /
`ms` the float-oracle values of each curve's search. `WKHyp` / `SDHyp` say, entry by entry: the
curve object satisfies `CurveHyp` (field prime, `paramsOK`, invertible multipliers —
`curve_factory_hyp` for the regenerated factory), its state is reachable (`TableIs`), the keys of
its batch are on the curve (for the difference check also reduced), oracle values `≥ 1` where a
table is (re)built. Keys of every curve are interleaved arbitrarily in `keys`. -/

/-- ★ CheckWeakECPrivateKey. The check does not raise; keys whose curve type is unknown / `None`
get no result; every other key gets a result `kv` with `WeakKeyOK`: `result` is true exactly when a
`DISCRETE_LOG` is attached; for a valid point (`n • P = ∞`) the attached value `v` satisfies
`v • G = P` (C02); and EVERY key whose private key is a 32-bit value shifted by a multiple of 8 bits
(within the order's bit length) or a 32-bit word repeated `r ≥ 2` times is flagged with a
`DISCRETE_LOG` `v`, `v • G = P`, and `v ≡ d (mod n)` if `n` is prime — whatever other keys (same or other curves) are
in the batch and whatever was searched before on the same curve objects. -/
theorem checkWeakECPrivateKey_spec (f : Factory) (sts : List EcState) (orc : List (Nat × Nat))
    (keys : List ECKey) (hnd : (f.map (·.id)).Nodup) (hh : WKHyp keys f sts orc) :
    ∃ res sts', checkWeakECPrivateKey f sts orc keys = .ok (res, sts') ∧
      res.length = keys.length ∧ StatesOK f sts' ∧
      (∀ (p : Nat) (k : ECKey), keys[p]? = some k → factoryGet f k.curveType = none →
        res[p]? = some none) ∧
      (∀ (p : Nat) (k : ECKey) (c : Curve), keys[p]? = some k →
        factoryGet f k.curveType = some c →
        ∃ kv hp, res[p]? = some (some kv) ∧ WeakKeyOK c hp k kv) := by
  obtain ⟨res, sts', h1, h2, h3, h4, h5⟩ := checkWeakECPrivateKey_spec_any f sts orc keys hnd hh.weaken
  refine ⟨res, sts', h1, h2, h3, h4, fun p k c hk hg => ?_⟩
  obtain ⟨kv, hp, hkv, hok⟩ := h5 p k c hk hg
  exact ⟨kv, hp, hkv, hok.1, hok.2 (hh.onCurve hk hg)⟩

/-- ★ CheckECKeySmallDifference(max_diff). The check does not raise; keys of unknown / `None` curves
get no result; every other key (batch position `p`, curve `c`) gets a result `kv` with
`SmallDiffOK`: `result` is true exactly when a `DISCRETE_LOG_DIFF` relation is attached; an attached
relation `(Q, k)` names ANOTHER key of the batch on the same curve, `Q ≠ P`, with `P - Q = k • G`
(C02); and if some other key of the batch on the same curve has `P - Q = k • G`, `P ≠ Q`,
`|k| < max(cached table size, max_diff)`, the key IS flagged — so both keys of such a pair are,
and identical keys alone are not. -/
theorem checkECKeySmallDifference_spec (f : Factory) (sts : List EcState) (ms : List Nat)
    (keys : List ECKey) (maxDiff : Nat) (hnd : (f.map (·.id)).Nodup)
    (hh : SDHyp keys maxDiff f sts ms) :
    ∃ res sts', checkECKeySmallDifference f sts ms keys maxDiff = .ok (res, sts') ∧
      res.length = keys.length ∧ StatesOK f sts' ∧
      (∀ (p : Nat) (k : ECKey), keys[p]? = some k → factoryGet f k.curveType = none →
        res[p]? = some none) ∧
      (∀ (p : Nat) (k : ECKey) (e : FEntry) (c : Curve), keys[p]? = some k → e ∈ f →
        e.id = k.curveType → e.curve = some c →
        ∃ kv hp, res[p]? = some (some kv) ∧
          SmallDiffOK c hp keys (max (sizeOf f sts e) maxDiff) p k kv) := by
  obtain ⟨res, sts', h1, h2, h3, h4⟩ := smallDiffCheck_spec f sts ms keys maxDiff hnd hh
  refine ⟨res, sts', h1, h3.1, h2, h3.2.1, fun p k e c hk he hid hcur => ?_⟩
  obtain ⟨st, m, kv, hin, hkv, hp, hok, _⟩ := h4 p k e c hk he hid hcur
  exact ⟨kv, hp, hkv, by rw [sizeOf_eq hnd hin]; exact hok⟩

/-- the factory regenerated from `ec_util.CURVE_FACTORY` meets the side conditions: unique ids, and
`CurveHyp` for each of its nine curves once the nine field moduli are prime (premise of this
statement; discharged from the Pratt certificates of Props/C11Primes in
`curve_factory_hyp_certified`, Props/C10Cert.lean). -/
theorem curve_factory_hyp :
    (regenFactory.map (·.id)).Nodup ∧
    ((∀ e ∈ regenFactory, ∀ c, e.curve = some c → Nat.Prime c.p) →
      ∀ e ∈ regenFactory, ∀ c, e.curve = some c → CurveHyp c) :=
  ⟨regenFactory_nodup, regenFactory_curveHyp⟩

/-! ### the native driver runs the same function

The correspondence harness talks to a driver that stores `_table` in a `Std.HashMap` (tables of
2^16 … 2^19 entries for ExtendedBatchDL) and receives the state as the token `(size, m)`. -/

/-- every stateful operation of the hash-map instance returns the same exception, or the same result
and a state that answers every lookup alike, as the association-list instance the theorems above
are about — from related states, for every input. -/
theorem driver_model_agree (c : Curve) {s : StateG XTable} {t : StateG HTable} (h : SimSt s t) :
    (∀ points n ts m, SimRes (batchDLG listImpl c s points n ts m) (batchDLG hashImpl c t points n ts m)) ∧
    (∀ points ts m, SimRes (extendedBatchDLG listImpl c s points ts m)
      (extendedBatchDLG hashImpl c t points ts m)) ∧
    (∀ points other maxDiff m, SimRes (batchDLOfDifferencesG listImpl c s points other maxDiff m)
      (batchDLOfDifferencesG hashImpl c t points other maxDiff m)) :=
  ⟨batchDLG_sim c h, extendedBatchDLG_sim c h, batchDLOfDifferencesG_sim c h⟩

theorem driver_model_agree_checks (f : Factory) {ss : List (StateG XTable)}
    {ts : List (StateG HTable)} (h : SimSts ss ts) (keys : List ECKey) :
    (∀ orc, SimResL (checkWeakECPrivateKeyG listImpl f ss orc keys)
      (checkWeakECPrivateKeyG hashImpl f ts orc keys)) ∧
    (∀ ms maxDiff, SimResL (checkECKeySmallDifferenceG listImpl f ss ms keys maxDiff)
      (checkECKeySmallDifferenceG hashImpl f ts ms keys maxDiff)) :=
  driver_agrees_checks f h keys

/-- the state token: a reachable state is the fresh one or `PointTable(g, size)` for some split `m`
(`history_invariant`), and the driver's rebuild of that table from `(size, m)` is related to it. -/
theorem driver_token_state (c : Curve) (st : EcState) (h : TableIs c st) :
    SimSt st (StateG.init hashImpl) ∨
    ∃ m tb, pointTableG hashImpl c c.g st.tableSize m = .ok tb ∧ SimSt st ⟨st.tableSize, tb⟩ := by
  rcases h with ⟨h1, h2⟩ | ⟨m, _, _, ht⟩
  · left
    refine ⟨h1, ?_⟩
    rw [h2]; exact sim_empty
  · right
    have := pointTableG_sim c c.g st.tableSize m
    rw [pointTableG_list, ht] at this
    cases hh : pointTableG hashImpl c c.g st.tableSize m with
    | error e => rw [hh] at this; exact this.elim
    | ok tb => rw [hh] at this; exact ⟨m, tb, hh, rfl, this⟩

/-! ### non-vacuity: the hypotheses are met by concrete non-trivial inputs -/

/-- toy curve `y² = x³ - 3x + 12` over `GF(113)`, generator `(42, 80)` of prime order `101`. -/
def toy : Curve := ⟨-3, 12, 113, 42, 80, 101, 1⟩

/-- evaluation of `history_superset` on `toy`: history `[BatchDL([], 6)]` with table size 6 built
with split 2 (multiples 0…5); the call `BatchDL([16·G], 1)` with requested size 5 and the
(dishonest: `int(sqrt(5)) = 2`) split 4 builds, from the fresh state, a table of the multiples 0…7 and
finds `16 = 1·9 + 7`; from the later state the cached table is kept and `16` is missed. -/
def supersetWitness : Bool :=
  match runOps toy (StateG.init listImpl) [Op.dl [] 6 6 2] with
  | .ok st =>
    (match batchDL toy (StateG.init listImpl) [.aff 39 51] 1 5 4, batchDL toy st [.aff 39 51] 1 5 4 with
     | .ok (res0, _), .ok (res, _) => res0 == [some 16] && res == [none]
     | _, _ => false)
  | .error _ => false

/-- … so the literal superset statement is FALSE when the PointTable split may be any value `≥ 1`
(here for a log outside `[0, n)`); it can only hold for the real float `m = int(math.sqrt(ts))`.
`history_monotone` is the part that holds for every oracle value. -/
theorem history_superset_fails_for_some_split : ¬ history_superset toy := by
  intro h
  have key : supersetWitness = true := by decide +kernel
  unfold supersetWitness at key
  split at key
  · rename_i st hst
    split at key
    · rename_i res0 st0 res st' h0 h1
      simp only [Bool.and_eq_true, beq_iff_eq] at key
      obtain ⟨rfl, rfl⟩ := key
      cases h [Op.dl [] 6 6 2] st hst [.aff 39 51] 1 5 4 _ _ st0 st' h0 h1 with
      | cons hh _ => exact absurd (hh rfl) (by simp)
    · cases key
  · cases key

example : toy.paramsOK = true := by decide +kernel
example : multipliersOKb secp256r1 = true ∧ (extMultipliers secp256r1).length = 36 := by decide +kernel
/-- `[5G, 17G, ∞, 33G]`, bound 40, `ts = int(sqrt(160)) = 12`, `m = 3`, fresh state. -/
example : (batchDL toy (StateG.init listImpl) [.aff 112 63, .aff 25 9, .inf, .aff 58 5] 40 12 3).toOption.map
    Prod.fst = some [some 5, some 17, some 0, some 33] := by decide +kernel
/-- `-5 • G = (112, -63 mod 113)` is found through the `-dl` branch. -/
example : (batchDL toy (StateG.init listImpl) [.aff 112 50] 40 6 2).toOption.map
    Prod.fst = some [some (-5)] := by decide +kernel
/-- keys `20, 23, 20, 60` and history key `58`, `max_diff = 4`: `20 ~ 23` (both flagged, mirrored
signs), the two identical keys `20` do not flag each other, `60 ~ 58` through the history list. -/
example : (batchDLOfDifferences toy (StateG.init listImpl)
    [.aff 60 51, .aff 62 96, .aff 60 51, .aff 99 94] [.aff 17 44] 4 2).toOption.map Prod.fst =
    some [some ⟨62, 96, -3⟩, some ⟨60, 51, 3⟩, some ⟨62, 96, -3⟩, some ⟨17, 44, 2⟩] := by
  decide +kernel
example : (batchDL toy (StateG.init listImpl) [] 40 0 0).map Prod.fst = .error .indexError := by
  decide +kernel
/-- check level: factory `{5: toy, 6: None}`, keys of curve 5 interleaved with a `None`-curve key and
an unknown id; `max_diff = 4`. -/
example : (checkECKeySmallDifference [⟨5, some toy⟩, ⟨6, none⟩]
    [StateG.init listImpl, StateG.init listImpl] [2, 2]
    [⟨5, 60, 51⟩, ⟨6, 1, 1⟩, ⟨5, 62, 96⟩, ⟨9, 1, 2⟩, ⟨5, 60, 51⟩] 4).toOption.map Prod.fst =
    some [some ⟨true, some (.diff ⟨62, 96, -3⟩)⟩, none, some ⟨true, some (.diff ⟨60, 51, 3⟩)⟩, none,
      some ⟨true, some (.diff ⟨62, 96, -3⟩)⟩] := by decide +kernel
/-- the hypotheses of the check-level theorems are satisfiable. -/
example : SDHyp [⟨5, 60, 51⟩, ⟨6, 1, 1⟩, ⟨5, 62, 96⟩] 4 [⟨5, some toy⟩, ⟨6, none⟩]
    [StateG.init listImpl, StateG.init listImpl] [2, 2] := by
  refine ⟨fun c hc => ?_, ⟨fun c hc => (by cases hc), trivial⟩⟩
  cases hc
  exact ⟨⟨by decide +kernel, by decide +kernel, by decide +kernel⟩, tableIs_init _,
    by decide +kernel, fun _ => by decide⟩
example : WKHyp [⟨5, 112, 63⟩] [⟨5, some toy⟩] [StateG.init listImpl] [(1, 1)] := by
  refine ⟨fun c hc => ?_, trivial⟩
  cases hc
  exact ⟨⟨by decide +kernel, by decide +kernel, by decide +kernel⟩, tableIs_init _,
    by decide +kernel, fun _ => ⟨Nat.le_refl _, Nat.le_refl _⟩⟩

end Paranoid.C10
