/-
Props/C05PollardExps.lean — C05, the Pollard p-1 clause for the product the constructor of
`CheckPollardpm1` builds from the exponents it REALLY uses.

`CheckPollardpm1.__init__` raises every prime `r` of `Sieve(bound)` (user bound) resp. the first 150
primes of `Sieve(2^20)` (default) to `int(math.log(bound, r))`. That float expression is an ORACLE of
the model (`pollardProduct bound exps`, Model/RsaChecks.lean). `Props/C05Pollard.lean` instantiates
`exps` with the DOCUMENTED value `⌊log_r bound⌋` (`pollardExpsDocumented`). Measured on the real code
(every bound ≤ 2^20 and every prime, brute force):

 * default branch (`None`, `0`): the float exponents of all 150 primes ARE the documented ones and the
   real 1 518 658-bit product IS the documented product, so `C05Pollard.defaultM_dvd_iff`,
   `pollard_default_flag` … are statements about the product the default check really uses
   (the harness re-checks this on every run, op `chk.pm1_product`);
 * user bounds: `int(math.log(p^k, p)) = k − 1` for the six prime powers 3^5 = 243, 3^10 = 59049,
   17^3, 31^3, 41^3, 83^3 (and 3^13, 3^15, 223^3, 239^3 up to 2^24) — there the real product lacks one
   factor `p` and `C05Pollard.userM_dvd_iff` / `pollard_user_flag` describe a product the code does
   NOT build. For every other bound ≤ 2^20 the two products coincide.

Here the criterion and the clause are stated for an ARBITRARY exponent list `exps` — hence for the
list the real constructor used, whatever the float library returned:

 * `product_dvd_iff`       g ∣ pollardProduct bound exps ↔ every prime power r^k ∣ g has
                           k ≤ usedExp bound exps r, the entry of `exps` at the position of `r` in the
                           sieve (`usedExp_at`), 1 for primes of the sieve beyond `exps`, 0 otherwise;
 * `pollard_flag_exps`     the composed clause for that product (default or user bound);
 * `pollard_user_flag_of_documented`  the documented-exponent form as the corollary `exps = documented`;
 * `bound243_*`            kernel-checked: with the exponents the real code uses for bound 243
                           (`floatExps243`, compared with the real constructor on every run, op
                           `chk.pm1_float243`) `3^5 ∤ m`, and a key that satisfies every hypothesis of
                           `C05Pollard.pollard_user_flag` (documented product: factored) is NOT flagged
                           by the real product. This is an OBSERVATION about the user-bound path
                           (the docstring of `CheckPollardpm1` promises `B`-powersmooth; proposed patch
                           `fixes/pollard-user-bound-exponent.diff`, exact integer logarithm), not a
                           violation of C05: the Pollard clause of C05 is about "the default Pollard
                           product", which is unaffected.
-/
import ParanoidModel.Props.C05Pollard
import ParanoidModel.Model.PollardFloat
namespace Paranoid.C05PollardExps
open Paranoid Paranoid.PollardProduct

/-! ### the product for an arbitrary exponent oracle -/

/-- the primes of the constructor's product: `Sieve(bound)` for a user bound, `Sieve(2^20)` for the
default branch (`None` and, by truthiness, `0`). -/
def productPrimes (bound : Option Nat) : List Nat :=
  match pollardUserBound bound with
  | some b => sieve b
  | none => sieve (2 ^ 20)

theorem pollardProduct_eq (bound : Option Nat) (exps : List Nat) :
    pollardProduct bound exps = fastProduct (pollardPowers (productPrimes bound) exps) := by
  unfold pollardProduct productPrimes
  cases pollardUserBound bound <;> rfl

theorem productPrimes_prime (bound : Option Nat) : ∀ p ∈ productPrimes bound, p.Prime := by
  unfold productPrimes
  cases pollardUserBound bound <;> exact sieve_prime _

theorem productPrimes_nodup (bound : Option Nat) : (productPrimes bound).Nodup := by
  unfold productPrimes
  cases pollardUserBound bound <;> exact sieve_nodup _

/-- a prime is in the product iff it is below the user bound (below `2^20` in the default branch). -/
theorem mem_productPrimes (bound : Option Nat) (r : Nat) :
    r ∈ productPrimes bound ↔
      r.Prime ∧ r < (match pollardUserBound bound with | some b => b | none => 2 ^ 20) := by
  unfold productPrimes
  cases pollardUserBound bound <;> simp only [mem_sieve] <;> exact And.comm

/-- the exponent of the prime `r` in `pollardProduct bound exps`: the entry of `exps` at the position
of `r` in the sieve; 1 when `exps` is shorter (default branch: primes beyond the first 150); 0 when `r`
is not in the sieve. -/
def usedExp (bound : Option Nat) (exps : List Nat) (r : Nat) : Nat :=
  expAt (productPrimes bound) exps r

/-- **what `usedExp` is**: positional lookup of the exponent oracle. -/
theorem usedExp_at (bound : Option Nat) (exps : List Nat) (i r : Nat)
    (hr : (productPrimes bound)[i]? = some r) :
    (∀ e, exps[i]? = some e → usedExp bound exps r = e) ∧
    (exps.length ≤ i → usedExp bound exps r = 1) :=
  have h := expAt_getElem? _ exps i r (productPrimes_nodup bound) hr
  ⟨fun e he => by rw [usedExp, h, he]; rfl,
   fun hlen => by rw [usedExp, h, List.getElem?_eq_none hlen]; rfl⟩

theorem usedExp_not_mem (bound : Option Nat) (exps : List Nat) (r : Nat)
    (hr : r ∉ productPrimes bound) : usedExp bound exps r = 0 :=
  expAt_not_mem _ _ _ hr

theorem product_pos (bound : Option Nat) (exps : List Nat) : 0 < pollardProduct bound exps :=
  pollardProduct_pos bound exps

/-- **Exact divisibility criterion for the product the constructor builds from the exponents `exps`
it actually used** (any bound, any float answers): `g ∣ m` iff every prime power `r^k ∣ g` has
`k ≤ usedExp bound exps r`. -/
theorem product_dvd_iff (bound : Option Nat) (exps : List Nat) (g : Nat) (hg : g ≠ 0) :
    g ∣ pollardProduct bound exps ↔
      ∀ r k, r.Prime → r ^ k ∣ g → k ≤ usedExp bound exps r := by
  rw [pollardProduct_eq,
    dvd_pollardPowers_iff _ _ (productPrimes_prime bound) (productPrimes_nodup bound) g hg]
  rfl

/-- **Pollard clause for the product really built** (default or user bound, exponent oracle `exps`):
`p-1` and `q-1` share a factor `g ≥ gb` all of whose prime powers respect the USED exponents, and
`p-1` is smooth enough for that product: flagged; factored as `[p, q]` unless `q` is caught too. -/
theorem pollard_flag_exps {p q : Nat} (hp : p.Prime) (hq : q.Prime) (hpq : p ≠ q)
    (hpo : p % 2 = 1) (hqo : q % 2 = 1) (bound : Option Nat) (exps : List Nat) (g gb : Nat)
    (hgp : g ∣ p - 1) (hgq : g ∣ q - 1) (hg : gb ≤ g) (hg0 : g ≠ 0)
    (hsm : ∀ r k, r.Prime → r ^ k ∣ g → k ≤ usedExp bound exps r)
    (hp1 : (p - 1) ∣ (p * q - 1) * pollardProduct bound exps) :
    pollardPm1 (p * q) (pollardProduct bound exps) gb =
      if 2 ^ ((p * q - 1) * pollardProduct bound exps) % q = 1
      then (true, []) else (true, [p, q]) :=
  C05.pollard_flag hp hq hpq hpo hqo _ g gb (product_pos bound exps) hgp hgq
    ((product_dvd_iff bound exps g hg0).mpr hsm) hg hp1

/-- the converse that makes the criterion sharp for the gate: when the shared part of `n - 1` and
the product stays below `gcd_bound` the check says `(False, [])` — in particular a prime power of `g`
beyond the used exponent is simply not in `m`. -/
theorem pollard_gate_closed (n : Nat) (bound : Option Nat) (exps : List Nat) (gb : Nat)
    (h : Nat.gcd (n - 1) (pollardProduct bound exps) < gb) :
    pollardPm1 n (pollardProduct bound exps) gb = (false, []) := by
  unfold pollardPm1
  rw [if_neg (by omega)]

/-! ### the documented exponents as a corollary -/

/-- with the documented exponents of a user bound `b ≥ 1` the used exponent of a prime is
`⌊log_r b⌋` below `b`, 0 otherwise. -/
theorem usedExp_documented (b : Nat) (hb : b ≠ 0) (r : Nat) (hr : r.Prime) :
    usedExp (some b) (pollardExpsDocumented (some b)) r = boundExp b r := by
  cases b with
  | zero => exact absurd rfl hb
  | succ n =>
    rw [← expAt_documented (n + 1) r hr, List.take_length]
    rfl

/-- the two criteria agree under `exps = documented` (so `product_dvd_iff` generalises
`C05Pollard.userM_dvd_iff`). -/
theorem documented_criterion_iff (b : Nat) (hb : b ≠ 0) (g : Nat) :
    (∀ r k, r.Prime → r ^ k ∣ g → k ≤ usedExp (some b) (pollardExpsDocumented (some b)) r) ↔
      ∀ r k, r.Prime → r ^ k ∣ g → k = 0 ∨ (r < b ∧ r ^ k ≤ b) := by
  exact powerSmooth_iff_of_le_iff
    (fun r k hr => by rw [usedExp_documented b hb r hr, le_boundExp_iff b r k hb hr.two_le]) g

/-- **The documented form is the special case `exps = documented`.** Whenever the float expression
returned the documented exponents (every bound ≤ 2^20 except 243, 4913, 29791, 59049, 68921, 571787 on
the measured platform) the clause holds with the readable criterion "`g` is `b`-powersmooth with prime
factors below `b`". For the six exceptional bounds the hypothesis `hexps` is FALSE of the real code. -/
theorem pollard_user_flag_of_documented {p q : Nat} (hp : p.Prime) (hq : q.Prime) (hpq : p ≠ q)
    (hpo : p % 2 = 1) (hqo : q % 2 = 1) (b : Nat) (hb : b ≠ 0) (exps : List Nat)
    (hexps : exps = pollardExpsDocumented (some b)) (g gb : Nat)
    (hgp : g ∣ p - 1) (hgq : g ∣ q - 1) (hg : gb ≤ g) (hg0 : g ≠ 0)
    (hsm : ∀ r k, r.Prime → r ^ k ∣ g → k = 0 ∨ (r < b ∧ r ^ k ≤ b))
    (hp1 : (p - 1) ∣ (p * q - 1) * pollardProduct (some b) exps) :
    pollardPm1 (p * q) (pollardProduct (some b) exps) gb =
      if 2 ^ ((p * q - 1) * pollardProduct (some b) exps) % q = 1
      then (true, []) else (true, [p, q]) := by
  subst hexps
  exact pollard_flag_exps hp hq hpq hpo hqo (some b) _ g gb hgp hgq hg hg0
    ((documented_criterion_iff b hb g).mpr hsm) hp1

/-! ### bound 243: the exponents the real constructor uses -/

/-! `floatExps243` (Model/PollardFloat.lean) = `[int(math.log(243, r)) for r in Sieve(243)]` as
returned by the real code (CPython `math.log`, IEEE doubles): `math.log(243, 3) = 4.999999999999999`,
so 3 gets the exponent 4, not 5. The harness compares this list with the real expression on every
run (op `chk.pm1_float243`). -/

theorem sieve_243 : sieve 243 =
    [2, 3, 5, 7, 11, 13, 17, 19, 23, 29, 31, 37, 41, 43, 47, 53, 59, 61, 67, 71, 73, 79, 83, 89, 97,
     101, 103, 107, 109, 113, 127, 131, 137, 139, 149, 151, 157, 163, 167, 173, 179, 181, 191, 193,
     197, 199, 211, 223, 227, 229, 233, 239, 241] := by
  rw [sieve_eq_filter_smallPrime 243 (by norm_num)]
  decide +kernel

/-- the float exponents differ from the documented ones exactly at the prime 3. -/
theorem floatExps243_vs_documented :
    pollardExpsDocumented (some 243) = [7, 5, 3, 2, 2, 2] ++ List.replicate 47 1 ∧
    floatExps243 = [7, 4, 3, 2, 2, 2] ++ List.replicate 47 1 ∧
    usedExp (some 243) floatExps243 3 = 4 ∧
    usedExp (some 243) (pollardExpsDocumented (some 243)) 3 = 5 := by
  have h1 : pollardExpsDocumented (some 243) = [7, 5, 3, 2, 2, 2] ++ List.replicate 47 1 := by
    show (sieve 243).map (fun p => floorLog p 243) = _
    rw [sieve_243]; decide +kernel
  refine ⟨h1, rfl, ?_, ?_⟩
  · show expAt (sieve 243) floatExps243 3 = 4
    rw [sieve_243]; decide +kernel
  · show expAt (sieve 243) (pollardExpsDocumented (some 243)) 3 = 5
    rw [h1, sieve_243]; decide +kernel

/-- **the real product for bound 243 is not 243-powersmooth-complete**: `3^5 = 243` divides the
documented product but NOT the product built from the float exponents; more generally no `g` with
`3^5 ∣ g` divides it. -/
theorem bound243_real_lacks_3pow5 :
    3 ^ 5 ∣ pollardProduct (some 243) (pollardExpsDocumented (some 243)) ∧
    ∀ g, g ≠ 0 → 3 ^ 5 ∣ g → ¬ g ∣ pollardProduct (some 243) floatExps243 := by
  obtain ⟨-, -, h4, h5⟩ := floatExps243_vs_documented
  constructor
  · have hb : boundExp 243 3 = 5 :=
      (usedExp_documented 243 (by norm_num) 3 Nat.prime_three).symm.trans h5
    exact (dvd_documentedM_iff_powerSmooth 243 (by norm_num) (3 ^ 5) (by norm_num)).mpr
      (C05Pollard.powerSmooth_prime_pow Nat.prime_three hb.ge)
  · intro g hg h35 hdvd
    have := (product_dvd_iff (some 243) floatExps243 g hg).mp hdvd 3 5 Nat.prime_three h35
    omega

/-- the products as numbers (353 resp. 355 bits); the real `CheckPollardpm1(243)._m` is the first. -/
theorem bound243_products :
    pollardProduct (some 243) floatExps243 =
      11072039048403613991805450698390694123685474441507072941537485850955437832622863834921425341752329405936000 ∧
    pollardProduct (some 243) (pollardExpsDocumented (some 243)) =
      3 * 11072039048403613991805450698390694123685474441507072941537485850955437832622863834921425341752329405936000 := by
  obtain ⟨h1, -, -, -⟩ := floatExps243_vs_documented
  constructor
  · show fastProduct (pollardPowers (sieve 243) floatExps243) = _
    rw [fastProduct_eq_prod, sieve_243]; decide +kernel
  · show fastProduct (pollardPowers (sieve 243) (pollardExpsDocumented (some 243))) = _
    rw [fastProduct_eq_prod, h1, sieve_243]; decide +kernel

/-- primality of the two primes of the bound-243 key (Pratt certificates). -/
theorem bound243_primes :
    Nat.Prime 20733112663155396649 ∧ Nat.Prime 681939511396589371385657642542849294057 := by
  constructor
  · exact Pratt.prime_of_fastCert ⟨20733112663155396649,
      [⟨20733112663155396649, 7, [(2, 3), (3, 5), (17, 1), (19, 1), (23, 1), (43, 1), (59, 1),
        (103, 1), (127, 1), (181, 1), (239, 1)]⟩]⟩ _ (by decide +kernel)
  · exact Pratt.prime_of_fastCert ⟨681939511396589371385657642542849294057,
      [⟨123017, 3, [(2, 3), (15377, 1)]⟩,
       ⟨10333429, 6, [(2, 2), (3, 1), (7, 1), (123017, 1)]⟩,
       ⟨97843291831123, 2, [(2, 1), (3, 1), (137, 1), (11519, 1), (10333429, 1)]⟩,
       ⟨559152495917497773449, 3, [(2, 3), (809, 1), (883, 1), (97843291831123, 1)]⟩,
       ⟨681939511396589371385657642542849294057, 5,
         [(2, 3), (3, 5), (19, 1), (23, 1), (43, 1), (59, 1), (103, 1), (127, 1), (181, 1),
          (239, 1), (559152495917497773449, 1)]⟩]⟩ _ (by decide +kernel)

/-- **Non-vacuity of `C05Pollard.pollard_user_flag` AND the counter-example, in the kernel.**
`g = 2^3·3^5·19·23·43·59·103·127·181·239` (61 bits, 243-powersmooth), `p = 17g + 1`,
`q = 559152495917497773449·g + 1`, both prime: every hypothesis of `pollard_user_flag` holds for
`b = 243`, `gb = 2^60` (so with the DOCUMENTED product the key is flagged and factored — evaluated), but
with the product the real constructor builds (`floatExps243`) the gate `gcd(n−1, m) ≥ 2^60` stays closed
and the verdict is `(False, [])`. The real `CheckPollardpm1(243)` says `ok 0 [] 0` for this key
(harness case `bound243-witness`, every run). -/
theorem bound243_documented_vs_real :
    (1219594862538552744 ∣ 20733112663155396649 - 1) ∧
    (1219594862538552744 ∣ 681939511396589371385657642542849294057 - 1) ∧
    2 ^ 60 ≤ 1219594862538552744 ∧
    (∀ r k, r.Prime → r ^ k ∣ 1219594862538552744 → k = 0 ∨ (r < 243 ∧ r ^ k ≤ 243)) ∧
    (20733112663155396649 - 1) ∣
      (20733112663155396649 * 681939511396589371385657642542849294057 - 1) *
        pollardProduct (some 243) (pollardExpsDocumented (some 243)) ∧
    pollardPm1 (20733112663155396649 * 681939511396589371385657642542849294057)
      (pollardProduct (some 243) (pollardExpsDocumented (some 243))) (2 ^ 60) =
        (true, [20733112663155396649, 681939511396589371385657642542849294057]) ∧
    pollardPm1 (20733112663155396649 * 681939511396589371385657642542849294057)
      (pollardProduct (some 243) floatExps243) (2 ^ 60) = (false, []) := by
  obtain ⟨hreal, hdoc⟩ := bound243_products
  have hgdoc : 1219594862538552744 ∣ pollardProduct (some 243) (pollardExpsDocumented (some 243)) := by
    rw [hdoc]; decide +kernel
  refine ⟨by decide +kernel, by decide +kernel, by decide +kernel, ?_, ?_, ?_, ?_⟩
  · exact (C05Pollard.userM_dvd_iff 243 (by norm_num) _ (by norm_num)).mp hgdoc
  · rw [hdoc]; decide +kernel
  · rw [hdoc]; decide +kernel
  · rw [hreal]; decide +kernel

/-! ### the default product: two readings of "smooth enough", and non-vacuity of the both-smooth case -/

/-- **The literal clause holds under the reading "`(p−1) ∣` the default product".** If "one of them is
smooth enough for the default Pollard product" is read as `(p − 1) ∣ defaultM`, then ANY shared factor
`g ≥ 2^60` of `p − 1` and `q − 1` suffices — no side condition on `g`. The PROPERTY-TEXT LIMITATION of
`C05Pollard.literal_text_fails` therefore rests on the weaker reading `(p − 1) ∣ (n − 1)·m` (what
`Pollardpm1` needs), which is the reading under which the clause is false. -/
theorem literal_clause_of_pm1_dvd {p q : Nat} (hp : p.Prime) (hq : q.Prime) (hpq : p ≠ q)
    (hpo : p % 2 = 1) (hqo : q % 2 = 1) (g : Nat) (hgp : g ∣ p - 1) (hgq : g ∣ q - 1)
    (hg : 2 ^ 60 ≤ g) (hpm : (p - 1) ∣ defaultM) :
    pollardPm1 (p * q) defaultM (2 ^ 60) =
      if 2 ^ ((p * q - 1) * defaultM) % q = 1 then (true, []) else (true, [p, q]) :=
  C05.pollard_flag hp hq hpq hpo hqo defaultM g (2 ^ 60) defaultM_pos hgp hgq
    (Nat.dvd_trans hgp hpm) hg (Dvd.dvd.mul_left hpm _)

/-- the witness of `C05Pollard.literal_text_fails` is outside that reading:
`p − 1 = 24·1009^7 ∤ defaultM`. -/
theorem literal_witness_not_dvd : ¬ (25553441901090092879257 - 1) ∣ defaultM := fun h =>
  C05Pollard.smooth_not_enough.2.2 (Nat.dvd_trans ⟨24, by norm_num⟩ h)

/-- `pollard_default_both_smooth` when `q − 1` itself is the shared factor and both `p − 1`, `q − 1`
divide the default product (stated for variables: with numerals the kernel would try to evaluate
`(p·q − 1)·defaultM`). -/
theorem both_smooth_of_dvd {p q : Nat} (hp : p.Prime) (hq : q.Prime) (hpq : p ≠ q)
    (hpo : p % 2 = 1) (hqo : q % 2 = 1) (hd : (q - 1) ∣ p - 1) (hg : 2 ^ 60 ≤ q - 1)
    (hpm : (p - 1) ∣ defaultM) (hqm : (q - 1) ∣ defaultM) :
    pollardPm1 (p * q) defaultM (2 ^ 60) = (true, []) := by
  have hq2 := hq.two_le
  exact C05Pollard.pollard_default_both_smooth hp hq hpq hpo hqo (q - 1) hd (dvd_refl _) hg
    ((C05Pollard.defaultM_dvd_iff _ (by omega)).mp hqm)
    (Dvd.dvd.mul_left hpm _) (Dvd.dvd.mul_left hqm _)

/-- **Non-vacuity of `C05Pollard.pollard_default_both_smooth`** ("… unless both are smooth"):
`p − 1 = 2^64·3^31·863²·1009`, `q − 1 = 2^21·3^22·863²·1009` (both prime, Pratt certificates), shared
factor `g = q − 1 ≥ 2^60`; both `p − 1` and `q − 1` divide the default product, so the theorem applies
and the default check flags `n = p·q` WITHOUT factors. The real `CheckPollardpm1()` answers `ok 1 [] 0`
for this key (harness case `both-smooth-witness`, every run). -/
theorem both_smooth_witness :
    pollardPm1 (8562318457488567634551083203943137586184193 * 49455007315820782842544129)
      defaultM (2 ^ 60) = (true, []) := by
  -- the argument for any `p`, `q` with these `p − 1`, `q − 1`; the numerals enter once, at the end
  have key : ∀ p q : Nat, p - 1 = 2 ^ 64 * 3 ^ 31 * 863 ^ 2 * 1009 ^ 1 →
      q - 1 = 2 ^ 21 * 3 ^ 22 * 863 ^ 2 * 1009 ^ 1 → p.Prime → q.Prime → p ≠ q → p % 2 = 1 →
      q % 2 = 1 → pollardPm1 (p * q) defaultM (2 ^ 60) = (true, []) := by
    intro p q ep eq hp hq hne hpo hqo
    refine both_smooth_of_dvd hp hq hne hpo hqo ?_ ?_ ?_ ?_
    · rw [ep, eq]; exact ⟨2 ^ 43 * 3 ^ 9, by norm_num⟩
    · rw [eq]; norm_num
    · rw [ep]; exact C05Pollard.smooth4_dvd_defaultM 64 31 (by norm_num) (by norm_num)
    · rw [eq]; exact C05Pollard.smooth4_dvd_defaultM 21 22 (by norm_num) (by norm_num)
  exact key _ _ (by norm_num) (by norm_num)
    (Pratt.prime_of_fastCert ⟨8562318457488567634551083203943137586184193,
      [⟨8562318457488567634551083203943137586184193, 10, [(2, 64), (3, 31), (863, 2), (1009, 1)]⟩]⟩
      _ (by decide +kernel))
    (Pratt.prime_of_fastCert ⟨49455007315820782842544129,
      [⟨49455007315820782842544129, 7, [(2, 21), (3, 22), (863, 2), (1009, 1)]⟩]⟩ _
      (by decide +kernel))
    (by norm_num) (by norm_num) (by norm_num)

end Paranoid.C05PollardExps
