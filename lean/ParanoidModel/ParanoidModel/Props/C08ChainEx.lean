/-
Props/C08ChainEx.lean — non-vacuity of the sandwich / chain theorems of Props/C08Chain.lean.

One concrete instance per theorem in which ALL hypotheses hold — including "the reduced basis
contains ± the planted row" for a concrete basis.  The bases are the REAL outputs of `lll.reduce`
(fpylll) on the lattices the real `GetLattice(a, b, None, n, bias)` builds for real ECDSA signatures
on the toy curve of Props/C02S.lean (`y² = x³ − 3x + 6` over GF(101), prime order `n = 109`,
`G = (0, 39)`, issuer key `7·G = (23, 61)`), generated by harness/c08chain_examples/*.py
(nonces with 4 biased bits of 7; `w = None`).  Each batch also contains one
signature of a second issuer (`5·G = (89, 43)`, unbiased nonce, its own real LLL answer) and one
signature with an unknown curve id.  Every `example` is evaluated by the kernel.
-/
import ParanoidModel.Props.C08Chain
import Mathlib.Tactic.NormNum.Prime
namespace Paranoid.C08ChainEx
open Paranoid Paranoid.Hnp Paranoid.Ec Paranoid.EcdsaChecks Paranoid.C08Chain

/-! ### the toy setting -/

abbrev toy := C02S.toy
abbrev toyFactory := C02S.toyFactory

theorem toy_n_prime : Nat.Prime toy.n := by
  show Nat.Prime 109
  norm_num

theorem toy_gorder : GOrder toy := gOrder_of_paramsOK toy (by decide +kernel) toy_n_prime

/-- `(23, 61) = 7·G` in the Mathlib group. -/
theorem toy_key7 : KeyOf toy (23, 61) 7 :=
  keyOf_of_multiply toy C02S.toy_prime (by decide +kernel) _ 7 (by decide) (by decide +kernel)

/-- the float oracle as the exact floor (equal on the whole reachable range: correspondence op
`hnp.postfixbits`), no LCG table, `CURVE_FACTORY[2].n = 109`. -/
def toyEnv : SolverEnv :=
  ⟨fun n len => postfixBitsExact (bitLength n) len, [], fun _ => some (some 109)⟩

/-- a finite table as a function on `(r, s, z)` (0 elsewhere). -/
def tableFn (tbl : List (Triple × Int)) (v : Triple) : Int :=
  match tbl.find? (fun p => p.1 == v) with
  | some p => p.2
  | none => 0

/-- all fields of `Setting` for a check kind `k`, a batch and oracles on the toy factory, from three
kernel evaluations (`checkConsistent`, `check … = ok`, `solvedGroupB`). -/
theorem toy_setting_env (env : SolverEnv) (henv : env.curveN 2 = some (some 109))
    (k : Kind) (O : Nat → GroupOracle) (arts : List Sig) (res : CheckResult)
    (lll : Nat → Nat → LllAnswers)
    (hcons : checkConsistent k O arts toyFactory = true)
    (hres : check k O toyFactory arts = .ok res)
    (hsolved : solvedGroupB k 2 109 env (O 2) lll
      (mapIssuerSigIndexes ((groupFrom 2 0 arts).map Prod.snd)).length = true) :
    Setting k O toyFactory arts res 2 ⟨toy, []⟩ (23, 61) 7 env lll :=
  { factoryOK := C02S.toyFactory_ok.1
    factoryReduced := C02S.toyFactory_ok.2
    nodup := by decide
    guessConsistent := (C02S.consistent_of_checkConsistent k O arts toyFactory hcons).2
    checked := hres
    hobj := by simp [toyFactory, C02S.toyFactory]
    nPrime := toy_n_prime
    gOrder := toy_gorder
    keyReduced := by unfold KeyReduced; decide
    dLt := by decide
    keyOf := toy_key7
    envN := henv
    solved := solvedGroup_of_B _ _ _ _ _ _ _ hsolved }

theorem toy_setting (k : Kind) (O : Nat → GroupOracle) (arts : List Sig) (res : CheckResult)
    (lll : Nat → Nat → LllAnswers)
    (hcons : checkConsistent k O arts toyFactory = true)
    (hres : check k O toyFactory arts = .ok res)
    (hsolved : solvedGroupB k 2 109 toyEnv (O 2) lll
      (mapIssuerSigIndexes ((groupFrom 2 0 arts).map Prod.snd)).length = true) :
    Setting k O toyFactory arts res 2 ⟨toy, []⟩ (23, 61) 7 toyEnv lll :=
  toy_setting_env toyEnv rfl k O arts res lll hcons hres hsolved

/-! ### recorded instances (real signatures, real LLL answers) -/

-- exMsb: values nonces [3, 6, 6] (< 8 = 2^(7-4)), w = 2^128
def exMsbVals : List Triple := [(20, 16, 17), (57, 20, 48), (57, 68, 9)]
def exMsbBatch : List Sig :=
  [⟨2, [23], [61], [20], [16], [35]⟩,
   ⟨2, [23], [61], [57], [20], [96]⟩,
   ⟨2, [23], [61], [57], [68], [236]⟩,
   ⟨2, [89], [43], [16], [28], [123]⟩,
   ⟨99, [23], [61], [5], [3], [16]⟩]
def exMsbBasis : List (List Int) :=
   [[0, -109, 0, 0, 0],
    [0, 21, -340282366920938463463374607431768211456, -3743106036130323098097120681749450326016, 5444517870735015415413993718908291383296],
    [0, -16, -6805647338418769269267492148635364229120, -680564733841876926926749214863536422912, -2381976568446569244243622252022377480192],
    [0, 50, 2722258935367507707706996859454145691648, -7145929705339707732730866756067132440576, -6465364971497830805804117541203596017664],
    [-37090777994382292517507832210062735048705, -7, -1020847100762815390390123822295304634368, -2041694201525630780780247644590609268736, -2041694201525630780780247644590609268736]]
def exMsbBasis2 : List (List Int) :=
   [[0, -109, 0],
    [0, -29, -340282366920938463463374607431768211456],
    [37090777994382292517507832210062735048705, 3, 0]]
def exMsbLll : Nat → Nat → LllAnswers := fun j _ _ => if j = 0 then exMsbBasis else exMsbBasis2
def exMsbO : Nat → GroupOracle := fun _ =>
  { uniq := fun j => if j = 0 then exMsbVals else [(16, 28, 61)]
    answer := fun j _ => if j = 0 then [7] else [3]
    guessList := [7, 3] }

-- exPre: values nonces [81, 80, 87, 84] = top + e, |e| < 8, w = 2^64
def exPreVals : List Triple := [(29, 107, 71), (68, 69, 30), (34, 102, 25), (52, 21, 92)]
def exPreBatch : List Sig :=
  [⟨2, [23], [61], [29], [107], [143]⟩,
   ⟨2, [23], [61], [68], [69], [61]⟩,
   ⟨2, [23], [61], [34], [102], [51]⟩,
   ⟨2, [23], [61], [52], [21], [185]⟩,
   ⟨2, [89], [43], [28], [28], [140]⟩,
   ⟨99, [23], [61], [5], [3], [16]⟩]
def exPreBasis : List (List Int) :=
   [[0, 109, 0, 0, 0, 0],
    [0, 0, 18446744073709551616, 18446744073709551616, 18446744073709551616, 18446744073709551616],
    [0, -26, -166020696663385964544, 129127208515966861312, 92233720368547758080, -73786976294838206464],
    [0, 49, 202914184810805067776, 110680464442257309696, -129127208515966861312, -202914184810805067776],
    [0, -50, -73786976294838206464, 184467440737095516160, -350488137400481480704, 258254417031933722624],
    [2010695104034341126145, 7, -36893488147419103232, -55340232221128654848, 73786976294838206464, 18446744073709551616]]
def exPreBasis2 : List (List Int) :=
   [[0, -1, 0],
    [0, 0, 340282366920938463463374607431768211456],
    [37090777994382292517507832210062735048705, 0, 0]]
def exPreLll : Nat → Nat → LllAnswers := fun j _ _ => if j = 0 then exPreBasis else exPreBasis2
def exPreO : Nat → GroupOracle := fun _ =>
  { uniq := fun j => if j = 0 then exPreVals else [(28, 28, 70)]
    answer := fun j _ => if j = 0 then [7] else [0]
    guessList := [7, 0] }

-- exPost: values nonces [32, 56, 72, 88, 48] = low + 8*hi, w = 2^3
def exPostVals : List Triple := [(94, 3, 92), (65, 80, 101), (40, 57, 9), (44, 45, 55), (17, 108, 51)]
def exPostBatch : List Sig :=
  [⟨2, [23], [61], [94], [3], [184]⟩,
   ⟨2, [23], [61], [65], [80], [203]⟩,
   ⟨2, [23], [61], [40], [57], [237]⟩,
   ⟨2, [23], [61], [44], [45], [111]⟩,
   ⟨2, [23], [61], [17], [108], [103]⟩,
   ⟨2, [89], [43], [39], [41], [207]⟩,
   ⟨99, [23], [61], [5], [3], [16]⟩]
def exPostBasis : List (List Int) :=
   [[0, 0, 8, 8, 8, 8, 8],
    [0, -109, 0, 0, 0, 0, 0],
    [0, 29, -88, -8, -24, 112, 0],
    [0, -14, -184, 48, 176, -40, -16],
    [0, 27, -64, -200, 176, 32, 48],
    [0, -50, 80, -88, 120, 96, -192],
    [873, 7, -24, 0, 16, 32, -8]]
def exPostBasis2 : List (List Int) :=
   [[0, 1, 0],
    [0, 0, 256],
    [27905, 0, 0]]
def exPostLll : Nat → Nat → LllAnswers := fun j _ _ => if j = 0 then exPostBasis else exPostBasis2
def exPostO : Nat → GroupOracle := fun _ =>
  { uniq := fun j => if j = 0 then exPostVals else [(39, 41, 103)]
    answer := fun j _ => if j = 0 then [7] else [0]
    guessList := [7, 0] }

-- exGen: values mult*nonce = top + e mod n, |e| < 8, w = 2^64
def exGenVals : List Triple := [(58, 77, 28), (39, 92, 34), (22, 86, 15), (75, 70, 87), (58, 89, 56), (90, 68, 100)]
def exGenBatch : List Sig :=
  [⟨2, [23], [61], [58], [77], [57]⟩,
   ⟨2, [23], [61], [39], [92], [68]⟩,
   ⟨2, [23], [61], [22], [86], [249]⟩,
   ⟨2, [23], [61], [75], [70], [174]⟩,
   ⟨2, [23], [61], [58], [89], [113]⟩,
   ⟨2, [23], [61], [90], [68], [201]⟩,
   ⟨2, [89], [43], [56], [34], [220]⟩,
   ⟨99, [23], [61], [5], [3], [16]⟩]
def exGenBasis : List (List Int) :=
   [[0, 109, 0, 0, 0, 0, 0, 0],
    [-109, 0, 0, 0, 0, 0, 0, 0],
    [0, 0, 18446744073709551616, 18446744073709551616, 18446744073709551616, 18446744073709551616, 18446744073709551616, 18446744073709551616],
    [-34, -20, -18446744073709551616, 36893488147419103232, -36893488147419103232, -55340232221128654848, -18446744073709551616, 73786976294838206464],
    [3, -17, 55340232221128654848, 18446744073709551616, 110680464442257309696, -110680464442257309696, -36893488147419103232, -36893488147419103232],
    [-4, 9, -73786976294838206464, 276701161105643274240, -73786976294838206464, 36893488147419103232, -36893488147419103232, -147573952589676412928],
    [5, -45, 313594649253062377472, 129127208515966861312, -239807672958224171008, 0, -92233720368547758080, -129127208515966861312],
    [12, -36, 202914184810805067776, -110680464442257309696, 55340232221128654848, 92233720368547758080, -405828369621610135552, 147573952589676412928]]
def exGenBasis2 : List (List Int) :=
   [[1, 0, 0],
    [0, -1, 0],
    [0, 0, 18446744073709551616]]
def exGenLll : Nat → Nat → LllAnswers := fun j _ _ => if j = 0 then exGenBasis else exGenBasis2
def exGenO : Nat → GroupOracle := fun _ =>
  { uniq := fun j => if j = 0 then exGenVals else [(56, 34, 1)]
    answer := fun j _ => if j = 0 then [7, 25, 67, 100, 106] else [0]
    guessList := [7, 25, 67, 100, 106, 0] }


/-! ### MSB: nonces 3, 6, 6 (`< 8 = 2^(7−4)`), `w = 2^128`; the real LLL answer contains MINUS the
planted row -/

/-- every hypothesis of `sandwich_msb` (lattice level), and the conclusion evaluated. -/
example :
    (∀ i, i < ([76, 46, 37] : List Int).length →
      ent [76, 46, 37] i + ent [83, 41, 89] i * 7 ≡ ent [3, 6, 6] i [ZMOD ((109 : Nat) : Int)]) ∧
    (∀ k ∈ ([3, 6, 6] : List Int), 0 ≤ k ∧ k < 2 ^ (bitLength 109 - 4)) ∧
    (∀ r ∈ exMsbBasis, 2 ≤ r.length) ∧
    PMMem (plantedRow 109 (defaultW .msb 3 2) 7 [3, 6, 6]) exMsbBasis ∧
    hiddenNumberProblem [76, 46, 37] [83, 41, 89] none 109 .msb 2 exMsbBasis = .ok [7] := by
  decide +kernel

def exMsbNonce : Triple → Int := tableFn [((20, 16, 17), 3), ((57, 20, 48), 6), ((57, 68, 9), 6)]

/-- every hypothesis of `sigs_msb`. -/
example :
    (∀ v ∈ exMsbVals, Int.gcd (v.2.1 : Int) 109 = 1) ∧
    (∀ v ∈ exMsbVals, SignedWith 109 (7 : Nat) v (exMsbNonce v)) ∧
    (∀ v ∈ exMsbVals, 0 ≤ exMsbNonce v ∧ exMsbNonce v < 2 ^ (bitLength 109 - 4)) ∧
    hnpParamsList 109 exMsbVals = .ok [(76, 83), (46, 41), (37, 89)] ∧
    PMMem (plantedRow 109 (defaultW .msb exMsbVals.length 2) (7 : Nat) (exMsbVals.map exMsbNonce))
      exMsbBasis := by
  decide +kernel

/-- `chain_msb` applied: all hypotheses hold for the recorded batch … -/
example (res : CheckResult)
    (h : check (.biased (.bias 1)) exMsbO toyFactory exMsbBatch = .ok res) :
    ∀ bi s, exMsbBatch[bi]? = some s → s.curve = 2 → s.key = (23, 61) →
      verdictOf res.writes bi = some (posVerdict (7 : Nat)) :=
  chain_msb (toy_setting _ exMsbO exMsbBatch res exMsbLll (by decide +kernel) h (by decide +kernel))
    0 (by decide +kernel) exMsbNonce 4 (by decide +kernel) (by decide +kernel) 0 exMsbVals
    (by decide +kernel) (by decide +kernel) (by decide +kernel)

/-- … and the call does return, with exactly these verdicts (issuer `7·G` flagged with 7, issuer
`5·G` not flagged, unknown curve untouched). -/
example : ((check (.biased (.bias 1)) exMsbO toyFactory exMsbBatch).toOption.map fun r =>
    (List.range 5).map (verdictOf r.writes)) =
    some [some (posVerdict 7), some (posVerdict 7), some (posVerdict 7), some negVerdict, none] := by
  decide +kernel

/-! ### COMMON_PREFIX: nonces 81, 80, 87, 84 = 83 + (−2, −3, 4, 1), `w = 2^64`; LLL returns the row
centred (entries of both signs) -/

example :
    (∀ i, i < ([19, 81, 12, 103] : List Int).length →
      ent [19, 81, 12, 103] i + ent [40, 31, 73, 44] i * 7 ≡
        83 + ent [-2, -3, 4, 1] i [ZMOD ((109 : Nat) : Int)]) ∧
    (∀ e ∈ ([-2, -3, 4, 1] : List Int), |e| < 2 ^ (bitLength 109 - 4)) ∧
    (∀ r ∈ exPreBasis, 2 ≤ r.length) ∧
    PMMem (plantedRow 109 (defaultW .commonPrefix 4 2) 7 [-2, -3, 4, 1]) exPreBasis ∧
    hiddenNumberProblem [19, 81, 12, 103] [40, 31, 73, 44] none 109 .commonPrefix 2 exPreBasis
      = .ok [7] := by
  decide +kernel

def exPreE : Triple → Int :=
  tableFn [((29, 107, 71), -2), ((68, 69, 30), -3), ((34, 102, 25), 4), ((52, 21, 92), 1)]

/-- every hypothesis of `sigs_prefix`. -/
example :
    (∀ v ∈ exPreVals, Int.gcd (v.2.1 : Int) 109 = 1) ∧
    (∀ v ∈ exPreVals, SignedWith 109 (7 : Nat) v (83 + exPreE v)) ∧
    (∀ v ∈ exPreVals, |exPreE v| < 2 ^ (bitLength 109 - 4)) ∧
    PMMem (plantedRow 109 (defaultW .commonPrefix exPreVals.length 2) (7 : Nat)
      (exPreVals.map exPreE)) exPreBasis := by
  decide +kernel

example (res : CheckResult)
    (h : check (.biased (.bias 2)) exPreO toyFactory exPreBatch = .ok res) :
    ∀ bi s, exPreBatch[bi]? = some s → s.curve = 2 → s.key = (23, 61) →
      verdictOf res.writes bi = some (posVerdict (7 : Nat)) :=
  chain_prefix (toy_setting _ exPreO exPreBatch res exPreLll (by decide +kernel) h
      (by decide +kernel))
    0 (by decide +kernel) 83 exPreE 4 (by decide +kernel) (by decide +kernel) 0 exPreVals
    (by decide +kernel) (by decide +kernel) (by decide +kernel)

example : ((check (.biased (.bias 2)) exPreO toyFactory exPreBatch).toOption.map fun r =>
    (List.range 6).map (verdictOf r.writes)) =
    some [some (posVerdict 7), some (posVerdict 7), some (posVerdict 7), some (posVerdict 7),
      some negVerdict, none] := by
  decide +kernel

/-! ### COMMON_POSTFIX: nonces 32, 56, 72, 88, 48 (all ≡ 0 mod 8) = 56 + 8·(−3, 0, 2, 4, −1);
`fb = int(7/5·1.25) = 1`, `β = 3`, `w = 8` -/

example :
    (∀ i, i < ([67, 98, 69, 86, 58] : List Int).length →
      ent [67, 98, 69, 86, 58] i + ent [104, 103, 16, 47, 92] i * 7 ≡
        ent [32, 56, 72, 88, 48] i [ZMOD ((109 : Nat) : Int)]) ∧
    (∀ i, i < ([67, 98, 69, 86, 58] : List Int).length →
      ent [32, 56, 72, 88, 48] i = 56 + 2 ^ (max 3 1) * ent [-3, 0, 2, 4, -1] i) ∧
    (∀ h ∈ ([-3, 0, 2, 4, -1] : List Int), |h| < 2 ^ (bitLength 109 - max 3 1)) ∧
    (∀ r ∈ exPostBasis, 2 ≤ r.length) ∧
    PMMem (plantedRow 109 (defaultW .commonPostfix 5 1) 7 [-3, 0, 2, 4, -1]) exPostBasis ∧
    hiddenNumberProblem [67, 98, 69, 86, 58] [104, 103, 16, 47, 92] none 109 .commonPostfix 1
      exPostBasis = .ok [7] := by
  decide +kernel

/-- the bit-level reading: the nonces agree on their low 3 bits; centre `c = 7`. -/
example : ∀ k ∈ ([32, 56, 72, 88, 48] : List Int),
    (0 ≤ k ∧ k < 2 ^ 7 ∧ k % 2 ^ 3 = 0) ∧
    k = (0 % 2 ^ 3 + 2 ^ 3 * 7) + 2 ^ 3 * (k / 2 ^ 3 - 7) := by decide +kernel

def exPostHi : Triple → Int :=
  tableFn [((94, 3, 92), -3), ((65, 80, 101), 0), ((40, 57, 9), 2), ((44, 45, 55), 4),
    ((17, 108, 51), -1)]

/-- every hypothesis of `sigs_postfix`. -/
example :
    109 ≠ 2 ∧ exPostVals ≠ [] ∧
    (∀ v ∈ exPostVals, Int.gcd (v.2.1 : Int) 109 = 1) ∧
    (∀ v ∈ exPostVals, SignedWith 109 (7 : Nat) v (56 + 2 ^ (max 3 1) * exPostHi v)) ∧
    (∀ v ∈ exPostVals, |exPostHi v| < 2 ^ (bitLength 109 - max 3 1)) ∧
    PMMem (plantedRow 109 (defaultW .commonPostfix exPostVals.length 1) (7 : Nat)
      (exPostVals.map exPostHi)) exPostBasis := by
  decide +kernel

example (res : CheckResult)
    (h : check (.biased (.bias 3)) exPostO toyFactory exPostBatch = .ok res) :
    ∀ bi s, exPostBatch[bi]? = some s → s.curve = 2 → s.key = (23, 61) →
      verdictOf res.writes bi = some (posVerdict (7 : Nat)) :=
  chain_postfix (toy_setting _ exPostO exPostBatch res exPostLll (by decide +kernel) h
      (by decide +kernel))
    (by decide) 0 (by decide +kernel) 0 exPostVals (by decide +kernel) 56 exPostHi
    (by decide +kernel) (by decide +kernel) (by decide +kernel) (by decide +kernel)

example : ((check (.biased (.bias 3)) exPostO toyFactory exPostBatch).toOption.map fun r =>
    (List.range 7).map (verdictOf r.writes)) =
    some [some (posVerdict 7), some (posVerdict 7), some (posVerdict 7), some (posVerdict 7),
      some (posVerdict 7), some negVerdict, none] := by
  decide +kernel

/-! ### GENERALIZED: secret multiplier 75 ≡ −34, `−34·k ≡ 67 + (−1, 2, −2, −3, −1, 4)`, `w = 2^64`;
LLL returns the representatives `mult = −34`, `y = −20 ≡ 75·7` -/

example :
    ¬ (((109 : Nat) : Int) ∣ -34) ∧ (-20 : Int) ≡ -34 * 7 [ZMOD ((109 : Nat) : Int)] ∧
    (∀ i, i < ([40, 107, 42, 90, 19, 72] : List Int).length →
      -34 * (ent [40, 107, 42, 90, 19, 72] i + ent [5, 49, 18, 40, 8, 43] i * 7) ≡
        67 + ent [-1, 2, -2, -3, -1, 4] i [ZMOD ((109 : Nat) : Int)]) ∧
    (∀ e ∈ ([-1, 2, -2, -3, -1, 4] : List Int), |e| < 2 ^ (bitLength 109 - 4)) ∧
    (∀ r ∈ exGenBasis, 2 ≤ r.length) ∧
    PMMem (plantedRowGen (defaultW .generalized 6 1) (-34) (-20) [-1, 2, -2, -3, -1, 4])
      exGenBasis ∧
    ((hiddenNumberProblem [40, 107, 42, 90, 19, 72] [5, 49, 18, 40, 8, 43] none 109
        .generalized 1 exGenBasis).toOption.map fun gs => gs.contains 7) = some true := by
  decide +kernel

def exGenNonce : Triple → Int :=
  tableFn [((58, 77, 28), 75), ((39, 92, 34), 14), ((22, 86, 15), 59), ((75, 70, 87), 43),
    ((58, 89, 56), 75), ((90, 68, 100), 46)]
def exGenE : Triple → Int :=
  tableFn [((58, 77, 28), -1), ((39, 92, 34), 2), ((22, 86, 15), -2), ((75, 70, 87), -3),
    ((58, 89, 56), -1), ((90, 68, 100), 4)]

/-- every hypothesis of `sigs_generalized`. -/
example :
    (∀ v ∈ exGenVals, Int.gcd (v.2.1 : Int) 109 = 1) ∧
    (∀ v ∈ exGenVals, SignedWith 109 (7 : Nat) v (exGenNonce v)) ∧
    (∀ v ∈ exGenVals, -34 * exGenNonce v ≡ 67 + exGenE v [ZMOD ((109 : Nat) : Int)]) ∧
    (∀ v ∈ exGenVals, |exGenE v| < 2 ^ (bitLength 109 - 4)) ∧
    PMMem (plantedRowGen (defaultW .generalized exGenVals.length 1) (-34) (-20)
      (exGenVals.map exGenE)) exGenBasis := by
  decide +kernel

example (res : CheckResult)
    (h : check (.biased (.bias 4)) exGenO toyFactory exGenBatch = .ok res) :
    ∀ bi s, exGenBatch[bi]? = some s → s.curve = 2 → s.key = (23, 61) →
      verdictOf res.writes bi = some (posVerdict (7 : Nat)) :=
  chain_generalized (toy_setting _ exGenO exGenBatch res exGenLll (by decide +kernel) h
      (by decide +kernel))
    0 (by decide +kernel) exGenNonce (-34) (-20) 67 exGenE 4 (by decide +kernel) (by decide +kernel)
    (by decide +kernel) (by decide +kernel) (by decide +kernel) 0 exGenVals (by decide +kernel)
    (by decide +kernel) (by decide +kernel)

/-- the model solver returns five guesses for this window; only `7` is a key of `(23, 61)`. -/
example : ((check (.biased (.bias 4)) exGenO toyFactory exGenBatch).toOption.map fun r =>
    (List.range 8).map (verdictOf r.writes)) =
    some [some (posVerdict 7), some (posVerdict 7), some (posVerdict 7), some (posVerdict 7),
      some (posVerdict 7), some (posVerdict 7), some negVerdict, none] := by
  decide +kernel

/-! ### Cr50 U2F, solver level: `n = 2^32 − 5`, `k₁ = 3·0x01010101`, `k₂ = 7·0x01010101`,
`d = 123456789`; the basis is the real `lll.reduce` answer and contains the planted row itself -/

def exCr32Basis : List (List Int) :=
  [[3, 7, -256, 0], [-435, 1081, 0, -699], [874, -399, 0, -1504], [2012, 309, 0, 93]]

/-- `2^32 − 5` is prime (Pratt certificate: `p − 1 = 2·5·19·22605091`, `22605090 = 2·3·5·23·181²`). -/
theorem p32_prime : Nat.Prime 4294967291 :=
  Pratt.prime_of_fastCert ⟨4294967291, [⟨22605091, 11, [(2, 1), (3, 1), (5, 1), (23, 1), (181, 2)]⟩,
    ⟨4294967291, 2, [(2, 1), (5, 1), (19, 1), (22605091, 1)]⟩]⟩ _ (by decide +kernel)

/-- every hypothesis of `sandwich_cr50`, and the conclusion evaluated. -/
example :
    bitLength 4294967291 % 32 = 0 ∧ 123456789 < 4294967291 ∧
    ([3] : List Int).length = (cr50Basis (bitLength 4294967291)).length ∧
    ([7] : List Int).length = (cr50Basis (bitLength 4294967291)).length ∧
    (∀ c ∈ ([3] : List Int), 0 ≤ c ∧ c < 256) ∧ (∀ c ∈ ([7] : List Int), 0 ≤ c ∧ c < 256) ∧
    SignedWith 4294967291 (123456789 : Nat) (1000003, 1979693995, 55555)
      (dotZip (cr50Basis (bitLength 4294967291)) [3]) ∧
    SignedWith 4294967291 (123456789 : Nat) (2000003, 164261424, 77777)
      (dotZip (cr50Basis (bitLength 4294967291)) [7]) ∧
    ¬ 4294967291 ∣ 1000003 ∧ ¬ 4294967291 ∣ 2000003 ∧
    PMMem (plantedRowCr50 [3] [7]) exCr32Basis ∧
    cr50Guesses 1000003 1979693995 55555 2000003 164261424 77777 4294967291 exCr32Basis
      = .ok [123456789] := by
  decide +kernel

/-! ### Cr50 U2F, check level: the REAL `CheckCr50U2f().Check` on two secp192r1 signatures of one
issuer whose nonces repeat each byte four times; recorded `unique_vals` order, recorded
`lll.reduce` answers of the two `Cr50U2fGuesses` calls (pair, then last value with `(1, 1, 0)`),
recorded `list(guesses)`.  The first LLL answer contains MINUS the planted digit row. -/

def exCrD : Nat := 4334005094632571853496521294995021945987348826734118468678
def exCrKey : Key := (520428322220066299518786006367253874126912383427533259266, 3110612450908616798835815003410282209432110451032234428509)
def exCrBatch : List Sig :=
  [⟨1, [21, 57, 134, 116, 41, 195, 214, 221, 169, 60, 38, 64, 2, 243, 169, 86, 203, 110, 66, 21, 87, 138, 194, 2], [126, 220, 79, 47, 128, 252, 206, 6, 166, 226, 127, 197, 72, 143, 77, 206, 36, 23, 230, 105, 208, 200, 136, 93], [113, 53, 15, 48, 190, 48, 224, 236, 177, 70, 181, 109, 40, 34, 140, 157, 195, 172, 76, 215, 62, 132, 197, 174], [142, 167, 188, 66, 196, 109, 252, 26, 202, 9, 65, 168, 226, 89, 168, 95, 204, 3, 173, 118, 213, 252, 177, 247], [239, 226, 108, 7, 255, 13, 33, 215, 219, 11, 51, 119, 119, 56, 165, 198, 116, 211, 127, 241]⟩,
   ⟨1, [21, 57, 134, 116, 41, 195, 214, 221, 169, 60, 38, 64, 2, 243, 169, 86, 203, 110, 66, 21, 87, 138, 194, 2], [126, 220, 79, 47, 128, 252, 206, 6, 166, 226, 127, 197, 72, 143, 77, 206, 36, 23, 230, 105, 208, 200, 136, 93], [157, 94, 11, 181, 30, 84, 57, 155, 65, 124, 177, 141, 114, 67, 10, 201, 20, 162, 214, 86, 215, 137, 139, 139], [135, 75, 99, 236, 37, 251, 189, 37, 133, 8, 69, 19, 14, 150, 46, 179, 107, 164, 147, 19, 100, 144, 18, 179], [127, 217, 45, 95, 162, 232, 20, 120, 0, 113, 82, 222, 168, 101, 31, 63, 206, 89, 121, 97]⟩]
def exCrV1 : Triple := (2775834012768809531226136208492097966787794541778544412078, 3497895727786411660404580446924177699712674816883005633015, 1369498173489644090880592658549036975983137357809)
def exCrV2 : Triple := (3858636590251254993907572884309443348762537122929194929035, 3317411326546858335128864170969321121263697777208855630515, 729885042198940514843620676565917724702198561121)
def exCrC1 : List Int := [242, 216, 190, 167, 237, 136]
def exCrC2 : List Int := [64, 167, 14, 231, 41, 29]
def exCrBasis0 : List (List Int) :=
   [[-242, -216, -190, -167, -237, -136, -64, -167, -14, -231, -41, -29, 256, 0],
    [11143, 800, -2281, -19169, -175, 2494, 8035, 1330, 5481, 6400, -3692, 3667, 7424, 801],
    [-8545, 1953, 8152, -9276, -7812, 620, 7633, -2643, -7597, 7501, 164, 15190, -5632, 2366],
    [-7412, 11627, 9704, 7022, 2876, 5848, 1761, -14879, -2083, -14825, 4379, 11352, -1024, -3478],
    [2374, -4095, -11597, 203, -5840, 520, -7767, 5814, -1717, 11903, 15457, 5711, 1024, -9244],
    [-5950, 1549, -14381, 4202, 9212, 2509, -11671, 12961, -458, 99, 8230, -685, 4352, 15315],
    [-4532, 10316, -8982, 5648, 1749, -2584, 275, -4969, 5995, -7254, 19087, -8118, -5120, 12350],
    [-11316, 4752, -461, -289, 4784, 13931, 5524, 7366, -131, 1968, 9583, -1903, 13568, -7244],
    [20842, 7090, 4401, -15179, -8371, 4983, -1990, -2438, 5899, -15643, 10331, -8986, -1280, -8905],
    [500, 1523, -16192, -24, 4014, 1746, 14045, 7194, 5160, -10815, 2697, 7375, -6400, -7572],
    [6692, -2627, 373, 18542, -18719, 759, -341, 719, 15452, 4639, 9129, -8931, 5888, 1656],
    [3558, 1804, -10054, 3045, 1734, 12815, -15778, -6247, -19874, 1551, -13065, -3601, -2816, 8768],
    [11957, 8066, 14997, 930, -13429, -15092, 5746, -144, -16955, -7993, 537, 2172, 3072, 11903],
    [-3090, 18223, 607, -6828, -10180, 5672, -4055, 6204, 11253, -3550, -18005, -1590, -768, -5564]]
def exCrBasis1 : List (List Int) :=
   [[-3868, 2857, 685, 1901, 5398, -6479, -1551, -8447, 507, -5593, -469, -3884, -12544, -7884],
    [2390, 12037, -2405, -3975, 1204, 5352, -2576, 9556, -6971, -8241, -3669, 2105, 4096, 12569],
    [-2456, 6610, 5221, 2810, 11035, 9463, -2192, -6769, 11357, -6309, -8218, -3490, -5632, 5216],
    [701, 3582, 8924, 1856, 323, 10754, -17748, -2078, -2320, 4716, 3548, -819, 512, 6756],
    [-335, -1826, -13007, -5909, 12533, 2428, 7096, -802, 1857, 9935, 4816, -4957, 2560, -7462],
    [486, -5377, 11233, 2933, -4996, -9058, -8069, 9107, 3775, 3211, 6641, -1295, -256, 13846],
    [-4802, 5094, 5084, 14544, -5955, 7935, 1432, -7702, -5314, 2354, 323, -4601, -8960, -3639],
    [2954, 3818, -2911, -9039, -2008, 1121, -1648, -81, 11815, 15992, -4538, -5031, 768, 173],
    [-77, -2444, 3319, -8293, 9249, 11951, -6189, 1496, 7098, 951, 16023, 7925, 0, 10856],
    [1083, 8532, 15358, 5206, -3865, -7231, -1523, 5531, -6079, 8057, -4995, 7392, -2560, 893],
    [-2745, 7858, 5326, -4907, 751, 1780, 4386, -4445, -5627, 12550, 12324, -7670, 8448, 8006],
    [9559, -380, 3498, 9498, -9205, 20, -12401, 6973, 7142, -5481, 11618, 8526, 3840, -1611],
    [-2123, 1014, 723, -1899, 3033, 16163, 2485, 5427, 1810, -8417, 1599, -13793, -15616, -6026],
    [-12406, 6131, -1823, -8934, -3397, 5223, -4745, 2808, 7115, 225, -724, -577, 13568, -9636]]
def exCrAns0 : List Int := [4334005094632571853496521294995021945987348826734118468678]
def exCrAns1 : List Int := []
def exCrGuesses : List Int := [4334005094632571853496521294995021945987348826734118468678]


def exCrO : Nat → GroupOracle := fun _ =>
  { uniq := fun _ => [exCrV1, exCrV2]
    answer := fun _ kk => if kk = 0 then exCrAns0 else exCrAns1
    guessList := exCrGuesses }
def exCrLll : Nat → Nat → LllAnswers := fun _ kk _ => if kk = 0 then exCrBasis0 else exCrBasis1
def exCrEnv : SolverEnv :=
  ⟨fun n len => postfixBitsExact (bitLength n) len, [], fun _ => some (some secp192r1.n)⟩

theorem exCr_key : KeyOf secp192r1 exCrKey exCrD :=
  keyOf_of_multiply secp192r1 C11Primes.secp192r1_p_prime secp192r1_paramsOK _ _ (by decide +kernel)
    (by decide +kernel)

theorem exCr_setting (res : CheckResult)
    (h : check .cr50 exCrO namedFactory exCrBatch = .ok res) :
    Setting .cr50 exCrO namedFactory exCrBatch res 1 ⟨secp192r1, []⟩ exCrKey exCrD exCrEnv exCrLll :=
  have hm : (1, some (⟨secp192r1, []⟩ : CurveObj)) ∈ namedFactory := by
    rw [C02S.namedFactory_eq]; simp
  { factoryOK := named_curves_ok.1
    factoryReduced := named_curves_ok.2.1
    nodup := named_curves_ok.2.2.1
    guessConsistent :=
      (C02S.consistent_of_checkConsistent .cr50 exCrO exCrBatch namedFactory (by decide +kernel)).2
    checked := h
    hobj := hm
    nPrime := (named_curves_ok.2.2.2 1 _ hm).1
    gOrder := (named_curves_ok.2.2.2 1 _ hm).2.1
    keyReduced := by unfold KeyReduced; decide +kernel
    dLt := by decide +kernel
    keyOf := exCr_key
    envN := rfl
    solved := solvedGroup_of_B _ _ _ _ _ _ _ (by decide +kernel) }

/-- `chain_cr50` applied: all hypotheses hold … -/
example (res : CheckResult) (h : check .cr50 exCrO namedFactory exCrBatch = .ok res) :
    ∀ bi s, exCrBatch[bi]? = some s → s.curve = 1 → s.key = exCrKey →
      verdictOf res.writes bi = some (posVerdict exCrD) :=
  chain_cr50 (exCr_setting res h) (by decide +kernel) 0 (by decide +kernel) 0 exCrV1 exCrV2
    (by decide +kernel) (by decide +kernel) exCrC1 exCrC2 (by decide +kernel) (by decide +kernel)
    (by decide +kernel) (by decide +kernel) (by decide +kernel) (by decide +kernel)
    (by decide +kernel) (by decide +kernel) (by decide +kernel)

/-- … and the model of the call returns, flagging both signatures with the private key (the real
call attached DISCRETE_LOG = b0c11fde…7c46 = `format(exCrD, "x")` to both). -/
example : ((check .cr50 exCrO namedFactory exCrBatch).toOption.map fun r =>
    (List.range 2).map (verdictOf r.writes)) =
    some [some (posVerdict exCrD), some (posVerdict exCrD)] := by
  -- not by evaluating the call (32 scalar multiplications on secp192r1): it returns (`check_total_one_curve`)
  -- and `chain_cr50` as applied above gives the verdict of both signatures
  have hb : ∀ s ∈ exCrBatch, (s.curve = 1 ∧ Int.gcd (bytes2int s.s : Int) secp192r1.n = 1) ∧
      s.key = exCrKey := by decide +kernel
  obtain ⟨res, h⟩ := check_total_one_curve .cr50 exCrO namedFactory exCrBatch
    named_curves_ok.1 named_curves_ok.2.2.1 1 ⟨secp192r1, []⟩
    (by rw [C02S.namedFactory_eq]; simp) (by decide +kernel) fun s hs => (hb s hs).1
  rw [h]
  exact congrArg some (verdicts_all _ exCrBatch _ fun bi s hs =>
    chain_cr50 (exCr_setting res h) (by decide +kernel) 0 (by decide +kernel) 0 exCrV1 exCrV2
      (by decide +kernel) (by decide +kernel) exCrC1 exCrC2 (by decide +kernel) (by decide +kernel)
      (by decide +kernel) (by decide +kernel) (by decide +kernel) (by decide +kernel)
      (by decide +kernel) (by decide +kernel) (by decide +kernel) bi s hs
      (hb s (List.mem_of_getElem? hs)).1.1 (hb s (List.mem_of_getElem? hs)).2)
example : dlogHex exCrD = "b0c11fdecb91ce375bc8fbbcbde5c0994164d8399f767c46" := by decide +kernel

/-! ### LCG check with precomputed constants: a toy `CONSTANT_FACTORY` entry for curve id 2
(`sample_size = 4`, `min_signatures = 2`, `sliding_window_size = 4`, `w = 256`, constants
`(1, 40), (2, 80)`: they make `c·k − d` small for nonces near 40); nonces 38, 39, 37; flags =
DEFAULT (7).  Three signatures ⇒ ONE subset (all signatures, both constants); the second issuer has
one signature ⇒ the INCLUDE_KEY subset.  Bases = real `lll.reduce` answers inside the real
`HiddenNumberProblemWithPrecomputation` on the subsets the real `_HiddenNumberProblemSubsets`
yields for this factory entry.  The first answer contains MINUS the planted row. -/

def exLcgVals : List Triple := [(55, 47, 93), (1, 49, 51), (40, 77, 62)]
def exLcgBatch : List Sig :=
  [⟨2, [23], [61], [55], [47], [186]⟩,
   ⟨2, [23], [61], [1], [49], [103]⟩,
   ⟨2, [23], [61], [40], [77], [124]⟩,
   ⟨2, [89], [43], [44], [37], [25]⟩,
   ⟨99, [23], [61], [5], [3], [16]⟩]
def exLcgBases : List (List (List Int)) :=
  [[[0, -109, 0, 0, 0, 0, 0, 0],
    [0, -38, -3072, -6144, -768, -1536, -1792, -3584],
    [0, -11, 2048, 4096, 512, 1024, 10496, -6912],
    [0, -17, 13312, -1280, 3328, 6656, -1536, -3072],
    [0, -21, 11520, -4864, -4096, -8192, -256, -512],
    [0, 4, 1792, 3584, 7424, -13056, -1280, -2560],
    [0, 8, 3584, 7168, -13056, 1792, -2560, -5120],
    [-27905, -7, 512, 1024, 256, 512, 768, 1536]]]
def exLcgBases2 : List (List (List Int)) :=
  [[[0, -109, 0, 0, 0, 0],
    [0, -5, -768, -1536, -1280, -2560],
    [0, -8, 4352, 8704, -2048, -4096],
    [0, -1, 11008, -5888, -256, -512],
    [0, -43, -1024, -2048, -11008, 5888],
    [27905, 40, 512, 1024, 0, 0]]]
def exLcgAns : List Int := [7]
def exLcgAns2 : List Int := [40]
def exLcgGuesses : List Int := [7, 40]
def exLcgV2 : Triple := (44, 37, 12)
def exLcgEs : List Int := [-2, -4, -1, -2, -3, -6]


def exLcgMeta : LcgMeta := ⟨2, 1, 4, 2, 4, 256, [(1, 40), (2, 80)]⟩
def exLcgEnv : SolverEnv :=
  ⟨fun n len => postfixBitsExact (bitLength n) len, [exLcgMeta], fun _ => some (some 109)⟩
def exLcgO : Nat → GroupOracle := fun _ =>
  { uniq := fun j => if j = 0 then exLcgVals else [exLcgV2]
    answer := fun j _ => if j = 0 then exLcgAns else exLcgAns2
    guessList := exLcgGuesses }
def exLcgLll : Nat → Nat → LllAnswers := fun j _ i =>
  ((if j = 0 then exLcgBases else exLcgBases2)[i]?).getD []
def exLcgAb : List (Nat × Nat) := [(53, 29), (70, 89), (73, 26)]
/-- the subset the generator yields first for these arguments. -/
def exLcgSub : HnpSubset :=
  ((hnpSubsets (argA exLcgAb) (argB exLcgAb) 2 (some 1) (flagsOfNat 7) [exLcgMeta]).yields[0]?).getD
    ⟨[], [], [], 0⟩

theorem exLcg_sub : (hnpSubsets (argA exLcgAb) (argB exLcgAb) 2 (some 1) (flagsOfNat 7)
    exLcgEnv.lcgFactory).yields[0]? = some exLcgSub := by
  have h : ((hnpSubsets (argA exLcgAb) (argB exLcgAb) 2 (some 1) (flagsOfNat 7)
      [exLcgMeta]).yields[0]?).isSome = true := by decide +kernel
  obtain ⟨v, hv⟩ := Option.isSome_iff_exists.mp h
  show (hnpSubsets (argA exLcgAb) (argB exLcgAb) 2 (some 1) (flagsOfNat 7)
    [exLcgMeta]).yields[0]? = some exLcgSub
  rw [exLcgSub, hv]; rfl

/-- the subset: all three `(a_i, b_i)`, both constants, `w = 256`. -/
example : (exLcgSub.a, exLcgSub.b, exLcgSub.constants, exLcgSub.w) =
    ([53, 70, 73], [29, 89, 26], [(1, 40), (2, 80)], 256) := by decide +kernel

/-- every hypothesis of `sandwich_lcg` (lattice level), and the conclusion evaluated. -/
example :
    (argA exLcgAb).length = (argB exLcgAb).length ∧ (flagsOfNat 7).none = false ∧
    exLcgEs.length = exLcgSub.a.length * exLcgSub.constants.length ∧
    (∀ t, t < exLcgSub.a.length * exLcgSub.constants.length →
      ent (precompAs exLcgSub.a 109 exLcgSub.constants) t +
        ent (precompBs exLcgSub.a exLcgSub.b 109 exLcgSub.constants) t * 7 ≡
          ent exLcgEs t [ZMOD ((109 : Nat) : Int)]) ∧
    (∀ e ∈ exLcgEs, |e| < 2 ^ 3) ∧
    (∀ i, i < 3 → ∀ r ∈ exLcgLll 0 0 i, 2 ≤ r.length) ∧
    PMMem (plantedRow 109 exLcgSub.w 7 exLcgEs) (exLcgLll 0 0 0) ∧
    hnpForCurve (argA exLcgAb) (argB exLcgAb) 2 (some (some 109)) (some 1) (flagsOfNat 7)
      [exLcgMeta] (exLcgLll 0 0) = .ok [7] := by
  decide +kernel

theorem exLcg_meta : ∀ m ∈ exLcgEnv.lcgFactory, entrySelected m 2 (some 1) = true → MetaOk m := by
  intro m hm _
  simp only [exLcgEnv, List.mem_singleton] at hm
  subst hm
  exact ⟨by decide, by decide, by decide⟩

theorem exLcg_rows : ∀ i, ∀ r ∈ exLcgLll 0 0 i, 2 ≤ r.length := by
  intro i r hr
  match i with
  | 0 => revert r; decide +kernel
  | i + 1 => simp [exLcgLll, exLcgBases] at hr

example (res : CheckResult)
    (h : check (.biased (.lcg 1 7)) exLcgO toyFactory exLcgBatch = .ok res) :
    ∀ bi s, exLcgBatch[bi]? = some s → s.curve = 2 → s.key = (23, 61) →
      verdictOf res.writes bi = some (posVerdict (7 : Nat)) :=
  have S := toy_setting_env exLcgEnv rfl (.biased (.lcg 1 7)) exLcgO exLcgBatch res exLcgLll
    (by decide +kernel) h (by decide +kernel)
  chain_lcg S 0 (by decide +kernel) exLcgAb (by decide +kernel) (by decide +kernel) exLcg_meta
    0 exLcgSub exLcg_sub exLcgEs (by decide +kernel) (by decide +kernel) exLcg_rows
    (by decide +kernel)

example : ((check (.biased (.lcg 1 7)) exLcgO toyFactory exLcgBatch).toOption.map fun r =>
    (List.range 5).map (verdictOf r.writes)) =
    some [some (posVerdict 7), some (posVerdict 7), some (posVerdict 7), some negVerdict, none] := by
  decide +kernel

end Paranoid.C08ChainEx
