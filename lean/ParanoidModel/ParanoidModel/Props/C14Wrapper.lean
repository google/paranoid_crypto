/-
Props/C14Wrapper.lean — C14, the Python wrapper `berlekamp_massey.LinearComplexity` END TO END:
`size = (length + 7) // 8`, range check, `s.to_bytes(size, "little")`, pybind11 call of the C++
`LfsrLengthStr` (word-level model of Model/BMCpp.lean, both variants).

`Paranoid.linearComplexity` (Model/BM.lean) ASSUMES the value the C++ code returns, and
`C14Cpp.cpp_matches_wrapper_model` relates the word-level model to that assumed value for a GIVEN
byte string.  What closes the gap is that the byte string the wrapper passes is
the `to_bytes` of the integer and that `from_bytes ∘ to_bytes = id`:

* `to_bytes_round_trip`, `to_bytes_round_trip_mod`, `from_bytes_round_trip`, `to_bytes_bit_order`:
  the round trip and the bit order for ALL lengths;
* `wrapper_glue`: the statement-by-statement model of the wrapper over the word-level C++ model
  (`BMCpp.linearComplexityCpp`) equals `Paranoid.linearComplexity` on EVERY input (errors
  included) — so the assumed value is a theorem;
* `wrapper_spec`: total case analysis of the wrapper (which exception when, `-1`, or the shortest
  LFSR length);
* `linearComplexity_is_shortest_lfsr`: for every bit string given as `(length, s)` the Python-level
  result is the length of the shortest LFSR generating `s_0, s_1, …, s_{length-1}`, `s_i` = bit `i`
  of `s` (least significant first — the order in which `nist_suite.LinearComplexity` hands the
  blocks over: `nist_block_bits`);
* the C++ size limits as an explicit, decidable hypothesis `BMCpp.CppSizeOk`
  (`n ≤ 2^30`; `(|seq| + 7) / 8 < 2^31` words for `int size`, i.e. `|seq| ≤ 2^34 - 8` bytes), and
  `int_quantities_fit`: under it every `int`-typed quantity of the C++ code is below `2^31`.
-/
import ParanoidModel.Props.C14Cpp
namespace Paranoid.C14Wrapper
open Paranoid Paranoid.Lfsr Paranoid.BMCpp

theorem to_bytes_length (k s : Nat) : (bytesOfNat k s).length = k := length_bytesOfNat k s

/-- **round trip, all lengths**: `from_bytes(to_bytes(s, k)) = s` whenever `to_bytes` does not
raise (`s < 256^k`). -/
theorem to_bytes_round_trip (k s : Nat) (h : s < 256 ^ k) : natOfBytes (bytesOfNat k s) = s :=
  natOfBytes_bytesOfNat k s h

/-- without the size hypothesis the low `k` bytes are kept. -/
theorem to_bytes_round_trip_mod (k s : Nat) : natOfBytes (bytesOfNat k s) = s % 256 ^ k :=
  natOfBytes_bytesOfNat_mod k s

/-- every byte string is `to_bytes` of its `from_bytes` (so the two are mutually inverse
bijections between `{s < 256^k}` and byte strings of length `k`). -/
theorem from_bytes_round_trip (seq : List UInt8) :
    bytesOfNat seq.length (natOfBytes seq) = seq ∧ natOfBytes seq < 256 ^ seq.length :=
  ⟨bytesOfNat_natOfBytes seq, natOfBytes_lt_pow256 seq⟩

/-- byte and bit order of `"little"`: bit `j` of `s` is bit `j mod 8` of byte `j / 8`. -/
theorem to_bytes_bit_order (k s j : Nat) (h : s < 256 ^ k) :
    s.testBit j = (((bytesOfNat k s)[j / 8]?).map (fun b => b.toNat.testBit (j % 8))).getD false := by
  rw [← natOfBytes_testBit, natOfBytes_bytesOfNat k s h]

/-- `to_bytes` raises `OverflowError` exactly for `s ≥ 256^size`. -/
theorem to_bytes_error_iff (size s : Nat) :
    (toBytesLE size s = .error .overflow ↔ 256 ^ size ≤ s) ∧
      (s < 256 ^ size → toBytesLE size s = .ok (bytesOfNat size s)) := by
  unfold toBytesLE
  constructor
  · constructor
    · intro h; by_contra hc; rw [if_neg hc] at h; cases h
    · intro h; rw [if_pos h]
  · intro h; rw [if_neg (by omega), bytesLE_eq_bytesOfNat]

theorem lcSize_bounds (length : Int) (h : ¬ (lcSize length < 0 ∨ 2 ^ 31 ≤ lcSize length)) :
    -7 ≤ length ∧ length ≤ 8 * ((lcSize length).toNat : Int) ∧ (lcSize length).toNat < 2 ^ 31 := by
  unfold lcSize at *
  rw [Int.fdiv_eq_ediv_of_nonneg _ (by omega)] at *
  omega

/-- **wrapper glue**: the wrapper executed statement by statement over the WORD-LEVEL C++ model
(`to_bytes`, pybind11 `int` conversion, `LfsrLengthStr` of either variant) returns, on EVERY input
`(s, length)`, exactly what Model/BM.lean's `linearComplexity` (which assumed the C++ value)
returns; the C++ model never runs into the undefined behaviour it can represent, an out-of-bounds
access (`some`).  NOTE: a statement about the MODEL for every `(s, length)`; the model's
`int`s are unbounded, so it is a statement about the C++ code only under `CppSizeOk` (`length ≤ 2^30`) —
see Props/C14WrapperSized.lean. -/
theorem wrapper_glue (v : Variant) (s : Nat) (length : Int) :
    linearComplexityCpp v s length = (linearComplexity s length).map some := by
  unfold linearComplexityCpp linearComplexity toBytesLE
  by_cases h1 : lcSize length < 0 ∨ 2 ^ 31 ≤ lcSize length
  · rw [if_pos h1, if_pos h1]; rfl
  · rw [if_neg h1, if_neg h1]
    obtain ⟨hlo, hhi, hsz⟩ := lcSize_bounds length h1
    have hp : (256 : Nat) ^ (lcSize length).toNat = 2 ^ (8 * (lcSize length).toNat) := by
      rw [Nat.pow_mul]
    rw [hp]
    by_cases h2 : 2 ^ (8 * (lcSize length).toNat) ≤ s
    · rw [if_pos h2, if_pos h2]; rfl
    · rw [if_neg h2, if_neg h2]
      by_cases h3 : (2 : Int) ^ 31 ≤ length
      · rw [if_pos h3]
        simp only
        rw [if_pos (Or.inr h3)]; rfl
      · rw [if_neg h3]
        simp only
        rw [if_neg (by omega)]
        rw [bytesLE_eq_bytesOfNat, C14Cpp.cpp_simulates_native, length_bytesOfNat,
          natOfBytes_bytesOfNat _ s (by rw [hp]; omega)]
        by_cases h4 : length < 0
        · rw [if_pos h4, if_pos (Or.inl h4)]; rfl
        · rw [if_neg h4, if_neg (by omega)]; rfl

/-- no OUT-OF-BOUNDS ACCESS (the one kind of undefined behaviour the word-level model represents, result
`none`) is reachable through the Python wrapper, for every `(s, length)`.
NOTE: this theorem carries no `CppSizeOk` and says NOTHING about signed overflow, which
the model (unbounded `int`s) cannot represent: for 2^30 < length < 2^31 the wrapper calls the C++ code and
`2 * lfsr_len` can overflow `int` (real undefined behaviour, reachable).  The statement "no undefined
behaviour of the C++ code" holds under `CppSizeOk` only:
`C14WrapperSized.wrapper_no_undefined_behaviour_sized`. -/
theorem wrapper_no_undefined_behaviour (v : Variant) (s : Nat) (length : Int) (r : Option Int)
    (h : linearComplexityCpp v s length = .ok r) : r ≠ none := by
  rw [wrapper_glue] at h
  cases hl : linearComplexity s length with
  | error e => rw [hl] at h; cases h
  | ok x => rw [hl] at h; cases h; simp

theorem wrapper_variants_agree (s : Nat) (length : Int) :
    linearComplexityCpp .portable s length = linearComplexityCpp .clmul s length := by
  rw [wrapper_glue, wrapper_glue]

/-- **total specification of the wrapper** (every `s ≥ 0`, every integer `length`):
`ValueError` iff `size = (length+7)//8 ∉ [0, 2^31)`; else `OverflowError` iff `s ≥ 256^size`;
else `TypeError` iff `length ≥ 2^31` (pybind11 `int`); else `-1` iff `length < 0`
(`length ∈ {-7..-1}`, `s = 0`); else the length of the shortest LFSR of the first `length` bits.
NOTE: "EVERY (s, length)" is about the model; for 2^30 < length < 2^31 (last branch) the
C++ code may overflow `int` and need not return this value.  Sized form: `C14WrapperSized.wrapper_spec_sized`. -/
theorem wrapper_spec (v : Variant) (s : Nat) (length : Int) :
    linearComplexityCpp v s length =
      if lcSize length < 0 ∨ 2 ^ 31 ≤ lcSize length then .error .valueError
      else if 256 ^ (lcSize length).toNat ≤ s then .error .overflow
      else if 2 ^ 31 ≤ length then .error .typeError
      else if length < 0 then .ok (some (-1))
      else .ok (some (shortestLfsr (bitsOf s length.toNat) : Int)) := by
  rw [wrapper_glue]
  unfold linearComplexity
  rw [show (256 : Nat) ^ (lcSize length).toNat = 2 ^ (8 * (lcSize length).toNat) by rw [Nat.pow_mul]]
  split
  · rfl
  · split
    · rfl
    · split
      · rfl
      · split
        · rfl
        · rw [(C14.native_is_shortest_lfsr s length.toNat).2.2]; rfl

/-- whenever the wrapper gets as far as calling the C++ code, its own checks already give
`|seq| = size < 2^31` bytes (`≤ 2^28` words) and `-7 ≤ length < 2^31`; the ONLY limit of
`CppSizeOk` the wrapper does not enforce is `length ≤ 2^30` (overflow of `2 * lfsr_len`). -/
theorem wrapper_enforces_size_limits (v : Variant) (s : Nat) (length : Int) (r : Option Int)
    (h : linearComplexityCpp v s length = .ok r) :
    (lcSize length).toNat < 2 ^ 31 ∧ -7 ≤ length ∧ length < 2 ^ 31 ∧
      (length ≤ 2 ^ 30 → CppSizeOk (lcSize length).toNat length) := by
  rw [wrapper_spec] at h
  by_cases h1 : lcSize length < 0 ∨ 2 ^ 31 ≤ lcSize length
  · rw [if_pos h1] at h; cases h
  obtain ⟨hlo, hhi, hsz⟩ := lcSize_bounds length h1
  refine ⟨hsz, hlo, Int.not_le.mp fun h3 => ?_, fun h30 => ⟨by omega, by omega, h30⟩⟩
  rw [if_neg h1, if_pos h3] at h
  split at h <;> cases h

/-- under `CppSizeOk` every `int`-typed quantity of `LfsrLengthImpl` stays below `2^31`: the loop
indices `i, j, i + j < n`, `lfsr_len` at loop index `i` (`= bmLength s i ≤ i`), the product
`2 * lfsr_len` that is compared with `i`, the assigned `i + 1 - lfsr_len ≤ n`, and
`size = seq.size()` (number of words). -/
theorem int_quantities_fit (seq : List UInt8) (n : Nat) (h : CppSizeOk seq.length n) :
    n < 2 ^ 31 ∧ (wordsOfBytes seq).length < 2 ^ 31 ∧
      ∀ s i : Nat, i < n → bmLength s i ≤ i ∧ 2 * bmLength s i < 2 ^ 31 ∧ i + 1 - bmLength s i ≤ n := by
  obtain ⟨hb, _, hn⟩ := h
  have hn' : n ≤ 2 ^ 30 := by exact_mod_cast hn
  refine ⟨by omega, by rw [length_wordsOfBytes]; omega, fun s i hi => ?_⟩
  have hle := bmLength_le s i
  omega

/-- the block the NIST linear-complexity test passes (`util.SplitSequence`: block `i` is
`(bits >> i·m) & (2^m - 1)`, handed over as `(block, m)`) carries the bits
`bits_{i·m}, …, bits_{i·m+m-1}` in this order. -/
theorem nist_block_bits (bits i m : Nat) :
    bitsOf ((bits >>> (i * m)) % 2 ^ m) m = (List.range m).map fun j => bits.testBit (i * m + j) := by
  unfold bitsOf
  apply List.map_congr_left
  intro j hj
  rw [List.mem_range] at hj
  rw [Nat.testBit_mod_two_pow, Nat.testBit_shiftRight]
  simp [hj]

/-- **C14 for the Python entry point, end to end**: for every bit string `s_0 … s_{length-1}`
given as `(length, s = Σ 2^i s_i)` — more generally every `s` that fits the `size = ⌈length/8⌉`
bytes it is serialised to — within the size limits of the C++ code (`CppSizeOk`: here just
`length ≤ 2^30`), `LinearComplexity(s, length)` through `to_bytes`, the pybind11 call and either
C++ variant returns `L` = the length of the shortest LFSR generating `s_0, …, s_{length-1}`
(bit `i` of `s` is `s_i`): an LFSR of length `L` generates it, none shorter does, and `L` is the
brute-force minimum; the same value as `LinearComplexityNative`. -/
theorem linearComplexity_is_shortest_lfsr (v : Variant) (s length : Nat)
    (hsize : CppSizeOk ((length + 7) / 8) length) (hs : s < 256 ^ ((length + 7) / 8)) :
    ∃ L : Nat, linearComplexityCpp v s length = .ok (some (L : Int)) ∧
      IsShortestLfsr (bitsOf s length) L ∧ L = shortestLfsr (bitsOf s length) ∧
      linearComplexityNative s length = .ok L := by
  obtain ⟨_, _, h30⟩ := hsize
  refine ⟨bmLength s length, ?_, (C14.native_is_shortest_lfsr s length).2.1,
    (C14.native_is_shortest_lfsr s length).2.2, (C14.native_is_shortest_lfsr s length).1⟩
  rw [wrapper_glue, linearComplexity_of_fits (by omega) (by rwa [Nat.pow_mul])]
  rfl

/-- the `(length, int)` form of the property text: `s < 2^length`. -/
theorem linearComplexity_is_shortest_lfsr_bits (v : Variant) (s length : Nat)
    (hlen : length ≤ 2 ^ 30) (hs : s < 2 ^ length) :
    ∃ L : Nat, linearComplexityCpp v s length = .ok (some (L : Int)) ∧
      IsShortestLfsr (bitsOf s length) L ∧ L = shortestLfsr (bitsOf s length) ∧
      linearComplexityNative s length = .ok L := by
  apply linearComplexity_is_shortest_lfsr v s length
  · exact ⟨by omega, by omega, by exact_mod_cast hlen⟩
  · have : 2 ^ length ≤ 256 ^ ((length + 7) / 8) := by
      rw [show (256 : Nat) = 2 ^ 8 from rfl, ← Nat.pow_mul]
      exact Nat.pow_le_pow_right (by omega) (by omega)
    omega

/-- … and for block `i` of the NIST linear-complexity test (block size `m ≤ 2^30`): the value the
test records is the shortest-LFSR length of `bits_{i·m}, …, bits_{i·m+m-1}`. -/
theorem nist_block_linear_complexity (v : Variant) (bits i m : Nat) (hm : m ≤ 2 ^ 30) :
    linearComplexityCpp v ((bits >>> (i * m)) % 2 ^ m) m =
      .ok (some (shortestLfsr ((List.range m).map fun j => bits.testBit (i * m + j)) : Int)) := by
  obtain ⟨L, h1, _, h3, _⟩ := linearComplexity_is_shortest_lfsr_bits v ((bits >>> (i * m)) % 2 ^ m) m
    hm (Nat.mod_lt _ (Nat.two_pow_pos m))
  rw [h1, h3, nist_block_bits]

/-! ### Non-vacuity -/

example : bytesOfNat 3 0x01b38f = [0x8f, 0xb3, 0x01] ∧ natOfBytes [0x8f, 0xb3, 0x01] = 0x01b38f := by
  decide +kernel
example : CppSizeOk ((500 + 7) / 8) 500 := by decide +kernel
example : linearComplexityCpp .clmul 0b1011001110001111 16 = .ok (some 8) ∧
    linearComplexityCpp .portable 0b1011001110001111 16 = .ok (some 8) := by decide +kernel
example : linearComplexityCpp .portable 0x1ff 8 = .error .overflow ∧
    linearComplexityCpp .clmul 0 (-3) = .ok (some (-1)) ∧
    linearComplexityCpp .clmul 0 (-8) = .error .valueError ∧
    linearComplexityCpp .clmul 5 (-3) = .error .overflow := by decide +kernel
example : shortestLfsr (bitsOf 0b0111001 7) = 3 ∧
    linearComplexityCpp .clmul 0b0111001 7 = .ok (some 3) := by decide +kernel

end Paranoid.C14Wrapper
