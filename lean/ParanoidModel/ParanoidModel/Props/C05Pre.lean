/-
Props/C05Pre.lean — C05, lattice families: the "pre" half of the sandwich

    prime is patterned  ⇒(repetition_is_fraction)  p = (a·w + c)/d, a, c small
                        ⇒(fraction_pre)            short planted vector in the lattice given to LLL
                        ⇒(ORACLE, not claimed)     LLL returns ± that vector
                        ⇒(fraction_sandwich)       CheckFraction returns {p, q}

and the enumeration of the denominators `d` that CheckBitPatterns / CheckPermutedBitPatterns try.
Everywhere `w = 2^(bitLength n / 2)`, `u = n / w`, `v = n % w`, `x = 2^(bitLength d)` as in
`rsa_util.CheckFraction`; `fracErr n w q d a = d·u − a·q`.
-/
import ParanoidModel.Proofs.FractionPre
import Mathlib.Tactic.NormNum.Prime
namespace Paranoid.C05Pre
open Paranoid

/-! ### (1) membership -/

/-- **The planted vector is in the lattice, with explicit coefficients.** For all integers
`a, c, k` the vector `(c·x, −a·x, c·(u·d0 % w) − a·(v·d0 % w) + k·w)` is `c·row0 − a·row1 + k·row2`
of the lattice `fractionLattice n d0 = [[x,0,u·d0 % w],[0,x,v·d0 % w],[0,0,w]]`. -/
theorem fraction_vector_in_lattice (n d0 : Nat) (a c k : Int) :
    ∃ r0 r1 r2, fractionLattice n d0 = [r0, r1, r2] ∧
      rowCombo3 c (-a) k r0 r1 r2 =
        [c * ((2 ^ bitLength d0 : Nat) : Int), -a * ((2 ^ bitLength d0 : Nat) : Int),
         c * ((n / 2 ^ (bitLength n / 2) * d0 % 2 ^ (bitLength n / 2) : Nat) : Int)
           - a * ((n % 2 ^ (bitLength n / 2) * d0 % 2 ^ (bitLength n / 2) : Nat) : Int)
           + k * ((2 ^ (bitLength n / 2) : Nat) : Int)] := by
  refine ⟨_, _, _, rfl, ?_⟩
  simp only [rowCombo3, rowAdd, rowSmul, List.map, List.zipWith]
  congr 1
  · push_cast; ring
  congr 1
  · push_cast; ring
  congr 1
  push_cast; ring

/-! ### (2) the planted vector is short -/

/-- **The docstring's derivation, exact.** Let `n = p·q` and `d·p = a·w + c` (`p = (a·w + c)/d`),
`d > 0`. Then, with `e = d·u − a·q`:
 * `e·w = c·q − d·v` (so `d·v ≡ c·q (mod w)`),
 * `|e|·w < |c|·q + d·w`; hence `|e| < |c|·m + d` whenever `q ≤ m·w`
   (`m = 1` if `q < w`; `m = 2` always works for factors of equal bit length, `balanced_q_lt`),
 * `(c·d·u − a·d·v) mod w = (c·e) mod w` and `|c·e| ≤ |c|·(|c|·m + d − 1)`
   (the docstring's "`abs((c*d*u - a*d*v) % w) < c*h`, `h = |c| + |d|`" is this with `m = 1`). -/
theorem fraction_vector_small (p q d m : Nat) (a c : Int) (hd : 0 < d)
    (hq : q ≤ m * 2 ^ (bitLength (p * q) / 2))
    (hfrac : (d : Int) * p = a * ((2 ^ (bitLength (p * q) / 2) : Nat) : Int) + c) :
    fracErr (p * q) (2 ^ (bitLength (p * q) / 2)) q d a * ((2 ^ (bitLength (p * q) / 2) : Nat) : Int)
        = c * q - (d : Int) * ((p * q % 2 ^ (bitLength (p * q) / 2) : Nat) : Int) ∧
    |fracErr (p * q) (2 ^ (bitLength (p * q) / 2)) q d a| < |c| * m + d ∧
    (c * d * ((p * q / 2 ^ (bitLength (p * q) / 2) : Nat) : Int)
        - a * d * ((p * q % 2 ^ (bitLength (p * q) / 2) : Nat) : Int))
        % ((2 ^ (bitLength (p * q) / 2) : Nat) : Int)
      = (c * fracErr (p * q) (2 ^ (bitLength (p * q) / 2)) q d a)
        % ((2 ^ (bitLength (p * q) / 2) : Nat) : Int) ∧
    |c * fracErr (p * q) (2 ^ (bitLength (p * q) / 2)) q d a| ≤ |c| * (|c| * m + d - 1) := by
  have hw : 0 < 2 ^ (bitLength (p * q) / 2) := Nat.two_pow_pos _
  have hlt := fracErr_lt p q d _ m a c hd hw hq hfrac
  refine ⟨fracErr_mul p q d _ a c hfrac, hlt, frac_third_entry_emod p q d _ a c hfrac, ?_⟩
  rw [abs_mul]
  exact mul_le_mul_of_nonneg_left (by linarith [Int.add_one_le_iff.mpr hlt]) (abs_nonneg c)

/-- **fraction_pre.** For `n = p·q`, `p = (a·w + c)/d`, `d > 0`, `q ≤ m·w`: the vector
`(c·x, −a·x, c·(d·u − a·q))` is the integer combination `c·row0 − a·row1 + K·row2`
(`K = fracK … = c·(u·d / w) − a·(v·d / w) − a·(d·u − a·q)`) of the lattice that
`CheckFraction(n, d)` hands to LLL, and its entries are bounded by
`2·|c|·d`, `2·|a|·d`, `|c|·(|c|·m + d − 1)`. -/
theorem fraction_pre (p q d m : Nat) (a c : Int) (hd : 0 < d)
    (hq : q ≤ m * 2 ^ (bitLength (p * q) / 2))
    (hfrac : (d : Int) * p = a * ((2 ^ (bitLength (p * q) / 2) : Nat) : Int) + c) :
    ∃ r0 r1 r2, fractionLattice (p * q) d = [r0, r1, r2] ∧
      rowCombo3 c (-a) (fracK (p * q) (2 ^ (bitLength (p * q) / 2)) q d a c) r0 r1 r2 =
        [c * ((2 ^ bitLength d : Nat) : Int), -a * ((2 ^ bitLength d : Nat) : Int),
         c * fracErr (p * q) (2 ^ (bitLength (p * q) / 2)) q d a] ∧
      |c * ((2 ^ bitLength d : Nat) : Int)| ≤ 2 * |c| * d ∧
      |-a * ((2 ^ bitLength d : Nat) : Int)| ≤ 2 * |a| * d ∧
      |c * fracErr (p * q) (2 ^ (bitLength (p * q) / 2)) q d a| ≤ |c| * (|c| * m + d - 1) := by
  obtain ⟨r0, r1, r2, hlat, hcombo⟩ := fraction_vector_in_lattice (p * q) d a c
    (fracK (p * q) (2 ^ (bitLength (p * q) / 2)) q d a c)
  have hx : ((2 ^ bitLength d : Nat) : Int) ≤ 2 * d := by
    exact_mod_cast two_pow_bitLength_le d hd
  have hx0 : (0 : Int) ≤ ((2 ^ bitLength d : Nat) : Int) := Int.natCast_nonneg _
  refine ⟨r0, r1, r2, hlat, ?_, ?_, ?_, (fraction_vector_small p q d m a c hd hq hfrac).2.2.2⟩
  · rw [hcombo, frac_third_entry p q d _ a c hfrac]
  · rw [abs_mul, abs_of_nonneg hx0]
    exact (mul_le_mul_of_nonneg_left hx (abs_nonneg c)).trans_eq (by ring)
  · rw [abs_mul, abs_neg, abs_of_nonneg hx0]
    exact (mul_le_mul_of_nonneg_left hx (abs_nonneg a)).trans_eq (by ring)

/-- factors of equal bit length satisfy the size hypothesis of `fraction_pre` with `m = 2`. -/
theorem balanced_q_le (p q : Nat) (hp : 0 < p) (hL : bitLength p = bitLength q) :
    q ≤ 2 * 2 ^ (bitLength (p * q) / 2) :=
  Nat.le_of_lt (FracPre.balanced_q_lt p q hp hL)

/-! ### (3) value of the planted row; the sandwich -/

/-- **Row value of the planted vector.** `a·x·w + c·x = x·d·p`: a multiple of `p`, and not a
multiple of the other prime `q` as soon as `q ∤ x·d`. -/
theorem fraction_vector_value {p q : Nat} (hp : p.Prime) (hq : q.Prime) (hpq : p ≠ q)
    (d w x : Nat) (a c : Int) (hfrac : (d : Int) * p = a * w + c) (hqxd : ¬ q ∣ x * d) :
    rowValue w (c * x) (-a * x) = (x : Int) * d * p ∧
    (p : Int) ∣ rowValue w (c * x) (-a * x) ∧ ¬ (q : Int) ∣ rowValue w (c * x) (-a * x) :=
  Paranoid.fraction_vector_value hq hpq hp d w x a c hfrac hqxd

/-- **fraction_sandwich.** `n = p·q` with distinct primes, `q` odd, `p = (a·w + c)/d` and
`q ∤ d`. For EVERY basis (rows of length ≥ 2) that contains the planted row
`(c·x, −a·x, …)` or its negative, `CheckFraction` returns both primes. Together with
`fraction_pre` the only missing link is "LLL returns ± the planted vector" (oracle). -/
theorem fraction_sandwich {p q : Nat} (hp : p.Prime) (hq : q.Prime) (hpq : p ≠ q)
    (hq2 : q ≠ 2) (d : Nat) (hqd : ¬ q ∣ d) (a c : Int)
    (hfrac : (d : Int) * p = a * ((2 ^ (bitLength (p * q) / 2) : Nat) : Int) + c)
    (basis : List (List Int)) (hlen : ∀ row ∈ basis, 2 ≤ row.length)
    (hrow : ∃ rest,
      (c * ((2 ^ bitLength d : Nat) : Int) :: -a * ((2 ^ bitLength d : Nat) : Int) :: rest) ∈ basis ∨
      (-(c * ((2 ^ bitLength d : Nat) : Int)) :: -(-a * ((2 ^ bitLength d : Nat) : Int)) :: rest)
        ∈ basis) :
    checkFraction (p * q) basis = .ok [p, q] ∨ checkFraction (p * q) basis = .ok [q, p] := by
  obtain ⟨hv, hpd, hqd'⟩ := fraction_vector_value hp hq hpq d (2 ^ (bitLength (p * q) / 2))
    (2 ^ bitLength d) a c hfrac (prime_not_dvd_two_pow_mul hq hq2 _ d hqd)
  apply checkFractionLoop_complete hp hq hpq _ basis hlen
  obtain ⟨rest, h | h⟩ := hrow
  · exact ⟨_, _, rest, h, hpd, hqd'⟩
  · refine ⟨_, _, rest, h, ?_, ?_⟩
    · rw [rowValue_neg]; exact (dvd_neg).mpr hpd
    · rw [rowValue_neg]; exact fun h => hqd' ((dvd_neg).mp h)

/-! ### (4) repetitions are fractions -/

/-- **repetition_is_fraction (exact).** `repeatWord W w k = W·(2^(w·k) − 1)/(2^w − 1)` is the word
`W` written `k` times (`repeatWord_succ`: one more copy = shift by `w` bits and add `W`), and
`(2^w − 1)·(W W … W) = W·2^(w·k) − W`. -/
theorem repetition_exact (W w k : Nat) (hw : 0 < w) :
    repeatWord W w 0 = 0 ∧ repeatWord W w (k + 1) = repeatWord W w k * 2 ^ w + W ∧
    ((2 : Int) ^ w - 1) * (repeatWord W w k : Int) = (W : Int) * 2 ^ (w * k) - W :=
  ⟨repeatWord_zero W w, repeatWord_succ W w k hw, repeatWord_mul W w k⟩

/-- **repetition_is_fraction.** `P' = (W repeated k times) + δ` with `W < 2^w` and a deviation
`|δ| < 2^t` in the low-order bits: `(2^w − 1)·P' = W·2^(w·k) + c` with
`c = (2^w − 1)·δ − W`, `|c| < 2^(w+t)` (≤ `2^w·(2^t + 1)`). Relative to the lattice modulus
`2^h` (`h = bitLength n / 2`):
 * if `w·k = h + s` (the usual case, `s ∈ {0, 1}` for balanced primes) then
   `d·P' = a·2^h + c` with `d = 2^w − 1`, `a = W·2^s`;
 * if `h = w·k + s` then `(2^s·d)·P' = W·2^h + 2^s·c`: the fraction form holds only for the
   denominator `2^s·(2^w − 1)`, which is the one tried only when `s = 0`. -/
theorem repetition_is_fraction (W w k t : Nat) (δ : Int) (hW : W < 2 ^ w) (hδ : |δ| < 2 ^ t) :
    |((2 : Int) ^ w - 1) * δ - W| < 2 ^ (w + t) ∧
    (∀ h s, w * k = h + s →
      ((2 : Int) ^ w - 1) * ((repeatWord W w k : Int) + δ) =
        ((W : Int) * 2 ^ s) * 2 ^ h + (((2 : Int) ^ w - 1) * δ - W)) ∧
    (∀ h s, h = w * k + s →
      ((2 : Int) ^ s * ((2 : Int) ^ w - 1)) * ((repeatWord W w k : Int) + δ) =
        (W : Int) * 2 ^ h + 2 ^ s * (((2 : Int) ^ w - 1) * δ - W)) := by
  refine ⟨repetition_c_bound W w t δ hW hδ, ?_, ?_⟩
  · intro h s hs
    rw [repetition_dev, hs, pow_add]; ring
  · intro h s hs
    rw [mul_assoc, repetition_dev, hs, pow_add]; ring

/-- the bit-periodic form (pattern length need not divide the prime's length — this is the
docstring example of CheckFraction): if `p >> w` equals the low `L − w` bits of `p` then
`(2^w − 1)·p = (p >> (L − w))·2^L − (p mod 2^w)`. -/
theorem periodic_is_fraction (p L w : Nat) (hwL : w ≤ L) (hper : p / 2 ^ w = p % 2 ^ (L - w)) :
    ((2 : Int) ^ w - 1) * (p : Int) =
      ((p / 2 ^ (L - w) : Nat) : Int) * 2 ^ L - ((p % 2 ^ w : Nat) : Int) := by
  have h1 : (p : Int) = (2 : Int) ^ w * ((p / 2 ^ w : Nat) : Int) + ((p % 2 ^ w : Nat) : Int) := by
    exact_mod_cast (Nat.div_add_mod p (2 ^ w)).symm
  have h2 : (p : Int) = (2 : Int) ^ (L - w) * ((p / 2 ^ (L - w) : Nat) : Int) +
      ((p % 2 ^ (L - w) : Nat) : Int) := by
    exact_mod_cast (Nat.div_add_mod p (2 ^ (L - w))).symm
  have h3 : (2 : Int) ^ L = 2 ^ w * 2 ^ (L - w) := by rw [← pow_add]; congr 1; omega
  rw [hper] at h1
  rw [h3]
  linear_combination (-1 : Int) * h1 + (2 : Int) ^ w * h2

/-- **Repetition ⇒ factored, given the oracle.** `p` = a `w`-bit word `W` repeated `k` times
plus a deviation `δ`, `w·k = bitLength (p·q) / 2 + s`, `q` an odd prime not dividing `2^w − 1`:
every reduced basis that contains ± the planted row for `d = 2^w − 1`, `a = W·2^s`,
`c = (2^w − 1)·δ − W` makes `CheckFraction(n, 2^w − 1)` (the call `CheckBitPatterns` makes for
pattern size `w`) return both primes. -/
theorem repetition_sandwich {p q : Nat} (hp : p.Prime) (hq : q.Prime) (hpq : p ≠ q) (hq2 : q ≠ 2)
    (W w k s : Nat) (δ : Int) (hP : (p : Int) = (repeatWord W w k : Int) + δ)
    (hs : w * k = bitLength (p * q) / 2 + s) (hqd : ¬ q ∣ 2 ^ w - 1)
    (basis : List (List Int)) (hlen : ∀ row ∈ basis, 2 ≤ row.length)
    (hrow : ∃ rest,
      ((((2 : Int) ^ w - 1) * δ - W) * ((2 ^ bitLength (2 ^ w - 1) : Nat) : Int) ::
        -((W : Int) * 2 ^ s) * ((2 ^ bitLength (2 ^ w - 1) : Nat) : Int) :: rest) ∈ basis ∨
      (-((((2 : Int) ^ w - 1) * δ - W) * ((2 ^ bitLength (2 ^ w - 1) : Nat) : Int)) ::
        -(-((W : Int) * 2 ^ s) * ((2 ^ bitLength (2 ^ w - 1) : Nat) : Int)) :: rest) ∈ basis) :
    checkFraction (p * q) basis = .ok [p, q] ∨ checkFraction (p * q) basis = .ok [q, p] := by
  apply fraction_sandwich hp hq hpq hq2 (2 ^ w - 1) hqd ((W : Int) * 2 ^ s)
    (((2 : Int) ^ w - 1) * δ - W) _ basis hlen hrow
  have h1 : 1 ≤ 2 ^ w := Nat.one_le_two_pow
  rw [hP, Nat.cast_sub h1]
  push_cast
  rw [repetition_dev, hs, pow_add]
  ring

/-! ### (5) the denominators that are tried -/

/-- **bitpatterns_enum.** `CheckBitPatterns` = "for each `d` of `bitPatternDenominators n ps`
(`2^s − 1` for the pattern sizes `s ≤ bitLength n / 8`, in list order) call `CheckFraction(n, d)`;
first non-empty answer wins". -/
theorem bitpatterns_enum (n : Nat) (ps : List Nat) (red : Nat → List (List Int)) :
    vBitPatterns n ps red = tryDenominators n red (bitPatternDenominators n ps) ∧
    bitPatternDenominators n ps =
      (ps.filter (fun s => s ≤ bitLength n / 8)).map (fun s => 2 ^ s - 1) :=
  ⟨vBitPatterns_eq n ps red, rfl⟩

/-- **permuted_enum.** `CheckPermutedBitPatterns` = the same over `permutedDenominators n`:
for each limb size `ws` in 8, 16, 32, 64 the denominators
`(2^ps − 1)(2^(ps·ws) + 1)/(2^ws + 1)` for `ps = 3, 5, 7, … < ws`, cut at the first one of more than
`bitLength n / 8` bits. -/
theorem permuted_enum (n : Nat) (red : Nat → List (List Int)) :
    vPermuted n red = tryDenominators n red (permutedDenominators n) ∧
    permutedDenominators n = [8, 16, 32, 64].flatMap (fun ws =>
      ((oddRange ws).map (permutedDenominator ws)).takeWhile
        (fun d => bitLength d ≤ bitLength n / 8)) ∧
    (∀ ws ps, ps ∈ oddRange ws ↔ 3 ≤ ps ∧ ps < ws ∧ ps % 2 = 1) ∧
    (∀ ws ps, ps % 2 = 1 →
      permutedDenominator ws ps * (2 ^ ws + 1) = (2 ^ ps - 1) * (2 ^ (ps * ws) + 1)) :=
  ⟨vPermuted_eq n red, rfl, mem_oddRange, permutedDenominator_mul⟩

/-- the two lists are the ones the harness compares with the Python (`chk.bitpatterns_ds`,
`chk.permuted_ds`). -/
theorem denominators_eq_driver :
    bitPatternDenominators = Driver.bitPatternDenominators ∧
    permutedDenominators = Driver.permutedDenominators := ⟨rfl, rfl⟩

/-- **All attempts fail ⇔ pass**, and then exactly the listed denominators were tried. -/
theorem tried_all_fail (n : Nat) (red : Nat → List (List Int)) (ds : List Nat) :
    tryDenominators n red ds = .ok .pass ↔ ∀ d ∈ ds, checkFraction n (red d) = .ok [] := by
  constructor
  · intro hp
    rcases tryDenominators_cases n red ds with ⟨hall, _⟩ | ⟨_, _, _, _, _, ⟨_, _, he⟩ | ⟨_, _, _, hw⟩⟩
    · exact hall
    · rw [hp] at he; cases he
    · rw [hp] at hw; cases hw
  · intro hall
    rw [← List.append_nil ds, tryDenominators_skip n red [] ds hall]; rfl

/-- **First success wins**: the verdict is weak iff some listed denominator gives a non-empty
answer after all earlier ones gave `[]`; the verdict carries exactly those factors. -/
theorem tried_first_success (n : Nat) (red : Nat → List (List Int)) (ds : List Nat)
    (v : KeyVerdict) :
    (tryDenominators n red ds = .ok v ∧ v.weak = true) ↔
      ∃ l1 d l2 f fs, ds = l1 ++ d :: l2 ∧ (∀ d' ∈ l1, checkFraction n (red d') = .ok []) ∧
        checkFraction n (red d) = .ok (f :: fs) ∧ v = ⟨true, f :: fs, false⟩ := by
  constructor
  · rintro ⟨hv, hw⟩
    rcases tryDenominators_cases n red ds with
      ⟨_, hp⟩ | ⟨l1, d, l2, hds, hall, ⟨_, _, he⟩ | ⟨f, fs, hd, hr⟩⟩
    · rw [hv] at hp; cases hp; cases hw
    · rw [hv] at he; cases he
    · rw [hv] at hr; cases hr
      exact ⟨l1, d, l2, f, fs, hds, hall, hd, rfl⟩
  · rintro ⟨l1, d, l2, f, fs, rfl, hall, hd, rfl⟩
    rw [tryDenominators_skip n red _ l1 hall, tryDenominators, hd]
    exact ⟨rfl, rfl⟩

/-- there is no third kind of verdict. -/
theorem tried_verdicts (n : Nat) (red : Nat → List (List Int)) (ds : List Nat) (v : KeyVerdict)
    (h : tryDenominators n red ds = .ok v) : v = .pass ∨ v.weak = true := by
  rcases tryDenominators_cases n red ds with ⟨_, hp⟩ | ⟨_, _, _, _, _, ⟨_, _, he⟩ | ⟨_, _, _, hr⟩⟩
  · rw [h] at hp; cases hp; exact Or.inl rfl
  · rw [h] at he; cases he
  · rw [h] at hr; cases hr; exact Or.inr rfl

/-- an exception is that of the first attempt not answering `[]`. -/
theorem tried_error (n : Nat) (red : Nat → List (List Int)) (ds : List Nat) (e : PyErr) :
    tryDenominators n red ds = .error e ↔
      ∃ l1 d l2, ds = l1 ++ d :: l2 ∧ (∀ d' ∈ l1, checkFraction n (red d') = .ok []) ∧
        checkFraction n (red d) = .error e := by
  constructor
  · intro h
    rcases tryDenominators_cases n red ds with
      ⟨_, hp⟩ | ⟨l1, d, l2, hds, hall, ⟨e', hd, he⟩ | ⟨_, _, _, hr⟩⟩
    · rw [h] at hp; cases hp
    · rw [h] at he; cases he
      exact ⟨l1, d, l2, hds, hall, hd⟩
    · rw [h] at hr; cases hr
  · rintro ⟨l1, d, l2, rfl, hall, hd⟩
    rw [tryDenominators_skip n red _ l1 hall, tryDenominators, hd]

/-- no other denominator influences the verdict. -/
theorem tried_only_listed (n : Nat) (red red' : Nat → List (List Int)) (ds : List Nat)
    (h : ∀ d ∈ ds, red d = red' d) : tryDenominators n red ds = tryDenominators n red' ds := by
  induction ds with
  | nil => rfl
  | cons d rest ih =>
    rw [tryDenominators, tryDenominators, h d List.mem_cons_self,
      ih fun x hx => h x (List.mem_cons_of_mem _ hx)]

/-- `CheckBitPatterns` flags the key iff some admissible pattern size yields factors, the
earlier ones yielding none (combination of the above). -/
theorem bitpatterns_flag_iff (n : Nat) (ps : List Nat) (red : Nat → List (List Int))
    (v : KeyVerdict) :
    (vBitPatterns n ps red = .ok v ∧ v.weak = true) ↔
      ∃ l1 d l2 f fs, bitPatternDenominators n ps = l1 ++ d :: l2 ∧
        (∀ d' ∈ l1, checkFraction n (red d') = .ok []) ∧
        checkFraction n (red d) = .ok (f :: fs) ∧ v = ⟨true, f :: fs, false⟩ := by
  rw [vBitPatterns_eq]; exact tried_first_success n red _ v

theorem permuted_flag_iff (n : Nat) (red : Nat → List (List Int)) (v : KeyVerdict) :
    (vPermuted n red = .ok v ∧ v.weak = true) ↔
      ∃ l1 d l2 f fs, permutedDenominators n = l1 ++ d :: l2 ∧
        (∀ d' ∈ l1, checkFraction n (red d') = .ok []) ∧
        checkFraction n (red d) = .ok (f :: fs) ∧ v = ⟨true, f :: fs, false⟩ := by
  rw [vPermuted_eq]; exact tried_first_success n red _ v

/-! ### non-vacuity -/

/-- the docstring example of `CheckFraction`: `p` has the 24-bit pattern `eab851`, `d = 2^24 − 1`,
`w = 2^160`, `a = 0xeab851`, `c = 0x18ae152f`; the short third entry `c·(d·u − a·q)` is the
docstring's `0x236ce2624c94189`; the planted row alone makes `checkFraction` return `[p, q]`. -/
example :
    ((2 ^ 24 - 1 : Nat) : Int) * (0xeab851eab851eab851eab851eab851eab851ead1 : Nat) =
        0xeab851 * ((2 ^ (bitLength (0xeab851eab851eab851eab851eab851eab851ead1 *
          0xf1e8e75e0a2f461b934d190d4a6ee2f53f2b0c39) / 2) : Nat) : Int) + 0x18ae152f ∧
    (0x18ae152f : Int) * fracErr (0xeab851eab851eab851eab851eab851eab851ead1 *
        0xf1e8e75e0a2f461b934d190d4a6ee2f53f2b0c39) (2 ^ 160)
        0xf1e8e75e0a2f461b934d190d4a6ee2f53f2b0c39 (2 ^ 24 - 1) 0xeab851 = 0x236ce2624c94189 ∧
    0xf1e8e75e0a2f461b934d190d4a6ee2f53f2b0c39 ≤ 1 * 2 ^ 160 ∧
    checkFraction (0xeab851eab851eab851eab851eab851eab851ead1 *
        0xf1e8e75e0a2f461b934d190d4a6ee2f53f2b0c39)
      [[0x18ae152f * ((2 ^ bitLength (2 ^ 24 - 1) : Nat) : Int),
        -0xeab851 * ((2 ^ bitLength (2 ^ 24 - 1) : Nat) : Int), 0x236ce2624c94189]] =
      .ok [0xeab851eab851eab851eab851eab851eab851ead1,
           0xf1e8e75e0a2f461b934d190d4a6ee2f53f2b0c39] := by decide +kernel

/-- the same prime in the bit-periodic form: `p = p0 + 25` where `p0` (low word `…eab8`) is
24-periodic over 160 bits; `c = (2^24 − 1)·25 − (p0 mod 2^24)`. -/
example :
    (0xeab851eab851eab851eab851eab851eab851eab8 / 2 ^ 24 =
      0xeab851eab851eab851eab851eab851eab851eab8 % 2 ^ (160 - 24)) ∧
    0xeab851eab851eab851eab851eab851eab851eab8 / 2 ^ (160 - 24) = 0xeab851 ∧
    ((2 : Int) ^ 24 - 1) * 25 - ((0xeab851eab851eab851eab851eab851eab851eab8 % 2 ^ 24 : Nat) : Int)
      = 0x18ae152f := by decide +kernel

/-- hypotheses of `fraction_sandwich` / `repetition_sandwich` on a small instance:
`p = 23399 = 0b101101101101101 − 6` (the 3-bit word `101` five times, deviation −6),
`q = 20011`, `n` has 29 bits, `h = 14`, `s = 1`, `d = 7`, `a = 10`, `c = −47`. -/
example : Nat.Prime 23399 ∧ Nat.Prime 20011 := by constructor <;> norm_num
example :
    ((23399 : Nat) : Int) = (repeatWord 5 3 5 : Int) + (-6) ∧
    3 * 5 = bitLength (23399 * 20011) / 2 + 1 ∧ ¬ 20011 ∣ 2 ^ 3 - 1 ∧ (5 < 2 ^ 3) ∧
    ((7 : Nat) : Int) * (23399 : Nat) =
      10 * ((2 ^ (bitLength (23399 * 20011) / 2) : Nat) : Int) + (-47) ∧
    20011 ≤ 2 * 2 ^ (bitLength (23399 * 20011) / 2) ∧
    (-47 : Int) * fracErr (23399 * 20011) (2 ^ 14) 20011 7 10 = 3008 ∧
    checkFraction (23399 * 20011) [[1, 2, 3], [-376, -80, 3008]] = .ok [23399, 20011] ∧
    checkFraction (23399 * 20011) [[376, 80, -3008], [0, 0, 1]] = .ok [23399, 20011] := by
  decide +kernel

/-- the denominators for a 1024-bit and a 2048-bit modulus. -/
example : bitPatternDenominators (2 ^ 1023) defaultPatternSizes =
    [1, 3, 5, 7, 9, 11, 13, 15, 31, 63, 127, 8, 16, 32, 64, 128].map (fun s => 2 ^ s - 1) := by
  decide +kernel
example : (permutedDenominators (2 ^ 1023)).map bitLength = [19, 37, 55, 35, 69, 103, 67] ∧
    (permutedDenominators (2 ^ 2047)).map bitLength =
      [19, 37, 55, 35, 69, 103, 137, 171, 205, 239, 67, 133, 199, 131] ∧
    permutedDenominator 16 7 = 0x7eff81007eff81007eff81007f := by decide +kernel

/-- first success wins, on a toy oracle: the denominator `2^3 − 1 = 7` is the first whose basis
factors `n`; the (better) answer for `2^5 − 1` is never consulted. -/
example : vBitPatterns (23399 * 20011) [1, 3, 5] (fun d =>
      if d = 7 then [[-376, -80, 3008]] else if d = 31 then [[0, 0]] else [[1, 0, 0]]) =
    .ok ⟨true, [23399, 20011], false⟩ := by decide +kernel

end Paranoid.C05Pre
