/-
Props/C01.lean — "Every factor reported for an RSA modulus really divides it".
Property theorems only; helper lemmas live in Proofs/Factoring.lean.

All statements are universally quantified over the modulus `n : Nat` (no size bound), over
every constructor parameter (step bound, middle bits, CF bound, Pollard product `m` and gcd
bound, LHW cutoff / maxsteps) and over EVERY answer of the oracles (`basis` returned by LLL,
`cbrt` returned by the float cube root): soundness needs no assumption on them.
-/
import ParanoidModel.Proofs.Factoring
import ParanoidModel.Proofs.HlbeComplete
import ParanoidModel.Proofs.RsaChecks
namespace Paranoid.C01
open Paranoid

/-- A reported factor list is *verified* for `n`: exactly two values, their product is `n`
(hence each divides `n`). -/
def Verified (n : Nat) (fs : List Nat) : Prop := ∃ x y, fs = [x, y] ∧ x * y = n

theorem Verified.all_dvd {n fs} (h : Verified n fs) : ∀ f ∈ fs, f ∣ n := by
  obtain ⟨x, y, rfl, rfl⟩ := h
  exact List.forall_mem_cons.2 ⟨Dvd.intro _ rfl, List.forall_mem_singleton.2 (Dvd.intro_left _ rfl)⟩

/-- FermatFactor: the returned pair multiplies to `n` — for every `n` (even, square, prime,
composite) and every step bound. -/
theorem fermat_sound (n steps p q : Nat) (h : fermatFactor n steps = some (p, q)) :
    p * q = n := by
  unfold fermatFactor at h
  split at h
  · simp only [Option.some.injEq, Prod.mk.injEq] at h
    obtain ⟨rfl, rfl⟩ := h
    omega
  · split at h
    · rename_i hsq
      simp only [Option.some.injEq, Prod.mk.injEq] at h
      obtain ⟨rfl, rfl⟩ := h
      exact hsq
    · obtain ⟨S, b, _, _, hsq, rfl, rfl⟩ := fermatLoop_shape n _ _ _ p q (fermat_inv_start n) h
      exact sq_sub_sq_nat S b n hsq

/-- FactorHighAndLowBitsEqual: a returned list is a verified factorisation. -/
theorem hlbe_sound (n middleBits : Nat) (fs : List Nat)
    (h : factorHighAndLowBitsEqual n middleBits = .ok (some fs)) : Verified n fs :=
  Paranoid.hlbe_sound n middleBits fs h

/-- CheckContinuedFraction: a non-empty factor list is `[g, n/g]` with `g ∣ n`, `1 < g < n`,
and then the key is reported weak (`ok = false`). -/
theorem cf_sound (n bound : Nat) (ok : Bool) (fs : List Nat)
    (h : checkContinuedFraction n bound = .ok (ok, fs)) :
    fs = [] ∨ (ok = false ∧ ProperSplit n fs) := by
  unfold checkContinuedFraction at h
  rcases cfCheckLoop_cases n _ bound (Nat.two_pow_pos _).ne' _ with ⟨h1, _⟩ | ⟨fs', h1, h2⟩ <;>
    rw [h] at h1 <;> cases h1
  · exact Or.inl rfl
  · exact h2.imp_right fun h3 => ⟨rfl, h3⟩

/-- CheckFraction, for EVERY basis the lattice reduction may return. -/
theorem fraction_sound (n : Nat) (basis : List (List Int)) (fs : List Nat)
    (h : checkFraction n basis = .ok fs) : fs = [] ∨ ProperSplit n fs :=
  checkFractionLoop_sound _ _ _ _ h

/-- FactorWithGuess, for every guess and EVERY value of the float cube root. -/
theorem fwg_sound (n p0 cbrt : Nat) (fs : List Nat)
    (h : factorWithGuess n p0 cbrt = .ok (some fs)) : ProperSplit n fs :=
  factorWithGuess_sound n p0 cbrt fs h

/-- CheckSmallUpperDifferences. -/
theorem sud_sound (n cbrt : Nat) (fs : List Nat)
    (h : checkSmallUpperDifferences n cbrt = .ok (some fs)) : ProperSplit n fs := by
  unfold checkSmallUpperDifferences at h
  dsimp only at h
  split at h
  · simp at h
  · exact sudLoop_sound _ _ _ _ h

/-- Pollardpm1, for every `m` and gcd bound: factors only together with `weak = true`. -/
theorem pm1_sound (n m gcdBound : Nat) (w : Bool) (fs : List Nat)
    (h : pollardPm1 n m gcdBound = (w, fs)) : fs = [] ∨ (w = true ∧ ProperSplit n fs) :=
  pollardPm1_sound n m gcdBound w fs h

/-- CheckLowHammingWeight: a reported pair multiplies to `n`, whatever the heap order,
cutoff and step budget. -/
theorem lhw_sound (n cutoff maxsteps : Nat) (w : Bool) (fs : List Nat)
    (h : checkLowHammingWeight n cutoff maxsteps = (w, fs)) :
    fs = [] ∨ (w = true ∧ Verified n fs) := by
  rcases lhw_cases n cutoff maxsteps with h0 | ⟨p0, q0, h1, hpq, _⟩
  · rw [h] at h0; exact Or.inl h0
  · rw [h] at h1; cases h1; exact Or.inr ⟨rfl, p0, q0, rfl, hpq⟩

/-- every element of a `ProperSplit` is a proper divisor. -/
theorem properSplit_proper (n : Nat) (fs : List Nat) (h : ProperSplit n fs) :
    (∀ f ∈ fs, f ∣ n) ∧ (∀ f ∈ fs, 1 < f ∧ f < n) ∧ Verified n fs :=
  ⟨h.all_dvd, h.proper, h.prod⟩


/-! ### Check level: the per-key verdict of every factoring RSA check

`KeyVerdict.Sound n v`: no factors, or (`weak = true` and the factors are `[x, y]` with
`x * y = n`). `SoundProper`: in addition `1 < x < n` (gcd-derived factors). These hold for
EVERY key, every constructor parameter and every oracle (`red` = the LLL answers, `cbrt`). -/

theorem check_fermat (n maxSteps : Nat) : (vFermat n maxSteps).Sound n := by
  unfold vFermat
  split
  · rename_i p q h
    exact Or.inr ⟨rfl, p, q, rfl, fermat_sound n maxSteps p q h⟩
  · exact Or.inl rfl

theorem check_hlbe (n mb : Nat) (v : KeyVerdict) (h : vHlbe n mb = .ok v) : v.Sound n := by
  unfold vHlbe at h
  split at h
  · cases h
  · rename_i f fs hh
    cases h
    exact Or.inr ⟨rfl, hlbe_sound n mb _ hh⟩
  · cases h
    exact Or.inl rfl

theorem check_cf (n bound : Nat) (v : KeyVerdict) (h : vCf n bound = .ok v) : v.SoundProper n := by
  unfold vCf at h
  split at h
  · cases h
  · rename_i ok fs hh
    split at h <;> cases h
    · exact Or.inl rfl
    · exact (cf_sound n bound ok fs hh).imp_right fun h2 => ⟨rfl, h2.2⟩

theorem check_bitPatterns (n : Nat) (ps : List Nat) (red : Nat → List (List Int)) (v : KeyVerdict)
    (h : vBitPatterns n ps red = .ok v) : v.SoundProper n :=
  tryDenominators_sound n red _ v (vBitPatterns_eq n ps red ▸ h)

theorem check_permuted (n : Nat) (red : Nat → List (List Int)) (v : KeyVerdict)
    (h : vPermuted n red = .ok v) : v.SoundProper n :=
  tryDenominators_sound n red _ v (vPermuted_eq n red ▸ h)

theorem check_pollard (n m gb : Nat) : (vPollard n m gb).SoundProper n := by
  unfold vPollard
  simp only
  split
  · rename_i hw
    rcases pollardPm1_sound n m gb _ _ (Prod.mk.eta).symm with h | ⟨_, h⟩
    · exact Or.inl h
    · exact Or.inr ⟨rfl, h⟩
  · exact Or.inl rfl

theorem check_lhw (n cutoff maxsteps : Nat) : (vLhw n cutoff maxsteps).Sound n := by
  unfold vLhw
  simp only
  split
  · exact (lhw_sound n cutoff maxsteps _ _ (Prod.mk.eta).symm).imp_right fun h => ⟨rfl, h.2⟩
  · exact Or.inl rfl

theorem check_sud (n cbrt : Nat) (v : KeyVerdict) (h : vSud n cbrt = .ok v) : v.SoundProper n := by
  unfold vSud at h
  split at h
  · cases h
  · rename_i f fs hh
    cases h
    exact Or.inr ⟨rfl, sud_sound n cbrt _ hh⟩
  · cases h
    exact Or.inl rfl

theorem check_unseeded (n cbrt : Nat) (cands : List Nat) (v : KeyVerdict)
    (h : vUnseeded n cbrt cands = .ok v) : v.SoundProper n :=
  unseededLoop_sound _ _ _ _ h

/-- every recorded value divides the modulus (the one-division verification of C01). -/
theorem sound_all_dvd (n : Nat) (v : KeyVerdict) (h : v.Sound n) : ∀ f ∈ v.factors, f ∣ n :=
  h.all_dvd

/-- factors are attached only together with the weak verdict. -/
theorem factors_imply_weak (n : Nat) (v : KeyVerdict) (h : v.Sound n) (hf : v.factors ≠ []) :
    v.weak = true := by
  rcases h with h | ⟨hw, _⟩
  · exact absurd h hf
  · exact hw

/-! Non-vacuity: the hypotheses are met by concrete non-trivial inputs. -/
example : fermatFactor 8633 10 = some (97, 89) := by decide +kernel
example : (pollardPm1 (1009 * 2003) 5040 1).2 ≠ [] := by decide +kernel

end Paranoid.C01
