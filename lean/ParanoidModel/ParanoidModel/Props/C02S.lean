/-
Props/C02S.lean — the ECDSA signature-check layer of `ecdsa_sig_checks.py`
(`_MapIssuerSigIndexes`, `_IssuerDLogs`, `BiasedBaseCheck.Check` = CheckLCGNonceGMP,
CheckLCGNonceJavaUtilRandom, CheckNonceMSB, CheckNonceCommonPrefix, CheckNonceCommonPostfix,
CheckNonceGeneralized, and `CheckCr50U2f.Check`).  Property theorems only; helper lemmas live in
Proofs/EcdsaChecks.lean (no curve facts) and Proofs/EcdsaChecksEc.lean.

Serves: C02 (signature half: a recorded discrete log is a private key of THAT signature's issuer
point; no nonce check marks a signature weak without one), C08 (group isolation; every signature of
the issuer is flagged when the oracle returns the key), C17 (grouping is a partition, results are
written back by index, the verdict is a function of the signature's own key and of the guess set of
its curve group — not of the batch, the order, the cache or earlier calls), C18 (totality and the
exact set of raising inputs).

Setting.  The lattice solvers are ORACLES: the model computes the arguments of every call (`Call`)
and takes the returned guess lists (`GroupOracle.answer`); Python `set` iteration order
(`unique_vals`, `list(guesses)`) is an oracle too (`GroupOracle.uniq`, `.guessList`).  Soundness
theorems hold for EVERY oracle value; the theorems that need the order oracles to be enumerations
of the right sets say so (`UniqConsistent`, `GuessConsistent`; evaluated by the driver on every
correspondence line as `checkConsistent`).

The specification of "`d` is a private key of the key tuple `k`" is `IsKeyOf c k d`: the raw tuple
`(k.1, k.2)` lies on the curve and denotes `(d mod n) • G` in Mathlib's group
`(W c).Point` (`toPoint`, Proofs/Ec.lean); `= d • G` since `n • G = 0` on every named curve.
Hypotheses on a curve object (`ObjOK`): `p` prime (for the nine named curves: Pratt certificates,
Props/C11Primes; `C02.namedFactory_ok_certified`, Props/C02Cert.lean), `p ≠ 2`, `4a³+27b² ≢ 0`,
`G` on the curve, `n ≥ 2`, cache invariant `_cache[k] = k • G`; for the completeness direction
additionally reduced generator / cache (`ObjReduced`).  `namedFactory_ok` derives all of them for
the nine curves of CURVE_FACTORY (fresh caches) from the evaluated `paramsOK` facts (`named_facts`,
Proofs/NamedCurves.lean); `check_preserves` re-establishes them after every call.
-/
import ParanoidModel.Proofs.EcdsaChecksEc
import ParanoidModel.Proofs.NamedCurves
import Mathlib.Tactic.NormNum.Prime
namespace Paranoid.C02S
open Paranoid Paranoid.Ec Paranoid.EcdsaChecks WeierstrassCurve

/-! ### `_MapIssuerSigIndexes` -/

/-- ★ The dict returned for any list of signatures: keys are pairwise
distinct; the item of key `k` is the increasing, non-empty list of exactly the indices whose
signature has `PublicPoint = k` (raw, unreduced integers of the byte fields); all lists together
are a permutation of `range(len(sigs))`; an index is listed under the key of its own signature and
under no other. -/
theorem mapIssuer_partition (sigs : List Sig) :
    ((mapIssuerSigIndexes sigs).map Prod.fst).Nodup ∧
    (∀ k l, (k, l) ∈ mapIssuerSigIndexes sigs ↔ l = idxOfKey k 0 sigs ∧ l ≠ []) ∧
    (∀ k, (idxOfKey k 0 sigs).Pairwise (· < ·)) ∧
    (∀ k i, i ∈ idxOfKey k 0 sigs ↔ ∃ s, sigs[i]? = some s ∧ s.key = k) ∧
    ((mapIssuerSigIndexes sigs).map Prod.snd).flatten.Perm (List.range sigs.length) :=
  ⟨nodup_mapIssuer sigs, mem_mapIssuer sigs, fun k => idxOfKey_sorted k sigs 0,
   fun k i => by rw [mem_idxOfKey]; simp, flatten_mapIssuer sigs⟩

/-! ### `_IssuerDLogs` -/

section curve
variable (c : Curve) [Fact (Nat.Prime c.p)]

/-- `_IssuerDLogs` never raises: any guess list, any dict; the cache invariant is preserved. -/
theorem issuerDLogs_total (hc : c.Good) (hG : onCurve c c.g = true) (hn : 0 < c.n)
    (cache : Cache) (hcache : CacheOK c cache) (gs : List Int) (pks : Pks) :
    ∃ dl cache', issuerDLogs c cache gs pks = .ok (dl, cache') ∧ CacheOK c cache' ∧ cache <:+ cache' :=
  let ⟨dl, cache', h1, h2, h3, _⟩ := EcdsaChecks.issuerDLogs_total c hc hG hn cache hcache gs pks
  ⟨dl, cache', h1, h2, h3⟩

/-- ★ For EVERY guess list (LLL noise, 0, n, negative, huge, duplicates),
every dict and every cache satisfying the invariant: an entry `idx ↦ d` of the result means that
`d` is one of the guesses, `idx` is listed in the dict under a key `k`, the raw tuple `k` lies on the
curve and IS the point `(d mod n) • G`.  (What the code literally guarantees:
`BatchMultiplyG([d]) == [k]` as Python tuples.) -/
theorem issuerDLogs_sound (hc : c.Good) (hG : onCurve c c.g = true) (hn : 0 < c.n)
    (cache : Cache) (hcache : CacheOK c cache) (gs : List Int) (pks : Pks) (dl : DLogs) (cache' : Cache)
    (h : issuerDLogs c cache gs pks = .ok (dl, cache')) (i : Nat) (d : Int) (hd : dl.get? i = some d) :
    d ∈ gs ∧ ∃ k l, pks.get? k = some l ∧ i ∈ l ∧
      onCurve c (.aff (k.1 : Int) (k.2 : Int)) = true ∧
      toPoint c (.aff (k.1 : Int) (k.2 : Int)) = (d % (c.n : Int)).toNat • toPoint c c.g :=
  EcdsaChecks.issuerDLogs_sound c hc hG hn cache hcache gs pks dl cache' h i d hd

omit [Fact (Nat.Prime c.p)] in
/-- the same without any hypothesis (any curve parameters, any cache content): what the code
literally guarantees is `BatchMultiplyG(guesses)[j] == key tuple` and `d = guesses[j]`. -/
theorem issuerDLogs_literal (cache : Cache) (gs : List Int) (pks : Pks) (dl : DLogs)
    (cache' : Cache) (h : issuerDLogs c cache gs pks = .ok (dl, cache')) (i : Nat) (d : Int)
    (hd : dl.get? i = some d) :
    ∃ pts, batchMultiplyG c cache gs = .ok (pts, cache') ∧
      ∃ k l, pks.get? k = some l ∧ i ∈ l ∧ (Pt.aff ((k : Key).1 : Int) (k.2 : Int), d) ∈ pts.zip gs := by
  unfold issuerDLogs at h
  split at h
  · cases h
  · rename_i pts cache'' hb
    simp only [Except.ok.injEq, Prod.mk.injEq] at h
    obtain ⟨rfl, rfl⟩ := h
    refine ⟨pts, hb, ?_⟩
    rw [dlogLoop_get?] at hd
    rcases lastMatch_some _ pts gs _ d hd with ⟨h0, _⟩ | ⟨pre, P, post, hz, ht, _⟩
    · cases h0
    · obtain ⟨k, l, rfl, hk, hi⟩ := (filedUnder_iff pks i P).mp ht
      exact ⟨k, l, hk, hi, by rw [hz]; simp⟩

/-- with `n • G = 0` (every named curve): the recorded `d` satisfies `d • G = issuer point`. -/
theorem isKeyOf_zsmul (hn : 0 < c.n) (hord : c.n • toPoint c c.g = 0) (k : Key) (d : Int)
    (h : IsKeyOf c k d) : toPoint c (.aff (k.1 : Int) (k.2 : Int)) = d • toPoint c c.g := by
  rw [h.2, ← natCast_zsmul, Int.toNat_of_nonneg (Int.emod_nonneg d (by omega))]
  have hz : (c.n : Int) • toPoint c c.g = 0 := by rw [natCast_zsmul]; exact hord
  conv_rhs => rw [← Int.emod_add_mul_ediv d c.n, add_zsmul, mul_zsmul', hz, zsmul_zero, add_zero]

/-- when `G` has order exactly `n` (n prime), two private keys of the same tuple are congruent
modulo `n` — so the value recorded for an issuer is its private key up to a multiple of `n`. -/
theorem isKeyOf_congr (hn : 0 < c.n) (hord : addOrderOf (toPoint c c.g) = c.n) (k : Key) (d d' : Int)
    (h : IsKeyOf c k d) (h' : IsKeyOf c k d') : d % (c.n : Int) = d' % (c.n : Int) :=
  isKeyOf_emod_eq c hn hord k d d' h h'

/-- ★ exact behaviour on the dict of `_MapIssuerSigIndexes` (reduced generator and cache): the
index of signature `i` is assigned IFF its OWN issuer key tuple has coordinates below `p` and some
guess is a private key of that tuple; the value is the LAST such guess of the list.  A key given
with unreduced coordinates (`x + p`) or not on the curve is therefore never matched. -/
theorem issuerDLogs_exact (hc : c.Good) (hG : onCurve c c.g = true) (hn : 0 < c.n)
    (hg : Reduced c c.g) (cache : Cache) (hcache : CacheOK c cache)
    (hcr : ∀ e ∈ cache, Reduced c e.2) (gs : List Int) (sigs : List Sig) (dl : DLogs) (cache' : Cache)
    (h : issuerDLogs c cache gs (mapIssuerSigIndexes sigs) = .ok (dl, cache'))
    (i : Nat) (s : Sig) (hs : sigs[i]? = some s) :
    (∀ d, dl.get? i = some d → KeyReduced c s.key ∧ LastKeyGuess c s.key gs d) ∧
    (KeyReduced c s.key → (∃ g ∈ gs, IsKeyOf c s.key g) → ∃ d, dl.get? i = some d) :=
  EcdsaChecks.issuerDLogs_exact c hc hG hn hg cache hcache hcr gs sigs dl cache' h i s hs

/-- the last key guess is unique (the recorded value is determined by the list). -/
theorem lastKeyGuess_unique (k : Key) (gs : List Int) (d d' : Int)
    (h : LastKeyGuess c k gs d) (h' : LastKeyGuess c k gs d') : d = d' :=
  EcdsaChecks.lastKeyGuess_unique c k gs d d' h h'

end curve

/-! ### the `Check` methods -/

/-- ★ C02, signature half, for every nonce check, every batch and EVERY oracle
answer: a signature receives an entry only if its curve id has a curve object in the factory; the
entry is positive only together with DISCRETE_LOG = `format(d, "x")`, where `d` is one of the guesses
handed to `_IssuerDLogs` for the signature's OWN curve group, and the issuer key tuple of THAT
signature is the point `(d mod n) • G` of ITS curve (C08 `group_isolation`, key side). -/
theorem weak_only_with_key (k : Kind) (O : Nat → GroupOracle) (factory : Factory) (arts : List Sig)
    (res : CheckResult) (hF : FactoryOK factory) (hnd : (factory.map Prod.fst).Nodup)
    (h : check k O factory arts = .ok res) (bi : Nat) (v : Verdict)
    (hv : verdictOf res.writes bi = some v) :
    ∃ s obj, arts[bi]? = some s ∧ (s.curve, some obj) ∈ factory ∧
      (v = negVerdict ∨
        ∃ d, v = posVerdict d ∧ d ∈ (O s.curve).guessList ∧ KeyOf obj.curve s.key d) :=
  check_sound k O factory arts res hF hnd h bi v hv

/-- ★ C08, oracle side: the verdict of a signature depends on the oracle only
through the answers for the curve group of that signature — guesses produced for other curves
cannot touch it. -/
theorem group_isolation (k : Kind) (O O' : Nat → GroupOracle) (factory : Factory) (arts : List Sig)
    (res res' : CheckResult) (h : check k O factory arts = .ok res)
    (h' : check k O' factory arts = .ok res') (hnd : (factory.map Prod.fst).Nodup)
    (bi : Nat) (s : Sig) (hs : arts[bi]? = some s) (hO : O s.curve = O' s.curve) :
    verdictOf res.writes bi = verdictOf res'.writes bi := by
  unfold check at h h'
  obtain ⟨a1, a2, _⟩ := checkLoop_ok k O arts factory res h
  obtain ⟨b1, b2, _⟩ := checkLoop_ok k O' arts factory res' h'
  by_cases hk : ∃ obj, (s.curve, some obj) ∈ factory
  · obtain ⟨obj, hobj⟩ := hk
    have hmem := mem_group_of_get hs
    have hne := List.ne_nil_of_mem hmem
    obtain ⟨gr, g1, _, g3⟩ := a1 s.curve obj hobj hne
    obtain ⟨gr', g1', _, g3'⟩ := b1 s.curve obj hobj hne
    rw [hO, g1'] at g1
    cases g1
    rw [g3 hnd bi s hmem, g3' hnd bi s hmem]
  · have n1 : verdictOf res.writes bi = none := by
      rw [verdictOf_none, a2]
      rintro ⟨s', obj, h1, h2⟩
      rw [hs] at h1; cases h1
      exact hk ⟨obj, h2⟩
    have n2 : verdictOf res'.writes bi = none := by
      rw [verdictOf_none, b2]
      rintro ⟨s', obj, h1, h2⟩
      rw [hs] at h1; cases h1
      exact hk ⟨obj, h2⟩
    rw [n1, n2]

/-- ★ results are written back by index (C17): one `Check` call writes exactly one entry for every
signature whose curve id has a curve object in the factory, none for the others (unknown curve
ids, `None` entries). -/
theorem writes_by_index (k : Kind) (O : Nat → GroupOracle) (factory : Factory) (arts : List Sig)
    (res : CheckResult) (hnd : (factory.map Prod.fst).Nodup) (h : check k O factory arts = .ok res) :
    (res.writes.map Prod.fst).Nodup ∧
    ∀ bi, bi ∈ res.writes.map Prod.fst ↔
      ∃ s obj, arts[bi]? = some s ∧ (s.curve, some obj) ∈ factory :=
  ⟨checkLoop_writes_nodup k O arts factory res h hnd, (checkLoop_ok k O arts factory res h).2.1⟩

/-- ★ exact verdict / `all_of_issuer_flagged` (C08): with reduced generator and caches, a signature
whose curve has an object in the factory is flagged IFF its issuer key tuple has coordinates below
`p` and some guess of its curve group is a private key of that tuple; the attached value is the
LAST such guess of `list(guesses)`.  Nothing else about the batch enters. -/
theorem verdict_exact (k : Kind) (O : Nat → GroupOracle) (factory : Factory) (arts : List Sig)
    (res : CheckResult) (hF : FactoryOK factory) (hR : FactoryReduced factory)
    (hnd : (factory.map Prod.fst).Nodup) (h : check k O factory arts = .ok res)
    (bi : Nat) (s : Sig) (hs : arts[bi]? = some s) (obj : CurveObj)
    (hobj : (s.curve, some obj) ∈ factory) :
    ∃ v, verdictOf res.writes bi = some v ∧
      ((v = negVerdict ∧ ¬ (KeyReduced obj.curve s.key ∧
          ∃ g ∈ (O s.curve).guessList, KeyOf obj.curve s.key g)) ∨
       (∃ d, v = posVerdict d ∧ KeyReduced obj.curve s.key ∧
          LastKeyOf obj.curve s.key (O s.curve).guessList d)) :=
  check_exact k O factory arts res hF hR hnd h bi s hs obj hobj

/-- ★ C08, stated on the solver answers: if ANY solver call made for ANY issuer
of the curve group returns a private key `g` of an issuer key tuple (reduced coordinates), then
EVERY signature of the batch with that curve and that key tuple is marked weak, all with the same
recorded value (the last key guess of `list(guesses)`). -/
theorem all_of_issuer_flagged (k : Kind) (O : Nat → GroupOracle) (factory : Factory) (arts : List Sig)
    (res : CheckResult) (hF : FactoryOK factory) (hR : FactoryReduced factory)
    (hnd : (factory.map Prod.fst).Nodup) (hG : GuessConsistent k O arts factory)
    (h : check k O factory arts = .ok res)
    (cid : Nat) (obj : CurveObj) (hobj : (cid, some obj) ∈ factory) (key : Key)
    (hkr : KeyReduced obj.curve key)
    (j : Nat) (cs : List Call) (kk : Nat) (g : Int)
    (hj : j < (mapIssuerSigIndexes ((groupFrom cid 0 arts).map Prod.snd)).length)
    (hc : issuerCalls k cid obj.curve.n ((O cid).uniq j) = .ok cs) (hk : kk < cs.length)
    (hg : g ∈ (O cid).answer j kk) (hkey : KeyOf obj.curve key g) :
    ∃ d, LastKeyOf obj.curve key (O cid).guessList d ∧
      ∀ bi s, arts[bi]? = some s → s.curve = cid → s.key = key →
        verdictOf res.writes bi = some (posVerdict d) := by
  exact flagged_of_guess k O factory arts res hF hR hnd h cid obj hobj key hkr g
    (answer_in_guessList k O factory arts hG cid obj hobj (group_ne_nil_of_issuer hj) j cs kk g hj hc hk
      hg) hkey

/-- ★ C17: the verdict of a signature is a function of (the curve of its curve object, its issuer
key tuple, `list(guesses)` of its curve group).  Two runs — different batches, different positions,
different order, different check kinds, different cache contents, earlier or later in the process —
give the same verdict to signatures that agree on these three. -/
theorem verdict_independent
    (k k' : Kind) (O O' : Nat → GroupOracle) (factory factory' : Factory) (arts arts' : List Sig)
    (res res' : CheckResult)
    (hF : FactoryOK factory) (hR : FactoryReduced factory) (hnd : (factory.map Prod.fst).Nodup)
    (hF' : FactoryOK factory') (hR' : FactoryReduced factory') (hnd' : (factory'.map Prod.fst).Nodup)
    (h : check k O factory arts = .ok res) (h' : check k' O' factory' arts' = .ok res')
    (bi bi' : Nat) (s s' : Sig) (hs : arts[bi]? = some s) (hs' : arts'[bi']? = some s')
    (obj obj' : CurveObj) (hobj : (s.curve, some obj) ∈ factory) (hobj' : (s'.curve, some obj') ∈ factory')
    (hcurve : obj.curve = obj'.curve) (hkey : s.key = s'.key)
    (hgl : (O s.curve).guessList = (O' s'.curve).guessList) :
    verdictOf res.writes bi = verdictOf res'.writes bi' :=
  EcdsaChecks.verdict_independent k k' O O' factory factory' arts arts' res res' hF hR hnd hF' hR' hnd'
    h h' bi bi' s s' hs hs' obj obj' hobj hobj' hcurve hkey hgl

/-- ★ C17: anything flagged alone is flagged in a batch given the same (or more) guesses: a flagged
signature stays flagged in every run whose `list(guesses)` for its curve group contains at least
the same values. -/
theorem flagged_monotone
    (k k' : Kind) (O O' : Nat → GroupOracle) (factory factory' : Factory) (arts arts' : List Sig)
    (res res' : CheckResult)
    (hF : FactoryOK factory) (hR : FactoryReduced factory) (hnd : (factory.map Prod.fst).Nodup)
    (hF' : FactoryOK factory') (hR' : FactoryReduced factory') (hnd' : (factory'.map Prod.fst).Nodup)
    (h : check k O factory arts = .ok res) (h' : check k' O' factory' arts' = .ok res')
    (bi bi' : Nat) (s s' : Sig) (hs : arts[bi]? = some s) (hs' : arts'[bi']? = some s')
    (obj obj' : CurveObj) (hobj : (s.curve, some obj) ∈ factory) (hobj' : (s'.curve, some obj') ∈ factory')
    (hcurve : obj.curve = obj'.curve) (hkey : s.key = s'.key)
    (hsub : ∀ g ∈ (O s.curve).guessList, g ∈ (O' s'.curve).guessList)
    (d : Int) (hpos : verdictOf res.writes bi = some (posVerdict d)) :
    ∃ d', verdictOf res'.writes bi' = some (posVerdict d') :=
  EcdsaChecks.flagged_monotone k k' O O' factory factory' arts arts' res res' hF hR hnd hF' hR' hnd'
    h h' bi bi' s s' hs hs' obj obj' hobj hobj' hcurve hkey hsub d hpos

/-- the return value `any_weak` is true iff some written verdict is positive. -/
theorem anyWeak_iff (writes : List (Nat × Verdict)) :
    anyWeak writes = true ↔ ∃ w ∈ writes, w.2.positive = true := by
  simp [anyWeak]

/-- ★ no state leaks between calls: after a `Check` call the curve objects satisfy the hypotheses of
all theorems again (same ids, same curves, caches sound and reduced). -/
theorem check_preserves (k : Kind) (O : Nat → GroupOracle) (factory : Factory) (arts : List Sig)
    (res : CheckResult) (hF : FactoryOK factory) (h : check k O factory arts = .ok res) :
    res.factory.map Prod.fst = factory.map Prod.fst ∧ FactoryOK res.factory ∧
      (FactoryReduced factory → FactoryReduced res.factory) :=
  EcdsaChecks.check_preserves k O factory arts res hF h

/-! ### what is handed to the solvers -/

/-- the calls recorded for a processed curve group are, issuer by issuer (dict order of
`_MapIssuerSigIndexes` on the group), `issuerCalls` of that issuer's `unique_vals`. -/
theorem check_calls (k : Kind) (O : Nat → GroupOracle) (factory : Factory) (arts : List Sig)
    (res : CheckResult) (h : check k O factory arts = .ok res) (cid : Nat) (css : List (List Call))
    (hm : (cid, css) ∈ res.calls) :
    ∃ obj, (cid, some obj) ∈ factory ∧
      css.length = (mapIssuerSigIndexes ((groupFrom cid 0 arts).map Prod.snd)).length ∧
      ∀ j cs, css[j]? = some cs → issuerCalls k cid obj.curve.n ((O cid).uniq j) = .ok cs := by
  obtain ⟨obj, gr, h1, h2, h3⟩ := (checkLoop_ok k O arts factory res h).2.2 cid css hm
  obtain ⟨_, _, hc, _⟩ := processGroup_ok _ _ _ _ _ _ _ h2
  obtain ⟨q1, q2⟩ := groupCallsFrom_inv _ _ _ _ _ _ _ _ hc
  subst h3
  refine ⟨obj, h1, q1, ?_⟩
  intro j cs hj
  have := q2 j cs hj
  rwa [Nat.zero_add] at this

/-- ★ the `(a_i, b_i)` handed to `HiddenNumberProblem` / `HiddenNumberProblemForCurve`
are exactly `HiddenNumberParams` of each unique `(r, s, z)`, in `unique_vals` order; with a bias
they are cut into the windows of `windows_plan`, with LCG parameters they go in one call together
with the curve id and the two LCG parameters unchanged; `w = None`, `n = curve.n` and the bias are
passed through. -/
theorem hnp_args (m : Mode) (cid n : Nat) (uniq : List Triple) (cs : List Call)
    (h : issuerCalls (.biased m) cid n uniq = .ok cs) :
    ∃ ab, List.Forall₂ (fun (v : Triple) p => hiddenNumberParams n v.1 v.2.1 v.2.2 = .ok p) uniq ab ∧
      cs = modeCalls m cid n ab := by
  obtain ⟨h0, _⟩ | ⟨_, ab, hm, hab, rfl⟩ := issuerCalls_ok h
  · cases h0
  · cases hm
    exact ⟨ab, (hnpParamsList_ok n uniq ab).mp hab, rfl⟩

theorem modeCalls_cases (cid n : Nat) (ab : List (Nat × Nat)) :
    (∀ b, modeCalls (.bias b) cid n ab =
      (sizeLoop windowSizes ab).map fun w => Call.hnp (w.map Prod.fst) (w.map Prod.snd) n b) ∧
    (∀ name flags, modeCalls (.lcg name flags) cid n ab =
      [Call.hnpCurve (ab.map Prod.fst) (ab.map Prod.snd) cid name flags]) :=
  ⟨fun _ => rfl, fun _ _ => rfl⟩

/-- … hence (C09 `hnparams_general`) every pair handed over satisfies the nonce relation of its
signature: if `s·k ≡ z + r·d (mod n)` then `a + b·d ≡ k (mod n)`, `a, b < n`. -/
theorem hnp_args_relation (n : Nat) (hn : 2 ≤ n) (uniq : List Triple) (ab : List (Nat × Nat))
    (h : List.Forall₂ (fun (v : Triple) p => hiddenNumberParams n v.1 v.2.1 v.2.2 = .ok p) uniq ab)
    (i : Nat) (v : Triple) (p : Nat × Nat) (hv : uniq[i]? = some v) (hp : ab[i]? = some p)
    (d k : Int) (hsig : (v.2.1 : Int) * k ≡ (v.2.2 : Int) + (v.1 : Int) * d [ZMOD (n : Int)]) :
    p.1 < n ∧ p.2 < n ∧ (p.1 : Int) + p.2 * d ≡ k [ZMOD (n : Int)] := by
  obtain ⟨p', hp', hvp⟩ := forall₂_idx h i v hv
  cases hp.symm.trans hp'
  exact (hiddenNumberParams_ok_rel n hn _ _ _ p hvp).2 d k hsig

/-- ★ the windows for a list of `len` values: consecutive slices of 24 (always);
then, only if `len > 24`, consecutive slices of 48; then, only if `len > 48`, consecutive slices of
120 — the loop stops after the first size `≥ len`. -/
theorem windows_plan {α} (l : List α) :
    sizeLoop windowSizes l =
      if l.length ≤ 24 then chunks 24 l
      else if l.length ≤ 48 then chunks 24 l ++ chunks 48 l
      else chunks 24 l ++ chunks 48 l ++ chunks 120 l :=
  sizeLoop_windowSizes l

/-- the slices of one size: concatenated they give back the list; each is a non-empty slice
`l[i : i+size]` with `size ∣ i`; a non-empty list that fits is handed over in one piece. -/
theorem chunks_spec {α} (size : Nat) (hs : 0 < size) (l : List α) :
    (chunks size l).flatten = l ∧
    (∀ w ∈ chunks size l, ∃ i, i < l.length ∧ i % size = 0 ∧ w = (l.drop i).take size ∧ w ≠ []) ∧
    (l ≠ [] → l.length ≤ size → chunks size l = [l]) :=
  ⟨chunks_flatten size hs l, chunks_mem size hs l, chunks_of_le size hs l⟩

/-- ★ every unique signature lies in some window handed to the solver, every
window is a consecutive slice of at most 120 values, and a list of at most 24 values is solved in
exactly one call containing all of them. -/
theorem windows_cover {α} (l : List α) :
    (∀ x ∈ l, ∃ w ∈ sizeLoop windowSizes l, x ∈ w) ∧
    (∀ w ∈ sizeLoop windowSizes l, ∃ i size, size ≤ 120 ∧ w = (l.drop i).take size ∧ w ≠ []) ∧
    (l ≠ [] → l.length ≤ 24 → sizeLoop windowSizes l = [l]) := by
  have h24 := chunks_spec 24 (by omega) l
  refine ⟨fun x hx => ?_, fun w hw => ?_, fun hne hlen => ?_⟩
  · obtain ⟨w, hw, hxw⟩ := List.mem_flatten.mp (h24.1.symm ▸ hx)
    refine ⟨w, ?_, hxw⟩
    rw [windows_plan]
    split
    · exact hw
    · split
      · exact List.mem_append_left _ hw
      · exact List.mem_append_left _ (List.mem_append_left _ hw)
  · obtain ⟨size, hs, hm⟩ := mem_sizeLoop l w windowSizes hw
    have hb : 0 < size ∧ size ≤ 120 := by
      simp only [windowSizes, List.mem_cons, List.not_mem_nil, or_false] at hs
      omega
    obtain ⟨i, _, _, h3, h4⟩ := (chunks_spec size hb.1 l).2.1 w hm
    exact ⟨i, size, hb.2, h3, h4⟩
  · rw [windows_plan, if_pos hlen]
    exact h24.2.2 hne (by omega)

/-- ★ Cr50: for `unique_vals = [v₀, …, v_m]` (non-empty) the calls are
`(v₀, v₁), (v₁, v₂), …, (v_{m-1}, v_m)` and finally `(v_m, (1, 1, 0))`, all with `n = curve.n` —
`len(unique_vals)` calls; an empty list would raise `IndexError` (unreachable: `check_total`). -/
theorem cr50_args (n : Nat) (uniq : List Triple) :
    (uniq ≠ [] → issuerCalls .cr50 0 n uniq = .ok (cr50Spec n uniq) ∧
      (cr50Spec n uniq).length = uniq.length) ∧
    (∀ v, cr50Spec n [v] = [Call.cr50 v (1, 1, 0) n]) ∧
    (∀ v w rest, cr50Spec n (v :: w :: rest) = Call.cr50 v w n :: cr50Spec n (w :: rest)) ∧
    issuerCalls .cr50 0 n [] = .error .indexError :=
  ⟨fun h => ⟨cr50Calls_eq n uniq h, cr50Spec_length n uniq⟩, fun _ => rfl, fun _ _ _ => rfl, rfl⟩

/-- `BiasedBaseCheck.__init__`: exactly one of `bias`, `lcg_params` must be given. -/
theorem biasedInit_cases (bias : Option Nat) (lcg : Option (Nat × Nat)) :
    biasedInit bias lcg = match bias, lcg with
      | some b, none => .ok (.bias b)
      | none, some p => .ok (.lcg p.1 p.2)
      | some _, some _ => .error .valueError
      | none, none => .error .valueError := by
  cases bias <;> cases lcg <;> rfl

/-! ### totality (C18) and the exact set of raising inputs -/

/-- ★ totality OF THE CHECK LAYER (every solver call is an answer oracle here): with valid curve
objects and order oracles that are enumerations, the check layer of a nonce check never raises on a
batch in which every signature with a known curve has `s` invertible modulo the curve's `n` — any
`r`, any hash length, any issuer key (invalid, unreduced, `(0,0)`), any curve id, any batch size
including the empty batch, any oracle answers.  The check layer of `CheckCr50U2f` needs no condition
at all — but an exception raised INSIDE a solver is outside this model: the real `Cr50U2fGuesses`
raises ZeroDivisionError for `r ≡ 0 (mod n)` (`C08.cr50_total_prime` needs `n ∤ r`).  The composition
with the solver models, under `r, s ∈ [1, n-1]`, is `C18Ec.sig_checks_solver_total`. -/
theorem check_total (k : Kind) (O : Nat → GroupOracle) (factory : Factory) (arts : List Sig)
    (hF : FactoryOK factory) (hcons : UniqConsistent O arts factory)
    (hwf : k ≠ .cr50 → ∀ s ∈ arts, ∀ obj, (s.curve, some obj) ∈ factory →
      Int.gcd (bytes2int s.s : Int) obj.curve.n = 1) :
    ∃ res, check k O factory arts = .ok res :=
  EcdsaChecks.check_total k O factory arts hF hcons hwf

/-- the property's own well-formedness: `1 ≤ s ≤ n - 1` with `n` prime implies `gcd(s, n) = 1`. -/
theorem wf_of_range (n : Nat) (hp : n.Prime) (s : Nat) (h1 : 1 ≤ s) (h2 : s ≤ n - 1) :
    Int.gcd (s : Int) n = 1 := by
  apply gcd_eq_one_of_emod_ne_zero n hp
  have hn := hp.two_le
  rw [Int.emod_eq_of_lt (by omega) (by omega)]
  omega

/-- the CHECK LAYER of `CheckCr50U2f.Check` never raises (valid curve objects, consistent order
oracle; `Cr50U2fGuesses` is an answer oracle here — the real solver raises ZeroDivisionError for
`r ≡ 0 (mod n)`; composed statement for `r ∈ [1, n-1]`: `C18Ec.sig_checks_solver_total`). -/
theorem cr50_never_raises (O : Nat → GroupOracle) (factory : Factory) (arts : List Sig)
    (hF : FactoryOK factory) (hcons : UniqConsistent O arts factory) :
    ∃ res, check .cr50 O factory arts = .ok res :=
  EcdsaChecks.check_total .cr50 O factory arts hF hcons (fun h => absurd rfl h)

/-- ★ the only way to raise: the check is a `BiasedBaseCheck`, the exception is
`ZeroDivisionError`, and some signature with a known curve has `s` not invertible modulo `n`
(`s ≡ 0 (mod n)` for the prime orders of the named curves: `s = 0`, `s = n`, `s = 2n`, …). -/
theorem check_error (k : Kind) (O : Nat → GroupOracle) (factory : Factory) (arts : List Sig)
    (hF : FactoryOK factory) (hcons : UniqConsistent O arts factory) (e : PyErr)
    (h : check k O factory arts = .error e) :
    (∃ m, k = .biased m) ∧ e = .zeroDivision ∧
      ∃ s ∈ arts, ∃ obj, (s.curve, some obj) ∈ factory ∧
        Int.gcd (bytes2int s.s : Int) obj.curve.n ≠ 1 :=
  EcdsaChecks.check_error k O factory arts hF hcons e h

/-- ★ … and every such batch does raise: ONE signature with `s ≡ 0 (mod n)` makes the whole
`BiasedBaseCheck.Check` call raise `ZeroDivisionError` — no signature of the batch gets a verdict
from that check (an input class outside the property's `r, s ∈ [1, n-1]`). -/
theorem check_raises (m : Mode) (O : Nat → GroupOracle) (factory : Factory) (arts : List Sig)
    (hF : FactoryOK factory) (hnd : (factory.map Prod.fst).Nodup)
    (hcons : UniqConsistent O arts factory)
    (s : Sig) (hs : s ∈ arts) (obj : CurveObj) (hobj : (s.curve, some obj) ∈ factory)
    (hbad : Int.gcd (bytes2int s.s : Int) obj.curve.n ≠ 1) :
    check (.biased m) O factory arts = .error .zeroDivision :=
  EcdsaChecks.check_raises m O factory arts hF hnd hcons s hs obj hobj hbad

/-- what the driver evaluates on every correspondence line implies the two consistency
hypotheses used above. -/
theorem consistent_of_checkConsistent (k : Kind) (O : Nat → GroupOracle) (arts : List Sig)
    (factory : Factory) (h : checkConsistent k O arts factory = true) :
    UniqConsistent O arts factory ∧ GuessConsistent k O arts factory :=
  consistent_of_check k O arts factory h

/-! ### the hypotheses hold for CURVE_FACTORY as regenerated from /repo -/

/-- `namedFactory` is the nine named curves with fresh caches, in the dict order of
`Consts.ecCurveTable`, followed by the `None` entries. -/
theorem namedFactory_eq : namedFactory =
    [(2, some ⟨secp256r1, []⟩), (4, some ⟨secp384r1, []⟩), (1, some ⟨secp192r1, []⟩),
     (3, some ⟨secp224r1, []⟩), (5, some ⟨secp521r1, []⟩), (6, some ⟨secp256k1, []⟩),
     (17, some ⟨brainpoolP256r1, []⟩), (18, some ⟨brainpoolP384r1, []⟩),
     (19, some ⟨brainpoolP512r1, []⟩),
     (7, none), (8, none), (9, none), (10, none), (11, none), (12, none), (13, none), (14, none),
     (15, none), (16, none)] := by
  rfl

theorem namedFactory_ids : (namedFactory.map Prod.fst).Nodup ∧
    (namedFactory.filterMap fun e => e.2.map fun _ => e.1) = Consts.knownCurves := by
  rw [namedFactory_eq]
  decide

/-- a curve that passed the evaluated parameter check, with an empty cache, satisfies every
hypothesis of the theorems above (given the primality of its field prime). -/
theorem objOK_of_paramsOK (c : Curve) (hp : Nat.Prime c.p) (h : c.paramsOK = true) :
    ObjOK ⟨c, []⟩ ∧ ObjReduced ⟨c, []⟩ := by
  have : Fact (Nat.Prime c.p) := ⟨hp⟩
  obtain ⟨h1, h2, _, _, _, _⟩ := generator_of_paramsOK c h
  obtain ⟨hg, hn⟩ := reduced_of_paramsOK c h
  exact ⟨⟨⟨hp⟩, h1, h2, hn, fun e he => absurd he List.not_mem_nil⟩,
    hg, fun e he => absurd he List.not_mem_nil⟩

/-- ★ CURVE_FACTORY of the current tree satisfies `FactoryOK`, `FactoryReduced` and has distinct
ids — given only the primality of the nine field primes (premise `hprime`; discharged from the
Pratt certificates of Props/C11Primes in `C02.namedFactory_ok_certified`, Props/C02Cert.lean). -/
theorem namedFactory_ok
    (hprime : ∀ c ∈ [secp256r1, secp384r1, secp192r1, secp224r1, secp521r1, secp256k1,
      brainpoolP256r1, brainpoolP384r1, brainpoolP512r1], Nat.Prime c.p) :
    FactoryOK namedFactory ∧ FactoryReduced namedFactory ∧ (namedFactory.map Prod.fst).Nodup := by
  have key : ∀ cid obj, (cid, some obj) ∈ namedFactory → ObjOK obj ∧ ObjReduced obj := by
    intro cid obj hm
    obtain ⟨c, hc, rfl⟩ := namedFactory_objs hm
    exact objOK_of_paramsOK c (hprime c hc) (named_facts c hc).1
  exact ⟨fun cid obj hm => (key cid obj hm).1, fun cid obj hm => (key cid obj hm).2,
    namedFactory_ids.1⟩

/-! ### non-vacuity: concrete inputs meeting the hypotheses (toy curve `y² = x³ - 3x + 6` over
GF(101), prime order 109, `G = (0, 39)`, `7·G = (23, 61)`, `5·G = (89, 43)`) -/

def toy : Curve := ⟨-3, 6, 101, 0, 39, 109, 1⟩
def toyFactory : Factory := [(2, some ⟨toy, []⟩), (7, none)]

/-- signatures: two of issuer `7·G` (same `(r, s)`, different hashes), one duplicate, one of issuer
`5·G`, one with the key `7·G` given with `x + p`, one on an unknown curve id. -/
def toyBatch : List Sig :=
  [⟨2, [23], [61], [5], [3], [0x10]⟩, ⟨2, [23], [61], [5], [3], [0x20]⟩,
   ⟨2, [0, 23], [61], [0, 5], [3], [0x10]⟩, ⟨2, [89], [43], [9], [4], [0x30]⟩,
   ⟨2, [124], [61], [9], [4], [0x30]⟩, ⟨99, [23], [61], [5], [3], [0x10]⟩]

/-- an oracle answering `gl` to every solver call, `list(guesses) = gl`; `uniq` as for curve id 2. -/
def toyOracle (gl : List Int) : Nat → GroupOracle := fun _ =>
  { uniq := fun j => if j = 0 then [(5, 3, 8), (5, 3, 16)] else [(9, 4, 24)]
    answer := fun _ _ => gl
    guessList := gl }

theorem toy_prime : Nat.Prime toy.p := by
  show Nat.Prime 101
  norm_num
example : toy.paramsOK = true := by decide +kernel
theorem toyFactory_ok : FactoryOK toyFactory ∧ FactoryReduced toyFactory := by
  have h := objOK_of_paramsOK toy toy_prime (by decide +kernel)
  have key : ∀ cid obj, (cid, some obj) ∈ toyFactory → obj = ⟨toy, []⟩ := by
    intro cid obj hm
    simp only [toyFactory, List.mem_cons, Prod.mk.injEq, Option.some.injEq, reduceCtorEq, and_false,
      List.not_mem_nil, or_false] at hm
    exact hm.2
  exact ⟨fun cid obj hm => key cid obj hm ▸ h.1, fun cid obj hm => key cid obj hm ▸ h.2⟩

example : checkConsistent (.biased (.bias 1)) (toyOracle [7]) toyBatch toyFactory = true := by
  decide +kernel
/- the three signatures of issuer `7·G` are flagged with `7`, the other issuer, the unreduced copy of
the key and the unknown curve are not; with guesses `[7, 116]` the LAST key guess `116 = 7 + n` is
recorded (hex `74`); with noise only, nobody is flagged. -/
example : ((check (.biased (.bias 1)) (toyOracle [7]) toyFactory toyBatch).toOption.map fun r =>
    (List.range 6).map (verdictOf r.writes)) =
    some [some (posVerdict 7), some (posVerdict 7), some (posVerdict 7), some negVerdict,
      some negVerdict, none] := by decide +kernel
example : ((check .cr50 (toyOracle [7, 116, 0, 109, -7]) toyFactory toyBatch).toOption.map fun r =>
    ((List.range 6).map (verdictOf r.writes), anyWeak r.writes)) =
    some ([some (posVerdict 116), some (posVerdict 116), some (posVerdict 116), some negVerdict,
      some negVerdict, none], true) := by decide +kernel
example : ((check (.biased (.lcg 1 7)) (toyOracle [0, 109, 6, -7, 102]) toyFactory toyBatch).toOption.map
    fun r => ((List.range 6).map (verdictOf r.writes), anyWeak r.writes)) =
    some ([some negVerdict, some negVerdict, some negVerdict, some negVerdict, some negVerdict, none],
      false) := by decide +kernel
example : dlogHex 116 = "74" ∧ dlogHex (-7) = "-7" := by decide +kernel
/- the solver calls: one window with both unique values of issuer `7·G`, one for issuer `5·G`, one for
the third key tuple. -/
example : ((check (.biased (.bias 1)) (toyOracle [7]) toyFactory toyBatch).toOption.map fun r =>
    r.calls) = some [(2, [[Call.hnp [39, 78] [38, 38] 109 1], [Call.hnp [6] [84] 109 1],
      [Call.hnp [6] [84] 109 1]])] := by
  decide +kernel
example : ((check .cr50 (toyOracle [7]) toyFactory toyBatch).toOption.map fun r => r.calls) =
    some [(2, [[Call.cr50 (5, 3, 8) (5, 3, 16) 109, Call.cr50 (5, 3, 16) (1, 1, 0) 109],
      [Call.cr50 (9, 4, 24) (1, 1, 0) 109], [Call.cr50 (9, 4, 24) (1, 1, 0) 109]])] := by decide +kernel
/- `s = 0` and `s = n` raise in a biased check, not in Cr50; the empty batch is fine. -/
example : check (.biased (.bias 1)) (fun _ => ⟨fun _ => [(5, 109, 0)], fun _ _ => [7], [7]⟩) toyFactory
    [⟨2, [23], [61], [5], [109], [1]⟩] = .error .zeroDivision ∧
  check (.biased (.lcg 2 7)) (fun _ => ⟨fun _ => [(5, 0, 0)], fun _ _ => [7], [7]⟩) toyFactory
    [⟨2, [23], [61], [5], [], [1]⟩] = .error .zeroDivision := by
  constructor <;> rfl
example : (check .cr50 (fun _ => ⟨fun _ => [(5, 0, 0)], fun _ _ => [7], [7]⟩) toyFactory
    [⟨2, [23], [61], [5], [], [1]⟩]).toOption.map (fun r => (List.range 1).map (verdictOf r.writes)) =
    some [some (posVerdict 7)] := by decide +kernel
example : (check (.biased (.bias 3)) (toyOracle []) toyFactory []).toOption.map (fun r => r.writes)
    = some [] := by decide +kernel
example : mapIssuerSigIndexes toyBatch = [((23, 61), [0, 1, 2, 5]), ((89, 43), [3]), ((124, 61), [4])] := by
  decide +kernel
example : (sizeLoop windowSizes (List.range 50)).map List.length = [24, 24, 2, 48, 2, 50] := by
  decide +kernel
example : (sizeLoop windowSizes (List.range 24)).map List.length = [24] := by decide +kernel

end Paranoid.C02S
