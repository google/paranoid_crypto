/-
Props/C19.lean — "Number-theory, lattice and linear-algebra helpers return only true solutions".
Property theorems only; helper lemmas live in Proofs/NTheory.lean (ntheory_util.py),
Proofs/LinAlg.lean (linalg_util.py) and Proofs/Lattice.lean (lattice_suite.py, util.py,
small_roots.py guards).

Every statement is universally quantified over its integer arguments (no size bound).
`FastProduct` / `ExtendedProductTree` are the subject of C03 and are not repeated here.
-/
import ParanoidModel.Proofs.NTheory
import ParanoidModel.Proofs.Lattice
import ParanoidModel.Proofs.LinAlg
namespace Paranoid.C19
open Paranoid Paranoid.NT

/-! ## ntheory_util.Inverse2exp -/

/-- `Inverse2exp(n, k)` returns `None` exactly for even `n`. -/
theorem inverse2exp_none_iff (n k : Nat) : inverse2exp n k = none ↔ n % 2 = 0 :=
  inverse2exp_eq_none_iff n k

/-- a returned value `a` satisfies the defining congruence `a·n ≡ 1 (mod 2^k)`, for every `k`
(for `k ≤ 2` the code returns the unreduced `n % 4`, which still satisfies it). -/
theorem inverse2exp_sound (n k a : Nat) (h : inverse2exp n k = some a) :
    a * n ≡ 1 [MOD 2 ^ k] :=
  (inverse2exp_correct n k a h).2

/-- odd `n` always gets an inverse. -/
theorem inverse2exp_complete (n k : Nat) (hn : n % 2 = 1) :
    ∃ a, inverse2exp n k = some a ∧ a * n ≡ 1 [MOD 2 ^ k] := by
  cases h : inverse2exp n k with
  | none => rw [inverse2exp_eq_none_iff] at h; omega
  | some a => exact ⟨a, rfl, (inverse2exp_correct n k a h).2⟩

/-- for `k ≥ 2` the inverse is reduced: `a < 2^k`. -/
theorem inverse2exp_reduced (n k a : Nat) (hk : 2 ≤ k) (h : inverse2exp n k = some a) :
    a < 2 ^ k :=
  inverse2exp_lt n k a hk h

/-! ## ntheory_util.InverseSqrt2exp -/

/-- a returned value satisfies the docstring's equation `1 == a*a*n % 2**k`, for every `k`
(loop branch `k ≥ 3` and enumeration branch `k < 3`). -/
theorem inverseSqrt2exp_sound (n k a : Nat) (h : inverseSqrt2exp n k = some a) :
    a * a * n % 2 ^ k = 1 :=
  NT.inverseSqrt2exp_sound n k a h

/-- `None` is returned exactly when the equation has no solution at all, for every `k`. -/
theorem inverseSqrt2exp_none_iff (n k : Nat) :
    inverseSqrt2exp n k = none ↔ ∀ a, a * a * n % 2 ^ k ≠ 1 :=
  NT.inverseSqrt2exp_none_iff n k

/-- for `k ≥ 3`: a value is returned iff `n ≡ 1 (mod 8)`. -/
theorem inverseSqrt2exp_some_iff (n k : Nat) (hk : 3 ≤ k) :
    (∃ a, inverseSqrt2exp n k = some a ∧ a * a * n % 2 ^ k = 1) ↔ n % 8 = 1 := by
  rw [← inverseSqrt2exp_isSome_iff n k hk]
  constructor
  · rintro ⟨a, h, _⟩; simp [h]
  · intro h
    obtain ⟨a, ha⟩ := Option.isSome_iff_exists.1 h
    exact ⟨a, ha, NT.inverseSqrt2exp_sound n k a ha⟩

/-- the returned value is reduced modulo `2^k` (`k ≥ 1`). -/
theorem inverseSqrt2exp_reduced (n k a : Nat) (hk : 1 ≤ k) (h : inverseSqrt2exp n k = some a) :
    a < 2 ^ k :=
  inverseSqrt2exp_lt n k a h

/-- edge `k = 0`: `x % 1 == 1` is never true, so the function answers `None` although every
integer is a solution modulo `2^0 = 1`; this is the literal reading of the docstring. -/
theorem inverseSqrt2exp_k0 (n : Nat) : inverseSqrt2exp n 0 = none := by
  rw [inverseSqrt2exp_none_iff]
  intro a; simp [Nat.mod_one]

/-! ## ntheory_util.Sqrt2exp -/

/-- even `n` raises `ValueError`. -/
theorem sqrt2exp_even (n k : Nat) (h : n % 2 = 0) : sqrt2exp n k = .error .valueError := by
  unfold sqrt2exp; simp [h]

/-- odd `n`, every `k`: the call succeeds (the `2**k - None` path is unreachable) and the
result lists exactly the square roots of `n` modulo `2^k`: every element is a reduced square
root, the elements are pairwise distinct, and every reduced square root is listed. -/
theorem sqrt2exp_exact (n k : Nat) (hn : n % 2 = 1) :
    ∃ l, sqrt2exp n k = .ok l ∧
      (∀ x ∈ l, x < 2 ^ k ∧ x * x ≡ n [MOD 2 ^ k]) ∧ l.Nodup ∧
      (∀ x, x < 2 ^ k → x * x ≡ n [MOD 2 ^ k] → x ∈ l) := by
  obtain ⟨l, h, hs, _⟩ := sqrt2exp_odd n k hn
  exact ⟨l, h, hs⟩

/-- negative `k` raises `ValueError` (`sqrt2expZ` is `Sqrt2exp` with a signed `k`). -/
theorem sqrt2exp_negative_k (n : Nat) (k : Int) (hk : k < 0) :
    sqrt2expZ n k = .error .valueError ∧ ∀ k' : Nat, sqrt2expZ n (k' : Int) = sqrt2exp n k' :=
  ⟨sqrt2expZ_neg n k hk, sqrt2expZ_nonneg n⟩

/-- for `k ≥ 3` there are none or exactly four roots. -/
theorem sqrt2exp_count (n k : Nat) (hk : 3 ≤ k) (l : List Nat) (h : sqrt2exp n k = .ok l) :
    l = [] ∨ l.length = 4 := by
  have hn : n % 2 = 1 := by
    by_contra hc
    rw [sqrt2exp_even n k (by omega)] at h
    cases h
  obtain ⟨l', h', _, hc⟩ := sqrt2exp_odd n k hn
  rw [h] at h'
  cases h'
  exact hc hk

/-- the empty list is returned exactly when `n` has no square root modulo `2^k`. -/
theorem sqrt2exp_empty_iff (n k : Nat) (hn : n % 2 = 1) :
    sqrt2exp n k = .ok [] ↔ ¬ ∃ x, x < 2 ^ k ∧ x * x ≡ n [MOD 2 ^ k] := by
  obtain ⟨l, h, hs, _⟩ := sqrt2exp_odd n k hn
  rw [h]
  constructor
  · intro e
    cases e
    rintro ⟨x, hx, hxn⟩
    exact absurd (hs.2.2 x hx hxn) (by simp)
  · intro hno
    cases l with
    | nil => rfl
    | cons x l => exact absurd ⟨x, hs.1 x (by simp)⟩ hno

/-! ## ntheory_util.ContinuedFraction -/

/-- the quotients are Euclid's and the `(r, t)` are the convergents given by the recurrence
`r_i = r_{i-1} q_i + r_{i-2}`, `t_i = t_{i-1} q_i + t_{i-2}` from `(1, 0, 0, 1)`. The model runs
on `2·bitlen(b) + 2` units of fuel; this equation shows the fuel never runs out. -/
theorem continuedFraction_convergents (a b : Nat) :
    continuedFraction a b = convergents (euclidQuots a b) 1 0 0 1 :=
  continuedFraction_eq a b

/-- first components = Euclid's quotient sequence. -/
theorem continuedFraction_quotients (a b : Nat) :
    (continuedFraction a b).map (·.1) = euclidQuots a b := by
  rw [continuedFraction_eq, convergents_map_fst]

/-- consecutive convergents: `r_{i+1}·t_i − r_i·t_{i+1} = (−1)^i`. -/
theorem continuedFraction_det (a b i : Nat) (x y : Nat × Nat × Nat)
    (hx : (continuedFraction a b)[i]? = some x) (hy : (continuedFraction a b)[i + 1]? = some y) :
    (y.2.1 : Int) * x.2.2 - (x.2.1 : Int) * y.2.2 = (-1) ^ i := by
  have := altDet_index _ _ _ _ (continuedFraction_altDet a b) i x y hx hy
  simpa using this

/-- every convergent is in lowest terms. -/
theorem continuedFraction_coprime (a b : Nat) (x : Nat × Nat × Nat)
    (hx : x ∈ continuedFraction a b) : Nat.Coprime x.2.1 x.2.2 :=
  altDet_coprime _ (-1) 1 0 (Or.inr rfl) (continuedFraction_altDet a b) x hx

/-- the last convergent is `a / b` in lowest terms: `r = a / gcd`, `t = b / gcd`; in particular
`r·b = t·a`. -/
theorem continuedFraction_last (a b : Nat) (x : Nat × Nat × Nat)
    (h : (continuedFraction a b).getLast? = some x) :
    x.2.1 * Nat.gcd a b = a ∧ x.2.2 * Nat.gcd a b = b ∧ x.2.1 * b = x.2.2 * a ∧
      Nat.Coprime x.2.1 x.2.2 := by
  obtain ⟨h1, h2⟩ := NT.continuedFraction_last a b x h
  refine ⟨h1, h2, ?_, continuedFraction_coprime a b x (List.mem_of_getLast? h)⟩
  calc x.2.1 * b = x.2.1 * (x.2.2 * Nat.gcd a b) := by rw [h2]
    _ = x.2.2 * (x.2.1 * Nat.gcd a b) := by ring
    _ = x.2.2 * a := by rw [h1]

/-- the expansion is empty exactly for `b = 0`. -/
theorem continuedFraction_nil_iff (a b : Nat) : continuedFraction a b = [] ↔ b = 0 := by
  rw [continuedFraction_eq]
  constructor
  · intro h
    by_contra hb
    exact euclidQuots_ne_nil a b hb (convergents_eq_nil h)
  · rintro rfl; rw [euclidQuots_zero]; rfl

/-! ## ntheory_util.DivmodRounded

`divmodRounded` is the function before fix cdbbb74 (D16); /repo HEAD ships `divmodRoundedR`
(`d = b // 2 if b > 0 else (b + 1) // 2`).  The theorems below that mention `divmodRounded`
(without `R`) get no correspondence run.  The full specification of the shipped function
(identity, exact range for both signs of `b`, tie rule, zero divisor, totality, the callers'
power-of-two case) is in Props/C19Shipped.lean;
`divmodRounded_repaired` and `divmodRounded_repair_conservative` below are about the shipped
function. -/

/-- Pre-fix `DivmodRounded` (`d = (b + 1) // 2`, before cdbbb74); shipped function: Props/C19Shipped.lean. `b = 0` raises `ZeroDivisionError`; otherwise a pair is returned and `q·b + r = a`. -/
theorem divmodRounded_identity (a b q r : Int) (h : divmodRounded a b = .ok (q, r)) :
    b ≠ 0 ∧ q * b + r = a := by
  by_cases hb : b = 0
  · subst hb; rw [divmodRounded_zero] at h; cases h
  · exact ⟨hb, (divmodOffset_spec (divmodRounded_ok a b hb ▸ h)).1⟩

/-- Pre-fix `DivmodRounded` (`d = (b + 1) // 2`, before cdbbb74); shipped function: Props/C19Shipped.lean. -/
theorem divmodRounded_zero (a : Int) : divmodRounded a 0 = .error .zeroDivision :=
  NT.divmodRounded_zero a

/-- Pre-fix `DivmodRounded` (`d = (b + 1) // 2`, before cdbbb74); shipped function: Props/C19Shipped.lean. -/
theorem divmodRounded_total (a b : Int) (hb : b ≠ 0) : ∃ q r, divmodRounded a b = .ok (q, r) :=
  ⟨_, _, divmodRounded_ok a b hb⟩

/-- Pre-fix `DivmodRounded` (`d = (b + 1) // 2`, before cdbbb74); shipped function: Props/C19Shipped.lean. Exact remainder range, `b > 0`: `−b ≤ 2r < b` for even `b`, `−(b+1) ≤ 2r < b−1` for odd `b`. -/
theorem divmodRounded_range_pos (a b q r : Int) (hb : 0 < b) (h : divmodRounded a b = .ok (q, r)) :
    -(b + b % 2) ≤ 2 * r ∧ 2 * r < b - b % 2 :=
  NT.divmodRounded_range_pos a b q r hb h

/-- Pre-fix `DivmodRounded` (`d = (b + 1) // 2`, before cdbbb74); shipped function: Props/C19Shipped.lean. Exact remainder range, `b < 0` (Python floor semantics): `b < 2r ≤ −b`. -/
theorem divmodRounded_range_neg (a b q r : Int) (hb : b < 0) (h : divmodRounded a b = .ok (q, r)) :
    b < 2 * r ∧ 2 * r ≤ -b :=
  NT.divmodRounded_range_neg a b q r hb h

/-- Pre-fix `DivmodRounded` (`d = (b + 1) // 2`, before cdbbb74); shipped function: Props/C19Shipped.lean. The docstring's claim "q = round(a/b)": `q` is an integer nearest to `a/b`.
Not asserted: false for odd `b > 0` for the pre-fix function (D16), see
`divmodRounded_round_fails`; TRUE for the shipped function (`divmodRounded_repaired`). -/
def DivmodRoundedRounds : Prop :=
  ∀ a b q r : Int, divmodRounded a b = .ok (q, r) → IsNearest a b q

/-- Pre-fix `DivmodRounded` (`d = (b + 1) // 2`, before cdbbb74); shipped function: Props/C19Shipped.lean. Proved part: even divisors (either sign) and all negative divisors. -/
theorem divmodRounded_round_partial (a b q r : Int) (hb : b % 2 = 0 ∨ b < 0)
    (h : divmodRounded a b = .ok (q, r)) : IsNearest a b q :=
  divmodRoundedR_nearest a b q r (divmodRoundedR_eq_pinned a b hb ▸ h)

/-- Pre-fix `DivmodRounded` (`d = (b + 1) // 2`, before cdbbb74); shipped function: Props/C19Shipped.lean. D16: `DivmodRounded(1, 3) = (1, -2)` although `round(1/3) = 0`
(shipped: `(0, 1)`, `C19Shipped.divmodRounded_ne_prefix_witness`). -/
theorem divmodRounded_one_three : divmodRounded 1 3 = .ok (1, -2) := by decide +kernel

/-- Pre-fix `DivmodRounded` (`d = (b + 1) // 2`, before cdbbb74); shipped function: Props/C19Shipped.lean. -/
theorem divmodRounded_round_fails : ¬ DivmodRoundedRounds := by
  intro h
  have := h 1 3 1 (-2) divmodRounded_one_three 0
  revert this
  decide +kernel

/-- Pre-fix `DivmodRounded` (`d = (b + 1) // 2`, before cdbbb74); shipped function: Props/C19Shipped.lean. Even `b > 0`: `q = ⌊a/b + 1/2⌋` (round half up, not Python's
round-half-even).  Shipped function, every `b ≠ 0`: `C19Shipped.divmodRounded_half_up`. -/
theorem divmodRounded_half_up (a b q r : Int) (hb : 0 < b) (hb2 : b % 2 = 0)
    (h : divmodRounded a b = .ok (q, r)) : q = Int.fdiv (2 * a + b) (2 * b) :=
  divmodRoundedR_half_up a b q r (divmodRoundedR_eq_pinned a b (Or.inl hb2) ▸ h)

/-- Pre-fix `DivmodRounded` (`d = (b + 1) // 2`, before cdbbb74); shipped function: `C19Shipped.divmodRounded_pow2` (every power of
two, `1` included).  The callers' case (`CheckContinuedFraction` passes `x = 2^(bitlen(n)/2)`): for a power of
two `≥ 2` the result is exact: identity, symmetric range, nearest integer, ties up. For
`x = 2^0 = 1` (only when `n < 2`) the divisor is odd and `DivmodRounded(a, 1) = (a+1, -1)`. -/
theorem divmodRounded_pow2 (a : Int) (j : Nat) :
    ∃ q r, divmodRounded a (2 ^ (j + 1)) = .ok (q, r) ∧ q * 2 ^ (j + 1) + r = a ∧
      -(2 : Int) ^ (j + 1) ≤ 2 * r ∧ 2 * r < 2 ^ (j + 1) ∧ IsNearest a (2 ^ (j + 1)) q ∧
      q = Int.fdiv (2 * a + 2 ^ (j + 1)) (2 * 2 ^ (j + 1)) := by
  -- the divisor is even, where the pre-fix function is the shipped one
  rw [← divmodRoundedR_eq_pinned a _ (Or.inl (by rw [pow_succ]; exact Int.mul_emod_left _ _))]
  exact divmodRoundedR_pow2 a (j + 1)

/-- Pre-fix `DivmodRounded` (`d = (b + 1) // 2`, before cdbbb74); shipped function: Props/C19Shipped.lean. The shipped function returns `(a, 0)`
(`C19Shipped.divmodRounded_by_one`). -/
theorem divmodRounded_by_one (a : Int) : divmodRounded a 1 = .ok (a + 1, -1) := by
  rw [divmodRounded_ok a 1 (by decide)]
  have e : dmrOffset 1 = 1 := by decide
  rw [e]
  simp [Int.fmod_one]

/-- SHIPPED function (/repo HEAD since fix cdbbb74 = `fixes/D16-divmod-rounded.diff`,
`d = b // 2 if b > 0 else (b + 1) // 2`; full specification in Props/C19Shipped.lean):
the docstring holds for every divisor: identity, `|2r| ≤ |b|`, nearest integer. (The
one-line repair `d = b // 2` proposed in DESIGN D16 would break negative odd `b`.) -/
theorem divmodRounded_repaired (a b q r : Int) (h : divmodRoundedR a b = .ok (q, r)) :
    b ≠ 0 ∧ q * b + r = a ∧ 2 * |r| ≤ |b| ∧ IsNearest a b q :=
  ⟨(divmodRoundedR_spec a b q r h).1, (divmodRoundedR_spec a b q r h).2.1,
    (divmodRoundedR_spec a b q r h).2.2, divmodRoundedR_nearest a b q r h⟩

/-- the fix cdbbb74 is invisible to every caller (even or negative divisors are unchanged:
shipped = pre-fix there). -/
theorem divmodRounded_repair_conservative (a b : Int) (hb : b % 2 = 0 ∨ b < 0) :
    divmodRoundedR a b = divmodRounded a b :=
  divmodRoundedR_eq_pinned a b hb

/-! ## ntheory_util.Sieve -/

/-- `Sieve(n)` is exactly the increasing list of primes below `n`. -/
theorem sieve_primes (n : Nat) : sieve n = (List.range n).filter Nat.Prime :=
  sieve_eq n

/-- the table reads of the outer loop are in bounds (the model's `table[i]?` never misses). -/
theorem sieve_reads_in_bounds (n i : Nat) (h2 : 2 ≤ i) (hi : i ≤ isqrt n) : i < n :=
  sieve_index_in_bounds n i h2 hi

/-! ## Non-vacuity -/

example : inverse2exp 4091 12 = some 819 := by decide +kernel
example : inverseSqrt2exp 17 12 = some 345 := by decide +kernel
example : inverseSqrt2exp 3 2 = none ∧ inverseSqrt2exp 5 12 = none := by decide +kernel
example : sqrt2exp 17 6 = .ok [41, 23, 55, 9] := by decide +kernel
example : sqrt2exp 3 7 = .ok [] ∧ sqrt2exp 1 2 = .ok [1, 3] := by decide +kernel
example : continuedFraction 415 93 = [(4, 4, 1), (2, 9, 2), (6, 58, 13), (7, 415, 93)] := by
  decide +kernel
example : divmodRounded 7 4 = .ok (2, -1) ∧ divmodRounded (-7) (-4) = .ok (2, 1) := by
  decide +kernel
example : divmodRoundedR 1 3 = .ok (0, 1) ∧ divmodRoundedR 2 (-3) = .ok (-1, -1) := by
  decide +kernel
example : sieve 30 = [2, 3, 5, 7, 11, 13, 17, 19, 23, 29] := by decide +kernel

/-! # linalg_util: upper_triangular_solve, echelon_form steps, solve_right

Model: Model/LinAlg.lean (namespace `Paranoid.LA`, variants `pinned` / `repaired` of the
zero-pivot row move, D7), lemmas: Proofs/LinAlg.lean. -/

section LinAlg
open Paranoid.LA

/-! ## (a) `upper_triangular_solve` -/

/-- For ANY integer matrix `a` and vector `b` (no triangularity, no size bound): a returned
vector `x` has one well-formed rational per row, and for every row `i`
`a[i][i]·x[i] + Σ_{j>i} a[i][j]·x[j] = b[i]` — the upper-triangular part of `a` applied to `x`
is `b` — and the diagonal entry `a[i][i]` is not zero. -/
theorem uts_sound (a : List (List Int)) (b : List Int) (x : List PyQ)
    (h : upperTriangularSolve a b = .ok (some x)) :
    x.length = a.length ∧ b.length = a.length ∧ (∀ q ∈ x, q.den ≠ 0) ∧
    ∀ i, i < a.length →
      (∀ row bi, a[i]? = some row → b[i]? = some bi →
        dotQ (row.drop i) ((x.map PyQ.toRat).drop i) = (bi : ℚ)) ∧
      (∃ row v, a[i]? = some row ∧ row[i]? = some v ∧ v ≠ 0) :=
  uts_some a b x h

/-- … hence `a x = b` when `a` is upper triangular (entries left of the diagonal are 0). -/
theorem uts_sound_triangular (a : List (List Int)) (b : List Int) (x : List PyQ)
    (htri : ∀ (i : Nat) (row : List Int), a[i]? = some row → ZeroTo i row)
    (h : upperTriangularSolve a b = .ok (some x)) : Sat (x.map PyQ.toRat) a b := by
  obtain ⟨_, h2, _, h4⟩ := uts_some a b x h
  unfold Sat
  rw [List.forall₂_iff_get]
  refine ⟨h2.symm, ?_⟩
  intro i hi hi'
  unfold RowSat
  simp only [List.get_eq_getElem]
  rw [dotQ_drop_zero i _ _ (htri i _ (List.getElem?_eq_getElem hi))]
  exact (h4 i hi).1 _ _ (List.getElem?_eq_getElem hi) (List.getElem?_eq_getElem hi')

/-- `None` is returned only when some diagonal entry is zero … -/
theorem uts_none_diag (a : List (List Int)) (b : List Int)
    (h : upperTriangularSolve a b = .ok none) : ∃ i, i < a.length ∧ getRC a i i = .ok 0 := by
  obtain ⟨i, hi, row, h1, h2⟩ := uts_none a b h
  exact ⟨i, hi, by simp [getRC, h1, h2]⟩

/-- … and on a square matrix with `len(b) = len(a)` the function does not raise and returns
`None` IF AND ONLY IF some diagonal entry is zero. -/
theorem uts_none_iff (a : List (List Int)) (b : List Int) (hne : a ≠ [])
    (hsq : ∀ row ∈ a, row.length = a.length) (hb : b.length = a.length) :
    (∃ r, upperTriangularSolve a b = .ok r) ∧
    (upperTriangularSolve a b = .ok none ↔ ∃ i, i < a.length ∧ getRC a i i = .ok 0) := by
  obtain ⟨r, hr⟩ := uts_total a b hne hsq hb
  refine ⟨⟨r, hr⟩, uts_none_diag a b, ?_⟩
  rintro ⟨i, hi, hz⟩
  cases r with
  | none => exact hr
  | some x =>
    exfalso
    obtain ⟨row, v, h1, h2, h3⟩ := ((uts_some a b x hr).2.2.2 i hi).2
    simp [getRC, h1, h2] at hz
    exact h3 hz

/-- shape errors, exactly as the code: `len(a[0])` on the empty matrix, … -/
theorem uts_empty (b : List Int) : upperTriangularSolve [] b = .error .indexError := rfl

/-- … "Matrix must be square", … -/
theorem uts_not_square (row0 : List Int) (rest : List (List Int)) (b : List Int)
    (h : (row0 :: rest).length ≠ row0.length) :
    upperTriangularSolve (row0 :: rest) b = .error .valueError := by
  simp only [upperTriangularSolve, if_pos h]

/-- … "Number of rows of a must be equal to the length of b". -/
theorem uts_len_mismatch (row0 : List Int) (rest : List (List Int)) (b : List Int)
    (h1 : (row0 :: rest).length = row0.length) (h2 : (row0 :: rest).length ≠ b.length) :
    upperTriangularSolve (row0 :: rest) b = .error .valueError := by
  simp only [upperTriangularSolve, if_neg (not_not.mpr h1), if_pos h2]

example : upperTriangularSolve [[8,7,4,1],[0,20,40,20],[0,0,110,150],[0,0,0,-450]] [45,60,260,-450]
    = .ok (some [⟨5,1⟩, ⟨0,1⟩, ⟨1,1⟩, ⟨1,1⟩]) := by decide +kernel
example : upperTriangularSolve [[2,1],[0,3]] [1,1] = .ok (some [⟨1,3⟩, ⟨1,3⟩]) := by decide +kernel
example : upperTriangularSolve [[2,1],[5,0]] [1,1] = .ok none := by decide +kernel

/-! ## (b) every step of `echelon_form` preserves the solution set -/

/-- One elimination (`b[j] = a[i][i]*b[j] - a[j][i]*b[i]`, `a[j][k] = a[i][i]*a[j][k] -
a[j][i]*a[i][k]`, `a[j][i] = 0`) is the row operation `row_j ← p·row_j − q·row_i` on the
augmented matrix, `p = a[i][i]`, `q = a[j][i]` (for rows that vanish left of column `i`, as
they do at step `i`): for every `x` with at most `ncols` entries
`row_j'·x − b_j' = p·(row_j·x − b_j) − q·(row_i·x − b_i)`; nothing else changes. -/
theorem elim_step_is_row_operation (x : List ℚ) (ncols i j : Nat) (st st' : EchSt) (az : Bool)
    (bl : List Int) (hb : st.b = some bl) (hx : x.length ≤ ncols) (hi : i + 1 ≤ ncols)
    (hzi : ∀ row, st.a[i]? = some row → ZeroTo i row)
    (hzj : ∀ row, st.a[j]? = some row → ZeroTo i row)
    (h : elimRow ncols i j st = .ok (st', az)) :
    ∃ (ri rj rj' : List Int) (p q bi bj : Int),
      st.a[i]? = some ri ∧ st.a[j]? = some rj ∧ ri[i]? = some p ∧ rj[i]? = some q ∧
      bl[i]? = some bi ∧ bl[j]? = some bj ∧
      st'.a = st.a.set j rj' ∧ st'.b = some (bl.set j (p * bj - q * bi)) ∧
      dotQ rj' x - ((p * bj - q * bi : Int) : ℚ) =
        (p : ℚ) * (dotQ rj x - bj) - (q : ℚ) * (dotQ ri x - bi) := by
  obtain ⟨ri, rj, rj', p, q, bi, bj, hri, hrj, hp, hq, hbi, hbj, rfl, hdot, -, -⟩ :=
    elimRow_spec hb hx hi hzi hzj h
  exact ⟨ri, rj, rj', p, q, bi, bj, hri, hrj, hp, hq, hbi, hbj, rfl, rfl, by
    rw [hdot]; push_cast; ring⟩

/-- With a non-zero pivot the elimination of a row keeps the solution set
`{x | a x = b}` unchanged. -/
theorem elim_step_preserves_solutions (x : List ℚ) (ncols i j : Nat) (st st' : EchSt) (az : Bool)
    (bl : List Int) (hb : st.b = some bl) (hx : x.length ≤ ncols) (hi : i + 1 ≤ ncols)
    (hij : i ≠ j)
    (hzi : ∀ row, st.a[i]? = some row → ZeroTo i row)
    (hzj : ∀ row, st.a[j]? = some row → ZeroTo i row)
    (hpiv : getRC st.a i i ≠ .ok 0)
    (h : elimRow ncols i j st = .ok (st', az)) :
    ∃ bl', st'.b = some bl' ∧ (Sat x st'.a bl' ↔ Sat x st.a bl) := by
  obtain ⟨ri, rj, rj', p, q, bi, bj, hri, hrj, hp, hq, hbi, hbj, ha, hb', hid⟩ :=
    elim_step_is_row_operation x ncols i j st st' az bl hb hx hi hzi hzj h
  have hpq : (p : ℚ) ≠ 0 := Int.cast_ne_zero.2 fun h0 => hpiv (by simp [getRC, hri, hp, h0])
  refine ⟨_, hb', ?_⟩
  rw [ha]
  -- given the equation of row `i` (which both systems contain, unchanged), the new equation of
  -- row `j` is `p ≠ 0` times the old one
  have key : RowSat x ri bi → (RowSat x rj' (p * bj - q * bi) ↔ RowSat x rj bj) := by
    intro hsi
    unfold RowSat at hsi ⊢
    rw [hsi, sub_self, mul_zero, sub_zero] at hid
    constructor
    · intro h1
      rw [h1, sub_self] at hid
      exact sub_eq_zero.1 ((mul_eq_zero.1 hid.symm).resolve_left hpq)
    · intro h1
      rw [h1, sub_self, mul_zero] at hid
      exact sub_eq_zero.1 hid
  constructor
  · intro hs
    have hsi : RowSat x ri bi := forall₂_rel_of_getElem? hs i ri bi
      (by rw [List.getElem?_set_ne hij.symm]; exact hri)
      (by rw [List.getElem?_set_ne hij.symm]; exact hbi)
    exact (sat_set_iff hrj hbj (key hsi)).mp hs
  · intro hs
    exact (sat_set_iff hrj hbj
      (key (forall₂_rel_of_getElem? hs i ri bi hri hbi))).mpr hs

/-- Moving a row (`b.insert(k, b.pop(i)); a.insert(k, a.pop(i))`, any `i`, any Python index
`k`) permutes the equations: same solution set. -/
theorem row_move_preserves_solutions (x : List ℚ) (st st' : EchSt) (i : Nat) (k : Int)
    (bl : List Int) (hb : st.b = some bl) (hlen : st.a.length = bl.length)
    (h : moveRows st i k = .ok st') :
    ∃ bl', st'.b = some bl' ∧ (Sat x st'.a bl' ↔ Sat x st.a bl) := by
  obtain ⟨h3, _, _, _, h5⟩ := moveRows_ok h
  obtain ⟨bl', h1, h2⟩ := h5 bl hb
  exact ⟨bl', h1, forall₂_moveRow_iff hlen i k h3 h2⟩

/-- The `//=` pass on one row keeps the solution set PROVIDED every division of that row is
exact (`st'.exact = true`, the ghost flag of the model; a zero divisor raises).
Exactness itself (Bareiss/Sylvester) is not proved. -/
theorem division_step_preserves_solutions (x : List ℚ) (ncols i j : Nat) (st st' : EchSt)
    (bl : List Int) (hb : st.b = some bl) (hx : x.length ≤ ncols)
    (hzj : ∀ row, st.a[j]? = some row → ZeroTo (i + 1) row)
    (h : divRow ncols i j st = .ok st') (hex : st'.exact = true) :
    ∃ bl', st'.b = some bl' ∧ (Sat x st'.a bl' ↔ Sat x st.a bl) := by
  obtain ⟨row, row', v, d, hrow, hv, rfl, -, hiff⟩ :=
    divRow_spec hb hx hzj h hex
  exact ⟨_, rfl, sat_set_iff hrow hv hiff⟩

/-! ## (c) `solve_right` (repaired variant) is sound -/

/-- the ghost flag only records exactness: it does not influence what `solve_right` returns. -/
theorem solveRight_eq_fst (v : LaVariant) (a : List (List Int)) (b : List Int) :
    solveRight v a b = (solveRightX v a b).map Prod.fst := by
  unfold solveRight
  cases solveRightX v a b with
  | error e => rfl
  | ok r => cases r; rfl

/-- **Soundness of `solve_right` with fixes/D7-solve-right.diff**, for every matrix shape and
size: if the rational vector `x0` (one entry per column) solves the input system `a x = b`,
`solve_right` returns a vector `xs`, and every `//=` of the elimination was exact, then `xs` IS
`x0`.  No assumption on the rank, on rectangularity or on the pivots: zero pivots, retired
(linearly dependent) rows and the "fewer live rows than columns" tail are all covered. -/
theorem solveRight_sound (row0 : List Int) (rest : List (List Int)) (b : List Int) (x0 : List ℚ)
    (hx0 : x0.length = row0.length) (hsat : Sat x0 (row0 :: rest) b) (xs : List PyQ)
    (h : solveRightX .repaired (row0 :: rest) b = .ok (some xs, true)) :
    xs.map PyQ.toRat = x0 := by
  unfold solveRightX at h
  dsimp only at h
  split at h
  · cases h
  split at h
  · cases h
  rename_i hmn
  split at h
  · cases h
  rename_i st hrun
  split at h
  · cases h
  rename_i rank hrank
  split at h
  · cases h
  rename_i hrk
  rw [not_not] at hrk
  split at h
  · cases h
  rename_i r huts
  simp only [Except.ok.injEq, Prod.mk.injEq] at h
  obtain ⟨rfl, hex⟩ := h
  have inv := echelonRun_inv (Nat.le_of_eq hx0) hsat (Nat.le_of_not_lt hmn) hrun
    hex
  obtain ⟨bl, hb, _⟩ := inv.elim (·.sat) (·.sat)
  have hbl : bAfterL b st = bl := by simp only [bAfterL, hb]
  rw [hbl, hrk] at huts
  exact final_unique hx0 hb (Nat.le_of_not_lt hmn) inv huts

/-- … in particular the returned vector satisfies every equation of a consistent system. -/
theorem solveRight_solves (row0 : List Int) (rest : List (List Int)) (b : List Int)
    (hcons : ∃ x0 : List ℚ, x0.length = row0.length ∧ Sat x0 (row0 :: rest) b) (xs : List PyQ)
    (h : solveRightX .repaired (row0 :: rest) b = .ok (some xs, true)) :
    Sat (xs.map PyQ.toRat) (row0 :: rest) b := by
  obtain ⟨x0, hx0, hsat⟩ := hcons
  rw [solveRight_sound row0 rest b x0 hx0 hsat xs h]
  exact hsat

/-- shape errors of `solve_right`, as the code. -/
theorem solveRight_empty (v : LaVariant) (b : List Int) :
    solveRight v [] b = .error .indexError := rfl

theorem solveRight_len_mismatch (v : LaVariant) (row0 : List Int) (rest : List (List Int))
    (b : List Int) (h : (row0 :: rest).length ≠ b.length) :
    solveRight v (row0 :: rest) b = .error .valueError := by
  simp only [solveRight, solveRightX, if_pos h]

theorem solveRight_too_few_rows (v : LaVariant) (row0 : List Int) (rest : List (List Int))
    (b : List Int) (h1 : (row0 :: rest).length = b.length)
    (h2 : (row0 :: rest).length < row0.length) :
    solveRight v (row0 :: rest) b = .error .valueError := by
  simp only [solveRight, solveRightX, if_neg (not_not.mpr h1), if_pos h2]

/-- hypotheses of `solveRight_sound` are satisfiable (upstream test: 5 rows, a dependent row). -/
example : solveRightX .repaired
    [[8,7,4,1],[4,6,7,3],[16,14,8,2],[6,3,4,6],[4,5,8,2]] [45,30,90,40,30]
    = .ok (some [⟨5,1⟩, ⟨0,1⟩, ⟨1,1⟩, ⟨1,1⟩], true) := by decide +kernel

example : Sat [5, 0, 1, 1] [[8,7,4,1],[4,6,7,3],[16,14,8,2],[6,3,4,6],[4,5,8,2]] [45,30,90,40,30] := by
  unfold Sat
  repeat' constructor
  all_goals (unfold RowSat; norm_num [dotQ])

/-! ## D7: the pre-fix zero-pivot move loses a live row

`solveRight .pinned` is `solve_right` before fix 275bdf4; /repo HEAD ships the
`.repaired` variant (`a.insert(nrows - 1, a.pop(i))`), for which `solveRight_sound` /
`solveRight_solves` above and `solveRight_repaired_d7` below are stated.  The two `pinned`
statements get no correspondence run. -/

/-- Pre-fix `echelon_form` (`a.insert(nrows, a.pop(i))`, before 275bdf4). The smallest failing system found (5×4, entries 0/1): the
pre-fix code answered `(0, 0, 1, 0)` … -/
theorem solveRight_pinned_d7 :
    solveRight .pinned [[0,0,0,0],[0,0,1,0],[1,0,0,0],[0,0,1,1],[0,1,0,0]] [0,1,0,0,0]
      = .ok (some [⟨0,1⟩, ⟨0,1⟩, ⟨1,1⟩, ⟨0,1⟩]) := by decide +kernel

/-- Pre-fix `echelon_form` (`a.insert(nrows, a.pop(i))`, before 275bdf4). … which violates the 4th equation `x₂ + x₃ = 0` of this consistent
system (solution `(0, 0, 1, -1)`): the property FAILED on the pre-fix tree. -/
theorem solveRight_pinned_d7_wrong :
    Sat [0, 0, 1, -1] [[0,0,0,0],[0,0,1,0],[1,0,0,0],[0,0,1,1],[0,1,0,0]] [0,1,0,0,0] ∧
    ¬ Sat (([⟨0,1⟩, ⟨0,1⟩, ⟨1,1⟩, ⟨0,1⟩] : List PyQ).map PyQ.toRat)
      [[0,0,0,0],[0,0,1,0],[1,0,0,0],[0,0,1,1],[0,1,0,0]] [0,1,0,0,0] := by
  constructor
  · unfold Sat
    repeat' constructor
    all_goals (unfold RowSat; norm_num [dotQ])
  · intro h
    have := forall₂_rel_of_getElem? h 3 [0,0,1,1] 0 rfl rfl
    unfold RowSat at this
    norm_num [dotQ, PyQ.toRat] at this

/-- the SHIPPED code (fix 275bdf4) returns the solution, with every division exact. -/
theorem solveRight_repaired_d7 :
    solveRightX .repaired [[0,0,0,0],[0,0,1,0],[1,0,0,0],[0,0,1,1],[0,1,0,0]] [0,1,0,0,0]
      = .ok (some [⟨0,1⟩, ⟨0,1⟩, ⟨1,1⟩, ⟨-1,1⟩], true) := by decide +kernel


end LinAlg

/-! # lattice_suite.PseudoAverage / Bias, util.UniformSumCdf / CombinedPValue, small_roots guards

Model: Model/Lattice.lean (namespace `Paranoid.Lat`), lemmas: Proofs/Lattice.lean. -/

section Misc
open Paranoid.Lat Finset


/-! ## PseudoAverage -/

/-- What `diff` in iteration `j` is.  With `b` = the (sorted) list whose first `j` elements
are incremented by `n`:  `n · diff_j = (m·Σb² − (Σb)²) − (m·Σa² − (Σa)²)`, for every list,
every `j ≤ m` and every integer `n`.  Since the sample variance is
`(m·Σx² − (Σx)²) / (m(m−1))`, this says `diff = (Var b − Var a)·m(m−1)/n`; the comment in
the code (`(Variance(b) - Variance(a)) * (m - 1) / n`) is off by the constant factor `m`,
which does not change the minimiser. -/
theorem pseudoAverage_diff (s : List Int) (n : Int) (j : Nat) (hj : j ≤ s.length) :
    n * paDiffAt s n j =
      ((s.length : Int) * sumSq (paShift s n j) - (paShift s n j).sum ^ 2)
        - ((s.length : Int) * sumSq s - s.sum ^ 2) :=
  paDiff_identity s n j hj

/-- `diff_0 = 0` is the initial `best_diff`. -/
theorem pseudoAverage_diff_zero (s : List Int) (n : Int) : paDiffAt s n 0 = 0 :=
  paDiffAt_zero s n

/-- `best_j` is THE FIRST minimiser of `diff_j` over `j = 0..m` (strict `<` in the code). -/
theorem pseudoAverage_best (s : List Int) (n : Int) :
    paBestJ s n ≤ s.length ∧
    (∀ j, j ≤ s.length → paDiffAt s n (paBestJ s n) ≤ paDiffAt s n j) ∧
    (∀ j, j < paBestJ s n → paDiffAt s n (paBestJ s n) < paDiffAt s n j) := by
  obtain ⟨-, h2, h3, h4⟩ := paBestJ_firstMin s n
  exact ⟨h2, h3, h4⟩

/-- for `n > 0` the chosen `b` has minimal `m·Σb² − (Σb)²` (i.e. minimal variance) among the
`m + 1` prefix shifts. -/
theorem pseudoAverage_min_variance (s : List Int) (n : Int) (hn : 0 < n) (j : Nat)
    (hj : j ≤ s.length) :
    (s.length : Int) * sumSq (paShift s n (paBestJ s n)) - (paShift s n (paBestJ s n)).sum ^ 2
      ≤ (s.length : Int) * sumSq (paShift s n j) - (paShift s n j).sum ^ 2 := by
  obtain ⟨hb, hmin, -⟩ := pseudoAverage_best s n
  have h1 := paDiff_identity s n j hj
  have h2 := paDiff_identity s n _ hb
  have := Int.mul_le_mul_of_nonneg_left (hmin j hj) (Int.le_of_lt hn)
  linarith

/-- The docstring's definition ("from each pair (a[i], a[i] + n) an element b[i] is selected,
such that the variance of the elements b[i] is minimal"): for a sorted list and `n > 0` the
`b` chosen by the loop has minimal variance among ALL `2^m` selections `c`, not only among
the `m + 1` prefix shifts the loop looks at.  (`varNum b = m·Σb² − (Σb)² = m(m−1)·Var b`.) -/
theorem pseudoAverage_global_min (s : List Int) (n : Int) (hn : 0 < n)
    (hs : s.Pairwise (· ≤ ·)) (c : List Bool) (hc : c.length = s.length) :
    varNum (paShift s n (paBestJ s n)) ≤ varNum (maskShift n s c) := by
  have hj : c.count true ≤ s.length := by rw [← hc]; exact List.count_le_length
  have h1 := pseudoAverage_min_variance s n hn _ hj
  have h2 := varNum_mask_ge_prefix s n (Int.le_of_lt hn) c hc hs
  unfold varNum at h2 ⊢
  rw [paShift_length] at h2 ⊢
  exact Int.le_trans h1 h2

/-- The result of `PseudoAverage(a, n)`: it raises exactly for the empty list or `n = 0`;
otherwise, with `s = sorted(a)` (a sorted permutation of `a`) and `b` the best prefix shift,
it is `⌊(Σb + ⌊m/2⌋) / m⌋ mod n` (rounded mean of `b`, Python floor semantics). -/
theorem pseudoAverage_value (a : List Int) (n : Int) :
    (a = [] ∨ n = 0 → pseudoAverage a n = .error .zeroDivision) ∧
    (a ≠ [] → n ≠ 0 →
      (sortInts a).Perm a ∧ (sortInts a).Pairwise (· ≤ ·) ∧
      pseudoAverage a n = .ok (Int.fmod (Int.fdiv
        ((paShift (sortInts a) n (paBestJ (sortInts a) n)).sum + ((a.length / 2 : Nat) : Int))
        (a.length : Int)) n)) := by
  constructor
  · rintro (rfl | rfl)
    · simp [pseudoAverage]
    · unfold pseudoAverage; split <;> simp
  · intro ha hn
    refine ⟨sortInts_perm a, sortInts_sorted a, ?_⟩
    have hl : a.length ≠ 0 := by simpa using ha
    unfold pseudoAverage
    rw [if_neg hl, if_neg hn]
    unfold paFinal
    rw [paShift_sum _ _ _ (pseudoAverage_best _ n).1, sortInts_length]
    congr 4
    ring

/-- for a positive modulus the result is a residue in `[0, n)`. -/
theorem pseudoAverage_range (a : List Int) (n v : Int) (hn : 0 < n)
    (h : pseudoAverage a n = .ok v) : 0 ≤ v ∧ v < n := by
  unfold pseudoAverage at h
  split at h
  · simp at h
  · split at h
    · simp at h
    · simp only [Except.ok.injEq] at h
      subst h
      exact paFinal_range _ n hn

/-! ## Bias -/

/-- every summand `min(v, n - v)`, `v = (a*s+b) % n`, is the distance of `a*s+b` to the
nearest multiple of `n`, and lies in `[0, n/2]`. -/
theorem bias_term_distance (n s a b : Int) (hn : 0 < n) :
    0 ≤ biasTerm n s a b ∧ 2 * biasTerm n s a b ≤ n ∧
    (∃ k : Int, |a * s + b - k * n| = biasTerm n s a b) ∧
    (∀ k : Int, biasTerm n s a b ≤ |a * s + b - k * n|) :=
  biasTerm_spec n s a b hn

/-- `Bias` raises exactly for `n = 0`; otherwise `t` is the double sum of the summands and
the first argument of `UniformSumCdf` is `len(sample) * len(transforms)`. -/
theorem bias_value (sample : List Int) (n : Int) (tr : List (Int × Int)) :
    (n = 0 → bias sample n tr = .error .zeroDivision) ∧
    (n ≠ 0 → bias sample n tr =
      .ok ((sample.map (fun s => (tr.map (fun ab => biasTerm n s ab.1 ab.2)).sum)).sum,
           sample.length * tr.length)) := by
  constructor
  · intro h; simp [bias, h]
  · intro h; simp [bias, h, biasT, biasInner]

/-- `0 ≤ normalized = 2t/n ≤ len(sample)·len(transforms)` for `n > 0`: the argument handed
to `UniformSumCdf(len, ·)` is inside the support `[0, len]` of the Irwin–Hall distribution. -/
theorem bias_normalized_range (sample : List Int) (n : Int) (hn : 0 < n)
    (tr : List (Int × Int)) :
    0 ≤ biasNormalized sample n tr ∧
      biasNormalized sample n tr ≤ ((sample.length * tr.length : Nat) : ℚ) := by
  obtain ⟨h0, h1⟩ := biasT_bounds sample n tr 0 n fun s a b => by
    obtain ⟨t0, t1, -, -⟩ := biasTerm_spec n s a b hn
    exact ⟨Int.mul_nonneg (by decide) t0, t1⟩
  rw [Int.mul_zero] at h0
  unfold biasNormalized
  have hn' : (0 : Rat) < (n : Rat) := Int.cast_pos.2 hn
  exact ⟨div_nonneg (Int.cast_nonneg h0) (le_of_lt hn'), by
    rw [div_le_iff₀ hn']; exact_mod_cast h1⟩

/-! ## UniformSumCdf -/

/-- the running `binom` after `k` iterations of `binom = binom * (n - k) // (k + 1)` is
`C(n, k)` — for ALL `n` and `k` (every `//` is exact). -/
theorem uniformSum_binom (n k : Nat) : usBinomAt n k = n.choose k := by
  induction k with
  | zero => simp [usBinomAt]
  | succ k ih => rw [usBinomAt, ih, usBinomNext_choose]

theorem uniformSum_binom_step (n k : Nat) :
    usBinomNext n k (n.choose k) = n.choose (k + 1) := usBinomNext_choose n k

/-- the alternating sum computed by the loop is the Irwin–Hall formula
`(1/n!) Σ_{k=0}^{⌊x⌋} (-1)^k C(n,k) (x-k)^n`, for all `n` and all rational `x`. -/
theorem uniformSum_sum (n : Nat) (x : ℚ) : usSum n x = irwinHall n x := by
  unfold usSum irwinHall
  have h := usLoop_eq n (fact n) x (x.floor + 1).toNat 0 0
  simp only [pow_zero, Nat.choose_zero_right, zero_add] at h
  rw [h, fact_eq_factorial, Finset.mul_sum]
  have hf : (x.floor + 1).toNat = (⌊x⌋ + 1).toNat := rfl
  rw [hf]
  apply Finset.sum_congr rfl
  intro k _
  ring

/-- branch 1: `x ≤ 0 ↦ 0`. -/
theorem uniformSum_nonpos (n : Nat) (x : ℚ) (h : x ≤ 0) : uniformSumCdf n x = .exact 0 := by
  simp [uniformSumCdf, h]

/-- branch 4 (`0 < x ≤ n/2`, `n ≤ 36`): the Irwin–Hall formula. -/
theorem uniformSum_low (n : Nat) (x : ℚ) (h0 : 0 < x) (h1 : 2 * x ≤ n) (hn : n ≤ 36) :
    uniformSumCdf n x = .exact (irwinHall n x) := by
  unfold uniformSumCdf usInner
  rw [if_neg (not_le.mpr h0), if_neg (not_lt.mpr h1), if_neg (not_le.mpr h0),
    if_neg (by omega), uniformSum_sum]

/-- branch 2 then 4 (`n/2 < x < n`, `n ≤ 36`): `1 − F(n − x)` with the formula. -/
theorem uniformSum_high (n : Nat) (x : ℚ) (h1 : (n : ℚ) < 2 * x) (h2 : x < n) (hn : n ≤ 36) :
    uniformSumCdf n x = .exact (1 - irwinHall n ((n : ℚ) - x)) := by
  have h0 : 0 < x := by
    have : (0 : ℚ) ≤ (n : ℚ) := Nat.cast_nonneg n
    linarith
  unfold uniformSumCdf usInner
  rw [if_neg (not_le.mpr h0), if_pos h1, if_neg (by linarith), if_neg (by omega),
    uniformSum_sum]
  rfl

/-- branch 2 then 1 (`x ≥ n`, `x > 0`): `1 − 0`. -/
theorem uniformSum_ge (n : Nat) (x : ℚ) (h0 : 0 < x) (h : (n : ℚ) ≤ x) :
    uniformSumCdf n x = .exact 1 := by
  unfold uniformSumCdf usInner
  rw [if_neg (not_le.mpr h0), if_pos (by linarith), if_pos (by linarith)]
  simp [usReflect]

/-- `n > 36`: the normal approximation `NormalCdf(x', n/2, n/12)` (float tail) is requested
for `x' = x` resp. the reflected `x' = n − x`. -/
theorem uniformSum_normal_low (n : Nat) (x : ℚ) (h0 : 0 < x) (h1 : 2 * x ≤ n) (hn : 36 < n) :
    uniformSumCdf n x = .normal false x := by
  unfold uniformSumCdf usInner
  rw [if_neg (not_le.mpr h0), if_neg (not_lt.mpr h1), if_neg (not_le.mpr h0), if_pos hn]

theorem uniformSum_normal_high (n : Nat) (x : ℚ) (h1 : (n : ℚ) < 2 * x) (h2 : x < n)
    (hn : 36 < n) : uniformSumCdf n x = .normal true ((n : ℚ) - x) := by
  have h0 : 0 < x := by
    have : (0 : ℚ) ≤ (n : ℚ) := Nat.cast_nonneg n
    linarith
  unfold uniformSumCdf usInner
  rw [if_neg (not_le.mpr h0), if_pos h1, if_neg (by linarith), if_pos hn]
  rfl

/-- the recursion `UniformSumCdf(n, n - x)` never reflects a second time (exact `n − x`). -/
theorem uniformSum_reflect_once (n : Nat) (x : ℚ) (h : 2 * x > (n : ℚ)) :
    ¬ (2 * ((n : ℚ) - x) > (n : ℚ)) := usReflect_once n x h

/-! ## CombinedPValue -/

theorem combined_empty : combinedPValue [] = .error .valueError := rfl

theorem combined_single (p : ℚ) : combinedPValue [p] = .ok (.value p) := rfl

/-- `len ≥ 2`: returns `0` iff `min == 0`, i.e. some p-value is 0 and none is negative. -/
theorem combined_zero (p q : ℚ) (rest : List ℚ) :
    combinedPValue (p :: q :: rest) = .ok .zero ↔
      (0 : ℚ) ∈ p :: q :: rest ∧ ∀ r ∈ p :: q :: rest, 0 ≤ r := by
  rw [← ratMin_eq_zero_iff]
  show combinedMany p (q :: rest) = _ ↔ _
  unfold combinedMany
  split
  · simp [*]
  · rename_i h
    simp only [h, iff_false]
    split <;> simp

/-- `len ≥ 2`: the Fisher branch `Igamc(len, Σ −log p)` is taken iff every p-value is
positive. -/
theorem combined_fisher (p q : ℚ) (rest : List ℚ) (k : Nat) :
    combinedPValue (p :: q :: rest) = .ok (.fisher k) ↔
      k = (p :: q :: rest).length ∧ ∀ r ∈ p :: q :: rest, 0 < r := by
  have hz := ratMin_eq_zero_iff p (q :: rest)
  have hd := logDomainError_iff (p :: q :: rest)
  show combinedMany p (q :: rest) = _ ↔ _
  unfold combinedMany
  split
  · rename_i h0
    simp only [Except.ok.injEq, reduceCtorEq, false_iff, not_and, not_forall]
    intro _
    obtain ⟨hm, _⟩ := hz.mp h0
    exact ⟨0, hm, lt_irrefl _⟩
  · split
    · rename_i he
      simp only [reduceCtorEq, false_iff, not_and, not_forall]
      intro _
      obtain ⟨r, hr, hr0⟩ := hd.mp he
      exact ⟨r, hr, not_lt.mpr hr0⟩
    · rename_i h0 he
      simp only [Except.ok.injEq, CombOut.fisher.injEq, List.length_cons]
      constructor
      · intro hk
        refine ⟨by omega, ?_⟩
        intro r hr
        by_contra hneg
        exact he (hd.mpr ⟨r, hr, not_lt.mp hneg⟩)
      · rintro ⟨hk, -⟩; omega

/-- `len ≥ 2`: `ValueError` (math domain error of `math.log`) iff some p-value is negative
(a zero next to a negative entry does not trigger the `min == 0` shortcut). -/
theorem combined_error (p q : ℚ) (rest : List ℚ) :
    combinedPValue (p :: q :: rest) = .error .valueError ↔ ∃ r ∈ p :: q :: rest, r < 0 := by
  have hz := ratMin_eq_zero_iff p (q :: rest)
  have hd := logDomainError_iff (p :: q :: rest)
  show combinedMany p (q :: rest) = _ ↔ _
  unfold combinedMany
  split
  · rename_i h0
    simp only [reduceCtorEq, false_iff, not_exists, not_and, not_lt]
    exact (hz.mp h0).2
  · rename_i h0
    split
    · rename_i he
      simp only [true_iff]
      obtain ⟨r, hr, hr0⟩ := hd.mp he
      by_contra hneg
      simp only [not_exists, not_and, not_lt] at hneg
      have : r = 0 := le_antisymm hr0 (hneg r hr)
      exact h0 (hz.mpr ⟨this ▸ hr, hneg⟩)
    · rename_i he
      simp only [reduceCtorEq, false_iff, not_exists, not_and, not_lt]
      intro r hr
      by_contra hneg
      exact he (hd.mpr ⟨r, hr, le_of_lt (not_le.mp hneg)⟩)

/-- the only exception `CombinedPValue` raises is `ValueError`. -/
theorem combined_only_valueError (ps : List ℚ) (e : PyErr)
    (h : combinedPValue ps = .error e) : e = .valueError := by
  match ps with
  | [] => simpa [combinedPValue] using h.symm
  | [p] => simp [combinedPValue] at h
  | p :: q :: rest =>
    change combinedMany p (q :: rest) = _ at h
    unfold combinedMany at h
    split at h
    · simp at h
    · split at h
      · simpa using h.symm
      · simp at h

/-! ## small_roots guards -/

/-- what sympy's `f(r)` is for `Poly(..., modulus=n)`: the representative of the integer
value in the symmetric residue system `(-n/2, n/2]`. -/
theorem symMod_spec (a n : Int) (hn : 0 < n) :
    n ∣ a - symMod a n ∧ -n < 2 * symMod a n ∧ 2 * symMod a n ≤ n :=
  ⟨symMod_congr a n, symMod_range a n hn⟩

/-- Pre-fix guard (`y != 0 and n % y == 0`, before 02ff5e0); shipped guard: `uni_tail_repaired_true_root`, `guard_multi_repaired_true_root` below and Props/C19Shipped.lean. What the pre-fix guard of `univariate_modp` guaranteed, for every
candidate `rx`: the returned value is the candidate, and `y ≡ f(rx) (mod n)` is a non-zero
divisor of `n`; so `gcd(f(rx), n) = |y|`.  Nothing forced `|y| ≠ 1` (D9). -/
theorem guard_uni_sound (coeffs : List Int) (n rx r : Int) (h : guardUni coeffs n rx = some r) :
    r = rx ∧ ∃ y : Int, y ≠ 0 ∧ y ∣ n ∧ n ∣ polyEval coeffs r - y ∧
      Int.gcd (polyEval coeffs r) n = y.natAbs := by
  obtain ⟨hg, hr⟩ := Option.ite_none_right_eq_some.1 h
  cases hr
  obtain ⟨hy0, hyn⟩ := (guardAccept_iff _ _).mp hg
  exact ⟨rfl, _, hy0, hyn, symMod_congr _ _, gcd_of_congr_dvd _ _ _ (symMod_congr _ _) hyn⟩

/-- Pre-fix guard (`y != 0 and n % y == 0`, before 02ff5e0); shipped guard: `uni_tail_repaired_true_root`, `guard_multi_repaired_true_root` below and Props/C19Shipped.lean. The whole pre-fix candidate loop of `univariate_modp`, for EVERY
candidate list (every LLL / factorisation answer): a returned value is one of the candidates and passed the guard;
`None` means every candidate was rejected. -/
theorem uni_tail_sound (coeffs : List Int) (n : Int) (cands : List Int) :
    (∀ r, uniTail coeffs n cands = some r → r ∈ cands ∧ guardUni coeffs n r = some r) ∧
    (uniTail coeffs n cands = none ↔ ∀ c ∈ cands, guardUni coeffs n c = none) := by
  unfold uniTail
  constructor
  · intro r h
    obtain ⟨c, hc, hg⟩ := List.exists_of_findSome?_eq_some h
    have := (guard_uni_sound coeffs n c r hg).1
    subst this
    exact ⟨hc, hg⟩
  · exact List.findSome?_eq_none_iff

/-- shared core: a residue `y ≡ v (mod n)` in the symmetric system with `|y| > 1`, `y ∣ n`
gives a proper divisor `d = |y|` of `n` with `d ∣ v`. -/
theorem proper_divisor_of_guard (v n : Int) (hn : 0 < n) (h1 : 1 < (symMod v n).natAbs)
    (hd : symMod v n ∣ n) :
    ∃ d : Nat, 1 < d ∧ (d : Int) < n ∧ (d : Int) ∣ n ∧ (d : Int) ∣ v := by
  have hgcd := gcd_of_congr_dvd _ _ _ (symMod_congr v n) hd
  obtain ⟨hlo, hhi⟩ := symMod_range v n hn
  refine ⟨(symMod v n).natAbs, h1, by omega, Int.natAbs_dvd.mpr hd, ?_⟩
  rw [← hgcd]; exact Int.gcd_dvd_left _ _

/-- Pre-fix guard (`y != 0 and n % y == 0`, before 02ff5e0); shipped guard: `uni_tail_repaired_true_root`, `guard_multi_repaired_true_root` below and Props/C19Shipped.lean. With the extra hypothesis the pre-fix code did NOT test (`|y| ≠ 1`;
the shipped guard tests it), the accepted candidate is
a true root modulo a proper divisor of `n`: `d = gcd(f(r), n)` satisfies `1 < d < n`,
`d ∣ n`, `f(r) ≡ 0 (mod d)`.  (`d < n` comes for free from the symmetric residue system.) -/
theorem guard_uni_true_root (coeffs : List Int) (n rx r : Int) (hn : 0 < n)
    (h : guardUni coeffs n rx = some r)
    (hy : (symMod (polyEval coeffs rx) n).natAbs ≠ 1) :
    ∃ d : Nat, 1 < d ∧ (d : Int) < n ∧ (d : Int) ∣ n ∧ (d : Int) ∣ polyEval coeffs r := by
  obtain ⟨hg, hr⟩ := Option.ite_none_right_eq_some.1 h
  cases hr
  obtain ⟨hy0, hyn⟩ := (guardAccept_iff _ _).mp hg
  exact proper_divisor_of_guard _ n hn (by have := Int.natAbs_pos.2 hy0; omega) hyn

/-- Pre-fix guard (`y != 0 and n % y == 0`, before 02ff5e0); shipped guard: `uni_tail_repaired_true_root`, `guard_multi_repaired_true_root` below and Props/C19Shipped.lean. D9: the pre-fix guard accepted EVERY candidate with `f(r) ≡ ±1 (mod n)`
(the shipped guard rejects them: `C19Shipped.guard_uni_rejects_unit`). -/
theorem guard_uni_accepts_unit (coeffs : List Int) (n rx : Int)
    (h : symMod (polyEval coeffs rx) n = 1 ∨ symMod (polyEval coeffs rx) n = -1) :
    guardUni coeffs n rx = some rx := by
  unfold guardUni
  rw [if_pos]
  rw [guardAccept_iff]
  rcases h with h | h <;> rw [h]
  · exact ⟨by decide, one_dvd n⟩
  · exact ⟨by decide, ⟨-n, by ring⟩⟩

/-- Pre-fix guard (`y != 0 and n % y == 0`, before 02ff5e0); shipped guard: `uni_tail_repaired_true_root`, `guard_multi_repaired_true_root` below and Props/C19Shipped.lean. The unrestricted soundness claim "an accepted candidate is a root
modulo some proper divisor of `n`" (not asserted; it is FALSE for the pre-fix guard, see
`guard_uni_fails`; TRUE for the shipped guard: `uni_tail_repaired_true_root`). -/
def GuardUniTrueRoot : Prop :=
  ∀ (coeffs : List Int) (n rx r : Int), 0 < n → guardUni coeffs n rx = some r →
    ∃ d : Nat, 1 < d ∧ (d : Int) < n ∧ (d : Int) ∣ n ∧ (d : Int) ∣ polyEval coeffs r

/-- Pre-fix guard (`y != 0 and n % y == 0`, before 02ff5e0); shipped guard: `uni_tail_repaired_true_root`, `guard_multi_repaired_true_root` below and Props/C19Shipped.lean. D9 on a concrete witness: `f = x + 1`, `n = 35`, candidate `0`: `f(0) = 1`, accepted,
although `0` is a root of `f` modulo no divisor `> 1` of 35. -/
theorem guard_uni_fails : ¬ GuardUniTrueRoot := by
  intro h
  obtain ⟨d, hd1, -, -, hd⟩ := h [1, 1] 35 0 0 (by decide) (by decide +kernel)
  have : polyEval [1, 1] 0 = 1 := by decide +kernel
  rw [this] at hd
  have := Int.le_of_dvd (by decide) hd
  omega

/-- SHIPPED guard (`abs(y) > 1 and n % y == 0`, /repo HEAD since fix 02ff5e0 =
fixes/D9-small-roots-unit-guard.diff): every
accepted candidate of `univariate_modp` is a true root modulo a proper divisor of `n` —
for every polynomial, modulus `n > 0` and candidate list, no side condition. -/
theorem uni_tail_repaired_true_root (coeffs : List Int) (n : Int) (hn : 0 < n)
    (cands : List Int) (r : Int) (h : uniTailR coeffs n cands = some r) :
    r ∈ cands ∧
      ∃ d : Nat, 1 < d ∧ (d : Int) < n ∧ (d : Int) ∣ n ∧ (d : Int) ∣ polyEval coeffs r := by
  unfold uniTailR at h
  obtain ⟨c, hc, hg⟩ := List.exists_of_findSome?_eq_some h
  obtain ⟨ha, hr⟩ := Option.ite_none_right_eq_some.1 hg
  cases hr
  obtain ⟨h1, hd⟩ := (guardAcceptR_iff _ _).mp ha
  exact ⟨hc, proper_divisor_of_guard _ n hn h1 hd⟩

/-- SHIPPED guard of `multivariate_modp` (fix 02ff5e0). -/
theorem guard_multi_repaired_true_root (f : List Mono) (n : Int) (hn : 0 < n)
    (roots r : List Int) (h : guardMultiR f n roots = some r) :
    r = roots ∧
      ∃ d : Nat, 1 < d ∧ (d : Int) < n ∧ (d : Int) ∣ n ∧ (d : Int) ∣ mpolyEval f r := by
  obtain ⟨ha, hr⟩ := Option.ite_none_right_eq_some.1 h
  cases hr
  obtain ⟨h1, hd⟩ := (guardAcceptR_iff _ _).mp ha
  exact ⟨rfl, proper_divisor_of_guard _ n hn h1 hd⟩

/-- Pre-fix guard (`y != 0 and n % y == 0`, before 02ff5e0); shipped guard: `uni_tail_repaired_true_root`, `guard_multi_repaired_true_root` above and Props/C19Shipped.lean. `multivariate_modp` had the same pre-fix guard on `y = int(f(*roots))`. -/
theorem guard_multi_sound (f : List Mono) (n : Int) (roots r : List Int)
    (h : guardMulti f n roots = some r) :
    r = roots ∧ ∃ y : Int, y ≠ 0 ∧ y ∣ n ∧ n ∣ mpolyEval f r - y ∧
      Int.gcd (mpolyEval f r) n = y.natAbs := by
  obtain ⟨hg, hr⟩ := Option.ite_none_right_eq_some.1 h
  cases hr
  obtain ⟨hy0, hyn⟩ := (guardAccept_iff _ _).mp hg
  exact ⟨rfl, _, hy0, hyn, symMod_congr _ _, gcd_of_congr_dvd _ _ _ (symMod_congr _ _) hyn⟩

/-- Pre-fix guard (`y != 0 and n % y == 0`, before 02ff5e0); shipped guard: `uni_tail_repaired_true_root`, `guard_multi_repaired_true_root` above and Props/C19Shipped.lean. -/
theorem guard_multi_true_root (f : List Mono) (n : Int) (roots r : List Int) (hn : 0 < n)
    (h : guardMulti f n roots = some r)
    (hy : (symMod (mpolyEval f roots) n).natAbs ≠ 1) :
    ∃ d : Nat, 1 < d ∧ (d : Int) < n ∧ (d : Int) ∣ n ∧ (d : Int) ∣ mpolyEval f r := by
  obtain ⟨hg, hr⟩ := Option.ite_none_right_eq_some.1 h
  cases hr
  obtain ⟨hy0, hyn⟩ := (guardAccept_iff _ _).mp hg
  exact proper_divisor_of_guard _ n hn (by have := Int.natAbs_pos.2 hy0; omega) hyn

/-- `multivariate_modn`: an accepted candidate is a true root modulo `n` (any `n`). -/
theorem guard_modn_sound (f : List Mono) (n : Int) (roots r : List Int)
    (h : guardModn f n roots = some r) : r = roots ∧ n ∣ mpolyEval f r := by
  obtain ⟨hg, hr⟩ := Option.ite_none_right_eq_some.1 h
  cases hr
  have := Int.dvd_add (symMod_congr (mpolyEval f roots) n) (Int.dvd_iff_fmod_eq_zero.mpr hg)
  exact ⟨rfl, by simpa using this⟩

/-- candidate loop of `multivariate_modn`: a returned tuple is one of sympy's candidate
solutions and a true root of `f` modulo `n`. -/
theorem modn_tail_sound (f : List Mono) (n : Int) (cands : List (List Int)) (r : List Int)
    (h : modnTail f n cands = some r) : r ∈ cands ∧ n ∣ mpolyEval f r := by
  unfold modnTail at h
  obtain ⟨c, hc, hg⟩ := List.exists_of_findSome?_eq_some h
  obtain ⟨rfl, hd⟩ := guard_modn_sound f n c r hg
  exact ⟨hc, hd⟩

/-! ## Non-vacuity -/

-- the docstring example of PseudoAverage
example : pseudoAverage [0, 6, 7, 8, 9] 10 = .ok 8 := by decide +kernel
example : pseudoAverage [9, 0, 8, 6, 7] 10 = .ok 8 := by decide +kernel
example : paBestJ [0, 6, 7, 8, 9] 10 = 1 ∧ paDiffAt [0, 6, 7, 8, 9] 10 1 = -20 := by
  decide +kernel
example : maskShift 10 [0, 6, 7, 8, 9] [true, false, false, false, false] = [10, 6, 7, 8, 9] ∧
    varNum [10, 6, 7, 8, 9] = 50 ∧ varNum [0, 6, 7, 8, 9] = 250 := by decide +kernel
-- tie: [0,5] mod 10: diff_1 = 0 is not < 0, the first minimiser j = 0 is kept
example : paBestJ [0, 5] 10 = 0 ∧ paDiffAt [0, 5] 10 1 = 0 := by decide +kernel
example : bias [1, 2, 3] 7 [(3, 1), (2, 2)] = .ok (11, 6) := by decide +kernel
example : biasTerm 7 2 3 1 = 0 ∧ biasTerm 7 3 3 1 = 3 := by decide +kernel
example : usBinomAt 36 18 = 9075135300 := by decide +kernel
example : uniformSumCdf 3 (3 / 2) = .exact (1 / 2) := by decide +kernel
example : uniformSumCdf 2 (15 / 8) = .exact (127 / 128) := by decide +kernel
example : uniformSumCdf 40 39 = .normal true 1 := by decide +kernel
example : combinedPValue [1 / 2, 0] = .ok .zero := by decide +kernel
example : combinedPValue [1 / 2, 1 / 3, 1] = .ok (.fisher 3) := by decide +kernel
example : combinedPValue [0, -1 / 2] = .error .valueError := by decide +kernel
-- f = 3x² + 5x − 5 mod 35: f(13) = 567 ≡ 7, accepted with |y| = 7 (true root mod 7)
example : guardUni [-5, 5, 3] 35 13 = some 13 ∧ symMod (polyEval [-5, 5, 3] 13) 35 = 7 := by
  decide +kernel
example : guardUni [-5, 5, 3] 35 1 = none := by decide +kernel
example : guardUni [1, 1] 35 0 = some 0 := by decide +kernel
example : uniTail [-5, 5, 3] 35 [1, 2, 13, 4] = some 13 := by decide +kernel
example : uniTailR [-5, 5, 3] 35 [1, 2, 13, 4] = some 13 := by decide +kernel
example : uniTailR [-1, -2] 57 [-1] = none := by decide +kernel
-- D9 witness: before 02ff5e0, univariate_modp(Poly(-2x-1, modulus=57), 4, k=1) returned -1
example : uniTail [-1, -2] 57 [-1] = some (-1) ∧ symMod (polyEval [-1, -2] (-1)) 57 = 1 := by
  decide +kernel
example : guardModn [⟨1, [1, 1]⟩, ⟨-6, []⟩] 35 [2, 3] = some [2, 3] := by decide +kernel
example : guardModn [⟨1, [1, 1]⟩, ⟨-6, []⟩] 35 [2, 4] = none := by decide +kernel


end Misc

end Paranoid.C19
