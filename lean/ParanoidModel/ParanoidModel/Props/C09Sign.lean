/-
Props/C09Sign.lean — extension of C09: the signing side.

`Props/C09.lean` states the nonce relation under the *hypothesis* that `(r, s)` satisfies the
signing equation. Here the hypothesis is discharged by construction: `signS` is the textbook
ECDSA computation of `s` (FIPS 186-4 section 6.4: `s = k⁻¹ (z + r·d) mod n`) written with the
model's own `invMod` / `mulMod`, and `sign_then_extract` says that for EVERY `d`, `k`, `z`, `r`
for which the signer returns a usable `s` (invertible modulo `n`) the pair the library derives
satisfies `k ≡ a + b·d`.  Also: the exact values of the derived pair (`a ≡ z·s⁻¹`,
`b ≡ r·s⁻¹`), and uniqueness — any other reduced pair with `a'·s ≡ z`, `b'·s ≡ r` is the
returned one — so "the relation is exact" cannot be met by a different pair.
No size bound, no primality assumption (`n ≥ 2`; for prime `n` the coprimality hypotheses are
`k ≢ 0`, `s ≢ 0`, see `sign_then_extract_prime`).
-/
import ParanoidModel.Proofs.Ecdsa
namespace Paranoid.C09
open Paranoid

/-- the signer's `s` satisfies the division-free signing equation `s·k ≡ z + r·d (mod n)`. -/
theorem signS_equation (n : Nat) (hn : 2 ≤ n) (r z d k : Int) (s : Nat)
    (h : signS n r z d k = .ok s) :
    (s : Int) * k ≡ z + r * d [ZMOD (n : Int)] ∧ s < n := by
  unfold signS at h
  cases hki : invMod k n with
  | error e => rw [hki] at h; cases h
  | ok ki =>
    rw [hki] at h
    cases h
    exact ⟨(mulMod_inv hn hki _).2, (mulMod_inv hn hki _).1⟩

/-- ★ sign, then extract: for every modulus `n ≥ 2`, every `r, z, d, k`, if the signer returns
`s` and `s` is invertible modulo `n` (a valid signature has `s ≠ 0`; `n` prime), then
`HiddenNumberParams(r, s, z)` returns `(a, b)` with `a, b < n` and `k ≡ a + b·d (mod n)`. -/
theorem sign_then_extract (n : Nat) (hn : 2 ≤ n) (r z d k : Int) (s : Nat)
    (h : signS n r z d k = .ok s) (hs : Int.gcd (s : Int) n = 1) :
    ∃ a b : Nat, hiddenNumberParams n r s z = .ok (a, b) ∧ a < n ∧ b < n ∧
      (a : Int) + b * d ≡ k [ZMOD (n : Int)] :=
  hiddenNumberParams_spec n hn r s z d k hs (signS_equation n hn r z d k s h).1

/-- the same for a prime order: `s ≢ 0` is enough. -/
theorem sign_then_extract_prime (n : Nat) (hp : n.Prime) (r z d k : Int) (s : Nat)
    (h : signS n r z d k = .ok s) (hs : s ≠ 0) :
    ∃ a b : Nat, hiddenNumberParams n r s z = .ok (a, b) ∧ a < n ∧ b < n ∧
      (a : Int) + b * d ≡ k [ZMOD (n : Int)] := by
  have hlt := (signS_equation n hp.two_le r z d k s h).2
  refine sign_then_extract n hp.two_le r z d k s h (gcd_eq_one_of_emod_ne_zero n hp _ ?_)
  rw [Int.emod_eq_of_lt (by omega) (by omega)]
  omega

/-- the signer raises exactly when the nonce is not invertible modulo `n`, and then exactly
`ZeroDivisionError`. -/
theorem signS_error_iff (n : Nat) (hn : 2 ≤ n) (r z d k : Int) (e : PyErr) :
    signS n r z d k = .error e ↔ (e = .zeroDivision ∧ Int.gcd k n ≠ 1) := by
  rcases invMod_cases k n hn with ⟨hg, ki, hki, _, _⟩ | ⟨hg, herr⟩
  · simp [signS, hki, hg]
  · simp only [signS, herr, Except.error.injEq, hg, ne_eq, not_false_eq_true, and_true]
    exact eq_comm

/-- ★ exact values: whenever `HiddenNumberParams(r, s, z)` returns `(a, b)`:
`a·s ≡ z` and `b·s ≡ r` modulo `n`, both reduced. (Every input: negative or unreduced
`r, s, z` included.) -/
theorem hnparams_values (n : Nat) (hn : 2 ≤ n) (r s z : Int) (a b : Nat)
    (h : hiddenNumberParams n r s z = .ok (a, b)) :
    a < n ∧ b < n ∧ (a : Int) * s ≡ z [ZMOD (n : Int)] ∧ (b : Int) * s ≡ r [ZMOD (n : Int)] :=
  hiddenNumberParams_values n hn r s z a b h

/-- ★ uniqueness: a reduced pair `(a', b')` with `a'·s ≡ z`, `b'·s ≡ r` IS the returned pair.
So the derived relation is the only reduced relation of this form the signature supports. -/
theorem hnparams_unique (n : Nat) (hn : 2 ≤ n) (r s z : Int) (a b a' b' : Nat)
    (h : hiddenNumberParams n r s z = .ok (a, b))
    (ha' : a' < n) (hb' : b' < n)
    (hza : (a' : Int) * s ≡ z [ZMOD (n : Int)]) (hrb : (b' : Int) * s ≡ r [ZMOD (n : Int)]) :
    a' = a ∧ b' = b := by
  obtain ⟨ha, hb, hz, hr⟩ := hnparams_values n hn r s z a b h
  have hs : Int.gcd s n = 1 := by
    rcases invMod_cases s n hn with ⟨hg, _⟩ | ⟨_, herr⟩
    · exact hg
    · simp [hiddenNumberParams, herr] at h
  have cancel : ∀ x y : Nat, x < n → y < n →
      (x : Int) * s ≡ (y : Int) * s [ZMOD (n : Int)] → x = y := fun x y hx hy hxy => by
    have := (modEq_cancel_right (by omega) hs hxy).eq
    rw [Int.emod_eq_of_lt (by omega) (by omega), Int.emod_eq_of_lt (by omega) (by omega)] at this
    exact_mod_cast this
  exact ⟨cancel a' a ha' ha (hza.trans hz.symm), cancel b' b hb' hb (hrb.trans hr.symm)⟩

/-! ### Non-vacuity (toy order 23; d = 7, k = 10, r = 9, z = 8) -/

example : signS 23 9 8 7 10 = .ok 14 := by decide +kernel
example : hiddenNumberParams 23 9 14 8 = .ok (17, 22) := by decide +kernel
example : ((17 : Int) + 22 * 7 - 10) % 23 = 0 := by decide
example : ((17 : Int) * 14 - 8) % 23 = 0 ∧ ((22 : Int) * 14 - 9) % 23 = 0 := by decide
example : signS 23 9 8 7 46 = .error .zeroDivision := by decide +kernel

end Paranoid.C09
