/-
Props/C02CertEx.lean — non-vacuity of `C02.dlogs_sound_named` with an `.ok` RUN and a RECORDED LOG
(the example in Props/C02Cert.lean only shows `5 • G` on the curve).

`BatchDL([5•G, 13•G, 100•G], 16)` on secp256r1 with a fresh table, kernel-evaluated, with the float values of
the real call (`int(math.sqrt(16·3)) = 6`, `int(math.sqrt(6)) = 2`): the run returns, records 5 and 13 and
nothing for 100 (outside the range) — as the real code does (`c.BatchDL(pts, 16) = [5, 13, None]`,
/repo HEAD, CURVE_SECP256R1) — and `dlogs_sound_named` applied to THIS run yields `5 • G = P`.
-/
import ParanoidModel.Props.C02Cert
namespace Paranoid.C02CertEx
open Paranoid Paranoid.Ec Paranoid.Bsgs Paranoid.C02 WeierstrassCurve

def P5 : Pt := .aff 36794669340896883012101473439538929759152396476648692591795318194054580155373
  101659946828913883886577915207667153874746613498030835602133042203824767462820
def P13 : Pt := .aff 10623191994993397449217730442198332685419647040822028787120372345201232391169
  45109985299617300571846506882481132822837374452436097494820998411881657384920
def P100 : Pt := .aff 33036681201834431806125287315208999535688917902318640770552947863084311454064
  84945031628206560286385484845876297255374399530307053403754377481469130405780

/-- the three points are `5 • G`, `13 • G`, `100 • G` (model's `multiply`). -/
theorem points_are_multiples :
    multiply secp256r1 secp256r1.g 5 = .ok P5 ∧ multiply secp256r1 secp256r1.g 13 = .ok P13 ∧
      multiply secp256r1 secp256r1.g 100 = .ok P100 := by decide +kernel

/-- an `.ok` run of `BatchDL` on secp256r1 with recorded logs. -/
theorem batchDL_run :
    (batchDL secp256r1 (StateG.init listImpl) [P5, P13, P100] 16 6 2).toOption.map Prod.fst =
      some [some 5, some 13, none] := by decide +kernel

/-- `dlogs_sound_named` applied to that run: the recorded 5 and 13 are true discrete logs. -/
theorem batchDL_run_sound :
    haveI : Fact (Nat.Prime secp256r1.p) := ⟨EcAll.named_primes secp256r1 (by decide)⟩
    (5 : Int) • Gp secp256r1 = toPoint secp256r1 P5 ∧ (13 : Int) • Gp secp256r1 = toPoint secp256r1 P13 := by
  have : Fact (Nat.Prime secp256r1.p) := ⟨EcAll.named_primes secp256r1 (by decide)⟩
  have hrun := batchDL_run
  cases h : batchDL secp256r1 (StateG.init listImpl) [P5, P13, P100] 16 6 2 with
  | error e => rw [h] at hrun; cases hrun
  | ok r =>
    obtain ⟨res, st'⟩ := r
    rw [h] at hrun
    simp only [Except.toOption, Option.map_some, Option.some.injEq] at hrun
    subst hrun
    have hs := (dlogs_sound_named secp256r1 (by decide)).1 _ _ _ _ _ _ _ h
    cases hs with
    | cons h5 hrest =>
      cases hrest with
      | cons h13 _ => exact ⟨h5 5 rfl, h13 13 rfl⟩

end Paranoid.C02CertEx
