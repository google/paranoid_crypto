/-
Props/C16EcAllCert.lean — additions to Props/C16EcAll.lean (same namespace):

* `checkAllEC_dlogs_sound_priv`: the `DISCRETE_LOG` half of `checkAllEC_dlogs_sound` for keys that
  HAVE a private key (`P = d • G`, any integer `d`) — no `n • P = ∞` hypothesis, no primality
  hypothesis; additionally `v ≡ d (mod n)`.
  NOT proved (and not in the trusted base unless added there): "every point accepted by
  `IsValidPublicKey` on one of the nine cofactor-1 curves satisfies `n • P = ∞`", i.e.
  `#E(F_p) = n` for the nine named curves (standards; no point counting in Mathlib).
* non-vacuity of the end-to-end hypotheses with NON-trivial inputs: `ECWF` at the parameters of the
  quick tier of harness/corr/ecall.py (`2**16`, `2**10`); `SigWF` for two secp256r1 signatures of one
  issuer plus a signature with an unknown curve id, with a solver that answers; a kernel-evaluated
  run of `checkAllECDSASigsFull` in which a nonce check writes POSITIVE entries with a
  `DISCRETE_LOG` on a known curve, CheckIssuerKey copies the severity of the inner
  CheckWeakECPrivateKey, and the curve object is left with a non-fresh table.
-/
import ParanoidModel.Props.C16EcAll
import ParanoidModel.Proofs.EcPrivKey
namespace Paranoid.EcAll
open Paranoid Paranoid.Ec Paranoid.Bsgs WeierstrassCurve

/-- ★ `checkAllEC_dlogs_sound_priv` (C02 end to end, keys with a private key).  After `CheckAllEC`
on FRESH keys — any batch (neighbours off their curve, unreduced, duplicates, unknown curves), any
bound, `max_diff`, `_table` states and float-oracle values — if the key at position `n` lies on a
known curve `c` and is `P = d • G` for SOME integer `d` (no range condition: "valid points with
arbitrary private keys"), then a `DISCRETE_LOG` attached to it is `format(v, "x")` for an integer
`v` with `v • G = P` and `v ≡ d (mod n)`.  No hypothesis on the curve: primality of `p` and `n` is
kernel-checked (Props/C11Primes), `n • G = ∞` is the evaluated `paramsOK`. -/
theorem checkAllEC_dlogs_sound_priv (p : EcParams) (o : EcOracle) (sts : List EcState)
    (arts arts' : List Artifact) (r : Bool) (sts' : List EcState)
    (hfresh : ∀ a ∈ arts, a.info = TestInfo.empty)
    (h : checkAllECFull p o sts arts = .ok ((arts', r), sts'))
    (n : Nat) (a a' : Artifact) (ha : arts[n]? = some a) (ha' : arts'[n]? = some a')
    (c : Curve) (hc : factoryGet ecFactory a.curve = some c) :
    haveI : Fact (Nat.Prime c.p) := ⟨prime_of_get hc⟩
    ∀ (d : Int), onCurve c (keyOf a).pt = true → toPoint c (keyOf a).pt = d • Gp c →
      ∀ x, getAttachedInfo a'.info infoNameDiscreteLog = some x →
        ∃ v : Int, x = .raw (Proto.hexInt v) ∧ v • Gp c = toPoint c (keyOf a).pt ∧
          (v - d) % (c.n : Int) = 0 := by
  haveI : Fact (Nat.Prime c.p) := ⟨prime_of_get hc⟩
  intro d hon hd x hx
  obtain ⟨h1, _⟩ := checkAllEC_dlogs_sound p o sts arts arts' r sts' hfresh h n a a' ha ha' c hc
  obtain ⟨v, hv, hs⟩ := h1 x hx
  exact ⟨v, hv, dlog_of_privateKey c (curveHyp_of_get hc).params (orderPrime_of_get hc) hd (hs hon)⟩

/-! ## Non-vacuity -/

/-- the parameters the quick tier of harness/corr/ecall.py runs the real code with. -/
def EcParams.quick : EcParams := ⟨2 ^ 16, 2 ^ 10⟩

/-- float oracles `(ts, m) = (1536, 39)` (`int(sqrt(2**16 * 36))`, `int(sqrt(1536))`) and
`int(sqrt(2**10)) = 32` for every curve object. -/
def quickFloats : EcOracle := ⟨ecFactory.map fun _ => (1536, 39), ecFactory.map fun _ => 32⟩

/-- `ECWF` at the QUICK-tier parameters (`2**16`, `2**10`) — the instance of
`checkAllECFull_total` the correspondence harness compares with the real code. -/
example : ECWF EcParams.quick quickFloats freshTables sampleKeys :=
  ecwf_const 1536 39 32 (by decide) (by decide) (by decide) (statesOK_init _) (by decide +kernel)

section sig
open Paranoid.EcdsaChecks

/-- big-endian bytes of the generator of secp256r1. -/
def g256x : List Nat := [107, 23, 209, 242, 225, 44, 66, 71, 248, 188, 230, 229, 99, 164, 64, 242,
  119, 3, 125, 129, 45, 235, 51, 160, 244, 161, 57, 69, 216, 152, 194, 150]
def g256y : List Nat := [79, 227, 66, 226, 254, 26, 127, 155, 142, 231, 235, 74, 124, 15, 158, 22,
  43, 206, 51, 87, 107, 49, 94, 206, 203, 182, 64, 104, 55, 191, 81, 245]

/-- two signatures `(r, s, hash) = (1, 1, 07)`, `(2, 3, 0909)` of the issuer key `G` of secp256r1
(private key 1) and one signature with the unknown curve id 0. -/
def sigs256 : List SigArt :=
  [⟨TestInfo.empty, ⟨2, g256x, g256y, [1], [1], [7]⟩⟩,
   ⟨TestInfo.empty, ⟨2, g256x, g256y, [2], [3], [9, 9]⟩⟩,
   ⟨TestInfo.empty, ⟨0, [1], [2], [3], [4], [5]⟩⟩]

/-- solver oracle of one check for curve id `cid0`: `unique_vals` of the only issuer in the order
`[(1, 1, 7), (2, 3, 0x909)]`, every solver call answers `gl`, `list(guesses) = gl`. -/
def answering (cid0 : Nat) (gl : List Int) : Nat → GroupOracle := fun cid =>
  if cid = cid0 then ⟨fun j => if j = 0 then [(1, 1, 7), (2, 3, 2313)] else [], fun _ _ => gl, gl⟩
  else ⟨fun _ => [], fun _ _ => [], []⟩

/-- CheckNonceMSB (registry position 2) gets the private key `1` from its solver; the other checks
get no guess.  Inner `CheckAllEC`: `someFloats`. -/
def oracle256 : SigOracle :=
  ⟨fun j => if j = 2 then answering 2 [1] else answering 2 [], fun _ => someFloats⟩

theorem oracle256_consistent : ∀ j < 8,
    checkConsistent .cr50 (oracle256.solver j) (sigs256.map SigArt.sig) namedFactory = true := by
  decide +kernel

theorem issuerKeys256 : issuerKeys .repaired (sigs256.map SigArt.art) =
    [⟨TestInfo.empty, 2, (secp256r1.gx.toNat, secp256r1.gy.toNat)⟩, ⟨TestInfo.empty, 0, (1, 2)⟩] := by
  decide +kernel

/-- ★ `SigWF` is inhabited by a NON-trivial call at the real parameters: fresh curve objects, two
secp256r1 signatures of one issuer (so `uniq` has a two-element issuer group and `sInv` two
invertible `s`), a signature on an unknown curve, a solver that answers for one check — so
`checkAllECDSASigsFull_total` applies to it. -/
theorem sigWF_inhabited : SigWF EcParams.real oracle256 (SigState.fresh listImpl) sigs256 where
  factory := (C02S.namedFactory_ok named_primes).1
  curves := rfl
  tables := statesOK_init _
  uniq := fun j c k hj _ => by
    have hj8 : j < 8 := by
      have := (List.getElem?_eq_some_iff.mp hj).1
      have h8 : ecdsaAll.length = 8 := by rw [ecdsaAll_eq]; rfl
      omega
    exact (consistent_of_check .cr50 (oracle256.solver j) _ namedFactory
      (oracle256_consistent j hj8)).1
  sInv := fun sa hsa obj hobj =>
    (by decide +kernel : ∀ sa ∈ sigs256, ∀ e ∈ namedFactory, e.1 = sa.sig.curve → ∀ obj ∈ e.2,
      Int.gcd (bytes2int sa.sig.s : Int) obj.curve.n = 1) sa hsa _ hobj rfl obj rfl
  inner := fun j c _ _ sts hsts => by
    rw [issuerKeys256]
    exact ecwf_const 3 1 4096 (by decide) (by decide) (by decide) hsts (by decide +kernel)

/-- … hence the call returns and leaves well-formed curve objects (instance of the totality
theorem at a non-trivial input). -/
example : ∃ run, checkAllECDSASigsFull EcParams.real oracle256 (SigState.fresh listImpl) sigs256 =
    .ok run ∧ TotInv run.state :=
  checkAllECDSASigsFull_total _ _ _ _ sigWF_inhabited

/-! a kernel-evaluated run in which a nonce check writes a POSITIVE entry on a known curve -/

/-- big-endian bytes of the generator of secp192r1. -/
def g192x : List Nat := [24, 141, 168, 14, 176, 48, 144, 246, 124, 191, 32, 235, 67, 161, 136, 0,
  244, 255, 10, 253, 130, 255, 16, 18]
def g192y : List Nat := [7, 25, 43, 149, 255, 200, 218, 120, 99, 16, 17, 237, 107, 36, 205, 213,
  115, 249, 119, 161, 30, 121, 72, 17]

/-- the same three signatures with the issuer key `G` of secp192r1 (id 1). -/
def sigs192 : List SigArt :=
  [⟨TestInfo.empty, ⟨1, g192x, g192y, [1], [1], [7]⟩⟩,
   ⟨TestInfo.empty, ⟨1, g192x, g192y, [2], [3], [9, 9]⟩⟩,
   ⟨TestInfo.empty, ⟨0, [1], [2], [3], [4], [5]⟩⟩]

def oracle192 : SigOracle :=
  ⟨fun j => if j = 2 then answering 1 [1] else answering 1 [],
   fun _ => ⟨ecFactory.map fun _ => (5, 2), ecFactory.map fun _ => 2⟩⟩

/-- entries of the two secp192r1 signatures after the run below. -/
def entries192 : List Entry :=
  [⟨"CheckLCGNonceGMP", false, 4⟩, ⟨"CheckLCGNonceJavaUtilRandom", false, 4⟩,
   ⟨"CheckNonceMSB", true, 4⟩, ⟨"CheckNonceCommonPrefix", false, 4⟩,
   ⟨"CheckNonceCommonPostfix", false, 4⟩, ⟨"CheckNonceGeneralized", false, 4⟩,
   ⟨"CheckIssuerKey", true, 4⟩, ⟨"CheckCr50U2f", false, 4⟩]

/-- ★ a kernel-evaluated run of the composed signature model (bound 1 and `max_diff = 4` instead of
`2**32` / `2**24` so that the kernel can evaluate the inner `CheckAllEC`) on `sigs192`:
* every nonce check WRITES an entry for the two signatures on the known curve — seven entries each,
  six negative, CheckNonceMSB POSITIVE with `DISCRETE_LOG = "1"` (the solver's guess `1` is the
  private key of the issuer key `G`: `_IssuerDLogs` accepted it);
* CheckIssuerKey runs the whole `CheckAllEC` model on the two distinct issuer keys; the inner
  CheckWeakECPrivateKey flags `G` (severity 4, copied), CheckValidECKey flags the unknown-curve key
  (severity 2, copied);
* the signature with the unknown curve id gets the CheckIssuerKey entry only;
* the secp192r1 object is left with a NON-fresh table (`_table_size = 5`). -/
example : (checkAllECDSASigsFull ⟨1, 4⟩ oracle192 (SigState.fresh listImpl) sigs192).toOption.map
      (fun run => (run.result.1.map (·.info), run.result.2, run.state.tables.map (·.tableSize))) =
    some ([⟨true, entries192, [("DISCRETE_LOG", .raw "1")], "1.1.1"⟩,
           ⟨true, entries192, [("DISCRETE_LOG", .raw "1")], "1.1.1"⟩,
           ⟨true, [⟨"CheckIssuerKey", true, 2⟩], [], "1.1.1"⟩], true,
          [0, 0, 5, 0, 0, 0, 0, 0, 0, 0, 0, 0, 0, 0, 0, 0, 0, 0, 0]) := by
  -- CheckIssuerKey is at registry position 6; its inner `CheckAllEC` is evaluated with the ladder
  -- of Proofs/EcNat.lean (see the run in Props/C16EcAll.lean)
  rw [checkAllECDSASigsFull, checkAllECDSASigsFullG,
    sigStepsG_issuer_at _ 6 ⟨"CheckIssuerKey", 0, false, false, true⟩ 6 (by decide +kernel) rfl rfl]
  decide +kernel

/-- the order oracles of that run are enumerations of the right sets (`uniq`, `guessList`), for
the check that receives the guess and for one that does not. -/
example : checkConsistent (.biased (.bias 1)) (oracle192.solver 2) (sigs192.map SigArt.sig)
      namedFactory = true ∧
    checkConsistent .cr50 (oracle192.solver 7) (sigs192.map SigArt.sig) namedFactory = true := by
  decide +kernel

end sig

end Paranoid.EcAll
