/-
Props/C08.lean — "ECDSA signatures with biased or predictable nonces reveal the signing key",
integer-lattice half (hidden_number_problem.py, cr50_u2f_weakness.py).

Inputs are the integer lists `a`, `b` with `k_i ≡ a_i + b_i·x (mod n)` (the ECDSA check layer that
produces them from signatures, groups by issuer and verifies every guess against the public key
is modelled elsewhere). LLL (`lll.reduce`) is an ORACLE: `basis` / `reduced` / `oracle i` below
are universally quantified. What is proved:

 * pre  — for every `Bias`, the planted short vector is an explicit integer combination of the
          rows of the matrix the code builds, with explicit entry bounds; likewise for the
          precomputation variant and for the Cr50 U2F sub-problem;
 * post — if the reduced basis contains (a unit multiple of) that vector, the code reports
          `x mod n`, whatever the other rows are;
 * the COMMON_POSTFIX → COMMON_PREFIX reduction the code performs;
 * the decision table of `_HiddenNumberProblemSubsets` (which windows, how many constants,
          in which order) for every length and flag set, and that the shipped metadata never
          makes it raise;
 * the sanity `raise` in `Cr50U2fGuesses` is unreachable.
That LLL *returns* such a row ("n·bits ≥ 2·curve size ⇒ detected", "as many signatures as the
shipped model declares") is NOT claimed.

Vocabulary (Proofs/Hnp.lean, namespace `Paranoid.Hnp`): `ent v i` = entry `i` of `v` (0 outside); `lincomb dim cs rows`
= `Σ cs_j • rows_j`; `HnpRel a b x n mult s es cs` = `∀ i, mult·(a_i + b_i x) = s + e_i + c_i n`;
`RowOk n row` = the row has ≥ 2 entries and its first is a multiple of `n` or a unit mod `n`.
-/
import ParanoidModel.Proofs.Hnp
import ParanoidModel.Proofs.Cr50
import ParanoidModel.Generated.Consts
import ParanoidModel.Props.C02S
namespace Paranoid.C08
open Paranoid Paranoid.Hnp

/-! ## pre: the planted vector is in the lattice `GetLattice` builds -/

/-- **MSB** (`k_i = a_i + b_i x − c_i n` small): `1·row₀ + x·row₁ − Σ c_i·row_{i+2}` equals
`(n·w+1, x, k_0·w, …, k_{m-1}·w)`. -/
theorem hnp_pre_msb (a b ks cs : List Int) (x w : Int) (n fb : Nat)
    (h : HnpRel a b x n 1 0 ks cs) :
    ∃ rows, getLattice a b (some w) n .msb fb = .ok rows ∧
      lincomb (a.length + 2) (1 :: x :: cs.map (fun c => -c)) rows =
        ((n : Int) * w + 1) :: x :: ks.map (· * w) :=
  Hnp.hnp_pre_msb a b ks cs x w n fb h

/-- **COMMON_PREFIX** (`a_i + b_i x = s + e_i + c_i n`: common part `s`, small `e_i`):
`1·row₀ + x·row₁ − (s + c₀n)·row₂ − Σ_{i≥1} (c_i − c₀)·row_{i+2}` equals
`(n·w+1, x, e_0·w, …, e_{m-1}·w)`. -/
theorem hnp_pre_prefix (a b es cs : List Int) (x w s : Int) (n fb : Nat)
    (h : HnpRel a b x n 1 s es cs) :
    ∃ rows, getLattice a b (some w) n .commonPrefix fb = .ok rows ∧
      lincomb (a.length + 2) (1 :: x :: prefixCoeffs s n cs) rows =
        ((n : Int) * w + 1) :: x :: es.map (· * w) := by
  refine ⟨_, getLattice_some a b w n .commonPrefix fb h.1, ?_⟩
  simpa using gen_pre_rows a b es cs w n ((n : Int) * w + 1) 1 _ s h.genRel

/-- **GENERALIZED** (`mult·(a_i + b_i x) = s + e_i + c_i n` for a secret multiplier `mult`):
`mult·row₀ + mult·x·row₁ − …` equals `(mult, mult·x, e_0·w, …)`. -/
theorem hnp_pre_generalized (a b es cs : List Int) (x w mult s : Int) (n fb : Nat)
    (h : HnpRel a b x n mult s es cs) :
    ∃ rows, getLattice a b (some w) n .generalized fb = .ok rows ∧
      lincomb (a.length + 2) (mult :: mult * x :: prefixCoeffs s n cs) rows =
        mult :: mult * x :: es.map (· * w) := by
  refine ⟨_, getLattice_some a b w n .generalized fb h.1, ?_⟩
  simpa using gen_pre_rows a b es cs w n 1 mult _ s h.genRel

/-- **COMMON_POSTFIX** (`k_i = a_i + b_i x − c_i n = low + w·h_i`, `gcd(w, n) = 1`): the code
multiplies `a`, `b` by `wi = w⁻¹ mod n` and builds the prefix lattice; in it
`(n·w+1, x, h_0·w, …)` is the combination with common part `wi·low`. -/
theorem hnp_pre_postfix (a b ks cs hs : List Int) (x w low : Int) (n fb : Nat) (hn : 0 < n)
    (hw : Int.gcd w n = 1) (h : HnpRel a b x n 1 0 ks cs) (hh : hs.length = a.length)
    (hsuf : ∀ i, i < a.length → ent ks i = low + w * ent hs i) :
    ∃ (wi : Nat) (rows : List (List Int)), invMod w n = .ok wi ∧
      getLattice a b (some w) n .commonPostfix fb = .ok rows ∧
      lincomb (a.length + 2)
        (1 :: x :: prefixCoeffs ((wi : Int) * low) n (postfixCs a b hs cs x w wi n)) rows =
        ((n : Int) * w + 1) :: x :: hs.map (· * w) := by
  obtain ⟨wi, hwi⟩ := invMod_of_coprime w n hn hw
  have hspec := (invMod_ok_modEq w n wi hwi).1
  have hrel := postfix_reduction_rel a b ks cs hs x w low n wi h hh hsuf hspec
  refine ⟨wi, hnpRows (scaleMod wi n a) (scaleMod wi n b) w n ((n : Int) * w + 1) true, hwi, ?_, ?_⟩
  · rw [getLattice_some a b w n .commonPostfix fb h.1]
    unfold getLatticeW
    simp only [hwi]
  · have := gen_pre_rows _ _ hs _ w n ((n : Int) * w + 1) 1 _ _ hrel.genRel
    have hla : (scaleMod wi n a).length = a.length := by simp [scaleMod]
    rw [hla] at this
    simpa using this

/-- entry bound: nonces (small parts) below `B` in absolute value give planted entries below
`B·w` (`B = 2^(len − bias)` for `bias` biased bits), against `n·w` on the lattice diagonal. -/
theorem hnp_pre_bound (es : List Int) (w B : Int) (hw : 0 < w) (hB : ∀ e ∈ es, |e| < B) :
    ∀ v ∈ es.map (· * w), |v| < B * w :=
  target_bound es w B hw hB

/-- **postfix reduction** as a statement about the relation itself. -/
theorem postfix_reduction (a b ks cs hs : List Int) (x w low : Int) (n wi : Nat)
    (h : HnpRel a b x n 1 0 ks cs) (hh : hs.length = a.length)
    (hsuf : ∀ i, i < a.length → ent ks i = low + w * ent hs i)
    (hwi : invMod w n = .ok wi) :
    HnpRel (scaleMod wi n a) (scaleMod wi n b) x n 1 ((wi : Int) * low) hs
      (postfixCs a b hs cs x w wi n) :=
  postfix_reduction_rel a b ks cs hs x w low n wi h hh hsuf (invMod_ok_modEq w n wi hwi).1

/-! ## post: a good row in the reduced basis yields the key -/

/-- **post.** For EVERY reduced basis whose rows are harmless (`RowOk`; see `rows_ok_prime`):
if some row is `(u, v, …)` with `gcd(u, n) = 1` and `v ≡ u·x`, then `HiddenNumberProblem`
returns a list containing `x mod n`. -/
theorem hnp_post (a b : List Int) (w : Option Int) (n : Nat) (bias : Bias) (fb : Nat)
    (basis lat : List (List Int)) (x : Int) (hn : 1 < n)
    (hlat : getLattice a b w n bias fb = .ok lat) (hrows : ∀ r ∈ basis, RowOk n r)
    (hgood : ∃ u v rest, (u :: v :: rest) ∈ basis ∧ Int.gcd u n = 1 ∧ v ≡ u * x [ZMOD n]) :
    ∃ gs, hiddenNumberProblem a b w n bias fb basis = .ok gs ∧ (x % (n : Int)).toNat ∈ gs :=
  hnp_post_general a b w n bias fb basis lat x hn hlat hrows hgood

/-- for a prime modulus (every supported curve order) any row with two entries is harmless. -/
theorem rows_ok_prime (p : Nat) (hp : p.Prime) (row : List Int) (h : 2 ≤ row.length) :
    RowOk p row := rowOk_of_prime p hp row h

/-- **post, prime order, multiple of the planted vector.** If `n` is prime, every row of the
reduced basis has at least two entries, and the basis contains `t·(T₀, T₁, …)` for a target with
`T₁ ≡ T₀·x` (the vectors of `hnp_pre_*`: `(n·w+1, x, …)`, `(mult, mult·x, …)`) and
`n ∤ t·T₀` (in particular `t = ±1`), then `x mod n` is reported. -/
theorem hnp_post_prime (a b : List Int) (w : Option Int) (n : Nat) (bias : Bias) (fb : Nat)
    (basis lat : List (List Int)) (x t T0 T1 : Int) (tl : List Int) (hp : n.Prime)
    (hlat : getLattice a b w n bias fb = .ok lat) (hrows : ∀ r ∈ basis, 2 ≤ r.length)
    (htgt : T1 ≡ T0 * x [ZMOD n]) (hin : smul t (T0 :: T1 :: tl) ∈ basis)
    (ht : ¬ (n : Int) ∣ t * T0) :
    ∃ gs, hiddenNumberProblem a b w n bias fb basis = .ok gs ∧ (x % (n : Int)).toNat ∈ gs := by
  apply hnp_post_general a b w n bias fb basis lat x hp.one_lt hlat
    (fun r hr => rowOk_of_prime n hp r (hrows r hr))
  refine ⟨t * T0, t * T1, tl.map (t * ·), by simpa [smul] using hin, ?_, ?_⟩
  · exact gcd_eq_one_of_not_dvd n hp _ ht
  · calc t * T1 ≡ t * (T0 * x) [ZMOD n] := htgt.mul_left t
      _ = t * T0 * x := by ring

/-- nothing else is ever reported: every guess `g` is `v₁·v₀⁻¹ mod n` of a basis row. -/
theorem hnp_guess_origin (a b : List Int) (w : Option Int) (n : Nat) (bias : Bias) (fb : Nat)
    (basis : List (List Int)) (gs : List Nat)
    (h : hiddenNumberProblem a b w n bias fb basis = .ok gs) :
    ∀ g ∈ gs, ∃ v0 v1 rest, (v0 :: v1 :: rest) ∈ basis ∧ (g : Int) * v0 ≡ v1 [ZMOD n] ∧ g < n :=
  Hnp.hnp_guess_origin a b w n bias fb basis gs h

/-! ## HiddenNumberProblemWithPrecomputation -/

/-- **pre (precomputation).** The lattice is the MSB-shaped lattice of the flattened lists
`A_t = (a_i c_j − d_j) mod n`, `B_t = b_i c_j mod n` (`t = i·len(constants) + j`), and
`1·row₀ + x·row₁ − Σ c_t·row_{t+2} = (n·w+1, x, k_t·w, …)` with `k_t = A_t + B_t x − c_t n`. -/
theorem precomp_pre (a b : List Int) (n : Nat) (consts : List (Int × Int)) (w x : Int)
    (ks cs : List Int) (hn : 0 < n) (hb : a.length ≤ b.length)
    (h : HnpRel (precompAs a n consts) (precompBs a b n consts) x n 1 0 ks cs) :
    ∃ rows, precompLattice a b n consts w = .ok rows ∧
      lincomb (a.length * consts.length + 2) (1 :: x :: cs.map (fun c => -c)) rows =
        ((n : Int) * w + 1) :: x :: ks.map (· * w) := by
  refine ⟨_, precompLattice_eq a b n consts w hn hb, ?_⟩
  have := hnp_pre_msb_rows _ _ ks cs x w n h
  rwa [precompAs_length] at this

/-- what `k_t` is: every aligned pair `(A_t, B_t)` belongs to one signature `(a_i, b_i)` and one
constant pair `(c, d)`, and `A_t + B_t·x ≡ c·(a_i + b_i·x) − d = c·k_i − d (mod n)` — the
quantity the precomputed constants make small for the targeted generator. -/
theorem precomp_entries (a b : List Int) (n : Nat) (consts : List (Int × Int)) (x : Int)
    (hb : a.length ≤ b.length) :
    ∀ p ∈ (precompAs a n consts).zip (precompBs a b n consts),
      ∃ ai bi c d, (ai, bi) ∈ a.zip b ∧ (c, d) ∈ consts ∧
        p.1 + p.2 * x ≡ c * (ai + bi * x) - d [ZMOD n] := by
  intro p hp
  unfold precompAs precompBs at hp
  rw [zip_flatMap_aligned consts.length _ _ (by simp [precompA]) (by simp [precompB]) a
    (b.take a.length) (by simp; omega)] at hp
  obtain ⟨q, hq, hp⟩ := List.mem_flatMap.mp hp
  unfold precompA precompB at hp
  rw [List.zip_map', List.mem_map] at hp
  obtain ⟨cd, hcd, rfl⟩ := hp
  refine ⟨q.1, q.2, cd.1, cd.2, ?_, hcd, precomp_entry_modEq n q.1 q.2 cd.1 cd.2 x⟩
  have : a.zip (b.take a.length) = a.zip b := zip_take_left a b
  rw [this] at hq
  exact hq

theorem precomp_post (a b : List Int) (n : Nat) (consts : List (Int × Int)) (w : Int)
    (basis : List (List Int)) (x : Int) (hn : 1 < n) (hb : a.length ≤ b.length)
    (hrows : ∀ r ∈ basis, RowOk n r)
    (hgood : ∃ u v rest, (u :: v :: rest) ∈ basis ∧ Int.gcd u n = 1 ∧ v ≡ u * x [ZMOD n]) :
    ∃ gs, hiddenNumberProblemWithPrecomputation a b n consts w basis = .ok gs ∧
      (x % (n : Int)).toNat ∈ gs := by
  obtain ⟨gs, hgs, hmem⟩ := precomp_ok a b n consts w basis (by omega) hb hrows
  refine ⟨gs, hgs, (hmem _).mpr ?_⟩
  obtain ⟨u, v, rest, hin, hu, hv⟩ := hgood
  exact ⟨_, hin, (hnpRowGuessPre_ok_iff _ _ _).mpr (hnpRowGuess_good n hn u v x rest hu hv)⟩

/-! ## _HiddenNumberProblemSubsets / HiddenNumberProblemForCurve -/

/-- **decision table** of one `CONSTANT_FACTORY` entry (`sample_size`, `sliding_window_size`
positive) for every number of signatures `len` and every flag set:
* `len > window`: with SLIDING the `len − window + 1` consecutive windows in order, each with
  `⌊(ss−1)/window⌋ + 1` constants; then — if SINGLE is set or SLIDING is not — one test over the
  first `min(len, 2·ss)` signatures;
* `min_signatures ≤ len ≤ window`: one test with all signatures;
* `len = min_signatures − 1` and INCLUDE_KEY: one test with the pair `(0, 1)` appended;
* otherwise nothing. -/
theorem subsets_logic (ss ms sw len : Nat) (f : SearchFlags) (hss : 0 < ss) (hsw : 0 < sw) :
    entryShapes ss ms sw len f =
      if sw < len then
        ⟨(if f.sliding then (List.range (len - sw + 1)).map
              (fun i => (⟨i, sw, false, (ss - 1) / sw + 1⟩ : HnpShape)) else []) ++
          (if f.single ∨ ¬ f.sliding then
              [(⟨0, min len (2 * ss), false, (ss - 1) / min len (2 * ss) + 1⟩ : HnpShape)] else []),
          none⟩
      else if ms ≤ len then
        (if len = 0 then ⟨[], some .zeroDivision⟩
         else ⟨[⟨0, len, false, (ss - 1) / len + 1⟩], none⟩)
      else if len + 1 = ms ∧ f.includeKey then ⟨[⟨0, len, true, (ss - 1) / (len + 1) + 1⟩], none⟩
      else ⟨[], none⟩ :=
  entryShapes_table ss ms sw len f hss hsw

/-- with SLIDING every signature of a long list lies in a window of exactly
`sliding_window_size` consecutive signatures, and every window stays inside the list. -/
theorem windows_cover (ss ms sw len : Nat) (f : SearchFlags) (hss : 0 < ss) (hsw : 0 < sw)
    (hlen : sw < len) (hf : f.sliding = true) (i : Nat) (hi : i < len) :
    ∃ s ∈ (entryShapes ss ms sw len f).yields, s.size = sw ∧ s.start ≤ i ∧ i < s.start + s.size ∧
      s.start + s.size ≤ len := by
  rw [entryShapes_table ss ms sw len f hss hsw, if_pos hlen]
  simp only [hf, if_true]
  refine ⟨⟨min i (len - sw), sw, false, (ss - 1) / sw + 1⟩, ?_, rfl, ?_, ?_, ?_⟩
  · apply List.mem_append_left
    apply List.mem_map.mpr
    exact ⟨min i (len - sw), List.mem_range.mpr (by omega), rfl⟩
  · simp only; omega
  · simp only; omega
  · simp only; omega

/-- every yielded window lies inside the list and asks for at least one constant. -/
theorem windows_inside (ss ms sw len : Nat) (f : SearchFlags) (hss : 0 < ss) (hsw : 0 < sw) :
    ∀ s ∈ (entryShapes ss ms sw len f).yields, s.start + s.size ≤ len ∧ 0 < s.numConstants := by
  intro s hs
  obtain ⟨h1, k, hk, _⟩ := entryShapes_mem ss ms sw len f hss hsw s hs
  exact ⟨h1, hk ▸ Nat.succ_pos _⟩

/-- the shipped metadata (regenerated from `lcg_constants.CONSTANT_FACTORY`) has positive
`sample_size`, `min_signatures`, `sliding_window_size`, and enough constants for every window
the generator can ask for (`⌊(ss−1)/min_signatures⌋ + 1 ≤ len(constants)`). -/
theorem shipped_meta_ok :
    ∀ m ∈ Consts.lcgMeta, 0 < m.2.2.1 ∧ 0 < m.2.2.2.1 ∧ 0 < m.2.2.2.2.1 ∧
      (m.2.2.1 - 1) / m.2.2.2.1 + 1 ≤ m.2.2.2.2.2.2 ∧
      m.2.2.2.1 ≤ m.2.2.2.2.1 ∧ m.2.2.2.1 ≤ 2 * m.2.2.1 := by decide +kernel

/-- hence `constant_list[:num_constants]` is never cut short: every subset the generator yields
for a shipped entry asks for at most as many constants as the entry ships. -/
theorem shipped_enough_constants (len : Nat) (f : SearchFlags) :
    ∀ m ∈ Consts.lcgMeta, ∀ s ∈ (entryShapes m.2.2.1 m.2.2.2.1 m.2.2.2.2.1 len f).yields,
      s.numConstants ≤ m.2.2.2.2.2.2 := by
  intro m hm s hs
  obtain ⟨h1, h2, _, h4, h5, h6⟩ := shipped_meta_ok m hm
  exact le_trans (entryShapes_numConstants_le _ _ _ len f h1 h2 h5 h6 s hs) h4

/-- hence the generator never raises on the shipped table, for any length and flag set. -/
theorem subsets_total_shipped (len : Nat) (f : SearchFlags) :
    ∀ m ∈ Consts.lcgMeta, (entryShapes m.2.2.1 m.2.2.2.1 m.2.2.2.2.1 len f).err = none := by
  intro m hm
  obtain ⟨h1, h2, h3, _⟩ := shipped_meta_ok m hm
  exact entryShapes_err_none _ _ _ len f h1 h3 h2

/-- no flag: `ValueError` before anything is yielded. -/
theorem subsets_no_flags (a b : List Int) (curve : Nat) (lcg : Option Nat) (factory : List LcgMeta) :
    hnpSubsets a b curve lcg ⟨false, false, false⟩ factory = ⟨[], some .valueError⟩ := rfl

/-- **post (for curve).** `oracle k` is the reduced basis of the `k`-th lattice (one per yielded
subset). If one of them contains a row `(u, u·x, …)` with `u` a unit, `x mod n` is among the
guesses of `HiddenNumberProblemForCurve`, whatever the other reductions returned. -/
theorem forcurve_post (a b : List Int) (curve n : Nat) (lcg : Option Nat) (f : SearchFlags)
    (factory : List LcgMeta) (oracle : Nat → List (List Int)) (x : Int)
    (hlen : a.length = b.length) (hf : f.none = false) (hn : 1 < n)
    (hmeta : ∀ m ∈ factory, entrySelected m curve lcg = true → MetaOk m)
    (hrows : ∀ k, ∀ r ∈ oracle k, RowOk n r)
    (hgood : ∃ k, k < (hnpSubsets a b curve lcg f factory).yields.length ∧
      ∃ u v rest, (u :: v :: rest) ∈ oracle k ∧ Int.gcd u n = 1 ∧ v ≡ u * x [ZMOD n]) :
    ∃ gs, hnpForCurve a b curve (some (some n)) lcg f factory oracle = .ok gs ∧
      (x % (n : Int)).toNat ∈ gs := by
  unfold hnpForCurve forCurveRun
  rw [if_neg (by omega)]
  have hsub : hnpSubsets a b curve lcg f factory = subsetsLoop a b curve lcg f factory := by
    unfold hnpSubsets; rw [hf]; rfl
  rw [hsub] at hgood ⊢
  obtain ⟨herr, hl⟩ := subsetsLoop_ok a b curve lcg f hlen factory hmeta
  obtain ⟨gs, hgs, hmem⟩ := forCurveLoop_ok n oracle (by omega)
    (subsetsLoop a b curve lcg f factory).yields 0 []
    (fun s hs => le_of_eq (hl s hs)) (fun k _ r hr => hrows _ r hr)
  simp only [hgs, herr]
  refine ⟨gs, rfl, (hmem _).mpr (Or.inr ?_)⟩
  obtain ⟨k, hk, u, v, rest, hin, hu, hv⟩ := hgood
  exact ⟨k, hk, _, by simpa using hin,
    (hnpRowGuessPre_ok_iff _ _ _).mpr (hnpRowGuess_good n hn u v x rest hu hv)⟩

/-- the argument checks in front of the lattice work, in the order the code performs them. -/
theorem forcurve_errors (a b : List Int) (curve : Nat) (lcg : Option Nat) (f : SearchFlags)
    (factory : List LcgMeta) (oracle : Nat → List (List Int)) :
    (a.length ≠ b.length → ∀ cn, hnpForCurve a b curve cn lcg f factory oracle = .error .valueError) ∧
    (a.length = b.length → hnpForCurve a b curve none lcg f factory oracle = .error .keyError) ∧
    (a.length = b.length → hnpForCurve a b curve (some none) lcg f factory oracle = .error .valueError) ∧
    (a.length = b.length → f.none = true → ∀ n,
      hnpForCurve a b curve (some (some n)) lcg f factory oracle = .error .valueError) := by
  refine ⟨fun h cn => ?_, fun h => ?_, fun h => ?_, fun h hf n => ?_⟩
  · unfold hnpForCurve; rw [if_pos h]
  · unfold hnpForCurve; rw [if_neg (by omega)]
  · unfold hnpForCurve; rw [if_neg (by omega)]
  · unfold hnpForCurve forCurveRun hnpSubsets; rw [if_neg (by omega)]; simp [hf, forCurveLoop]

/-! ## Cr50 U2F -/

/-- **pre (Cr50).** Nonces `k₁ = Σ c¹ⱼ·B_j`, `k₂ = Σ c²ⱼ·B_j` over the basis
`B_j = 0x01010101·2^(32j)` (one digit per 32-bit word — every byte of the word repeated four
times) with `s_i·k_i ≡ z_i + r_i·x (mod n)`: the vector `(c¹, c², −256, 0)` is the explicit
integer combination `Σ c¹ⱼ·rowⱼ + Σ c²ⱼ·row_{words+j} − row_{2·words} − q·row_last` of the
lattice `Cr50U2fGuesses` hands to LLL. Its entries are the digits and `256`. -/
theorem cr50_pre (r1 s1 z1 r2 s2 z2 x : Int) (n : Nat) (hn : 0 < n) (c1 c2 : List Int)
    (h1 : c1.length = (cr50Basis (bitLength n)).length)
    (h2 : c2.length = (cr50Basis (bitLength n)).length)
    (hs1 : s1 * dotZip (cr50Basis (bitLength n)) c1 ≡ z1 + r1 * x [ZMOD n])
    (hs2 : s2 * dotZip (cr50Basis (bitLength n)) c2 ≡ z2 + r2 * x [ZMOD n]) :
    ∃ rows q, cr50Lattice (r2 * s1 % (n : Int)) (-r1 * s2 % (n : Int))
        ((r2 * z1 - r1 * z2) % (n : Int)) n (cr50Basis (bitLength n)) = .ok rows ∧
      lincomb (2 * (cr50Basis (bitLength n)).length + 2) (c1 ++ (c2 ++ [-1, -q])) rows =
        c1 ++ (c2 ++ [-256, 0]) := by
  obtain ⟨rows, hrows, hl⟩ := cr50_pre_rows (r2 * s1 % (n : Int)) (-r1 * s2 % (n : Int))
    ((r2 * z1 - r1 * z2) % (n : Int)) n hn (cr50Basis (bitLength n)) c1 c2 h1 h2
    (cr50_relation r1 s1 z1 r2 s2 z2 x _ _ n hs1 hs2)
  exact ⟨rows, _, hrows, hl⟩

/-- **post (Cr50).** `n > 1` with bit length a multiple of 32, `r₁`, `r₂` units (any valid
signature on a prime-order curve), digit vectors with non-negative nonces: if the reduced
basis contains a row starting with `±(c¹, c²)`, `Cr50U2fGuesses` returns a set containing
`x mod n` — for every other content of the reduced basis. -/
theorem cr50_post (r1 s1 z1 r2 s2 z2 x : Int) (n : Nat) (reduced : List (List Int))
    (c1 c2 rest : List Int) (hbl : bitLength n % 32 = 0) (hn : 1 < n)
    (h1 : c1.length = (cr50Basis (bitLength n)).length)
    (h2 : c2.length = (cr50Basis (bitLength n)).length)
    (hk1 : 0 ≤ dotZip (cr50Basis (bitLength n)) c1) (hk2 : 0 ≤ dotZip (cr50Basis (bitLength n)) c2)
    (hs1 : s1 * dotZip (cr50Basis (bitLength n)) c1 ≡ z1 + r1 * x [ZMOD n])
    (hs2 : s2 * dotZip (cr50Basis (bitLength n)) c2 ≡ z2 + r2 * x [ZMOD n])
    (hr1 : Int.gcd r1 n = 1) (hr2 : Int.gcd r2 n = 1)
    (hrow : (c1 ++ (c2 ++ rest)) ∈ reduced ∨
      (c1.map (fun c => -c) ++ (c2.map (fun c => -c) ++ rest)) ∈ reduced) :
    ∃ gs, cr50Guesses r1 s1 z1 r2 s2 z2 n reduced = .ok gs ∧ (x % (n : Int)).toNat ∈ gs := by
  obtain ⟨i1, hi1⟩ := invMod_of_coprime r1 n (by omega) hr1
  obtain ⟨i2, hi2⟩ := invMod_of_coprime r2 n (by omega) hr2
  have hn0 : n ≠ 0 := by omega
  obtain ⟨gs, hgs, hmem⟩ := cr50Guesses_ok r1 s1 z1 r2 s2 z2 n hn0 hbl i1 i2 hi1 hi2 reduced
  refine ⟨gs, hgs, ?_⟩
  -- the row that carries the planted digits
  have hks : ∀ row, (row = c1 ++ (c2 ++ rest) ∨
      row = c1.map (fun c => -c) ++ (c2.map (fun c => -c) ++ rest)) →
      cr50RowKs (cr50Basis (bitLength n)) row =
        ((dotZip (cr50Basis (bitLength n)) c1).natAbs, (dotZip (cr50Basis (bitLength n)) c2).natAbs) := by
    rintro row (rfl | rfl)
    · exact cr50RowKs_prefix _ c1 c2 rest h1 h2
    · rw [cr50RowKs_prefix _ _ _ rest (by simpa using h1) (by simpa using h2),
        dotZip_map_neg, dotZip_map_neg, Int.natAbs_neg, Int.natAbs_neg]
  obtain ⟨row, hin, hrow'⟩ : ∃ row, row ∈ reduced ∧ (row = c1 ++ (c2 ++ rest) ∨
      row = c1.map (fun c => -c) ++ (c2.map (fun c => -c) ++ rest)) := by
    rcases hrow with h | h
    · exact ⟨_, h, Or.inl rfl⟩
    · exact ⟨_, h, Or.inr rfl⟩
  have e1 : ((dotZip (cr50Basis (bitLength n)) c1).natAbs : Int) = dotZip (cr50Basis (bitLength n)) c1 :=
    Int.natAbs_of_nonneg hk1
  have e2 : ((dotZip (cr50Basis (bitLength n)) c2).natAbs : Int) = dotZip (cr50Basis (bitLength n)) c2 :=
    Int.natAbs_of_nonneg hk2
  generalize dotZip (cr50Basis (bitLength n)) c1 = k1 at *
  generalize dotZip (cr50Basis (bitLength n)) c2 = k2 at *
  have hP : s1 * k1 - z1 ≡ r1 * x [ZMOD n] := by simpa using hs1.sub_right z1
  have hcond := cr50_relation r1 s1 z1 r2 s2 z2 x k1 k2 n hs1 hs2
  rw [← e1, ← e2] at hcond
  refine (hmem _).mpr ⟨row, hin, (k1.natAbs, k2.natAbs), ?_, ?_⟩
  · unfold cr50RowPair
    rw [if_neg hn0, hks row hrow', if_pos hcond]
  · congr 1
    have hspec := (invMod_ok_modEq r1 n i1 hi1).1
    simp only [e1]
    have : (s1 * k1 - z1) * i1 ≡ x [ZMOD n] := by
      calc (s1 * k1 - z1) * i1 ≡ r1 * x * i1 [ZMOD n] := hP.mul_right _
        _ = x * (r1 * i1) := by ring
        _ ≡ x * 1 [ZMOD n] := hspec.mul_left _
        _ = x := by ring
    exact this.symm

/-- digits `≥ 0` give non-negative nonces (hypotheses `hk1`, `hk2` of `cr50_post`). -/
theorem cr50_nonce_nonneg (bl : Nat) (c : List Int) (hc : ∀ d ∈ c, 0 ≤ d) :
    0 ≤ dotZip (cr50Basis bl) c :=
  dotZip_nonneg _ _ (cr50Basis_nonneg bl) hc

theorem cr50_only_zero_division (r1 s1 z1 r2 s2 z2 : Int) (n : Nat) (reduced : List (List Int))
    (e : PyErr) (h : cr50Guesses r1 s1 z1 r2 s2 z2 n reduced = .error e) : e = .zeroDivision := by
  rw [cr50Guesses_eq] at h
  split at h
  · cases h
  split at h
  · injection h with h; exact h.symm
  · obtain ⟨row, _, hr⟩ := hnpGuessLoop_error _ e _ _ h
    exact cr50Step_error r1 s1 z1 r2 s2 z2 n _ row e hr

/-- **the sanity `raise` is unreachable.** For all integers `r, s, z`, every modulus and every
answer of the lattice reduction, `Cr50U2fGuesses` never raises `ArithmeticError("Sanity check
failed")`; the only exception it can raise is `ZeroDivisionError` (from `% n` with `n = 0` or
from `gmpy.invert` of a non-unit `r`), which a valid signature (`1 ≤ r < n`, `n` prime) cannot
trigger (`cr50_total_prime`). -/
theorem cr50_sanity_unreachable (r1 s1 z1 r2 s2 z2 : Int) (n : Nat) (reduced : List (List Int)) :
    cr50Guesses r1 s1 z1 r2 s2 z2 n reduced ≠ .error .arithmeticError := by
  intro h
  have := cr50_only_zero_division r1 s1 z1 r2 s2 z2 n reduced _ h
  cases this

/-- totality on well-formed input: prime `n`, `r₁, r₂` not multiples of `n`. -/
theorem cr50_total_prime (r1 s1 z1 r2 s2 z2 : Int) (n : Nat) (reduced : List (List Int))
    (hp : n.Prime) (hr1 : ¬ (n : Int) ∣ r1) (hr2 : ¬ (n : Int) ∣ r2) :
    ∃ gs, cr50Guesses r1 s1 z1 r2 s2 z2 n reduced = .ok gs := by
  obtain ⟨i1, hi1⟩ := invMod_of_coprime r1 n hp.pos (gcd_eq_one_of_not_dvd n hp r1 hr1)
  obtain ⟨i2, hi2⟩ := invMod_of_coprime r2 n hp.pos (gcd_eq_one_of_not_dvd n hp r2 hr2)
  by_cases hbl : bitLength n % 32 = 0
  · exact (cr50Guesses_ok r1 s1 z1 r2 s2 z2 n hp.ne_zero hbl i1 i2 hi1 hi2 reduced).imp fun _ h => h.1
  · exact ⟨_, by unfold cr50Guesses; rw [if_pos hbl]⟩

/-- orders whose bit length is not a multiple of 32 are "not implemented": empty result. -/
theorem cr50_not_implemented (r1 s1 z1 r2 s2 z2 : Int) (n : Nat) (reduced : List (List Int))
    (h : bitLength n % 32 ≠ 0) : cr50Guesses r1 s1 z1 r2 s2 z2 n reduced = .ok [] := by
  unfold cr50Guesses; rw [if_pos h]

/-- which shipped curves the U2F check covers: all but secp521r1 (id 5, 521-bit order). -/
theorem cr50_curves :
    ∀ c ∈ Consts.hnpCurveOrders, (bitLength c.2 % 32 = 0 ↔ c.1 ≠ 5) := by decide +kernel

/-! ## Non-vacuity: the hypotheses are met by concrete small instances (n = 97, w = 4, x = 5) -/

-- MSB: k = (3, 6) = a + 5·b − 97·c
example : HnpRel [50, 3] [10, 20] 5 97 1 0 [3, 6] [1, 1] := by unfold HnpRel; decide +kernel
example : getLattice [50, 3] [10, 20] (some 4) 97 .msb 0 =
    .ok [[389, 0, 200, 12], [0, 1, 40, 80], [0, 0, 388, 0], [0, 0, 0, 388]] := by decide +kernel
example : lincomb 4 [1, 5, -1, -1] [[389, 0, 200, 12], [0, 1, 40, 80], [0, 0, 388, 0], [0, 0, 0, 388]] =
    [389, 5, 12, 24] := by decide +kernel
-- post: the planted row (and its negative, and noise) in the basis gives x = 5
example : hiddenNumberProblem [50, 3] [10, 20] (some 4) 97 .msb 0
    [[0, 0, 0, 0], [389, 5, 12, 24], [-389, -5, -12, -24], [97, 3, 1, 1]] = .ok [5] := by decide +kernel
-- prefix: k = (81, 83) = 80 + (1, 3)
example : HnpRel [31, 80] [10, 20] 5 97 1 80 [1, 3] [0, 1] := by unfold HnpRel; decide +kernel
example : lincomb 4 (1 :: 5 :: prefixCoeffs 80 97 [0, 1])
    [[389, 0, 124, 320], [0, 1, 40, 80], [0, 0, 4, 4], [0, 0, 0, 388]] = [389, 5, 4, 12] := by
  decide +kernel
-- postfix: k = (11, 23) = 3 + 4·(2, 5); the code's lattice after multiplying by 4⁻¹ = 73
example : getLattice [58, 20] [10, 20] (some 4) 97 .commonPostfix 0 =
    .ok [[389, 0, 252, 20], [0, 1, 204, 20], [0, 0, 4, 4], [0, 0, 0, 388]] := by decide +kernel
example : HnpRel [58, 20] [10, 20] 5 97 1 0 [11, 23] [1, 1] := by unfold HnpRel; decide +kernel
-- generalized: 7·k ≡ 80 + (1, 3)
example : HnpRel [17, 92] [10, 20] 5 97 7 80 [1, 3] [4, 13] := by unfold HnpRel; decide +kernel
-- subsets: 5 signatures, window 2, all flags: 4 sliding windows then the single test
example : entryShapes 24 2 2 5 ⟨true, true, true⟩ =
    ⟨[⟨0, 2, false, 12⟩, ⟨1, 2, false, 12⟩, ⟨2, 2, false, 12⟩, ⟨3, 2, false, 12⟩, ⟨0, 5, false, 5⟩],
      none⟩ := by decide +kernel
example : entryShapes 24 2 2 1 ⟨false, false, true⟩ = ⟨[⟨0, 1, true, 12⟩], none⟩ := by decide +kernel
-- Cr50 on the 32-bit prime 2^32 − 5: k₁ = 3·0x01010101, k₂ = 7·0x01010101, x = 123456789
example : cr50Guesses 1000003 1979693995 55555 2000003 164261424 77777 4294967291
    [[0, 0, 0, 0], [-3, -7, 256, 0], [1, 2, 3, 4]] = .ok [123456789] := by decide +kernel
example : (1979693995 : Int) * dotZip (cr50Basis (bitLength 4294967291)) [3] ≡
    55555 + 1000003 * 123456789 [ZMOD (4294967291 : Nat)] := by decide +kernel

/-! ### The ECDSA check layer on top of the solvers (proved in Props/C02S.lean)

Together with `hnp_pre_*` / `hnp_post*` / `cr50_pre` / `cr50_post` above this is the full chain
"biased nonces ⇒ planted vector in the lattice ⇒ (ORACLE: LLL returns it) ⇒ key among the guesses
⇒ every signature of that issuer flagged with the key, other issuers untouched". -/

section checks
open Paranoid.EcdsaChecks

/-- "marks every signature of that issuer weak and records the correct private key": if any
solver call of the curve group returns a private key of an issuer key, EVERY signature with
that curve and issuer key is flagged, all with the same recorded key. -/
theorem all_of_issuer_flagged (k : Kind) (O : Nat → GroupOracle) (factory : EcdsaChecks.Factory)
    (arts : List Sig) (res : CheckResult) (hF : FactoryOK factory) (hR : FactoryReduced factory)
    (hnd : (factory.map Prod.fst).Nodup) (hG : GuessConsistent k O arts factory)
    (h : check k O factory arts = .ok res)
    (cid : Nat) (obj : CurveObj) (hobj : (cid, some obj) ∈ factory) (key : Key)
    (hkr : KeyReduced obj.curve key)
    (j : Nat) (cs : List Call) (kk : Nat) (g : Int)
    (hj : j < (mapIssuerSigIndexes ((groupFrom cid 0 arts).map Prod.snd)).length)
    (hc : issuerCalls k cid obj.curve.n ((O cid).uniq j) = .ok cs) (hk : kk < cs.length)
    (hg : g ∈ (O cid).answer j kk) (hkey : KeyOf obj.curve key g) :
    ∃ d, LastKeyOf obj.curve key (O cid).guessList d ∧
      ∀ bi s, arts[bi]? = some s → s.curve = cid → s.key = key →
        verdictOf res.writes bi = some (posVerdict d) :=
  C02S.all_of_issuer_flagged k O factory arts res hF hR hnd hG h cid obj hobj key hkr j cs kk g hj hc hk hg hkey

/-- "signatures of other issuers in the same batch keep their own verdict": a signature's
verdict depends on the solver answers only through those of its own curve group … -/
theorem group_isolation (k : Kind) (O O' : Nat → GroupOracle) (factory : EcdsaChecks.Factory)
    (arts : List Sig) (res res' : CheckResult) (h : check k O factory arts = .ok res)
    (h' : check k O' factory arts = .ok res') (hnd : (factory.map Prod.fst).Nodup)
    (bi : Nat) (s : Sig) (hs : arts[bi]? = some s) (hO : O s.curve = O' s.curve) :
    verdictOf res.writes bi = verdictOf res'.writes bi :=
  C02S.group_isolation k O O' factory arts res res' h h' hnd bi s hs hO

/-- … and within the group only a private key of ITS OWN issuer key can flag it. -/
theorem flagged_only_by_own_key (k : Kind) (O : Nat → GroupOracle) (factory : EcdsaChecks.Factory)
    (arts : List Sig) (res : CheckResult) (hF : FactoryOK factory)
    (hnd : (factory.map Prod.fst).Nodup) (h : check k O factory arts = .ok res) (bi : Nat)
    (v : Paranoid.Verdict) (hv : verdictOf res.writes bi = some v) :
    ∃ s obj, arts[bi]? = some s ∧ (s.curve, some obj) ∈ factory ∧
      (v = negVerdict ∨
        ∃ d, v = posVerdict d ∧ d ∈ (O s.curve).guessList ∧ KeyOf obj.curve s.key d) :=
  C02S.weak_only_with_key k O factory arts res hF hnd h bi v hv

end checks

end Paranoid.C08
