/-
Props/C01Proper.lean — C01, last clause: "… at least one recorded value is a proper divisor unless
the modulus itself divides another modulus of the same batch", for the three factoring checks
whose result is NOT guarded by `1 < g < n` (CheckFermat, CheckHighAndLowBitsEqual,
CheckLowHammingWeight), and then for the whole entry point `CheckAllRSA`.
Property theorems only; helper lemmas live in Proofs/Proper.lean and Proofs/ProperAll.lean.

Summary of what holds under which parameter bound:
 * FactorHighAndLowBitsEqual, CheckLowHammingWeight: the returned pair is ALWAYS proper
   (every `n`, every constructor parameter) — `hlbe_proper`, `lhw_proper`.
 * FermatFactor: proper iff the step bound stays below `(n + 1) / 2 − ⌊√n⌋` (odd non-square `n`):
   `fermat_proper` (sufficient), `fermat_trivial_for_huge_bound` (for odd primes the pair is
   `(n, 1)` as soon as the bound is reached), `fermat_proper_default` (the default 100000, and
   any bound `≤ 2^61`, on moduli `≥ 2^63`), `fermat_proper_fails` (the clause quantified over
   EVERY step bound is false, on a 64-bit modulus).
 * `CheckAllRSA`: `checkAllRSA_factors_proper` — the full clause for every check, under the
   Fermat bound and the hypothesis that the keypair generator oracle answers values above 1;
   `properClause_bounded` (Fermat bound `≤ 2^61`, e.g. the default); `properClause_fails`:
   `RsaAll.ProperClause` as stated in Props/C16RsaAll (every constructor parameter) is FALSE.
-/
import ParanoidModel.Proofs.Proper
import ParanoidModel.Proofs.ProperAll
import ParanoidModel.Props.C16RsaAll
namespace Paranoid.C01Proper
open Paranoid Paranoid.RsaAll

/-! ## FermatFactor -/

/-- ★ FermatFactor on an odd non-square `n` with `steps + ⌊√n⌋ < (n + 1) / 2`: the returned pair
is proper. The loop at step `k` tests `a = ⌈√n⌉ + k`; the pair is `(a + b, a − b)` with
`a² − b² = n`, and `a − b = 1` forces `a = (n + 1) / 2`, beyond the range reached. -/
theorem fermat_proper_odd (n steps p q : Nat) (hodd : n % 2 = 1)
    (hns : Nat.sqrt n * Nat.sqrt n ≠ n) (hb : steps + Nat.sqrt n < (n + 1) / 2)
    (h : fermatFactor n steps = some (p, q)) : 1 < q ∧ q < n ∧ 1 < p ∧ p < n :=
  fermatFactor_proper_odd n steps p q hodd hb hns h

/-- ★ FermatFactor, all three branches, `n ≥ 4`: even `n` gives `(2, n / 2)`, a square `n = a²`
gives `(a, a)`, an odd non-square `n` needs the bound on the steps (only then). -/
theorem fermat_proper (n steps p q : Nat) (hn : 4 ≤ n)
    (hb : n % 2 = 1 → steps + Nat.sqrt n < (n + 1) / 2)
    (h : fermatFactor n steps = some (p, q)) : 1 < q ∧ q < n ∧ 1 < p ∧ p < n :=
  fermatFactor_proper n steps p q hn hb h

/-- every step bound up to `2^61` is below `(n + 1) / 2 − ⌊√n⌋` on moduli of 64 bits or more. -/
theorem fermat_bound_ok (n steps : Nat) (hn : 2 ^ 63 ≤ n) (hs : steps ≤ 2 ^ 61) :
    steps + Nat.sqrt n < (n + 1) / 2 := by
  have h1 : Nat.sqrt n * Nat.sqrt n ≤ n := Nat.sqrt_le n
  have h2 : 2 ^ 31 ≤ Nat.sqrt n := Nat.le_sqrt.2 (by omega)
  have h3 : Nat.sqrt n * 2 ^ 31 ≤ Nat.sqrt n * Nat.sqrt n := Nat.mul_le_mul_left _ h2
  omega

/-- ★ the default constructor parameter of CheckFermat (regenerated `Consts.fermatMaxSteps`,
100000) on every modulus `n ≥ 2^63`: the returned pair is proper. -/
theorem fermat_proper_default (n p q : Nat) (hn : 2 ^ 63 ≤ n)
    (h : fermatFactor n Consts.fermatMaxSteps = some (p, q)) : 1 < q ∧ q < n ∧ 1 < p ∧ p < n :=
  fermatFactor_proper n _ p q (by omega)
    (fun _ => fermat_bound_ok n _ hn (by decide)) h

/-- ★ the converse (sharpness): for an odd prime `n` and a step bound that reaches
`(n + 1) / 2`, i.e. `steps ≥ (n + 1) / 2 − ⌊√n⌋`, FermatFactor returns `(n, 1)`. -/
theorem fermat_trivial_for_huge_bound (n steps : Nat) (hp : n.Prime) (hodd : n % 2 = 1)
    (hs : (n + 1) / 2 ≤ Nat.sqrt n + steps) : fermatFactor n steps = some (n, 1) := by
  -- `(n + 1) / 2` is the first (and only) `a` with `a² − n` a square: `sqAt_prime`
  have hchar := fun a => sqAt_prime (a := a) hp hodd
  have hp2 := hp.two_le
  obtain ⟨m, rfl⟩ : ∃ m, n = 2 * m + 1 := ⟨n / 2, by omega⟩
  have hA : (2 * m + 1 + 1) / 2 = m + 1 := by omega
  have hmm : (m + 1) * (m + 1) = m * m + (2 * m + 1) := by ring
  have hpos := Nat.mul_pos (by omega : 0 < m) (by omega : 0 < m)
  have hlo : Nat.sqrt (2 * m + 1) < m + 1 := Nat.sqrt_lt.2 (by omega)
  rw [hA] at hchar hs
  rw [fermatFactor_of_first _ steps (m + 1) hodd
      (not_square_of_sqAt fun a ha h => (hchar a ha).1 h ▸ hlo) hlo ((hchar _ (by omega)).2 rfl)
      (fun a h1 h2 h => by have := (hchar a (Nat.sqrt_lt.1 h1).le).1 h; omega),
    if_pos (by omega), Nat.sub_eq_of_eq_add hmm, Nat.sqrt_eq,
    show m + 1 + m = 2 * m + 1 by omega, Nat.add_sub_cancel_left]

/-- the proper-divisor clause for FermatFactor quantified over EVERY step bound. -/
def FermatProperAnyBound : Prop :=
  ∀ n steps p q : Nat, 2 ^ 63 ≤ n → fermatFactor n steps = some (p, q) → 1 < q ∧ q < n

/-- ★ … is false: on the 64-bit prime `9223372036854780611` (kernel-certified) a step bound of
`n` returns `(n, 1)`. The clause holds exactly under the bound of `fermat_proper`. -/
theorem fermat_proper_fails : ¬ FermatProperAnyBound := by
  intro hcl
  have h := fermat_trivial_for_huge_bound bigPrime bigPrime bigPrime_prime (by decide)
    (by unfold bigPrime; omega)
  exact absurd (hcl bigPrime bigPrime bigPrime 1 (by decide) h).1 (by decide)

/-- a small evaluated instance of the same: `FermatFactor(7, 2) = (7, 1)`. -/
theorem fermat_trivial_small : fermatFactor 7 2 = some (7, 1) := by decide +kernel

/-! ## FactorHighAndLowBitsEqual -/

/-- ★ FactorHighAndLowBitsEqual never returns the trivial split, for EVERY `n` and every
`middle_bits`: the returned pair is `(s − d, s + d)` with `s² − d² = n`, the walk adds at most
`2^i` at bit `i < k = (bitLength n + 1) / 2`, so `s < ⌈√n⌉ + 2^k ≤ (n + 1) / 2` (for every `n`
that passes the guards `bitLength n ≥ 6`, `n ≡ 1 mod 8`), while `s − d = 1` needs
`s = (n + 1) / 2`. -/
theorem hlbe_proper (n middleBits x y : Nat)
    (h : factorHighAndLowBitsEqual n middleBits = .ok (some [x, y])) :
    1 < x ∧ x < n ∧ 1 < y ∧ y < n :=
  Paranoid.hlbe_proper n middleBits x y h

/-! ## CheckLowHammingWeight -/

/-- ★ CheckLowHammingWeight never reports the trivial split, for EVERY `n`, cutoff and step
budget: every heap entry has `p, q ≥ 1` (the search starts from `p = q = 1`) and a pair is only
reported after both were doubled, `(2p + dp, 2q + dq)`. -/
theorem lhw_proper (n cutoff maxsteps : Nat) (w : Bool) (p0 q0 : Nat)
    (h : checkLowHammingWeight n cutoff maxsteps = (w, [p0, q0])) :
    1 < p0 ∧ p0 < n ∧ 1 < q0 ∧ q0 < n :=
  Paranoid.lhw_proper n cutoff maxsteps w p0 q0 h

/-! ## the per-key verdicts -/

/-- CheckFermat: every recorded factor `f` has `1 < f < n`. -/
theorem check_fermat_proper (n maxSteps : Nat) (hn : 4 ≤ n)
    (hb : n % 2 = 1 → maxSteps + Nat.sqrt n < (n + 1) / 2) : (vFermat n maxSteps).Proper n :=
  vFermat_proper n maxSteps hn hb

/-- CheckHighAndLowBitsEqual: every recorded factor `f` has `1 < f < n`. -/
theorem check_hlbe_proper (n mb : Nat) (v : KeyVerdict) (h : vHlbe n mb = .ok v) : v.Proper n :=
  vHlbe_proper n mb v h

/-- CheckLowHammingWeight: every recorded factor `f` has `1 < f < n`. -/
theorem check_lhw_proper (n cutoff maxsteps : Nat) : (vLhw n cutoff maxsteps).Proper n :=
  vLhw_proper n cutoff maxsteps

/-- ★ the three verdicts together, on a modulus `n ≥ 2^63` with a Fermat bound `≤ 2^61` (the
default is 100000): non-empty factors ⇒ every factor `f` has `1 < f < n`. -/
theorem verdict_proper (n : Nat) (hn : 2 ^ 63 ≤ n) (fermatSteps mb cutoff maxsteps : Nat)
    (hs : fermatSteps ≤ 2 ^ 61) :
    (vFermat n fermatSteps).Proper n ∧
    (∀ v, vHlbe n mb = .ok v → v.Proper n) ∧
    (vLhw n cutoff maxsteps).Proper n :=
  ⟨vFermat_proper n _ (by omega) (fun _ => fermat_bound_ok n _ hn hs),
   fun v h => vHlbe_proper n mb v h, vLhw_proper n cutoff maxsteps⟩

/-- together with C01 `check_*` (`x * y = n`): proper ⇒ the first recorded value is a proper
divisor. -/
theorem proper_divides (n : Nat) (v : KeyVerdict) (hs : v.Sound n) (hp : v.Proper n)
    (hne : v.factors ≠ []) : ∃ f ∈ v.factors, f ∣ n ∧ 1 < f ∧ f < n := by
  cases hfs : v.factors with
  | nil => exact absurd hfs hne
  | cons f rest =>
    have hmem : f ∈ v.factors := by rw [hfs]; exact List.mem_cons_self
    exact ⟨f, List.mem_cons_self, hs.all_dvd f hmem, hp f hmem⟩

/-! ## `CheckAllRSA` end to end -/

/-- ★ the proper-divisor clause of C01 for the entry point, EVERY check: after `CheckAllRSA` on
fresh keys, whenever N_FACTORS is recorded for key `i` (modulus `n`), the record contains a value
`x` with `1 < x < n` (a divisor of `n` by `RsaAll.checkAllRSA_factors_sound`) — unless `n` divides
another, different modulus of the batch (possible for CheckGCD only).  Hypotheses: the Fermat
step bound is below `(n + 1) / 2 − ⌊√n⌋` for every odd modulus of the batch (necessary:
`properClause_fails`), and the keypair-generator oracle answers values above 1 (necessary:
`RsaAll.properClause_needs_generator`).  Moduli are `≥ 2^63` because the entry point returned
(`RsaAll.checkAllRSA_needs_64_bits`). -/
theorem checkAllRSA_factors_proper (orc : RsaOracles) (keys : List RsaKey)
    (arts' : List Artifact) (r : Bool)
    (hgen : ∀ i seed bits, 1 < (orc.keypairGen i seed bits).1 ∧ 1 < (orc.keypairGen i seed bits).2)
    (hfer : ∀ k ∈ keys, k.n % 2 = 1 → orc.fermatMaxSteps + Nat.sqrt k.n < (k.n + 1) / 2)
    (h : checkAllRSAFull orc keys = .ok (arts', r))
    (i : Nat) (k : RsaKey) (a' : Artifact) (hk : keys[i]? = some k) (ha' : arts'[i]? = some a')
    (s : List Int) (hs : getAttachedFactors a'.info nFactors = .ok (some s)) :
    (∃ x ∈ s, 1 < x ∧ x < (k.n : Int)) ∨ ∃ m ∈ keys.map (·.n), m ≠ k.n ∧ k.n ∣ m := by
  have hkmem : k ∈ keys := List.mem_of_getElem? hk
  have hbig := checkAllRSA_needs_64_bits orc keys arts' r h
  have hbig2 : ∀ k ∈ keys, 2 ≤ k.n := fun k hk => by have := hbig k hk; omega
  obtain ⟨fn, hfn, hmem, hex⟩ := attached_nFactors h i a' ha'
  rw [hs] at hfn
  cases hfn
  obtain ⟨c, v, fs, _, hv, hp, hf⟩ := hex (by simp)
  have hne : fs ≠ [] := ((rsaVerdict_sound hbig2 hk hv).sound _ fs hf).2.1
  have hprop := rsaVerdict_proper_all hbig2 hk ⟨by have := hbig k hkmem; omega, hfer k hkmem⟩
    (hgen i) hv
  rcases hprop fs hf with ⟨x, hx, h1, h2⟩ | hnest
  · obtain ⟨s', hs', hxs⟩ := (hmem x).2 ⟨c, v, ‹_›, hv, hp, fs, hf, hx⟩
    cases hs'
    exact Or.inl ⟨x, hxs, h1, h2⟩
  · exact Or.inr hnest

/-- `RsaAll.ProperClause` with the one additional hypothesis it needs: a Fermat step bound of at
most `2^61` (the default is 100000). -/
def ProperClauseBounded : Prop :=
  ∀ (orc : RsaOracles) (keys : List RsaKey) (arts' : List Artifact) (r : Bool),
    orc.fermatMaxSteps ≤ 2 ^ 61 →
    (∀ i seed bits, 1 < (orc.keypairGen i seed bits).1 ∧ 1 < (orc.keypairGen i seed bits).2) →
    checkAllRSAFull orc keys = .ok (arts', r) →
    ∀ (i : Nat) (k : RsaKey) (a' : Artifact), keys[i]? = some k → arts'[i]? = some a' →
      ∀ s, getAttachedFactors a'.info nFactors = .ok (some s) →
        (∃ x ∈ s, 1 < x ∧ x < (k.n : Int)) ∨ ∃ m ∈ keys.map (·.n), m ≠ k.n ∧ k.n ∣ m

/-- ★ the full proper-divisor clause of C01 for `CheckAllRSA`, every Fermat bound `≤ 2^61`. -/
theorem properClause_bounded : ProperClauseBounded := by
  intro orc keys arts' r hb hgen h i k a' hk ha' s hs
  have hbig := checkAllRSA_needs_64_bits orc keys arts' r h
  exact checkAllRSA_factors_proper orc keys arts' r hgen
    (fun k hk _ => fermat_bound_ok k.n _ (hbig k hk) hb) h i k a' hk ha' s hs

/-- the regenerated default of CheckFermat satisfies the bound. -/
theorem default_fermat_bound : Consts.fermatMaxSteps ≤ 2 ^ 61 := by decide

/-- the witness of `properClause_fails`: the example oracles `orcEx` (Proofs/RsaAllEval) with a Fermat step
bound of `bigPrime` and a generator that answers `(2, 2)` (never consulted: empty table). -/
def orcHugeFermat : RsaOracles :=
  { orcEx with fermatMaxSteps := bigPrime, keypairGen := fun _ _ _ => (2, 2) }

/-- one key whose modulus is the 64-bit prime `bigPrime`. -/
def keysOnePrime : List RsaKey := [⟨bigPrime, 65537⟩]

/-- the witness is well-formed input: the entry point returns on it (`checkAllRSA_total`). -/
theorem hugeFermat_wf : WF orcHugeFermat keysOnePrime where
  big := by decide
  red := fun i d row h => by simp [orcHugeFermat, orcEx] at h
  unseeded := fun i c h => by simp [orcHugeFermat, orcEx] at h
  table := fun p h => by simp [orcHugeFermat, orcEx] at h

/-- ★ `RsaAll.ProperClause` as stated in Props/C16RsaAll — quantified over EVERY constructor
parameter — is FALSE: with a Fermat step bound of `n` on the single 64-bit prime modulus
`n = 9223372036854780611`, CheckFermat records `{n, 1}`, nothing else can be recorded (every
recorded value divides `n`), and the batch has no other modulus. The clause holds exactly under
the parameter bound of `checkAllRSA_factors_proper`. -/
theorem properClause_fails : ¬ RsaAll.ProperClause := by
  intro hcl
  obtain ⟨arts', r, hrun⟩ := checkAllRSA_total orcHugeFermat keysOnePrime hugeFermat_wf
  have hlen := (checkAllRSA_entries orcHugeFermat keysOnePrime arts' r hrun).1
  have hk : keysOnePrime[0]? = some ⟨bigPrime, 65537⟩ := rfl
  obtain ⟨a', ha'⟩ : ∃ a', arts'[0]? = some a' :=
    ⟨arts'[0]'(by rw [hlen]; decide), List.getElem?_eq_getElem _⟩
  obtain ⟨fn, hfn, hmem, _⟩ := attached_nFactors hrun 0 a' ha'
  -- CheckFermat records (n, 1)
  have hf : fermatFactor bigPrime bigPrime = some (bigPrime, 1) :=
    fermat_trivial_for_huge_bound bigPrime bigPrime bigPrime_prime (by decide)
      (by unfold bigPrime; omega)
  obtain ⟨v, hv, hpos, hfac⟩ := fermat_records (orc := orcHugeFermat) (n := bigPrime) (s := bigPrime)
    (p := bigPrime) (q := 1) hk rfl rfl hf
  have hc : ∃ c ∈ rsaAll, c.name = "CheckFermat" := by decide +kernel
  obtain ⟨c, hc, hname⟩ := hc
  have hin : MemO (bigPrime : Int) fn :=
    (hmem _).2 ⟨c, v, hc, hname ▸ hv, hpos, _, hfac, List.mem_cons_self⟩
  obtain ⟨s, rfl, _⟩ := hin
  obtain ⟨fn', _, hfn', _, hdvd, _⟩ :=
    checkAllRSA_factors_sound orcHugeFermat keysOnePrime arts' r hrun 0 _ a' hk ha'
  rw [hfn] at hfn'
  cases hfn'
  have hgen : ∀ i seed bits, 1 < (orcHugeFermat.keypairGen i seed bits).1 ∧
      1 < (orcHugeFermat.keypairGen i seed bits).2 :=
    fun _ _ _ => (by decide : (1 : Nat) < 2 ∧ (1 : Nat) < 2)
  rcases hcl orcHugeFermat keysOnePrime arts' r hgen hrun 0 _ a' hk ha' s hfn with ⟨x, hx, h1, h2⟩ | ⟨m, hm, hne, _⟩
  · obtain ⟨d, rfl, hd⟩ := hdvd x ⟨s, rfl, hx⟩
    rcases (Nat.dvd_prime bigPrime_prime).mp hd with rfl | rfl
    · exact absurd h1 (by decide)
    · exact absurd h2 (by simp)
  · simp only [keysOnePrime, List.map_cons, List.map_nil, List.mem_cons, List.not_mem_nil,
      or_false] at hm
    exact hne hm

/-! ## Non-vacuity: the hypotheses are met by concrete non-trivial inputs -/

/-- `fermat_proper` on `89 · 97`: one step, `1 + ⌊√8633⌋ < 4317`. -/
example : fermatFactor (89 * 97) 1 = some (97, 89) ∧ (89 * 97) % 2 = 1 ∧
    Nat.sqrt (89 * 97) * Nat.sqrt (89 * 97) ≠ 89 * 97 ∧
    1 + Nat.sqrt (89 * 97) < (89 * 97 + 1) / 2 := by decide +kernel

/-- the even and the square branch. -/
example : fermatFactor 10 0 = some (2, 5) ∧ fermatFactor 49 0 = some (7, 7) := by decide +kernel

/-- `fermat_proper_default` on a 65-bit product of two close 33-bit primes. -/
example : 2 ^ 63 ≤ 4294967311 * 4294968317 ∧
    fermatFactor (4294967311 * 4294968317) Consts.fermatMaxSteps =
      some (4294968317, 4294967311) := by decide +kernel

/-- `fermat_trivial_for_huge_bound` on `n = 13`: `(13 + 1) / 2 = 7 ≤ 3 + 4`, and one step less
finds nothing. -/
example : Nat.Prime 13 ∧ (13 + 1) / 2 ≤ Nat.sqrt 13 + 4 ∧ fermatFactor 13 4 = some (13, 1) ∧
    fermatFactor 13 3 = none := by
  refine ⟨by norm_num, by decide +kernel, by decide +kernel, by decide +kernel⟩

/-- `hlbe_proper`: a run that returns factors. -/
example : factorHighAndLowBitsEqual (521 * 809) 3 = .ok (some [521, 809]) := by decide +kernel

/-- `lhw_proper`: a run that returns factors. -/
example : checkLowHammingWeight ((2 ^ 32 + 2 ^ 3 + 1) * (2 ^ 32 + 2 ^ 7 + 1)) 2500 100000 =
    (true, [4294967305, 4294967425]) := by decide +kernel

/-- `verdict_proper` / `proper_divides`: a non-empty verdict of each of the three checks. -/
example : (vFermat (4294967311 * 4294968317) Consts.fermatMaxSteps).factors =
      [4294968317, 4294967311] ∧
    (vHlbe (521 * 809) 3).toOption.map (·.factors) = some [521, 809] ∧
    (vLhw ((2 ^ 32 + 2 ^ 3 + 1) * (2 ^ 32 + 2 ^ 7 + 1)) 2500 100000).factors =
      [4294967305, 4294967425] := by
  refine ⟨by decide +kernel, by decide +kernel, by decide +kernel⟩

/-- `checkAllRSA_factors_proper` / `properClause_bounded`: the last run of `runs_eval` (`orcEx`
with a generator that answers `(2, 2)`, Fermat bound 50) returns and records N_FACTORS for both
keys. -/
example : (50 : Nat) ≤ 2 ^ 61 ∧
    (checkAllRSAFull { orcEx with keypairGen := fun _ _ _ => (2, 2) } keysEx).toOption.map
      (fun p => p.1.map fun a => getAttachedFactors a.info nFactors) =
    some [.ok (some [4294967311, 4294968317]), .ok (some [4294967311, 4295967341])] :=
  ⟨by decide, runs_eval.2.2.2.2⟩

end Paranoid.C01Proper
