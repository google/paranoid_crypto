/-
Props/C11Primes.lean — the primality HYPOTHESIS of the C11 theorems (`[Fact c.p.Prime]`, `Nat.Prime c.n`)
discharged by the Lean kernel for the curve constants regenerated from `ec_util.CURVE_FACTORY`.

Each `…_prime` theorem is a Pratt certificate (Lucas test `a^(q-1) ≡ 1`, `a^((q-1)/r) ≢ 1` for every
prime `r ∣ q-1`, recursively; Mathlib `lucas_primality`) evaluated by `decide +kernel` in
Proofs/PrattCurves.lean on the certificate data of Generated/Consts.lean (harness/consts/pratt.py:
untrusted factoring search, cached in harness/consts/pratt_cache.json). The theorem statement is
about the regenerated curve constant itself, so a changed constant breaks the build.

For the curves with BOTH numbers certified the consequences are stated without any hypothesis:
the curve is elliptic over the field `ZMod p`, `G` has order exactly `n` in Mathlib's group
`(W c).Point`. What is NOT certified is listed in `uncertified` (checked against the regenerated
status table) and stays a hypothesis validated per run by `gmpy2.is_prime(·, 64)`.
-/
import ParanoidModel.Proofs.PrattCurves
import ParanoidModel.Proofs.EcOrder
namespace Paranoid.C11Primes
open Paranoid Paranoid.Ec WeierstrassCurve

/-! ### kernel-checked primality (18 of the 18 numbers) -/

theorem secp256r1_p_prime : Nat.Prime secp256r1.p := Pratt.secp256r1_p_prime
theorem secp256r1_n_prime : Nat.Prime secp256r1.n := Pratt.secp256r1_n_prime
theorem secp384r1_p_prime : Nat.Prime secp384r1.p := Pratt.secp384r1_p_prime
theorem secp384r1_n_prime : Nat.Prime secp384r1.n := Pratt.secp384r1_n_prime
theorem secp192r1_p_prime : Nat.Prime secp192r1.p := Pratt.secp192r1_p_prime
theorem secp192r1_n_prime : Nat.Prime secp192r1.n := Pratt.secp192r1_n_prime
theorem secp224r1_p_prime : Nat.Prime secp224r1.p := Pratt.secp224r1_p_prime
theorem secp224r1_n_prime : Nat.Prime secp224r1.n := Pratt.secp224r1_n_prime
theorem secp521r1_p_prime : Nat.Prime secp521r1.p := Pratt.secp521r1_p_prime
theorem secp521r1_n_prime : Nat.Prime secp521r1.n := Pratt.secp521r1_n_prime
theorem secp256k1_p_prime : Nat.Prime secp256k1.p := Pratt.secp256k1_p_prime
theorem secp256k1_n_prime : Nat.Prime secp256k1.n := Pratt.secp256k1_n_prime
theorem brainpoolP256r1_p_prime : Nat.Prime brainpoolP256r1.p := Pratt.brainpoolP256r1_p_prime
theorem brainpoolP256r1_n_prime : Nat.Prime brainpoolP256r1.n := Pratt.brainpoolP256r1_n_prime
theorem brainpoolP384r1_p_prime : Nat.Prime brainpoolP384r1.p := Pratt.brainpoolP384r1_p_prime
theorem brainpoolP384r1_n_prime : Nat.Prime brainpoolP384r1.n := Pratt.brainpoolP384r1_n_prime
theorem brainpoolP512r1_p_prime : Nat.Prime brainpoolP512r1.p := Pratt.brainpoolP512r1_p_prime
theorem brainpoolP512r1_n_prime : Nat.Prime brainpoolP512r1.n := Pratt.brainpoolP512r1_n_prime

instance : Fact (Nat.Prime secp256r1.p) := ⟨secp256r1_p_prime⟩
instance : Fact (Nat.Prime secp256r1.n) := ⟨secp256r1_n_prime⟩
instance : Fact (Nat.Prime secp384r1.p) := ⟨secp384r1_p_prime⟩
instance : Fact (Nat.Prime secp384r1.n) := ⟨secp384r1_n_prime⟩
instance : Fact (Nat.Prime secp192r1.p) := ⟨secp192r1_p_prime⟩
instance : Fact (Nat.Prime secp192r1.n) := ⟨secp192r1_n_prime⟩
instance : Fact (Nat.Prime secp224r1.p) := ⟨secp224r1_p_prime⟩
instance : Fact (Nat.Prime secp224r1.n) := ⟨secp224r1_n_prime⟩
instance : Fact (Nat.Prime secp521r1.p) := ⟨secp521r1_p_prime⟩
instance : Fact (Nat.Prime secp521r1.n) := ⟨secp521r1_n_prime⟩
instance : Fact (Nat.Prime secp256k1.p) := ⟨secp256k1_p_prime⟩
instance : Fact (Nat.Prime secp256k1.n) := ⟨secp256k1_n_prime⟩
instance : Fact (Nat.Prime brainpoolP256r1.p) := ⟨brainpoolP256r1_p_prime⟩
instance : Fact (Nat.Prime brainpoolP256r1.n) := ⟨brainpoolP256r1_n_prime⟩
instance : Fact (Nat.Prime brainpoolP384r1.p) := ⟨brainpoolP384r1_p_prime⟩
instance : Fact (Nat.Prime brainpoolP384r1.n) := ⟨brainpoolP384r1_n_prime⟩
instance : Fact (Nat.Prime brainpoolP512r1.p) := ⟨brainpoolP512r1_p_prime⟩
instance : Fact (Nat.Prime brainpoolP512r1.n) := ⟨brainpoolP512r1_n_prime⟩

/-! ### what remains a hypothesis -/

/-- the numbers WITHOUT a kernel-checked certificate, as `((curve, "p" | "n"), reason)`, the reason
being the composite cofactor on which the factoring search (trial division, rho, p-1, ECM with
gmpy2 on all cores) gave up. Their primality would stay a hypothesis of the C11 theorems, validated
per run by `gmpy2.is_prime(·, 64)`. CURRENTLY EMPTY: all 18 numbers are certified. (The two hard ones:
the order of secp521r1 — `n-1 ∋ P118`, `P118-1 = 2·161969·P109`, `P109-1 ∋ C91 = P36·P56`, split by
ECM at B1 = 3·10^6 — and the field prime of brainpoolP384r1 — `p-1 ∋ P74`, `P74-1 ∋ C66 = P32·P34`,
split by ECM at B1 = 10^6; both factorisations are in harness/consts/pratt_cache.json.) -/
def uncertifiedReasons : List ((String × String) × String) := []

def uncertified : List String :=
  uncertifiedReasons.map fun x => x.1.1 ++ "." ++ x.1.2 ++ ": " ++ x.2

/-- `uncertified` is exactly the set of numbers for which the regenerated status table
(`Consts.prattStatus`, harness/consts/pratt.py) reports no certificate. -/
theorem uncertified_complete :
    (Consts.prattStatus.filter fun t => !t.2.2.1).map (fun t => (t.1, t.2.1)) =
      uncertifiedReasons.map Prod.fst := by decide +kernel

/-- … and every other entry of the 18 has a `…_prime` theorem above (the status table has 18 rows,
two per curve of the factory, in factory order). -/
theorem status_rows : Consts.prattStatus.map (fun t => (t.1, t.2.1)) =
    Consts.ecCurveNames.flatMap (fun c => [(c, "p"), (c, "n")]) := by decide +kernel

/-! ### hypothesis-free consequences -/

section
variable (c : Curve) [Fact (Nat.Prime c.p)]

/-- over a prime field the evaluated parameter check makes `W c` an elliptic curve. -/
theorem isElliptic_of_paramsOK (h : c.paramsOK = true) : (W c).IsElliptic :=
  ⟨isUnit_iff_ne_zero.mpr (W_Δ_ne_zero c (generator_of_paramsOK c h).1)⟩

/-- … and, with `n` prime, `G` generates a subgroup of order exactly `n`; a scalar multiple
`k • G` vanishes iff `n ∣ k`. -/
theorem generator_order (h : c.paramsOK = true) (hn : Nat.Prime c.n) :
    addOrderOf (toPoint c c.g) = c.n ∧ ∀ k : Nat, k • toPoint c c.g = 0 ↔ c.n ∣ k := by
  have ho := (generator_of_paramsOK c h).2.2.2.2.2 hn
  exact ⟨ho, fun k => by rw [← ho]; exact addOrderOf_dvd_iff_nsmul_eq_zero.symm⟩
end

theorem secp256r1_elliptic : (W secp256r1).IsElliptic := isElliptic_of_paramsOK _ secp256r1_paramsOK
theorem secp256r1_generator_order : addOrderOf (toPoint secp256r1 secp256r1.g) = secp256r1.n :=
  (generator_order _ secp256r1_paramsOK secp256r1_n_prime).1

theorem secp384r1_elliptic : (W secp384r1).IsElliptic := isElliptic_of_paramsOK _ secp384r1_paramsOK
theorem secp384r1_generator_order : addOrderOf (toPoint secp384r1 secp384r1.g) = secp384r1.n :=
  (generator_order _ secp384r1_paramsOK secp384r1_n_prime).1

theorem secp192r1_elliptic : (W secp192r1).IsElliptic := isElliptic_of_paramsOK _ secp192r1_paramsOK
theorem secp192r1_generator_order : addOrderOf (toPoint secp192r1 secp192r1.g) = secp192r1.n :=
  (generator_order _ secp192r1_paramsOK secp192r1_n_prime).1

theorem secp224r1_elliptic : (W secp224r1).IsElliptic := isElliptic_of_paramsOK _ secp224r1_paramsOK
theorem secp224r1_generator_order : addOrderOf (toPoint secp224r1 secp224r1.g) = secp224r1.n :=
  (generator_order _ secp224r1_paramsOK secp224r1_n_prime).1

theorem secp521r1_elliptic : (W secp521r1).IsElliptic := isElliptic_of_paramsOK _ secp521r1_paramsOK
theorem secp521r1_generator_order : addOrderOf (toPoint secp521r1 secp521r1.g) = secp521r1.n :=
  (generator_order _ secp521r1_paramsOK secp521r1_n_prime).1

theorem secp256k1_elliptic : (W secp256k1).IsElliptic := isElliptic_of_paramsOK _ secp256k1_paramsOK
theorem secp256k1_generator_order : addOrderOf (toPoint secp256k1 secp256k1.g) = secp256k1.n :=
  (generator_order _ secp256k1_paramsOK secp256k1_n_prime).1

theorem brainpoolP256r1_elliptic : (W brainpoolP256r1).IsElliptic := isElliptic_of_paramsOK _ brainpoolP256r1_paramsOK
theorem brainpoolP256r1_generator_order : addOrderOf (toPoint brainpoolP256r1 brainpoolP256r1.g) = brainpoolP256r1.n :=
  (generator_order _ brainpoolP256r1_paramsOK brainpoolP256r1_n_prime).1

theorem brainpoolP384r1_elliptic : (W brainpoolP384r1).IsElliptic := isElliptic_of_paramsOK _ brainpoolP384r1_paramsOK
theorem brainpoolP384r1_generator_order : addOrderOf (toPoint brainpoolP384r1 brainpoolP384r1.g) = brainpoolP384r1.n :=
  (generator_order _ brainpoolP384r1_paramsOK brainpoolP384r1_n_prime).1

theorem brainpoolP512r1_elliptic : (W brainpoolP512r1).IsElliptic := isElliptic_of_paramsOK _ brainpoolP512r1_paramsOK
theorem brainpoolP512r1_generator_order : addOrderOf (toPoint brainpoolP512r1 brainpoolP512r1.g) = brainpoolP512r1.n :=
  (generator_order _ brainpoolP512r1_paramsOK brainpoolP512r1_n_prime).1

/-! ### non-vacuity -/

example : (2 : Nat) • toPoint secp256r1 secp256r1.g ≠ 0 := by
  intro h
  have := (generator_order secp256r1 secp256r1_paramsOK secp256r1_n_prime).2 2 |>.mp h
  exact absurd (Nat.le_of_dvd (by decide) this) (by decide +kernel)

end Paranoid.C11Primes
