/-
Props/C07.lean — "Healthy keys and signatures are never accused".

The main clause of C07 is probabilistic (keys from independent uniformly random primes). A
theorem can carry exactly this much, and nothing more is claimed:
 * closed-form checks: the contrapositives of C06 (a ≥ 2048-bit modulus with e = 65537 is
   not flagged by the size / exponent checks);
 * Fermat: primes far apart in the exact sense of C04 are not flagged;
 * shared-factor check: a modulus coprime to every other modulus of the batch is not flagged,
   and adding it changes nobody else's verdict (non-interference);
 * ROCA: the EXACT acceptance rates of the two fingerprints, by kernel computation on the
   regenerated tuples. NOTE: the ROCA fingerprint accepts ≈ 2^-30 of all residue vectors
   (2^-28 … 2^-27 of unit residues), which is NOT ≤ 2^-37 as the property's quantifier text
   assumes; the variant detector is exactly 2^-48 on unit residues;
 * factoring checks: soundness (C01) — a key is flagged with factors only if they really
   multiply to n, so a modulus that is a product of two primes p, q is never "factored"
   into anything but {p, q};
 * entry points: the return value is the OR over checks/artefacts (C16).
For the heuristic checks (continued fractions, gcd(n-1, m) gate, low Hamming weight, lattice
checks, HNP) no theorem bounds the false-positive probability and none is claimed: healthy
artefacts are pushed through the real entry points on every run (harness/corr/c07.py) and any
accusation is reported with the artefact as replay.
-/
import ParanoidModel.Props.C03
import ParanoidModel.Props.C04
import ParanoidModel.Props.C06
import ParanoidModel.Props.C01
import ParanoidModel.Props.C16
namespace Paranoid.C07
open Paranoid

/-- a modulus of at least 2048 bits is not flagged by the size check. -/
theorem healthy_size (n : Nat) (h : 2 ^ 2047 ≤ n) : sizesWeak n = false := by
  rw [← Bool.not_eq_true, C06.sizes_iff_bitLength]
  intro hb
  have hlt : n < 2 ^ bitLength n := lt_two_pow_bitLength n
  have : 2 ^ bitLength n ≤ 2 ^ 2047 := Nat.pow_le_pow_right (by decide) (by omega)
  omega

/-- exponent 65537 is not flagged, whatever its byte encoding. -/
theorem healthy_exponent (eBytes : List Nat) (h : bytes2int eBytes = 65537) :
    checkExponents eBytes = false := by
  rw [← Bool.not_eq_true, C06.exponent_iff]
  simp [h]

/-- primes far apart (Fermat distance at least the step bound) ⇒ the Fermat check passes. -/
theorem healthy_fermat {p q : Nat} (hp : p.Prime) (hq : q.Prime) (hpq : p < q)
    (hpo : p % 2 = 1) (hqo : q % 2 = 1) (steps : Nat)
    (hfar : steps ≤ (p + q) / 2 - (Nat.sqrt (p * q) + 1)) :
    vFermat (p * q) steps = KeyVerdict.pass := by
  unfold vFermat
  rw [C04.fermat_silent hp hq hpq hpo hqo steps hfar]

/-- a modulus coprime to every other modulus of the batch (copies of itself allowed) is not
flagged by the shared-factor check and no factor is recorded. -/
theorem healthy_gcd (ns : List Nat) (n : Nat)
    (h : ∀ m ∈ ns, m = n ∨ Nat.Coprime n m) :
    checkGCDKeyR ns n (entry ns.toFinset 1 n) = (false, []) := by
  rw [C03.identical_never_accuse ns n h]
  simp [checkGCDKeyR]

/-- non-interference: adding a modulus coprime to all others changes nobody else's gcd. -/
theorem healthy_neighbour_irrelevant (values : List Nat) (w : Nat) (other : Option Nat)
    (hpos : ∀ v ∈ values, 0 < v) (hw : 0 < w) (hc : ∀ v ∈ values, Nat.Coprime v w) :
    ∃ g r, batchGCD values other = .ok r ∧ batchGCD (w :: values) other = .ok (g :: r) :=
  C03.coprime_key_irrelevant values w other hpos hw hc

/-- a check that attaches factors to a semiprime attaches its two primes: nothing else
multiplies to `n` (so "factored" verdicts on healthy keys cannot be fabricated). -/
theorem factored_semiprime_only {p q : Nat} (hp : p.Prime) (hq : q.Prime)
    (fs : List Nat) (h : ProperSplit (p * q) fs) : fs = [p, q] ∨ fs = [q, p] :=
  FwgC.properSplit_primes hp hq h

/-- exact ROCA acceptance rates (re-exported from C06; see the header for what they mean). -/
theorem roca_rates :
    ((Consts.rocaPrimes.map (rocaAcceptedMod Consts.rocaF4)).prod * 2 ^ 30 < Consts.rocaPrimes.prod ∧
      Consts.rocaPrimes.prod < (Consts.rocaPrimes.map (rocaAcceptedMod Consts.rocaF4)).prod * 2 ^ 31) ∧
    (Consts.rocaVariantPrimes.map qrAcceptedMod).prod * 2 ^ 37 < Consts.rocaVariantPrimes.prod :=
  ⟨C06.roca_fp_rate, C06.rocaVariant_fp_rate_37⟩

/-- entry points: on fresh artefacts the return value is True exactly when some artefact ends
up weak — so a batch of artefacts none of which is accused returns False. -/
theorem entry_point_or (var : Variant) (ver : String) (ec : List CheckSpec)
    (steps : List Step) (arts arts' : List Artifact) (r : Bool)
    (hfresh : ∀ a ∈ arts, a.info.weak = false)
    (h : checkArtifacts var ver ec steps arts = .ok (arts', r)) :
    r = true ↔ ∃ a' ∈ arts', a'.info.weak = true :=
  C16.fresh_return_iff var ver ec steps arts arts' r hfresh h

/-! non-vacuity -/
example : sizesWeak (2 ^ 2047) = false := healthy_size _ (Nat.le_refl _)
example : checkExponents [0, 1, 0, 1] = false := healthy_exponent _ (by decide)

end Paranoid.C07
