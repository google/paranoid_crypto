/-
Props/C03.lean — "Shared-factor detection across a batch is exact for every batch shape".
Property theorems only; helper lemmas live in Proofs/NTheoryTree.lean and Proofs/BatchGcd.lean.

All statements are universally quantified over the batch (`List Nat`, any length, any
multiplicities), over `other_values_prod` and over the enumeration order `u` that Python's
`list(set(values))` may produce.  Hypothesis throughout: the values are positive (for a zero
among ≥ 2 distinct values the code raises `ZeroDivisionError` — theorem `zero_value_raises`).

`batchGCDWith`/`batchGCD`/`checkGCD`/`checkGCDN1` model the code AFTER
`fixes/D1-batchgcd-empty.diff`; `batchGCDPinnedWith` is the pinned code (they coincide on
every non-empty batch, `pinned_agrees`; the pinned code raises `IndexError` on `[]`,
`empty_batch_pinned_raises`).
-/
import ParanoidModel.Proofs.BatchGcd
namespace Paranoid.C03
open Paranoid

/-! ## FastProduct and ExtendedProductTree -/

/-- `FastProduct(l) = ∏ l` for every list. -/
theorem fastProduct_eq_prod (l : List Nat) : fastProduct l = l.prod :=
  Paranoid.fastProduct_eq_prod l

/-- ★ product-tree invariant: one pairing step of `ExtendedProductTree` preserves `∏ v` and
`S v t = Σ_i t_i ∏_{j≠i} v_j` (`wsum`, defined by `S (v::vs) (t::ts) = t * ∏ vs + v * S vs ts`). -/
theorem productTree_inv (t v : List Nat) (h : t.length = v.length) :
    (pairProd v).prod = v.prod ∧ wsum (pairProd v) (pairT t v) = wsum v t :=
  ⟨pairProd_prod v, wsum_pair t v h⟩

/-- `sumOthers u` is literally `Σ_i ∏_{j≠i} u_j`. -/
theorem sumOthers_eq_sum (u : List Nat) :
    sumOthers u = ((List.range u.length).map fun i => (u.eraseIdx i).prod).sum := by
  induction u with
  | nil => simp [sumOthers]
  | cons a u ih =>
    simp only [sumOthers, List.length_cons, List.range_succ_eq_map, List.map_cons,
      List.eraseIdx_zero, List.tail_cons, List.sum_cons, List.map_map, ih]
    congr 1
    rw [← List.sum_map_mul_left]
    congr 1

/-- ★ `ExtendedProductTree(u)` for every non-empty `u` returns `T = Σ_i ∏_{j≠i} u_j` and a tree
whose bottom level is `u`, whose top level is `[∏ u]`, and in which every level is the pairwise
product (`zip_longest(…, fillvalue=1)`) of the level below. -/
theorem extendedProductTree_spec (u : List Nat) (hne : u ≠ []) :
    ∃ tree, extendedProductTree u = .ok (tree, sumOthers u) ∧ tree.head? = some u ∧
      tree.getLast? = some [u.prod] ∧ Chain tree := by
  refine ⟨levels u, extendedProductTree_eq u hne, by simp [levels], ?_, levels_chain u⟩
  rw [List.getLast?_eq_some_getLast (levels_ne_nil u), levels_getLast u hne]

/-- pinned behaviour (D1): `ExtendedProductTree` raises — `IndexError` — exactly on `[]`. -/
theorem extendedProductTree_raises_iff (u : List Nat) :
    (∃ e, extendedProductTree u = .error e) ↔ u = [] := by
  constructor
  · rintro ⟨e, he⟩
    by_contra hne
    rw [extendedProductTree_eq u hne] at he
    cases he
  · rintro rfl; exact ⟨_, Paranoid.extendedProductTree_nil⟩

theorem extendedProductTree_empty : extendedProductTree [] = .error .indexError :=
  extendedProductTree_nil

/-- ★ `T_mod`: `T % v = (∏ of the other leaves) % v` for every leaf `v` (first occurrence
removed; needs neither positivity nor distinctness). -/
theorem T_mod (u : List Nat) (v : Nat) (hv : v ∈ u) :
    sumOthers u % v = (u.erase v).prod % v :=
  sumOthers_modEq u v hv

/-- the form in the code's docstring: `T % v == P // v % v` for positive leaves. -/
theorem T_mod_div (u : List Nat) (v : Nat) (hv : v ∈ u) (hpos : 0 < v) :
    sumOthers u % v = u.prod / v % v := by
  rw [T_mod u v hv, ← List.prod_erase hv, Nat.mul_div_cancel_left _ hpos]

/-- ★ remainder-tree invariant: walking the product tree of `u` from the root down, starting
with `[X]`, raises nothing and ends with `rem_j ≡ X (mod u_j)` at every leaf. -/
theorem remainder_inv (X : Nat) (u : List Nat) (hne : u ≠ []) (hpos : ∀ x ∈ u, 0 < x) :
    ∃ rems, remTree (levels u).reverse [X] = .ok rems ∧
      List.Forall₂ (fun r n => r ≡ X [MOD n]) rems u :=
  remTree_inv X u hne hpos

/-- one level of it: correct parents give correct children. -/
theorem remainder_step (X : Nat) (level prev : List Nat) (hpos : ∀ x ∈ level, 0 < x)
    (h : List.Forall₂ (fun r n => r ≡ X [MOD n]) prev (pairProd level)) :
    ∃ rems, remStep level prev = .ok rems ∧
      List.Forall₂ (fun r n => r ≡ X [MOD n]) rems level :=
  remStep_inv X level prev hpos h

/-! ## BatchGCD -/

/-- ★★ `batchGCD_spec`: for every batch of positive values, every `other_values_prod` and every
duplicate-free enumeration `u` of the value set, `BatchGCD` returns, for each position, the gcd
of that value with the product of the OTHER DISTINCT values times `other'`
(`other' = 1` for `None`/`0`). Includes the empty batch (repaired code). -/
theorem batchGCD_spec (values u : List Nat) (other : Option Nat)
    (hpos : ∀ v ∈ values, 0 < v) (_hnd : u.Nodup) (hmem : ∀ x, x ∈ u ↔ x ∈ values) :
    batchGCDWith u values other =
      .ok (values.map fun v => Nat.gcd v ((u.erase v).prod * otherVal other)) :=
  batchGCDWith_spec u values other (fun x hx => hpos x ((hmem x).1 hx))
    (fun v hv => (hmem v).2 hv)

/-- the same with the product taken over the value SET: the result is a function of
`(v, set(values), other)` only. -/
theorem batchGCD_spec_set (values u : List Nat) (other : Option Nat)
    (hpos : ∀ v ∈ values, 0 < v) (hnd : u.Nodup) (hmem : ∀ x, x ∈ u ↔ x ∈ values) :
    batchGCDWith u values other =
      .ok (values.map fun v =>
        Nat.gcd v ((∏ x ∈ values.toFinset.erase v, x) * otherVal other)) :=
  batchGCDWith_spec_set u values other hpos hnd hmem

/-- the executable instance used by the correspondence check (first-occurrence order). -/
theorem batchGCD_exec_spec (values : List Nat) (other : Option Nat)
    (hpos : ∀ v ∈ values, 0 < v) :
    batchGCD values other = .ok (values.map (entry values.toFinset (otherVal other))) :=
  batchGCDWith_spec_set _ values other hpos (nodup_eraseDups values) (fun _ => List.mem_eraseDups)

/-- the unspecified iteration order of Python's `set` does not matter. -/
theorem order_independent (values u u' : List Nat) (other : Option Nat)
    (hpos : ∀ v ∈ values, 0 < v) (hnd : u.Nodup) (hmem : ∀ x, x ∈ u ↔ x ∈ values)
    (hnd' : u'.Nodup) (hmem' : ∀ x, x ∈ u' ↔ x ∈ values) :
    batchGCDWith u values other = batchGCDWith u' values other := by
  rw [batchGCDWith_spec_set u values other hpos hnd hmem,
    batchGCDWith_spec_set u' values other hpos hnd' hmem']

/-- the pinned code is the repaired code on every non-empty batch. -/
theorem pinned_agrees (values u : List Nat) (other : Option Nat) (h : values ≠ []) :
    batchGCDPinnedWith u values other = batchGCDWith u values other :=
  (batchGCDWith_eq_pinned u values other h).symm

/-- hence the spec holds for the pinned code on non-empty batches. -/
theorem batchGCD_spec_pinned (values u : List Nat) (other : Option Nat) (hne : values ≠ [])
    (hpos : ∀ v ∈ values, 0 < v) (hnd : u.Nodup) (hmem : ∀ x, x ∈ u ↔ x ∈ values) :
    batchGCDPinnedWith u values other =
      .ok (values.map fun v => Nat.gcd v ((u.erase v).prod * otherVal other)) := by
  rw [pinned_agrees values u other hne]
  exact batchGCD_spec values u other hpos hnd hmem

/-- ★ empty batch, repaired code: empty result, whatever `other`. -/
theorem empty_batch (u : List Nat) (other : Option Nat) :
    batchGCDWith u [] other = .ok [] ∧ batchGCD [] other = .ok [] := ⟨rfl, rfl⟩

/-- D1, pinned code: the empty batch raises `IndexError` (the only enumeration of `set([])` is
`[]`). -/
theorem empty_batch_pinned_raises (u : List Nat) (other : Option Nat)
    (hmem : ∀ x, x ∈ u ↔ x ∈ ([] : List Nat)) :
    batchGCDPinnedWith u [] other = .error .indexError := by
  have : u = [] := List.eq_nil_iff_forall_not_mem.2 fun x hx => by simpa using (hmem x).1 hx
  subst this
  exact batchGCDPinnedWith_nil [] other

/-- the positivity hypothesis cannot be dropped: a zero among ≥ 2 distinct values raises. -/
theorem zero_value_raises (u values : List Nat) (other : Option Nat)
    (h2 : 2 ≤ u.length) (h0 : 0 ∈ u) :
    batchGCDPinnedWith u values other = .error .zeroDivision := by
  have hne : u ≠ [] := by intro h; simp [h] at h2
  unfold batchGCDPinnedWith
  rw [extendedProductTree_eq u hne]
  simp only [bind, Except.bind, remTree_zero _ u h2 (List.prod_eq_zero h0)]

/-! ## corollaries: what a flag means -/

/-- `CheckGCD` flags `gcd != 1`; for a positive modulus that is `gcd > 1`. -/
theorem flagged_iff_gt_one (s : Finset Nat) (o v : Nat) (hv : 0 < v) :
    entry s o v ≠ 1 ↔ 1 < Nat.gcd v ((∏ x ∈ s.erase v, x) * o) := by
  have := entry_pos s o v hv
  unfold entry at this ⊢
  omega

/-- ★ a key is flagged exactly when its modulus shares a divisor > 1 with ANOTHER DISTINCT
modulus of the batch (or with `other`). -/
theorem flagged_iff_shares (s : Finset Nat) (o v : Nat) :
    entry s o v ≠ 1 ↔ Nat.gcd v o ≠ 1 ∨ ∃ w ∈ s, w ≠ v ∧ Nat.gcd v w ≠ 1 := by
  rw [Ne, entry_eq_one_iff]
  simp only [Nat.coprime_iff_gcd_eq_one, not_and_or, not_forall, exists_prop]

/-- ★ identical moduli never accuse each other: copies of `v`, and values coprime to `v`,
contribute nothing — the entry is 1. -/
theorem identical_never_accuse (values : List Nat) (v : Nat)
    (h : ∀ w ∈ values, w = v ∨ Nat.Coprime v w) : entry values.toFinset 1 v = 1 := by
  rw [entry_eq_one_iff]
  refine ⟨Nat.coprime_one_right v, fun w hw hne => ?_⟩
  exact (h w (List.mem_toFinset.1 hw)).resolve_left hne

/-- a batch of `k` copies of one modulus: all gcds are 1, nothing is flagged. -/
theorem all_identical (k n : Nat) (hn : 0 < n) :
    batchGCD (List.replicate k n) none = .ok (List.replicate k 1) := by
  rw [batchGCD_exec_spec _ none (fun v hv => by rw [List.eq_of_mem_replicate hv]; exact hn)]
  congr 1
  rw [List.eq_replicate_iff]
  refine ⟨by simp, fun b hb => ?_⟩
  obtain ⟨v, hv, rfl⟩ := List.mem_map.1 hb
  apply identical_never_accuse
  intro w hw
  rw [List.eq_of_mem_replicate hv, List.eq_of_mem_replicate hw]
  exact Or.inl rfl

/-- ★ permutation-equivariance (indeed: dependence on the value set only). Two batches with the
same set of values — in particular a batch and any permutation of it — are answered by one and
the same function of the value, applied position by position. -/
theorem same_set_same_function (values values' : List Nat) (other : Option Nat)
    (hpos : ∀ v ∈ values, 0 < v) (hset : ∀ x, x ∈ values' ↔ x ∈ values) :
    ∃ f : Nat → Nat, batchGCD values other = .ok (values.map f) ∧
      batchGCD values' other = .ok (values'.map f) := by
  refine ⟨entry values.toFinset (otherVal other), batchGCD_exec_spec values other hpos, ?_⟩
  rw [batchGCD_exec_spec values' other (fun v hv => hpos v ((hset v).1 hv)),
    List.toFinset.ext hset]

theorem perm_equivariant (values values' : List Nat) (other : Option Nat)
    (hpos : ∀ v ∈ values, 0 < v) (hp : values.Perm values') :
    ∃ r r', batchGCD values other = .ok r ∧ batchGCD values' other = .ok r' ∧
      (values.zip r).Perm (values'.zip r') := by
  obtain ⟨f, h1, h2⟩ := same_set_same_function values values' other hpos
    (fun x => hp.symm.mem_iff)
  refine ⟨_, _, h1, h2, ?_⟩
  rw [← List.map_prod_left_eq_zip, ← List.map_prod_left_eq_zip]
  exact hp.map _

/-- ★ adding a value coprime to `v` to the batch leaves `v`'s entry unchanged. -/
theorem coprime_value_irrelevant (s : Finset Nat) (o v w : Nat) (h : Nat.Coprime v w) :
    entry (insert w s) o v = entry s o v := by
  unfold entry
  by_cases hwv : w = v
  · subst hwv; rw [Finset.erase_insert_eq_erase]
  · rw [Finset.erase_insert_of_ne hwv]
    by_cases hmem : w ∈ s.erase v
    · rw [Finset.insert_eq_of_mem hmem]
    · rw [Finset.prod_insert hmem, Nat.mul_assoc]
      exact Nat.Coprime.gcd_mul_left_cancel_right _ h.symm

/-- list form: prepending a modulus coprime to every value changes no existing entry. -/
theorem coprime_key_irrelevant (values : List Nat) (w : Nat) (other : Option Nat)
    (hpos : ∀ v ∈ values, 0 < v) (hw : 0 < w) (hc : ∀ v ∈ values, Nat.Coprime v w) :
    ∃ g r, batchGCD values other = .ok r ∧ batchGCD (w :: values) other = .ok (g :: r) := by
  refine ⟨entry (insert w values.toFinset) (otherVal other) w, _,
    batchGCD_exec_spec values other hpos, ?_⟩
  rw [batchGCD_exec_spec (w :: values) other (by
    intro v hv
    rcases List.mem_cons.1 hv with rfl | h
    · exact hw
    · exact hpos v h)]
  simp only [List.map_cons, List.toFinset_cons]
  congr 2
  apply List.map_congr_left
  intro v hv
  exact coprime_value_irrelevant _ _ v w (hc v hv)

/-! ## CheckGCD -/

/-- ★ `CheckGCD` on positive moduli: key `n` gets `checkGCDKeyR ns n g` with
`g = gcd(n, ∏ other distinct moduli)`; `any_weak` is the disjunction of the flags. -/
theorem checkGCD_spec (ns : List Nat) (hpos : ∀ n ∈ ns, 0 < n) :
    checkGCD ns = .ok
      ((ns.map fun n => checkGCDKeyR ns n (entry ns.toFinset 1 n)).any (·.1),
        ns.map fun n => checkGCDKeyR ns n (entry ns.toFinset 1 n)) := by
  unfold checkGCD checkGCDV
  rw [batchGCD_exec_spec ns none hpos]
  simp only [bind, Except.bind, otherVal, List.zipWith_map_right, List.zipWith_self]
  rfl

/-- the per-key record: flagged iff `g ≠ 1`; then the recorded factors START with `[g, n / g]`
— the recorded factor is that greatest common divisor — followed, only when `g = n`, by a
proper split found from a single other modulus (`fix:` D2). -/
theorem checkGCDKey_spec (ns : List Nat) (n g : Nat) :
    ((checkGCDKeyR ns n g).1 = true ↔ g ≠ 1) ∧
      (g ≠ 1 → (checkGCDKeyR ns n g).2 = [g, n / g] ++ extraSplit ns n g) ∧
      (g ≠ 1 → g ≠ n → (checkGCDKeyR ns n g).2 = [g, n / g]) ∧
      (g = 1 → (checkGCDKeyR ns n g).2 = []) := by
  unfold checkGCDKeyR
  by_cases h : g = 1
  · simp [h]
  · simp only [h, if_false, ne_eq, not_false_eq_true, forall_const, true_and, false_implies,
      and_true]
    intro hne
    simp [extraSplit, hne]

/-- ★ the recorded factors of a flagged key: `g ∣ n`, `g * (n / g) = n`, and the record
degenerates to `{n, 1}` exactly when `n` divides the product of the other distinct moduli
(e.g. nested moduli, or the batch `[pq, pr, qs]` — defect D2 of DESIGN section 6). -/
theorem checkGCD_factors (s : Finset Nat) (n : Nat) :
    entry s 1 n ∣ n ∧ entry s 1 n * (n / entry s 1 n) = n ∧
      (entry s 1 n = n ↔ n ∣ ∏ x ∈ s.erase n, x) := by
  refine ⟨entry_dvd s 1 n, Nat.mul_div_cancel' (entry_dvd s 1 n), ?_⟩
  rw [entry_eq_self_iff, Nat.mul_one]

/-- ★ (code after `fix:` D2) every recorded value of a flagged key divides the modulus, and
at least one is a PROPER divisor unless the modulus divides another distinct modulus of the
batch — the last clause of property C01 for `CheckGCD`. -/
theorem checkGCD_recorded_proper (ns : List Nat) (n : Nat) (hn : 1 < n)
    (hflag : entry ns.toFinset 1 n ≠ 1) :
    (∀ f ∈ (checkGCDKeyR ns n (entry ns.toFinset 1 n)).2, f ∣ n) ∧
    ((∃ f ∈ (checkGCDKeyR ns n (entry ns.toFinset 1 n)).2, 1 < f ∧ f < n) ∨
      ∃ m ∈ ns, m ≠ n ∧ n ∣ m) := by
  refine ⟨?_, checkGCDKeyR_proper ns n hn hflag⟩
  intro f hf
  rw [(checkGCDKey_spec ns n _).2.1 hflag] at hf
  rcases List.mem_append.mp hf with h | h
  · simp only [List.mem_cons, List.not_mem_nil, or_false] at h
    rcases h with rfl | rfl
    · exact entry_dvd _ _ _
    · exact Nat.div_dvd_of_dvd (entry_dvd _ _ _)
  · exact extraSplit_dvd ns n _ f h

/-- `any_weak` is true iff some key is flagged iff some modulus shares a divisor with another
distinct modulus. -/
theorem checkGCD_any_weak (ns : List Nat) (hpos : ∀ n ∈ ns, 0 < n) (w : Bool)
    (per : List (Bool × List Nat)) (h : checkGCD ns = .ok (w, per)) :
    w = true ↔ ∃ n ∈ ns, ∃ m ∈ ns, m ≠ n ∧ Nat.gcd n m ≠ 1 := by
  rw [checkGCD_spec ns hpos] at h
  simp only [Except.ok.injEq, Prod.mk.injEq] at h
  rw [← h.1, List.any_eq_true]
  constructor
  · rintro ⟨k, hk, hk1⟩
    obtain ⟨n, hn, rfl⟩ := List.mem_map.1 hk
    rw [(checkGCDKey_spec ns n _).1, flagged_iff_shares] at hk1
    rcases hk1 with h1 | ⟨m, hm, hne, hg⟩
    · simp at h1
    · exact ⟨n, hn, m, List.mem_toFinset.1 hm, hne, hg⟩
  · rintro ⟨n, hn, m, hm, hne, hg⟩
    refine ⟨_, List.mem_map.2 ⟨n, hn, rfl⟩, ?_⟩
    rw [(checkGCDKey_spec ns n _).1, flagged_iff_shares]
    exact Or.inr ⟨m, List.mem_toFinset.2 hm, hne, hg⟩

/-! ## CheckGCDN1 -/

/-- ★ `CheckGCDN1(bound)` on moduli `≥ 2`: key `n` is flagged iff
`gcd(n-1, ∏ {n'-1 : n' in the batch, n'-1 ≠ n-1}) ≥ bound`, and then `[gcd]` is attached. -/
theorem checkGCDN1_spec (bound : Nat) (ns : List Nat) (hpos : ∀ n ∈ ns, 2 ≤ n) :
    checkGCDN1 bound ns = .ok
      ((ns.map fun n => checkGCDN1Key bound (entry (ns.map (· - 1)).toFinset 1 (n - 1))).any (·.1),
        ns.map fun n => checkGCDN1Key bound (entry (ns.map (· - 1)).toFinset 1 (n - 1))) := by
  unfold checkGCDN1 checkGCDN1V
  have hp : ∀ v ∈ ns.map (· - 1), 0 < v := by
    intro v hv
    obtain ⟨n, hn, rfl⟩ := List.mem_map.1 hv
    have := hpos n hn
    omega
  rw [batchGCD_exec_spec _ none hp]
  simp only [bind, Except.bind, otherVal, List.map_map]
  rfl

theorem checkGCDN1Key_spec (bound g : Nat) :
    ((checkGCDN1Key bound g).1 = true ↔ bound ≤ g) ∧
      (bound ≤ g → (checkGCDN1Key bound g).2 = [g]) ∧
      (g < bound → (checkGCDN1Key bound g).2 = []) := by
  unfold checkGCDN1Key
  by_cases h : bound ≤ g <;> simp [h]

/-! ## empty batch at check level (repaired code) -/

theorem checkGCD_empty : checkGCD [] = .ok (false, []) := rfl

theorem checkGCDN1_empty (bound : Nat) : checkGCDN1 bound [] = .ok (false, []) := rfl

/-- pinned code at check level: identical on non-empty batches, `IndexError` on the empty one
(this is what `CheckAllRSA([])` propagates). -/
theorem check_pinned_agrees (bound : Nat) (ns : List Nat) (h : ns ≠ []) :
    checkGCDPinned ns = checkGCD ns ∧ checkGCDN1Pinned bound ns = checkGCDN1 bound ns := by
  unfold checkGCDPinned checkGCD checkGCDN1Pinned checkGCDN1 checkGCDV checkGCDN1V
  rw [batchGCDPinned_eq ns none h, batchGCDPinned_eq (ns.map (· - 1)) none (by simpa using h)]
  exact ⟨rfl, rfl⟩

theorem check_pinned_empty_raises (bound : Nat) :
    checkGCDPinned [] = .error .indexError ∧ checkGCDN1Pinned bound [] = .error .indexError := by
  unfold checkGCDPinned checkGCDN1Pinned checkGCDV checkGCDN1V batchGCDPinned
  simp only [List.map_nil, List.eraseDups_nil, batchGCDPinnedWith_nil]
  exact ⟨rfl, rfl⟩

/-! ## non-vacuity: concrete, non-trivial instances of the hypotheses and conclusions -/

-- shared primes, a duplicate, a nested modulus (21 ∣ 3·7·…), `other` given
example : batchGCD [6, 35, 6, 21, 143] (some 11) = .ok [3, 7, 3, 21, 11] := by decide +kernel
example : batchGCDWith [143, 21, 6, 35] [6, 35, 6, 21, 143] (some 11) = .ok [3, 7, 3, 21, 11] := by
  decide +kernel
example : ∀ v ∈ [6, 35, 6, 21, 143], 0 < v := by decide
example : [143, 21, 6, 35].Nodup ∧ ∀ x, x ∈ [143, 21, 6, 35] ↔ x ∈ [6, 35, 6, 21, 143] := by
  refine ⟨by decide, fun x => ?_⟩
  simp only [List.mem_cons, List.not_mem_nil, or_false]
  constructor
  · rintro (rfl | rfl | rfl | rfl) <;> simp
  · rintro (rfl | rfl | rfl | rfl | rfl) <;> simp
example : extendedProductTree [2, 3, 5] = .ok ([[2, 3, 5], [6, 5], [30]], 31) := by decide +kernel
example : sumOthers [2, 3, 5] = 31 ∧ 31 % 5 = ([2, 3, 5].erase 5).prod % 5 := by decide
example : batchGCD [15, 15, 15] none = .ok [1, 1, 1] := by decide +kernel
example : batchGCDPinned [] none = .error .indexError := by decide +kernel
example : batchGCD [0, 5] none = .error .zeroDivision := by decide +kernel
example : checkGCD [6, 15, 6, 221] = .ok (true, [(true, [3, 2]), (true, [3, 5]), (true, [3, 2]),
    (false, [])]) := by decide +kernel
-- D2 shape: 15 = 3·5 divides 6·35: the record starts 15, 1; `fix:` D2 appends 3, 5
example : checkGCD [6, 15, 35] = .ok (true, [(true, [3, 2]), (true, [15, 1, 3, 5]), (true, [5, 7])]) := by
  decide +kernel
example : checkGCDN1 6 [13, 19, 11] = .ok (true, [(true, [12]), (true, [6]), (false, [])]) := by
  decide +kernel
example : ∀ n ∈ [13, 19, 11], 2 ≤ n := by decide

end Paranoid.C03
