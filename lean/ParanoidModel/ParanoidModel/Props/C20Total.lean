/-
Props/C20Total.lean — C20, TOTAL correctness of the parametrised generators
(`TruncLcgRand(k)`, `Mwc(a, b)`, `Lehmer(a, mod, bits)`, `SubsetSum(bits, k)`).

Props/C20.lean has the partial-correctness form `model = .ok r → r < 2^n` for these four classes.
Here: `Rng.entryOk` (Model/RngTotal.lean) is a decidable predicate on the
constructor parameters, and

* `entry_total`: `entryOk e` ⇒ constructor and `RandomBits(n, seed)` RETURN a value `r`, for
  every `n` (also `n = 0`), every seed, and the range clause holds (`r < 2^n`; for the shipped
  `TruncLcgRand`, known finding D5, `r < 2^(8⌈n/8⌉)` and `r < 2^n` when `8 ∣ n`);
* `entry_not_ok`: `¬ entryOk e`, `n ≥ 1` ⇒ the outcome is `expectedFailure e`: the Python
  exception, or NON-TERMINATION;
* `entry_n_zero`: what `n = 0` does for the parameters that are not ok.

What the REAL code does (run against /repo HEAD through harness/shims.py, 2 s alarm), seeded and unseeded unless noted:

| parameters                              | `RandomBits(n ≥ 1)`            | `RandomBits(0)`            |
|-----------------------------------------|--------------------------------|----------------------------|
| `TruncLcgRand(0)` (also `-7 … -1`)      | `ZeroDivisionError`            | `ZeroDivisionError`        |
| `TruncLcgRand(k ≤ -8)`                  | `ValueError` / `IndexError`    | `ValueError`               |
| `Mwc(a, b)`, `b` not a power of 256     | constructor: `ValueError`      | (constructor)              |
| `Mwc(a, 1)`                             | `ZeroDivisionError`            | `ZeroDivisionError`        |
| `Mwc(a, 256^j)`, `j ≥ 1`, any int `a`   | value `< 2^n`                  | `0`                        |
| `Lehmer(bits % 8 ≠ 0)`                  | constructor: `ValueError`      | (constructor)              |
| `Lehmer(mod = 0)` (any `bits`)          | `ZeroDivisionError`            | `0` (unseeded: `ZeroDivisionError`) |
| `Lehmer(bits = 0)`, `mod ≠ 0`           | **does not terminate**         | `0`                        |
| `Lehmer(bits = -8k)`                    | `ValueError` (negative shift)  | `0`                        |
| `Lehmer(mod < 0)`, `Lehmer(a ≤ 0)`      | value `< 2^n`                  | `0`                        |
| `SubsetSum(bits % 8 ≠ 0, ·)`            | constructor: `ValueError`      | (constructor)              |
| `SubsetSum(bits, 0)`, `SubsetSum(bits, k<0)` | **does not terminate**    | `0`                        |
| `SubsetSum(0, k)`                       | **does not terminate**         | `0`                        |
| `SubsetSum(-8k, k' ≥ 1)`                | `ValueError` (`os.urandom(<0)`) | `ValueError`              |
| any generator, `n < 0`                  | `ValueError` / `IndexError` / `SystemError` (shake128) — or the value `0` for `urandom`, `shake128` (`n = -1`), `trunclcg*`/`java` (`n = -8`), `xorshift*`/`xorwow` (`n = -64`), and a 3-byte value for the numpy generators (`n = -8`) | |

The model's parameters and `n` are natural numbers; the rows with negative parameters / negative
`n` are NOT modelled (the property asks `n ≥ 1`; no registry entry has such parameters —
`C20.registry_covered`); they are probed on the real code by harness/corr/c20.py
(`boundary`).  None of the non-terminating parameters is in the registry `rng.RNGS`.
-/
import ParanoidModel.Proofs.RngTotal
import ParanoidModel.Props.C20
namespace Paranoid.C20Total
open Paranoid Paranoid.Rng

/-! ## TruncLcgRand -/

/-- `TruncLcgRand(k)`, `k ≥ 1`: always returns; the shipped (pinned, D5) variant stays below
`2^(8⌈n/8⌉)` and below `2^n` when `8 ∣ n`; the repaired variant is below `2^n`. -/
theorem truncLcg_total (v : Variant) (k : Nat) (hk : 0 < k) (n : Nat) (seed : Int) :
    ∃ r, truncLcg v (truncLcgInit k) n seed = .ok r ∧ r < 2 ^ (8 * ((n + 7) / 8)) ∧
      (n % 8 = 0 → r < 2 ^ n) ∧ (v = .repaired → r < 2 ^ n) := by
  refine ⟨_, truncLcg_pos v k hk n seed, ?_⟩
  cases v with
  | pinned =>
    obtain ⟨h1, h2⟩ := truncLcgCore_pinned_lt (truncLcgInit k) hk n seed
    exact ⟨h1, h2, fun h => by cases h⟩
  | repaired =>
    have h := truncLcgCore_repaired_lt (truncLcgInit k) hk n seed
    refine ⟨?_, fun _ => h, fun _ => h⟩
    exact Nat.lt_of_lt_of_le h (Nat.pow_le_pow_right (by decide) (by omega))

/-- `TruncLcgRand(0).RandomBits(n)`: `ZeroDivisionError`, every `n`, seeded or not. -/
theorem truncLcg_zero_raises (v : Variant) (n : Nat) (seed : Int) :
    truncLcg v (truncLcgInit 0) n seed = .error .zeroDivision :=
  truncLcg_zero v n seed

/-! ## Mwc -/

/-- the constructor accepts exactly the powers of 256 (`b = 1 = 256^0` included) and raises
`ValueError` otherwise (`b = 0`: the negative shift count is a `ValueError` as well). -/
theorem mwc_constructor (a b : Nat) :
    ((∃ p, mwcInit a b = .ok p) ↔ ∃ j, b = 256 ^ j) ∧
      ((¬ ∃ j, b = 256 ^ j) → mwcInit a b = .error .valueError) :=
  ⟨mwcInit_isOk_iff a b, mwcInit_error a b⟩

/-- `Mwc(a, 256^j)`, `j ≥ 1`: always returns a value below `2^n`. -/
theorem mwc_total (a j : Nat) (hj : 1 ≤ j) (n : Nat) (seed : Int) :
    ∃ p r, mwcInit a (256 ^ j) = .ok p ∧ mwc p n seed = .ok r ∧ r < 2 ^ n := by
  have hm : mwc ⟨a, 256 ^ j, (a : Int) * (256 ^ j : Nat) - 1, 8 * j⟩ n seed
      = .ok (mwcCore ⟨a, 256 ^ j, (a : Int) * (256 ^ j : Nat) - 1, 8 * j⟩ n seed) := by
    unfold mwc
    rw [if_neg]
    show ¬ 8 * j = 0
    omega
  exact ⟨_, _, mwcInit_pow256 a j, hm, finishLE_lt _ n⟩

/-- `Mwc(a, 1)`: the constructor returns (`output_bits = 0`), `RandomBits` raises
`ZeroDivisionError` (`range((n + 0 - 1) // 0)`) for every `n`. -/
theorem mwc_b_one_raises (a n : Nat) (seed : Int) :
    ∃ p, mwcInit a 1 = .ok p ∧ mwc p n seed = .error .zeroDivision :=
  mwc_one a n seed

/-! ## Lehmer -/

theorem lehmer_constructor (a m bits : Nat) :
    (bits % 8 ≠ 0 → lehmerInit a m bits = .error .valueError) ∧
      (bits % 8 = 0 → lehmerInit a m bits = .ok ⟨a, m, bits⟩) := by
  unfold lehmerInit
  constructor
  · intro h; rw [if_pos h]
  · intro h; rw [if_neg (by omega)]

/-- `Lehmer(a, mod, bits)` with `bits` a positive multiple of 8 and `mod > 0`: returns a value
below `2^n` for every `n` and seed. -/
theorem lehmer_total (a m bits : Nat) (hb : 0 < bits) (hm : 0 < m) (n : Nat) (seed : Int) :
    ∃ r, lehmer ⟨a, m, bits⟩ n seed = .ok r ∧ lehmerOutcome ⟨a, m, bits⟩ n seed = .value r ∧
      r < 2 ^ n := by
  unfold lehmer lehmerOutcome
  by_cases hn : n = 0
  · rw [if_pos hn, if_pos hn]; exact ⟨0, rfl, rfl, Nat.two_pow_pos n⟩
  · rw [if_neg hn, if_neg hn]
    simp only
    rw [if_neg (by omega), if_neg (by omega), if_neg (by omega), if_neg (by omega)]
    exact ⟨_, rfl, rfl, finishLE_lt _ n⟩

/-- the model's `for` loop IS the code's `while 8 * len(ba) < n` loop: for accepted `bits > 0`
(`mod ≠ 0`) the literal loop ends after exactly `⌈n / bits⌉` iterations (any larger fuel gives the
same) with the bytes `lehmerCore` finishes. -/
theorem lehmer_while_is_for (p : LehmerParams) (h8 : p.bits % 8 = 0) (hb : 0 < p.bits) (n : Nat)
    (seed : Int) (fuel : Nat) (hf : (n + p.bits - 1) / p.bits ≤ fuel) :
    ∃ ba, lehmerWhile p n fuel seed [] = some ba ∧ finishLE ba n = lehmerCore p n seed :=
  ⟨_, lehmerWhile_eq_bytes p h8 hb n seed fuel hf, rfl⟩

/-- **non-termination**: `Lehmer(a, mod, bits=0)` (accepted by the constructor: `0 % 8 == 0`),
`mod ≠ 0`, `n ≥ 1`: after ANY number of iterations the guard `8 * len(ba) < n` is still true
(each iteration appends `output.to_bytes(0, "little") = b""`).
Run: `rng.Lehmer(bits=0).RandomBits(1, seed=5)` does not return. -/
theorem lehmer_bits_zero_never_terminates (a m : Nat) (n : Nat) (hn : 0 < n) (seed : Int)
    (fuel : Nat) : lehmerWhile ⟨a, m, 0⟩ n fuel seed [] = none :=
  lehmerWhile_bits_zero ⟨a, m, 0⟩ rfl n hn fuel seed

/-- the `Except`-valued model `lehmer` (Model/Rng.lean) and `lehmerOutcome` agree except at the
non-terminating parameters, where the former holds the placeholder `valueError`. -/
theorem lehmer_outcome_vs_model (p : LehmerParams) (n : Nat) (seed : Int) :
    (lehmerOutcome p n seed = .diverges ↔ 0 < n ∧ p.mod ≠ 0 ∧ p.bits = 0) ∧
      (lehmerOutcome p n seed ≠ .diverges →
        lehmerOutcome p n seed = Outcome.ofExcept (lehmer p n seed)) := by
  unfold lehmerOutcome lehmer
  by_cases hn : n = 0
  · simp [hn, Outcome.ofExcept]
  · by_cases hm : p.mod = 0
    · simp [hn, hm, Outcome.ofExcept]
    · by_cases hb : p.bits = 0
      · simp [hn, hm, hb]; omega
      · simp [hn, hm, hb, Outcome.ofExcept]

/-- `Lehmer(a, 0, bits)`, `n ≥ 1`: `ZeroDivisionError` (first `state * a % mod`), whatever
`bits` is. -/
theorem lehmer_mod_zero_raises (a bits n : Nat) (hn : 0 < n) (seed : Int) :
    lehmer ⟨a, 0, bits⟩ n seed = .error .zeroDivision ∧
      lehmerOutcome ⟨a, 0, bits⟩ n seed = .raises .zeroDivision := by
  have hn' : ¬ n = 0 := by omega
  unfold lehmer lehmerOutcome
  rw [if_neg hn', if_neg hn']
  exact ⟨rfl, rfl⟩

/-! ## SubsetSum -/

theorem subsetSum_constructor (bits k : Nat) :
    (bits % 8 ≠ 0 → subsetSumInit bits k = .error .valueError) ∧
      (bits % 8 = 0 → subsetSumInit bits k = .ok (bits, k)) := by
  unfold subsetSumInit
  constructor
  · intro h; rw [if_pos h]
  · intro h; rw [if_neg (by omega)]

/-- **termination criterion** (every `bits` with `8 ∣ bits`, every generator list, every finite
sequence of `os.urandom` answers of at least `(k + 7) // 8` bytes): the `while` loop ends within
the supplied answers iff at least `⌈n / bits⌉` of them have a non-zero subset sum; then the
result is below `2^n`. -/
theorem subsetSum_returns_iff (bits : Nat) (h8 : bits % 8 = 0) (n : Nat) (gens : List Nat)
    (sels : List (List UInt8)) (hs : ∀ sel ∈ sels, (gens.length + 7) / 8 ≤ sel.length) :
    ((∃ r, subsetSum bits n gens sels = some r) ↔ n ≤ bits * nonzeroSels gens sels) ∧
      ∀ r, subsetSum bits n gens sels = some r → r < 2 ^ n := by
  refine ⟨?_, fun r h => C20.subsetSum_range bits n gens sels r h⟩
  rw [← subsetSum_isSome_iff bits h8 n gens sels hs, Option.isSome_iff_exists]

/-- `SubsetSum(bits, k)` with `bits` a positive multiple of 8: returns a value below `2^n` as soon
as `os.urandom` answers `⌈n / bits⌉` times with a non-zero subset sum. -/
theorem subsetSum_total (bits : Nat) (h8 : bits % 8 = 0) (n : Nat) (gens : List Nat)
    (sels : List (List UInt8)) (hs : ∀ sel ∈ sels, (gens.length + 7) / 8 ≤ sel.length)
    (hsuf : n ≤ bits * nonzeroSels gens sels) :
    ∃ r, subsetSum bits n gens sels = some r ∧ r < 2 ^ n := by
  obtain ⟨h1, h2⟩ := subsetSum_returns_iff bits h8 n gens sels hs
  obtain ⟨r, hr⟩ := h1.mpr hsuf
  exact ⟨r, hr, h2 r hr⟩

/-- **non-termination**: for `n ≥ 1`, if `bits = 0`, or every generator is `0` (in particular
`k = 0`: no generators; and `bits = 0`: `int.from_bytes(os.urandom(0)) = 0`), or every selection
`os.urandom` returns is all-zero, then after ANY finite number of `os.urandom` answers the
`while len(ba) * 8 < n` loop is still running (every iteration hits `continue`, or appends `b""`).
Run: `rng.SubsetSum(256, 0).RandomBits(1)` and `rng.SubsetSum(0, 4).RandomBits(1)` do not
return. -/
theorem subsetSum_never_ends (bits : Nat) (h8 : bits % 8 = 0) (n : Nat) (hn : 0 < n)
    (gens : List Nat) (sels : List (List UInt8))
    (hs : ∀ sel ∈ sels, (gens.length + 7) / 8 ≤ sel.length)
    (h : bits = 0 ∨ (∀ g ∈ gens, g = 0) ∨ ∀ sel ∈ sels, ∀ x ∈ sel, x = 0) :
    subsetSum bits n gens sels = none ∧ subsetSumOutcome bits n gens sels = .diverges := by
  have hnone : subsetSum bits n gens sels = none := by
    cases hr : subsetSum bits n gens sels with
    | none => rfl
    | some r =>
      exfalso
      have hle := ((subsetSum_returns_iff bits h8 n gens sels hs).1).mp ⟨r, hr⟩
      rcases h with h | h
      · rw [h] at hle; simp at hle; omega
      · rw [nonzeroSels_zero_of gens sels hs h] at hle; omega
  refine ⟨hnone, ?_⟩
  unfold subsetSumOutcome
  rw [hnone]

/-! ## all four classes: `entryOk` -/

/-- what `RandomBits(n ≥ 1)` does for parameters that are NOT ok. -/
def expectedFailure : Entry → Outcome
  | .truncLcg _ => .raises .zeroDivision
  | .mwc _ b =>
    if 1 <<< (bitLength b - 1) ≠ b ∨ bitLength b % 8 ≠ 1 then .raises .valueError
    else .raises .zeroDivision
  | .lehmer _ mod bits =>
    if bits % 8 ≠ 0 then .raises .valueError
    else if mod = 0 then .raises .zeroDivision
    else .diverges
  | .subsetSum bits _ => if bits % 8 ≠ 0 then .raises .valueError else .diverges

/-- **total correctness**: for parameters with `entryOk`, constructor + `RandomBits(n, seed)`
return a value — for EVERY `n` (also 0), every seed, both `TruncLcgRand` variants, and for
`SubsetSum` every oracle of the shape `os.urandom` produces that answers often enough with a
non-zero subset sum — and the value satisfies the range clause (for the shipped `TruncLcgRand`,
D5, only up to the byte boundary unless `8 ∣ n`).
SCOPE: `seed : Int` is a GIVEN integer seed, i.e. the call
`RandomBits(n, seed=<int>)`.  The unseeded `Lehmer.RandomBits` first draws a seed in a rejection loop
(`while True: … if math.gcd(seed, self.mod) == 1: break`) that is NOT modelled; it ends with
probability 1 for `mod ≥ 1` but not for every `os.urandom` (Props/C20TotalLink.lean header). -/
theorem entry_total (v : Variant) (e : Entry) (n : Nat) (seed : Int) (o : Oracle)
    (hok : entryOk e = true) (hshape : oracleShape e o) (hsuf : oracleSuffices e n o) :
    ∃ r, run v e n seed o = .value r ∧
      (r < 2 ^ n ∨ (∃ k, e = .truncLcg k ∧ v = .pinned ∧ n % 8 ≠ 0 ∧ r < 2 ^ (8 * ((n + 7) / 8)))) := by
  cases e with
  | truncLcg k =>
    have hk : 0 < k := by simpa [entryOk] using hok
    obtain ⟨r, hr, h1, h2, h3⟩ := truncLcg_total v k hk n seed
    refine ⟨r, by simp [run, hr, Outcome.ofExcept], ?_⟩
    cases v with
    | repaired => exact Or.inl (h3 rfl)
    | pinned =>
      by_cases h8 : n % 8 = 0
      · exact Or.inl (h2 h8)
      · exact Or.inr ⟨k, rfl, rfl, h8, h1⟩
  | mwc a b =>
    obtain ⟨j, hj, rfl⟩ := (mwc_entryOk_iff b).mp (by simpa [entryOk] using hok)
    obtain ⟨p, r, hp, hr, hlt⟩ := mwc_total a j hj n seed
    exact ⟨r, by simp [run, hp, hr, Outcome.ofExcept], Or.inl hlt⟩
  | lehmer a m bits =>
    simp only [entryOk, Bool.and_eq_true, decide_eq_true_eq] at hok
    obtain ⟨⟨h8, hb⟩, hm⟩ := hok
    obtain ⟨r, -, hr, hlt⟩ := lehmer_total a m bits hb hm n seed
    exact ⟨r, by simp [run, (lehmer_constructor a m bits).2 h8, hr], Or.inl hlt⟩
  | subsetSum bits k =>
    simp only [entryOk, Bool.and_eq_true, decide_eq_true_eq] at hok
    obtain ⟨⟨h8, hb⟩, hk⟩ := hok
    obtain ⟨hlen, -, hsel⟩ := hshape
    obtain ⟨r, hr, hlt⟩ := subsetSum_total bits h8 n o.gens o.sels
      (fun sel h => by rw [hlen, hsel sel h]) hsuf
    exact ⟨r, by simp [run, (subsetSum_constructor bits k).2 h8, subsetSumOutcome, hr], Or.inl hlt⟩

/-- **the complement**: for parameters WITHOUT `entryOk` and `n ≥ 1`, constructor +
`RandomBits(n, seed)` never return a value: the outcome is exactly `expectedFailure e` — a
`ValueError` of the constructor, a `ZeroDivisionError` of `RandomBits`, or non-termination
(`Lehmer(bits=0)`, `SubsetSum(bits, 0)`, `SubsetSum(0, k)`; for `SubsetSum` with every oracle of
the right shape, however long).  For `Lehmer` the outcome `.diverges` is the DEFINITION of
`lehmerOutcome` at `bits = 0`; its link to the literal loop is `C20TotalLink.lehmer_diverges_iff`. -/
theorem entry_not_ok (v : Variant) (e : Entry) (n : Nat) (hn : 0 < n) (seed : Int) (o : Oracle)
    (hnot : entryOk e = false) (hshape : oracleShape e o) :
    run v e n seed o = expectedFailure e := by
  cases e with
  | truncLcg k => exact run_truncLcg_not_ok v k n seed o hnot
  | mwc a b => exact run_mwc_not_ok v a b n seed o hnot
  | lehmer a m bits =>
    simp only [expectedFailure]
    by_cases h8 : bits % 8 ≠ 0
    · rw [if_pos h8]
      simp [run, (lehmer_constructor a m bits).1 h8]
    · rw [if_neg h8]
      have h8' : bits % 8 = 0 := by omega
      simp only [run, (lehmer_constructor a m bits).2 h8']
      by_cases hm : m = 0
      · subst hm
        rw [if_pos rfl]
        exact (lehmer_mod_zero_raises a bits n hn seed).2
      · rw [if_neg hm]
        have hb : bits = 0 := by
          simp only [entryOk, h8', decide_true, Bool.true_and, Bool.and_eq_false_iff,
            decide_eq_false_iff_not] at hnot
          omega
        subst hb
        unfold lehmerOutcome
        rw [if_neg (by omega), if_neg hm, if_pos rfl]
  | subsetSum bits k =>
    simp only [expectedFailure]
    by_cases h8 : bits % 8 ≠ 0
    · rw [if_pos h8]
      simp [run, (subsetSum_constructor bits k).1 h8]
    · rw [if_neg h8]
      have h8' : bits % 8 = 0 := by omega
      simp only [run, (subsetSum_constructor bits k).2 h8']
      obtain ⟨hlen, hlt, hsel⟩ := hshape
      have hdeg : bits = 0 ∨ k = 0 := by
        simp only [entryOk, h8', decide_true, Bool.true_and, Bool.and_eq_false_iff,
          decide_eq_false_iff_not] at hnot
        omega
      refine (subsetSum_never_ends bits h8' n hn o.gens o.sels
        (fun sel h => by rw [hlen, hsel sel h]) ?_).2
      rcases hdeg with hb | hk
      · exact Or.inl hb
      · right; left
        intro g hg
        have : o.gens = [] := List.eq_nil_of_length_eq_zero (by rw [hlen, hk])
        rw [this] at hg
        cases hg

/-- `n = 0` with parameters that are not ok: `TruncLcgRand(0)` and `Mwc(a, 1)` still raise
`ZeroDivisionError`, constructor errors are constructor errors, and a constructed `Lehmer` /
`SubsetSum` returns `0` (the `while` loop is not entered; seeded call — the unseeded
`Lehmer(mod=0)` raises `ZeroDivisionError` while drawing its seed). -/
theorem entry_n_zero (v : Variant) (e : Entry) (seed : Int) (o : Oracle) (hnot : entryOk e = false) :
    run v e 0 seed o =
      match e with
      | .lehmer _ _ bits => if bits % 8 ≠ 0 then .raises .valueError else .value 0
      | .subsetSum bits _ => if bits % 8 ≠ 0 then .raises .valueError else .value 0
      | e => expectedFailure e := by
  cases e with
  | truncLcg k => exact run_truncLcg_not_ok v k 0 seed o hnot
  | mwc a b => exact run_mwc_not_ok v a b 0 seed o hnot
  | lehmer a m bits =>
    simp only
    by_cases h8 : bits % 8 ≠ 0
    · rw [if_pos h8]; simp [run, (lehmer_constructor a m bits).1 h8]
    · rw [if_neg h8]
      simp [run, (lehmer_constructor a m bits).2 (by omega), lehmerOutcome]
  | subsetSum bits k =>
    simp only
    by_cases h8 : bits % 8 ≠ 0
    · rw [if_pos h8]; simp [run, (subsetSum_constructor bits k).1 h8]
    · rw [if_neg h8]
      simp only [run, (subsetSum_constructor bits k).2 (by omega), subsetSumOutcome]
      have : subsetSum bits 0 o.gens o.sels = some 0 := by
        unfold subsetSum
        cases o.sels <;> simp [subsetSumLoop, finishLE, fromLE]
      rw [this]

/-- the constructor parameters of a registry line of `rng.RNGS`, for the four parametrised classes. -/
def registryEntry (e : String × String × List Int) : Option Entry :=
  match e.2.1, C20.natList? e.2.2 with
  | "TruncLcgRand", some [k, _, _] => some (.truncLcg k)
  | "Mwc", some [a, b, _, _] => some (.mwc a b)
  | "Lehmer", some [a, m, bits] => some (.lehmer a m bits)
  | "SubsetSum", some [bits, k] => some (.subsetSum bits k)
  | _, _ => none

/-- every parametrised entry of the CURRENT registry `rng.RNGS` satisfies `entryOk` (so none of
the raising / non-terminating parameters is bundled). -/
theorem registry_entries_ok :
    Consts.rngRegistry.all (fun e => match registryEntry e with
      | some en => entryOk en
      | none => true) = true := by decide +kernel

/-! ## Non-vacuity -/

example : entryOk (.truncLcg 20) = true ∧ entryOk (.mwc (2 ^ 64 - 742) (2 ^ 64)) = true ∧
    entryOk (.lehmer 25096281518912105342191851917838718629 (2 ^ 128) 64) = true ∧
    entryOk (.subsetSum 256 16) = true := by decide +kernel
example : entryOk (.truncLcg 0) = false ∧ entryOk (.mwc 5 1) = false ∧ entryOk (.mwc 5 2) = false ∧
    entryOk (.lehmer 3 0 8) = false ∧ entryOk (.lehmer 3 7 0) = false ∧ entryOk (.lehmer 3 7 12) = false ∧
    entryOk (.subsetSum 256 0) = false ∧ entryOk (.subsetSum 0 4) = false := by decide +kernel
example : run .pinned (.lehmer 3 7 0) 1 5 ⟨[], []⟩ = .diverges ∧
    run .pinned (.lehmer 3 0 0) 1 5 ⟨[], []⟩ = .raises .zeroDivision ∧
    run .pinned (.subsetSum 256 0) 1 5 ⟨[], [[], [], []]⟩ = .diverges ∧
    run .pinned (.subsetSum 0 4) 9 5 ⟨[0, 0, 0, 0], [[0xf], [0x3]]⟩ = .diverges ∧
    run .pinned (.mwc 5 1) 8 5 ⟨[], []⟩ = .raises .zeroDivision ∧
    run .pinned (.truncLcg 0) 8 5 ⟨[], []⟩ = .raises .zeroDivision := by decide +kernel
example : run .pinned (.subsetSum 8 2) 12 0 ⟨[3, 5], [[0], [3], [1]]⟩ = .value 776 ∧
    nonzeroSels [3, 5] [[0], [3], [1]] = 2 := by decide +kernel
example : lehmerWhile ⟨7, 10, 8⟩ 20 3 5 [] = some (lehmerBytes ⟨7, 10, 8⟩ 3 5) ∧
    lehmerWhile ⟨7, 10, 8⟩ 20 2 5 [] = none := by decide +kernel

end Paranoid.C20Total
