/-
Props/C11.lean — "Elliptic-curve arithmetic is the group law on every input".
Property theorems; the lemmas they rest on live in Proofs/Ec*.lean.

Setting. `c : Curve` are the constructor arguments of `EcCurve`; points are the Python values
(`Pt.inf` or `Pt.aff x y` with UNREDUCED integers). The specification is Mathlib's group
`(W c).Point` of the Weierstrass curve `W c : y² = x³ + a x + b` over `ZMod c.p`, and
`toPoint c : Pt → (W c).Point` is the abstraction function (reduce the coordinates mod `p`).
Hypotheses: `[Fact c.p.Prime]` (for the named curves: PROVED by kernel-checked Pratt certificates,
`curve_primes_certified` / Props/C11Primes.lean, except for the numbers in `curve_primes_uncertified` —
currently none —, which would only be validated per run by gmpy2.is_prime, harness/corr/c11.py) and
`c.Good` (`p ≠ 2`, `4a³ + 27b² ≢ 0`), which `generator_of_paramsOK` derives from the evaluated check
`paramsOK` for the nine named curves. Every theorem is for ALL on-curve inputs: ∞, equal points,
opposite points, coordinates that are only congruent mod `p`, every integer scalar.

The model is the code WITH fixes/D3-ec-add-double.diff; `*_pinned_fails*` are the kernel-checked
counter-examples for the pinned `Add` / `Double` / `BatchDouble`.
-/
import ParanoidModel.Proofs.EcCurves
import ParanoidModel.Proofs.EcOrder
import ParanoidModel.Proofs.EcTable
import ParanoidModel.Proofs.EcComb
import ParanoidModel.Props.C11Primes
namespace Paranoid.C11
open Paranoid Paranoid.Ec WeierstrassCurve

section refinement
variable (c : Curve) [Fact (Nat.Prime c.p)]

/-- OnCurve is the curve equation over `ZMod p`. -/
theorem onCurve_iff_equation (x y : Int) :
    onCurve c (.aff x y) = true ↔ (W c).Equation (x : ZMod c.p) (y : ZMod c.p) :=
  onCurve_aff_iff c x y

theorem negate_refines (hc : c.Good) (P : Pt) (hP : onCurve c P = true) :
    onCurve c (negate c P) = true ∧ toPoint c (negate c P) = - toPoint c P :=
  ⟨negate_onCurve c P hP, Ec.negate_refines c hc P hP⟩

/-- Double: never raises, stays on the curve, is `P + P` — including ∞ and 2-torsion points. -/
theorem double_refines (hc : c.Good) (P : Pt) (hP : onCurve c P = true) :
    ∃ R, double c P = .ok R ∧ onCurve c R = true ∧ toPoint c R = toPoint c P + toPoint c P :=
  Ec.double_refines c hc P hP

/-- Add: never raises, stays on the curve, is the group law — for ∞, `P = Q`, `P = -Q` and for
coordinates that are only congruent mod `p`. -/
theorem add_refines (hc : c.Good) (P Q : Pt) (hP : onCurve c P = true) (hQ : onCurve c Q = true) :
    ∃ R, add c P Q = .ok R ∧ onCurve c R = true ∧ toPoint c R = toPoint c P + toPoint c Q :=
  Ec.add_refines c hc P Q hP hQ

theorem subtract_refines (hc : c.Good) (P Q : Pt) (hP : onCurve c P = true) (hQ : onCurve c Q = true) :
    ∃ R, subtract c P Q = .ok R ∧ onCurve c R = true ∧ toPoint c R = toPoint c P - toPoint c Q :=
  Ec.subtract_refines c hc P Q hP hQ

/-- the patched Add / Double / Subtract never raise, for ANY integer coordinates (on the curve or
not, reduced or not), when `p` is an odd prime. -/
theorem add_double_total (h2 : c.p ≠ 2) (P Q : Pt) :
    (∃ R, add c P Q = .ok R) ∧ (∃ R, double c P = .ok R) ∧ (∃ R, subtract c P Q = .ok R) :=
  ⟨add_total c h2 P Q, double_total c h2 P, subtract_total c h2 P Q⟩

/-- AffineToJacobian produces a valid representation of the same group element. -/
theorem affineToJ_refines (hc : c.Good) (P : Pt) (hP : onCurve c P = true) :
    JRep c (affineToJ P) (toPoint c P) := jrep_affineToJ c hc P hP

/-- JacobianToAffine of a valid representation never raises and returns the represented element. -/
theorem jToAffine_refines {P : JPt} {A : (W c).Point} (h : JRep c P A) :
    ∃ R, jToAffine c P = .ok R ∧ onCurve c R = true ∧ toPoint c R = A := Ec.jToAffine_refines c h

/-- DoubleJacobian, both branches of the `a == -3` test, `z == 0`, `y == 0` and `y ≡ 0 (mod p)`. -/
theorem doubleJ_refines (hc : c.Good) {P : JPt} {A : (W c).Point} (h : JRep c P A) :
    JRep c (doubleJ c P) (A + A) := Ec.doubleJ_refines c hc h

/-- AddJacobian: ∞ on either side, equal points (falls into DoubleJacobian), opposite points. -/
theorem addJ_refines (hc : c.Good) {P Q : JPt} {A B : (W c).Point} (hP : JRep c P A) (hQ : JRep c Q B) :
    JRep c (addJ c P Q) (A + B) := Ec.addJ_refines c hc hP hQ

/-- `addJ_refines`, `doubleJ_refines` in affine terms:
`φ (jToAffine (addJ P Q)) = φ (jToAffine P) + φ (jToAffine Q)` and the same for `doubleJ`. -/
theorem jacobian_refines (hc : c.Good) {P Q : JPt} {A B : (W c).Point} (hP : JRep c P A)
    (hQ : JRep c Q B) :
    ∃ R D P' Q', jToAffine c (addJ c P Q) = .ok R ∧ jToAffine c (doubleJ c P) = .ok D ∧
      jToAffine c P = .ok P' ∧ jToAffine c Q = .ok Q' ∧
      toPoint c R = toPoint c P' + toPoint c Q' ∧ toPoint c D = toPoint c P' + toPoint c P' := by
  obtain ⟨R, hR, _, hR'⟩ := Ec.jToAffine_refines c (Ec.addJ_refines c hc hP hQ)
  obtain ⟨D, hD, _, hD'⟩ := Ec.jToAffine_refines c (Ec.doubleJ_refines c hc hP)
  obtain ⟨P', hP1, _, hP2⟩ := Ec.jToAffine_refines c hP
  obtain ⟨Q', hQ1, _, hQ2⟩ := Ec.jToAffine_refines c hQ
  exact ⟨R, D, P', Q', hR, hD, hP1, hQ1, by rw [hR', hP2, hQ2], by rw [hD', hP2]⟩

/-- the same without mentioning `JRep`: for ALL triples that JacobianToAffine itself accepts as
on-curve points (it raises on `(0,0,0)` and on `z ≡ 0 (mod p)`, `z ≠ 0`), AddJacobian /
DoubleJacobian followed by JacobianToAffine is the group law. -/
theorem jacobian_refines_affine (hc : c.Good) (P Q : JPt) (P' Q' : Pt)
    (hP : jToAffine c P = .ok P') (hQ : jToAffine c Q = .ok Q')
    (hP' : onCurve c P' = true) (hQ' : onCurve c Q' = true) :
    ∃ R D, jToAffine c (addJ c P Q) = .ok R ∧ toPoint c R = toPoint c P' + toPoint c Q' ∧
      jToAffine c (doubleJ c P) = .ok D ∧ toPoint c D = toPoint c P' + toPoint c P' := by
  have h1 := jrep_of_jToAffine c hc hP hP'
  have h2 := jrep_of_jToAffine c hc hQ hQ'
  obtain ⟨R, hR, _, hR'⟩ := Ec.jToAffine_refines c (Ec.addJ_refines c hc h1 h2)
  obtain ⟨D, hD, _, hD'⟩ := Ec.jToAffine_refines c (Ec.doubleJ_refines c hc h1)
  exact ⟨R, D, hR, hR', hD, hD'⟩

/-- MultiplyAffine is `k • P` for every integer `k`. -/
theorem multiplyAffine_zsmul (hc : c.Good) (P : Pt) (k : Int) (hP : onCurve c P = true) :
    ∃ R, multiplyAffine c P k = .ok R ∧ onCurve c R = true ∧ toPoint c R = k • toPoint c P := by
  obtain ⟨hQ, hk⟩ := signed_smul c hc P k hP
  obtain ⟨R, h1, h2, h3⟩ :=
    mulAffLoop_refines c hc _ _ .inf _ (lt_two_pow_bitLength k.natAbs) rfl hQ
  exact ⟨R, h1, h2, by rw [h3, toPoint_inf, zero_add, hk]⟩

/-- Multiply (Jacobian ladder) is `k • P` for every integer `k`: zero, negative, multiples of the
group order, larger than the group order. -/
theorem multiply_nsmul (hc : c.Good) (P : Pt) (k : Int) (hP : onCurve c P = true) :
    ∃ R, multiply c P k = .ok R ∧ onCurve c R = true ∧ toPoint c R = k • toPoint c P :=
  Ec.multiply_zsmul c hc P k hP

theorem isValidPublicKey_spec (hc : c.Good) (P : Pt) :
    ∃ b, isValidPublicKey c P = .ok b ∧
      (b = true ↔ onCurve c P = true ∧ P ≠ .inf ∧ (1 < c.h → c.n • toPoint c P = 0) ∧
        ∃ x y, P = .aff x y ∧ 0 ≤ x ∧ x ≤ (c.p : Int) - 1 ∧ 0 ≤ y ∧ y ≤ (c.p : Int) - 1) :=
  Ec.isValidPublicKey_spec c hc P

/-- BatchInverse: entry `i` is `gmpy.invert(values[i], mod)` when `values[i]` is neither `None`
nor `0`, else `None`; the call raises (ZeroDivisionError) exactly when such an entry is `≡ 0`;
the final `raise ArithmeticError("failed invariant")` is unreachable. -/
theorem batchInverse_spec (vs : List (Option Int)) :
    batchInverse c vs = mapE (invEntry c) vs := Ec.batchInverse_spec c vs

theorem batchInverse_never_arithmeticError (vs : List (Option Int)) :
    batchInverse c vs ≠ .error .arithmeticError := by
  rw [Ec.batchInverse_spec]
  by_cases h : AllInvertible c vs
  · rw [mapE_invEntry_ok c vs h]; exact fun h => by cases h
  · rw [mapE_invEntry_err c vs h]; exact fun h => by cases h

/-- every batched operation is the list map of the scalar one, for ALL lists (no on-curve
hypothesis: any mixture of ∞, equal, opposite, duplicate, unreduced and off-curve points). -/
theorem batchAddList_eq_map (ps qs : List Pt) :
    batchAddList c ps qs =
      if ps.length ≠ qs.length then .error .valueError
      else mapE (fun pq : Pt × Pt => add c pq.1 pq.2) (ps.zip qs) := Ec.batchAddList_eq_map c ps qs

theorem batchDouble_eq_map (ps : List Pt) : batchDouble c ps = mapE (double c) ps :=
  Ec.batchDouble_eq_map c ps

theorem batchAdd_eq_map (P : Pt) (qs : List Pt) : batchAdd c P qs = mapE (add c P) qs := by
  cases P with
  | inf => rw [mapE_add_inf]; rfl
  | aff x1 y1 =>
    simp only [batchAdd]
    rw [batchInverse_red c (isRedList_map c _ qs (diffX_red c _)), List.map_map]
    dsimp only
    rw [mapM₂_map]
    simp only [Function.comp_def, batchAddStep_spec]

theorem batchAddX_eq_map (P : Pt) (qs : List Pt) : batchAddX c P qs = mapE (addX c P) qs :=
  Ec.batchAddX_eq_map c P qs

theorem batchAddSubtractX_eq_map (P : Pt) (qs : List Pt) :
    batchAddSubtractX c P qs =
      match mapE (addSubX c P) qs with
      | .error e => .error e
      | .ok l => .ok (l.map Prod.fst, l.map Prod.snd) := by
  cases P with
  | inf =>
    have : mapE (addSubX c .inf) qs = .ok (qs.map fun q => (q.x?, q.x?)) := by
      induction qs with
      | nil => rfl
      | cons q qs ih => cases q <;> simp [mapE, ih, add, addSubX, subtract, negate, Pt.x?]
    rw [this]
    simp [batchAddSubtractX, Function.comp_def]
  | aff x1 y1 =>
    simp only [batchAddSubtractX]
    rw [batchInverse_red c (isRedList_map c _ qs (diffX_red c _)), List.map_map]
    dsimp only
    rw [mapM₂_map]
    simp only [Function.comp_def, batchAddSubXStep_spec]
    cases mapE (addSubX c (Pt.aff x1 y1)) qs <;> rfl

/-- BatchJacobianToAffine / BatchJacobianToX: map of JacobianToAffine for every list without the
invalid triple `(0,0,0)` (scalar: ValueError, batched: INFINITY). -/
theorem batchJToAffine_eq_map (ps : List JPt) (h000 : ∀ P ∈ ps, ¬(P.x = 0 ∧ P.y = 0 ∧ P.z = 0)) :
    batchJToAffine c ps = mapE (jToAffine c) ps := Ec.batchJToAffine_eq_map c ps h000

theorem batchJToX_eq_map (ps : List JPt) (h000 : ∀ P ∈ ps, ¬(P.x = 0 ∧ P.y = 0 ∧ P.z = 0)) :
    batchJToX c ps = mapE (jToX c) ps := by
  unfold batchJToX
  rw [Ec.batchInverse_spec]
  exact zipWith_mapE c _ _ _ ps (fun P hP => jToX_eq_invEntry c P (h000 P hP))

theorem mapE_is_mapM {α β} (f : α → Except PyErr β) (l : List α) : mapE f l = l.mapM f :=
  mapE_eq_mapM f l

/-- comb identity of BatchMultiplyG: `Σ_{i<steps} 2^i · ((x >> i) & mask) = x mod 2^(steps·cnt)`. -/
theorem comb_identity (s : Nat) (hs : 0 < s) (cnt x : Nat) :
    sumTo (combWindow (combMaskAux s cnt 0) x) s = x % (2 ^ s) ^ cnt := Ec.comb_identity s hs cnt x

/-- BatchMultiplyG, for EVERY cache content satisfying the cache invariant `cache[k] = k • G` and
every list of Python ints: succeeds, entry `j` is `(scalars[j] mod n) • G`; the returned cache
extends the old one and satisfies the invariant again. -/
theorem batchMultiplyG_spec (hc : c.Good) (hG : onCurve c c.g = true) (hn : 0 < c.n)
    (cache : Cache) (hcache : CacheOK c cache) (scalars : List Int) :
    ∃ rs cache', batchMultiplyG c cache scalars = .ok (rs, cache') ∧ CacheOK c cache' ∧
      cache <:+ cache' ∧
      List.Forall₂ (fun P (s : Int) => RepG c P (s % (c.n : Int)).toNat) rs scalars :=
  Ec.batchMultiplyG_spec c hc hG hn cache hcache scalars

/-- … hence `batchMultiplyG ss = ss.map (· • G)` when `n • G = 0`. -/
theorem batchMultiplyG_zsmul (hc : c.Good) (hG : onCurve c c.g = true) (hn : 0 < c.n)
    (hord : c.n • toPoint c c.g = 0) (cache : Cache) (hcache : CacheOK c cache) (scalars : List Int) :
    ∃ rs cache', batchMultiplyG c cache scalars = .ok (rs, cache') ∧ CacheOK c cache' ∧
      List.Forall₂ (fun P (s : Int) => onCurve c P = true ∧ toPoint c P = s • toPoint c c.g)
        rs scalars := by
  obtain ⟨rs, cache', h1, h2, _, h4⟩ := Ec.batchMultiplyG_spec c hc hG hn cache hcache scalars
  refine ⟨rs, cache', h1, h2, h4.imp ?_⟩
  intro P s hP
  refine ⟨hP.1, ?_⟩
  rw [hP.2, ← natCast_zsmul, Int.toNat_of_nonneg (Int.emod_nonneg s (by omega))]
  have hz : (c.n : Int) • toPoint c c.g = 0 := by rw [natCast_zsmul]; exact hord
  conv_rhs => rw [← Int.emod_add_mul_ediv s c.n, add_zsmul, mul_zsmul', hz, zsmul_zero, add_zero]

theorem pointSequence_spec (hc : c.Good) (base : Pt) (hbase : onCurve c base = true) (n : Nat)
    (hn : 0 < n) :
    ∃ rs, pointSequence c base n = .ok rs ∧
      List.Forall₂ (fun R (i : Nat) => onCurve c R = true ∧ toPoint c R = i • toPoint c base ∧ Reduced c R)
        rs (List.range n) := Ec.pointSequence_spec c hc base hbase n hn

/-- PointTable for every value `m ≥ 1` of the float oracle `int(math.sqrt(n))`. -/
theorem pointTable_spec (hc : c.Good) (base : Pt) (hbase : onCurve c base = true) (n m : Nat)
    (hn : 0 < n) (hm : 0 < m) :
    ∃ t, pointTable c base n m = .ok t ∧ n ≤ (n + m - 1) / m * m ∧
      (∀ k v, t.get? k = some v → v < (n + m - 1) / m * m ∧ xKey c (v • toPoint c base) = k) ∧
      (∀ v, v < (n + m - 1) / m * m → ∃ v', t.get? (xKey c (v • toPoint c base)) = some v') :=
  Ec.pointTable_spec c hc base hbase n m hn hm

/-- the evaluated parameter check gives the hypotheses used above and the order of `G`. -/
theorem generator_of_paramsOK (h : c.paramsOK = true) :
    c.Good ∧ onCurve c c.g = true ∧ toPoint c c.g ≠ 0 ∧ c.n • toPoint c c.g = 0 ∧ 0 < c.n ∧
      (Nat.Prime c.n → addOrderOf (toPoint c c.g) = c.n) := Ec.generator_of_paramsOK c h

end refinement

/-! ### the nine named curves, on the constants regenerated from `ec_util.CURVE_FACTORY`
(`paramsOK`: `p > 3` odd, `n > 1`, `h = 1`, `4a³+27b² ≢ 0`, `G` reduced, on the curve, `≠ ∞`,
`n·G = ∞` with the model's own `multiply`; all by `decide +kernel`) -/

theorem secp256r1_params : secp256r1.paramsOK = true := secp256r1_paramsOK
theorem secp384r1_params : secp384r1.paramsOK = true := secp384r1_paramsOK
theorem secp192r1_params : secp192r1.paramsOK = true := secp192r1_paramsOK
theorem secp224r1_params : secp224r1.paramsOK = true := secp224r1_paramsOK
theorem secp521r1_params : secp521r1.paramsOK = true := secp521r1_paramsOK
theorem secp256k1_params : secp256k1.paramsOK = true := secp256k1_paramsOK
theorem brainpoolP256r1_params : brainpoolP256r1.paramsOK = true := brainpoolP256r1_paramsOK
theorem brainpoolP384r1_params : brainpoolP384r1.paramsOK = true := brainpoolP384r1_paramsOK
theorem brainpoolP512r1_params : brainpoolP512r1.paramsOK = true := brainpoolP512r1_paramsOK

/-! ### primality of the curve constants is not a hypothesis: kernel-checked Pratt certificates
(Proofs/Pratt.lean, Proofs/PrattCurves.lean, Props/C11Primes.lean) for 18 of the 18 numbers. Not
certified (`C11Primes.uncertified`): none. -/

theorem curve_primes_certified :
    Nat.Prime secp256r1.p ∧ Nat.Prime secp256r1.n ∧
    Nat.Prime secp384r1.p ∧ Nat.Prime secp384r1.n ∧
    Nat.Prime secp192r1.p ∧ Nat.Prime secp192r1.n ∧
    Nat.Prime secp224r1.p ∧ Nat.Prime secp224r1.n ∧
    Nat.Prime secp521r1.p ∧ Nat.Prime secp521r1.n ∧
    Nat.Prime secp256k1.p ∧ Nat.Prime secp256k1.n ∧
    Nat.Prime brainpoolP256r1.p ∧ Nat.Prime brainpoolP256r1.n ∧
    Nat.Prime brainpoolP384r1.p ∧ Nat.Prime brainpoolP384r1.n ∧
    Nat.Prime brainpoolP512r1.p ∧ Nat.Prime brainpoolP512r1.n :=
  ⟨C11Primes.secp256r1_p_prime, C11Primes.secp256r1_n_prime,
   C11Primes.secp384r1_p_prime, C11Primes.secp384r1_n_prime,
   C11Primes.secp192r1_p_prime, C11Primes.secp192r1_n_prime,
   C11Primes.secp224r1_p_prime, C11Primes.secp224r1_n_prime,
   C11Primes.secp521r1_p_prime, C11Primes.secp521r1_n_prime,
   C11Primes.secp256k1_p_prime, C11Primes.secp256k1_n_prime,
   C11Primes.brainpoolP256r1_p_prime, C11Primes.brainpoolP256r1_n_prime,
   C11Primes.brainpoolP384r1_p_prime, C11Primes.brainpoolP384r1_n_prime,
   C11Primes.brainpoolP512r1_p_prime, C11Primes.brainpoolP512r1_n_prime⟩

/-- the numbers that remain a hypothesis are exactly those the regenerated certificate table
reports as not certified. -/
theorem curve_primes_uncertified :
    (Consts.prattStatus.filter fun t => !t.2.2.1).map (fun t => (t.1, t.2.1)) =
      [] := C11Primes.uncertified_complete

/-- hypothesis-free: on the 9 curves with both numbers certified, `G` has order exactly `n` in
Mathlib's group of the elliptic curve `W c` over the field `ZMod p`. -/
theorem generator_order_certified :
    addOrderOf (toPoint secp256r1 secp256r1.g) = secp256r1.n ∧
    addOrderOf (toPoint secp384r1 secp384r1.g) = secp384r1.n ∧
    addOrderOf (toPoint secp192r1 secp192r1.g) = secp192r1.n ∧
    addOrderOf (toPoint secp224r1 secp224r1.g) = secp224r1.n ∧
    addOrderOf (toPoint secp521r1 secp521r1.g) = secp521r1.n ∧
    addOrderOf (toPoint secp256k1 secp256k1.g) = secp256k1.n ∧
    addOrderOf (toPoint brainpoolP256r1 brainpoolP256r1.g) = brainpoolP256r1.n ∧
    addOrderOf (toPoint brainpoolP384r1 brainpoolP384r1.g) = brainpoolP384r1.n ∧
    addOrderOf (toPoint brainpoolP512r1 brainpoolP512r1.g) = brainpoolP512r1.n :=
  ⟨C11Primes.secp256r1_generator_order, C11Primes.secp384r1_generator_order,
   C11Primes.secp192r1_generator_order, C11Primes.secp224r1_generator_order,
   C11Primes.secp521r1_generator_order, C11Primes.secp256k1_generator_order,
   C11Primes.brainpoolP256r1_generator_order, C11Primes.brainpoolP384r1_generator_order,
   C11Primes.brainpoolP512r1_generator_order⟩

theorem curves_elliptic_certified :
    (W secp256r1).IsElliptic ∧ (W secp384r1).IsElliptic ∧ (W secp192r1).IsElliptic ∧
    (W secp224r1).IsElliptic ∧ (W secp521r1).IsElliptic ∧ (W secp256k1).IsElliptic ∧
    (W brainpoolP256r1).IsElliptic ∧ (W brainpoolP384r1).IsElliptic ∧ (W brainpoolP512r1).IsElliptic :=
  ⟨C11Primes.secp256r1_elliptic, C11Primes.secp384r1_elliptic, C11Primes.secp192r1_elliptic,
   C11Primes.secp224r1_elliptic, C11Primes.secp521r1_elliptic, C11Primes.secp256k1_elliptic,
   C11Primes.brainpoolP256r1_elliptic, C11Primes.brainpoolP384r1_elliptic, C11Primes.brainpoolP512r1_elliptic⟩

/-- the factory holds exactly these nine curves; the ten binary-field `CurveType`s map to `None`. -/
theorem curve_factory_names : Consts.ecCurveNames =
    ["secp256r1", "secp384r1", "secp192r1", "secp224r1", "secp521r1", "secp256k1",
     "brainpoolP256r1", "brainpoolP384r1", "brainpoolP512r1"] := by decide +kernel

theorem curve_factory_none : Consts.ecCurveNone.map Prod.fst = [7, 8, 9, 10, 11, 12, 13, 14, 15, 16]
    ∧ Consts.ecCurveUnmapped = [(0, "CURVE_UNKNOWN")]
    ∧ Consts.ecCurveTable.map Prod.snd = Consts.ecCurveNames := by decide +kernel

/-! ### defect D3: the pinned code is NOT the group law on these inputs -/

theorem add_pinned_fails_x :
    addPinned secp256r1 secp256r1.g (.aff (secp256r1.gx + secp256r1.p) secp256r1.gy)
      = .error .zeroDivision ∧
    add secp256r1 secp256r1.g (.aff (secp256r1.gx + secp256r1.p) secp256r1.gy)
      = double secp256r1 secp256r1.g := by decide +kernel

theorem add_pinned_fails_y :
    addPinned secp256r1 secp256r1.g (.aff secp256r1.gx (secp256r1.gy + secp256r1.p)) = .ok .inf ∧
    add secp256r1 secp256r1.g (.aff secp256r1.gx (secp256r1.gy + secp256r1.p))
      = double secp256r1 secp256r1.g ∧
    double secp256r1 secp256r1.g ≠ .ok .inf := by decide +kernel

theorem double_pinned_fails :
    doublePinned secp256r1 (.aff 5 0) = .error .zeroDivision ∧
    double secp256r1 (.aff 5 0) = .ok .inf ∧
    doubleJ secp256r1 ⟨5, 0, 1⟩ = infJ := by decide +kernel

theorem batchDouble_pinned_fails :
    batchDoublePinned secp256r1 [.aff 5 secp256r1.p] = .error .zeroDivision ∧
    batchDouble secp256r1 [.aff 5 secp256r1.p] = .ok [.inf] := by decide +kernel

/-! ### non-vacuity: the hypotheses are met by concrete non-trivial inputs -/

/-- a toy curve `y² = x³ - 3x + 5` over `GF(101)`. -/
def toy : Curve := ⟨-3, 5, 101, 0, 45, 0, 1⟩

example : onCurve secp256r1 secp256r1.g = true := by decide +kernel
example : onCurve toy (.aff 0 45) = true ∧ toy.discrNonzero = true := by decide +kernel
example : add toy (.aff 0 45) (.aff 101 45) = double toy (.aff 0 45) := by decide +kernel
example : multiply secp256r1 secp256r1.g (-1) = .ok (negate secp256r1 secp256r1.g) := by decide +kernel
example : batchInverse toy [some 3, none, some 0, some 7] = .ok [some 34, none, none, some 29] := by
  decide +kernel
example : (batchMultiplyG secp256r1 [] [0, 1, -1]).toOption.map (·.1.length) = some 3 := by
  obtain ⟨hc, hG, _, _, hn, _⟩ := generator_of_paramsOK secp256r1 secp256r1_params
  obtain ⟨rs, _, h, _, _, hrs⟩ :=
    batchMultiplyG_spec secp256r1 hc hG hn [] (fun _ he => by cases he) [0, 1, -1]
  rw [h]
  exact congrArg some hrs.length_eq

end Paranoid.C11
