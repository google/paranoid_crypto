/-
Props/C20.lean — "Bundled generators return exactly the requested bits, reproducibly".
Property theorems only; helper lemmas live in Proofs/Rng.lean.

Every theorem is universally quantified over the requested size `n : Nat` (no bound; the
property asks `n ≥ 1`, the theorems also cover `n = 0`), over every seed `seed : Int` (any
sign, any size) and over every parameter of the parametrised generators.  The `…_unseeded`
variants quantify over the expanded state instead: that is the `seed is None` path, where the
state comes from `os.urandom`.  For the wrappers (`Urandom Shake128 Mt19937 NumpyRng
SubsetSum`) the theorems quantify over EVERY answer of the oracle of the promised length
(`os.urandom(k)`, `shake.digest(k)`, `Generator.bytes(k)` return `k` bytes;
`random.getrandbits(n) < 2^n`).

Purity ("with a non-zero seed the result is a pure function of (generator, n, seed)") holds
by construction: each model below IS a Lean function of (parameters, n, seed) and, for the
wrappers, of the oracle function `seed ↦ bytes`, which is itself a function of the seed.
That the stateful Python (module-level `random.seed`, numpy generator objects) behaves like
these functions under repeated and interleaved calls is what the correspondence run checks.
`Urandom` and `SubsetSum` ignore the seed by design (`del seed`): their models are functions
of the `os.urandom` answers only.

D5: the pinned `TruncLcgRand.RandomBits` violates the range for `n % 8 ≠ 0`
(`truncLcg_range_fails`); `rng_test.testTruncLcg` pins such values, so the model carries both
variants.
-/
import ParanoidModel.Proofs.Rng
import ParanoidModel.Generated.Consts
namespace Paranoid.C20
open Paranoid Paranoid.Rng

/-! ## ★ range: `0 ≤ RandomBits(n) < 2^n` -/

/-- Urandom, for every answer of `os.urandom((n+7)//8)`. -/
theorem urandom_range (ba : List UInt8) (n : Nat) (h : ba.length = (n + 7) / 8) :
    urandom ba n < 2 ^ n := finishShift_lt ba n h

/-- Shake128, for every XOF whose `digest(k)` has `k` bytes; any seed (also the `None` path,
which only changes the absorbed message). -/
theorem shake128_range (xof : List UInt8 → Nat → List UInt8) (hx : ∀ m k, (xof m k).length = k)
    (n : Nat) (seed : Int) : shake128 xof n seed < 2 ^ n := finishShift_lt _ n (hx _ _)

/-- Mt19937: exactly the contract of `random.getrandbits`. -/
theorem mt19937_range (getrandbits : Int → Nat → Nat) (hg : ∀ s k, getrandbits s k < 2 ^ k)
    (n : Nat) (seed : Int) : mt19937 getrandbits n seed < 2 ^ n := hg seed n

/-- NumpyRng (pcg64, philox, sfc64), for every `Generator.bytes(k)` of `k` bytes. -/
theorem numpy_range (bytesOf : Int → Nat → List UInt8) (hx : ∀ s k, (bytesOf s k).length = k)
    (n : Nat) (seed : Int) : numpyRng bytesOf n seed < 2 ^ n :=
  finishWord_lt _ _ n fun _ => by rw [hx]; omega

theorem xorShift128plus_range_unseeded (x : Int) (y n : Nat) : xorShift128plusCore x y n < 2 ^ n :=
  finishWord_lt _ _ n fun _ => by rw [xs128pBytes_length]; omega

theorem xorShift128plus_range (n : Nat) (seed : Int) : xorShift128plus n seed < 2 ^ n :=
  xorShift128plus_range_unseeded _ _ n

theorem xorShiftStar_range_unseeded (x n : Nat) : xorShiftStarCore x n < 2 ^ n :=
  finishWord_lt _ _ n fun _ => by rw [xsStarBytes_length]; omega

theorem xorShiftStar_range (n : Nat) (seed : Int) : xorShiftStar n seed < 2 ^ n :=
  xorShiftStar_range_unseeded _ n

theorem xorwow_range_unseeded (state ctr n : Nat) : xorwowCore state ctr n < 2 ^ n :=
  finishWord_lt _ _ n fun _ => by rw [xorwowBytes_length]; omega

theorem xorwow_range (n : Nat) (seed : Int) : xorwow n seed < 2 ^ n :=
  xorwow_range_unseeded _ _ n

theorem javaRandom_range (n : Nat) (seed : Int) : javaRandom n seed < 2 ^ n :=
  javaRandomCore_lt _ n

theorem lcgNist_range_unseeded (a seed n : Nat) : lcgNistCore a seed n < 2 ^ n := by
  unfold lcgNistCore
  split
  · exact maskLast_lt n _ (lcgNistBytes_length ..) ‹_›
  · exact fromLE_lt_of_len n _ (by rw [lcgNistBytes_length]; omega)

/-- LcgNist for every multiplier `a`; the core covers the `None` path. -/
theorem lcgNist_range (a n : Nat) (seed : Int) : lcgNist a n seed < 2 ^ n :=
  lcgNist_range_unseeded a _ n

/-- Mwc for every parameter record (in particular every `Mwc(a, b)` the constructor accepts);
`seed` is also the state of the `None` path. -/
theorem mwc_range (p : MwcParams) (n : Nat) (seed : Int) (r : Nat) (h : mwc p n seed = .ok r) :
    r < 2 ^ n := by
  unfold mwc at h
  split at h
  · simp at h
  · simp only [Except.ok.injEq] at h; subst h; exact finishLE_lt _ n

/-- Lehmer for every `(a, mod, bits)`. -/
theorem lehmer_range (p : LehmerParams) (n : Nat) (seed : Int) (r : Nat)
    (h : lehmer p n seed = .ok r) : r < 2 ^ n := by
  unfold lehmer at h
  split at h
  · simp only [Except.ok.injEq] at h; subst h; exact Nat.two_pow_pos n
  · split at h
    · simp at h
    · split at h
      · simp at h
      · simp only [Except.ok.injEq] at h; subst h; exact finishLE_lt _ n

/-- SubsetSum for every generator list and every sequence of selections `os.urandom` may
return (whenever the oracle list suffices for the loop to end). -/
theorem subsetSum_range (bits n : Nat) (gens : List Nat) (sels : List (List UInt8)) (r : Nat)
    (h : subsetSum bits n gens sels = some r) : r < 2 ^ n := by
  unfold subsetSum at h
  split at h
  · simp at h
  · simp only [Option.some.injEq] at h; subst h; exact finishLE_lt _ n

/-! ### TruncLcgRand: dual-variant (D5) -/

/-- the range clause for `TruncLcgRand(k).RandomBits`, all `k ≥ 1` and all `(a, c)`. -/
def TruncLcgRange (v : Variant) : Prop :=
  ∀ (p : TruncLcgParams), 0 < p.outputSize → ∀ (n : Nat) (seed : Int) (r : Nat),
    truncLcg v p n seed = .ok r → r < 2 ^ n

/-- the repaired variant (`ba[-1] &= mask`) satisfies the range clause. -/
theorem truncLcg_range_repaired : TruncLcgRange .repaired := by
  intro p hp n seed r h
  rw [truncLcg_ok _ _ _ _ _ h]
  exact truncLcgCore_repaired_lt p hp n seed

/-- **D5**: the pinned code does not: `TruncLcgRand(20).RandomBits(63, seed=123456)` is the
64-bit number `0xA3A607D44D04A862` (the value pinned by `rng_test.testTruncLcg`). -/
theorem truncLcg_range_fails : ¬ TruncLcgRange .pinned := by
  intro h
  have h1 : truncLcg .pinned (truncLcgInit 20) 63 123456 = .ok 0xA3A607D44D04A862 := by
    have : truncLcgCore .pinned (truncLcgInit 20) 63 123456 = 0xA3A607D44D04A862 := by
      decide +kernel
    rw [← this]; rfl
  exact absurd (h _ (by decide) _ _ _ h1) (by decide)

/-- what does hold for the pinned code: whole bytes are never exceeded, and the range clause
holds whenever `n` is a multiple of 8. -/
theorem truncLcg_range_partial (p : TruncLcgParams) (hp : 0 < p.outputSize) (n : Nat) (seed : Int)
    (r : Nat) (h : truncLcg .pinned p n seed = .ok r) :
    r < 2 ^ (8 * ((n + 7) / 8)) ∧ (n % 8 = 0 → r < 2 ^ n) := by
  rw [truncLcg_ok _ _ _ _ _ h]
  exact truncLcgCore_pinned_lt p hp n seed

/-! ## ★ the emulations reproduce the generators they model -/

/-- **java_spec**: `JavaRandom().RandomBits(n, seed=seed)` is `new BigInteger(n, new
Random(seed))` of Spec/JavaRandom.lean (seed scrambling, 48-bit LCG, `next(32)` with its signed
`int`, `nextBytes` byte order with arithmetic `>>= 8`, first-byte mask, big-endian magnitude),
for every `n` and every integer seed (`(long)` = low 64 bits, two's complement). -/
theorem java_spec (n : Nat) (seed : Int) :
    javaRandom n seed = Spec.Java.bigInteger n (Spec.Java.Random.new (Spec.Java.toLong seed)) :=
  javaRandom_eq_spec n seed

/-- the repaired `TruncLcgRand.RandomBits(n, seed)` is `mpz_urandomb`-style: the low `n` bits
of the concatenation (first output least significant) of the high halves of successive LCG
states, each framed in `8·⌈k/8⌉` bits. -/
theorem truncLcg_spec_repaired (p : TruncLcgParams) (hp : 0 < p.outputSize) (n : Nat) (seed : Int) :
    truncLcgCore .repaired p n seed
      = Spec.TruncLcg.urandomb p.a p.c p.outputSize (8 * ((p.outputSize + 7) / 8))
          (((n + 7) / 8 + (p.outputSize + 7) / 8 - 1) / ((p.outputSize + 7) / 8)) n seed :=
  truncLcgCore_repaired_eq p hp n seed

/-- the pinned code coincides with the repaired one (hence with the stream) exactly when no
partial byte has to be masked. -/
theorem truncLcg_spec_pinned_partial (p : TruncLcgParams) (n : Nat) (h8 : n % 8 = 0) (seed : Int) :
    truncLcgCore .pinned p n seed = truncLcgCore .repaired p n seed := by
  unfold truncLcgCore truncLcgMask
  rw [if_neg (by omega), if_neg (by omega)]

/-! ## exactness of the byte-level model: no `to_bytes` / `bytearray` store can overflow -/

theorem to_bytes_fits_truncLcg (p : TruncLcgParams) (x : Int) :
    lcgNext p x >>> p.outputSize < 256 ^ ((p.outputSize + 7) / 8) := truncLcg_out_fits p x

/-- Shake128's `seed.to_bytes((seed.bit_length() + 8) // 8, "little", signed=True)`. -/
theorem to_bytes_fits_shakeSeed (seed : Int) :
    -(2 ^ (8 * ((bitLengthI seed + 8) / 8) - 1) : Int) ≤ seed ∧
      seed < (2 ^ (8 * ((bitLengthI seed + 8) / 8) - 1) : Int) := by
  have h1 := lt_two_pow_bitLength seed.natAbs
  have h2 : 2 ^ bitLength seed.natAbs ≤ 2 ^ (8 * ((bitLengthI seed + 8) / 8) - 1) :=
    Nat.pow_le_pow_right (by decide) (by unfold bitLengthI; omega)
  have h3 : (seed.natAbs : Int) < (2 ^ (8 * ((bitLengthI seed + 8) / 8) - 1) : Nat) := by
    exact_mod_cast Nat.lt_of_lt_of_le h1 h2
  push_cast at h3
  have h4 := abs_lt.mp h3
  exact ⟨Int.le_of_lt h4.1, h4.2⟩

theorem to_bytes_fits_java (s : Nat) : javaNext s >>> 16 < 256 ^ 4 := by
  have : javaNext s < 2 ^ 48 := by rw [javaNext_eq]; exact Nat.mod_lt _ (by decide)
  rw [Nat.shiftRight_eq_div_pow]; omega

/-- `res[i] = b` stores a value in `range(256)`. -/
theorem store_fits_lcgNist (a seed : Nat) : (lcgNistByte a 8 0 seed 0).2 < 256 :=
  lcgNistByte_lt a 8 0 seed 0 (by decide)

theorem to_bytes_fits_mwc (a b : Nat) (p : MwcParams) (h : mwcInit a b = .ok p) (y : Int) :
    (y.fmod p.b).toNat < 256 ^ (p.outputBits / 8) :=
  mwc_out_fits p ((mwcInit_ok a b p h).2.1 ▸ (mwcInit_ok a b p h).2.2.2.1)
    (mwcInit_ok a b p h).2.2.2.2 y

theorem to_bytes_fits_lehmer (a m bits : Nat) (p : LehmerParams) (h : lehmerInit a m bits = .ok p)
    (hm : 0 < p.mod) (x : Int) :
    ((x % (p.mod : Int)).toNat <<< p.bits) / p.mod < 256 ^ (p.bits / 8) := by
  unfold lehmerInit at h
  split at h
  · simp at h
  · rename_i h8
    simp only [Except.ok.injEq] at h; subst h
    exact lehmer_out_fits _ hm (by simpa using h8) x

theorem to_bytes_fits_subsetSum (bits k : Nat) (h : subsetSumInit bits k = .ok (bits, k)) (s : Nat) :
    s &&& ((1 <<< bits) - 1) < 256 ^ (bits / 8) := by
  unfold subsetSumInit at h
  split at h
  · simp at h
  · rename_i h8
    exact subsetSum_out_fits bits s (by simpa using h8)

/-! ## the registry of the CURRENT /repo (Generated/Consts.lean) meets the hypotheses -/

def natList? (l : List Int) : Option (List Nat) :=
  if l.all (0 ≤ ·) then some (l.map Int.toNat) else none

/-- an entry of `rng.RNGS` is one of the modelled classes, with attributes that equal what the
modelled constructor computes and that satisfy the side conditions of the theorems above. -/
def entryOk (e : String × String × List Int) : Bool :=
  match e.2.1, natList? e.2.2 with
  | "Urandom", some [] => true
  | "Mt19937", some [] => true
  | "Shake128", some [] => true
  | "NumpyRng", some [] => true
  | "XorShift128plus", some [] => true
  | "XorShiftStar", some [] => true
  | "Xorwow", some [] => true
  | "JavaRandom", some [] => true
  | "LcgNist", some [_] => true
  | "TruncLcgRand", some [k, a, c] => decide (0 < k) && decide (truncLcgInit k = ⟨k, a, c⟩)
  | "Mwc", some [a, b, ab1, ob] =>
    (match mwcInit a b with
     | .ok p => decide (p.ab1 = (ab1 : Int)) && decide (p.outputBits = ob) && decide (0 < ob)
     | .error _ => false)
  | "Lehmer", some [a, m, bits] =>
    (match lehmerInit a m bits with
     | .ok _ => decide (0 < m) && decide (0 < bits)
     | .error _ => false)
  | "SubsetSum", some [bits, k] =>
    (match subsetSumInit bits k with
     | .ok _ => decide (0 < bits) && decide (0 < k)
     | .error _ => false)
  | _, _ => false

/-- every name of `rng.RNGS` as read from /repo by this run is covered by the theorems of this
file (a new class, a new attribute or an invalid parameter breaks this theorem). -/
theorem registry_covered : Consts.rngRegistry.all entryOk = true := by decide +kernel

/-! ## Non-vacuity and anchoring on values recorded upstream -/

-- the six values pinned by rng_test.testTruncLcg (63 bits requested); three are ≥ 2^63
example : truncLcgCore .pinned (truncLcgInit 16) 63 123456 = 0x61BD2B29909C8E52 := by decide +kernel
example : truncLcgCore .pinned (truncLcgInit 20) 63 123456 = 0xA3A607D44D04A862 := by decide +kernel
example : truncLcgCore .pinned (truncLcgInit 28) 63 123456 = 0xA5EC19808421926 := by decide +kernel
example : truncLcgCore .pinned (truncLcgInit 32) 63 123456 = 0xCB8975DC5D19C51C := by decide +kernel
example : truncLcgCore .pinned (truncLcgInit 64) 63 123456 = 0x567EE71B6DE6B032 := by decide +kernel
example : truncLcgCore .pinned (truncLcgInit 128) 63 123456 = 0xCC314CF91CC12913 := by decide +kernel
example : truncLcgCore .repaired (truncLcgInit 20) 63 123456 < 2 ^ 63 := by decide +kernel
example : truncLcg .repaired (truncLcgInit 20) 63 123456 = .ok (truncLcgCore .repaired (truncLcgInit 20) 63 123456) := rfl
-- outputs of the real java.util.Random recorded in rng_test.testJavaRandom, reproduced by the SPEC
example : Spec.Java.bigInteger 18 (Spec.Java.Random.new (Spec.Java.toLong 0x123456789ABD)) = 0xFFFB := by
  decide +kernel
example : Spec.Java.bigInteger 35 (Spec.Java.Random.new (Spec.Java.toLong 0x123456789ABD)) = 0x4FFFB5CF5 := by
  decide +kernel
example : Spec.Java.bigInteger 69 (Spec.Java.Random.new (Spec.Java.toLong 0x123456789ABD))
    = 0x1CFFFB5CF573588FF9 := by decide +kernel
example : Spec.Java.bigInteger 239 (Spec.Java.Random.new (Spec.Java.toLong 0x123456789ABD))
    = 0x1CFFFB5CF573588FF904B225B2C3AB76FAA1DD3C916E80D5DC770F555453 := by decide +kernel
-- regression values of rng_test reproduced by the model
example : lcgNist 950706376 160 0x0123456 = 0xE188F824E2F099626E91B7FF11B5FDFE1FAF1422 := by
  decide +kernel
example : xorShift128plus 160 0x012345678ABCDEF = 0x333A495B2B503B50A3C8F042002468ACF4D2A660 := by
  decide +kernel
example : xorShiftStar 160 0x012345678ABCDEF = 0x12E8FF6895348EC343D28DADE786D9E2B304BBA0 := by
  decide +kernel
example : xorwow 160 0x012345678ABCDEF = 0xE149F7EEB555653EE50F1BA9D36BAAB4F217131F := by
  decide +kernel
example : (mwcInit (2 ^ 64 - 742) (2 ^ 64)).toOption.map (fun p => (mwc p 160 0x012345678ABCDEF).toOption)
    = some (some 0xC5C2DFFCEF49F52EAA40F50ACB3C4D5E3E091D46) := by decide +kernel
example : (lehmer ⟨25096281518912105342191851917838718629, 2 ^ 128, 64⟩ 70 5).toOption.isSome = true := by
  decide +kernel
example : subsetSum 8 12 [3, 5] [[0], [3], [1]] = some 776 := by decide +kernel

end Paranoid.C20
