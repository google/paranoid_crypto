/-
Props/C08ChainAnyEx.lean — non-vacuity of Props/C08ChainAny.lean on a NAMED curve: real ECDSA
signatures on secp256r1 of ONE issuer whose private key lies ABOVE `n/2`,
run through the REAL checks of /repo (`CheckNonceMSB`, `CheckNonceCommonPrefix`,
`CheckNonceCommonPostfix`, `CheckNonceGeneralized`, `CheckLCGNonceGMP`) with `lll.reduce` (fpylll)
recorded inside the solver calls; generated by harness/c08chain_examples/gen_any.py, every value
re-checked by the kernel.

In every instance the row that yields the key carries `d − n` in the key position (fpylll leaves the
centred representative): the hypothesis of `C08Chain.chain_*` / `sigs_*` (key position `d`) is FALSE,
the hypothesis of `C08ChainAny.*_any` with `x := d − n` is TRUE, and the margin hypotheses hold
(MSB: 8 signatures × 64 bits, `256 + 16 ≤ 512`).

LCG: `lcgShipped0` (Model/LcgShipped.lean) is the FIRST entry of the shipped
`lcg_constants.CONSTANT_FACTORY`, verbatim (`./check C08` compares it with the real entry on every
run: driver op `hnp.shipped`); the real `CheckLCGNonceGMP` was run with `CONSTANT_FACTORY` restricted
to that entry on two signatures whose nonces come from GMP's `gmp_randinit_lc_2exp_size(32)`
generator (emulated in Python: harness/corr/c08_chain.py `gmp_nonces`).  The whole shipped table is
not used (six secp256r1/GMP entries mean six LLL answers of dimension 26 per call).
-/
import ParanoidModel.Props.C08ChainAny
import ParanoidModel.Props.C08ChainEx
import ParanoidModel.Model.LcgShipped
set_option maxRecDepth 100000
namespace Paranoid.C08ChainAnyEx
open Paranoid Paranoid.Hnp Paranoid.Ec Paranoid.EcdsaChecks Paranoid.C08Chain Paranoid.C08ChainAny
open Paranoid.C08ChainEx (tableFn)


/-! ### data: CheckNonceMSB, 8 signatures, nonces < 2^192 (generated: gen_any.py msb 1) -/

def rMsbD : Nat := 70336514619152640556164487673529744860481656558662910394745315926720085700237
def rMsbKey : Key := (109688750342141348477906781097830209589146277181075153273176177461866915443027, 20308865353654998018419519334577962790032638227306951058972213559302370410282)
def rMsbBatch : List Sig :=
  [⟨2, [242, 129, 161, 242, 77, 137, 86, 158, 154, 254, 131, 75, 38, 71, 11, 15, 99, 218, 77, 238, 48, 118, 1, 19, 244, 239, 200, 20, 161, 12, 49, 83], [44, 230, 105, 18, 213, 37, 35, 36, 200, 112, 198, 113, 216, 255, 109, 232, 75, 242, 222, 241, 26, 163, 74, 61, 36, 202, 106, 50, 251, 52, 191, 42], [181, 226, 14, 2, 163, 41, 83, 69, 217, 205, 233, 82, 110, 116, 121, 140, 24, 144, 145, 42, 201, 103, 247, 94, 96, 246, 168, 72, 154, 67, 108, 134], [10, 192, 156, 124, 117, 7, 236, 197, 183, 255, 184, 74, 129, 176, 95, 3, 51, 192, 216, 107, 226, 74, 58, 192, 244, 103, 163, 141, 97, 35, 212, 214], [158, 130, 107, 214, 240, 168, 144, 234, 71, 202, 115, 142, 180, 140, 20, 236, 83, 103, 109, 164, 63, 158, 153, 25, 135, 141, 151, 47, 154, 69, 29, 161]⟩,
   ⟨2, [242, 129, 161, 242, 77, 137, 86, 158, 154, 254, 131, 75, 38, 71, 11, 15, 99, 218, 77, 238, 48, 118, 1, 19, 244, 239, 200, 20, 161, 12, 49, 83], [44, 230, 105, 18, 213, 37, 35, 36, 200, 112, 198, 113, 216, 255, 109, 232, 75, 242, 222, 241, 26, 163, 74, 61, 36, 202, 106, 50, 251, 52, 191, 42], [47, 128, 144, 234, 244, 149, 200, 127, 223, 1, 207, 208, 156, 212, 49, 37, 90, 190, 144, 103, 97, 1, 57, 53, 216, 49, 42, 202, 141, 234, 59, 48], [229, 23, 72, 93, 157, 50, 228, 0, 230, 60, 244, 118, 32, 178, 142, 135, 47, 222, 7, 104, 180, 120, 100, 99, 221, 138, 229, 57, 145, 193, 201, 81], [48, 83, 23, 254, 237, 103, 64, 185, 189, 116, 37, 220, 176, 61, 224, 75, 240, 164, 242, 30, 10, 220, 62, 190, 246, 130, 43, 85, 212, 109, 68, 229]⟩,
   ⟨2, [242, 129, 161, 242, 77, 137, 86, 158, 154, 254, 131, 75, 38, 71, 11, 15, 99, 218, 77, 238, 48, 118, 1, 19, 244, 239, 200, 20, 161, 12, 49, 83], [44, 230, 105, 18, 213, 37, 35, 36, 200, 112, 198, 113, 216, 255, 109, 232, 75, 242, 222, 241, 26, 163, 74, 61, 36, 202, 106, 50, 251, 52, 191, 42], [211, 37, 149, 24, 19, 70, 148, 200, 146, 225, 12, 250, 189, 84, 127, 75, 208, 23, 176, 115, 17, 172, 253, 185, 29, 43, 226, 90, 198, 172, 167, 115], [220, 214, 255, 207, 136, 133, 113, 106, 55, 248, 170, 248, 144, 99, 191, 191, 40, 21, 42, 91, 213, 73, 160, 241, 67, 15, 242, 241, 167, 36, 104, 35], [168, 51, 179, 184, 78, 15, 39, 249, 247, 169, 16, 182, 182, 104, 52, 128, 252, 145, 186, 239, 174, 23, 155, 247, 89, 52, 15, 108, 246, 193, 249, 129]⟩,
   ⟨2, [242, 129, 161, 242, 77, 137, 86, 158, 154, 254, 131, 75, 38, 71, 11, 15, 99, 218, 77, 238, 48, 118, 1, 19, 244, 239, 200, 20, 161, 12, 49, 83], [44, 230, 105, 18, 213, 37, 35, 36, 200, 112, 198, 113, 216, 255, 109, 232, 75, 242, 222, 241, 26, 163, 74, 61, 36, 202, 106, 50, 251, 52, 191, 42], [34, 39, 210, 91, 196, 203, 227, 196, 202, 55, 4, 29, 151, 221, 250, 67, 42, 35, 40, 176, 214, 147, 121, 119, 65, 54, 181, 25, 174, 219, 127, 77], [60, 136, 161, 12, 170, 158, 209, 113, 218, 148, 105, 126, 92, 116, 188, 10, 178, 228, 162, 1, 147, 145, 173, 53, 117, 243, 50, 158, 214, 61, 148, 105], [13, 56, 125, 212, 92, 227, 1, 233, 74, 37, 153, 171, 245, 253, 153, 48, 29, 143, 169, 77, 19, 171, 190, 72, 161, 174, 107, 150, 104, 28, 52, 249]⟩,
   ⟨2, [242, 129, 161, 242, 77, 137, 86, 158, 154, 254, 131, 75, 38, 71, 11, 15, 99, 218, 77, 238, 48, 118, 1, 19, 244, 239, 200, 20, 161, 12, 49, 83], [44, 230, 105, 18, 213, 37, 35, 36, 200, 112, 198, 113, 216, 255, 109, 232, 75, 242, 222, 241, 26, 163, 74, 61, 36, 202, 106, 50, 251, 52, 191, 42], [129, 96, 168, 164, 118, 227, 140, 199, 1, 150, 240, 0, 166, 132, 22, 201, 67, 2, 86, 40, 223, 221, 221, 23, 99, 214, 93, 23, 158, 20, 220, 13], [91, 152, 96, 250, 96, 203, 68, 147, 62, 243, 143, 249, 121, 230, 115, 35, 212, 8, 213, 135, 254, 30, 12, 40, 156, 157, 92, 77, 111, 122, 241, 85], [196, 36, 234, 225, 22, 49, 214, 127, 223, 100, 160, 216, 165, 180, 223, 240, 197, 71, 90, 129, 188, 210, 178, 100, 25, 218, 200, 150, 72, 20, 113, 218]⟩,
   ⟨2, [242, 129, 161, 242, 77, 137, 86, 158, 154, 254, 131, 75, 38, 71, 11, 15, 99, 218, 77, 238, 48, 118, 1, 19, 244, 239, 200, 20, 161, 12, 49, 83], [44, 230, 105, 18, 213, 37, 35, 36, 200, 112, 198, 113, 216, 255, 109, 232, 75, 242, 222, 241, 26, 163, 74, 61, 36, 202, 106, 50, 251, 52, 191, 42], [81, 179, 183, 92, 196, 158, 169, 105, 0, 179, 95, 28, 157, 202, 110, 159, 34, 141, 95, 205, 136, 84, 75, 91, 59, 224, 59, 124, 42, 117, 199, 236], [80, 32, 162, 56, 77, 244, 44, 68, 86, 226, 248, 153, 70, 37, 2, 97, 20, 158, 217, 63, 194, 74, 63, 81, 184, 152, 74, 177, 193, 77, 219, 132], [87, 175, 214, 8, 188, 39, 240, 122, 227, 52, 36, 62, 204, 33, 101, 190, 88, 175, 34, 204, 189, 108, 127, 103, 117, 123, 16, 106, 175, 161, 44, 170]⟩,
   ⟨2, [242, 129, 161, 242, 77, 137, 86, 158, 154, 254, 131, 75, 38, 71, 11, 15, 99, 218, 77, 238, 48, 118, 1, 19, 244, 239, 200, 20, 161, 12, 49, 83], [44, 230, 105, 18, 213, 37, 35, 36, 200, 112, 198, 113, 216, 255, 109, 232, 75, 242, 222, 241, 26, 163, 74, 61, 36, 202, 106, 50, 251, 52, 191, 42], [58, 213, 151, 100, 248, 123, 252, 115, 128, 143, 137, 159, 128, 72, 4, 65, 107, 230, 126, 255, 71, 217, 132, 6, 174, 192, 132, 10, 200, 219, 249, 160], [18, 47, 208, 175, 243, 109, 191, 61, 50, 199, 100, 215, 2, 215, 12, 252, 100, 205, 161, 73, 85, 146, 9, 29, 12, 14, 249, 99, 16, 186, 220, 85], [152, 54, 74, 44, 209, 211, 251, 93, 79, 19, 126, 140, 215, 185, 250, 225, 167, 122, 250, 179, 216, 75, 157, 198, 107, 26, 171, 172, 80, 176, 251, 188]⟩,
   ⟨2, [242, 129, 161, 242, 77, 137, 86, 158, 154, 254, 131, 75, 38, 71, 11, 15, 99, 218, 77, 238, 48, 118, 1, 19, 244, 239, 200, 20, 161, 12, 49, 83], [44, 230, 105, 18, 213, 37, 35, 36, 200, 112, 198, 113, 216, 255, 109, 232, 75, 242, 222, 241, 26, 163, 74, 61, 36, 202, 106, 50, 251, 52, 191, 42], [50, 63, 129, 155, 175, 58, 142, 246, 112, 139, 15, 104, 23, 251, 117, 151, 33, 162, 5, 164, 226, 236, 43, 123, 167, 213, 34, 186, 120, 0, 141, 244], [38, 65, 107, 213, 210, 215, 164, 97, 97, 159, 73, 13, 77, 167, 151, 104, 157, 96, 244, 145, 74, 86, 183, 104, 57, 157, 189, 249, 184, 202, 245, 241], [143, 137, 236, 95, 121, 189, 34, 22, 22, 202, 95, 112, 6, 8, 236, 169, 21, 61, 40, 130, 21, 98, 161, 27, 227, 3, 72, 199, 164, 33, 232, 41]⟩]
def rMsbVals : List Triple := [(95504413401740368929893732877379369121314314144791720215253333770991227938675, 99888697500585938326809280699198346046840158402870377459269444066296191019043, 76079908143739306746054969036517148990000314374891802287075587071086707210625), (82268029725762783334257405850201538171979163322106797392858761689376896543878, 4863443150058397966319039072582728271364466928485569931543093925481550173398, 71695864476209266747934918324917711307477640869816365456847126087487724002721), (58519138712798062244246173532776175393235190114355316630988506834276292287501, 41429699292753113994382772263384444813791025285457454143668241737683153121621, 88718545893622755592803164706328948997199801466533029990985260313533333402074), (36954871880442943132960367493547555765536420468194531034772879595824825616364, 36242686593608906170904806988791185200827729720262550334952032280112966523780, 39661893272293320503642593103138015850728329055228888798665822881915577904298), (22727848316768567612715231178981547248480595879319106685199408603556869082612, 17303477556906755702485604631815380290664150249986728556676907779101664409073, 64924426781435100299680293214695401343872024643997030730387836204541467027497), (21485860493564427804325058461048660331305670249495518068569039538162185681712, 103620779257624879729123351081954175442669993368839499446973330942594679687505, 21857830651367311058247711425532705319674124310697200427837182555550269654245), (15448995728170471456177894469766574791850220378786281581892623506774553231181, 27380173638455460436192447708318251525419725633656408359710375612808848839785, 5979878910794211116175008891332399806223101488949239709699772194701795144953), (26611528528488731750395887032909839794821932949669440474340834745259321457056, 8226113393410212426801153494541450336619062980529823450857056076748168027221, 68847474663719312894176849137487934936323261218281490381795847541744261462972)]
def rMsbNonces : List Int := [4077267191620747497500447700899843086780180131444685009722, 1671783994523188884029804370083482561979783828382924720518, 3311983543131669867554134805907678537783429524885811171040, 3470355810212457824090127913002330722947000357468124530942, 2612403815525382296473153717785637144801796498176973771413, 641690276106291677377478083878380444713691782329197320447, 4309129019347178567653461361445662331818541775936286229023, 4776546380686363010931581277397723430028462008821372120122]
def rMsbAb : List (Nat × Nat) := [(88803474674926867521219488674822350607249035455702011595681949096814851225015, 42082179272158317269268840505295847553618768778384637340429253454898469950052), (32579134624463173290082867402622522166973511791273423645497757849436677996130, 89599875538925758445051182545826864273037360135054807407635986852073804335204), (68461886999310749469260371975262587310320588311679618249645647036934130497625, 75295381193258713310541136179396922970805316614739165715080224149040104747186), (64866518100553112617011106268812318364030648851001909610321940684499678757748, 5834941479666367558047831801498877661748703841631984605993241357930709488732), (57367177659855269956952401879276814646342948566843413457379067872081154901660, 26035451419281249383367488500480026920703487985404104649548058167140950446163), (76367522261692652971564008211682764511003014045414407985700367087577161323042, 47536165773968474691766596704555780472196872691409636266848327555422835625656), (97340378325457152894739478268866481727543783268406730252764162411818619835440, 1300968426971773825119333092690816283991807020738538489107217725359716276278), (107331802078492442179685297422674963192277820026601366691952445810442893113384, 87042895906234385071167725941082104841660300215711397112891534820488212274666)]
def rMsbBasis : List (List Int) :=
   [[0, 115792089210356248762697446949407573529996955224135760342422259061068512044369, 0, 0, 0, 0, 0, 0, 0, 0],
    [0, -9031620539068761939329326197125422455128727327875040592540690748622116078122, 22685511454623044004791294273811679173985476477932538162635792333470812263708352315392, -279187119497125601034313508195063608546931099398493015475289831505786901464198718423040, 139082738120377901503215196716635721904295492873464858496552968878691333417781235286016, 49737587401431153328354973984943476787512714190636505011511170222230306811116756402176, -148858378865994892379074855957652639025159770083506649409204207900366914364983784505344, 47174792915378966359392495432355323305730568772843536858569264354968453100946518441984, -178411850845141347527737709333000385151118095836159748109175058712279006066568610185216, 10789457232773051317101829458502936689055967367178359780131052225926342661078354231296],
    [0, 45381478736368304122010696286539543985949462882649944309336092584204196487576, 14195793994718226321684870579603756646126874183005691940794940310527010929330656116736, -239439425023315968229134753921981242381915665613713595833602799369473154463166676074496, 178829833379644307014744872560068292602389703372300057298157676289961528792217615859712, -233211989643568471089144757997941973850487422154638099692217438200722212134923857297408, 175468101787906772200809800773284282616872721990863015733123855795497651669092423172096, -121022405136429345661490996454212059853866530294793084392819121920115510254202649575424, -105405019759124199305228197230279572555148768354376915652462306080497606169094019612672, 82833765754035642527912493328542173502743870911564575951720952084147628689224779169792],
    [0, 15389316800238208733895048413772018053116720634078012531711135082945516810061, -40058454437897507222767221837486835418963061307490518471914193736326254191035258241024, -170779930989234854573735577515245525985495525050540104288192841383399501265470457118720, 104371357904624148699371029265546488770314343312630118684104968459387951670734935293952, 177720602960886757496073951190089333260038803793089535102715844038560997980303945367552, -225604381931100484202088676301572586746365904918190125005826077160952639222985435119616, -56792724469360878576238533935838615626324471546534919428275704492881750165602661564416, 368479672666531572759710100586814474785029692741752446402338853665492119361619618693120, -254797990109439844630095457207429626083289520500394525272192373922077141705484958433280],
    [0, 12987339842687119769610278503169869178097698142044851293560057535198743253174, -477093365965029324840125288199236979813456498960585019792248871132089733866839028531200, 230651133588114033680968208024455145443733312473774492695613626522864659005746519736320, 10682467370841124839208992222903281993449047914843111657264766491942179251597512540160, 111948071768655288514700891384030989330307402454859173637538557988303159641785065537536, 214888812193465048283901013477292649159826165159280030025207419109357020074872234049536, 48902431375881199271103624256951088520728102545523083043322127316837729513979814871040, -194603706333993903603317379590405670599580572764398514282194292529562374545919600230400, -75322743450320572431666842308202060143857967032591488233419588843568190516909815365632],
    [0, -3231683942313064850784778800629014676443168653581764824094212583948706404774, 393926704090483574510472218504589282313799299705178042907574099813998541207743332614144, -40165623867398805130395745304140125241206360622136448248692974487802083001133804027904, -222022778539932306349717560395576063881127623209058023081141337396718234194375448985600, 191461111231566086251189709195526693289596013825533218584237949508508376597968692707328, -41677253247150122726465088531221324845738413109982703098725740405069459974254594359296, -181194583435573039930116589730999236255050995942906550529186401672673781796372224147456, -230066678034155096986228418212660814416754015916381451688538764634703288571739886321664, -207963851449914710423909472079349854019754903306703436486984667726026168431643287617536],
    [0, -54557322317596253418124693176431999861781518011913474162270579442473410728849, -162229676591502359123666399926753522680267478297307166534693682649819864089565226598400, -257776003957351907787211970584068993181688453369323082194879529450504672382053645287424, -276768567945582990408878754093725664303674344221236931044265000737211070785845463089152, -147336217605547467600398295806580858034067027896616142949594861571800866043842558689280, -88429735808945329040741548013142229777682943407201454643102506311466133313003567710208, -4320428143870734359217143167564177852192684485779257234613824336697187703242673356800, -136205056474891037044080644551602051569122568157603293566579104292310578489264256843776, 408117772379173402575373139007588898061253145784801743062119761375280700905827099213824],
    [0, 44037690467497358797171919600840369885904857951254215297812055499456029431051, 71297631894595700838707823710692149909173391741451388584892523523918995198338167472128, 150579760701286831476554019769577582197328674018489274658939206872270939553078934765568, 302438441988192816627978622367482575827374679711375754578488803866514190569743545532416, 208814216319582186190418878396593091294698229223476565661159210871115973452791210311680, 29647716217353854152305593147420989506298472261853551055824378970231447677782244458496, -351394250410882224620874524562989023041566025012232757210163158311700565932607421808640, 71081679417386437120425665603222363923287259017060044898236063489267529618658596749312, 132531083983980470808691208260405145795939937983196036560882941031494246782605652393984],
    [0, 37790353096892285418521435337758230594334652154360732802469347620678794834016, -114815908658226722101922024148326045708995505850410677398874806235684747055474313003008, -121649525870913851329917902623748543372443197851751606742283073025008529604957553295360, -85960798547631211315073255568635314948368564819723738676841574049730878488740592877568, 460332644288908504813398486737476852429861107547469136382080193688913191344329226977280, 174774083062887580359717801452348335922790707714087760728831204037785144255011360866304, 302919797099782173696474381901333956449727421979337402588370953855986659716048030269440, -4303716118343007976462207799047672324787846532201327177675597197149913143439773401088, 408703042610578392954831253686744055079278414591508672155262271163228713997332731920384],
    [2135987035423586846101027153251486061877809435529720887698291428752390546872544769182734487650305, -45455574591203608206532959275877828669515298665472849947676943134348426344132, 75212304403960410688024248987400055854589280809970909179478919540965220810752, 30838971493493116042453141941323564748356029588804541537380368892063895257088, 61095312796487694263091413292822016771059424799093292698584148777802284400640, 64016765475700165810528282449402597889025895113487499863574329036185138102272, 48190344602179066607475878044660434006472389090181986927873827378644708753408, 11837096297920781890054927474921451537781886459639325467280781163337038692352, 79489400200492418031364403704901361168040374620487756556740647637520815751168, 88111728640724974747143541200923352707383660717029078016941758380075911217152]]
def rMsbAns : List Int := [70336514619152640556164487673529744860481656558662910394745315926720085700237]
def rMsbGuesses : List Int := [70336514619152640556164487673529744860481656558662910394745315926720085700237]

/-! ### data: CheckNonceCommonPrefix, 10 signatures, 64 common top bits (gen_any.py prefix 1) -/

def rPreVals : List Triple := [(58770280597444417263235494822871275617066805752861498543164068313221386996091, 45507565812236182053088790742053281283978292195659140255320511925141482664466, 60711639847527118569868121862486701820268112220395918475905688405553064993949), (91648126024980907945738181943199504320909657741666390713097140667777470488684, 31081445110314838679567177039571529967458489000786746134503184083718054031191, 102680819477647325312204820000978056101977983417916653314176185383901324809915), (71414486068156602667867504055928232347474064361921853718798026981670630959496, 84927805756997499174976830061174455284627273493490159809933443013560328908658, 113699106923996512806441288116593111874861046207609959124129889388796775522188), (79123001769590341200849171290284645041018835329709808920886315470598507477910, 99842254784900402289807577514456608676895005616409843730634239671892489455284, 73130542552992516058391179722216358103907060367912581072168440236014560260708), (45304042523608906019885471847253927299652511934499817437360937360458307653716, 4080061183651917752716393842540041643541217244615733737938730988216081673316, 53138038777401758455749247232308176215539474684285304006492502325315169394118), (1830308233907866485869024692667940588695622878846945469586166550174012303788, 62890796002647891010632641199238266345611705953054983017603047262890857013786, 40347826035135246744089221430337258120717555632952694346195993049801526328904), (82336678408236478264817253876457395213686060365341571205561810619891748122752, 60141689760507940226344737534154114771824446810941913155930843247603888865605, 11694378275555601156015697606335200320635476487015634584400007083849585295207), (102063577960291577622284929978685898044535912316365676158459292203748353238163, 47808012457189213175161043412599355991122767003111458369117006464805007866063, 111498949958964256751019547867173941585478748071138969064598791179927591295991), (56359943321056573890690017903633320594660933171786571852374429295151162944212, 89802392984823273823798486570145595387446089632596621906309530602362343781997, 64178694587005244981194499393042405540935981320166490021824207509850803935290), (28697442354569586384372855478718192476809542840332580906341162655178610947347, 76600009448962732004300072809188062381485411924453384655797432757113675740887, 48444597666327659543903050390482189803013054877948983420017939542620768477467)]
def rPreX : Int := -45455574591203608206532959275877828669515298665472849947676943134348426344132
def rPreE : Triple → Int := C08ChainEx.tableFn [((58770280597444417263235494822871275617066805752861498543164068313221386996091, 45507565812236182053088790742053281283978292195659140255320511925141482664466, 60711639847527118569868121862486701820268112220395918475905688405553064993949), 1704095962195090856760936914200588887142192976470426928565), ((91648126024980907945738181943199504320909657741666390713097140667777470488684, 31081445110314838679567177039571529967458489000786746134503184083718054031191, 102680819477647325312204820000978056101977983417916653314176185383901324809915), 1929912332632901588928262657932219863048067092577642428138), ((71414486068156602667867504055928232347474064361921853718798026981670630959496, 84927805756997499174976830061174455284627273493490159809933443013560328908658, 113699106923996512806441288116593111874861046207609959124129889388796775522188), 617384180095546271399878679017509198072505356502470391867), ((79123001769590341200849171290284645041018835329709808920886315470598507477910, 99842254784900402289807577514456608676895005616409843730634239671892489455284, 73130542552992516058391179722216358103907060367912581072168440236014560260708), -3989642672972016148534135684930587227759156833325013015577), ((45304042523608906019885471847253927299652511934499817437360937360458307653716, 4080061183651917752716393842540041643541217244615733737938730988216081673316, 53138038777401758455749247232308176215539474684285304006492502325315169394118), 746405832702262798532919034205203808116504537016293587456), ((1830308233907866485869024692667940588695622878846945469586166550174012303788, 62890796002647891010632641199238266345611705953054983017603047262890857013786, 40347826035135246744089221430337258120717555632952694346195993049801526328904), -2054884888268650966664712865837078868052547334941867291076), ((82336678408236478264817253876457395213686060365341571205561810619891748122752, 60141689760507940226344737534154114771824446810941913155930843247603888865605, 11694378275555601156015697606335200320635476487015634584400007083849585295207), 2035343720197800652396996096243182720982303797495053105493), ((102063577960291577622284929978685898044535912316365676158459292203748353238163, 47808012457189213175161043412599355991122767003111458369117006464805007866063, 111498949958964256751019547867173941585478748071138969064598791179927591295991), 985722689878205048696320379244746118159434105335459162801), ((56359943321056573890690017903633320594660933171786571852374429295151162944212, 89802392984823273823798486570145595387446089632596621906309530602362343781997, 64178694587005244981194499393042405540935981320166490021824207509850803935290), -96910808175297506470058359054633943293818575389117976750), ((28697442354569586384372855478718192476809542840332580906341162655178610947347, 76600009448962732004300072809188062381485411924453384655797432757113675740887, 48444597666327659543903050390482189803013054877948983420017939542620768477467), -1877426348285842595046406851021150556415485121741347320917)]
def rPreTop : Int := 44415392669856302548380465737599226675915701827851367333151434554975355198198
def rPreBasis : List (List Int) :=
   [[0, 0, 281474976710656, 281474976710656, 281474976710656, 281474976710656, 281474976710656, 281474976710656, 281474976710656, 281474976710656, 281474976710656, 281474976710656],
    [0, 115792089210356248762697446949407573529996955224135760342422259061068512044369, 0, 0, 0, 0, 0, 0, 0, 0, 0, 0],
    [0, 1633104721797705773410862231184338952492490442129233358480248021831440030503, -19898217324118041705232886143392858301228105995851941840100877201127608694675079168, 12324829217192129591560210579064080292530065969194915065032038888589228704536723456, 25314348727628274390615350596881792299584242068414362423446210191054197510065094656, 10881344708166914696040372289972276028356811651915518243283537701070381465645088768, 37602954669898433044119997874156548327581371593503229090785997711941813728354238464, 3677981943106832690465680301813336213709293101386282272669092911047546115094216704, 2497661581857547317018464419609003287889961093397033315594266947214710969271844864, -23671553635220975174185145955636581453813302616141166617529296386399877638043729920, 1717337865587626912804379671308813912319162159143519812930592539303268719821586432, -50446687754098741763206423633776410606929499024961751766111563302693097930116562944],
    [0, 53465964506508908073328435261185220998610479521384243681493240115015241200320, 25102482236767255227251339258660635990976209917719755857845415391426093559043850240, -27701686331187074026856286020526008736656940177963038717869529626154171471073640448, -20137255218971847553938046532517653475316919378064564274265041391551442506427138048, 15080254434684157190976841444206871171690941065523911931612212257520454500031135744, 45261572498224619346563852869148457016993967230128641323483597995691563893712224256, -16559517477499710784298292273827087408830625035107250571706619759745744970297901056, -898786651549349445479562325196640132164242591755181628915351910396317084669706240, 16778250410875906501482466715071686005009454100873258539244171992953278244434477056, -3076251874575833736575958804389316201790023614355197112375400364885967385189679104, -33849062026768122719126354330630944229911821517000335347053454584856339404680069120],
    [0, 28959880508930503851141053089113665902377413825574408769872368154878110151957, 215477603905304946486720214684376983630871487776468153860132718373416058344177664, 14643379204464982112145795650609088378038491188459675187091279966051601894397181952, 32689764314788932676199480493917802506823637291604554539682259092240000013960216576, 2278721936319253769103848709918245885115775089427147018982005888689775206763331584, -26547827179369672177293841599631154109632918957156356295393055022932375313122852864, 15727709105371303812233169391239801555841792937106341233923291889996739476038090752, -24752318139676499775033929994834614403260791655816151889002797530068289776814915584, 19800647597894274702808425236390017011459949436537243992233007052092510407084736512, -47778979558639225930471718407241308411259361258482684152407370024676342453717958656, 13723425114941345863822050304947744603242554440543762211031245970231838587161149440],
    [0, 8997438130087789435780499252254519697360963623307395998071966115647055779054, -40524217304465839837797357789174405657692447300503111516875626172259235157071888384, -1506350997678396425088428142964705508364341255486129847983796111514594991694413824, -22748350076047051239858896450090450470554205662614892992698761992691219691152080896, -22619483422511024802527542868445321250984986864834896183305470297846188759018635264, 3756554612244608190459195392582941434376548134693633280450927126893138884964646912, 12348855853909686122866358949049154596420212462000002465817084245541016272830988288, -33440286630039200390966026059627394661728037218973363797283747320069227949913538560, 32413544714001573814732395905107971745271907233382124205091015781000165619400704000, 57816368495102525435680079088604810105208653825037991401766150179980406698329243648, 14503364755483119132500221974957399668046696647298642985022224560965739073324974080],
    [0, -34851273958411331504511277561969936584853941142846643493396263091577653761352, -42131516441147334756681943434158547488695264396570850755411473496007273703840677888, -31994728729923700522467921262072591558355014225968271637983338859860463579884945408, -2058784880650054594534742651371529022026404395713984378358405632857717217586839552, 54438154153233665886046349759660646117209089143605803071025314731138757663658082304, 6810076100021290024575276358011130020439573796542169143999135374635183245688307712, 50435095922123105755085471884483324204475976725074116913926239630565656995920084992, -10068928324244126660314093238756689693676733187851793757393922579234598484602519552, 18493332243365822106157915051513527825594068906645390112776109353553492372571029504, -16878413010221136086029327857555899210789848754474619884979790174634795524876664832, -27044287032557531151836984609753371194175443611287958827599868347297678817092435968],
    [0, 54250852245375693185883062306956114473985600229417443380270243986582460953718, 571241366907198745119168412953200204370667543353544497266996801848778864772251648, -28630132298719716993275312544184832217583750818687977457766515273829689986054619136, 16301839166782184393761956089989621207617111685275547569147515593122818071076012032, -2680805235766914799078441890565999967479306019718955869594127441746246390176022528, 59424213677848940289810680171169788785939500126943713641096412298420404512878493696, -40839853984833444632517408124871508289300036013126459474358249816520773870402142208, 9119131838083336789793833941635624303976514014983112966763280230379272515142811648, -41721349525421174522083359556652483659715059078429302965332671257283909044655882240, -9266499236579560717645796475997558002942352875595869974526633066161908956809658368, 37722214231699151446114679976524147635116711435002647067303991931772380184135598080],
    [0, -15104486695958204708117515793317148261589588250577535004255042039856519056104, 2933657533270369175814623673755623959719849415198149218089225427703331686826639360, 47794583922317716533348519260143204437212254247445326962748159763235147419742109696, -20372982826679968839946654884768859411731641317698220537592838100463517757807263744, 66628147743755099005987209461412299106506196362329480028263074715510534642209914880, -70217507653223951582880888870668148031438518408707965282908119893745215200311640064, -1824525050185475226618168067036079851684369448318243881886733369218566629024071680, 2163031692994280764119676293325115843521618357903592015556442807721310498695675904, -3994853298206941263351170200378030683098265672081770991585883779064543296421363712, -34672809052427843682599354905909541460738943822144831528332604864711701922708455424, 11563256988386715116126208240124416091731820286074483997649277293032094658891612160],
    [0, 10039321008674509716536190141136084430086014287194520729581249678430805477638, 51708507571990315748868659559315439216227565903709289945408112733223208999681261568, -33837921525218476459220400079121483848405368706366880248477846033576013817911967744, 29264950222600793026493771066385104990700144086922850789251635427878187256573329408, 29220779311508604518230977349646911782694433263562949369915720706291249249091846144, -24514376530150065371805156925591312145699756304830873623503103145256669175911284736, 79956904073588207081153743907741995241767696187515891431789214928334575145844736, -10492613768972023312554011711439735033441574718419114909004050839958232115085049856, -12681182136082394774211571522667530746901679140703366162338468966497344793947930624, 24177989565213773091920341308146845864098897735072104030317566329257803410986500096, -52926089614964114674803762788581982074514429815134475083001355426289679163692417024],
    [0, -49954641637055944598361363432053843863896900272724823171633334556229344751470, -24767272983148999184139576784484304175943210963456728831611472412575030329703661568, -55678336045160083314601577253894826893207218041489225349505417861886579240664563712, 25964953706268121723368919882958152612241013789760730598789262566446304037955436544, 19488753689760278436455421429842694053312444372544919924222115418624129473047429120, 9762548305519816775046874488739162245705159422062027624139205680947053188387700736, -37019553309682000027715469444530038284396615247008294786477957900439374379060559872, 68086517718347727639665194692701203900828624550177714589374396888598694885307973632, 24391677412432000386618916884994258498235136934351911179569527849944042245919342592, -17110057723556724986239463470594222297168088332747023584905180705546732321531494400, -13119230770780137448459240425732079659607246484196031363594479524111663134727471104],
    [-32592575613763227021805223896049286832852316826320203974888480052984474897347179705547096065, 45455574591203608206532959275877828669515298665472849947676943134348426344132, -479660371271586126334318643564425199892349172820304276314154808786288640, -543222028881453770213511908944571223013657610723968848339582332098838528, -173778197713921336339150868627317287623104708146818664122094018994634752, 1122984578458637597483859385149255330909446600370805397302644150749888512, -210094564376567219807605491717063030136835037221394997395982636743131136, 578398676068497487551773275324461180679513047896377136011249755782905856, -572898326240855880707117039091983204323903917587029020500012102905233408, -277456271176632952902961297122558067167574176319590643359667634575507456, 27277967474152716721143746091488265089742884061418106678603832885248000, 528448537659729484547888842502713235478722090490505810038995794685591552]]

/-! ### data: CheckNonceCommonPostfix, 10 signatures, 64 common low bits (gen_any.py postfix 1) -/

def rPostVals : List Triple := [(95560611718701762579759677970049781365866097637197298964796516123774743587576, 16038551602294296853075079635291742923121249186913834499277901766645081115532, 60711639847527118569868121862486701820268112220395918475905688405553064993949), (16997864773597485050453113020879331074458981407689765800976950723351381456794, 84663807978207261124608496877126289527266473895706930767386652253281544799748, 11694378275555601156015697606335200320635476487015634584400007083849585295207), (22036743512448766656318895264389719170413002194719483724181130247041914196038, 114099961437776335544264742950752570482291150094717019513702429713772706796617, 53138038777401758455749247232308176215539474684285304006492502325315169394118), (98891322413800430332201242425751567519750703730663089105036592506228714389489, 35612891448694008575335741304475587118965969749190020304409382689708832286703, 40347826035135246744089221430337258120717555632952694346195993049801526328904), (66425806944383142391262430104621886053552622622847286747996588565542471607859, 12724419996092572399871576456024513721091325672960719848877407309940639435687, 64178694587005244981194499393042405540935981320166490021824207509850803935290), (46257407225124341742203585310990563149732982687196895310611697695385426705399, 82382227154683376455167616764931341508399087527164724311063494692077091619594, 113699106923996512806441288116593111874861046207609959124129889388796775522188), (29507746766337128432574489966257718546718260247567950486592032599543275537868, 93007622897477193716012083725172808751980397930710297553652326332708342870317, 48444597666327659543903050390482189803013054877948983420017939542620768477467), (115657886047771913239990669952822563011693031400863748960064795714619556434695, 111398698824452828496454788815285848467535895213676460305849263562397354760075, 102680819477647325312204820000978056101977983417916653314176185383901324809915), (96936556316095091507525115118920069514359333136734568606529992678003013519494, 102674314362009739705688368911126631001640926575881396369093300455414093345765, 73130542552992516058391179722216358103907060367912581072168440236014560260708), (115527231249134378751875198168339121924975672724012210326939249104032844006999, 55606870770739751447420526073799861824248688318975757504218423627459475217988, 111498949958964256751019547867173941585478748071138969064598791179927591295991)]
def rPostX : Int := -45455574591203608206532959275877828669515298665472849947676943134348426344132
def rPostE : Triple → Int := C08ChainEx.tableFn [((95560611718701762579759677970049781365866097637197298964796516123774743587576, 16038551602294296853075079635291742923121249186913834499277901766645081115532, 60711639847527118569868121862486701820268112220395918475905688405553064993949), 3659518216241407483706005559307728017635132458984592037398534160384), ((16997864773597485050453113020879331074458981407689765800976950723351381456794, 84663807978207261124608496877126289527266473895706930767386652253281544799748, 11694378275555601156015697606335200320635476487015634584400007083849585295207), 4370867358039915052747687190949827018147731041136190310726605209600), ((22036743512448766656318895264389719170413002194719483724181130247041914196038, 114099961437776335544264742950752570482291150094717019513702429713772706796617, 53138038777401758455749247232308176215539474684285304006492502325315169394118), 1602894318233015319875786482204102331473429320119844161917936467968), ((98891322413800430332201242425751567519750703730663089105036592506228714389489, 35612891448694008575335741304475587118965969749190020304409382689708832286703, 40347826035135246744089221430337258120717555632952694346195993049801526328904), -4412831696212767309594977682736460842704932091860955944945228709888), ((66425806944383142391262430104621886053552622622847286747996588565542471607859, 12724419996092572399871576456024513721091325672960719848877407309940639435687, 64178694587005244981194499393042405540935981320166490021824207509850803935290), -208114375111597250214190168338288721652812025292359684855989010432), ((46257407225124341742203585310990563149732982687196895310611697695385426705399, 82382227154683376455167616764931341508399087527164724311063494692077091619594, 113699106923996512806441288116593111874861046207609959124129889388796775522188), 1325822431844334578093788880508269332864712882214004546275616227328), ((29507746766337128432574489966257718546718260247567950486592032599543275537868, 93007622897477193716012083725172808751980397930710297553652326332708342870317, 48444597666327659543903050390482189803013054877948983420017939542620768477467), -4031742382360809788712996280928000616361236249106862516150892232704), ((115657886047771913239990669952822563011693031400863748960064795714619556434695, 111398698824452828496454788815285848467535895213676460305849263562397354760075, 102680819477647325312204820000978056101977983417916653314176185383901324809915), 4144455174882473530273535078730363340359417244693777786373989728256), ((96936556316095091507525115118920069514359333136734568606529992678003013519494, 102674314362009739705688368911126631001640926575881396369093300455414093345765, 73130542552992516058391179722216358103907060367912581072168440236014560260708), -8567692402833873899953964573168954001646487038307664673862609534976), ((115527231249134378751875198168339121924975672724012210326939249104032844006999, 55606870770739751447420526073799861824248688318975757504218423627459475217988, 111498949958964256751019547867173941585478748071138969064598791179927591295991), 2116823357277902283779325513471414141885044457419433977122037694464)]
def rPostLow : Int := 37330888219500897953636709176157613783431026655424789822936665141955835251077
def rPostBasis : List (List Int) :=
   [[0, 0, 4294967296, 4294967296, 4294967296, 4294967296, 4294967296, 4294967296, 4294967296, 4294967296, 4294967296, 4294967296],
    [0, -115792089210356248762697446949407573529996955224135760342422259061068512044369, 0, 0, 0, 0, 0, 0, 0, 0, 0, 0],
    [0, -56062648176095026801446909627032680011139772758082561198114107087387055762200, 307054843505564101781094778498363613751530356666435064597327873931201040351232, 353827378892806940014989301656224992839217043381968893251756517052632742756352, 162237387787997360594963525028535730574628388022903985870275092861806989803520, -338645850555884431658702416124042799598836924490274273276986103018023687290880, 652504743096818386681181140262187914592088878586404329833249505537859635904512, -198976831380471172791540818416628048236282280572967977431128839042961200119808, -102778803233291867559837518402990263544486249938739101208577453492935633928192, -574691035932536837543450941132952597753290458775693949931480674233534904270848, -270602552008891941080938708263511208025240520561109299621873172095839401672704, 10070719827889461562241656894812665400671767681072327917437252499807303368704],
    [0, 28659230682003145349655323524864864800016216085265769533800379567784022211269, -80315089178470376132732146099390714088605318249163631930114861198207197642752, 41184041675167195428679124431653634473456066821761133666202143016123960918016, -329248018578201286683253531791361755886593612179457690144540628283333055348736, -211256632646468518903094785428185642114862774787234830695331787981880276549632, 563172336675446733266747277762585706250773322281238781321339851736833098514432, -559729594269654839554557392104711411527373863364495521045544013220836653662208, 669885750361096791437421192073045357360098271444124075300224340790043167686656, -193093516946537556564517122878337636036200094288362257713232121106732872105984, -244959975535780495386815379373417834080188589175457183092038341251468896501760, 344360698443402353092122763408120295649496591497047124333035417499437249855488],
    [0, -58233948505470999600194132070854779290734831594912683142227896813020813165199, -341205491672435754476253757461632979171275896568533500498234868877031219658752, -329890208962559509911896457599491294478429099536933357926706414183204270374912, 388036456664435368842627170448810231840277834246832001816554743043038902222848, 857460651842772360621100670515735178333397759434858930205264481240447566479360, -422084294890545853801746032928456640927482868734279999129546414489139700301824, -18394666370890344689970064440081106202906682466228751433398743587283271680000, -38873925191600021914908076387992469119428517001057067605210391857815995023360, -396334495939913557248405538703863036774687360215974140053097699839481791643648, 419053747388342873104887539658914747304281526463564120659478820495369609150464, -117767772867605560525435453101942630803746695622248236035103511944921304006656],
    [0, -10945078509764607406397691669498276534445028247338192317323139459993992438728, 174291053242646212881127792664741369452893597514992639728596904852009712091136, 354476952890870558011573795989108740131629167264710157947915468580158877728768, -376277383232848366142475592592509342559364427451522524163114040430740568539136, 290548479393140231877262131137823522223704985308290375065867261853667369680896, -763542190673864153904296040711650648595844841109222986208230009304360259944448, -168777968137573850936695946488396478877650794913339096473957739212246152642560, 74904993469772799137131989209359861580949173917851953982548790332505204981760, -244467413294607291497609324060092963580151478988973517804936102530210353643520, 656127509751162886402175950413168851818352717031365141818790433596541654532096, 2715966591300974171805244438447088405481901425847856106519032262678810722304],
    [0, -1953953061270042891958328174832404544808341754253739151640314256995984322260, 738601026215581610366010592182460426395940582426578123736431793029691322925056, 196680843123588628254813139962599659197493903897764235114866718231344332144640, -389268980355796983428961183490543069563914408168132358153137433489621508947968, 717381169427195059337038898138233748350298330160781307608711555648708772102144, -376552830563986980458330591928760533559090868295318823253128843552814522171392, -388885977987896226321789132263861320148435640066357376773985447663681977450496, -50767794933007767396048860248461301649893882170893217047434605550269850714112, 78328727023747709433752538423393278881223626737076332852462137022560973357056, -438321803721612432257921826496366165528761972998058185056777997673060506796032, -87194378227812617528563574278694722374859671523440039028007876002848444514304],
    [0, 5459157473327651493767711629110732917437256117902582876322982257745525656950, -919102138185036912180851747092719070814617604822464359906908672082502412664832, 653393886148974708551813717378376541374852419120705012842000428599250310397952, 100234544842155125815594308111480060008582030403050273095140040759231433932800, 129827500544719146996940430905996760564478389826397419718727234600663353655296, -131916214978777120096754656879760832843452522064932118213204498261804043993088, 141093186088177601127470608028836817846070037644691172907425872874067485261824, 166980625349292615485343451154388096125398400340906511832779729980590198358016, -578640506985491222804262880878984016706105650220904712432716157135300337860608, -11366598627416579578567771621351059704996358313703660694325449262021126127616, 449495715803402636683274540893736704149790858086254460851081469927829434007552],
    [0, -14071868445901626916341093277752168507577250149667085537465047970928419128854, 36180290235947130669376177807794740700031007568964892505937035432348692250624, -92456944126795518323776167670402899795477636655220855231310452735438609186816, 860824032358117094177072438760212715606163520968411607017390358491965157277696, 197153254565778062859682169137211856129589353515072290335869749689118835605504, -267386259043387331619083211170052338992870075816376619231154516593054459101184, -394314405458691983609129467289550817601891556687378437403353230174073043025920, 746959865138705113502497779996891958810128522003861592082896565279369648406528, 161880070372792692511112338812678762082237089714260514026283273331679898370048, -648229594040906166484132562337318220270609862561478821980029290294773794471936, -600610310001559093683619496047465756667300362050116162122529492427163800961024],
    [0, -13195663192705104016196354204113477010258611502712360383685956725898574159124, 1066762101424966838898294935088986131181250796799663665036936784785314284568576, 145808519608531440088836889100233111901083054670051230572454116267708251111424, 326284375833444877193153939613547006287761055302101261194968870216527303933952, -579509180109400715601881058742084774257266360117386981294615149602718238113792, -598179574843795929470168897149804150330960195281191861999949140541306646298624, -76257722884263892806184519940683498754005574503351855474474778118891310678016, -114280880368785159162821473888660621801933598300561779953688553469023814156288, -379788345025501953585281717735429401041330058436672608462736978388660674101248, -465769296275148054817833241703404080744223305230883038870249777355579797274624, 674930002639952549263885145357300277559624185098231969251354606206652115845120],
    [0, -17387495523334492581379428239542462845826981129587544111113731042647385710514, 320046220349304057549320708893665261158719241463818939783126581223403259166720, -786679667588012910314670163739896237150481364186417370649236141344453975605248, -649091552725749315191084928863030548034428263478303458417417382074198534389760, -13070560390271940795292097250147549338915519633235618286104103741333279080448, -290261829756030636611315909442424720613232140160738255086481771704062220173312, 815048297562185614101873084051717650424250499066968859067274423702331643133952, 829694977410127672012513367792941555560106389069979898099764466076159137808384, -740891073738920175159954271995602879229420140768402535600443712548688512417792, 186490303183814937511493096512966105045539713115121690006412860399764792934400, 328714885693552696897117114039811362177861585511207851083104780011073393655808],
    [-497323236293994552945025999390400494886052197667239440534797364089728926045946955956225, 45455574591203608206532959275877828669515298665472849947676943134348426344132, -15717511057873101183526946756020880235805805171966884168528713137188098801664, -18772732357935357814169431424767614219801703318283968066602847372335225241600, -6884378675755017306333481723345505510715730422882245476054065765728311574528, 18952967817986042652368336153202963106202283512443673562836533820209231822848, 893844434931786539993475768137684724104474715066209685125339269540842831872, -5694363985074605975794781262511468642213679821539049599449090298620661465088, 17316201678136805314598988956755391177939352212043683716036353940684101648384, -17800299435858184456110499097455695749041013951578205127167560307899447115776, 36797958672359146121290253747303256519599991982819318960374413949939688144896, -9091687090917513892315914361298131170268169736122533486570364098602120249344]]

/-! ### data: CheckNonceGeneralized, 26 signatures, secret multiplier (gen_any.py generalized 1) -/

def rGenVals : List Triple := [(34086132949854117682735303253646162872893114273815466792003309296797995107447, 9383629792258453668181291770448065410438418602688926291474216263398903848291, 88249217326716037937156049033306891023983043877908531379406663930521589710476), (76578221031044679409977593497429514069723077971109212804150558249445028367962, 77747683666429739627199937614857906538467394931127268262030732786041095576681, 108356761796757025614444235394115899221464234675043261304408470929780513054342), (27443485412879270617028905125052817617338674168397004688570227597337891660660, 42913494484577590710197814421354670602611678774924099814236922218089874422852, 83058719519365420261461788146828236510410923546812281078620166678112589748788), (91039597894537945960430087705944294511869967992284416182007031004410850336981, 29900989442285614577470234220732421575765922415217739486708331875381767397887, 3924444801407664339860966129039430322101319465724124882886799920268496672618), (50760929476182264324684181331450540998391041044025913777246859758183794687350, 104645352972216255692584812265246692285542288657578392716962385133009598938121, 3986579557876985920890604192808629730004356721610776553406759771528163799262), (99232408741756305920111085370096444525129343086870114984351231209267633962195, 3842572942709221048933423915473175796878182232731792408462264825470837715325, 75982417456012510922028275756135217685260181110037904077446413580321393783353), (53004078525240012126083801168342384496914306909128054787065984011208141593763, 103869962310687665756486750284769940037433328284836643204034243934620234564022, 61858717266972145710111530219559501859831025178181566533665352243703521221288), (70064339633898605181559204455763500754407040110829871815517833737941585150661, 3302701454861764618845828105800024822960028372349481661351244288265007434807, 77370740062980022147103586131810827202134728984220676937904216319835019531211), (46082085478038694267190454307020566956736654664155946488206672225690144545362, 6332252578023631049618477261290955398826359748259426567163544965955124165554, 47191228797700266750694252739734849470305364519208561733970182020505629314355), (85678497131635586397466025030462600502680602225496032479453354687394036524527, 39575911067827175809856242284035843770497971964137199364360690521922418451040, 52678216350264075020657366849252526431423844896323172336248564921822529283735), (51962404621794645210781051318998514088539877403817257899249323769313671367287, 28917072757236531212641662422512424874385612911305395204997826460663707600596, 39584473725525483552874848328422237949294531931824158970687094867230547503784), (71821039545784918337716030600996066678708599210791075406607069600227047005413, 8762541981824364795000434446736393431368992048192742301922901146465063970987, 92286630227329025529008602233511302712720765533268881604505683392481304714234), (12084800743355616079451300180773974726926893163482958240733611122724946140556, 57400472297280074461764525309621518875991135958321907664160210330070127807669, 14818843175122938351221499620702932116389805367136849692508567646453570253879), (59161217712801376080504734512476315134130163849003905958140242569343370456595, 31250564804205055694230180684331961534080462322205938289073919667143547796220, 56865733089497783023600336882176178359339284428006291025589291023896105261695), (23286865206577399583812665801187031599872419370041193807184177671949078099722, 86011216421053987948916323362310730394379330309934657662376341570835335505551, 114980153582537246800433428492677549278952972529294335316870715492932885963041), (70583601805872558304919548268809979681347753720175519764853896054226172423640, 55981249208973855358400160805616634098856350121179095390386861722003422324109, 111163957712040690470117833462333116839015950877648295707980972725766391601010), (75236262358181704280056200469837637700433982614452414283789249501001131447311, 28104535538373218045206604385885798425181652365338235300169162310948524456023, 3873980221696959214915497620753179235200821057491573146663209195902117659988), (48644997814219274162999528007131959842391991792822300617595017733725560044578, 96421162956198106868675343182660305010728036797570735505334940473263151553411, 9516257748262645453244713425410603319017028275430554520069244051436194302226), (101537018522423053533350723105758760361885536368788845386624694347765217086249, 111890396755767382814608423173146843830459858429693975315601463016079508448306, 5583479583465966390152248351185367692669234374989888588944352041415016254458), (70839628043470435374783082800479011361373527196073674283713624240540971976509, 18639544039840197094614807635709435843531152345971384987472536324011808934489, 8518508620770397898078890774844880528984015571798400292947087363628131810375), (93346996125839514752106880338062983717730027148555972380556948194016473025958, 90656574680900273717935521299753700436396026716881997922285752255541550052360, 27596631905243886127306842240666053147999941390992127017791063860304021671146), (84365621467788849550499687291211070169818818204939513868251134944219561629355, 50632538710492535469880781068936536313793948791258988418784325068145570799032, 41286056345484183595711764715743418353390894462553033338255445159957808082317), (81099515219471524146688238478111888811259158802091202720101838498305435204443, 19166288227737659625117415195568622060634253820583385369128274811007739828409, 64589783594543603395066578259150674914028793659933617404885938706071916072502), (1084645877323060567719654807290714544157447321677849249323071793500154946665, 109707170630183375513762075747997958646103761335630236979026726912560405803460, 36740919261267906073997676918249251249460249050467100228963856780259656986073), (65176355053372032940602157101444195043820267846467849812605438402573981978093, 82954007123191051997371576570579256264056413411619118442868155992355622724512, 1409745518026948916678258317341174165346243041500319072713488717671589630026), (65913101691764200950100188810468997694105287675003896113286181437828309690905, 66464608255461460496655220020488278471130159554005918827421930197502775310484, 57335410207231595057703969883319334588257163810047825216430633144962920615297)]
def rGenX : Int := -762107489163197023454590201591351509988222082863250625511805744565332198641
def rGenE : Triple → Int := C08ChainEx.tableFn [((34086132949854117682735303253646162872893114273815466792003309296797995107447, 9383629792258453668181291770448065410438418602688926291474216263398903848291, 88249217326716037937156049033306891023983043877908531379406663930521589710476), 518747875304931933142674417644862828880652078963508853099626), ((76578221031044679409977593497429514069723077971109212804150558249445028367962, 77747683666429739627199937614857906538467394931127268262030732786041095576681, 108356761796757025614444235394115899221464234675043261304408470929780513054342), -5153602759773217449831214884376080098380603189467925856782548), ((27443485412879270617028905125052817617338674168397004688570227597337891660660, 42913494484577590710197814421354670602611678774924099814236922218089874422852, 83058719519365420261461788146828236510410923546812281078620166678112589748788), -6716371713958202125490395801337646556226100057591281375235528), ((91039597894537945960430087705944294511869967992284416182007031004410850336981, 29900989442285614577470234220732421575765922415217739486708331875381767397887, 3924444801407664339860966129039430322101319465724124882886799920268496672618), 1060437545222553809341153889906844964194396289262237766966981), ((50760929476182264324684181331450540998391041044025913777246859758183794687350, 104645352972216255692584812265246692285542288657578392716962385133009598938121, 3986579557876985920890604192808629730004356721610776553406759771528163799262), 2404693784950834617805785134454731250337640368831545375935229), ((99232408741756305920111085370096444525129343086870114984351231209267633962195, 3842572942709221048933423915473175796878182232731792408462264825470837715325, 75982417456012510922028275756135217685260181110037904077446413580321393783353), -2494128810471522409919204842620033467329253432969640470054067), ((53004078525240012126083801168342384496914306909128054787065984011208141593763, 103869962310687665756486750284769940037433328284836643204034243934620234564022, 61858717266972145710111530219559501859831025178181566533665352243703521221288), 3728399503365401212009059955115239096719396338670994361625726), ((70064339633898605181559204455763500754407040110829871815517833737941585150661, 3302701454861764618845828105800024822960028372349481661351244288265007434807, 77370740062980022147103586131810827202134728984220676937904216319835019531211), -1443183533395118297032447352094134132710464190887768469910445), ((46082085478038694267190454307020566956736654664155946488206672225690144545362, 6332252578023631049618477261290955398826359748259426567163544965955124165554, 47191228797700266750694252739734849470305364519208561733970182020505629314355), 323824989510297674455735174622272371208243065882970312526436), ((85678497131635586397466025030462600502680602225496032479453354687394036524527, 39575911067827175809856242284035843770497971964137199364360690521922418451040, 52678216350264075020657366849252526431423844896323172336248564921822529283735), -2721823795877080815964440127525032763236808981499246590976706), ((51962404621794645210781051318998514088539877403817257899249323769313671367287, 28917072757236531212641662422512424874385612911305395204997826460663707600596, 39584473725525483552874848328422237949294531931824158970687094867230547503784), 1136855983667713009709638593446369955345969539357767744086426), ((71821039545784918337716030600996066678708599210791075406607069600227047005413, 8762541981824364795000434446736393431368992048192742301922901146465063970987, 92286630227329025529008602233511302712720765533268881604505683392481304714234), -6007309098365044913117482137913423032204866557762314052399971), ((12084800743355616079451300180773974726926893163482958240733611122724946140556, 57400472297280074461764525309621518875991135958321907664160210330070127807669, 14818843175122938351221499620702932116389805367136849692508567646453570253879), -901799416784920438772427425857442899631785374933039447385485), ((59161217712801376080504734512476315134130163849003905958140242569343370456595, 31250564804205055694230180684331961534080462322205938289073919667143547796220, 56865733089497783023600336882176178359339284428006291025589291023896105261695), -4864525392981402106248405369305761294120680950227493347398129), ((23286865206577399583812665801187031599872419370041193807184177671949078099722, 86011216421053987948916323362310730394379330309934657662376341570835335505551, 114980153582537246800433428492677549278952972529294335316870715492932885963041), -6827138404409056589282727266131408391728140281517806110519452), ((70583601805872558304919548268809979681347753720175519764853896054226172423640, 55981249208973855358400160805616634098856350121179095390386861722003422324109, 111163957712040690470117833462333116839015950877648295707980972725766391601010), 2794578946244493493706515257519778948664503441977871257703851), ((75236262358181704280056200469837637700433982614452414283789249501001131447311, 28104535538373218045206604385885798425181652365338235300169162310948524456023, 3873980221696959214915497620753179235200821057491573146663209195902117659988), 3418410030228421109580780857298750601322569406324869476240765), ((48644997814219274162999528007131959842391991792822300617595017733725560044578, 96421162956198106868675343182660305010728036797570735505334940473263151553411, 9516257748262645453244713425410603319017028275430554520069244051436194302226), 3230730578256550343538185484167784163840914593644057207518123), ((101537018522423053533350723105758760361885536368788845386624694347765217086249, 111890396755767382814608423173146843830459858429693975315601463016079508448306, 5583479583465966390152248351185367692669234374989888588944352041415016254458), 2469104874725107727754845915626062354251800356446265589282773), ((70839628043470435374783082800479011361373527196073674283713624240540971976509, 18639544039840197094614807635709435843531152345971384987472536324011808934489, 8518508620770397898078890774844880528984015571798400292947087363628131810375), 1035968528401372385476597094258013818336431749847638546356169), ((93346996125839514752106880338062983717730027148555972380556948194016473025958, 90656574680900273717935521299753700436396026716881997922285752255541550052360, 27596631905243886127306842240666053147999941390992127017791063860304021671146), 190529066766471059524791519550143720302475417814935049210929), ((84365621467788849550499687291211070169818818204939513868251134944219561629355, 50632538710492535469880781068936536313793948791258988418784325068145570799032, 41286056345484183595711764715743418353390894462553033338255445159957808082317), 2778018297119686367326932252175821392964347706311603516845167), ((81099515219471524146688238478111888811259158802091202720101838498305435204443, 19166288227737659625117415195568622060634253820583385369128274811007739828409, 64589783594543603395066578259150674914028793659933617404885938706071916072502), 2413985500559714921058928613202616159682081028786302199171228), ((1084645877323060567719654807290714544157447321677849249323071793500154946665, 109707170630183375513762075747997958646103761335630236979026726912560405803460, 36740919261267906073997676918249251249460249050467100228963856780259656986073), 3278462388394343591853073292481172634165623598392030233782367), ((65176355053372032940602157101444195043820267846467849812605438402573981978093, 82954007123191051997371576570579256264056413411619118442868155992355622724512, 1409745518026948916678258317341174165346243041500319072713488717671589630026), 2936549248547548062851593293439907631645479424212462446632435), ((65913101691764200950100188810468997694105287675003896113286181437828309690905, 66464608255461460496655220020488278471130159554005918827421930197502775310484, 57335410207231595057703969883319334588257163810047825216430633144962920615297), 3410585784750123826522454462250590743706178612129455783678097)]
def rGenTop : Int := 59122691858036765652886437021135713770579988336806232049484990306779670470050
def rGenMult : Int := 1880291490918427028929227337003732088895259207280124788788080346534316898019
def rGenNonce : Triple → Int := C08ChainEx.tableFn [((34086132949854117682735303253646162872893114273815466792003309296797995107447, 9383629792258453668181291770448065410438418602688926291474216263398903848291, 88249217326716037937156049033306891023983043877908531379406663930521589710476), 96707705723145064051615710214349624708308358311056374001602027172834616445671), ((76578221031044679409977593497429514069723077971109212804150558249445028367962, 77747683666429739627199937614857906538467394931127268262030732786041095576681, 108356761796757025614444235394115899221464234675043261304408470929780513054342), 22138055902400594367186298612295633128763972246995831630226945553554412521991), ((27443485412879270617028905125052817617338674168397004688570227597337891660660, 42913494484577590710197814421354670602611678774924099814236922218089874422852, 83058719519365420261461788146828236510410923546812281078620166678112589748788), 31837799809209590987009363786536027640076557666034414964700279624070958707917), ((91039597894537945960430087705944294511869967992284416182007031004410850336981, 29900989442285614577470234220732421575765922415217739486708331875381767397887, 3924444801407664339860966129039430322101319465724124882886799920268496672618), 115605701102594953039392195978522908145307863339467113794223014941264282909318), ((50760929476182264324684181331450540998391041044025913777246859758183794687350, 104645352972216255692584812265246692285542288657578392716962385133009598938121, 3986579557876985920890604192808629730004356721610776553406759771528163799262), 10082444877689626701170771297052277469859196890516791283835896764669155950399), ((99232408741756305920111085370096444525129343086870114984351231209267633962195, 3842572942709221048933423915473175796878182232731792408462264825470837715325, 75982417456012510922028275756135217685260181110037904077446413580321393783353), 109312357686575548756715275819274177828054846052487992759431065687467677778644), ((53004078525240012126083801168342384496914306909128054787065984011208141593763, 103869962310687665756486750284769940037433328284836643204034243934620234564022, 61858717266972145710111530219559501859831025178181566533665352243703521221288), 70392402993136883162564745295852846527637109703233610963298705948164245427053), ((70064339633898605181559204455763500754407040110829871815517833737941585150661, 3302701454861764618845828105800024822960028372349481661351244288265007434807, 77370740062980022147103586131810827202134728984220676937904216319835019531211), 56034881235378439010267277129962954426091290795382069033461519730977765714331), ((46082085478038694267190454307020566956736654664155946488206672225690144545362, 6332252578023631049618477261290955398826359748259426567163544965955124165554, 47191228797700266750694252739734849470305364519208561733970182020505629314355), 79594479391992573933416330284641047386261300045663634694541950050373086433096), ((85678497131635586397466025030462600502680602225496032479453354687394036524527, 39575911067827175809856242284035843770497971964137199364360690521922418451040, 52678216350264075020657366849252526431423844896323172336248564921822529283735), 75517835358043726756223649468476605136363336356414792976438146127416063964634), ((51962404621794645210781051318998514088539877403817257899249323769313671367287, 28917072757236531212641662422512424874385612911305395204997826460663707600596, 39584473725525483552874848328422237949294531931824158970687094867230547503784), 11701057621385146549518621823485138194792960976569097079620503159022651825982), ((71821039545784918337716030600996066678708599210791075406607069600227047005413, 8762541981824364795000434446736393431368992048192742301922901146465063970987, 92286630227329025529008602233511302712720765533268881604505683392481304714234), 30972788955926690411065384428712683198673012515129220555235429724953165562759), ((12084800743355616079451300180773974726926893163482958240733611122724946140556, 57400472297280074461764525309621518875991135958321907664160210330070127807669, 14818843175122938351221499620702932116389805367136849692508567646453570253879), 16913198231769615356472725174505064148573131274753544083016762892521266672820), ((59161217712801376080504734512476315134130163849003905958140242569343370456595, 31250564804205055694230180684331961534080462322205938289073919667143547796220, 56865733089497783023600336882176178359339284428006291025589291023896105261695), 93501152431919957541360800112024859108913598524691963749731573794485500076857), ((23286865206577399583812665801187031599872419370041193807184177671949078099722, 86011216421053987948916323362310730394379330309934657662376341570835335505551, 114980153582537246800433428492677549278952972529294335316870715492932885963041), 47634743646081728284565355130867763717335559279785102206823032444131759023876), ((70583601805872558304919548268809979681347753720175519764853896054226172423640, 55981249208973855358400160805616634098856350121179095390386861722003422324109, 111163957712040690470117833462333116839015950877648295707980972725766391601010), 23082210319623379651430530342455275069175818401392882255389605583187404730029), ((75236262358181704280056200469837637700433982614452414283789249501001131447311, 28104535538373218045206604385885798425181652365338235300169162310948524456023, 3873980221696959214915497620753179235200821057491573146663209195902117659988), 71612639569301643196192182037999982319733964629495139706633976837651006145561), ((48644997814219274162999528007131959842391991792822300617595017733725560044578, 96421162956198106868675343182660305010728036797570735505334940473263151553411, 9516257748262645453244713425410603319017028275430554520069244051436194302226), 55387240757570366336033037743097840225766307700357754099290931820259312441144), ((101537018522423053533350723105758760361885536368788845386624694347765217086249, 111890396755767382814608423173146843830459858429693975315601463016079508448306, 5583479583465966390152248351185367692669234374989888588944352041415016254458), 78457855513340796987703239945402806142773017676631835805960224683585053597843), ((70839628043470435374783082800479011361373527196073674283713624240540971976509, 18639544039840197094614807635709435843531152345971384987472536324011808934489, 8518508620770397898078890774844880528984015571798400292947087363628131810375), 54229350709441965462846283716486702867920357247787519239535132014740679414917), ((93346996125839514752106880338062983717730027148555972380556948194016473025958, 90656574680900273717935521299753700436396026716881997922285752255541550052360, 27596631905243886127306842240666053147999941390992127017791063860304021671146), 99623339306167510815317738929565301587179582463822009071895231854457619761981), ((84365621467788849550499687291211070169818818204939513868251134944219561629355, 50632538710492535469880781068936536313793948791258988418784325068145570799032, 41286056345484183595711764715743418353390894462553033338255445159957808082317), 53772265762195794494001345984990661397178484351874028871834260685135651275248), ((81099515219471524146688238478111888811259158802091202720101838498305435204443, 19166288227737659625117415195568622060634253820583385369128274811007739828409, 64589783594543603395066578259150674914028793659933617404885938706071916072502), 25312972751945399169301861339682685290726755551683917450873412447166656929570), ((1084645877323060567719654807290714544157447321677849249323071793500154946665, 109707170630183375513762075747997958646103761335630236979026726912560405803460, 36740919261267906073997676918249251249460249050467100228963856780259656986073), 107449266170486113938378229592123151119848496509012269470978463911322427109706), ((65176355053372032940602157101444195043820267846467849812605438402573981978093, 82954007123191051997371576570579256264056413411619118442868155992355622724512, 1409745518026948916678258317341174165346243041500319072713488717671589630026), 63490667024623177738131243153753193967294583983670026078360660040222684527742), ((65913101691764200950100188810468997694105287675003896113286181437828309690905, 66464608255461460496655220020488278471130159554005918827421930197502775310484, 57335410207231595057703969883319334588257163810047825216430633144962920615297), 106105460580707921844582913883116817049906795653450779652064881043601146696745)]
def rGenBasis : List (List Int) :=
   [[0, 0, 281474976710656, 281474976710656, 281474976710656, 281474976710656, 281474976710656, 281474976710656, 281474976710656, 281474976710656, 281474976710656, 281474976710656, 281474976710656, 281474976710656, 281474976710656, 281474976710656, 281474976710656, 281474976710656, 281474976710656, 281474976710656, 281474976710656, 281474976710656, 281474976710656, 281474976710656, 281474976710656, 281474976710656, 281474976710656, 281474976710656],
    [-1483232551615307176432218867257129874465716004477083085564966327156448683006, 237020816779774829552023913690897982698740314908387092052020714058768957473, 17578128209808912953300371358495480131970399394697239036648462389184823296, -174633370788202975829917446414233148378096653039945514245712156343771594752, -227588870649912922763435835351594390001132147446479398041695907447373299712, 35933654894412375402331676424677099438620784998620890613922251085505888256, 81484701276798764993159028018759989758486852302401218499469384560150577152, -84515268571413832859388507580311884385126831547469414305442862505121546240, 126339379123278315163534292328488531999145129562854384366458739650509930496, -48903265705700028140803951031995674254058350011601429884066508528362192896, 10973032284336607507172835207927921938458720765160376156789576381461692416, -92230869611392535047457397258885285823916822737239836215304213842223955968, 38523146191688109432255170867511173721327929001729960675827668330685136896, -203561796691581338490898036500805046419629348755498865040487514952588853248, -30558092904878110464518781646870769631583939447902738025712060754324094976, -164837785576343552188057159043336477778185675456193251268115019117273022464, -231342276068637391212856699148202270871621191263443456801753585671743733760, 94696227874943088632510591652761108495802351952327730451656744660941930496, 115835172818259939473696949864264001174044531651487324716883666706601345024, 109475525625162600975399310447220563450614976189743570911853692473458032640, 83667315313569779898585724256841022993963090291120019910538540845828669440, 35104505445659715247474755959076979858875056000631362114562280277023916032, 6456208348511435703556414871881011377772167139721098591408190552960663552, 94135058899778802719873829799833942013085528605096676879297331384893308928, 81799557444963253298027110562474963950200451296953006020175407204637081600, 111092950810364915233132349182018819248021971152903793042486744900675043328, 99506989122690788954384251196572185360432334908818546560532803724838436864, 115570042883835281408939151977430152632528684491506705279777781083472396288],
    [-947340073463397183133282070282175438598576895537480634723583808600536135968, -4195625266321503582923141942947745485606883072799260490803201467967215316741, -27610927801256452893627470105561296622387466973746134901905499252930379776, 274306190907884862978125045546885086839180120105197435112368491492703993856, 357486292105759449435019496094721376747061344809800186546625987329965162496, -56442957923770382117813435138761670344626044361041304596396874893849788416, -127992478892330135578877152501165455611208121776884932831713834549777530880, 132752756765475501614039495397376686321920919364657146055247383717843304448, -198448175698356976176683581817861703564694944077502405632220698913408024576, 76815035283009949862677904215351695880195427140864510148085469216612810752, -17235942220207973112681859076603764176918651013200024812315833967214329856, 144872073493366576277374119279286793298888216846702195564605072374706995200, -60510413593547832268589490089062362496236794139509796721936987830853042176, 319745652350455593006929462994189058762908363847080764426803370816931102720, 47999268572284956531531859850980973053384206774300055483783435684751081472, 258919729230766051314259594157693618396867122296756380529633365566175576064, 363381971371963449405100381209204510378537059861918259976339227182396080128, -148744546614887021295405787831931363816519732076061953964159074708096024576, -181948644096606414361986246720754303730928438867666410993973060751513878528, -171959198269712953418905520655303998250258429581059476951166544621151977472, -131420830185937437293533236686453116306555231447844182217968688526809628672, -55140567516059835742495725162135067419836762491557752755421071689960652800, -10141119717237302307944746001586682966028922912863801089334694906408468480, -147863087800124251442065968506342937218667363327816950003802071779208331264, -128487040703645110133221829326906429223663916423987504739237917288522842112, -174499776508733569682231473007605032120713756575080014543151480745035300864, -156301072537056758121745073813483668514263997757719698135176658049027801088, -181532190001495984477248762304170947295434207243734588953613344183108501504],
    [1880291490918427028929227337003732088895259207280124788788080346534316898019, -762107489163197023454590201591351509988222082863250625511805744565332198641, 146014546120157998635669594161842172228301289311612443129896101467343814656, -1450610216783138869983418033657851765536925500015773823522165453196506431488, -1890490571766493665030238236104517550905630715345519905431256895146707386368, 298486633344623552280689066904982887317977369729110322505269412289142849536, 676861127115295401664872869533190292286298806153436536686630271010130100224, -702034848840847922949920574759100133972680897901385087697570045414135037952, 1049451163377797702844263626370133513445729118680125334289310715888067936256, -406220051451593158282810178147850860195267709294481688801137218276997201920, 91148631380739461415713975477174861007668902204940671755219222884322902016, -766125289555010633106473946098570699697724173774902601769578723266197979136, 319996511526239437312270546687203664732351334773804060142134694217259155456, -1690907188556012910766374727726026824268713599803931610076879634848049790976, -253833969837218644000082898491223704345374138527154347468296734644539228160, -1369242171697834883977210646581677063053702709803567525863917535008468762624, -1921668623381464367574720033962189617947759046296810978433434118510463680512, 786604043810258391895524301417510905948622366924760062855507351847363936256, 962196883646017704779152493919664651261756699237118768049208341103997091840, 909369814273166699611689555177148170927042325802539756489501809856047218688, 694991237109416898119855945359891705152683971710671486143671706005786329088, 291599217404748861088693609641200761940938554797697305112000975526233636864, 53629164630795463556428521648030476586116916665324785940895541544745959424, 781942635483539960328763274893903640967186867328185132002087885908110999552, 679476512549907023857668592926973639227844314782708696233626996844756205568, 922805124420059508139368240139316701395125901888035752584052778367033802752, 826565131344615468625805029986620841602459159313346511759897634920579727360, 959994554332235521514820031284219333895674591460109943385324074206213701632],
    [-800569940521441746221441068107666564027683163492389148821314543860865844958, -591085798653407708095240441240179839341540478357244242141616499570801709590, -3427548649027316886581671230245491028775406930375963609517379137159940551283637747712, 3934914690563393474688906992722800605264389213328105333820974604750999871484950740992, 22943350290062454823791902603562522426464738613106665336785820592992119491399392428032, -14868881699277092921459845833845988911571824606052514777083664130975392401274716553216, -18762941253066406455534521364294912230325647704126440471919206620477885165279584976896, 19581740887368332828058740410759593516890176556992435873284461469048962597696292519936, -23313431524045716903336386548618662338926653432219101250111697855989802940697216548864, -3960907033553403388123367561354876584479407779379365546904920758013023108311229136896, -4880989879377512931478727852460541013478263489067075972221444304288824195199528861696, -9420438425567387284393078409561781184438749411154542814347828012405216889917287694336, 1711723736943092429371322953019728012763404066042435824009827069983230112854301474816, -40695364165668739769114226971312721869619986627709618239413884713254557012792010866688, 24646164138358744763389871936047152605024277323814781048550250267436264586409637052416, 23366267349170164521848978082332615764468143589274540817643152646128290180342680125440, -17568848133209166422286395362962863627282021002336771144633766776223052753687246012416, 44953670783254784087565766696076460477471106269263315768002386184535666373936707272704, 26521572941808272780670338449245952179449800119326415030786216657603687273909494743040, 14319620994651724550991588783227421406502031901195800806727890657531600365223344603136, -6975354758507985127708398204275747237577785883176292184998260672779234331058986024960, 19050878037283542780051059419734856059641256831949579980248719156572595420109721305088, -7676731530139975318241636796809443807864861107396152917981131835492981640749264142336, 4879416682814902609890602984279336047376282272274857252078325774200563052178158125056, -10782389462041011704796054426589924404661101592588412055450067766114543680473658294272, -12578905438459496311072682945783641105145273772552612477420198364043676891114790453248, -17684985283738623940358431486430578191011310023826044771834153859655979266411589533696, -13311603296599574285833654316461265566157313394608024838100420273909868497293933543424],
    [-541955735135048460405464288642739323159974561792516593310559739125331809661, -1114130400301870346341874572731783539861483780139791446567970926440488171621, 40664634130540832961235726317836135419093616227388426427560796013149260155628392808448, 5970465356433406682607902797518004757976316675044392035207456259981373114057633038336, -44923599982316639882533900333714061404713802032663264788880861361907023563728252567552, 13677047525557956651290992218030530635955013300124762085676466485998092048999162839040, -20927491898050542760466127610004850887977452507604206528418116975366946311158068412416, -9307917201902411765732714733948345728550288660462523177767385774033224293198856192000, -6600541375908375848792759649718881661038383325709604326645655784056946166660763484160, -20611830894863178133041205899897354734755624999663255031108676643745498487497645096960, 26101241783263212714018737130966193299488247943654361699717380045633981888723339444224, 12098640985334611766643501472405207229212126140442776666791622071192234205293316145152, -4054970158984037880359170140989373944208245908619307597398610234626978999602616729600, -12362895886610138681788457777254349020638398141196393683322505566139535053731703816192, -11801316086264370522000070742658327791963792367248764872981183627515407717538331623424, 16800899417951137278489951694125871028004610980822143997917012759851432462746742947840, 19245237305505559910931903548318560074529495813252165609039128135267175749494486597632, -11877817046653156958547902796016495457508986103024376896309470947454583316297442918400, -20815959824782948914447296311930918450480732913425788855596666928128536127026080251904, -10454746793393200202285130205069260026986502657484453415175478108405453597789554475008, -22266173174733889303006905899881888233593812018655427272033488804140170756331040407552, 19529407157406546518329600549919065593378952587924019270702323784123995734020756340736, 19939528355261889761844639095456229632819490287614737507636463141505473898246974734336, 16915732334352588133455509074972741873956103820555544036161634010725853028387924213760, 15545172757940763239697303638533172476433524391146101555077458250283194576501041266688, 974827686272210563351631943522224030124120913147704726052941816327021428889528303616, 14444767531071664998691890806689346367367994397936057627835212628682495298751604719616, -25902342002429490327587648187209175075923591843295826799737794647201276665905757028352],
    [405203742838599268743165183432559079061050176357108474523971390380953295702, 1558408805077087015169819039033934285925450928558890096777069506636987587904, 1518257222484849133261701555145140974336100336882508527951385472764281120054598172672, 5520870289248211476281675598735570286435030879745384616341580378937286274387089031168, -15647390466427355419987445765778840591321240039960813936694773430936378202759626752000, 9217359688746911633117506386716809019791650313347338868073210578233710771366600376320, -5230915770142203404515492189905567603806037461001668982047746942453362619073777631232, -20702465832194876702410170971593771910093148856946958556442827245865080662898925109248, -22640126197439643780728636839508016025545734457790462850072482276587752649228332040192, -9597846892572239385764879292875095767939504417740923274668566924444414018235727347712, 38478601282906821088442857479618769525516517825591121917225797199837072532816107929600, 201714768299259364414193220883333830256389107854545570819759542378965656731912241152, -7710086348122048850650611393347464995742118831675723685048374296307945133000697577472, -5209438238562707179019069772670444822317634432337001014250867839842068903586946875392, 12016508905015207413029726545728244219442275730588210462831047669875353897415034798080, -37272321843136614764770706173525041026223219764373376534016235966230784662482087575552, 22848566621207672767397096258989096708475826266440398702894351339703943397160463106048, 12493353079812794418811494119355986338826445496062566859248951340570946772347364835328, -44484435017384854923272053765331745022249172892036268974670031909821492728661899476992, -1732513493947461221910534338451367328575043250447900731876198647992161913603687972864, 10258384202753212314574327072802167286678249325709523568805465965800366990119508377600, 25107792155648052424956486024399761714058353840481536317527521676255985596162467954688, 38228958730750308281285633790568381547197648056454520168468685887383628666699469815808, -4815538232728776892401604268008470539611397921848442551871209180261315006268593668096, 23520411949754831835759884372009503272550081990969707998322494606275185277683047071744, -25847531991583187304266990202774360759791674923015370970239465389005110202787344416768, 8873816930890078672253758864657444656963753881462991944972663266826628341404922806272, -7393985503276240993888146315840022987312395802415443461584134875095490562085777047552],
    [646976219862635518207975210067015010168697996039287029008776771610452957770, 370131002995382670974320344229030627400217605842193705639011265300137479256, 2549582066226868245593096178619722273892165460952468404837289676902195761061946195968, 26312987076701695419222452822635897045425071119229266532732781482892094850861079986176, -45239810312843728771261240643381862749057907768232802339783978600909861182807788748800, -11645558630744945528091745936663594607730385454847151807443409796060929439526111150080, -13862797133330664943477896534300489125318439042585320528807049843686301968027424391168, 740694331802303064139541229504574028872015330055509016202161479806301359284204601344, 10935435225892723637829963558058682936800510347662111210690506195917565782882860924928, -5532524431586889172169187594971570218134906996444556008589021203161398065756077293568, -4647651538458189306087347508119151607356264556450998986615206379660599086521727844352, -17832397084557826693585039951737899344607052565352656893810674480794281113444446896128, -2186370279507621258486224996785969249010392078897336504810809240568456948090568441856, -38156783127721104456689610450355620772587038700610204555263226589382534888629045559296, -9218353812422576574814683812639925108106836406211060311510127846682129873392401121280, 49271683086158852753154051722208133633001542400738500097510338859604078193625022857216, 41669098751211772509377260366751532749334423507857322964482409470275574816623468478464, -15020565509589531578829943984343543124689045565975091603059823446676951177765287100416, -10518004504871199358163021326886072695278099365451639508739404606874304970375083065344, 28398053881202100529201636851365870961905490314363063420863093452453643938464412991488, -9140838463843817770151899314725072760856752705658654798544041498875982110365350625280, -11657925068006956110876683115246591802780652108549978200266491891351648499022411333632, 4070990581135551428090058388313159294656739318916910447386450425545723719089695752192, -10584513636207535639393280756642754111914445244174193201811906564688385076436899201024, 16945717375684327317519569223044513709574856495063979870714654839711942280200620867584, 9184712052832417601573034841877661771845167906791273327148751921124947603624445345792, 4181464361316232843800220246293051754166305035246717092938955721924499406518529032192, 10983674743527741812576920498127317117953931322564522863547778463215194999074475474944],
    [-853048076000869324736382695324664238176106086972129241373703718242613369352, 468864766558552169588837090032087795066162980681122370685097641364102882621, 5938664545491236979366661148319942222017049403150176033882256577526915158131173490688, -43497191434390265525785654582662093211384252998689046233024832422648653131905975189504, -6651013155122687607354414852639127887930646683004730355036065970795886572888947425280, -3518389558428831617146101008848251824045538509131876660903255231481968524092665495552, -14650525158536738102525981507249857627393388165746237697722087889526700404341662023680, 64183263714026339416375799308072028163238127892408199706012347424413604325897208332288, 1696384731153416622622244308310296102809569235566532743586465218455087636151908958208, -29274733372369053041998357345884010576341381169571665606875633120322726118413276545024, 11940711298156911519989569062118207208033301830008827292674276643345327961614736949248, 738844089631396659046422711527534890731854033767237188276373253762531821765747802112, 9680748774711088722481344693385429282274725182172211239314523054709487211023582625792, -643226704007713132076266990387508558943063490400753112952637554515877678233897926656, 8295532936382474368517449385412199510011110668173882862151757642889666060255422840832, 31076672708948555418331885530435154204612664752349330979885219315408308596452978851840, -13813847024793823319785302319933554354933371166836761377731094189671839733215479726080, 33725017044088953734450122245235788242956185918254725082750941639792802412764583690240, 16250664793982843702690499411247848818628439265809170678441314828496302995112189755392, -35512289188771012341264127772032240201654919100650854077245099464578500574779090665472, -29905510181120407379398439791651772198675417905476798709721582308542166504127072305152, 5932029752841376757260647251067498062577782090131836670797886126214089619515623079936, -1448974373638740117554070244245402209835152916871792275968522622655156611934515625984, 19567584954472672692554152558860215363295414572943886596067993304171568827322383466496, -11042026959569585994677972417420922179405669500053531094668717412906169768119376019456, 10971530282993971900208698599769650783972422402201921537909184253201816424126236065792, 4530042978219522534326129715658262029575162566582166516529392582367629414177053868032, -34569965494351902848654937096465314054191008207086057926430403677109493968158777671680],
    [128090063345280312521423113977691981779015316515787062140465411052489934249, 1332457920760131826756948342110481554037470222290395079334959596655324444091, -26069211051647722263015073862326587000723228067322611027120639167396513232376087707648, -4353439494217738260587662810197619918568049511025499849672421518447260763301085184, 3761141845731792324813865374990991407131516064599506043902922315045309062782606376960, 23382924441095899090290710122457432593472099308911948231516687366254377393129273688064, 7434494646919952285412763522922977484770055120454248971013764145290144127919501344768, 10597722982526329525152944540853386494877663844495054246174119045213496477588821901312, 25451390069504534905164512637573304251920608284061092517127270940691638516310582755328, -9750697763104535426770680319316842791355040898555534733670656144292215953080979554304, 10008300404994967516817439596339243758402482207432700798000276089404353214212145676288, -9787549126823594463988930804810724111597004123166103420495353879164185606198933848064, -37717858378205684635843392044382421348611508975225448006438569600781636694452838858752, -2315976509559205313008543324379014164271083602591119990165489123609780946727669334016, 6290489778586629036332459844944926178817453304908367207180746997542468717673202057216, -3792208775705823827135297931722114507729072496333693765861154505934317053561257590784, 7974433938931208403884256136755044336181391237834151901069940906525509640531071729664, -12991305693220672846530656304996651162891833952284419805644745038387981786438885703680, -25980298313794580554098304555441384717501140506734398363677878899708537269363859783680, -34777856871659765877287534923340762468563953520262285806880321895540393153376536231936, 5746582393243648703856895068370210111329705643930550369367369464358944395312601497600, 18108195731339274923066922779281700028132195858949589245562219186971410121483796611072, 1011744640367586660543805028167181941028688850892377733454468771909736022464413040640, 16188386419226176338450791861614804162805145996995063335702717567377075907459048013824, -23530107585435184006612486814039318267453823682354943555118564801540598599989931802624, 15145742714838985939745215252314233942211322617027900648512605022644718460884970635264, 1378169679588877644905235572084471719674148439602609793116121837063121574531642163200, 34237703821755123654113671208896109749861781094246422933221815821582304768471534141440],
    [-138430945577340047505302626097061255080406892902727242564954136050462972808, -1997768316297918426502008395776337460777432723032425485904020286519790969884, -42720717329144969630628843000875574147934365054099701744471799563293547432702478647296, -22513838068488274475826248686217181158489146914615292508158900034405433392094909562880, 22506058783062452684858699985258298500814444044510342875408837452010628505828090445824, -35068947106485267754748048996536264141911349716820210503381416963459533141144210767872, -15615927545922345751331236189001262771995012003449906589093021242677083888691949076480, -12162358573438406191917027314299477123608468360786537604479842967770681725676077187072, -17317424355588412107396554494757375856121957674792817068721597473424033700605033709568, 4739008401856672366190394584679144402653912043152320904359687334402144205263358394368, 2244713699201275757862033393518993397871454773381781748073067817589518850019890823168, -13908531049300080115824732774820209001219613891870622269894416626412407167689217277952, 6895962065962360441952481659119864264699006058207604832148074293406925920586226991104, 37724853003436854394639888563698077869633970047788851081312923377726105798324367917056, -23561691845255409655755417699366083340470727841519410517055082477275757055643289124864, -11387172510669225885719525686907449264927832758136109538361936206611892909244105621504, -6612200278359574434108112268875333339626680012732833690427253685247599001957077876736, 17155091618256594702714426597895287250456778509386986342461520199377530428787999637504, 18597379138607343743742618739562129252064367242477379671341832088099842846554167705600, 10392434157573469436403828828729137661673545630886875753091666349721442606024155463680, 13729167193779552234013007025533342409586065175807147389741920607650067818730804477952, 23493673535574447539418156093698003740729081356142059973401228123745871137074883592192, 28788746827735777898820405048709802787415164565508522675263378718887490982329515507712, -7616818178282074603693663882463407327195910335504509776532359784721398146667525439488, 19135366696985721378987021726125588780488034052782655764562693870782883656866310651904, -10211809650677090118295112229021841307164699385542979445646078003386500976960870547456, 29929754882926770392296815340465073356506704215761294999130147465525693883213970145280, -16634773513348162246655254363851284893926763765922892754073272670240281759701694152704],
    [-604462560954563076468559389959851671390412046213553090513440896697123202284, -901128860502582472081861416604373078338779730093158187147841220939567056263, -22357587690119232301298671420101944549495210359275816191476823745801884988691472973824, -508778031107944521482710144658309896537038239938723962333059071066619658561476624384, -21090806003887473297440704442456604257155162097298365207473114995082031414413006733312, 26165978058591272343350529840266837380735980313159156831948138582411524037311226445824, -14675654318854886513123171557382304479011636444025992355834791374290751995147037179904, -15797622269700611479815374843634512557522940396759268039233290683316346103295798935552, -16587743716607655204053140260581245685436739652764688457258115770216187971776723025920, 8559977980537755858618752148499718720858206944446942990622442328076520968752222699520, -27599901808912566822170096279270922435195709609804884679469879414383079094614277226496, 7531862694235221154060189060152574183651144406991106015674964292714497992191052349440, 36283539215266513629185359987382686997326159902505112915328769607635479855634747228160, 7154931996879055049708716594432800119803969027351378576198507008232595635152984473600, 2024791620742887358531075195348705047638311236188770588745120363467635986324732772352, 21013458757430526935963162393118924611194377643223367706616574914521251980318527717376, -10766119889516638075386637465265456281480160551162951440910436712507304147204639293440, 41414935796511529313463396565937739273757180215533854139087106148383291502933376499712, 15900468444234578515809904766020520533500451537665728678306122858761300257752276271104, -6501297542298453555672687065315998873582604435811406354933397946426665888869448155136, 15260517703226904729940194675064690814799505413971075967600375899875640686841675382784, 17711493625450236942228975384381839961369682759582078284175809855883941926441811181568, 21740328700463136613594728678163495507837551914568647570055167822249334013451837636608, -31475186256425552727899941005346753935464742300333990950511019004565536435696702586880, -18840956222099146442609272132609511366759664696605989415960922039230368507949582647296, -2444927261678546902692451235922053054156638579448065715132134274729414619836492808192, -26558836105179521398742233327929507615434491608225052340008560199179585080534614671360, -5556867477181389202067894108295408165239782343732025153823554451417241469789988192256],
    [-171396015506885839084952554015164240328510639283494145990011771948508047037, -466257049241743788806229500943810423582718194520150823515064501662589794179, 2669985030939972329569896929534611548280071979835669504496521844045224983664636461056, 19432964482818768564425227946562881441123215585172874122324384923435968339629767131136, -22223412092182203122250237014569562206030055170653556126011336581944565677977969360896, -27410831598340583967985726902392693553889385625359656736495606583991354345785485426688, 32064673579639044216244999334326869418298276010273442593426538412160661669142910205952, 18969275047466418668884662998691575723424204936554185226890046036700599918656755859456, -26620200458604484351780747680549707853221544409350920067556376440502325054893287538688, -12109597446294188668079349562505970425380993948289164651745005764118044720025820987392, -13011041284966348329261060931260070104328102504570807150625304231210503051633888329728, 828901376773338612161274682415327153533150263348641608376293171301580232663274356736, -35185370524320549027936764510641856070102670468046010899006288712489674674477140541440, 24465654519683364702787132595297921393732282520848757917350393011883707277460927152128, -10464725735586755549996096746146241845804340031627091247308487352384984205691554103296, -11165708921058738217456250671078299662763898430670586958263654517578132101659103330304, 14655031005532204523171391147332401813191823883709930220667043382691523704824900091904, 971489788026968434265439677895067941814692771064386912868350188832051351950758772736, -7463996565331344109684095440468146537192986673744733289148826882874213669098160652288, 31418232059401931685697175191182643031629604944461601903997435962503334382263620075520, 14053371807526875132321270828700828418559688939532414789327290630651456934301338173440, -36101946170222383336209850391211297043801422968036140973967493512030296965414020710400, -20303457790794126892979329630938930223688672931233705388289827709609156546890232233984, -7630683556134304766392192293680372524457180330411658578535503179542353266283873566720, 20259924907154675190139039094463465110466220932846067234240517478735880129511145078784, -20663874838209729395720409553284123356028276168043717526078605553800865729073117134848, 26311709944293746342733672192768945147269193374717506121833470828214582775338965663744, 44253633432788431333330928709554733265367103517672271437234031150919896902119771340800],
    [543003179161947848501728764272031186923182943870442127867725570945870889539, -34116966497286199814742312263612136520192442627732474248911050072503788090, -15602280361496648916756723330720515443229337701132903819237558158488798168068141350912, 43435435978308431296260944945166580151415481990893755672476482719880084574253262831616, -9692324139640026287007907693083000874122505466913980263393454039133040147128159043584, -44940829745006326663532337891852764193012290476803753256350454016165295374231704436736, 9860488996292821394804866014273721013157655597297179809196007876486323834105184124928, -41759799911716148727823902793229889135076538992751520705167853353805795392602532478976, 38704092212539706595170547562464698244409595129897785257065021014619829190572541739008, 2019665445135444967862343159289956472395915489979988245669752208563066301064488681472, -10133417793614530324619386968829675445498111861700833512039601673198964667994007928832, -318726499036676459281397335454347904575777591052818880277332849369808030891581112320, 26696731188792982983539571130054136957758388312238218236885469719263406174394816397312, -3625486370929368362295406640371542716298504077213852284464967908987657615230334140416, -31226498998657981147269463707950666751479805375939996837255048090739540937313989165056, -23485352165308945008200584469819935757609656365505881475505567092907592973002915971072, 43007404197938896823350232818626527214169444748600441110384743547116224649336813780992, -37956211839772377441148382471110709540585518564230231557760957793577018826861316145152, 5842135981827547737468614666466077330781594257723920941689549477116707316605013458944, 17272358758629228153773318353714392759276751102175455186484365116028996538872623005696, -28921973537965695310212177441819978263065174481887949342042669748849852080950205218816, 9248101095849602780444658943328106635230696344949126580467023201718249795139204546560, -8800361135462061547638857512845883042353226063485077376961705146515160790183880687616, 15382685956904154487367366568420766224292489319204926468884921802446506209916076687360, 48487121919639846960199628612381496442211619669253702993559608200215434079276195905536, 5903587287402056663236309414074980237507573434453243869739509672805207546452665958400, 13792564954455564504062479177124816948411320293592793855198189266849892762998162849792, -23189111475109499151754353108297347564112078671641738917243473951371403124103352156160],
    [-135889110877110709128174390706880881152906234892375699171716677556328242303, 92452987693560001172371386170960098284442391233592405747935196050369083914, -18562663607211145016494944929217437268675059186982393425575257360338740134680077533184, -6573790015712148046320598951883497092708390292688270042522745224240823812090052476928, -10330059632810748510857714589144370327341480916936199123655926878175799659801673203712, -44125692618796036095989440003943037319374383225665556656744414651525905748043570872320, 13605106593161405641004683342876755838379496015432228943781777899147623764641175306240, -29448821315519841912064262124792236100748914753902606243263840524124602609088124157952, -7866553627291899204204444217220399780647086943972147183322742119559278411654809780224, 468172229686437119903745014637573242594011849473478891313620642785368174634305847296, -24809459625528049257638233079959554662157861330468177719506891193680069405678774517760, 32726898805091118892349419371711615243767199094167131154739827853442724655750738608128, -6586445878173439181025442999589553901761536640822550811475128357975838833974926376960, 3522709880536699201708260260478394166289742768537511705398671079140896894204074000384, -15651889668730466822397501285298428027710614590521562471177952604082801215567350988800, 18919380836184158782188375114377597283646688543377505952548080319012469442505888235520, 27948694449728649684482558010098083040411023584865382885737044626038316679689494593536, 50028313806592394353175996597572484165771756185010602808766968232238230570765144555520, 45175503316353759760443244952360337863955258903755988912599810465676059008600127832064, 17884998519746755678094968397535655790244053467224410507194811111774949475169167474688, -20031346510297451559508964551424044926219389386824217661034240588559190715287507828736, -13185669109711579736183264226738375455946157724141870268343676238651185803246067253248, -3445612065179396159076610131885353362416217117178927035758817660882730210225595351040, -12325284795641985746469280173395021224700722119630078150825011606350338463012598317056, -11879381767755018012564752955048171004819173937033997258961511095274196786998174285824, -6973912451482918283627886561567476997414866828034334911645507044257051626239426560000, 9186958279865303582641523990659184014594534278341207042391878935348682002045928996864, 12329845972895440848430565728799276802988090304617440159341171983073233049057660764160],
    [-283146273450590098531969469274808095551018749479055987687439466664302675908, -763808854915472264135870642763669664275551295952641980301466618465449026364, -29476110136333856209124031682495772825447711846447302654467053638085798686069104836608, -785319160183214988641973387901701245929685149272291366635480028661920490336819347456, -15876136732376519327910783477702651162493980139147520440085599389596360973207577034752, -2685499598188147799389338381106394348304537118821580228534126436108115741861214158848, 7245876433591371976558804990280146475207090948875506214755378485901671210134523609088, -21763516200109857597995147537742137403209725683137841271911056654866178928098962046976, -13261145041596460739144234996298246270225378195778983986477254426254335178942544084992, -4584412575657124209570780504354495312991613475243369942411626500387215024915484770304, -9183522164362686156152227383371393767256499253655900518354527227603235319005715628032, 11960800019870508562589287747958051106525548949891761644072740949760241897966078525440, -15286170355402512688742192177499788908260730311686853000496000328592238429457994481664, -21757905471810709338831705846729189534022834508087560736747379993192928290658821603328, 5848616853445384521229298674714238703345739864593093564581636453908910264003495723008, 36733416267977596170982684148295084500604490713088921574683379384129046520512588546048, 7788068801543594748655052533994447650780191499297507083571374343787904068778872274944, 15738958877857980246618537210304353162427072838327452811516102026595301404410143309824, 52330356489366441942365357264490500150797832223373775819878631240817166942191071789056, -42224185195630799966542205154692570396564593398599075956289413935859295396140727402496, -23323670911939097765377857983814941873421403502537701307026450861948851970298873905152, 20662684043537121592767914040876318999750033335192371113516636559560907674804031586304, 46394466950863068064041996733973900510032967117661913478571025648380771103500385910784, 19033328770291625692264756905703137915364388845793023367733136199554683403643268366336, -5313435524027519275397202457557771253541024535468416315454817730984697506643501383680, 11611067315866768940739786027077085648514898421491032953691167520717894266915234250752, -5100585779963503975958490817335571420469496807323193586362425053609670856672490291200, -24726025976629452420035304489064639101211040832378768315317996607363657653399723180032],
    [684198006353761328440870759480672788758605967212137972545946215504821477835, 1436373241449661571902494941073381528589987944321574003093927123131378360362, 38596337427405237959197165500725530155705162232115402039727034381347578257241783926784, -23091274264748004991501886431265953272415991927331580876515664382714595142973672914944, 6723090222141590911122163749766085071871589076477182135863461105333290634416152903680, -11686569274231120064570156642328971145130794610540440588845767701440943756371956858880, 28650251122296915091323136452145014914447729549861586013289435497619498011496678424576, 9274970773826121914768511514720105280432430468250592373486362061139428558402568060928, 11446629525480320077983107468589754995055330907868154011372335751440663895517452828672, -14488800747095753797640739830501113903777311071649358080739309091746603418849088897024, 2656479174369883070972560214919955882564707809516298710682228127806500875094252847104, -751091878807206475991481678362070868344283061436297946654798936553152058224927571968, -9038096532301442040529084994045577849966293743612920350483343144058970209880324964352, -17149154976618040757229945881085687494103761257577586590510321372730428365936036675584, -4320141062036518579194244783445460546412051206101807090236172988905524289198329167872, 24865359925620124287154168437649136707602705332758075697052835735165206076591420997632, 11365752784745246494157753061851235644912377791279359933577196630499618723743448170496, 45493849241460888817242077259482347776598532068623713537185257379667449531196160081920, -31940979091766264585348656630405086679534825766716330671795289450251651798191988277248, 10161589049139436844157375947906442263352192085671883250534575220936404728716642484224, -32819785184373128780458868333568373027728356651613442924660146644651711834008374476800, -10278609570705545602491618194158014537108743361848184039860798482987460501950236196864, -21537216797112448324870247391535813727544157957037352755165532133195679483737589940224, 13335134100511556732277968016902575072533754185001806597525633214676164477472353550336, -1978826769609388514317168952373157240425647844642512878656698511459695582290953371648, -45209215912449736896315318898610053958980614025471680937219145614105865939235133980672, 10422484388455595716096115287402038310282455039549376475230809321817206117454781087744, 11297834326401681494007315729625112176113865938606064955815824027353274463829754904576],
    [-1131639452994033453889882887548546038657202066480223789590564792420599856528, 297656163948323484619889525694366884771303818764053985852735551304910364272, -1377799238799960921826271427059510119399170414982492982378850256597275836764328558592, 34468258307184694839093410855194409665130840212333963382881370737768676025229497073664, -50849649032372935936231070127418478801043391018245969400812478595398045294093049790464, -12015587135307205048808785645497969640358695089986949906841393262827218181613869334528, 4859781427077827523831076686338020731169037256970354352101144816142752971287148101632, 33213504755257355888104360145355276010463149702057560038075394041089877224542644994048, -16921239804040954333837447858734448179546613731929473720266985408120126635114386948096, 27372132673988272481104962994711614246793632752174177876382647001024237606186537451520, -4415559281979382977929231338834063947787374908728154466294691175659639658466196324352, -27261666188710184274163968256980514494083785932869166386916249696657269049300986363904, 6831577611916015165675224932953051176507168894220838204239910021387098658597645582336, 5011254236674249778026749303822567353442135318548332729798369763527882099435696553984, 8435585467789198309718842280543623588096915688248727843302865723893258318642973507584, -17704556513904860393356127880653038246752643525126647428997327966824439892689205329920, 7948245601106238633627697691245938869459389948159534920123020996994380425679654092800, 32519408313588424031427482500246762446775971969060866109798670659410773169232358146048, 12223926615811457844694805665995429917002457181425656258615615089571044794703389130752, -32908711918105429792917379563621485760529627310752595930010856915441526637602776547328, -6173894887411310563797113890177989122168535395949891790793413513430256254597271126016, -605043523869555398615273011040955523788442671121471541034745767179197275941145411584, 8263196560684806589666750855203701606076047995744859128358758594411495138667068915712, -10133072155197097703364795661613322484091209727831940093475018041434525619079199326208, 33409445362553183334890533920577376628022080351852071179089653267782938372934817808384, -38517148597824790736378414807455322918728515652311174298412462646740132608351898959872, 9296964665017385207545400818525517637156041905680862553746371061022947280793754402816, -4969353321125441546181419181626190637816863796641876630279318527717709986743801872384],
    [-1487913841667007487119142047671543340548519908234890077493945249333905471202, -906123518165781402642203659419181952751409051423989566982538024574325696141, -35368882919063182792005011649698233558161466037961486662230870075670514239666739216384, 3429463190906994743794880196549139005878462954637731148011753050237573862232734826496, -7747277264572960138557414502327149872286338807952031644984915463117269748778228776960, -58440271127256281911346909308578658591573373219031812835395197183630175424203901108224, 34701146645221190338087552708818445276589963223496242273091701004524780664333780647936, 19309173441832891500799440786928658684901799843265792920052141852916152594129248845824, 1115154210613888205881152905626939413497887806279069077766905173734454064539603304448, 34694717488164073301881687460003061040375964210001926510172900838909071502488811601920, 4361876701883880633642699766742585597810485072842494559719819240270842942021060001792, -3127803901152976329658414659489070302760634852659865489289675240540306955929038880768, -61670041308045178874844986453945871293847340997691438400356216965615633288487698956288, -23393898964514891216338329355306983665386708190151423976420349829228580535894076817408, 527607116226182957980744966562803095311849412761340339282120370374894268025210404864, 13889546717904653927588970554733780204597475175688123075014081806525632791084139544576, 14042283254857244742932200469921974597748474658096916670710261611949254826895297478656, 30797933878341950209282482393579935840528597688955312152226335400275601251607783669760, -8109475754590018363492136439270857095182184445821739574872742722046399113416486682624, -6748843287828893702945340476291761832118714711250678903189616709967847315248575938560, 5853684885943741165588006822519420838847408551137932152334026077869157251593743106048, 2982893535071818262218993628505331941459977312871856460477735988604365195027628949504, 6545252092405690109936504714951669121673793845773219323938439342989918442974909300736, 15892417049700463197944179005036842920030927103420100159428905241656463851334175555584, 26889630015117565022480902570665312232037111149003705830378485792224553565409958166528, -35643811206812159009052777305921805073652631523567970927656182886786923340740215963648, -13932776859614581151433277666554428677948502846008228414833516342144953213048011620352, 39150302369258895169634198866238920151627717623864914176623670625685887227614795399168],
    [-591926977640286324611987282018995130158000205886367330611520673099586980707, -671957060723823609150602004179554103797247555969642635291841938472592285036, -21402473769860929683469710000013420793135660120246821515108901900760639839119909847040, 26807889364060832258576557734789873920465520962847982201958831069511499413084054749184, 12071343677621025317270141034442538859526117014449906526664777334539686321322186506240, 21639297296373040798040558018638874966574832630028879316452468112319076271335187415040, 49978385582211909539766404140677748865161098543032811694436409160539407087010062532608, 5538437692710672141665061334765870587425499796474076287589000870934230963142709477376, -13531911927614858773735067964752557628055919901988995028070742160184036026664402026496, -30605044058662768929882646106039663699257888837238798401893342981919196040103030947840, -6086023332338942658255588954007832140175970163440990975714134794145925682630238404608, -41021306255396844481373500122963209159686715912998480925878804048163006056969464184832, 26238736407451588511991448857038649904775887349479794429811685525097833966753485422592, 4523879194041011500073992934978561464864997413036532137009584578070643539757244612608, 5762614742934858473485671208398171029638296520682579058927050610177708074522172719104, 12909767649521195963111152522419706493354668593898446219526427529476057208838728712192, -11002775357471584655009411131632100794734371851736518866285430562374468532740357619712, 7928886824213746285065803887040725982720134029692418179191649683760734837710421753856, 4656108293841022005456466494498683628891129622684492573042471877747478249557790294016, 17379582638356125336781226726503971629479063506008259416157646515874416511854206517248, 5936787357144094998881377005727965540805700055280784708093663522956138530346358538240, 13995900703488141466101427287653559110216576618977381812625146802234348087481328467968, -42610594807888931448300229024999280973355990130992793560934062622496449225263910223872, 2348016701657612315943882779250414984677035162479219678711185822471067832553108930560, -27567929516705979898477369678790823464782991983540475248191304192460395168241285070848, -8031230240573341794482998007252438018423191449957855104712675348577221649742983856128, -27465028096511535076408696623298559578934091242590520235758169584746397360922623475712, 11608683237398840487184045646924569281966233775678685622349569180117409250079112429568],
    [669266120369708863606281510912406715334521108329058425678325255831596050033, 670300233096441083753195865784369055410208006465145176167220911226534515235, 16540346330786433059431930532422754739740251077006437000860326088050903709207167500288, -17094831591184717755689599621199107163728033652363775089023541658475898242750962728960, 13169683980746122480345166532394659519230528365763364351319844717633834872016352575488, -9808693065324577203755422859098707735262481976357562791078238735371917044375126802432, -1042794354369645733999168011356027503940310030554304312708326217255216755832107565056, 45726055221677702134763100537813974190911872474143807679433547565902076542238691688448, 13121717157994497240452330467954428969037277342840046087881469603062230572604697083904, 7918416497769439376365361130187607174919277383306786472909894499272913772327561330688, 55508187928600744180086713507318244168622359604341728696903136076159159190570821222400, 16447727668509694977763682652632265027280089749473425679592888968275937833634093858816, -14551621440018154462307929024249900394341498933443044235843147361913418046745847267328, -19275920009883986630784914866265329070746513280330781275009324005164229567456871448576, -13098538006734416401171468763934450818042823731004492039196918260935963559732931723264, -26520516299528794192061545758124324506596733307656254894321781468366135191144178384896, -1937761564352299671737246564608168779249861502790818773352346598881582598179184967680, 37819490812785814823433764343049129586809300152926464262997320270742371140827476918272, -10613623655303038726876560985131023974600486158522174843138376485621811091782988988416, -23691657363803203573889289771734004290509400494372657589540097320590457424579666116608, -16120135433846312291637818959444052511275410208559957424404393676869900425748702822400, 18170650332949531283263569258375763664123110502161912079532746850569973909676003164160, -28777069838307078571977115434991929004357455114292701138538348393987346187454880153600, -21206268295462074393956567383613422363494680307126867327125161817082160379523179216896, -11956648492791912973241723435551077916274401831478958838856739882078661635867840348160, 34676274944123354710600981741583081481336427877582938160604927310052670844810595139584, -22008897712889846494237263712215744212068253971588994343444827691222737341172118716416, -21393573752143275189182965552214638277522150029103565556454532375904639428841663627264],
    [255457877677851046942735385112271993309500337574202498838519056763323592450, 980079693874120459061862901310129436185774928746812697300886357080943709231, 19866381132834886549785987566048373924939684036746877838179805507787482641982820450304, 25650606774014635085986880402897199744395335871512134694100388802096644328131775168512, -17507700502389242774713748702137801742161496741187724652426727976881465285948643213312, 7391394662971251586903824998493880370467371391260533646557547842173430156257734426624, -23985200374014744739030142411297615335730483969698362204615269845939083037277039886336, -34894416682964102618496535297133520540729570018183507645462384395942838503862937059328, 604913240527187370116118626313944263242053297103486162175719651208845618624333873152, 12667668426348884142667225623838740293863570503222743238445883005807371707630556807168, 36521947956486371526654070464461987569007555446330926902040745977247180460969064136704, 13586037901537869998541714879736356353870024847643897068371557482286101036869303140352, 17903533168621453536412383815989420387470516127210829389204746574036617915768074403840, -32433530501255238202331793508183971036811964750344645346776451041307925994739511328768, 4481731934606572313052791670059057362728176198126451721413850275660752833168545939456, 12553683609218488891225918453503373412985955793411454625289292808453243174529999568896, 19626287166409408749064306848556570136928890905229786824417108034805216743236403462144, -15851775313718449935737344850173450506305608875702040823681629022637308992530948292608, -18188569395121776284809467862620675925142279929007833479409928937168856934487425024000, -4462186790420553900984464402935287956936604492430840146503568192267715707336759705600, -1270988648070984679416894172213910597510973160456985775101298711194991500583965294592, -19043414323422917371407861639764240791717021379509073320514481366080964176280951980032, -35070262131217105810387380256893837752464160264805829682589557850632822902625620983808, 7281366029989648241359608392488040466243406046535694692141442405330757667742944329728, -36881734452002832469770094978745621620849321709189614106923080190193936330419704168448, 9845414318599464741994887308899378992964166025426809339885450310294112863641898319872, -6632217216754463855304142020228275751355201360795902655333899647610855126311756627968, 58241030009186289908624151051041886278607980161550733697114738500671010721551530065920],
    [324732605916603205850164241322947652890233666789343213509698784840071101330, -1510420788437195050711072044572764643783335341316479186032070709120525580016, -11296878707998253357447680420796281811265242149600051556096325586356676873609728229376, -27666009412267918662392561267494813960271087038212220635602446933040808888356451647488, -11128248068434345963610904046904128500850854725550381038651693879075026627183423520768, -17036043743238297346081020893044469537603963959542073630408197040124231504844657000448, 42634351556281608438938811663368666886584008967121277298176215587059080970101009154048, -17447387192120660411889613744146498681940731743222483243785710776116999164031798345728, -10227178549978571113448911647993719670524368126621564635303022716002193027816927264768, 27439487934854492323162656544986782144279845608765372992979694186948655637438033559552, -3659992945133226701791455758590377411212651941495006118271962493777791332353092616192, 36066355789815965298996085562276859964859596375585623586753939870614843113528430166016, 34137396225189788683157939492542276812420613423960341938244989270157101017548894240768, -7957629978435018927508520108417550486596652018364901771306865922714921120402826592256, -38089744720117449688851841520286693733447403924182169870641741934421961530890214440960, 16300819529615704791994642606696245570045081928067642859251583575045386483640022597632, 12442383972573434946191798382471127735150105999399003059417462796511973519189226815488, 298064653503600232796019653605442564411744408054783442859654826565956485192334966784, 19394866289680061700379077107890686401730844637123333122519587291120914948355245735936, -45697851956116565566475178725116632275135162115631801037812015640939898705804406030336, -17176025623349372930969360038883778014822071199745302799645591658846038367121721786368, 18085636598289429288271203771307774720857763153560285440726940147993740926800078307328, 2802594064178878261566989644333288603041559968632759003357604074990494534561125367808, 12019352853090453785810082266691834816677526552941683485816605256319095444487905738752, -4983571120705291591029844532303381035027088676822366543133892409623033742361280643072, 35836528107270220628263797298486749949592988010758041503506981621638369306222637613056, 1030749216849933467429931658698568652468904477405829788195765524956622449309544087552, -46122024773298599585462142949377979703423305892385654641147557038882653951597960232960],
    [-1305930604868497937700756174663397858431396917140818137609172388390058910211, 1049062124898411189316752268625390274227409271526698765737862865338443586968, -37996509828338405213039451993414916614060623920143742485970876374061936685486136360960, -11015295893147185220674428185941589648056796464654151934319963293769544885703838531584, 10002597323197873365448424904476333338182106433541414077206166568895005412730393853952, 11306706487287798034648392604480254998448849443484766312483531530860813614252522733568, -1588845178397200323990419485964712860512401734146267734706902116805908622094807072768, 7474333816544584951528718141113330654334948780686889211829275463074457790496655802368, -18438348537057341874734732128329103439188339759359988199950636384246165940006574620672, 11185446272882745380810015068173113520193326775245081574344612676990739166056316665856, -13327985900445127887619515866330576798335536537892040829726557613950094084523880873984, -48982811734442590385462646573627914146172287631672996992526140373609670372345486770176, -13024256481177774616446821754754020803783390619192835381043652621293326705810357616640, -5727902736603006462678988749737853810571805559487407866086791575048081429748154105856, -18113608708053542050244162763694002937729334530811674326679625686009111389812065042432, 7734775966164915379949962750720516039672195108098701938066272986692933077748202602496, 36437110777823603296772082821386540849004145206115969581022773256119104494485135949824, 54811844657181222753467437698718007392461237962209005224605485430887439300863371247616, 9066141709542352859106816510831244476121649188570640394014926659914528328740549689344, -31900930945369720756701275450691385458789495425146707565911366856940770663084209471488, 24522992528763465830770262414525967764936474069101273692740211068755369857023620415488, -19078454567485942782814527555155288882613837536107318232567659109004386107734322315264, 9222604732938875006088855534497259090328238931119409580161780846321306988997783846912, -13281995354755527447701844440953331767527445327951606816670234885966429519988517765120, 7159202439390670092793541842785739938602353116938205277949913313708216180321472741376, 3487842362997558022268864842692813807544629826815788914657431268432005430756377624576, 10938541559088365101616247401068157126093550981311383208047801979569828786650268827648, 29126805231469334946839192413125418171417589223328209379030223840483680510490468941824],
    [688408729526971408995928091617948967824823242726139776304286700843727948658, 59840348235044798524322011736580105235395346524890701987429363456206246527, -8369432686290119068042325292479173288848376968285091322449451207556552279577010896896, 2619156342981415274357842083493867867314351080493680426270025813081782254299777073152, 13148619567066572342444406675990281842508883983216714393040670412617894582036708982784, 44680433312576603946273980859449468906122623962705449983492202308480734866781054697472, -44528602303066423056795261714115408363948443917532752984989196120949330335635242745856, -14756364257536805013777203869771686442533416901685936714463461784568989493539930898432, -21683841614681919385686208125318635222752534702663139077121074217091691070117824692224, 23844408804340342259434221062893631926253387496200368847970812100806277336039279296512, 28167798673238910899821508449968149039734927099263475634171638915423034981396194000896, -23827069627220724521852461106780890439948859012087209262546161734435718731740232024064, 8294177559769168418478201570709156127872263316977604488631843788369126796949832335360, 39374917945119664359343616034464500712681999960712056660958272886539468618357578661888, -43042934744423994750458923782785038740674349402292124864727941001265295928203990269952, -37771704568421920196216156162359058991376610031823544012536654337756878750830836056064, -4812433803759734338644155213648141357821928089271458397267936652747075823282576949248, -13989814451053729571839548848752553532358332305167004591415900233386424209170122145792, 40541139422470976910430752914508925378847406534963976732573073788397962413655858348032, 10955668845826524647583524056662473679649607756889201548638836793739017078500317200384, 6938282976157808692644036201405861113021576939093256741552357871527333121103507750912, 8277660644578716141895880313995176504131681816351870032618268592571489823317158789120, -4046761038548662062103615996272222366038455853630178303355898722196412586566078169088, -24968756079188370328281305327082754462744286299602054266968616435492353638973629792256, -1475768024860157550392428430565326849424053353619835843882389836844098653051234025472, -2870842797741764253194177857987915326297781690068413629040825118318267813957505908736, 2726272480368716121155869410794399480350063349025951227755128671008194407274184179712, 16575789422298904083419932093582912806278655231835136553092375460046772753459786547200],
    [-173634279226443338495207940380821019984587271656925785185829361877416034796, -1876936295277080820073290367398735208247073577109038395965929471958097498273, -10470350496450635650021161875590487498880137493183263442464696500123191581229776371712, -53267387691535756733484278169851911231495763633466958451333831545224730424525587480576, 41421436423387974209861186267225959663901198369474656888106991755101618346815614091264, -46733878076957010710113261936352669495944913257229282177816223298476540063286512582656, -25822060110804083853405573130361791096744727965078577907828526880297793401318222594048, 400377862892759001545403432855137024203851466115174106632416498401460233778365464576, -11804068840927615977390831145906662654094165064249711483037263172241103700109138329600, 29689753009430714943873893483948672782954206195950760556367906204013487030409455730688, 38375674305419988159005970332914382813873245381452739315835524394989656969745361010688, -21468714274806034371896627419243149920688632727110377925501020938963533238854662225920, 2092689623589691071168271543596805029366155091485760363574749868535545879130680590336, -9036610546416551272089125680645832448358331204640353220990075892508554752869909135360, 34431941171942189561008928157683413309983005936825698584443934003558867924253841293312, -15029072575942699365041289337289915650503501419838401895445136430538362585372742909952, 12650036603530008283021923118185800967064282993762609778173696703122856576719236628480, 7825581465343859887177934414317715981035296690240873611908090329000276331404044795904, 11845261052141312446623610948632237639602728774859196482209878727231448835887793700864, -18844697338491612938703873168877049824811979224742432574785337246763270183371629658112, -8413891722305646069463857089862410093569027359469645875847252594344648892591242215424, 2098107644825924532735303667863634253374090757739644363693488255270966638469405736960, -5080440294477662020761009910915330494648710071475264911028289256616760611154671173632, -26365109441045512849812574595730914355705493804084636529951771247282992240094364041216, 12199845842197056893112328273781086041884458834801508262353371082896633888051747094528, 26666185400782341069727204586315460297294610234954993554814420070519412999444276183040, 24171872494387885381328118958322542117931357996039824348625911009303058057541304975360, 8467518510289116371993386274985276842976894500865466179289046101436191118702401290240],
    [-229247440337471081338715809493455253137765229627129292350961195732199366707, 367340457666880495672139164443894661431060800752390943873221956611994883464, -27432618965954922539707568621714361953395422134326546146763043255879828252546379546624, -274608958126819265906256503402379511925061054266868856358477577714658485646603059200, -14543392948330725340529934519559823650352058038477372558959920545112977991492261904384, -16115663574098247747810075846215326141566037396817298748920708901608153009893100486656, 25891003069671855745398403307345698503666623721012185843396376784985161023138824192000, 12217503959174466822497808115980575673360194504994214336370178887345903759094997581824, 5268175048430155312564992585807876875522805057916230991041026788826943465464558256128, -154316494909370816444592851748257041304978874962820677008977908392896760206654963712, 26178805613015231753257705302547650306748218842852733230543802580834359195546595360768, 16452319678663380981089255476561869982737976815433409211393736753971015202141888315392, -32662798584570467092545559142391159357805855667767424278817366674615404659821300940800, 31005965780415470116670659658657083226739974642029713972537405256432196338896043245568, -14540785334839569153152893223328388595811445822295201882406022497419512341020398321664, 4253701104136303154148477552352411636490998905905705709952408855479921397799290142720, -815354458674887669581677320243786224168878484979141842171212753083703069636936335360, 21139065088596774288624032318633412024249861008556032560541766872036808049323612831744, 20639007610656378885647195894440695476455698986846597913077664321623479275348434092032, -8823765698341098939935737781901839617981287341790815113659205347325722724971661230080, -31308159961742129146387584351832700572995904405111201867633983041201038757309410443264, -46164372854882429336560668479146182844712613371275488268105633808811050843396779278336, -27528482942786491771917100280000412564622461010660993380276809928179165052904671281152, 25108658078296485335867577108404478194644847682446703745086676534086918772712647163904, -4872637847034316209372295821353883857240020639466191932365574896765311354260294729728, 19379766198962613035610582355229690460022289128508809082485090587959806762232351555584, 21866678597702181527278646461459580637678946910371726302316416667797108089609376497664, -4163691203429821928803391394582521064436411964676697345295613755270199435577050267648],
    [86470131210204745165724497106863477886116557339680886287857777345806314864, -2175935318568780984378688514629840309832433495019248361806152592112599041303, 2540961044131448113062950900491038271916209465351371136982507183209150498138287505408, -8422146432723556040141120854703056897586333508169253905049229947956821770990637809664, -22712125792544483547342178117269780985882945746707518032361030365001856381835221663744, -7614716320562871360250047501171333745201711125222375687344600433970740654299825569792, -27777712112670292233385573876951358349946739539818278657620715770670606571752256438272, -4348873211701843703732452104981086835880184743412554810864536153405677656897132429312, 18575389694582948408494862846450819395198880283822120746707237166851072413951464570880, 4860724965924715108694040679971706458582912191948116454444419109305122095747137798144, 29714845273513678049145103633177213338715238157372118514050607025891998816562344624128, -17532669751208710463274192345005414082109674036127087208678328889777133728274061459456, 51346823425373456726486981124639284254064547924661983583822892190181116407923471286272, -6995501290699896517326692718345611375640214152733550842807507243737793889834165600256, -6378319677511975453865441825318050080612147220924712346915793655704496289568306233344, 33911934402608180374024913823390157983174379254434912500229486974397857647314295848960, 7428170093939656349574800171708853540866717450138476221011144555776571501650657673216, -22320544762622339069122327204164197965590770304552838827840330419737854512726770974720, 3882063158850045566417095416052413700352805970819481439614901445031774158650616053760, -19622580133071257160083793957745809957507545664789475086499837961566115135137121304576, 170766676047535633104141156865849998505320905556437101875616459011263744028960620544, 28689979092021519715196743450192541161602368960867921654297554001359609240257617199104, -29580294047631488033035688862877550185472180651904331752364527171608158259668288798720, -13901121852855187748834066787857028040791373142867696900937546992882136383023204007936, 14471023160578060782987309843469308174003707789007092484156043287889906951797214281728, -17030467714425976358729128386578764556198922841924191423130731910892917094304006012928, 53301718842375477673919614933425779095435726742350692547612868345493977975591104675840, -44657326729716844811985853436865922313998072417176858902390560827487109745602453307392]]

/-! ### data: CheckLCGNonceGMP, 2 signatures, GMP lc_2exp_size(32) nonces, CONSTANT_FACTORY = [first shipped entry] (gen_any.py lcg 1) -/

def rLcgBatch : List Sig :=
  [⟨2, [242, 129, 161, 242, 77, 137, 86, 158, 154, 254, 131, 75, 38, 71, 11, 15, 99, 218, 77, 238, 48, 118, 1, 19, 244, 239, 200, 20, 161, 12, 49, 83], [44, 230, 105, 18, 213, 37, 35, 36, 200, 112, 198, 113, 216, 255, 109, 232, 75, 242, 222, 241, 26, 163, 74, 61, 36, 202, 106, 50, 251, 52, 191, 42], [93, 100, 104, 117, 234, 3, 185, 95, 73, 29, 54, 61, 206, 105, 243, 63, 228, 123, 191, 44, 104, 140, 47, 150, 206, 228, 137, 160, 255, 119, 112, 198], [232, 50, 167, 85, 105, 122, 216, 224, 142, 52, 17, 73, 245, 20, 151, 76, 38, 147, 175, 153, 251, 222, 240, 108, 138, 23, 155, 19, 33, 2, 28, 10], [166, 5, 138, 0, 88, 26, 34, 178, 45, 229, 4, 114, 67, 61, 46, 68, 254, 216, 182, 184, 53, 126, 68, 205, 49, 41, 144, 58, 193, 212, 85, 151]⟩,
   ⟨2, [242, 129, 161, 242, 77, 137, 86, 158, 154, 254, 131, 75, 38, 71, 11, 15, 99, 218, 77, 238, 48, 118, 1, 19, 244, 239, 200, 20, 161, 12, 49, 83], [44, 230, 105, 18, 213, 37, 35, 36, 200, 112, 198, 113, 216, 255, 109, 232, 75, 242, 222, 241, 26, 163, 74, 61, 36, 202, 106, 50, 251, 52, 191, 42], [240, 202, 181, 18, 217, 252, 144, 230, 168, 213, 171, 184, 164, 134, 13, 177, 54, 82, 103, 184, 84, 12, 170, 235, 158, 229, 24, 148, 221, 209, 11, 174], [219, 36, 113, 35, 131, 105, 141, 221, 82, 123, 208, 92, 132, 190, 199, 251, 87, 159, 134, 45, 34, 96, 49, 19, 197, 50, 197, 229, 115, 66, 16, 217], [162, 66, 253, 241, 31, 143, 43, 26, 57, 243, 195, 230, 147, 17, 67, 81, 220, 190, 212, 7, 227, 230, 182, 5, 185, 158, 131, 6, 221, 167, 72, 166]⟩]
def rLcgVals : List Triple := [(42242500585300047087452203939220047217368083026745577231908697669264301584582, 105026078118900429073419221194067993455467601961578765691257571171543006977034, 75093719550420202690220959343997925248643804304929068751122887266559847585175), (108913236491393642871070398072539083093448501072527353276999411954219299703726, 99120901188842014244340253052896453156787638246922713719482220801182964781273, 73393046019260990170784461258564498631182600315561616630683087215413424507046)]
def rLcgAb : List (Nat × Nat) := [(67073293866950724215218105849029845568009592764713137439767512018388302286895, 4916781154357944301093114228354270493525708176131288245598062753062524566203), (73097995932320521629067376593752064225573791885704578965867775181040224271053, 29116189773173536407867070054508999620591155351263240579749890793348302705235)]
def rLcgBases : List (List (List Int)) :=
  [[[0, -115792089210356248762697446949407573529996955224135760342422259061068512044369, 0, 0, 0, 0, 0, 0, 0, 0, 0, 0, 0, 0, 0, 0, 0, 0, 0, 0, 0, 0, 0, 0, 0, 0],
    [0, -54818617674311395157657906235896024072825871376435620669718730045147415912690, 19154951581138937069677222323763778690952240186953833970394097050877215325464559616, 251992988203206283281888912012034236942055481649059663602125524542410496451375267840, -9277165160431307526678553186859257156124071256460395434843538351598829983085101056, -46706730502386771870550986273695718801448759434953549845606019145198448991904202752, 2933389306695924102401127721277765179258830450439534868620656695006259863453958144, 48918015625188715790893599839661908170465189247020051768379307675941253978072809472, -3160153298946363589158727968189793636583335113643438913129815246721237512940945408, -103207459772092066058678006071988172623082309432638877328548120662333306726401441792, 30889568373071661971610444407448470863903287932421323997249530074909798686749884416, 69140436873342331766860523685507476232471610747923443254448275612219269749871214592, -36487802553088896136929365288353677673757266790680684266935091692704927077984370688, -67347053225136258672698084688244612753014301573511709742798726599376802567952531456, 73219723649494877114491654550933409133395711443787096066324499598325623681974272000, 48258696317358092019237508496450537194274070268929798277949964218553611143052525568, -38704091317825568969874227883124574559721369396518452447685451549493958858351050752, 74296772581405664593407105304845313641666798956905066492665472855477374391681024000, 31819430931969537758497112277955682645906965044733932424217801776435145519128379392, 5419264577710036213623840727458477361300649106189157047077962568266676494017757184, 45713551126985952480424290158712663724757722895782972882878403916589898704686678016, 63090229445244926422915546883713129170312038620472494948660890825761450409200713728, 136149134575383443002898119027121985578120622268059169306966234712353520054637166592, -58125272128595140357849769823922019945405732329402466736865868309403984772521263104, 61903250098757273297125974805357953907796459870849339939119548181700248906139435008, -72183473515983214058314630804464167523832294227923094005491260753640139920456548352],
    [0, -1227013463799579743037739314778210645015911455923322411308650786536859752450, 107866021534967682223007544066844002600918719453038587426120573697500449755434582016, 142425442425095035365315630539424878969496034757863414472152947870901417573122834432, 16357790596999318409758977135556698288717234179265741518773816233509860116933902336, -19530433909378555444795053849693590905758664867190975071732021124945305947493892096, 71713147637593326069123777506085618195005722300059991297114354145132114696141275136, 309156822956854637941673121392328862692745045539615233333229101588486647456980795392, 61621946363610790286523589625926624612053888080509017984119292241660150494942724096, 68944122580650471766098817418637819233410175453960523555170421762481858024545714176, 40042492482388710428646322464269710399252077275073559083879119700167309678042152960, 58769045855684843232187795763583460539360976244106380416597897136182481815506780160, 40972102896458787899954220292855886278812084869570494954049521277047387786888347648, -40527885474640678290948948579040594357070258477830591021424778581231330581094072320, 32030774620694899579124451427055132262207838397484150351932262918214802271666962432, -87813842979942936155309362994804002461188153162576157674417260105665098049352892416, -81309494438815360836776122446815147719139043320257344581274897774441831454751064064, 56284573142170177329604635665278523896787835412661690802951121416289743722321543168, 114278411405087676252282173162533937138433888232875614231271607027158423692107579392, -70313326525631022783761010639200210538728881702204324275270864038223410385135861760, -29280520491084498405158525267764011711946543678119488608488191389047883493617434624, 7157029701068905179909751660426420493234114135362448144389636461499211776910163968, 16139203934376122415440228025989367618431174195222263610638789174047719613322493952, -43496008191695583977493078259476113569906566595252628408106016260052667855370452992, 37328246910256369831717292648076685148063219921494254423496312243458657319879966720, 101974918524946365173660807923810980951370631877084123060234981630192150809554190336],
    [0, 20918498951396026744727809745234939567329162819599580482476684997181498232893, -117430900345666475773725955224321541792995271069685302252022066808249689210382974976, 103867232362196329376646024582216458285073518409033434313279479681600569750386114560, 110991262665095864824454475137125992644255568325521852342185329123029942554259881984, -63239567933649673171420204093986121200162741664236287173156694655146743925181513728, -163406851801760587942991946055591682354345111972260347889214659296171608125760077824, -2415926564806304863631643385014348281055761900276453170772737918232782198049603584, -44135214203148178431357021277816783056944449933090719746530149959856663204213030912, 48933194067221016767332287844698052449979131821963647444698869970844272132106485760, -56533582004010457995818139653290641725775694494699514584472907301967276490344103936, -107777282650201951695443458686032122035045827457761781929671771136899143141779570688, -141120696570167463307400997111005949941047350677894443262430656677282613375988137984, -61232332157279575821360105163590353749834012827141497414924213902994402144830881792, -2209083826958585566660222241883300150138113428604988080377367413416551836469428224, 212823010909673432669791303593022670335901707863502192805294294543619692144401317888, 56278587229592603195336246239327351091382499713676125633190142248335328648022196224, -49195003963178219326149948756558050569547367995101497766058494191518600664866357248, 62174538498702730600969809325465196516543908741366144682864726339643341981104472064, 73833100323634512649427560746445550302763920872788707203512037776360683020002263040, 67680661671932184695478356220739792268458782649738006126892689248062148288417103872, 8627501971245812954971753872973766264946117031348209580281878997345965010000543744, 198918797101630239436599550416271105796737591960577464530510140454319112760135254016, -35533710202859428169996410034458936258936187946435921692096771784580050898854608896, 60977186770274064874679560075924964276273262415367190716876641000569185224896806912, 46827222257174967184590842935145884009954228700912130766706134805705090355947372544],
    [0, 1868280777826837321834034111215282287540168635532896724563782808686574604718, 121318791977350073124768671472016349657946888208937925321483889344173636890816151552, -69425058214934903480262020639407072280486730266438107624572172383756775483854815232, -184420268883982715795488401977061939818508435743524380723987507276916844335139389440, 10008027468360067551970410157361626568521389998740676595750610654212540974936096768, 5200788189597482765981340383670654745432042585251483928747200909694049969659445248, -18775054273705095360181779079078423827351253077737980189796281808804229621489860608, -37481787231410632373018825184016943570957268295283879580506156624154030230552444928, -70616575266298409629554250663704343744878462121444997419949718408547684694873866240, 129184559034338396955467707303200122669698528533236479140200193787983451278433845248, 43597267454219109568197118985030666158990319495269292408705449561465934070723641344, -12133623211382888659107404215159455636908591780523191275947395038016358869463203840, 51358195498542525831926633217630811007845667122824234561747057240999294096996564992, -93873455290383358825902972413189903028554453376340471934010492721282783808835289088, -81986127235215332793616503426613760082571467322388289606647672473049098872080564224, -62375552906556931366762241357769359178904421050629709951329873611666600701093478400, 62248582533127682838715399782804190207748134677508883292946927076618262156477988864, -97897818384219818451574722265601256089418949173877282387393203869242516551891943424, 151339412950837781319392061686687668669658130830584361334431166572114443572434960384, 185185446612402166192371619742359002055041359564248901140548177567510090032403709952, -34334002908780937784346679430944178359067509342985906347605514941067682883211100160, -97932111541430186264970944026672438477364273683844652767318341469568334209059127296, -47051699859991160833014558912674334641521677782617887860911098283325082826233085952, -32680926050731864601779877550639310672809268958092633751020519499811417986030370816, -48172673230912134567022996360113277895180936951892417926261360375342168809484058624],
    [0, -39382858224325267433182129445912764480117625288581191684134289787609927920639, 56255299622426663587879343099222840574878262791545156727696294341561067678837243904, -137394782807954853156888059904418815199956612818944533563531789421915658801693851648, 88418730713552720972472439772064489847699377670124842372457744045141344618647912448, 20344897405226912031525380991527962339662119548710689728313827177546065145201950720, -63647435852880822097408218493628479856258430024325517088873724635660041396332527616, 52646899720693211138733885934921687848393003790188929507349391937684717452094603264, 22893051414054123132175979736984684480071994387720323545776840433698042298677329920, -133158642443096747773575702157214389213157200809077979137815887720831089182899175424, 81779869707673749723476803476650669645068592088545307314191450734669044992740163584, -167066892868412636017770466277092729669368171808098708396706767287011888209420353536, -112823117774140711015582442084033170519677583640389583695938028578524949964866453504, 96582248161285716420367835103514854336662884802111306230222822756037406808434802688, -239758656778618214034306049831064233785355800453098606466802428290511962227611795456, -50981112826520947406381869009553871786580356336562945309166779430143571435404132352, 108695407691589821566159774395209154722990518153899686639641605429487495665778950144, -58365211054143143873275156138235906819994262265621604111048119836440371664523362304, 66533137509993002933049564606613097968480350294697587254659960618255648276120338432, 111996225973372492468616929098003369068268043325914703250052099638727419823543812096, 48520247183363582701441671483530698064094667809132226010660070525892213881058623488, 50518248958625710116814122183639140180953240487696081673952174548619588921909575680, -26869090758003609874157709955311306096007227403618562344470698012642229416068382720, -6119600704022580691562981602931683828245034594447655042613611982582660645934596096, -45662794706349626189505259593337390151984748787515185969100003338012511785564766208, 2646809812413963521534844541538516910291640555660416035658153344099192151488856064],
    [0, -14628575731130440117891270377816543771926084086774634699514595944277818454354, 10829231684606302177972205366368422492465833874406760969239496757776523559711014912, -87091029310817203764553066934490218586066972624329236367070785193599342648104058880, -1485160225236808564192190253683831511812523244968788012374559176716153063418626048, -26203961645014506594561750619285015291959317607737497764321178401704478491002535936, -93589746257227580029953368081801785227149045947228340681151517641534116468514357248, 117441831248112566844771164794442395137880944353224616633588987618889587125995438080, -89030692272075842136399108736465520302225555272764464200037441393663507103613976576, -99585906335721027313179169233521995326756788570479179322655589225637013714536235008, -84920400934602609980523222372878367434361540355229722943967438326172105492928659456, 49544979728277796618929576924672125001046707008647492870486563391310033685932146688, -117822776118395858762462861942736948941857212833435592449610757219705054830318845952, -9922665112613080785019561785726360017451039519414443679120148430545514445930496000, 25205239682876192309663096216413957000849819528029970965714679593752720041299673088, -54207229466401747039434587560222818980221703348605294477047496345382280757130559488, 175760656102045646810568389969291986633399381565949834075004430046506936841065725952, 161566008653553807740536119649725616117576357123719379838454031023576099752964521984, 95638205400986560597751457398276481367632771390570153157526474520682990546056118272, 11565079607339372391704978545953607618726974322311233628116936370148433579124719616, 33689495772754740032863951748332281022119757761421281131212557606514489717482848256, -65104009341869965441992471349391575396065127206130194408981961300916361779405127680, 147193166535385270105467983276011483504957394559974488284868119297725603560588050432, 12885071878285608595756251149934687586612830606863922634360847714698903776319766528, 44861599030348555027329862753498625891382026645522000140789456198014917271397335040, 11374545849618735124368842802541916555288090863132326923474479538047405540878843904],
    [0, -3753463116895649303426776965625277797931252617031729213042522235650625725504, -90192908913984315422475294216433593991412354220555037454987146410417987778594734080, 129922262863131287229754763215044419310260862292811273145448088548560696967105085440, 62213062275856151108566510469348974856812013136649566883928286236297121987653795840, 57892111488207853165992893706332545591390800576896662897833884746125089823740919808, 79176434503765784516464287595127826506537667035294452395786406112404546914143436800, -78932740851734749962338132112637537083867068547406674121445682135694823645557817344, 25720263480977931974160106255732744672341236585121481560459337555499990996857389056, -45162996955711983993269387123364319886050593206795946603006960866166002213267177472, -11830763161087050169790193285630299942485441185029564000956949060462132185725403136, -12534509052238550607930222850610724576298268553987084559045230427820447785096839168, 8662078366217156586374704189496502175900882043098867364521912958550901514479599616, -52132410792264188026514084740867211183059784845501284718609351351596964761078595584, -255189886448992503946492455708100304349716354896458434697288840628426121858546401280, -33642513864248662883680507129110744364009653034858721467763055184889339578693976064, 167543886493847045297707724739805170267643008296233558193351796358006032756323123200, -34635286772350179119594402797894059576354854086178717772458799678058181357557776384, -67231706283460133906798605030975205820370039902599964689933747611811702590909972480, 22894175729954152146930268745376132133927292199291703157726778980027990542469038080, 186584846782782556165929778117491185691306770342935484015939206406393441661334061056, 89061044745532388111951018242964517033103472303312226684650540565358996129067302912, 60398642302434689048635942611515576061850579652315290379311754110029251187509821440, -81486101837690832938893111296378588934306568242428459002613122862344680674022129664, -36743626635800959200366844656153799188067291886598224927027466565960892611605561344, -133729143728768871802374356090770804254959184916499501290846544390011071325299277824],
    [0, 30457423943246026339665546458531588333260154185088677314022922075326214523316, 5080809106793420816718997274376716867569086025111422230937990491090956243827687424, -108247416617564973963001683806768212721117062256747130132742933035921051493102256128, 65974333822782128003527798055861890647782033577952907031619264666753010317081444352, 166670946285952558315638428776991357962033058322360216578486932943879090149963857920, -171213794871598762455033490933051642853291403402250691905634080552475558238912249856, -73800782639014414654380183100649504234216277811680318312362132150601335623255064576, 92646038185485182495142813289155035838288408068951175055251834256520844202406313984, 40225898358452560453114037047754984683007363815760735227122602447960850919352958976, 70467272930162570765196098345884716663193597541570036365072211123898194708127547392, -7515361736920338790064304971802623933704569428348249176250608465792065839554363392, 98274157753986469335546034752974968353002935584655124773793425150168974184222294016, -4769266795392226741876116076045648665859418657113358847483465304798702847152619520, 33812891957563448591225996269712833192445754621542838593108058368578329656252432384, 36038131653926093223600146819562143722564364965031541780971364693416815944016068608, -133538887690733267470875275134726983438301651650813520009599178790813515333744197632, -79986696068487273640112972430401231386695755345039754827476720320315911888342876160, 20444933416208022728912738196178567841887601832734703949062178173981420949266759680, 90947080636413110959360221847390971535067737817207034023676425660728860418483683328, -114135455948671933089694887718403344442485152777044485303613837944108857296903208960, -60264607370663814820121338002227412643292337838018005165464306552307047501316227072, -199996371394132669810507067611658486077189602706204578330903931895789845437917167616, -126753561662041012980754293795317430453814559027201066758875395094726574628010983424, 34135596477296568795475834469966441260920399428264059966998764648640556130067546112, -53603633686488976953479217482245701424944975286125709415736369227645675848765276160],
    [0, 52927780256647568823037567523692533382196900530172896504684506793188505164505, -4657665504153950956981443169754613601082263982242537282886538247106485143971299328, 101995275745015252030017635409272468578422693341751534611329382155698117841243865088, -92467444277865960655675486218347705533653861520787481987760952000901957530719092736, 117295687846515852410808697100265294282934798407039728458628131171592482879772295168, -205934935863538633377954141517401337621413615670231139544022138267174837281653522432, -175861755817517589577051983287610842940862908846989171893700717680937758699424841728, -77569602938373936093468064217394510713003352330347402922212167139656380775722385408, 79185351774670684990831559903882167796605438370212263401379997252917935278359838720, -89237836925196779168733306712562395670867047280357389309169546216185481690479591424, 117464389245581216555502172718421898637405180257689177004451393938159294050870493184, 71933064952031311631036717981868400550084271458505532113411484395718011947700977664, -32296744424685234171937110476872368231837183696255359096992980893110726903591862272, 3711101300702013897626338487814015521013084660053062471972752125901852433895653376, -149598870530726822141327533557989191028990876421421483022878720357359625774573813760, 2064010507466744531935522764501802169522558110864898903048873709844290283719622656, 92630850209482439016001969861170868308003716474917395715271336583542464679323369472, -44010637327270226407552236179195998046261789158295121372144394044586275068935405568, 89034604265590714202668107401594989574601405409616101966031283757789432562860425216, 39239869843032097219174810912622790877570380170727872516632465228398196298354786304, -62880166355887536514233178080035896055311341803067457864257907393587552940841762816, 163732385080036654856805673420845866729666881509456364911255838805264998790334513152, -12594350102948211614024612197800953270304092730382048488131220058209183977487466496, -70091844758892374918477332990276854027859829473732666800247061233485663106825715712, -98053042010363869402571718416590432679801264216162523820233871607988575660111036416],
    [0, -15815295877026366757423832303122723277907433219254999872876071697482938093441, -192695920552496015889853465426928527453087430816426312789962831283690988242481446912, -15160529815965044137023778328645624936066014019139320059333885680890568000837517312, -40447361198880799762506677820196306923048092902465833192908861400146384521684582400, -82534608045051131245993019601351433634129790971564516881536868720854467439310667776, -14339762201716795108873397925351591102606275928877098144868763326397899567544664064, 58174086010239877355422902606151984904086176792803580154824165115765583635116195840, -161544119172519314420747128807293949763671921959050882973888254995404261489324851200, -155314049010960288739331320145329023760852674666594583613911166793475804658569052160, -6902289135671636606306887588557296801375867241176715077169751480180769861622824960, 143051740002328928811362766422483279247502582762350197924560201317408920778731159552, -72776085432070213659337271777266393033233526381901161712029477508574664658325078016, -75871369145761347550147863398409223266436692071764064505209023559115259731135954944, 152042118191340844055333382440750929627689244296018780266035810597336606341572067328, 21983922964937996570777137619350900386729951783157098482705641710421663214464925696, -19689027837958692096358044756089469566404824650277187274345419773080139971510140928, 34509796932304346283544019335606943574678653318176144752131779476495327030929260544, -43110138204921369135370220983876795410997308987719868923509001888499370950865715200, 58122849322339668398603894500567451930483649159503807891040891704699904917600468992, -146029178636018841064263971540113403244190436055769271245066604287725218833503354880, -63744545729882584281864622899576014867769783957115764607617011246794965776620060672, -1048402701772586309844969647233837823817445032061567979466223178997684492897878016, -27247763290197272426832306222770756637988072781964767488153998314235396710297763840, 191731226597109255652504099139427788300728753101585055889795404600980998005146517504, -83508733522633801753530072138266654223309113239897156886134964573198871368789131264],
    [0, -17183893317831227193240510284051113404439057977977052711020299272749819873437, 43096681419215609662170748760493001626182950079055201282457406377435161272627757056, 94137425367687154774373903018644242683673872423037541646978130700229188270256291840, 54095472860537763954753229115518536573791729422515658323146691231288484457841950720, -4982306646189975058123735812439973856481897848353552217890526480701572042972987392, 207181910569900539061332467534868980981373932952924822103797472658854131694548549632, 74860301852860235308961191896457286820418884392030994514210180016084457785768542208, -82079926556075781652594616387538589279435082532865794840859018610808543718951354368, -75919050962941623100187862813920490254903718327704954378363915190162694953311928320, 68799438277274040813037681223886842226275240371786926936659101749128078395317420032, 60986745963523414642901730401180540165538832194207581772132573175393421235054444544, 38631289314195901938908125152789411771549350038465240906313389620663232523784945664, -84293036538505179462437383235368796020136739572167241909397601119692107552110149632, -218317115415515008310328643428383224002338458280827940979087117639618013721213796352, -61673863069071113362096534779670108579219152278191932159193737181168372391388119040, -89256980216873602505531740112590690812216558689742814387941056827974427029752774656, -151472544470558098058532477745074540307255290129117450468417547413789173832543633408, -55891797591734410651665278349916253297346283460750753240300210394467330273300185088, -135906239582674657058380020520122557671008336060810037508193663906424528857005555712, 54412770758994474825479428170390261612105882297033344298505776897734382138465189888, -58748601267438555103506149561608625679523288619277605159207607185115621673417048064, 70834278015545218855930537164626485721724953616445582370078588866848065531414577152, 35339369559068596436004623256630445394839291275618608164021384577581410220851068928, 102591539173859460995706704327680331083529051313624138318940667004856919382911090688, -16264793582121116917375794901626055115041537440080212915455733547886411441747525632],
    [0, 10527352460486096713622167428032769657536886466235777693224609646152251074665, -33185255842470075289482451484703482338599042877256279482639814342356603004493234176, -77750075123872723847429009281668627291222062498224075824282603649564062497701363712, 126908949599611669533759778836942094928460809449025707061705159257477434750554603520, -47679183302092034003593869771010775662404401323314161764179361518395225528376229888, -25929593921051890993585590782752940986192743313196852656981119321670348978620727296, -239527953087066356810203404555617028685359335810372592425018985915285970457339101184, -61319741407404328549984900312344090231565170765091577150750763104082482212401840128, -163055099677676852377960584527784854296985005162859784130322034652823029304828887040, 89628148928988604664291489897430353320339177974981504388992766207988739026790121472, -68686586238860799245245779295048200539275418595750160194581331785028209798998392832, -140933133182366810475536152484189813930479554943748275732204872645620365026910011392, -92367763444951190200009726476880178857758675398513366857738760182005393176641142784, -85141869474391091464421175106315770932668002317957987689798713546759869096876048384, 82241966060626191025474005638009652418624714803971265683872360659348079853822803968, -42570519619031143337744979330348829747221723349178446248442920209226125175062265856, -105254480742441615623815674834195749362896729995516252174722100237727616350895996928, 40585562403512716063873158434187096777859187212255796760972390479214701036812894208, 45683840132388266280789555241091390235743580172926829372428281664074530137638436864, -70745374583180790093626465980841209262322774794090237168279178728555649368974163968, -133748267388649405445107376774410724205269110916828773996047968701448129854239145984, -131265659504734885722441736784849938295161005207545932705216382851437938224146677760, -197056768585000195256107864707355369632604938094856577461632287445997536721539956736, 99969134978743900261176468483263967186627033110786283082876594843828460288632422400, 70216398717351390204026537751578805574480106494715924246184953652862319019153162240],
    [0, 53416179345348219466098792189259637138918474955134810295660758972088064947340, -5061836350464527283850961062767073129704005296368171199415144636728133063423295488, 192440376559771524709536999466863955384621857776022616169681182217937835153353080832, 14186761178316381194537816759442127467247434420369886558594416348924745160478162944, -191911775073197954733835203873594160004155155029375788456014327952988972845151289344, 23491856373475640049347685906123871231655623418254782350197548174715885381203525632, 7061659264911551320198263733667463468967092597823672815680915527029205955640295424, -168379145486990134433737808963513424406101374813710291762135495260831394309936775168, 27372236814956426414828002208691601184556781356223110461810736182263854556640182272, -61837327261076791304198542325342545004424707214585948678932571937158585779811778560, -10525990320586111074941808389618842488687233712228546626080813081734852681838624768, -141184052152288383726709404982802880395399569976600600502277163004787939274708221952, 31803433293877778407406088884497946797428608897337093407306668235615201240874483712, 44669139512636976312861216943398844735542904643089723788239732330672241540094492672, 158884691216044218706276136290636407605678829562578472284648419579324398927664381952, -100102392147367675453579104451605446295673797215458839933458516419542048280240193536, -16287180545248549765243403079664840241133962182180137153742446957315775860444233728, -168542252270398082095600437552546382607251297783691291756888804322675138686479237120, 45020256462322818139193202329979923242948619493782253450312923597838639603562577920, -11222050014074313563342848246622355557507178867394962770786289719567840194217377792, -67952076580137270757960672530165652326569986144397866880051444540375599355602665472, -131606434951095828354070010848581514330456360806773524639600368907556777653683879936, -151827668035952267918929813363129379841831085012772522074604827974039516286952669184, 98321387627631660118964876069346198744085293095570698766266626279410283194286604288, 19750992574155127379815425769819255960295164575813987739004560550600096745009446912],
    [0, -45504627113667009663568825600447571741860180201064241586462549921595078314983, 164572127193477439834806082898633705521959223825264940601755862723288043932272820224, -122190020184495389859091286509378506411902893554351413566799022586246773852940009472, -48900477566847407259983108225830204416935866949146354803216184183219389700883087360, -189271072008662471899029421918294902979678280398695224131859121468103164529538498560, -12568204608459629261186750946917542210032893439167630017502847716414496700786278400, -26073120169913987208223925690388865156206740356186551030678187980212326554079854592, 29717542432331773783693001301007222090608660071614182785405482776833468665367101440, 45598732609223487476908863120044805211817598216100437654122829078856032635068612608, 47166447293659742400601333740970241599245019972223910399559916669179833829738676224, 26420032289827784993175594860351134044239941676557050650572330976882632450453274624, 2131139505058081744492534405799579342678153023773050131569898209928306480436477952, 137063640536567046272476602340731004660590021413661204805260470441690505576705949696, 85886134436808172192209312163204126315608961676798627577692889216715662647277649920, 8056856051598309394254890251831622238682007269299525641532557430838611450169131008, 8107847115679008171831970897478573847781611723169689274158056294206239859066011648, -97429751852789489292640587748468594844450058166658621619643881366584921455346057216, 90093198578589643498565920395232438878031539370167322871994801297964029088821673984, 172280041976067156429021092536497035494073969502564013283437893236460478057676800, 7959275207347163930865327765686368920652522894685932414767009552028600928873480192, -107683356048297104021283823553472009090760076104840019851209040673588305502234738688, -203563091246774638774032255494561255705519364652932581100481343349160130743757701120, -151173520348930649712588507583673259644867930507885492309695538982735512453305597952, 69109013794523511706276517723418499867667686561804013209214666725324123085111033856, 38491203074609765503750821416562443231825025471002220940660455521012177158707085312],
    [0, 25430481644843859022538428011498882115477636140733992981824494450544322505057, 91213400362493756867465494323323838399890133344045002131675463886988072839951679488, 195600206561566482694277996241440200036780168744685274333007404315661612653729546240, -96109710294334602297412010980284064121900092578495093104466982506241450934953574400, -90091102433546569488325303306731004044805449044367387911657473001074964344051073024, -143420624481134411491634064009454993900152174585890804653982050669140552189346840576, 163989910454361122098249507989749872725826803928879995925246811240815026944400687104, 133692663709782846220580143018662156041380447217540559608748160327890758113354055680, -4200777959273624629193106638879342506989874554805756023504904319606385646850015232, 10862037317393488842103174503978650305217643276596084159794616926442892446465523712, -80869480420940573955447708645573760121631112853815065718005103720085799241227698176, 143157166232902950014023922137238838198489326542828648784631577090781297526739828736, 37110655792895023234510614539370256808290790569970718193348588188389538735287435264, 146468329876502933437113087521408608334688193395328130758289567301546324692995932160, 62309310631593640630043044913232764967492027305516231586025063771975199260636348416, -51518221016013801066539877377419411310665089712508432810609537867542703331721871360, -13818804101075470845312433332083025049753012669304871930605423153679642492804268032, -40592692707293116368711401906868032750942767242468558245600285964339924645263179776, -33531812178447369711241608125804162750544926585372007292752635089201031159576788992, -107456699086617730400075606167624822201793559007485096367117445785431637725921935360, 85317365167715518297958303979874824718766273632800217432932698197819363058497093632, -151861804966417843033930187442892166701655439050535121044252738061700734491637579776, -39584538841670527509914374251509748362854812554293149140357487721208504012377161728, 165779941684575444799322370567542848442419982963081178814354419102614731372401524736, -47507619264536501655174736732616182359626598580256039775537641473140851354256801792],
    [0, 54552550960803391732226471987689880594481284552516631979384907354823944238056, 196016061319652754117545823420851017643322984407599399825288210391145478832391192576, -92626042198948834865817297344265141220966334627173720862031032429617834983921025024, 22081791566012408302477944818438539085248226538319015710737362625518346017261486080, 74897147932843358939850386314174743816672014965098680461054875414508642826270539776, -28748168860780167119549941693710756594055110568986178229347547545905094313983868928, -664529486006747569730235968856330180438722215699188368249148651950242442558570496, -143417973405766516659142189882821559858409699386456017198117221228598488413180526592, -31910058016254379346516860880214658381766000079754869918763138536554094213929631744, -32243155689987215239295383366593414801859403738716305406584274125195790578954010624, 152734293005342342053070192297411798513332854695140083035515050696441293858305736704, -12844948674911350258854223547031781148525496220376267810598603614948135029715238912, -83906219251813909348316076213048346307018308466283371520283910948948414196359364608, 152061909065820922683757386797931706233474152393473152632271950566721979241824518144, -129287123220913196770551064026893174603367325560759950928622614337348003461840502784, -22533679358380861734991035191148213298946027979644803248892310815966478945793081344, -88281438664095883160248182325875218761407085349290258925379667911853029416698380288, 94031813762168972375978981697006987649127454658120137273930912016359761333744304128, -63299292170354731188531049353318807779728372357678681998257962233758213068428410880, -44904811619070328349125352985465607287790003850082357716057309301158641568470532096, -74778592141237529173170126434895653934461140232811020087414095407746399332674306048, -44980216678703098651380816593409964061812055148871411622103093337330530291665600512, -5131573943681749891934079818892490518351159699302633279049029436292655192263884800, -71147584993997812375713926791042227147513327077932298979168839747363768081540186112, 104049823481001959748525702286751705516827199647028345932927807304962152228102078464],
    [0, -9109252628444438380830320856832567788324206282381874091261012475729831755035, -73948964556262843987580004321729025375071242206803903401267596209044620805943590912, 64285173952974442115795091426018275376323654276367223585478552878907313380355211264, 78501629908482390976160853649372563549304471839098631225776089609545997076303708160, -25012707527859335402691275123161987053036037484692690166724628868900884637678567424, 84149136641810832363689104588730590933832929539529896025292095061488108293731647488, -111610775229588657031470425411216731050809553668211589816033786820859984255733727232, 51167358226759378664853426300344759487812238123589214104581259324189318356364427264, -161110682609364157798329118008806632249230464449846229987153385177356345282624749568, 212323038985982115312532323152965368030756401753007593240407826623400491997735157760, 73347382390055621033014601242899346008020219165362627539369280183487525678661763072, -233962145691876921483425739828219107625920833906944372123528088364986837305120522240, 63612815893875189188762792073309256022489265453379954713896639270358454545743347712, 15033583865464199426194702501256283610864843388197529955856232358316860757417918464, 2810433059336475218021052421468612036263547539083058453292908757398096793751781376, -97060010765262104403432170658987272575086088142908048140090903458158534431709593600, 83710952528449666417679301963134444378916495458601564100119225303463233507641262080, -90665350850877781868482554453585638860944036531257808735076140554899082791819935744, -42501878158558119439065611216941221369719297780636226952962413398472234640680681472, -232016320036266959814260870431361261310267094866327455862828145560448505430497296384, 192716609043047095086337429201350270898459596234073533051717725502589766822472450048, -33486229336163121289248509353224018465680271757929106093272894780180080452605837312, 89606862582797382158783061426587351456900421015892228054688748384382911323043790848, -8886959688839079142378325350279242092567606775540897544844307682610052142660059136, -148542043163238759550525721694023552233463999861942124688476617348908124165766119424],
    [0, -36190760169315224456564118435049936739497776623124360298286416998231358950881, 30431978999260727967668267312783578197406958244126937435538423855328093240087805952, -9456152595158006162795038997798371773517050105008523598973443403975225095237926912, -68123512783064948294860056878962511246697470221933248754802322899033552819048153088, 174754194824162529889721675262149872550363212019541574020552210542057369712979869696, -96524802401833653945721246965457109483500537375807848252206346269434426425578881024, 13084732831392139788904217004938330571944841026885561270828626174706742031825240064, -31307616433189715329877332830103020925392359288727225878919509946812865703267270656, 39262727057919687837034367602565271477558453363944404859207733050770935618264367104, 37226667680365634513580416663013738618223269204903153912552425054853708197826396160, 45214726234121515916959799791395652952555617750000029954531682767337932981666840576, 171764168049067603213185717283236405985351050559694310410375917339714933706207526912, 108915084116331240326056965878173043017903624961005390728235433658489630472915648512, 89396902630267685609761509218793461770731327203482063811025226364599357351867187200, 42877261349832599510943678256333750029199826763986535708839060841327054457675972608, 63861803052591111441552215752289649279937145368756523491801923030145414236341272576, -37019477508623251941782255591958013404109234887756571716496818302436573936391028736, 202416232661019205017545017956072318781191477754485910456077700794005938225698308096, -14657951418917338668517474223308415257024192478077863365014400521819990264813453312, 6124278629426165730123587549276705433093162464752568470268130520152850105523765248, -185784737779898173985441769952578729571331292534148488376006468506685541259205935104, 182993941401690316921801892872648527873941152561235795401957524105446228958560387072, 31879244188063347367919813630494059037027433038165107963963250561929762965343436800, 48767804505810051168525107223146542237757130587135994430287277488549522804786069504, -9123366893745422062437247033001931712309130033314312631955600108456956225717796864],
    [0, -4124431550272962894227107287918263868722439917438369839168729450687039355497, 112073988789990835109069345611716257154571009462193804867032280592913710258369593344, -97369030092015006255498156642151012121121722935940293899661293670148550821693882368, 134864059716709537758680204018692890088031650763687477637013962489731367625392390144, 87811279905678359032227173689677980044650118263527683434572264435546532420264132608, -138890856797211856266301068296204685936272701239136704855132471562103760775177830400, -110159570699937701001304236157401243407269444721266732746706767131168967592280850432, 177042518512604613786876853219456595695743921518385845136061004495583094062972928, -155499068154548584236863626382087082368659727297817705292375065599373094381942734848, 101537824329507901419985538600320303268026560623672936460509165795141142322079596544, -23150459525145592097152426874927254107061392976892325693531479387288600461327728640, 25873216496373521353877637302390571382842409554564625488382262743517066210446409728, 139258920705592432632892416494640269352284030362439503073967613499766480995702800384, 35823731717726701317759860972290191048265357127947598101796780378392552670266130432, -130095828744536816664804960454354173343333920921556855606125396477972699712659128320, 54820678493873346403474229684281586824304844899335640009188370716629862939751350272, 91351016650730834474069436904209174379479260295758827817882719123712783325488742400, 102570670223014953979122200208699515921298600686190393896860191401594916190652727296, -157573734059433427666492693652547688791706823904749341354036412399132181948358721536, -1237589021171734354623383143948388224022851508434822584389121961739412576067911680, -142709781219691741941639525733112046283385838794985332954803033546093513965230358528, -168626430953444056516337936475680743241735583589226307469453783378884512880307208192, 59602070097774108710967893346073908667484842096487126566646377017743151659969675264, 28854176565169080599087599420061234298338221593993561780203469718469756906377314304, 15711580574660450342275173512031639022698850048319708320566280570336522811635400704],
    [0, -24574362696952248554566248307534587012183605917754299924607748799040280725519, -198224821893612456726503068738693028457664714961622093204410359626488782665023488000, 28783720226197713680306664348867761652874828268227630864483501219716121762325331968, 112969809083745479464254166477252491679680395167288118026510146991747657535592595456, 31124726012021254437266619132290394557847893610023483173980165733342961128794226688, -76499142491329620222362947566998924339686091012978836645867190075993423113502064640, 85624925650507564805683170962720511369000997239961493097133166295637609502853824512, 94072117229076012298293289806145031961943928041650254277349224824271162383972433920, -46185051900568850894069119365024414324470513072153951533906340476372828873174286336, -68304283674903631669408912668603418270742300225878848489780640118441812039701626880, -4482768374406427366381578645476223352279189915327079362135456228563749825161461760, -92090713932707756574416445646283482154965155162204602885440235101565163821571506176, -22983278345097396144950646456966922260677687833396718693477052722268554238328045568, 51383086242098970310975964611715039799745930080692053785888618905694529174315728896, 63352553994739937654199391165396782859649153522207067978225000459281460675789979648, 118983035339638043945881531841335760887713316130212856078661060858028197097703997440, 73997643280539038897327664765705189281198334911112537490356028750575140732953165824, -125830394148832483139616284881483902020790910284088370866941283394726064771819372544, 93868056260059942101809326609219354757591667139922257832622687843719173714831474688, 45153901422204516399519212730989915657646319715609800917117965741753995478955982848, -167034259856381828858152536073859550432093565126296151009596315503655679484625944576, 84985009081869912885141698046790567314912829830657768518250612095438927979589140480, 41084491662657282326844847722695553377560972307633680522083444477819970982904856576, 71123532230853044707040129273482340083334481352720828487029741676867161417580544000, -69141176875923272060654080022638075627828940101652319028225501083765912165242896384],
    [0, 15245776571491017334079780986235128338405787190483881698203078933962482285477, 72830427158668481028449766812698121525942593638080135834096214922721370818970910720, 266487201343982599342181599116253203894876027535705538728764029079108564542854004736, -33626666306906247704689386887144541338455681411686428741680161312429653263097266176, 15309494008279065818291767531486508297871005752904127547416881143860695577330188288, 63067079917069745130939271158461200994387124956379313434713623119677068524847628288, -197598130088778530691670081651983172934893295799313670832549669229813205400033427456, -22384353429958242665184342077640979761883958713729338363227855926503725913878822912, -51742999508271210185622404459473880255316183758731220750530643972203486085491195904, 84513198843902158562758864359573200704334018711561391966211410111136840024516984832, -6022097087312145563821634009673265586598813871674177734046463323040684063944867840, -20372999262931202461406343008759724125538633291547462034521711708761965602969485312, -78735840681677919724775461503556090751318782586349295169174746425939778289457430528, 132963120335120675253708337626439090504573401434558640247178594834444924807569997824, -43163729284420623202072476053812254324985021421731494288039281144135943705489047552, -65792685120051465158245717529444747247657408633956723520425932122969813577392717824, -14470720590235996817361913074383384412380338152527974765173163115626143432778448896, -42073822457119984005445603382468571438008696985202813624045781939947632357678252032, 70172143142983606598809260780969954117035770559029020350370791056262749510390775808, 12494284466524959400958155935953890381495934207679584411760830747051267260797681664, -110222753154554365436208193660754571770569686623180895449493649058807043484614131712, -174335918074191984580644328413403502790112357267912762411753392357760227242261086208, -28333233884610628919705645389389940534549737301264298964655605128497942432753647616, 62505274994953758959267881073022353361500702659289730616829384922323844219550040064, -167235074455006043956376632989755772106272930143887693693016551701696823487587418112],
    [0, -16382143526242457873185951514991948263059128491674136078350519077780256415526, -53162848582330428171314703402271730921837476913974916199329345546551265150055219200, -170517109246120041681390918133114200309978152330534873784007366725260523887904423936, -163396864273066549344122563664434017089382033838259908199027827382112533781220950016, 89012055690730763834692289537031714366603970929822421544208851764240570611530727424, 37706848364757589078721418915192629782474383098212842928771381703862147423827656704, -36506816995051088023679210100077929111218332626979457863001856910522475412577058816, 7885731416831652126393224300433616091251138734617237910351607439127168451447095296, 34611271606540815875286468102148829239207949739110913043515865655326665086636916736, 104548038357421551921706286816032423113016819427042289937653864972142677641035513856, -10971228552923216575975401592347731970758256340815473553587131070315847160749359104, -37400896677904815480204159158397231069063957725702742024210454238811675857101258752, 59074091440168688341872101014603318646108759650197741026866971113215947138523987968, 27611898158364363898936121551594524395671162582549558879147112033045642885807996928, 162167128120009494928149367193984539777788566323672666885938935482674419044771168256, -246290891378148594874418626600660155470704997081891320098401045528727539566791098368, -104160373147830515399389613785985459346315594137247287107737371948938948343937105920, -50612615596473107283400637281077298846783608070634152003968133974823862610866208768, -4663344110164719430436509676751656532583372605023463736384550974920173956584439808, 53229822622747913085130599581375835029188074716038128865616295025933105880698454016, 35563106516612758292460622288165360495362591434131741174896610101563241083690811392, 14611675537673300077287466940710325367009677949968667089405604278073052007193640960, -70008394981454858126107105870130743722656912911867352001809216443236710520314658816, 236686690691900246079624972056808652646088789478866480524103885406572230670173601792, -14662922190114576209726296234389856835321800725770228676623529702097057587272876032],
    [0, 16167875503466595627431391056149541831989975168780289051504289143045470894942, -125903619454977915378243226282249496212016980911716409249991570336221175755265015808, 67123838873307867480901957012797194499533480923192974922692763602925413782295412736, -130046170457480407744814311839789713728710114196622844472146906353332343765045608448, -164230813420133093833570129092285729017397884363479179683402886950334635890580652032, 34995414465781705488772792362041747029566599174279150334243591240206920181780316160, 322536492125201719199935240811646665993848699318431613588752531876040301406324785152, 39004468912202556290307543236008599008257408611809603837850455884841624969855107072, -42406187148572737669398053009486676722726873760908501339907813968484878589808869376, -165981189033577964485019120653004276289504294169251798967376558015923633471314984960, 127187723145890697643384649263132313239142752750597085080072624808045986743091986432, 2231045392190739887259297838713445818727376218211284784183598254332306246613336064, -119905892215587793973103911392558494605220559375186576204915317504253393168215572480, -65895600060741441433120299756326183083184487202395174733173751904351464325933694976, 140091488265848148630603139892840189948652856446697284818892200888650935661915799552, -4879901451125053282728262904348861753447686622804784109954783061144905481113829376, 5044784502381795838635922372934683635021684843993327698956926712860599981501841408, 48829406441588845444085262283026857720187168345270491271305687031730075515263909888, -278478928259206504862066175683025618577257205746159803258215318664769503462686720, 13524791165751995796512402813255954294179305052826971360809137891539671894154280960, -165427105161091363013399995299146260920649181624666310785319310334708693979906441216, 82570692585438780986941724601656085827792075193852045728599882592168997055388188672, 42661303266810127977948724173979148447519174737007165028839199178984204586138468352, 109230500041807868879230546510580887471061011129947711656593457598052386245997232128, 96940475416429371571625043131207430647057174898879739715332646351907084655531130880],
    [0, 40203882278383628055481318520057860482301560038874113775944839949997409990628, -25363283440503822336055902588812936602700563444984600551963678456851983055724740608, 19437220588839196801830815241415259997712286054943897782173593382365437029500583936, -89475876388968534984674848344481554857137340863522537496961190056643720584510832640, 39207127573629433608569640712021286497061325290179569832283480098636889422892630016, -168508759410797270722357284289127255698536480067935432839476523096459856675346579456, -65950339794034748903375860852688709525356477118019487891795209822822406769841537024, 31791209125228061235004238925768158999940894362102272073159868344395816193402863616, -51151669231987617045310806761399276086612159374086413094574630388195780483562340352, 147739750107903542214932577607082537649979083531784745464572562377405056966708953088, -56259055210497520150698050598606937214480564648882864607344468286790303280881729536, 86785032247469062441379984865877139179373198521956729211003126715209015290216054784, -115843907773183765277405641422513736916152901397688429229951439248086209666765291520, 27187937255528766041447663655360841644371062528837161326442767730424151982127185920, 123996142594452695816505396883063177558921216251823216445202395034526255075456712704, 33461974085399836208166995499937831232251267484617805395420980668216227979398742016, -164013721232601730016160043878912958303500263839409189129682786127712318459276689408, -33269226110244325710143191665979156740949940378772192034598512899982313893195153408, -52874555423913300641057747367087772252883494578790406152002763995160432547790323712, 50351494848724716118793974155075634870336829391426629915670047963682104327517765632, -120811892844449667109994585294112299097437546769756583830793887774751218143535824896, 122091872763830582496311439910552913521916449302811173278734201924343819112330297344, -23100284416608774231091684245823199198620611187455598141895599748383913987620732928, -7914203263570717155227927446760484068112355484186223361314231025510443039288459264, -253963221410858827343760659421224706675526225266382140906737646349914183644869558272],
    [-497323236293994552945025999390400494886052197667239440534797364089728926045946955956225, 45455574591203608206532959275877828669515298665472849947676943134348426344132, -15335245553240121689879321547022388893860303818554759980643212233257747820834717696, -18100995177300764565023555851811469819951604271217370502241090668932282991354314752, 16749790638614702091732099104280227333237839656665951840889969160694277445940936704, -30665133505964848601448114455052031692038044628626675985487695197793096094286086144, 5730076917331153320640514029462678369412937340730601117543596133199125515574706176, -47203923715842069557148941243744391172103883821291065556308202255118831852783140864, -35011110878136883540485243186375321670037949393145730257252268235365517335063429120, 8552280021572878047939404278261250426535886996809405500705589682134102872395087872, 6978283558051817892804488358862222532258723667263712373943108256064929733313298432, 15128440312738325988777773713061496210601026556946762789971893876960602646294560768, 1099951755830441144172132180418448817231548653472490046021728762224616761978781696, -21632476455967362851540316376753230413348516921509887708030639393614467618389884928, -11296654588288154688802205699226489610708371261784707954987630284050345389283344384, -22426409870114636680620367734731109914872510755050374895682904691671259736566661120, -6611041459449797242205676903596709808885701010274438999732139968838416936487354368, 40630971874053952679437010158503604433534257965848611723106920562995105456042541056, 8211213763230071586874459473460736197359980027200713228655531781667554091279056896, 2604370134240610373642920027826579739008603533773316210763834715100605735040450560, -28933584986960167734547834431919265566611609619238221771886545242946383818633773056, -35905041262653511388936542791096490093424123629948343033798337101295850968282300416, 4402542343358531969924923596717587351570507565844403722730491712191429412355309568, -16413596509917935845590981929811682413373638118792512058230268027922243587460300800, 184024326642860503991786414621292574577822354812000546678337292850439721708421120, 13954360444403919082885977764341607606268652295578112429932932961137889960322400256]]]
def rLcgEs : List Int := [3570515092751039585536187874856961167850602375938268373870107399592583026, 4214466357906527017481521668800029396068212639358213753961280609698100712, -3899864535456221106399805076485552669791001746586047075896051051256777124, 7139782771925639501178663795593202042402244319353875700730759463690476514, -1334137496848393539115906234239851676256614118053252137625495934206788781, 10990519941747670424438300832115204812051701317841900874932343665305253084, 8151659480793607314230232310103094594096287478028268147551517057084831720, -1991232862130943231270509836790443031707752262430592789478970151891490182, -1624758252420420267806502142656180665888526399448447016520218051985122667, -3522364495494013183931301746764568661013857125525074729223710921816668158, -256102475298205656970881898984883170861645753838235988752387641515726401, 5036703417070061632325015118520993369945445312538623741835038967806489118, 2630207358926570669003344536578862371553753330787808623860504078690508704, 5221555444904285641531545607077681905327483721787662919536909249534658095, 1539253038226113943896646821777501564679132078372509917181949123935405383, -9460135333718255320432831104496401835590195368474491807424212005686737936, -1911822185672370620741150219333529518302525399997996452417115630038910101, -606377174668156163218179724138830727666756960976243999498857817403181860, 6736625215727874947373716726880349583600556854912597167279232582763392436, 8359793867602364949168763773305455710139154370396477876649782317992265096, -1025046767517582506389572191219215130333441208546143891925572350665794083, 3821588240079101139118657896717005039885090226026371134964345960859731675, -42846502420227160675401430256034381356514607279561587301627102505983720, -3249002724048662717194756903765166086672957124090314011539549790587716261]
def rLcgAns : List Int := [70336514619152640556164487673529744860481656558662910394745315926720085700237]
def rLcgGuesses : List Int := [70336514619152640556164487673529744860481656558662910394745315926720085700237]

/-! ## the issuer: `d > n/2`, so the centred representative is `d − n` -/

abbrev N : Nat := secp256r1.n
def rX : Int := (rMsbD : Int) - N

example : rMsbD < N ∧ N < 2 * rMsbD ∧ centeredRep rMsbD N = rX ∧ rX ∈ keyReps rMsbD N ∧
    rX ≡ (rMsbD : Int) [ZMOD (N : Int)] ∧ rPreX = rX ∧ rPostX = rX := by decide +kernel

theorem rX_modEq : rX ≡ (rMsbD : Int) [ZMOD (N : Int)] := keyReps_modEq rMsbD N rX (by decide +kernel)

/-! ## MSB, signature level: every hypothesis of `sigs_msb_any` with `x := d − n`; the hypothesis of
`sigs_msb` (key position `d`) is false on the same real LLL answer -/

def rMsbNonce : Triple → Int := tableFn (rMsbVals.zip rMsbNonces)

example :
    (∀ v ∈ rMsbVals, Int.gcd (v.2.1 : Int) N = 1) ∧
    (∀ v ∈ rMsbVals, SignedWith N rMsbD v (rMsbNonce v)) ∧
    (∀ v ∈ rMsbVals, 0 ≤ rMsbNonce v ∧ rMsbNonce v < 2 ^ (bitLength N - 64)) ∧
    64 ≤ bitLength N ∧ 1 * bitLength N + 2 * rMsbVals.length ≤ rMsbVals.length * 64 ∧
    (∀ r ∈ rMsbBasis, 2 ≤ r.length) ∧
    PMMem (plantedRow N (defaultW .msb rMsbVals.length 0) rX (rMsbVals.map rMsbNonce)) rMsbBasis ∧
    ¬ PMMem (plantedRow N (defaultW .msb rMsbVals.length 0) rMsbD (rMsbVals.map rMsbNonce)) rMsbBasis ∧
    hnpParamsList N rMsbVals = .ok rMsbAb ∧
    (hiddenNumberProblem (argA rMsbAb) (argB rMsbAb) none N .msb 0 rMsbBasis).toOption.map
      (fun gs => gs.contains rMsbD) = some true := by
  decide +kernel

/-- the shortness side on this instance: `ScaleShort` and `WeightOK` hold with 64 biased bits and
fail without bias (`bits = 0`). -/
example : ScaleShort N 8 1 (2 ^ (bitLength N - 64)) ∧ WeightOK N 8 1 (defaultW .msb 8 0) ∧
    ¬ ScaleShort N 8 1 (2 ^ (bitLength N - 0)) := by decide +kernel

/-! ## MSB, check level: `chain_msb_any` on the real `CheckNonceMSB().Check` call -/

def rMsbO : Nat → GroupOracle := fun _ =>
  { uniq := fun _ => rMsbVals
    answer := fun _ _ => rMsbAns
    guessList := rMsbGuesses }
def rMsbLll : Nat → Nat → LllAnswers := fun _ _ _ => rMsbBasis
def rEnv : SolverEnv :=
  ⟨fun n len => postfixBitsExact (bitLength n) len, [lcgShipped0], fun _ => some (some N)⟩

theorem r_key : KeyOf secp256r1 rMsbKey rMsbD :=
  keyOf_of_multiply secp256r1 C11Primes.secp256r1_p_prime secp256r1_paramsOK _ _ (by decide +kernel)
    (by decide +kernel)

theorem r_mem : (2, some (⟨secp256r1, []⟩ : CurveObj)) ∈ namedFactory := by
  rw [C02S.namedFactory_eq]; simp

theorem rMsb_setting (res : CheckResult)
    (h : check (.biased (.bias 1)) rMsbO namedFactory rMsbBatch = .ok res) :
    Setting (.biased (.bias 1)) rMsbO namedFactory rMsbBatch res 2 ⟨secp256r1, []⟩ rMsbKey rMsbD rEnv
      rMsbLll :=
  { factoryOK := named_curves_ok.1
    factoryReduced := named_curves_ok.2.1
    nodup := named_curves_ok.2.2.1
    guessConsistent :=
      (C02S.consistent_of_checkConsistent _ rMsbO rMsbBatch namedFactory (by decide +kernel)).2
    checked := h
    hobj := r_mem
    nPrime := (named_curves_ok.2.2.2 2 _ r_mem).1
    gOrder := (named_curves_ok.2.2.2 2 _ r_mem).2.1
    keyReduced := by unfold KeyReduced; decide +kernel
    dLt := by decide +kernel
    keyOf := r_key
    envN := rfl
    solved := solvedGroup_of_B _ _ _ _ _ _ _ (by decide +kernel) }

/-- `chain_msb_any` applied with `x := d − n`: PRE (in the lattice, below `B(64)`, `ScaleShort`) and,
since the recorded LLL answer contains that row, every signature of the issuer flagged with `d`. -/
example (res : CheckResult) (h : check (.biased (.bias 1)) rMsbO namedFactory rMsbBatch = .ok res) :
    ScaleShort N rMsbVals.length 1 (2 ^ (bitLength N - 64)) ∧
    ∀ bi s, rMsbBatch[bi]? = some s → s.curve = 2 → s.key = rMsbKey →
      verdictOf res.writes bi = some (posVerdict rMsbD) := by
  obtain ⟨⟨_, _, _, _, _, _, _, hshort⟩, hpost⟩ :=
    chain_msb_any (rMsb_setting res h) 0 (by decide +kernel) rMsbNonce 64 rX rX_modEq
      (by decide +kernel) (by decide +kernel) 0 rMsbVals (by decide +kernel) (by decide +kernel)
      (by decide +kernel)
  exact ⟨hshort, hpost (by decide +kernel) (by decide +kernel)⟩

/-- the same through the two-element family `keyReps` (`chain_bias_family`), no bias hypothesis. -/
example (res : CheckResult) (h : check (.biased (.bias 1)) rMsbO namedFactory rMsbBatch = .ok res) :
    ∀ bi s, rMsbBatch[bi]? = some s → s.curve = 2 → s.key = rMsbKey →
      verdictOf res.writes bi = some (posVerdict rMsbD) :=
  chain_bias_family (b := 1) rfl (rMsb_setting res h) (by intro h; cases h) 0 (by decide +kernel) 0
    rMsbVals (by decide +kernel) (by decide +kernel) (defaultW .msb rMsbVals.length 0)
    (rMsbVals.map rMsbNonce) ⟨rX, by decide +kernel, by decide +kernel⟩

/-- the model of the call returns and flags all eight signatures with the private key (the real
call attached DISCRETE_LOG = 9b810e76…2e8d = `format(d, "x")` to each). -/
example : ((check (.biased (.bias 1)) rMsbO namedFactory rMsbBatch).toOption.map fun r =>
    (List.range 8).map (verdictOf r.writes)) = some (List.replicate 8 (some (posVerdict rMsbD))) := by
  -- not by evaluating the call (32 scalar multiplications on secp256r1): it returns (`check_total_one_curve`)
  -- and the chain theorem above gives the verdict of every signature
  have hb : ∀ s ∈ rMsbBatch,
      (s.curve = 2 ∧ Int.gcd (bytes2int s.s : Int) N = 1) ∧ s.key = rMsbKey := by decide +kernel
  obtain ⟨res, h⟩ := check_total_one_curve (.biased (.bias 1)) rMsbO namedFactory rMsbBatch
    named_curves_ok.1 named_curves_ok.2.2.1 2 _ r_mem (by decide +kernel) fun s hs => (hb s hs).1
  rw [h]
  exact congrArg some (verdicts_all _ rMsbBatch _ fun bi s hs =>
    chain_bias_family (b := 1) rfl (rMsb_setting res h) (by intro h; cases h) 0 (by decide +kernel) 0
      rMsbVals (by decide +kernel) (by decide +kernel) (defaultW .msb rMsbVals.length 0)
      (rMsbVals.map rMsbNonce) ⟨rX, by decide +kernel, by decide +kernel⟩ bi s hs
      (hb s (List.mem_of_getElem? hs)).1.1 (hb s (List.mem_of_getElem? hs)).2)
example : dlogHex rMsbD = "9b810e766ec9d28663ca828dd5f4b3b2e4b06ce60741c7a87ce42c8218072e8d" := by
  decide +kernel

/-! ## COMMON_PREFIX / COMMON_POSTFIX / GENERALIZED, signature level (same issuer key) -/

/-- every hypothesis of `sigs_prefix_any` (10 signatures, `M = 9`, 64 common top bits). -/
example :
    (∀ v ∈ rPreVals, Int.gcd (v.2.1 : Int) N = 1) ∧
    (∀ v ∈ rPreVals, SignedWith N rMsbD v (rPreTop + rPreE v)) ∧
    (∀ v ∈ rPreVals, |rPreE v| < 2 ^ (bitLength N - 64)) ∧
    64 ≤ bitLength N ∧ 1 * bitLength N + 2 * (rPreVals.length - 1) ≤ (rPreVals.length - 1) * 64 ∧
    (∀ r ∈ rPreBasis, 2 ≤ r.length) ∧
    PMMem (plantedRow N (defaultW .commonPrefix rPreVals.length 0) rX (rPreVals.map rPreE)) rPreBasis ∧
    ¬ PMMem (plantedRow N (defaultW .commonPrefix rPreVals.length 0) rMsbD (rPreVals.map rPreE))
      rPreBasis := by
  decide +kernel

/-- every hypothesis of `sigs_postfix_any` (10 signatures, float oracle `fb = 32 = β`; the nonces
share 64 low bits, the default weight exploits 32 of them; margin `256 + 18 ≤ 9·32`). -/
example :
    N ≠ 2 ∧ rPostVals ≠ [] ∧ postfixBitsExact (bitLength N) rPostVals.length = 32 ∧
    (∀ v ∈ rPostVals, Int.gcd (v.2.1 : Int) N = 1) ∧
    (∀ v ∈ rPostVals, SignedWith N rMsbD v (rPostLow + 2 ^ (max 3 32) * rPostE v)) ∧
    (∀ v ∈ rPostVals, |rPostE v| < 2 ^ (bitLength N - max 3 32)) ∧
    max 3 32 ≤ bitLength N ∧
    1 * bitLength N + 2 * (rPostVals.length - 1) ≤ (rPostVals.length - 1) * max 3 32 ∧
    (∀ r ∈ rPostBasis, 2 ≤ r.length) ∧
    PMMem (plantedRow N (defaultW .commonPostfix rPostVals.length 32) rX (rPostVals.map rPostE))
      rPostBasis ∧
    ¬ PMMem (plantedRow N (defaultW .commonPostfix rPostVals.length 32) rMsbD (rPostVals.map rPostE))
      rPostBasis := by
  decide +kernel

/-- every hypothesis of `sigs_generalized_any` (26 signatures, the window with all of them;
`mult := rGenMult` is the multiplier of the row LLL returned — 1761 times the secret one — and
`y := rGenX` its key coordinate; small parts below `2^203`, i.e. `bits = 53`; margin
`512 + 50 ≤ 25·53`). -/
example :
    ¬ (N : Int) ∣ rGenMult ∧ rGenX ≡ rGenMult * rMsbD [ZMOD N] ∧
    (∀ v ∈ rGenVals, Int.gcd (v.2.1 : Int) N = 1) ∧
    (∀ v ∈ rGenVals, SignedWith N rMsbD v (rGenNonce v)) ∧
    (∀ v ∈ rGenVals, rGenMult * rGenNonce v ≡ rGenTop + rGenE v [ZMOD N]) ∧
    (∀ v ∈ rGenVals, |rGenE v| < 2 ^ (bitLength N - 53)) ∧
    53 ≤ bitLength N ∧ 2 * bitLength N + 2 * (rGenVals.length - 1) ≤ (rGenVals.length - 1) * 53 ∧
    (∀ r ∈ rGenBasis, 2 ≤ r.length) ∧
    PMMem (plantedRowGen (defaultW .generalized rGenVals.length 0) rGenMult rGenX (rGenVals.map rGenE))
      rGenBasis := by
  decide +kernel

/-! ## LCG: `chain_lcg_any` with the FIRST SHIPPED entry of `CONSTANT_FACTORY` -/

def rLcgO : Nat → GroupOracle := fun _ =>
  { uniq := fun _ => rLcgVals
    answer := fun _ _ => rLcgAns
    guessList := rLcgGuesses }
def rLcgLll : Nat → Nat → LllAnswers := fun _ _ i => (rLcgBases[i]?).getD []

/-- the subset the generator yields for the two signatures and the shipped entry: both `(a_i, b_i)`,
the first `(24 − 1)/2 + 1 = 12` of its 14 constants, `w = 2^32`. -/
def rLcgSub : HnpSubset :=
  ((hnpSubsets (argA rLcgAb) (argB rLcgAb) 2 (some 1) (flagsOfNat 7) [lcgShipped0]).yields[0]?).getD
    ⟨[], [], [], 0⟩

theorem rLcg_sub : (hnpSubsets (argA rLcgAb) (argB rLcgAb) 2 (some 1) (flagsOfNat 7)
    rEnv.lcgFactory).yields[0]? = some rLcgSub := by
  have h : ((hnpSubsets (argA rLcgAb) (argB rLcgAb) 2 (some 1) (flagsOfNat 7)
      [lcgShipped0]).yields[0]?).isSome = true := by decide +kernel
  obtain ⟨v, hv⟩ := Option.isSome_iff_exists.mp h
  show (hnpSubsets (argA rLcgAb) (argB rLcgAb) 2 (some 1) (flagsOfNat 7)
    [lcgShipped0]).yields[0]? = some rLcgSub
  rw [rLcgSub, hv]; rfl

example : (rLcgSub.a.length, rLcgSub.constants.length, rLcgSub.w) = (2, 12, 2 ^ 32) ∧
    rLcgSub.constants = lcgShipped0.constants.take 12 := by decide +kernel

/-- the shipped entry is selected for (secp256r1, GMP) and its metadata is positive. -/
theorem rLcg_meta : ∀ m ∈ rEnv.lcgFactory, entrySelected m 2 (some 1) = true → MetaOk m := by
  intro m hm _
  simp only [rEnv, List.mem_singleton] at hm
  subst hm
  exact ⟨by decide, by decide, by decide⟩

theorem rLcg_rows : ∀ i, ∀ r ∈ rLcgLll 0 0 i, 2 ≤ r.length := by
  intro i r hr
  match i with
  | 0 => revert r; decide +kernel
  | i + 1 => simp [rLcgLll, rLcgBases] at hr

/-- solver level: every hypothesis of `sandwich_lcg_any` with `x := d − n`, `B = 2^243` (the 24
values `c_j·k_i − d_j mod± n` have at most 243 of 256 bits), the comparison `ScaleShort N 24 1 B`,
and the key position `d` absent from the real LLL answer. -/
example :
    rLcgEs.length = rLcgSub.a.length * rLcgSub.constants.length ∧
    (∀ t, t < rLcgSub.a.length * rLcgSub.constants.length →
      ent (precompAs rLcgSub.a N rLcgSub.constants) t +
        ent (precompBs rLcgSub.a rLcgSub.b N rLcgSub.constants) t * rMsbD ≡
          ent rLcgEs t [ZMOD (N : Int)]) ∧
    0 < rLcgSub.w ∧ (∀ e ∈ rLcgEs, |e| < 2 ^ 243) ∧ ScaleShort N 24 1 (2 ^ 243) ∧
    WeightOK N 24 1 rLcgSub.w ∧
    PMMem (plantedRow N rLcgSub.w rX rLcgEs) (rLcgLll 0 0 0) ∧
    ¬ PMMem (plantedRow N rLcgSub.w rMsbD rLcgEs) (rLcgLll 0 0 0) ∧
    hnpParamsList N rLcgVals = .ok rLcgAb ∧
    hnpForCurve (argA rLcgAb) (argB rLcgAb) 2 (some (some N)) (some 1) (flagsOfNat 7)
      [lcgShipped0] (rLcgLll 0 0) = .ok [rMsbD] := by
  decide +kernel

theorem rLcg_setting (res : CheckResult)
    (h : check (.biased (.lcg 1 7)) rLcgO namedFactory rLcgBatch = .ok res) :
    Setting (.biased (.lcg 1 7)) rLcgO namedFactory rLcgBatch res 2 ⟨secp256r1, []⟩ rMsbKey rMsbD rEnv
      rLcgLll :=
  { factoryOK := named_curves_ok.1
    factoryReduced := named_curves_ok.2.1
    nodup := named_curves_ok.2.2.1
    guessConsistent :=
      (C02S.consistent_of_checkConsistent _ rLcgO rLcgBatch namedFactory (by decide +kernel)).2
    checked := h
    hobj := r_mem
    nPrime := (named_curves_ok.2.2.2 2 _ r_mem).1
    gOrder := (named_curves_ok.2.2.2 2 _ r_mem).2.1
    keyReduced := by unfold KeyReduced; decide +kernel
    dLt := by decide +kernel
    keyOf := r_key
    envN := rfl
    solved := solvedGroup_of_B _ _ _ _ _ _ _ (by decide +kernel) }

/-- check level: `chain_lcg_any` with `env.lcgFactory = [lcgShipped0]` on the real
`CheckLCGNonceGMP().Check` call. -/
example (res : CheckResult)
    (h : check (.biased (.lcg 1 7)) rLcgO namedFactory rLcgBatch = .ok res) :
    ∀ bi s, rLcgBatch[bi]? = some s → s.curve = 2 → s.key = rMsbKey →
      verdictOf res.writes bi = some (posVerdict rMsbD) :=
  (chain_lcg_any (rLcg_setting res h) 0 (by decide +kernel) rLcgAb (by decide +kernel)
    (by decide +kernel) rLcg_meta 0 rLcgSub rLcg_sub rLcgEs (by decide +kernel) (by decide +kernel)
    rX rX_modEq (2 ^ 243) (by decide +kernel) (by decide +kernel) rLcg_rows).2 (by decide +kernel)

example : ((check (.biased (.lcg 1 7)) rLcgO namedFactory rLcgBatch).toOption.map fun r =>
    (List.range 2).map (verdictOf r.writes)) = some (List.replicate 2 (some (posVerdict rMsbD))) := by
  have hb : ∀ s ∈ rLcgBatch,
      (s.curve = 2 ∧ Int.gcd (bytes2int s.s : Int) N = 1) ∧ s.key = rMsbKey := by decide +kernel
  obtain ⟨res, h⟩ := check_total_one_curve (.biased (.lcg 1 7)) rLcgO namedFactory rLcgBatch
    named_curves_ok.1 named_curves_ok.2.2.1 2 _ r_mem (by decide +kernel) fun s hs => (hb s hs).1
  rw [h]
  exact congrArg some (verdicts_all _ rLcgBatch _ fun bi s hs =>
    (chain_lcg_any (rLcg_setting res h) 0 (by decide +kernel) rLcgAb (by decide +kernel)
      (by decide +kernel) rLcg_meta 0 rLcgSub rLcg_sub rLcgEs (by decide +kernel) (by decide +kernel)
      rX rX_modEq (2 ^ 243) (by decide +kernel) (by decide +kernel) rLcg_rows).2 (by decide +kernel)
      bi s hs (hb s (List.mem_of_getElem? hs)).1.1 (hb s (List.mem_of_getElem? hs)).2)

/-! ## `WeightOK`: the half of shortness that fails in known finding D23

`(curve, signatures, bits, kind)` of the D23 replays with the default weight of that sample count:
the key coordinate cannot survive size reduction (`n^r·2^M > w^M`), although `ScaleShort` holds —
which is why the nonce checks miss these issuers.  On the configurations the correspondence run
plants, both hold. -/
example :
    -- D23: secp384r1, 4 × 192 MSB (w = 2^64); secp521r1, 9 × 116 MSB (w = 2^48);
    -- secp521r1, 14 × 75 prefix (w = 2^32, M = 13)
    ¬ WeightOK secp384r1.n 4 1 (defaultW .msb 4 0) ∧ ScaleShort secp384r1.n 4 1 (2 ^ (384 - 192)) ∧
    ¬ WeightOK secp521r1.n 9 1 (defaultW .msb 9 0) ∧ ScaleShort secp521r1.n 9 1 (2 ^ (521 - 116)) ∧
    ¬ WeightOK secp521r1.n 13 1 (defaultW .commonPrefix 14 0) ∧
      ScaleShort secp521r1.n 13 1 (2 ^ (521 - 75)) ∧
    -- planted by ./check C08: secp256r1 10 × 64, secp384r1 14 × 64 (MSB), prefix shapes M = len − 1
    WeightOK N 10 1 (defaultW .msb 10 0) ∧ WeightOK secp384r1.n 14 1 (defaultW .msb 14 0) ∧
    WeightOK N 9 1 (defaultW .commonPrefix 10 0) ∧ WeightOK N 9 1 (defaultW .commonPostfix 10 32) := by
  decide +kernel

/-! ## Cr50: the bound of `sandwich_cr50_short` on the curves the check supports -/
example : Cr50Short secp256r1.n 256 ∧ Cr50Short secp192r1.n 256 ∧ Cr50Short secp384r1.n 256 ∧
    ¬ Cr50Short secp256r1.n (2 ^ 32) := by decide +kernel

end Paranoid.C08ChainAnyEx
