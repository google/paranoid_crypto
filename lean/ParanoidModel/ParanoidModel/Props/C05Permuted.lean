/-
Props/C05Permuted.lean — C05, the permuted-limb clause and the cut (non-aligned) repetition:
the "pre" half of the sandwich for the families the property text names.

    prime = word repetition with adjacent ws-bit limbs swapped (+ low-order deviation δ)
        ⇒ (permuted_is_fraction)   D·p = a·2^h + c,  D = (2^ps − 1)(2^(ps·ws) + 1)/(2^ws + 1)
                                   the denominator CheckPermutedBitPatterns enumerates
                                   (Props/C05Pre.lean permuted_enum), |a|, |c − D·δ| < 2·(2^ws+1)·D·2^s
        ⇒ (C05Pre.fraction_pre)    short planted vector in the lattice handed to LLL
        ⇒ (ORACLE, not claimed)    LLL returns ± that vector
        ⇒ (permuted_sandwich)      CheckFraction(n, D) returns {p, q}

and the same for a `w`-bit word repeated from the top and CUT to the prime's length
(`cut_repetition_is_fraction`, `cut_repetition_sandwich`) — `C05Pre.repetition_sandwich` needs
`w·k = h + s`, which for a 1024-bit prime holds only for `w ∈ {1, 8, 16, 32, …}`.

Definitions (Model/Patterns.lean): `periodicTop W ps L = ⌊W·2^L/(2^ps − 1)⌋` is the word `W`
(`W < 2^ps − 1`) written from the top and cut to `L` bits; `swapLimbs ws M x` swaps the limbs
`(2j, 2j+1)`, `j < M`, of `x` (limbs counted from bit 0) — the operation of harness/gen_rsa.py
`swap_limbs`, compared with it on every run (op `pat.swap`).
-/
import ParanoidModel.Proofs.Permuted
import ParanoidModel.Props.C05Pre
import ParanoidModel.Proofs.Pratt
namespace Paranoid.C05Permuted
open Paranoid Paranoid.Permuted

theorem swapLimbs_spec (ws M x : Nat) :
    swapLimbs ws 0 x = 0 ∧
    swapLimbs ws (M + 1) x = (x % 2 ^ ws) * 2 ^ ws + x / 2 ^ ws % 2 ^ ws +
      (2 ^ ws * 2 ^ ws) * swapLimbs ws M (x / 2 ^ ws / 2 ^ ws) := ⟨rfl, rfl⟩

/-- the limbs of the cut repetition, most significant first, are `λ_i = ⌊2^ws·u_i/(2^ps − 1)⌋` with
`u_i = W·2^(ws·i) mod (2^ps − 1)` (the word rotated by `ws·i` bits), `u_(i+ps) = u_i`. -/
theorem periodicTop_limbs (W ps ws N : Nat) (hps : 1 ≤ ps) :
    periodicTop W ps (ws * (N + 1)) = periodicTop W ps (ws * N) * 2 ^ ws + limb W ps ws N ∧
    limb W ps ws N < 2 ^ ws ∧ rot W ps ws (N + ps) = rot W ps ws N :=
  ⟨periodicTop_succ W ps ws N hps, limb_lt W ps ws N hps, rot_periodic W ps ws N⟩

/-- for whole words the cut repetition is `repeatWord` of Proofs/FractionPre.lean. -/
theorem periodicTop_aligned (W w k : Nat) (hW : W < 2 ^ w - 1) :
    periodicTop W w (w * k) = repeatWord W w k := by
  have hnat : (2 ^ w - 1) * repeatWord W w k + W = W * 2 ^ (w * k) := by
    rw [repeatWord, Nat.mul_left_comm, repUnit_mul, Nat.mul_sub_one,
      Nat.sub_add_cancel (Nat.le_mul_of_pos_right _ (Nat.two_pow_pos _))]
  unfold periodicTop
  rw [← hnat, Nat.mul_add_div (by omega), Nat.div_eq_of_lt hW, Nat.add_zero]

/-! ### the permuted-limb family -/

/-- **permuted_is_fraction.** Let `P' = swapLimbs ws M (periodicTop W ps (ws·2M)) + δ`: the `ps`-bit
word `W` (`ps` odd, `W < 2^ps − 1`) repeated over `2M` limbs of `ws` bits, adjacent limbs swapped,
plus a deviation `δ`. With `D = permutedDenominator ws ps` and, for `ws·2M = h + s`,

    D·P' = (A₀·2^s)·2^h + (D·δ − A_(2M)),      |A₀|, |A_(2M)| < 2·(2^ps − 1)·2^(ws·ps) ≤ 2·(2^ws + 1)·D,

`A_s = coefA … s` the explicit alternating sums of the rotated word (Proofs/Permuted.lean).

REGION. The identity holds for EVERY odd `ps` and every `ws` — there is no hypothesis `ps < ws`. The
implementation calls `CheckFraction(n, D)` only for `ws ∈ {8, 16, 32, 64}`, `3 ≤ ps < ws`, `ps` odd,
`bitLength D ≤ bitLength n / 8` (`C05PermutedRegion.permuted_tried_region`, `C05Pre.permuted_enum`). The
property's family (word size in the default list, implied denominator `≤ bitlen/10`) also contains
`ps ≥ ws` — with 8-bit limbs `ps = 9, 11, 13, 15, 31` — for which this theorem says `D` would work but
the check never tries it: known finding D25 (`C05PermutedRegion.d25_witness`; real code: the 1024-bit
replay input is factored by no check). The harness gates planted keys only for `3 ≤ ps < ws`, `ps` odd,
`bitLength D ≤ bitlen/10`; `ps ≥ ws` keys are statistics + the fixed D25 probe. -/
theorem permuted_is_fraction (W ps ws M : Nat) (δ : Int) (hps : 1 ≤ ps) (hodd : ps % 2 = 1)
    (hW : W < 2 ^ ps - 1) :
    (∀ h s, ws * (2 * M) = h + s →
      (permutedDenominator ws ps : Int) *
          ((swapLimbs ws M (periodicTop W ps (ws * (2 * M))) : Int) + δ) =
        (coefA (fun i => (rot W ps ws i : Int)) ((2 : Int) ^ ws) (phi ws ps) ps 0 * 2 ^ s) * 2 ^ h +
        ((permutedDenominator ws ps : Int) * δ -
          coefA (fun i => (rot W ps ws i : Int)) ((2 : Int) ^ ws) (phi ws ps) ps (2 * M))) ∧
    (∀ s, |coefA (fun i => (rot W ps ws i : Int)) ((2 : Int) ^ ws) (phi ws ps) ps s| <
      2 * (((2 : Int) ^ ws) + 1) * (permutedDenominator ws ps : Int)) := by
  constructor
  · intro h s hs
    rw [mul_add, swapped_fraction W ps ws M hps hodd hW, ← pow_mul, hs, pow_add]
    ring
  · intro s
    obtain ⟨h1, h2⟩ := swapped_coef_bound W ps ws s hps hodd
    exact lt_of_lt_of_le h1 h2

/-- **Permuted limbs ⇒ factored, given the oracle.** `p` = swapped repetition + `δ`,
`ws·2M = bitLength (p·q)/2 + s`, `q` an odd prime not dividing `D`: every reduced basis that
contains ± the planted row for `d = D`, `a = A₀·2^s`, `c = D·δ − A_(2M)` makes `CheckFraction(n, D)`
— a call `CheckPermutedBitPatterns` makes whenever `ws ∈ {8, 16, 32, 64}`, `3 ≤ ps < ws` and
`bitLength D ≤ bitLength n / 8` (`C05Pre.permuted_enum`, `C05PermutedRegion.permuted_tried_region`; for
`ps ≥ ws` the theorem holds but the check never makes the call: known finding D25) — return both primes. -/
theorem permuted_sandwich {p q : Nat} (hp : p.Prime) (hq : q.Prime) (hpq : p ≠ q) (hq2 : q ≠ 2)
    (W ps ws M s : Nat) (δ : Int) (hps : 1 ≤ ps) (hodd : ps % 2 = 1) (hW : W < 2 ^ ps - 1)
    (hP : (p : Int) = (swapLimbs ws M (periodicTop W ps (ws * (2 * M))) : Int) + δ)
    (hs : ws * (2 * M) = bitLength (p * q) / 2 + s) (hqd : ¬ q ∣ permutedDenominator ws ps)
    (basis : List (List Int)) (hlen : ∀ row ∈ basis, 2 ≤ row.length)
    (hrow : ∃ rest,
      (((permutedDenominator ws ps : Int) * δ -
            coefA (fun i => (rot W ps ws i : Int)) ((2 : Int) ^ ws) (phi ws ps) ps (2 * M)) *
          ((2 ^ bitLength (permutedDenominator ws ps) : Nat) : Int) ::
        -(coefA (fun i => (rot W ps ws i : Int)) ((2 : Int) ^ ws) (phi ws ps) ps 0 * 2 ^ s) *
          ((2 ^ bitLength (permutedDenominator ws ps) : Nat) : Int) :: rest) ∈ basis ∨
      (-(((permutedDenominator ws ps : Int) * δ -
            coefA (fun i => (rot W ps ws i : Int)) ((2 : Int) ^ ws) (phi ws ps) ps (2 * M)) *
          ((2 ^ bitLength (permutedDenominator ws ps) : Nat) : Int)) ::
        -(-(coefA (fun i => (rot W ps ws i : Int)) ((2 : Int) ^ ws) (phi ws ps) ps 0 * 2 ^ s) *
          ((2 ^ bitLength (permutedDenominator ws ps) : Nat) : Int)) :: rest) ∈ basis) :
    checkFraction (p * q) basis = .ok [p, q] ∨ checkFraction (p * q) basis = .ok [q, p] := by
  apply C05Pre.fraction_sandwich hp hq hpq hq2 (permutedDenominator ws ps) hqd
    (coefA (fun i => (rot W ps ws i : Int)) ((2 : Int) ^ ws) (phi ws ps) ps 0 * 2 ^ s)
    ((permutedDenominator ws ps : Int) * δ -
      coefA (fun i => (rot W ps ws i : Int)) ((2 : Int) ^ ws) (phi ws ps) ps (2 * M)) _ basis hlen hrow
  rw [hP, (permuted_is_fraction W ps ws M δ hps hodd hW).1 _ s hs]
  push_cast
  ring

/-! ### the cut (non-aligned) repetition -/

/-- the identity of `cut_repetition_is_fraction` (no bound on `δ` needed). -/
theorem cut_repetition_eq (W w L : Nat) (δ : Int) (h s : Nat) (hs : L = h + s) :
    ((2 : Int) ^ w - 1) * ((periodicTop W w L : Int) + δ) =
      ((W : Int) * 2 ^ s) * 2 ^ h +
        (((2 : Int) ^ w - 1) * δ - ((W * 2 ^ L % (2 ^ w - 1) : Nat) : Int)) := by
  have hdm := Nat.div_add_mod (W * 2 ^ L) (2 ^ w - 1)
  unfold periodicTop
  generalize W * 2 ^ L % (2 ^ w - 1) = r at hdm ⊢
  generalize W * 2 ^ L / (2 ^ w - 1) = P at hdm ⊢
  have hc : ((2 ^ w - 1 : Nat) : Int) * P + r = (W : Int) * 2 ^ L := by exact_mod_cast hdm
  rw [Int.coe_nat_two_pow_pred, hs, pow_add] at hc
  linear_combination hc

/-- **cut_repetition_is_fraction.** `P' = periodicTop W w L + δ` (the word written from the top, cut
to `L` bits — `L` need not be a multiple of `w`), `|δ| < 2^t`: with `r = W·2^L mod (2^w − 1)`
(`< 2^w − 1`, the word rotated) and `L = h + s`,
`(2^w − 1)·P' = (W·2^s)·2^h + ((2^w − 1)·δ − r)`, `|(2^w − 1)·δ − r| < 2^(w+t)`. -/
theorem cut_repetition_is_fraction (W w L t : Nat) (δ : Int) (hw : 1 ≤ w) (hδ : |δ| < 2 ^ t) :
    (∀ h s, L = h + s →
      ((2 : Int) ^ w - 1) * ((periodicTop W w L : Int) + δ) =
        ((W : Int) * 2 ^ s) * 2 ^ h +
          (((2 : Int) ^ w - 1) * δ - ((W * 2 ^ L % (2 ^ w - 1) : Nat) : Int))) ∧
    |((2 : Int) ^ w - 1) * δ - ((W * 2 ^ L % (2 ^ w - 1) : Nat) : Int)| < 2 ^ (w + t) := by
  refine ⟨fun h s hs => cut_repetition_eq W w L δ h s hs, ?_⟩
  rw [pow_add]
  refine abs_pred_mul_sub_lt (Int.natCast_nonneg _) ?_ hδ
  exact_mod_cast (Nat.mod_lt _ (d0_pos w hw)).trans_le (Nat.sub_le _ _)

/-- **Cut repetition ⇒ factored, given the oracle** (every `w`, not only `w ∣ L`): the planted row
for `d = 2^w − 1`, `a = W·2^s`, `c = (2^w − 1)·δ − (W·2^L mod (2^w − 1))`. -/
theorem cut_repetition_sandwich {p q : Nat} (hp : p.Prime) (hq : q.Prime) (hpq : p ≠ q)
    (hq2 : q ≠ 2) (W w L s : Nat) (δ : Int)
    (hP : (p : Int) = (periodicTop W w L : Int) + δ)
    (hs : L = bitLength (p * q) / 2 + s) (hqd : ¬ q ∣ 2 ^ w - 1)
    (basis : List (List Int)) (hlen : ∀ row ∈ basis, 2 ≤ row.length)
    (hrow : ∃ rest,
      ((((2 : Int) ^ w - 1) * δ - ((W * 2 ^ L % (2 ^ w - 1) : Nat) : Int)) *
          ((2 ^ bitLength (2 ^ w - 1) : Nat) : Int) ::
        -((W : Int) * 2 ^ s) * ((2 ^ bitLength (2 ^ w - 1) : Nat) : Int) :: rest) ∈ basis ∨
      (-((((2 : Int) ^ w - 1) * δ - ((W * 2 ^ L % (2 ^ w - 1) : Nat) : Int)) *
          ((2 ^ bitLength (2 ^ w - 1) : Nat) : Int)) ::
        -(-((W : Int) * 2 ^ s) * ((2 ^ bitLength (2 ^ w - 1) : Nat) : Int)) :: rest) ∈ basis) :
    checkFraction (p * q) basis = .ok [p, q] ∨ checkFraction (p * q) basis = .ok [q, p] := by
  apply C05Pre.fraction_sandwich hp hq hpq hq2 (2 ^ w - 1) hqd ((W : Int) * 2 ^ s)
    (((2 : Int) ^ w - 1) * δ - ((W * 2 ^ L % (2 ^ w - 1) : Nat) : Int)) _ basis hlen hrow
  rw [hP, Int.coe_nat_two_pow_pred, cut_repetition_eq W w L δ _ s hs, Nat.cast_pow, Nat.cast_ofNat]

/-! ### non-vacuity -/

/-- a 32-bit toy instance evaluated in the kernel: the 3-bit word `101` cut to 32 bits is
`0xb6db6db6`; swapping its 8-bit limbs gives `0xdbb6b66d`; `D = permutedDenominator 8 3 = 0x6f907`
(the first denominator of `permuted_enum`), and `D·0xdbb6b66d = A₀·2^32 − A₄`. -/
example :
    periodicTop 5 3 32 = 0xb6db6db6 ∧ swapLimbs 8 2 0xb6db6db6 = 0xdbb6b66d ∧
    permutedDenominator 8 3 = 0x6f907 ∧
    (0x6f907 : Int) * 0xdbb6b66d =
      coefA (fun i => (rot 5 3 8 i : Int)) ((2 : Int) ^ 8) (phi 8 3) 3 0 * 2 ^ 32 -
        coefA (fun i => (rot 5 3 8 i : Int)) ((2 : Int) ^ 8) (phi 8 3) 3 4 := by
  decide +kernel

/-- hypotheses of `permuted_sandwich` on a 256-bit instance, with the basis the REAL `lll.reduce`
returned for it (recorded from `rsa_util.CheckFraction(n, 0x6f907)`, which factors `n`): `p` = the
3-bit word `101` over sixteen 8-bit limbs, adjacent limbs swapped, `δ = 276`; `h = 128`, `s = 0`,
`a = A₀ = 392195`, `c = D·δ − A₁₆ = 125926791`; the first row of the reduced basis is MINUS the
planted row `(c·x, −a·x, …)`, `x = 2^19`. -/
example :
    Nat.Prime 292049629173567151846890922455455938433 ∧
    Nat.Prime 304492656810178217310291611588755895363 := by
  constructor
  · exact Pratt.prime_of_fastCert ⟨292049629173567151846890922455455938433,
      [⟨115201, 23, [(2, 9), (3, 2), (5, 2)]⟩,
       ⟨68059, 2, [(2, 1), (3, 2), (19, 1), (199, 1)]⟩,
       ⟨1849171, 7, [(2, 1), (3, 1), (5, 1), (53, 1), (1163, 1)]⟩,
       ⟨31029089381, 2, [(2, 2), (5, 1), (839, 1), (1849171, 1)]⟩,
       ⟨62926993264669, 6, [(2, 2), (3, 1), (13, 2), (31029089381, 1)]⟩,
       ⟨15040480739134487024825597, 2, [(2, 2), (937, 2), (68059, 1), (62926993264669, 1)]⟩,
       ⟨292049629173567151846890922455455938433, 3,
         [(2, 7), (227, 1), (5801, 1), (115201, 1), (15040480739134487024825597, 1)]⟩]⟩ _
      (by decide +kernel)
  · exact Pratt.prime_of_fastCert ⟨304492656810178217310291611588755895363,
      [⟨1715033, 3, [(2, 3), (11, 1), (19489, 1)]⟩,
       ⟨14144903, 5, [(2, 1), (311, 1), (22741, 1)]⟩,
       ⟨367767479, 7, [(2, 1), (13, 1), (14144903, 1)]⟩,
       ⟨130995901, 2, [(2, 2), (3, 3), (5, 2), (7, 1), (29, 1), (239, 1)]⟩,
       ⟨7486153750349, 2, [(2, 2), (7, 1), (13, 1), (157, 1), (130995901, 1)]⟩,
       ⟨14972307500699, 2, [(2, 1), (7486153750349, 1)]⟩,
       ⟨17248098240805249, 7, [(2, 7), (3, 2), (14972307500699, 1)]⟩,
       ⟨191419394276456653403, 2, [(2, 1), (31, 1), (179, 1), (17248098240805249, 1)]⟩,
       ⟨304492656810178217310291611588755895363, 2,
         [(2, 1), (13, 1), (97, 1), (1715033, 1), (367767479, 1), (191419394276456653403, 1)]⟩]⟩ _
      (by decide +kernel)

example :
    ((292049629173567151846890922455455938433 : Nat) : Int) =
      (swapLimbs 8 8 (periodicTop 5 3 (8 * (2 * 8))) : Int) + 276 ∧
    8 * (2 * 8) = bitLength (292049629173567151846890922455455938433 *
      304492656810178217310291611588755895363) / 2 + 0 ∧
    ¬ 304492656810178217310291611588755895363 ∣ permutedDenominator 8 3 ∧ 5 < 2 ^ 3 - 1 ∧
    coefA (fun i => (rot 5 3 8 i : Int)) ((2 : Int) ^ 8) (phi 8 3) 3 0 * 2 ^ 0 = 392195 ∧
    (permutedDenominator 8 3 : Int) * 276 -
      coefA (fun i => (rot 5 3 8 i : Int)) ((2 : Int) ^ 8) (phi 8 3) 3 (2 * 8) = 125926791 ∧
    [-66021905399808, 205623132160, -14189702811748560] =
      [-((125926791 : Int) * ((2 ^ bitLength (permutedDenominator 8 3) : Nat) : Int)),
       -(-(392195 : Int) * ((2 ^ bitLength (permutedDenominator 8 3) : Nat) : Int)),
       -14189702811748560] ∧
    checkFraction (292049629173567151846890922455455938433 *
        304492656810178217310291611588755895363)
      [[-66021905399808, 205623132160, -14189702811748560],
       [-49254261229879296, -11632573283827712, -1112956126033490],
       [34322361541984256, -125737141944188928, -2422841389987479]] =
      .ok [292049629173567151846890922455455938433, 304492656810178217310291611588755895363] := by
  decide +kernel

end Paranoid.C05Permuted
