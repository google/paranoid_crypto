/-
Props/C05Cf.lean — C05, the continued-fraction clause: "a modulus is flagged when both primes
repeat words of at most 64 bits" — proved (no oracle involved: `CheckContinuedFraction` is
deterministic integer arithmetic).

    both primes are cut word repetitions (+ low-order deviations)
       ⇒ (two_patterns_approx)       n·d − A·2^bitlen(n) = E, d = (2^w₁−1)(2^w₂−1), A = W₁W₂·2^ι,
                                     |E| ≤ 2^(w₁+w₂+t)·(2^L₁ + 2^L₂ + 2^t)
       ⇒ (CfLarge.euclid_large_quot_abs) Euclid's algorithm on (n, 2^bitlen n) has a quotient ≥ bound
       ⇒ (CfLarge.checkContinuedFraction_large)   CheckContinuedFraction(n, bound) = (False, fs)

`cf_two_patterns_flagged` is the general statement (any word sizes, deviation width, bound, under one
explicit size inequality); `cf_clause_default` instantiates it with the numbers of the property:
words of at most 64 bits, at most 32 deviating low bits, primes of equal length `L ≥ 512`
(moduli of 1024 bits and more), default bound `2^48`.
NOT claimed: that the key is FACTORED (the quadratic-root attempt is a heuristic; measured: 2 120 of
2 881 planted keys factored, all flagged).
-/
import ParanoidModel.Proofs.CfLarge
import ParanoidModel.Props.C05Permuted
namespace Paranoid.C05Cf
open Paranoid Paranoid.Permuted Paranoid.NT

/-- **The product of two cut repetitions is close to a small fraction of a power of two.**
`d₁·P₁ = W₁·2^L₁ + c₁`, `d₂·P₂ = W₂·2^L₂ + c₂` (`C05Permuted.cut_repetition_is_fraction`) give
`(d₁d₂)·(P₁P₂) − W₁W₂·2^(L₁+L₂) = W₁·2^L₁·c₂ + W₂·2^L₂·c₁ + c₁c₂`, of absolute value at most
`2^(w₁+w₂+t)·(2^L₁ + 2^L₂ + 2^t)`. -/
theorem two_patterns_approx (W1 w1 L1 W2 w2 L2 t : Nat) (δ1 δ2 : Int) (hw1 : 1 ≤ w1) (hw2 : 1 ≤ w2)
    (hW1 : W1 < 2 ^ w1) (hW2 : W2 < 2 ^ w2) (hδ1 : |δ1| < 2 ^ t) (hδ2 : |δ2| < 2 ^ t) :
    |(((2 : Int) ^ w1 - 1) * ((2 : Int) ^ w2 - 1)) *
        (((periodicTop W1 w1 L1 : Int) + δ1) * ((periodicTop W2 w2 L2 : Int) + δ2)) -
      (W1 : Int) * W2 * 2 ^ (L1 + L2)| ≤
      2 ^ (w1 + w2 + t) * ((2 : Int) ^ L1 + 2 ^ L2 + 2 ^ t) := by
  obtain ⟨e1, b1⟩ := C05Permuted.cut_repetition_is_fraction W1 w1 L1 t δ1 hw1 hδ1
  obtain ⟨e2, b2⟩ := C05Permuted.cut_repetition_is_fraction W2 w2 L2 t δ2 hw2 hδ2
  have e1' := e1 L1 0 rfl
  have e2' := e2 L2 0 rfl
  generalize ((2 : Int) ^ w1 - 1) * δ1 - ((W1 * 2 ^ L1 % (2 ^ w1 - 1) : Nat) : Int) = c1 at e1' b1
  generalize ((2 : Int) ^ w2 - 1) * δ2 - ((W2 * 2 ^ L2 % (2 ^ w2 - 1) : Nat) : Int) = c2 at e2' b2
  have hid : (((2 : Int) ^ w1 - 1) * ((2 : Int) ^ w2 - 1)) *
        (((periodicTop W1 w1 L1 : Int) + δ1) * ((periodicTop W2 w2 L2 : Int) + δ2)) -
      (W1 : Int) * W2 * 2 ^ (L1 + L2) =
      (W1 : Int) * 2 ^ L1 * c2 + (W2 : Int) * 2 ^ L2 * c1 + c1 * c2 := by
    have : (((2 : Int) ^ w1 - 1) * ((2 : Int) ^ w2 - 1)) *
        (((periodicTop W1 w1 L1 : Int) + δ1) * ((periodicTop W2 w2 L2 : Int) + δ2)) =
        (((2 : Int) ^ w1 - 1) * ((periodicTop W1 w1 L1 : Int) + δ1)) *
        (((2 : Int) ^ w2 - 1) * ((periodicTop W2 w2 L2 : Int) + δ2)) := by ring
    rw [this, e1', e2', pow_add]; ring
  rw [hid]
  have hW1' : |(W1 : Int)| ≤ 2 ^ w1 := by
    rw [abs_of_nonneg (Int.natCast_nonneg _)]; exact_mod_cast hW1.le
  have hW2' : |(W2 : Int)| ≤ 2 ^ w2 := by
    rw [abs_of_nonneg (Int.natCast_nonneg _)]; exact_mod_cast hW2.le
  have p1 : (0 : Int) ≤ 2 ^ w1 := by positivity
  have p2 : (0 : Int) ≤ 2 ^ w2 := by positivity
  have pL1 : (0 : Int) ≤ 2 ^ L1 := by positivity
  have pL2 : (0 : Int) ≤ 2 ^ L2 := by positivity
  have t1 : |(W1 : Int) * 2 ^ L1 * c2| ≤ 2 ^ w1 * 2 ^ L1 * 2 ^ (w2 + t) := by
    rw [abs_mul, abs_mul, abs_of_nonneg pL1]
    exact mul_le_mul (mul_le_mul_of_nonneg_right hW1' pL1) b2.le (abs_nonneg _) (by positivity)
  have t2 : |(W2 : Int) * 2 ^ L2 * c1| ≤ 2 ^ w2 * 2 ^ L2 * 2 ^ (w1 + t) := by
    rw [abs_mul, abs_mul, abs_of_nonneg pL2]
    exact mul_le_mul (mul_le_mul_of_nonneg_right hW2' pL2) b1.le (abs_nonneg _) (by positivity)
  have t3 : |c1 * c2| ≤ 2 ^ (w1 + t) * 2 ^ (w2 + t) := by
    rw [abs_mul]
    exact mul_le_mul b1.le b2.le (abs_nonneg _) (by positivity)
  have := abs_add_three ((W1 : Int) * 2 ^ L1 * c2) ((W2 : Int) * 2 ^ L2 * c1) (c1 * c2)
  have e : (2 : Int) ^ (w1 + w2 + t) * ((2 : Int) ^ L1 + 2 ^ L2 + 2 ^ t) =
      2 ^ w1 * 2 ^ L1 * 2 ^ (w2 + t) + 2 ^ w2 * 2 ^ L2 * 2 ^ (w1 + t) + 2 ^ (w1 + t) * 2 ^ (w2 + t) := by
    simp only [pow_add]; ring
  rw [e]; linarith

/-- **Both primes patterned ⇒ flagged (general form).** `p`, `q` odd, `p = periodicTop W₁ w₁ L₁ + δ₁`,
`q = periodicTop W₂ w₂ L₂ + δ₂`, `|δᵢ| < 2^t`, `L₁ + L₂ = bitlen(pq) + ι`, `bound ≥ 1`, and the size
condition `(bound + 3)·2^(w₁+w₂+t)·(2^L₁ + 2^L₂ + 2^t)·2^(w₁+w₂) ≤ 2^bitlen(pq)`: then
`CheckContinuedFraction(pq, bound)` answers `(False, fs)` — the key is flagged. -/
theorem cf_two_patterns_flagged (p q : Nat) (hpo : p % 2 = 1) (hqo : q % 2 = 1)
    (W1 w1 L1 W2 w2 L2 t ι bound : Nat) (δ1 δ2 : Int) (hw1 : 1 ≤ w1) (hw2 : 1 ≤ w2)
    (hW1 : W1 < 2 ^ w1) (hW2 : W2 < 2 ^ w2) (hδ1 : |δ1| < 2 ^ t) (hδ2 : |δ2| < 2 ^ t)
    (hP : (p : Int) = (periodicTop W1 w1 L1 : Int) + δ1)
    (hQ : (q : Int) = (periodicTop W2 w2 L2 : Int) + δ2)
    (hL : L1 + L2 = bitLength (p * q) + ι) (hb : 1 ≤ bound)
    (hsz : (bound + 3) * (2 ^ (w1 + w2 + t) * (2 ^ L1 + 2 ^ L2 + 2 ^ t)) * 2 ^ (w1 + w2) ≤
      2 ^ bitLength (p * q)) :
    ∃ fs, checkContinuedFraction (p * q) bound = .ok (false, fs) := by
  apply CfLarge.checkContinuedFraction_large
  have happ := two_patterns_approx W1 w1 L1 W2 w2 L2 t δ1 δ2 hw1 hw2 hW1 hW2 hδ1 hδ2
  rw [← hP, ← hQ, hL, pow_add] at happ
  have h1w1 : 1 ≤ 2 ^ w1 := Nat.one_le_two_pow
  have h1w2 : 1 ≤ 2 ^ w2 := Nat.one_le_two_pow
  have hdpos : 0 < (2 ^ w1 - 1) * (2 ^ w2 - 1) := Nat.mul_pos (d0_pos w1 hw1) (d0_pos w2 hw2)
  have hdlt : (2 ^ w1 - 1) * (2 ^ w2 - 1) < 2 ^ (w1 + w2) := by
    rw [pow_add]
    exact Nat.mul_lt_mul'' (by omega) (by omega)
  -- the size condition makes `2^bitlen(pq)` larger than `2^(w₁+w₂)`, hence than `d`
  have hdm : 2 ^ (w1 + w2) ≤ 2 ^ bitLength (p * q) :=
    Nat.le_trans (Nat.le_mul_of_pos_left _ (Nat.mul_pos (by omega)
      (Nat.mul_pos (Nat.two_pow_pos _) (by positivity)))) hsz
  refine CfLarge.euclid_large_quot_abs (c := W1 * W2 * 2 ^ ι) hdpos hb
    (CfLarge.odd_mul_ne_mul_two_pow (by rw [Nat.mul_mod, hpo, hqo]) hdpos (by omega)) ?_
    (Nat.le_trans (Nat.mul_le_mul_left _ hdlt.le) hsz)
  have e : ((p * q : Nat) : Int) * ((2 ^ w1 - 1) * (2 ^ w2 - 1) : Nat) -
      (W1 * W2 * 2 ^ ι : Nat) * (2 ^ bitLength (p * q) : Nat) =
      ((2 : Int) ^ w1 - 1) * ((2 : Int) ^ w2 - 1) * ((p : Int) * q) -
        (W1 : Int) * W2 * (2 ^ bitLength (p * q) * 2 ^ ι) := by
    push_cast [Nat.cast_sub h1w1, Nat.cast_sub h1w2]; ring
  rw [e]
  exact_mod_cast happ

/-- the check-level verdict. -/
theorem vCf_of_flagged (n bound : Nat) (h : ∃ fs, checkContinuedFraction n bound = .ok (false, fs)) :
    ∃ fs, vCf n bound = .ok ⟨true, fs, false⟩ := by
  obtain ⟨fs, hfs⟩ := h
  exact ⟨fs, by unfold vCf; rw [hfs]; rfl⟩

/-- **The clause with the numbers of the property.** Both primes have `L ≥ 512` bits (modulus of
`2L − 1` or `2L` bits, i.e. at least 1023), each is a word of at most 64 bits written from the top
and cut to `L` bits, apart from a deviation below `2^32`: `CheckContinuedFractions()` (default
bound `2^48`) flags the key. -/
theorem cf_clause_default (p q : Nat) (hpo : p % 2 = 1) (hqo : q % 2 = 1)
    (W1 w1 W2 w2 L ι : Nat) (δ1 δ2 : Int) (hw1 : 1 ≤ w1) (hw2 : 1 ≤ w2) (hw1' : w1 ≤ 64)
    (hw2' : w2 ≤ 64) (hW1 : W1 < 2 ^ w1) (hW2 : W2 < 2 ^ w2)
    (hδ1 : |δ1| < 2 ^ 32) (hδ2 : |δ2| < 2 ^ 32)
    (hP : (p : Int) = (periodicTop W1 w1 L : Int) + δ1)
    (hQ : (q : Int) = (periodicTop W2 w2 L : Int) + δ2)
    (hL : L + L = bitLength (p * q) + ι) (hι : ι ≤ 1) (hL512 : 512 ≤ L) :
    ∃ fs, vCf (p * q) (2 ^ 48) = .ok ⟨true, fs, false⟩ := by
  apply vCf_of_flagged
  apply cf_two_patterns_flagged p q hpo hqo W1 w1 L W2 w2 L 32 ι (2 ^ 48) δ1 δ2 hw1 hw2 hW1 hW2
    hδ1 hδ2 hP hQ hL Nat.one_le_two_pow
  have hbl : 2 * L - 1 ≤ bitLength (p * q) := by omega
  have h1 : (2 : Nat) ^ (w1 + w2 + 32) ≤ 2 ^ 160 := Nat.pow_le_pow_right (by norm_num) (by omega)
  have h2 : (2 : Nat) ^ (w1 + w2) ≤ 2 ^ 128 := Nat.pow_le_pow_right (by norm_num) (by omega)
  have h3 : (2 : Nat) ^ 32 ≤ 2 ^ L := Nat.pow_le_pow_right (by norm_num) (by omega)
  have h4 : (2 : Nat) ^ L + 2 ^ L + 2 ^ 32 ≤ 2 ^ 2 * 2 ^ L := by omega
  calc (2 ^ 48 + 3) * (2 ^ (w1 + w2 + 32) * (2 ^ L + 2 ^ L + 2 ^ 32)) * 2 ^ (w1 + w2)
      ≤ 2 ^ 49 * (2 ^ 160 * (2 ^ 2 * 2 ^ L)) * 2 ^ 128 :=
        Nat.mul_le_mul (Nat.mul_le_mul (by norm_num) (Nat.mul_le_mul h1 h4)) h2
    _ = 2 ^ (339 + L) := by
        rw [show 339 + L = 49 + (160 + (2 + L)) + 128 by omega]
        simp only [pow_add]
    _ ≤ 2 ^ bitLength (p * q) := Nat.pow_le_pow_right (by norm_num) (by omega)

/-- the hypotheses of `cf_clause_default` on a 1023-bit instance (a 64-bit and a 63-bit word, both
deviations below `2^32`, `ι = 1`), and the model's verdict for it — flagged without factors, which is
also what the real `CheckContinuedFraction(n, 2^48)` returns (`(False, [])`). -/
example :
    0x9c80317fa3b1799d9c80317fa3b1799d9c80317fa3b1799d9c80317fa3b1799d9c80317fa3b1799d9c80317fa3b1799d9c80317fa3b1799d9c80317fc333e861 % 2 = 1 ∧ 0x8a14be6252b68e2b14297cc4a56d1c562852f9894ada38ac50a5f31295b47158a14be6252b68e2b14297cc4a56d1c562852f9894ada38ac50a5f3129a6d964a3 % 2 = 1 ∧
    (0x9c80317fa3b1799d < 2 ^ 64) ∧ (0x450a5f31295b4715 < 2 ^ 63) ∧
    |(528641732 : Int)| < 2 ^ 32 ∧ |(1267879705 : Int)| < 2 ^ 32 ∧
    ((0x9c80317fa3b1799d9c80317fa3b1799d9c80317fa3b1799d9c80317fa3b1799d9c80317fa3b1799d9c80317fa3b1799d9c80317fa3b1799d9c80317fc333e861 : Nat) : Int) = (periodicTop 0x9c80317fa3b1799d 64 512 : Int) + 528641732 ∧
    ((0x8a14be6252b68e2b14297cc4a56d1c562852f9894ada38ac50a5f31295b47158a14be6252b68e2b14297cc4a56d1c562852f9894ada38ac50a5f3129a6d964a3 : Nat) : Int) = (periodicTop 0x450a5f31295b4715 63 512 : Int) + 1267879705 ∧
    512 + 512 = bitLength (0x9c80317fa3b1799d9c80317fa3b1799d9c80317fa3b1799d9c80317fa3b1799d9c80317fa3b1799d9c80317fa3b1799d9c80317fa3b1799d9c80317fc333e861 * 0x8a14be6252b68e2b14297cc4a56d1c562852f9894ada38ac50a5f31295b47158a14be6252b68e2b14297cc4a56d1c562852f9894ada38ac50a5f3129a6d964a3) + 1 ∧
    vCf (0x9c80317fa3b1799d9c80317fa3b1799d9c80317fa3b1799d9c80317fa3b1799d9c80317fa3b1799d9c80317fa3b1799d9c80317fa3b1799d9c80317fc333e861 * 0x8a14be6252b68e2b14297cc4a56d1c562852f9894ada38ac50a5f31295b47158a14be6252b68e2b14297cc4a56d1c562852f9894ada38ac50a5f3129a6d964a3) (2 ^ 48) = .ok ⟨true, [], false⟩ := by
  decide +kernel

end Paranoid.C05Cf
