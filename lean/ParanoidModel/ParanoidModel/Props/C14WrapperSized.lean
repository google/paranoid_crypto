/-
Props/C14WrapperSized.lean — what `C14Wrapper.wrapper_no_undefined_behaviour` / `wrapper_glue` /
`wrapper_spec` say about the C++ code, with the size hypothesis IN THE STATEMENT.

The word-level model (Model/BMCpp.lean) represents the C `int` variables `n, i, j, lfsr_len, size` as
UNBOUNDED naturals and marks exactly one kind of undefined behaviour — an out-of-bounds vector access — by the
result `none`.  Signed-integer overflow (also undefined behaviour in C++) is NOT representable in the model:
it is excluded by the hypothesis `BMCpp.CppSizeOk`, under which `C14Wrapper.int_quantities_fit` shows that
every `int` quantity stays below 2^31.

Consequently the three theorems of Props/C14Wrapper.lean that are stated for EVERY `(s, length)` are
statements about the MODEL:
  * `wrapper_no_undefined_behaviour`: the model never performs an out-of-bounds access (`none`);
  * `wrapper_glue`, `wrapper_spec`: the model computes the shortest-LFSR length;
and they are statements about the C++ code only where the model is the C++ code, i.e. under `CppSizeOk`.
The wrapper's own checks enforce all of `CppSizeOk` except `length ≤ 2^30`
(`C14Wrapper.wrapper_enforces_size_limits`).  For 2^30 < length < 2^31 the wrapper DOES call the C++ code,
`lfsr_len` can exceed 2^30 (e.g. the sequence 0^(2^30) 1 has shortest LFSR length 2^30 + 1) and the next
evaluated comparison `2 * lfsr_len <= i` overflows `int`: real undefined behaviour, reachable through the
Python wrapper, about which nothing is proved.  (Not reproduced on the real code: it needs a 128 MiB input
and ~2^54 word operations.  The reachability argument is informal, not a theorem.)

Here: the same statements with `CppSizeOk` as a hypothesis, plus the conclusion that no `int` overflows.
-/
import ParanoidModel.Props.C14Wrapper
namespace Paranoid.C14WrapperSized
open Paranoid Paranoid.Lfsr Paranoid.BMCpp

/-- ★ no undefined behaviour of the C++ code — neither an out-of-bounds access (`r ≠ none`) nor a signed
overflow (every `int` quantity of `LfsrLengthImpl` is below 2^31) — is reachable through the Python wrapper
WITHIN THE SIZE LIMITS `CppSizeOk` (given the wrapper's own checks: `length ≤ 2^30`). -/
theorem wrapper_no_undefined_behaviour_sized (v : Variant) (s : Nat) (length : Int) (r : Option Int)
    (hsz : CppSizeOk (lcSize length).toNat length)
    (h : linearComplexityCpp v s length = .ok r) :
    r ≠ none ∧
    (0 ≤ length →
      length.toNat < 2 ^ 31 ∧ (wordsOfBytes (bytesOfNat (lcSize length).toNat s)).length < 2 ^ 31 ∧
      ∀ s' i : Nat, i < length.toNat →
        bmLength s' i ≤ i ∧ 2 * bmLength s' i < 2 ^ 31 ∧ i + 1 - bmLength s' i ≤ length.toNat) := by
  refine ⟨C14Wrapper.wrapper_no_undefined_behaviour v s length r h, fun h0 => ?_⟩
  have hfit := C14Wrapper.int_quantities_fit (bytesOfNat (lcSize length).toNat s) length.toNat
    (by
      rw [C14Wrapper.to_bytes_length]
      obtain ⟨a, b, c⟩ := hsz
      exact ⟨a, by omega, by rw [Int.toNat_of_nonneg h0]; exact c⟩)
  exact hfit

/-- the only part of `CppSizeOk` the caller has to supply: whenever the wrapper returns, `length ≤ 2^30`
gives `CppSizeOk` for the byte string it passed. -/
theorem sized_of_le (v : Variant) (s : Nat) (length : Int) (r : Option Int)
    (h : linearComplexityCpp v s length = .ok r) (h30 : length ≤ 2 ^ 30) :
    CppSizeOk (lcSize length).toNat length :=
  (C14Wrapper.wrapper_enforces_size_limits v s length r h).2.2.2 h30

/-- ★ the total specification of the wrapper restricted to the lengths at which the model is the C++ code
(`length ≤ 2^30`; the `TypeError` branch `length ≥ 2^31` of `C14Wrapper.wrapper_spec` is outside). -/
theorem wrapper_spec_sized (v : Variant) (s : Nat) (length : Int) (h30 : length ≤ 2 ^ 30) :
    linearComplexityCpp v s length =
      if lcSize length < 0 then .error .valueError
      else if 256 ^ (lcSize length).toNat ≤ s then .error .overflow
      else if length < 0 then .ok (some (-1))
      else .ok (some (shortestLfsr (bitsOf s length.toNat) : Int)) := by
  rw [C14Wrapper.wrapper_spec]
  have hlt : ¬ (2 : Int) ^ 31 ≤ length := by omega
  have hsz : ¬ (2 : Int) ^ 31 ≤ lcSize length := by
    unfold lcSize
    rw [Int.fdiv_eq_ediv_of_nonneg _ (by omega)]
    omega
  by_cases h1 : lcSize length < 0
  · rw [if_pos (Or.inl h1), if_pos h1]
  · rw [if_neg (by intro hc; rcases hc with hc | hc; exact h1 hc; exact hsz hc), if_neg h1, if_neg hlt]

/-- both variants agree (sized form; the unsized `C14Wrapper.wrapper_variants_agree` is about the model). -/
theorem wrapper_variants_agree_sized (s : Nat) (length : Int) (_h30 : length ≤ 2 ^ 30) :
    linearComplexityCpp .portable s length = linearComplexityCpp .clmul s length :=
  C14Wrapper.wrapper_variants_agree s length

/-! ### Non-vacuity, and the lengths the hypothesis excludes -/

example : CppSizeOk (lcSize 500).toNat 500 ∧ linearComplexityCpp .clmul 0b1011001110001111 16 = .ok (some 8) ∧
    CppSizeOk (lcSize 16).toNat 16 := by decide +kernel
-- the largest allowed length, and the first excluded one: the wrapper's own checks pass (size < 2^31,
-- length < 2^31), `CppSizeOk` fails
example : CppSizeOk (lcSize (2 ^ 30)).toNat (2 ^ 30) ∧ ¬ CppSizeOk (lcSize (2 ^ 30 + 1)).toNat (2 ^ 30 + 1) ∧
    ¬ (lcSize (2 ^ 30 + 1) < 0 ∨ 2 ^ 31 ≤ lcSize (2 ^ 30 + 1)) ∧ ¬ ((2 : Int) ^ 31 ≤ 2 ^ 30 + 1) := by
  decide +kernel

end Paranoid.C14WrapperSized
