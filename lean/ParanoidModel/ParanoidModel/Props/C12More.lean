/-
Props/C12More.lean — more of C12 ("NIST SP 800-22 statistics and p-values are computed as
specified … probability tables equal the exactly derived distributions to the printed precision"):
proves the statements that Props/C12.lean states as `def … : Prop` and adds the remaining
"statistic = definition" and "table = exact distribution" clauses.
Property theorems only; helper lemmas live in Proofs/Nist2*.lean.

 1. Serial: ∇²ψ²_m ≥ 0 for every bit string and every m ≥ 2 (`C12.serial_second_difference_nonneg`).
 2. LongestRuns: the recurrence behind the tables is the brute-force count for EVERY block size M
    (`C12.longestRuns_recurrence_correct`); the M = 128 and M = 10000 rows are statements about the
    exact distribution over all 2^M blocks (M = 10000: all seven entries; NIST's printed row differs
    from the exact distribution in every entry — finding D20).
 3. ApproximateEntropy: χ² = 2n(ln 2 − ApEn(m)) ≥ 0 over ℝ for the model's exact count vectors.
 4. Rank: the model's Gaussian elimination is the span-size characterisation of C15; the recurrence of
    `RankDistribution` is the classical exact formula for every shape; `precomputed` is the exact
    distribution of 31×31 / 32×32 / 40×40 / 64×64 matrices to the 8 printed digits.
    Overlapping templates: per-block count = #{i | window i = 1^m}.
 5. Universal: the distance multiset is the definition (distance to the previous occurrence of the block).
-/
import ParanoidModel.Props.C12
import ParanoidModel.Proofs.Nist2Serial
import ParanoidModel.Proofs.Nist2Runs
import ParanoidModel.Proofs.Nist2Apen
import ParanoidModel.Proofs.Nist2Rank
import ParanoidModel.Proofs.Nist2RankAsym
import ParanoidModel.Proofs.Nist2Blocks
namespace Paranoid.C12More
open Paranoid Paranoid.Nist

/-! ## 1. Serial: the second difference is non-negative -/

/-- the second marginal of the cyclic pattern counts: summing the m-bit counts over the LAST pattern bit
(entries w and w + 2^(m−1)) gives the (m−1)-bit counts, as summing over the first bit does
(`C12.pattern_counts_marginal`). -/
theorem pattern_counts_marginal_last (l : List Bool) (m : Nat) (hm : 2 ≤ m) (hl : m ≤ l.length) :
    List.zipWith (· + ·) ((countsWrap l m).toList.take (2 ^ (m - 1)))
        ((countsWrap l m).toList.drop (2 ^ (m - 1))) = (countsWrap l (m - 1)).toList :=
  halves_countsWrap l m hm hl

/-- the cyclic counts of all m-bit patterns add up to n. -/
theorem pattern_counts_total (l : List Bool) (m : Nat) (hm : 1 ≤ m) (hl : m ≤ l.length) :
    (countsWrap l m).toList.sum = l.length ∧ (countsWrap l m).toList.length = 2 ^ m :=
  ⟨countsWrap_sum l m hm hl, countsWrap_length l m hm hl⟩

/-- convexity of m ↦ Σ_w ν_w² for the cyclic counts of any bit list:
4·Σν_{m−1}² ≤ 4·Σν_m² + Σν_{m−2}² (m ≥ 3), and 4·Σν_1² ≤ 4·Σν_2² + n².  The difference is
Σ_u (ν_{0u0} − ν_{0u1} − ν_{1u0} + ν_{1u1})². -/
theorem serial_sumSq_convex (l : List Bool) :
    (∀ k, k + 3 ≤ l.length →
      4 * sumSq (countsWrap l (k + 2)).toList ≤
        4 * sumSq (countsWrap l (k + 3)).toList + sumSq (countsWrap l (k + 1)).toList) ∧
    (2 ≤ l.length →
      4 * sumSq (countsWrap l 1).toList ≤ 4 * sumSq (countsWrap l 2).toList + l.length * l.length) :=
  ⟨fun k hk => sumSq_countsWrap_convex l k hk, sumSq_countsWrap_convex_m2 l⟩

/-- ★ `C12.serial_second_difference_nonneg` holds: ∇²ψ²_m = ψ²_m − 2ψ²_{m−1} + ψ²_{m−2} ≥ 0 for the
output of `Serial` on every bit string, every m_max and every m = j + 3 ≥ 3 … -/
theorem serial_second_difference_nonneg : C12.serial_second_difference_nonneg :=
  fun bits n mm o h j a b c ha hb hc => serial_d2psi_nonneg bits n mm o h j a b c ha hb hc

/-- … and for m = 2, where the code uses ψ²_0 = 0 (`v[0] = 0`): ψ²_2 − 2ψ²_1 ≥ 0. -/
theorem serial_second_difference_nonneg_m2 (bits n : Nat) (mm : Option Nat) (o : SerialOut)
    (h : serial bits n mm = .ok o) (a b : Nat) (ha : o.sq[0]? = some a) (hb : o.sq[1]? = some b) :
    2 * psiNum n 1 a ≤ psiNum n 2 b := by
  obtain ⟨_, hle, _⟩ := serial_ok bits n mm o h
  obtain ⟨_, rfl⟩ := serial_sq_get bits n mm o h 0 a ha
  obtain ⟨hj, rfl⟩ := serial_sq_get bits n mm o h 1 b hb
  have key := sumSq_countsWrap_convex_m2 (bitList bits n) (by rw [bitList_length]; omega)
  rw [bitList_length] at key
  -- ψ²_0 = 0 is the numerator for Σν² = n²
  have := psiNum_second_diff n 0 (n * n) _ _ key
  rwa [show psiNum n 0 (n * n) = 0 by simp [psiNum], add_zero] at this

/-! ## 2. LongestRuns: the recurrence and the tables -/

/-- ★ the recurrence `leCount k M` (a(i) = 2a(i−1) for i ≤ k, 2a(i−1) − 1 for i = k+1,
2a(i−1) − a(i−k−2) beyond, evaluated on a packed sliding window) is, for every k and M, the number of
M-bit strings whose longest run of ones is at most k — counted by brute force over all 2^M strings. -/
theorem longestRuns_recurrence_counts (k M : Nat) :
    leCount k M = ((List.range (2 ^ M)).map (bitsSmall M)).countP (fun l => decide (longestRun l ≤ k)) :=
  leCount_spec k M

/-- the brute-force enumeration `x ↦ bitsSmall M x`, x < 2^M, lists every list of M bits exactly once. -/
theorem bitStrings_enumerated (M : Nat) (l : List Bool) (hl : l.length = M) :
    ∃ x, (x < 2 ^ M ∧ bitsSmall M x = l) ∧ ∀ y, y < 2 ^ M ∧ bitsSmall M y = l → y = x := by
  refine ⟨natOfBits l, ⟨hl ▸ natOfBits_lt l, hl ▸ bitsSmall_natOfBits l⟩, ?_⟩
  rintro y ⟨hy, rfl⟩
  rw [natOfBits_bitsSmall, Nat.mod_eq_of_lt hy]

/-- ★ `C12.longestRuns_recurrence_correct` holds: for every block size M and all class bounds, the class
counts from the recurrence are the brute-force class counts over all 2^M blocks. -/
theorem longestRuns_recurrence_correct : C12.longestRuns_recurrence_correct :=
  fun M vl vu h => lrDP_eq_exact M vl vu h

/-- ★ LongestRuns, M = 128: every table entry is the exact probability over all 2^128
blocks, rounded or truncated to 4 digits. -/
theorem longestRuns_table_M128 :
    rowMatches (lrRow 1) (exactRows (lrExactCounts 128 4 9) (2 ^ 128) 10000) 10000 true = true := by
  rw [← lrDP_eq_exact 128 4 9 (by omega)]; exact lr_table_M128

/-- ★ LongestRuns, M = 10000 (all seven entries): the exact distribution over all
2^10000 blocks is 0.0866, 0.2082, 0.2484, 0.1939, 0.1215 (0.1214 truncated), 0.0680, 0.0734 (0.0733);
the repaired row is this distribution rounded, NIST's printed row differs from it in every entry (rounded
and truncated) — finding D20; the row in the source is one of the two. -/
theorem longestRuns_table_M10000 :
    exactRows (lrExactCounts 10000 10 16) (2 ^ 10000) 10000 =
      [(866, 866), (2082, 2082), (2484, 2484), (1939, 1939), (1215, 1214), (680, 680), (734, 733)] ∧
    rowMatches repaired10000 (exactRows (lrExactCounts 10000 10 16) (2 ^ 10000) 10000) 10000 false = true ∧
    (nistPrinted10000.zip (exactRows (lrExactCounts 10000 10 16) (2 ^ 10000) 10000)).all
      (fun pr => !(pr.1.1 * 10000 == pr.2.1 * pr.1.2) && !(pr.1.1 * 10000 == pr.2.2 * pr.1.2)) = true ∧
    (rowSame (lrRow 2) nistPrinted10000 = true ∨ rowSame (lrRow 2) repaired10000 = true) := by
  refine ⟨lr10000_rows_exact, ?_, ?_, lr_table_M10000⟩
  · rw [lr10000_rows_exact]; exact repaired10000_matches_rows
  · rw [lr10000_rows_exact]; exact nistPrinted10000_all_differ

/-! ## 3. ApproximateEntropy: the χ² statistic is non-negative -/

/-- the multiset of non-zero counts that the model returns per level carries exactly
φ = Σ_w (ν_w/n)·ln(ν_w/n) of the full count vector (0·ln 0 = 0). -/
theorem apen_phi_of_level (n : Nat) (cnt : List Nat) :
    phiLevel n (multiset (cnt.filter (· ≠ 0))) = ((cnt.map (fun (c : Nat) => (c : ℝ) / n * Real.log ((c : ℝ) / n))).sum) :=
  phiLevel_multiset n cnt

/-- Gibbs / log-sum inequality on the conditional distribution: φ_m ≤ φ_{m+1} + ln 2 for the cyclic
pattern counts of any bit list, i.e. ApEn(m) = φ_m − φ_{m+1} ≤ ln 2. -/
theorem apen_le_log_two (l : List Bool) (m : Nat) (hm : 1 ≤ m) (hl : m + 1 ≤ l.length) :
    phi l.length (countsWrap l m).toList - phi l.length (countsWrap l (m + 1)).toList ≤ Real.log 2 := by
  have := phi_countsWrap l m hm hl
  linarith

/-- ★ for the output of `ApproximateEntropy` on every bit string and every
m = i + 2 ∈ [2, m_max], the statistic χ² = 2n(ln 2 − (φ_m − φ_{m+1})) formed (over ℝ) from the model's
count multisets `levels[m−2]`, `levels[m−1]` is ≥ 0: `igamc`'s second argument is in its domain. -/
theorem apen_chi_square_nonneg (bits n : Nat) (mm : Option Nat) (o : ApenOut)
    (h : approximateEntropy bits n mm = .ok o) (i : Nat) (lo hi : List (Nat × Nat))
    (hlo : o.levels[i]? = some lo) (hhi : o.levels[i + 1]? = some hi) :
    0 ≤ 2 * (n : ℝ) * (Real.log 2 - (phiLevel n lo - phiLevel n hi)) := by
  obtain ⟨_, hle, _⟩ := apen_ok bits n mm o h
  have hlv := apen_levels bits n mm o h
  rw [hlv] at hlo hhi
  have hi' : i + 1 < o.mMax := by
    by_contra hcon
    rw [List.getElem?_eq_none (by simp; omega)] at hhi
    cases hhi
  rw [List.getElem?_map, List.getElem?_range (by omega)] at hlo hhi
  simp only [Option.map_some, Option.some.injEq] at hlo hhi
  subst hlo; subst hhi
  rw [phiLevel_multiset, phiLevel_multiset]
  have key := phi_countsWrap (bitList bits n) (i + 2) (by omega) (by rw [bitList_length]; omega)
  rw [bitList_length] at key
  have hn : (0 : ℝ) ≤ 2 * (n : ℝ) := by positivity
  apply mul_nonneg hn
  rw [show i + 1 + 2 = i + 2 + 1 from rfl]
  linarith

/-! ## 4. Rank and overlapping templates -/

/-- ★ the model's rank routine is `_BinaryMatrixRankSmall` of C15, so `2^rank` is the number of distinct
GF(2)-linear combinations of the rows (`C15.rankSmall_def`), for every matrix. -/
theorem binaryRank_is_span_rank (rows : List Nat) :
    binaryRank rows = BitSeq.rankSmall rows ∧ 2 ^ binaryRank rows = BitDefs.spanSize rows :=
  ⟨binaryRank_eq_rankSmall rows, binaryRank_span rows⟩

/-- ★ 2.5.4: the rows are the consecutive c-bit pieces of the string, the matrices the consecutive groups
of r rows, and `hist[i]` = number of matrices of rank r − i (i < k), `hist[k]`: rank ≤ r − k; the
`precomputed` table is used exactly for square matrices with r ≥ 31, k ≤ 5. -/
theorem rank_histogram (bits n r c k : Nat) (cs : Bool) (o : RankOut)
    (h : binaryMatrixRank bits n r c k cs = .ok o) :
    o.r = r ∧ o.c = c ∧ o.k = k ∧ (o.approx = true ↔ (r = c ∧ r ≥ 31 ∧ k ≤ 5)) ∧
    o.hist = (List.range (k + 1)).map (fun i =>
      ((groups ((chunks (bitList bits n) c).map natOfBits) r).map
        (fun mat => min k (r - binaryRank mat))).count i) ∧
    ∀ (rows : List Nat), groups rows r = (List.range (rows.length / r)).map (fun i => (rows.drop (i * r)).take r) :=
  let ⟨h1, h2, h3, h4, h5⟩ := binaryMatrixRank_ok bits n r c k cs o h
  ⟨h1, h2, h3, h4, h5, fun rows => groups_spec rows r⟩

/-- ★ `RankDistribution(r, c, k, allow_approximation=False)`: after the c passes of the in-place
recurrence (`rankRes` in Model/Nist.lean: exact rationals instead of floats, compared with the
implementation on every run), `res[j]` is the classical exact probability that a random
r×c matrix over GF(2) has rank j,
  ∏_{i<j} (2^c − 2^i)(2^r − 2^i) / (∏_{i<j} (2^j − 2^i) · 2^(r·c))
  [= 2^(j(r+c−j) − rc) ∏_{i<j} (1 − 2^(i−r))(1 − 2^(i−c)) / (1 − 2^(i−j))],
for EVERY shape r, c and every j ≤ r; the list has r + 1 entries.
NOTE: "exact probability" means this classical closed-form product, which is TAKEN AS
THE SPECIFICATION.  No theorem of the project counts the r×c matrices of rank j over GF(2).  That the values
form a distribution (sum 1 over j = 0 … min(r, c), and the returned list sums to 1) is proved from the
recurrence in Props/C12RankSum.lean. -/
theorem rankDistribution_formula (r c j : Nat) (hj : j ≤ r) :
    (rankRes r c).length = r + 1 ∧
    (rankRes r c)[j]? =
      some ((∏ i ∈ Finset.range j, ((2 : ℚ) ^ c - 2 ^ i)) * (∏ i ∈ Finset.range j, ((2 : ℚ) ^ r - 2 ^ i)) /
        ((∏ i ∈ Finset.range j, ((2 : ℚ) ^ j - 2 ^ i)) * (2 : ℚ) ^ (r * c))) :=
  ⟨rankRes_length r c, rankRes_formula r c j hj⟩

/-- the same formula as written in the literature (NIST SP 800-22 3.5):
P(rank = j) = 2^(j(r+c−j) − rc) ∏_{i<j} (1 − 2^(i−r))(1 − 2^(i−c)) / (1 − 2^(i−j)). -/
theorem rankDistribution_classical (r c j : Nat) (hj : j ≤ r) :
    (rankRes r c)[j]? = some ((2 : ℚ) ^ ((j : ℤ) * ((r : ℤ) + c - j) - (r : ℤ) * c) *
      ∏ i ∈ Finset.range j, ((1 - (2 : ℚ) ^ ((i : ℤ) - (r : ℤ))) * (1 - (2 : ℚ) ^ ((i : ℤ) - (c : ℤ))) /
        (1 - (2 : ℚ) ^ ((i : ℤ) - (j : ℤ))))) := by
  rw [rankRes_formula r c j hj]
  congr 1
  have hne := hprod_self_ne j
  rw [hprod_eq_zpow c j, hprod_eq_zpow r j, hprod_eq_zpow j j] at *
  rw [Finset.prod_div_distrib, Finset.prod_mul_distrib]
  have he : (j : ℤ) * ((r : ℤ) + c - j) - (r : ℤ) * c =
      ((c * j + r * j : ℕ) : ℤ) - ((j * j + r * c : ℕ) : ℤ) := by push_cast; ring
  rw [he, zpow_sub₀ (by norm_num : (2 : ℚ) ≠ 0), zpow_natCast, zpow_natCast, pow_add, pow_add]
  have h1 : ((2 : ℚ) ^ (j * j)) ≠ 0 := pow_ne_zero _ (by norm_num)
  have h2 : ((2 : ℚ) ^ (r * c)) ≠ 0 := pow_ne_zero _ (by norm_num)
  have h3 : (∏ i ∈ Finset.range j, (1 - (2 : ℚ) ^ ((i : ℤ) - (j : ℤ)))) ≠ 0 := by
    intro h0; rw [h0, mul_zero] at hne; exact hne rfl
  field_simp

/-- the same as a fraction of natural numbers (j ≤ min r c; for j > c the probability is 0). -/
theorem rankDistribution_fraction (r c j : Nat) (hj : j ≤ r) (hjc : j ≤ c) :
    (rankRes r c)[j]? = some ((rankProbNum r c j : ℚ) / (rankProbDen r c j : ℚ)) :=
  rankRes_frac r c j hj hjc

/-- ★ `RankDistribution.precomputed` (current source): every entry is the exact probability
P(rank = n − i), i = 0 … 5, of n×n matrices rounded or truncated to the 8 printed digits, for NIST's shape
n = 32 and for n = 31 (smallest shape that uses the table), 40, 64. -/
theorem rank_precomputed_table :
    rowMatches Paranoid.Consts.Nist.rankPrecomputed (squareRankRows 32 6 (10 ^ 8)) (10 ^ 8) true = true ∧
    rowMatches Paranoid.Consts.Nist.rankPrecomputed (squareRankRows 31 6 (10 ^ 8)) (10 ^ 8) true = true ∧
    rowMatches Paranoid.Consts.Nist.rankPrecomputed (squareRankRows 40 6 (10 ^ 8)) (10 ^ 8) true = true ∧
    rowMatches Paranoid.Consts.Nist.rankPrecomputed (squareRankRows 64 6 (10 ^ 8)) (10 ^ 8) true = true :=
  ⟨rank_precomputed_32, rank_precomputed_31_40_64⟩

/-- ★ `RankDistribution.precomputed` for EVERY shape for which the code uses it (r = c = n ≥ 31): with
pre_i the i-th entry in units of 10⁻⁸ (28878809, 57757619, 12835026, 523879, 4657, 10 — the digits of the
current source), the exact probability `res[n − i]` = P_n(rank = n − i) satisfies
(pre_i − ½)·10⁻⁸ ≤ P < (pre_i + 1)·10⁻⁸, i.e. the printed value is the exact one rounded or truncated to
8 digits, for all n ≥ 31 and i = 0 … 5 (the drift from n = 31 to ∞ is below 2^(i−31) relative). -/
theorem rank_precomputed_all_sizes (n i : Nat) (hn : 31 ≤ n) (hi : i < 6) :
    Paranoid.Consts.Nist.rankPrecomputed.map (fun p => (p.1 * 10 ^ 8 / p.2, p.1 * 10 ^ 8 % p.2)) =
      preDigits.map (fun d => (d, 0)) ∧
    ∃ P : ℚ, (rankRes n n)[n - i]? = some P ∧
      ((preDigit i : ℚ) - 1 / 2) / 10 ^ 8 ≤ P ∧ P < ((preDigit i : ℚ) + 1) / 10 ^ 8 :=
  ⟨rankPrecomputed_digits, sqP i n, rankRes_square n i (by omega), precomputed_all_sizes n i hn hi⟩

/-- ★ 2.8.4: `util.OverlappingRunsOfOnes(block, m)` is the number of positions i at which the m-bit window
block[i .. i+m−1] is the all-ones template, for every block and every m ≥ 1 … -/
theorem overlapping_count_spec (l : List Bool) (m : Nat) (hm : 1 ≤ m) :
    overlappingOnes l m =
      (List.range l.length).countP (fun i => decide (∀ j < m, l[i + j]? = some true)) := by
  unfold overlappingOnes
  rw [or_fold, Nat.zero_add, endCount_eq_startCount m hm l.length l (le_refl _), startCount_index]
  apply List.countP_congr
  intro i _
  simp only [decide_eq_true_eq]
  rw [le_leadOnes_iff]
  simp only [List.getElem?_drop]

/-- … and `hist[i]` = number of blocks (consecutive `block_size`-bit pieces) with min(5, count) = i. -/
theorem overlapping_histogram (bits n m bs : Nat) (o : OtmOut) (h : overlappingWith bits n m bs = .ok o) :
    o.m = m ∧ o.blockSize = bs ∧ 0 < bs ∧ 1 ≤ n / bs ∧ m + 4 ≤ bs ∧
    o.hist = (List.range 6).map (fun i =>
      ((chunks (bitList bits n) bs).map (fun b => min 5 (overlappingOnes b m))).count i) := by
  unfold overlappingWith at h
  split_ifs at h with h1 h2 h3
  simp only [Except.ok.injEq] at h
  subst h
  have h2' : 1 ≤ n / bs := Nat.one_le_iff_ne_zero.mpr h2
  refine ⟨rfl, rfl, by omega, h2', by omega, ?_⟩
  simp [tally_spec]

/-! ## 5. Universal: the distances are the definition -/

/-- ★ 2.9.4: with the blocks b_0, b_1, … (consecutive L-bit pieces), `dists` is the multiset of the
K = ⌊n/L⌋ − Q values A_j, j = Q … Q+K−1, where A_j = `distsFrom [] blocks`[j] … -/
theorem universal_distances (bits n L q : Nat) (o : UniversalOut) (h : universalImpl bits n L q = .ok o) :
    o.blockSize = L ∧ o.q = q ∧ o.k = n / L - q ∧
    o.dists = multiset (((distsFrom [] ((chunks (bitList bits n) L).map natOfBits)).drop q).reverse) := by
  unfold universalImpl at h
  split_ifs at h
  obtain ⟨tab, hf⟩ := universal_walk bits n L q
  rw [hf] at h
  cases h
  exact ⟨rfl, rfl, rfl, rfl⟩

/-- … and A_j = 1 + (number of steps back from position j − 1 to the previous occurrence of b_j), which is
j + 1 when b_j has not occurred before (`List.idxOf` returns the length; the code's `tab[b] = −1`). -/
theorem universal_distance_def (bs : List Nat) (j : Nat) :
    (distsFrom [] bs)[j]? = (bs[j]?).map (fun b => ((bs.take j).reverse).idxOf b + 1) ∧
    (distsFrom [] bs).length = bs.length := by
  refine ⟨?_, distsFrom_length bs []⟩
  rw [distsFrom_get]; simp

/-- `multiset` is a run-length encoding: it preserves every weighted sum, in particular
Σ log₂(distance) = Σ multiplicity·log₂(distance). -/
theorem multiset_sum (g : Nat → ℝ) (vals : List Nat) :
    ((multiset vals).map (fun (p : Nat × Nat) => (p.2 : ℝ) * g p.1)).sum = (vals.map g).sum :=
  wsum_multiset g vals

/-! ## Non-vacuity -/

example : (serial 0b0011011101 10 (some 3)).map (fun o => o.sq) = .ok [52, 28, 16] ∧
    2 * psiNum 10 2 28 ≤ psiNum 10 3 16 + psiNum 10 1 52 ∧ 2 * psiNum 10 1 52 ≤ psiNum 10 2 28 := by
  decide +kernel
example : leCount 1 8 = 55 ∧ lrDPCounts 8 1 4 = [55, 94, 59, 48] := by decide +kernel
example : (approximateEntropy 0b0011011101 10 (some 2)).map (fun o => o.levels.length) = .ok 2 ∧
    (countsWrap (bitList 0b0011011101 10) 2).toList = [1, 3, 3, 3] ∧
    (countsWrap (bitList 0b0011011101 10) 3).toList = [0, 1, 1, 2, 1, 2, 2, 1] := by decide +kernel
example : binaryRank [0b110, 0b011, 0b101] = 2 ∧ BitDefs.spanSize [0b110, 0b011, 0b101] = 4 := by
  decide +kernel
example : rankRes 3 3 = [1 / 512, 49 / 512, 147 / 256, 21 / 64] ∧
    rankDistribution 3 3 2 = [21 / 64, 147 / 256, 25 / 256] := by decide +kernel
example : preDigit 0 = 28878809 ∧ preDigit 5 = 10 := by decide
example : rankProbNum 3 3 2 = 1764 ∧ rankProbDen 3 3 2 = 3072 := by decide +kernel
example : overlappingOnes [true, true, true, false, true, true] 2 = 3 := by decide +kernel
example : distsFrom [] [5, 7, 5, 5, 9, 7] = [1, 2, 2, 1, 5, 4] := by decide +kernel
example : (universalImpl 0b11_01_10_01_11_01 12 2 2).map (fun o => (o.blockSize, o.q, o.k)) = .ok (2, 2, 4) ∧
    (distsFrom [] ((chunks (bitList 0b11_01_10_01_11_01 12) 2).map natOfBits)).drop 2 = [2, 4, 2, 4] := by
  decide +kernel

end Paranoid.C12More
