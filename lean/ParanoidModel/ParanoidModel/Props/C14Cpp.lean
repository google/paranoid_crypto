/-
Props/C14Cpp.lean — property C14 for the C++ code: "the native (C++, with or without carry-less
multiplication) … routines return the length of the shortest LFSR".

Subject: the WORD-LEVEL model Model/BMCpp.lean of `cc_util/berlekamp_massey.cc` (both variants of
`LfsrLengthImpl`, the byte packing of `LfsrLength`, `LfsrLengthStr`), with
`_mm_clmulepi64_si128` / `vmull_p64` specified as the 64×64-bit carry-less product
(`BMCpp.clmul`, shift-and-xor; trusted-base item) and C `int`s as unbounded naturals.

PROVED FOR ALL INPUTS OF THE MODEL (every byte list, every `n`; no size bound IN THE MODEL, whose
`int`s are unbounded naturals).  The model is the C++ code only within the size limits of its
`int` variables — `BMCpp.CppSizeOk`: `n ≤ 2^30` (`2 * lfsr_len` must not overflow) and
`(|seq| + 7) / 8 < 2^31` words (`int size = seq.size()`), i.e. `|seq| ≤ 2^34 - 8` bytes; beyond
them the real code has signed overflow / truncation and NOTHING is claimed
(`C14Wrapper.int_quantities_fit`: inside them every `int` quantity is `< 2^31`;
`C14Wrapper.wrapper_enforces_size_limits`: the Python wrapper enforces all of them except
`length ≤ 2^30`):
* `packing`, `packing_bits`: the words built by `LfsrLength` carry the bit string of the bytes
  (bit `k` of the sequence = bit `k mod 8` of byte `k / 8`);
* `portable_step_simulates`, `cpp_portable_simulates_native`: the portable variant simulates the
  big-integer routine `LinearComplexityNative` (model `bmLength`) — invariant: the `Nat` value of
  each word vector IS the big integer (`sb`), resp. the big integer shifted by the pending count
  (`sc >> m`);
* `clmul_spec`: the model of the intrinsic is the GF(2)[X] product `clMul`;
* `clmul_block_is_64_steps`, `cpp_clmul_simulates_native`: one block of the CLMUL loop (bit loop
  on the low words with the polynomials `a, b, c, d` and their carries, four `clmul`s per word,
  swap, `size--`) equals 64 steps of the big-integer routine, modulo the dead top word; hence the
  CLMUL variant computes the same function;
* `cpp_no_undefined_behaviour`: through `LfsrLengthStr` no vector is ever indexed out of bounds
  (in particular the CLMUL variant with the `n == 0` early return, DESIGN D8);
* `cpp_is_shortest_lfsr`: hence both variants return the length of the shortest LFSR generating
  the first `n` bits (via `C14.native_is_shortest_lfsr`: Massey's theorem), and `-1` exactly
  when `n < 0` or `n > 8·|seq|`; `cpp_matches_wrapper_model`: they equal the value
  `Paranoid.lfsrLengthStr` that Model/BM.lean assumed for the C++ code (op `bm.cpp`).
`bounded_cpp_le10`, `bounded_cpp_boundary`: the instances of the above for all sequences of length
`≤ 10` and for 13 patterns around the word boundaries, stated as Boolean checks.
The model is tied to the real C++ builds by the correspondence run (harness/corr/c14.py, ops
`bm.cpp_portable`, `bm.cpp_clmul`, `bm.clmul`).
-/
import ParanoidModel.Proofs.BMWrapper
import ParanoidModel.Props.C14
namespace Paranoid.C14Cpp
open Paranoid Paranoid.Lfsr Paranoid.BMCpp

/-- **packing lemma**: the `(|seq| + 7) / 8` words `LfsrLength` builds have, as a little-endian
number, the value `Σ 256^i · seq[i]` of the byte string. -/
theorem packing (seq : List UInt8) :
    val (wordsOfBytes seq) = natOfBytes seq ∧ (wordsOfBytes seq).length = (seq.length + 7) / 8 :=
  ⟨val_wordsOfBytes seq, length_wordsOfBytes seq⟩

/-- byte order and bit order: bit `k` of the packed sequence is bit `k mod 8` of byte `k / 8`
(and `0` beyond the last byte: the padding of the last word). -/
theorem packing_bits (seq : List UInt8) (k : Nat) :
    (val (wordsOfBytes seq)).testBit k
      = ((seq[k / 8]?).map (fun b => b.toNat.testBit (k % 8))).getD false := by
  rw [val_wordsOfBytes, natOfBytes_testBit]

/-- **simulation invariant, one bit step**: if the word vectors `sb`, `sc` of the portable loop
have the values of the registers `sb`, `sc >> m` of `LinearComplexityNative` (and `lfsr_len =
deg_c`), then so they have after one iteration of either loop; `sc[0]` is in bounds. -/
theorem portable_step_simulates (p : PState) (bm : BMState) (i : Nat)
    (hsb : val p.sb = bm.sb) (hsc : val p.sc = bm.sc >>> bm.m) (hlen : p.len = bm.degC)
    (hsize : p.sb.length = p.sc.length) (hne : p.sc ≠ []) :
    ∃ p', pStep i p = some p' ∧ val p'.sb = (bmStep i bm).sb ∧
      val p'.sc = (bmStep i bm).sc >>> (bmStep i bm).m ∧ p'.len = (bmStep i bm).degC ∧
      p'.sb.length = p'.sc.length ∧ p'.sc.length = p.sc.length := by
  obtain ⟨p', h1, hr⟩ := pStep_sim (W := p.sc.length) (e := ⟨bm.sb, bm.sc >>> bm.m, bm.degC⟩)
    ⟨hsb, hsc, hlen, hsize, rfl⟩ (List.length_pos_of_ne_nil hne) i
  have hb := eRel_step (e := ⟨bm.sb, bm.sc >>> bm.m, bm.degC⟩) (bm := bm) ⟨rfl, rfl, rfl⟩ i
  exact ⟨p', h1, hr.sb.trans hb.p, hr.sc.trans hb.q, hr.len.trans hb.l, hr.lsb.trans hr.lsc.symm,
    hr.lsc⟩

/-- portable `LfsrLengthImpl` on any word vector (`n = 0` if it is empty). -/
theorem portable_impl (seq : Words) (n : Nat) (h : n = 0 ∨ seq ≠ []) :
    lfsrLengthImplPortable seq n = some (bmLength (val seq) n) :=
  lfsrLengthImplPortable_eq seq n h

/-- **`clmul_spec`**: `clmul(x, y, &hi, &lo)` of the model returns the two words of the carry-less
product (product in GF(2)[X] of the polynomials with coefficient vectors `x`, `y`):
`(hi, lo) = ((x ⊛ y) / 2^64, (x ⊛ y) % 2^64)`. -/
theorem clmul_spec (x y : UInt64) :
    (clmul x y).1.toNat = clMul x.toNat y.toNat / 2 ^ 64 ∧
      (clmul x y).2.toNat = clMul x.toNat y.toNat % 2 ^ 64 := by
  have h := BMCpp.clmul_spec x y
  have hlo := (clmul x y).2.toNat_lt
  rw [← h]
  constructor
  · rw [Nat.add_mul_div_left _ _ (Nat.two_pow_pos 64), Nat.div_eq_of_lt hlo, Nat.zero_add]
  · rw [Nat.add_mul_mod_self_left, Nat.mod_eq_of_lt hlo]

/-- `clMul` is the GF(2)-polynomial product: coefficient `n` of `a ⊛ p` is
`⊕_{i ≤ n} a_i · p_{n-i}` — stated through its defining recursion: bilinear over xor, `1 ⊛ p = p`,
`(2a) ⊛ p = 2 (a ⊛ p)`. -/
theorem clMul_is_polynomial_product (a a' p q : Nat) :
    clMul (a ^^^ a') p = clMul a p ^^^ clMul a' p ∧ clMul a (p ^^^ q) = clMul a p ^^^ clMul a q ∧
      clMul 1 p = p ∧ clMul 0 p = 0 ∧ clMul (2 * a) p = 2 * clMul a p := by
  refine ⟨clMul_xor_left _ _ _, clMul_xor_right _ _ _, clMul_one_left _, clMul_zero_left _, ?_⟩
  rw [clMul_double_left, Nat.shiftLeft_eq, Nat.pow_one, Nat.mul_comm]

/-- **the 64-step block invariant**: let the live prefixes (`size` words) of `sb`, `sc` agree
modulo `2^(64·size)` with registers `(P, Q)` of the eager big-integer machine (`eStep` = one step
of `LinearComplexityNative` with the pending shift applied, `eRel_step`), `lfsr_len = L`. Then one
iteration of the outer CLMUL loop is in bounds and the new live prefixes (`size - 1` words) agree
modulo `2^(64·(size-1))` with the registers after 64 STEPS, with the same `lfsr_len`. -/
theorem clmul_block_is_64_steps {W blk : Nat} {st : ClState} {E : EState}
    (h : ClRel W blk st E) (hs : 1 ≤ st.size) :
    ∃ st', clBlock (64 * blk) st = some st' ∧ ClRel W (blk + 1) st' (eLoop 64 (64 * blk) E) :=
  clBlock_sim h hs

/-- the eager machine is `LinearComplexityNative`'s loop. -/
theorem eager_machine_is_native (s n : Nat) : (eLoop n 0 ⟨s, s, 0⟩).L = bmLength s n := eLoop_L s n

/-- CLMUL `LfsrLengthImpl` on any word vector with `n ≤ 64·seq.size()`. -/
theorem clmul_impl (seq : Words) (n : Nat) (h : n ≤ 64 * seq.length) :
    lfsrLengthImplClmul seq n = some (bmLength (val seq) n) :=
  lfsrLengthImplClmul_eq seq n h

/-- **C++ simulation theorem, both variants, total on the model**: for every byte list and every
`n` the WORD-LEVEL MODEL of `LfsrLengthStr(seq, n)` has defined behaviour and returns `-1` if
`n < 0` or `n > 8·|seq|`, else `LinearComplexityNative(int.from_bytes(seq, "little"), n)`.
SIZE LIMITS: this is a statement about the real C++ code only for inputs within
`BMCpp.CppSizeOk seq.length n` — `n` fits an `int` and `n ≤ 2^30` (so that `2 * lfsr_len` does
not overflow), and `(|seq| + 7) / 8 < 2^31` words (`int size = seq.size()`, `int j <
sc.size() - 1`), i.e. `|seq| ≤ 2^34 - 8` bytes.  The model's `int`s are unbounded naturals, so the
Lean statement itself needs no hypothesis, but "EVERY byte string" of the real code would be
overstated: a longer string or `2^30 < n < 2^31` is outside the claim (signed overflow is
undefined behaviour in C++).  The hypothesis is explicit in the end-to-end theorem
`C14Wrapper.linearComplexity_is_shortest_lfsr`. -/
theorem cpp_simulates_native (v : Variant) (seq : List UInt8) (n : Int) :
    BMCpp.lfsrLengthStr v seq n
      = some (if n < 0 ∨ 8 * (seq.length : Int) < n then -1 else (bmLength (natOfBytes seq) n.toNat : Int)) := by
  unfold BMCpp.lfsrLengthStr lfsrLength
  by_cases h : n < 0 ∨ 8 * (seq.length : Int) < n
  · rw [if_pos h, if_pos h]
  · rw [if_neg h, if_neg h, lfsrLengthImpl_wordsOfBytes v seq n.toNat (by omega)]
    rfl

/-- portable variant on well-formed input (`0 ≤ n ≤ 8·|seq|`). -/
theorem cpp_portable_simulates_native (seq : List UInt8) (n : Nat) (h : n ≤ 8 * seq.length) :
    BMCpp.lfsrLengthStr .portable seq n = some (bmLength (natOfBytes seq) n : Int) := by
  rw [cpp_simulates_native, if_neg (by omega)]
  rfl

/-- CLMUL variant on well-formed input (`0 ≤ n ≤ 8·|seq|`). -/
theorem cpp_clmul_simulates_native (seq : List UInt8) (n : Nat) (h : n ≤ 8 * seq.length) :
    BMCpp.lfsrLengthStr .clmul seq n = some (bmLength (natOfBytes seq) n : Int) := by
  rw [cpp_simulates_native, if_neg (by omega)]
  rfl

/-- no out-of-bounds vector access is reachable through `LfsrLengthStr`, for any input. -/
theorem cpp_no_undefined_behaviour (v : Variant) (seq : List UInt8) (n : Int) :
    BMCpp.lfsrLengthStr v seq n ≠ none := by
  rw [cpp_simulates_native]
  exact Option.some_ne_none _

theorem cpp_variants_agree (seq : List UInt8) (n : Int) :
    BMCpp.lfsrLengthStr .portable seq n = BMCpp.lfsrLengthStr .clmul seq n := by
  rw [cpp_simulates_native, cpp_simulates_native]

/-- the value Model/BM.lean ASSUMED for the C++ code (`Paranoid.lfsrLengthStr`, op `bm.cpp`, and
through it `linearComplexity`, the model of the Python wrapper) is the value the word-level
model computes. -/
theorem cpp_matches_wrapper_model (v : Variant) (seq : List UInt8) (n : Int) :
    BMCpp.lfsrLengthStr v seq n = some (Paranoid.lfsrLengthStr seq.length (natOfBytes seq) n) := by
  rw [cpp_simulates_native]
  rfl

/-- **C14 for the C++ code**: for every byte string and `0 ≤ n ≤ 8·|seq|`, both variants return
the length of the shortest LFSR generating the first `n` bits of the sequence carried by the
bytes (an LFSR of that length generates it and none shorter does; equivalently the brute-force
minimum over all tap vectors). -/
theorem cpp_is_shortest_lfsr (v : Variant) (seq : List UInt8) (n : Nat) (h : n ≤ 8 * seq.length) :
    ∃ L : Nat, BMCpp.lfsrLengthStr v seq n = some (L : Int) ∧
      IsShortestLfsr (bitsOf (natOfBytes seq) n) L ∧
      L = shortestLfsr (bitsOf (natOfBytes seq) n) := by
  refine ⟨bmLength (natOfBytes seq) n, ?_, (C14.native_is_shortest_lfsr _ n).2⟩
  cases v
  · exact cpp_portable_simulates_native seq n h
  · exact cpp_clmul_simulates_native seq n h

theorem cpp_minus_one_iff (v : Variant) (seq : List UInt8) (n : Int) :
    BMCpp.lfsrLengthStr v seq n = some (-1) ↔ (n < 0 ∨ 8 * (seq.length : Int) < n) := by
  rw [cpp_simulates_native]
  constructor
  · intro h
    by_contra hc
    rw [if_neg hc] at h
    injection h with h
    omega
  · intro h
    rw [if_pos h]

/-- bits of the byte string at positions `≥ n` (the rest of the last byte, further bytes, the
zero padding of the last word) have no influence. -/
theorem cpp_ignores_high_bits (v : Variant) (seq seq' : List UInt8) (n : Nat)
    (h : n ≤ 8 * seq.length) (h' : n ≤ 8 * seq'.length)
    (hbits : natOfBytes seq % 2 ^ n = natOfBytes seq' % 2 ^ n) :
    BMCpp.lfsrLengthStr v seq n = BMCpp.lfsrLengthStr v seq' n := by
  rw [cpp_simulates_native, cpp_simulates_native, if_neg (by omega), if_neg (by omega),
    Int.toNat_natCast,
    C14.native_ignores_high_bits (natOfBytes seq), C14.native_ignores_high_bits (natOfBytes seq'),
    hbits]

/-! ### Bounded instances (special cases of the theorems above, as Boolean checks) -/

/-- a BOUNDED check: on all 2047 sequences of length `≤ 10` (packed into `(len + 7) / 8` bytes)
both word-level variants return `bmLength`. -/
theorem bounded_cpp_le10 : cppAgreeUpTo 10 = true := cppAgreeUpTo_eq_true 10

/-- a BOUNDED check: lengths 63, 64, 65, 127, 128, 129 × 13 hand-picked patterns (zeros, ones,
single ones at word boundaries, alternating, zero runs, two fixed constants), both variants. -/
theorem bounded_cpp_boundary : cppAgreeBoundary = true := cppAgreeBoundary_eq_true

/-! ### Non-vacuity: concrete non-trivial instances -/

example : BMCpp.lfsrLengthStr .portable [0x8f, 0xb3] 16 = some 8 := by decide +kernel
example : BMCpp.lfsrLengthStr .clmul [0x8f, 0xb3] 16 = some 8 := by decide +kernel
example : natOfBytes [0x8f, 0xb3] = 0b1011001110001111 := by decide +kernel
example : wordsOfBytes [1, 2, 3, 4, 5, 6, 7, 8, 9] = [0x0807060504030201, 0x09] := by decide +kernel
example : BMCpp.lfsrLengthStr .clmul [1, 2, 3, 4, 5, 6, 7, 8, 9, 10, 11, 12, 13, 14, 15, 16, 17] 130
    = some 68 := by decide +kernel
example : BMCpp.lfsrLengthStr .portable [1] 9 = some (-1) ∧ BMCpp.lfsrLengthStr .clmul [1] (-1) = some (-1) ∧
    BMCpp.lfsrLengthStr .clmul [] 0 = some 0 := by decide +kernel
example : clmul 0xFFFFFFFFFFFFFFFF 0xFFFFFFFFFFFFFFFF = (0x5555555555555555, 0x5555555555555555) := by
  decide +kernel
example : clMul 0b101 0b111 = 0b11011 := by decide +kernel
/-- a block in which the carry path is taken: 63 zero bits, then ones — `carry_c` is set. -/
example : (innerLoop 64 0 (Inner.mk 0x8000000000000000 0x8000000000000000 1 0 0 1 0 0 0)).carryC = 1 := by
  decide +kernel

end Paranoid.C14Cpp
