/-
Props/C05PermutedRegion.lean — C05, permuted limbs: which part of the family named by the property
the implementation covers, and a member of the family it does not (known finding D25).

The property: "… or is such a repetition [of a w-bit word, w in the default list] with adjacent
8/16/32/64-bit limbs swapped and an implied denominator of at most a tenth of the modulus length".
The default list contains the odd sizes 9, 11, 13, 15, 31, …; with 8-bit limbs the implied denominator
`D(8, ps) = (2^ps − 1)(2^(8·ps) + 1)/(2^8 + 1)` has `9·ps − 8` bits, which is at most a tenth of the
modulus length for `ps ∈ {9, 11}` at 1024 bits, `{9, 11, 13, 15}` at 2048 bits and also `31` from
2710 bits on. `CheckPermutedBitPatterns` enumerates `psize in range(3, wsize, 2)`: ONLY `ps < ws`.

 * `permuted_tried_region`   every denominator the check tries is `D(ws, ps)` with
                             `ws ∈ {8, 16, 32, 64}`, `3 ≤ ps < ws`, `ps` odd, of at most `bitLength n / 8`
                             bits (and by `C05Pre.permuted_enum` the enumeration stops at the first larger
                             one): `ps ≥ ws` is never tried;
 * `C05Permuted.permuted_is_fraction` / `permuted_sandwich` have NO hypothesis `ps < ws`: for `ps ≥ ws`
   they say that `D(ws, ps)` WOULD work — the check just never calls `CheckFraction(n, D(ws, ps))`;
 * `d25_witness`             kernel-checked data of the D25 replay input: `p` = the 11-bit word `0x5c4`
                             repeated over 512 bits, adjacent 8-bit limbs swapped, plus `δ = 6`; `n = p·q` has
                             1024 bits; `D(8, 11)` has 91 ≤ 102 = 1024/10 bits, 11 is in the default list, and
                             `D(8, 11)` is not among the seven denominators the check tries for this `n`;
 * `d25_would_be_factored`   with the basis the REAL `lll.reduce` returns for `CheckFraction(n, D(8, 11))`
                             the model's `checkFraction` returns `[p, q]`.
   On the real code (every run of `./check C05`): `CheckPermutedBitPatterns`, `CheckBitPatterns` and every
   other check of `CheckAllRSA` except `CheckSizes` (n < 2048 bits) pass this key. (`p`, `q` are prime by
   `gmpy2.is_prime`; no Pratt certificate — `p − 1`, `q − 1` are not factored.)

The harness gates (`always=True`) planted permuted-limb keys exactly in the intersection of the property
and the region of `permuted_tried_region` — `ws ∈ {8,16,32,64}`, `3 ≤ ps < ws` odd, `bitLength D ≤ bitlen/10`
— and plants `ps ≥ ws` keys as statistics + the fixed D25 probe.
-/
import ParanoidModel.Props.C05Permuted
namespace Paranoid.C05PermutedRegion
open Paranoid Paranoid.Permuted

/-- **The region the implementation covers.** Every denominator `CheckPermutedBitPatterns` tries for
`n` is `permutedDenominator ws ps` for a limb size `ws ∈ {8, 16, 32, 64}` and an ODD word size
`3 ≤ ps < ws`, and has at most `bitLength n / 8` bits. -/
theorem permuted_tried_region (n d : Nat) (hd : d ∈ permutedDenominators n) :
    ∃ ws ps, d = permutedDenominator ws ps ∧ ws ∈ [8, 16, 32, 64] ∧ 3 ≤ ps ∧ ps < ws ∧
      ps % 2 = 1 ∧ bitLength d ≤ bitLength n / 8 := by
  unfold permutedDenominators at hd
  obtain ⟨ws, hws, hd⟩ := List.mem_flatMap.mp hd
  have hp := List.all_eq_true.mp List.all_takeWhile _ hd
  obtain ⟨ps, hps, rfl⟩ := List.mem_map.mp ((List.takeWhile_sublist _).subset hd)
  obtain ⟨h3, hlt, hodd⟩ := (mem_oddRange ws ps).mp hps
  exact ⟨ws, ps, rfl, hws, h3, hlt, hodd, by simpa using hp⟩

/-- `ps ≥ ws` is outside every inner loop. -/
theorem not_tried_of_le (ws ps : Nat) (h : ws ≤ ps) : ps ∉ oddRange ws := fun hm =>
  absurd ((mem_oddRange ws ps).mp hm).2.1 (by omega)

/-- **D25 replay input, kernel-checked data.** -/
theorem d25_witness :
    ((0x97b8e2124b5c7189252eb8c412975ce2894b2e71c42597b8e2124b5c7189252eb8c412975ce2894b2e71c42597b8e2124b5c7189252eb8c412975ce2894b2e77 : Nat) : Int) =
      (swapLimbs 8 32 (periodicTop 0x5c4 11 (8 * (2 * 32))) : Int) + 6 ∧
    0x5c4 < 2 ^ 11 - 1 ∧ 11 ∈ defaultPatternSizes ∧
    bitLength (0x97b8e2124b5c7189252eb8c412975ce2894b2e71c42597b8e2124b5c7189252eb8c412975ce2894b2e71c42597b8e2124b5c7189252eb8c412975ce2894b2e77 *
      0xf5532e9c4b0e9e7f94b59db0f37b7afb56e12b56833ce1378b93983c4b978eaf18463b8a4d27667d9d1289458cc8678b093b5dd5f6e0ff055fb693a68c181f3b) = 1024 ∧
    8 * (2 * 32) = 1024 / 2 + 0 ∧
    bitLength (permutedDenominator 8 11) = 91 ∧ 91 ≤ 1024 / 10 ∧
    permutedDenominators
      (0x97b8e2124b5c7189252eb8c412975ce2894b2e71c42597b8e2124b5c7189252eb8c412975ce2894b2e71c42597b8e2124b5c7189252eb8c412975ce2894b2e77 *
       0xf5532e9c4b0e9e7f94b59db0f37b7afb56e12b56833ce1378b93983c4b978eaf18463b8a4d27667d9d1289458cc8678b093b5dd5f6e0ff055fb693a68c181f3b) =
      [permutedDenominator 8 3, permutedDenominator 8 5, permutedDenominator 8 7,
       permutedDenominator 16 3, permutedDenominator 16 5, permutedDenominator 16 7,
       permutedDenominator 32 3] ∧
    permutedDenominator 8 11 ∉
      [permutedDenominator 8 3, permutedDenominator 8 5, permutedDenominator 8 7,
       permutedDenominator 16 3, permutedDenominator 16 5, permutedDenominator 16 7,
       permutedDenominator 32 3] := by
  decide +kernel

/-- had the check tried `D(8, 11)`: with the basis the REAL `lll.reduce` returned for
`rsa_util.CheckFraction(n, D(8, 11))` (recorded; the real call factors `n`) the model's `checkFraction`
returns both primes — the conclusion of `C05Permuted.permuted_sandwich` is realised for `ps = 11 ≥ ws = 8`. -/
theorem d25_would_be_factored :
    checkFraction
      (0x97b8e2124b5c7189252eb8c412975ce2894b2e71c42597b8e2124b5c7189252eb8c412975ce2894b2e71c42597b8e2124b5c7189252eb8c412975ce2894b2e77 *
       0xf5532e9c4b0e9e7f94b59db0f37b7afb56e12b56833ce1378b93983c4b978eaf18463b8a4d27667d9d1289458cc8678b093b5dd5f6e0ff055fb693a68c181f3b)
      [[-31942667489936235548505282889080759639846273903503605760,
        3617121591802001523841156419613308708282048483591979008,
        -147086432492208993109739761650741666017084444563871213935],
       [15758417443516099850130965762803664170081848581020064706291650289776143106048,
        -7262842943458159666217887387075994085101845025268916404931909292447041060864,
        -3600851999878026700443048727429638295692711802241991492518944812743481862458],
       [-18968774109118538695401173622818529937320000880745234893528070887768890277888,
        -25100397546220490382059740735317001187086823275066651010757405572878475198464,
        3502172466922278923243781351383671686655785588043939388325051034523650693307]] =
      .ok [0x97b8e2124b5c7189252eb8c412975ce2894b2e71c42597b8e2124b5c7189252eb8c412975ce2894b2e71c42597b8e2124b5c7189252eb8c412975ce2894b2e77,
           0xf5532e9c4b0e9e7f94b59db0f37b7afb56e12b56833ce1378b93983c4b978eaf18463b8a4d27667d9d1289458cc8678b093b5dd5f6e0ff055fb693a68c181f3b] := by
  decide +kernel

end Paranoid.C05PermutedRegion
