/-
Props/C18.lean — "Checks are total on well-formed batches".

RSA single checks (per-key verdict functions of Model/RsaChecks.lean): none of them raises, for
EVERY modulus, every constructor parameter and every oracle answer of the right shape. The
internal `raise ArithmeticError("expecting that square root exists")` of
FactorHighAndLowBitsEqual is unreachable. Batch level: BatchGCD / CheckGCD / CheckGCDN1 never
raise on positive moduli (C03, incl. the empty batch after `fix:` D1); the bookkeeping layer
never raises on fresh artefacts (C16). EC arithmetic: Add / Double / Subtract are total for every
integer coordinates (C11 `add_double_total`, after `fix:` D3).
-/
import ParanoidModel.Proofs.Totality
import ParanoidModel.Proofs.HlbeComplete
import ParanoidModel.Props.C03
import ParanoidModel.Props.C10
import ParanoidModel.Props.C02S
namespace Paranoid.C18
open Paranoid

/-- `CheckFermat`: a total function (no `Except` in its model). -/
theorem fermat_total (n steps : Nat) : ∃ v, vFermat n steps = v := ⟨_, rfl⟩

/-- `CheckHighAndLowBitsEqual` never raises; in particular the `ArithmeticError` branch and
the `None % 2` TypeError inside `Inverse2exp(InverseSqrt2exp(...))` are unreachable. -/
theorem hlbe_total (n mb : Nat) : ∃ v, vHlbe n mb = .ok v := by
  obtain ⟨r, hr⟩ := Paranoid.hlbe_total n mb
  unfold vHlbe
  rw [hr]
  split
  · simp at *
  · exact ⟨_, rfl⟩
  · exact ⟨_, rfl⟩

theorem cf_total (n bound : Nat) : ∃ v, vCf n bound = .ok v := by
  unfold vCf checkContinuedFraction
  obtain ⟨⟨ok, fs⟩, h⟩ := cfCheckLoop_ok n (2 ^ (bitLength n / 2)) bound (Nat.two_pow_pos _).ne'
    (continuedFraction n (2 ^ bitLength n))
  rw [h]
  simp only
  split <;> exact ⟨_, rfl⟩

theorem bitPatterns_total (n : Nat) (ps : List Nat) (red : Nat → List (List Int))
    (hred : RedWF red) : ∃ v, vBitPatterns n ps red = .ok v :=
  vBitPatterns_eq n ps red ▸ tryDenominators_ok n red hred _

theorem permuted_total (n : Nat) (red : Nat → List (List Int)) (hred : RedWF red) :
    ∃ v, vPermuted n red = .ok v := vPermuted_eq n red ▸ tryDenominators_ok n red hred _

theorem sud_total (n cbrt : Nat) (hn : 0 < n) : ∃ v, vSud n cbrt = .ok v := by
  unfold vSud checkSmallUpperDifferences
  dsimp only
  split
  · rename_i e h
    split at h
    · simp at h
    · obtain ⟨r, hr⟩ := sudLoop_ok n cbrt hn (sudDifferences ((bitLength n + 1) / 2))
      rw [hr] at h; simp at h
  · exact ⟨_, rfl⟩
  · exact ⟨_, rfl⟩

theorem unseeded_total (n cbrt : Nat) (cands : List Nat) (h : ∀ c ∈ cands, c ≠ 0) :
    ∃ v, vUnseeded n cbrt cands = .ok v := unseededLoop_ok n cbrt cands h

/-- shared-factor checks never raise on positive moduli, including the empty batch. -/
theorem checkGCD_total (ns : List Nat) (hpos : ∀ n ∈ ns, 0 < n) : ∃ r, checkGCD ns = .ok r :=
  ⟨_, C03.checkGCD_spec ns hpos⟩

theorem checkGCDN1_total (bound : Nat) (ns : List Nat) (hpos : ∀ n ∈ ns, 2 ≤ n) :
    ∃ r, checkGCDN1 bound ns = .ok r := ⟨_, C03.checkGCDN1_spec bound ns hpos⟩

/-! ### EC keys -/

section ec
open Paranoid.Ec Paranoid.Bsgs

/-- `CheckWeakECPrivateKey` on a batch with any mixture of curve ids incl. unknown / binary-field
ones whose keys on known curves are ON the curve and whose `_table` states are reachable (`WKHyp`)
returns one verdict per key and never raises. WITHOUT these two hypotheses (any coordinates, any
table): `C18Ec.weakECPrivateKey_total_any`. -/
theorem weakECPrivateKey_total (f : Bsgs.Factory) (sts : List EcState) (orc : List (Nat × Nat))
    (keys : List ECKey) (hnd : (f.map (·.id)).Nodup) (hh : WKHyp keys f sts orc) :
    ∃ res sts', checkWeakECPrivateKey f sts orc keys = .ok (res, sts') ∧ res.length = keys.length := by
  obtain ⟨res, sts', h1, h2, _⟩ := C10.checkWeakECPrivateKey_spec f sts orc keys hnd hh
  exact ⟨res, sts', h1, h2⟩

/-- `CheckECKeySmallDifference` under `SDHyp` (keys on known curves on the curve AND reduced,
reachable tables). Without these hypotheses: `C18Ec.smallDifference_total_any`. -/
theorem smallDifference_total (f : Bsgs.Factory) (sts : List EcState) (ms : List Nat)
    (keys : List ECKey) (maxDiff : Nat) (hnd : (f.map (·.id)).Nodup)
    (hh : SDHyp keys maxDiff f sts ms) :
    ∃ res sts', checkECKeySmallDifference f sts ms keys maxDiff = .ok (res, sts') ∧
      res.length = keys.length := by
  obtain ⟨res, sts', h1, h2, _⟩ := C10.checkECKeySmallDifference_spec f sts ms keys maxDiff hnd hh
  exact ⟨res, sts', h1, h2⟩

end ec

/-! ### ECDSA signatures -/

section ecdsa
open Paranoid.EcdsaChecks

/-- the CHECK LAYER of the nonce / LCG / U2F checks (solver calls are answer oracles) never raises
when `s` is invertible modulo the order of the signature's curve (`r, s ∈ [1, n-1]` with `n` prime:
`C02S.wf_of_range`) — any hash length, any issuer key (invalid, unreduced, `(0,0)`), any curve id,
any batch size, any solver answers; `r` is unconstrained only because exceptions raised inside a
solver are outside this model (`Cr50U2fGuesses` raises ZeroDivisionError for `r ≡ 0 (mod n)`).
Composed with the solver models under `r, s ∈ [1, n-1]`: `C18Ec.sig_checks_solver_total`. -/
theorem sig_checks_total (k : Kind) (O : Nat → GroupOracle) (factory : EcdsaChecks.Factory)
    (arts : List Sig) (hF : FactoryOK factory) (hcons : UniqConsistent O arts factory)
    (hwf : k ≠ .cr50 → ∀ s ∈ arts, ∀ obj, (s.curve, some obj) ∈ factory →
      Int.gcd (bytes2int s.s : Int) obj.curve.n = 1) :
    ∃ res, check k O factory arts = .ok res :=
  C02S.check_total k O factory arts hF hcons hwf

end ecdsa

end Paranoid.C18
