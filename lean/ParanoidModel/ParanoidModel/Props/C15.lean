/-
Props/C15.lean — "Bit-sequence primitives match their definitions for every string and length".
Property theorems only; helper lemmas live in Proofs/BitSeq/*.lean, the one-line definitions in
Spec/BitDefs.lean, the executable model of randomness_tests/util.py in Model/BitSeq.lean.

A bit string is a natural number `seq` together with a length `n`; bit `i` is `seq.testBit i`,
bit 0 is the first bit.  "Well-formed" means `seq < 2^n`.  Every statement is universally
quantified: no bound on the string, its length or the parameter.
-/
import ParanoidModel.Proofs.BitSeq
namespace Paranoid.C15
open Paranoid Paranoid.BitSeq Paranoid.BitDefs

/-! ### population count -/

/-- BitCount: `bitCount s = Σ_{i<n} bit i` for every `n` that bounds the bit length. -/
theorem bitCount_def (s n : Nat) (h : s < 2 ^ n) : bitCount s = popcountDef s n := by
  rw [popcountDef_eq_pc]; exact bitCount_eq_pc s n h

/-! ### runs -/

/-- Runs: the popcount of `s ^ (s >> 1)` with the leading-zero correction is the number of
maximal constant blocks of the `n`-bit string, for every well-formed string (including `n = 0`). -/
theorem runs_def (s n : Nat) (h : s < 2 ^ n) : runs s n = runsDef s n := by
  unfold runs runsDef
  cases n with
  | zero =>
    have : s = 0 := by simpa using h
    subst this
    simp [bitsOf, blockCount, bitCount, bitCountAux, bitLength]
  | succ n =>
    have hx : s ^^^ (s >>> 1) < 2 ^ (n + 1) := by
      apply Nat.xor_lt_two_pow h
      rw [Nat.shiftRight_eq_div_pow]
      exact Nat.lt_of_le_of_lt (Nat.div_le_self _ _) h
    rw [bitCount_eq_pc _ _ hx, blockCount_bitsOf, pc, pc_xor_shift]
    have htop : s.testBit (n + 1) = false := Nat.testBit_lt_two_pow h
    have hsh : (s >>> n = 0) ↔ s.testBit n = false := by
      have h2 : s >>> n < 2 := by
        rw [Nat.shiftRight_eq_div_pow, Nat.div_lt_iff_lt_mul (Nat.two_pow_pos n)]
        rw [Nat.pow_succ] at h; omega
      have hq : s.testBit n = decide ((s >>> n) % 2 = 1) := by
        rw [Nat.testBit_eq_decide_div_mod_eq, Nat.shiftRight_eq_div_pow]
      rw [hq]
      generalize s >>> n = q at h2
      constructor
      · intro h0; simp [h0]
      · intro h0; simp at h0; omega
    simp only [Nat.testBit_xor, Nat.testBit_shiftRight, Nat.add_comm 1 n, htop, Nat.add_sub_cancel,
      ne_eq, Nat.succ_ne_zero, not_false_eq_true, true_and]
    cases hb : s.testBit n
    · simp [hsh.2 hb]; omega
    · have : ¬ s >>> n = 0 := fun h0 => by rw [hsh.1 h0] at hb; cases hb
      simp [this]; omega

/-- the block count of the definition is the number of groups of equal adjacent bits
(`List.splitBy`). -/
theorem runsDef_eq_groups (s n : Nat) : runsDef s n = ((bitsOf s n).splitBy (· == ·)).length :=
  blockCount_eq_splitBy _

/-- LongestRunOfOnes: doubling followed by binary refinement returns the length of the longest
run of ones, for every `seq`. -/
theorem longestRunOfOnes_def (seq : Nat) : IsLongestRun seq (longestRunOfOnes seq) := by
  unfold longestRunOfOnes
  split
  · rename_i h0
    subst h0
    refine isLongestRun_of _ _ ⟨0, fun j hj => absurd hj (Nat.not_lt_zero j)⟩ ?_
    rintro ⟨i, hi⟩
    have := hi 0 Nat.one_pos
    rw [Nat.zero_testBit] at this
    cases this
  · rename_i h0
    have hB := lt_two_pow_bitLength seq
    obtain ⟨e, d4, d1, d2, d3⟩ := lrDouble_spec seq (bitLength seq) hB (bitLength seq + 1) 0 seq
      (by omega) (isRunAnd_one seq) h0
    generalize lrDouble (bitLength seq + 1) seq (2 ^ 0) = r at *
    obtain ⟨s, lr⟩ := r
    dsimp only at d1 d2 d3 d4 ⊢
    subst d4
    cases e with
    | zero =>
      rw [show 2 ^ 0 / 2 = 0 by decide, lrRefine_zero]
      exact isLongestRun_of _ _ (d1.ne_zero_iff.1 d2) d3
    | succ e =>
      -- the run `f_lr seq ≠ 0` bounds `lr = 2^(e+1)` by the bit length: the fuel suffices
      have hfuel : e < bitLength seq + 1 := by
        have := hasRun_le_of_lt seq _ _ hB (d1.ne_zero_iff.1 d2)
        have := @Nat.lt_two_pow_self (e + 1)
        omega
      rw [show 2 ^ (e + 1) / 2 = 2 ^ e by rw [Nat.pow_succ, Nat.mul_div_cancel _ (by decide)]]
      obtain ⟨r1, r2⟩ := lrRefine_spec seq e _ s _ hfuel d1 d2
        (Nat.pow_le_pow_right (by decide) (Nat.le_succ e))
        (by rwa [← Nat.two_mul, ← Nat.pow_succ'])
      exact isLongestRun_of _ _ r1 r2

/-- the longest-run length is unique, so `longestRunOfOnes_def` pins the value down. -/
theorem longestRun_unique (seq k k' : Nat) (h : IsLongestRun seq k) (h' : IsLongestRun seq k') :
    k = k' := Nat.le_antisymm (h'.2 k h.1) (h.2 k' h'.1)

/-- OverlappingRunsOfOnes: for `m ≥ 1` the result is the number of positions at which `m`
consecutive ones start (`n` any bound on the bit length). -/
theorem overlappingRunsOfOnes_def (s m n : Nat) (hm : 1 ≤ m) (h : s < 2 ^ n) :
    overlappingRunsOfOnes s m = .ok (overlapDef s m n) := by
  unfold overlappingRunsOfOnes
  have hr := orLoop_spec s m s (m - 1) 1 1 (isRunAnd_one s) (Nat.le_refl _) (Or.inr (Nat.le_refl _))
    (Nat.sub_le _ _)
  rw [Nat.add_sub_cancel' hm] at hr
  rw [if_neg (Nat.ne_of_gt hm), bitCount_eq_pc _ n (hr.lt_two_pow hm h), hr.pc_eq]
  rfl

/-- `m = 0` makes Python shift by `-1`: ValueError. -/
theorem overlappingRunsOfOnes_zero (s : Nat) : overlappingRunsOfOnes s 0 = .error .valueError := rfl

/-! ### bit reversal and ±1 expansion -/

/-- ReverseBits, every input: OverflowError exactly when `seq` does not fit into `⌈n/8⌉` bytes,
otherwise bit `i` of the result is bit `n-1-i` of `seq` for `i < n` and nothing else is set
(garbage bits of `seq` inside the last byte are dropped). -/
theorem reverseBits_def (seq n : Nat) :
    (bitLength seq > 8 * ((n + 7) / 8) ∧ reverseBits seq n = .error .overflow) ∨
    (bitLength seq ≤ 8 * ((n + 7) / 8) ∧ reverseBits seq n = .ok (reverseDef seq n)) := by
  unfold reverseBits
  by_cases h : bitLength seq > 8 * ((n + 7) / 8)
  · exact Or.inl ⟨h, by rw [if_pos h]⟩
  · refine Or.inr ⟨Nat.le_of_not_lt h, ?_⟩
    rw [if_neg h]
    congr 1
    apply eq_ofBits
    intro j
    rw [Nat.testBit_shiftRight, testBit_revBytesBE, ← pad_add n]
    simp only [Nat.add_lt_add_iff_left]
    generalize (8 - n % 8) % 8 = pad
    by_cases hj : j < n
    · rw [show pad + n - 1 - (pad + j) = n - 1 - j by omega]
    · rw [decide_eq_false hj, Bool.false_and, Bool.false_and]

/-- for a well-formed string there is no error. -/
theorem reverseBits_wf (seq n : Nat) (h : seq < 2 ^ n) :
    reverseBits seq n = .ok (reverseDef seq n) := by
  have hb := (lt_two_pow_iff_bitLength_le seq n).1 h
  rcases reverseBits_def seq n with ⟨h1, _⟩ | ⟨_, h2⟩
  · omega
  · exact h2

/-- bit `i` of the reversal is bit `n-1-i`. -/
theorem reverseDef_testBit (seq n i : Nat) :
    (reverseDef seq n).testBit i = (decide (i < n) && seq.testBit (n - 1 - i)) :=
  testBit_ofBits _ n i

/-- Bits (with fixes/D15-bits-empty.diff): the ±1 expansion of every well-formed string of every
length, including the empty one. -/
theorem bits_def (seq n : Nat) (h : seq < 2 ^ n) : bits seq n = bitsDef seq n := by
  have := (lt_two_pow_iff_bitLength_le seq n).1 h
  unfold bits bitsDef
  split
  · subst_vars; rfl
  · rw [bitsPinned_eq, show max n (max 1 (bitLength seq)) = n by omega]

/-- `Bits` before fix 77d0260 (`bitsPinned`) agrees with the definition for every length except 0 … -/
theorem bitsPinned_def_pos (seq n : Nat) (hn : 0 < n) (h : seq < 2 ^ n) :
    bitsPinned seq n = bitsDef seq n := by
  have := bits_def seq n h
  unfold bits at this
  rwa [if_neg (by omega)] at this

/-- … and violates it for the empty bit string (D15): `Bits(0, 0) = [-1]`. -/
theorem bits_pinned_fails : ¬ (bitsPinned 0 0 = bitsDef 0 0) := by decide +kernel

/-! ### block splitting and interleaved scattering -/

/-- SplitSequence, every input (also strings longer or shorter than `n`): block `i` is
`(seq >>> (i*m)) % 2^m`, `i < n / m`; `m = 0` raises ZeroDivisionError. -/
theorem splitSequence_def (seq n m : Nat) :
    splitSequence seq n m = if m = 0 then .error .zeroDivision else .ok (splitDef seq n m) := by
  unfold splitSequence splitDef
  split
  · rfl
  · split
    · rename_i h8; rw [splitFast_eq seq _ m h8]
    · rw [splitSlow_eq]

/-- the byte-aligned fast path (taken when `8 ∣ m`) computes the blocks. -/
theorem splitFast_def (seq k m : Nat) (h8 : m % 8 = 0) (hm : m ≠ 0) :
    splitFast seq k m = (List.range k).map (fun i => (seq >>> (i * m)) % 2 ^ m) :=
  splitFast_eq seq k m h8

/-- the general path computes the blocks for every `m` … -/
theorem splitSlow_def (seq k m : Nat) :
    splitSlow seq k m = (List.range k).map (fun i => (seq >>> (i * m)) % 2 ^ m) :=
  splitSlow_eq seq k m

/-- … so both paths agree wherever the fast one is chosen. -/
theorem split_paths_agree (seq k m : Nat) (h8 : m % 8 = 0) (hm : m ≠ 0) :
    splitFast seq k m = splitSlow seq k m := by
  rw [splitFast_def seq k m h8 hm, splitSlow_def]

/-- Scatter, every input: `m = 0` raises ZeroDivisionError; otherwise `m` streams, stream `i`
holding exactly the bits `i, i+m, i+2m, …` (both the short-input and the string-slicing branch). -/
theorem scatter_def (seq m : Nat) :
    (m = 0 ∧ scatter seq m = .error .zeroDivision) ∨
    (0 < m ∧ ∃ res, scatter seq m = .ok res ∧ IsScatter seq m res) := by
  unfold scatter
  by_cases h0 : m = 0
  · subst h0
    exact Or.inl ⟨rfl, by simp⟩
  · refine Or.inr ⟨Nat.pos_of_ne_zero h0, ?_⟩
    split
    · rename_i hlt
      refine ⟨_, rfl, by simp, ?_⟩
      intro i hi t
      simp only [List.getElem_map, List.getElem_range]
      rw [show (1 : Nat) = 2 ^ 1 - 1 by rfl, Nat.and_two_pow_sub_one_eq_mod, Nat.testBit_mod_two_pow,
        Nat.testBit_shiftRight]
      cases t with
      | zero => simp
      | succ t =>
        rw [testBit_of_bitLength_le _ _ (Nat.le_trans (Nat.le_of_lt hlt)
          (Nat.le_trans (Nat.le_mul_of_pos_right m (Nat.succ_pos t)) (Nat.le_add_left _ _)))]
        simp
    · rename_i hge
      refine ⟨_, rfl, by simp, ?_⟩
      intro i hi t
      simp only [List.getElem_map, List.getElem_range]
      exact testBit_scatterCol seq m i (by simpa using hi) (Nat.le_of_not_lt hge) t

/-! ### sub-sequences and pattern frequencies -/

/-- the window of the definitions is the shift-and-mask expression. -/
theorem window_def (s m i : Nat) : window s m i = (s >>> i) % 2 ^ m := window_eq s m i

/-- SubSequences without wrap-around yields the windows at positions `0 … n-m`, in order. -/
theorem subSequences_nowrap_def (seq n m : Nat) (h : seq < 2 ^ n) (hm1 : 1 ≤ m) (hm : m ≤ n) :
    subSequences seq n m false = .ok (subSeqDef seq n m false) := by
  unfold subSequences
  rw [if_neg (by omega), if_neg (by have := (lt_two_pow_iff_bitLength_le seq n).1 h; omega),
    if_neg (by omega)]
  simp only [Bool.false_eq_true, if_false]
  obtain ⟨p, hp, hp8, hpm⟩ := exists_pad m
  have h0 : bytesSlice seq 0 ((m + 7) / 8) = ((seq <<< m) >>> m) % 2 ^ (m + p) := by
    rw [Nat.shiftLeft_shiftRight, ← hpm]; rfl
  rw [h0, subSeqLoop_spec seq m (seq <<< m) (Nat.shiftLeft_shiftRight _ _) (n - m) m p _ hp hp8,
    Nat.shiftLeft_shiftRight, Nat.and_two_pow_sub_one_eq_mod,
    mod_mod_two_pow _ (Nat.le_add_right m p)]
  unfold subSeqDef
  simp only [Bool.false_eq_true, if_false]
  rw [List.range_succ_eq_map, List.map_cons, List.map_map, window_eq, Nat.shiftRight_zero,
    List.singleton_append]
  congr 2
  apply List.map_congr_left
  intro t _
  simp only [Function.comp, Nat.succ_eq_add_one]
  rw [window_eq, Nat.add_assoc, Nat.shiftRight_add, Nat.shiftLeft_shiftRight, Nat.add_comm]

/-- SubSequences with wrap-around yields every cyclic window exactly once (the code documents the
order as unspecified; it is a rotation of the start positions). -/
theorem subSequences_wrap_def (seq n m : Nat) (h : seq < 2 ^ n) (hm1 : 1 ≤ m) (hm : m ≤ n) :
    ∃ l, subSequences seq n m true = .ok l ∧ l.Perm (subSeqDef seq n m true) := by
  refine ⟨_, subSequences_wrap_vwin seq n m h hm1 hm, ?_⟩
  rw [List.perm_iff_count]
  intro p
  rw [subSeqDef, if_pos rfl, count_map_range, count_map_range]
  exact count_vstream_windows seq n m m 1 p h hm (Nat.le_refl m) (Nat.le_refl 1)

/-- the three ValueErrors of SubSequences. -/
theorem subSequences_errors (seq n m : Nat) (wrap : Bool)
    (h : m = 0 ∨ bitLength seq > n ∨ m > n) : subSequences seq n m wrap = .error .valueError := by
  unfold subSequences
  by_cases h1 : m = 0
  · rw [if_pos h1]
  · rw [if_neg h1]
    by_cases h2 : bitLength seq > n
    · rw [if_pos h2]
    · rw [if_neg h2, if_pos (by omega)]

/-- FrequencyCount, slow path: entry `p` is `#{i | window i = p}` — over the `n` cyclic start
positions with wrap-around (every `m ≤ n`), over the `n-m+1` fitting positions without
(`1 ≤ m ≤ n`), for every well-formed string. -/
theorem frequencyCountSlow_def (seq n m : Nat) (wrap : Bool) (h : seq < 2 ^ n) (hm : m ≤ n)
    (hm1 : wrap = false → 1 ≤ m) :
    frequencyCountSlow seq n m wrap =
      .ok ((List.range (2 ^ m)).map (fun p => (freqDef seq n m wrap p : Int))) := by
  unfold frequencyCountSlow
  rw [fcGuard_none seq n m h hm]
  obtain ⟨s1, s2⟩ := fcSlowCore_spec seq n m h hm
  exact congrArg Except.ok (fcFinish_spec seq n m wrap _ h hm hm1 s1 s2)

/-- FrequencyCount, 4-bit-stride fast path (`m+3`-bit tallies): the same values, wherever the
path is defined (`m + 3 ≤ n`). -/
theorem frequencyCountFast_def (seq n m : Nat) (wrap : Bool) (h : seq < 2 ^ n) (hm3 : m + 3 ≤ n)
    (hm1 : wrap = false → 1 ≤ m) :
    frequencyCountFast seq n m wrap =
      .ok ((List.range (2 ^ m)).map (fun p => (freqDef seq n m wrap p : Int))) := by
  unfold frequencyCountFast
  rw [fcGuard_none seq n m h (by omega)]
  obtain ⟨res, hres, s1, s2⟩ := fcFastCore_spec seq n m h hm3
  rw [hres]
  exact congrArg Except.ok (fcFinish_spec seq n m wrap res h (by omega) hm1 s1 s2)

/-- the fast path gives the same answer as the slow path. -/
theorem frequencyCount_paths_agree (seq n m : Nat) (wrap : Bool) (h : seq < 2 ^ n)
    (hm3 : m + 3 ≤ n) (hm1 : wrap = false → 1 ≤ m) :
    frequencyCountFast seq n m wrap = frequencyCountSlow seq n m wrap := by
  rw [frequencyCountFast_def seq n m wrap h hm3 hm1,
    frequencyCountSlow_def seq n m wrap h (by omega) hm1]

/-- FrequencyCount as the code runs it (path chosen by `50 * 2^m < n ∧ m < 24`). -/
theorem frequencyCount_def (seq n m : Nat) (wrap : Bool) (h : seq < 2 ^ n) (hm : m ≤ n)
    (hm1 : wrap = false → 1 ≤ m) :
    frequencyCount seq n m wrap =
      .ok ((List.range (2 ^ m)).map (fun p => (freqDef seq n m wrap p : Int))) := by
  unfold frequencyCount
  split
  · rename_i hf
    exact frequencyCountFast_def seq n m wrap h (fast_guard_le n m hf) hm1
  · exact frequencyCountSlow_def seq n m wrap h hm hm1

/-- `m > n` raises ValueError on either path. -/
theorem frequencyCount_too_long (seq n m : Nat) (wrap : Bool) (h : m > n) :
    frequencyCount seq n m wrap = .error .valueError := by
  unfold frequencyCount frequencyCountFast frequencyCountSlow fcGuard
  simp [h]

/-- the empty pattern without wrap-around is outside the domain of the theorems above: the code
returns the wrap-around tally `[n]` (the correction loop `range(1, m)` is empty), whereas the
empty window fits at `n + 1` positions. Recorded, not claimed. -/
theorem frequencyCount_empty_pattern_nowrap (seq n : Nat) :
    frequencyCount seq n 0 false = frequencyCount seq n 0 true := by
  unfold frequencyCount frequencyCountFast frequencyCountSlow fcFinish
  have : ∀ res, fcUnwrap seq n 0 res = res := fun res => by simp [fcUnwrap]
  simp [this]

/-! ### binary matrix rank -/

/-- `_BinaryMatrixRankSmall`: `2^rank` is the number of distinct GF(2)-linear combinations of the
rows, for every matrix (empty, zero, rank-deficient, any shape). -/
theorem rankSmall_def (rows : List Nat) : 2 ^ rankSmall rows = spanSize rows := rankSmall_spec rows

/-- a negative row raises ValueError. -/
theorem binaryMatrixRank_negative (rows : List Int) (h : rows.any (· < 0) = true) :
    binaryMatrixRank rows = .error .valueError := by
  unfold binaryMatrixRank; rw [if_pos h]

/-- `_BinaryMatrixRankLarge` (table-driven elimination of several columns at once): it never
raises — no table entry is `None` or out of range when read, no loop runs out of fuel — and
`2^rank` is the number of distinct GF(2)-linear combinations of the rows, for every matrix. -/
theorem rankLarge_def (rows : List Nat) :
    ∃ r, rankLarge rows = .ok r ∧ 2 ^ r = spanSize rows := by
  unfold rankLarge
  cases rows with
  | nil => exact ⟨0, rfl, by decide⟩
  | cons x rest =>
    rw [if_neg (by simp), spanSize_eq_card]
    exact rankRounds_spec (spanSet (x :: rest)) (x :: rest).length _ (one_le_rankStep _)
      _ _ [] (x :: rest) [] (Nat.le_refl _)
      ⟨(Nat.zero_add _).symm, fun z hz => (lt_two_pow_iff_bitLength_le z _).2 (le_maxBitLength _ z hz),
        trivial, by simp, rfl⟩

/-- the table-driven path gives the same answer as the simple elimination, for every matrix
(whatever the row count, i.e. on both sides of the 50-row threshold and of every `step` threshold). -/
theorem rankLarge_eq_rankSmall (rows : List Nat) : rankLarge rows = .ok (rankSmall rows) := by
  obtain ⟨r, h1, h2⟩ := rankLarge_def rows
  rw [h1]
  have : 2 ^ r = 2 ^ rankSmall rows := by rw [h2, rankSmall_spec]
  rw [Nat.pow_right_injective (Nat.le_refl 2) this]

/-- BinaryMatrixRank, every matrix of non-negative rows, whichever path the size selects. -/
theorem binaryMatrixRank_def (rows : List Nat) :
    ∃ r, binaryMatrixRank (rows.map Int.ofNat) = .ok r ∧ 2 ^ r = spanSize rows := by
  refine ⟨rankSmall rows, ?_, rankSmall_spec rows⟩
  unfold binaryMatrixRank
  have h1 : (rows.map Int.ofNat).any (· < 0) = false := by
    simp only [List.any_eq_false, List.mem_map]
    rintro x ⟨y, _, rfl⟩
    simp
  have h2 : (rows.map Int.ofNat).map Int.toNat = rows := by
    rw [List.map_map]; conv => rhs; rw [← List.map_id rows]
    apply List.map_congr_left; intro a _; rfl
  simp only [h1, List.length_map, h2, Bool.false_eq_true, if_false]
  split
  · rfl
  · exact rankLarge_eq_rankSmall rows

/-- BinaryMatrixRank on fewer than 50 non-negative rows returns that rank. -/
theorem binaryMatrixRank_small_def (rows : List Nat) (h : rows.length < 50) :
    ∃ r, binaryMatrixRank (rows.map Int.ofNat) = .ok r ∧ 2 ^ r = spanSize rows :=
  binaryMatrixRank_def rows

/-! ### non-vacuity: the hypotheses are met by concrete non-trivial inputs, and the model
computes the expected values on them -/

example : (0b1011001110 : Nat) < 2 ^ 10 ∧ bitCount 0b1011001110 = 6 := by decide +kernel
example : runs 0b1011001110 10 = 6 ∧ runsDef 0b1011001110 10 = 6 := by decide +kernel
example : runs 0b0011001110 10 = 5 ∧ runsDef 0b0011001110 10 = 5 := by decide +kernel
example : longestRunOfOnes 0b111011111101111 = 6 := by decide +kernel
example : overlappingRunsOfOnes 0b011101111100 3 = .ok 4 ∧ overlapDef 0b011101111100 3 12 = 4 := by
  decide +kernel
example : reverseBits 0b1101 4 = .ok 0b1011 ∧ reverseDef 0b1101 4 = 0b1011 := by decide +kernel
example : reverseBits 0x1ff 8 = .error .overflow := by decide +kernel
example : bits 0b01101 5 = [1, -1, 1, 1, -1] ∧ bits 0 0 = [] := by decide +kernel
example : splitSequence 0b110100101101 12 3 = .ok [0b101, 0b101, 0b100, 0b110] := by decide +kernel
example : splitSequence 0xabcdef 24 8 = .ok [0xef, 0xcd, 0xab] := by decide +kernel
example : scatter 0b110100101101 3 = .ok [0b0011, 0b1000, 0b1111] := by decide +kernel
example : subSequences 0b1101 4 2 false = .ok [1, 2, 3] := by decide +kernel
example : subSequences 0b1101 4 2 true = .ok [3, 1, 2, 3] ∧
    subSeqDef 0b1101 4 2 true = [1, 2, 3, 3] := by decide +kernel
example : frequencyCountSlow 0b1101 4 2 true = .ok [0, 1, 1, 2] ∧
    frequencyCountSlow 0b1101 4 2 false = .ok [0, 1, 1, 1] := by decide +kernel
example : frequencyCountFast 0b110100101101 12 2 true = frequencyCountSlow 0b110100101101 12 2 true ∧
    frequencyCountFast 0b110100101101 12 2 false = .ok [1, 4, 4, 2] := by decide +kernel
example : fcUseFast 51 0 = true ∧ fcUseFast 50 0 = false ∧ fcUseFast 401 3 = true := by decide +kernel
example : rankSmall [0b110, 0b011, 0b101] = 2 ∧ spanSize [0b110, 0b011, 0b101] = 4 := by
  decide +kernel
example : rankLarge [0b110, 0b011, 0b101, 0, 0b1000] = .ok 3 := by decide +kernel

end Paranoid.C15
