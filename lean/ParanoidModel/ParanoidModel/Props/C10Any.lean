/-
Props/C10Any.lean — C10 "Small and structured discrete logarithms are always found", clauses 1 and 2
"for every batch": the statements about a key need THAT key on its curve (and reduced), not its
neighbours (`C10.checkWeakECPrivateKey_spec` assumes `WKHyp` — ALL keys of the batch on known
curves are on the curve).

Real code (harness/corr/c18ec.py, tag `valid-among-degenerate`): a structured key between the keys
`(1, p)`, `(0,0)`, `(5,7)`, `(x, y+1)`, `(2^600, 2^600+1)`, `(p, p)` of the same curve is flagged with
its private key; a close pair among them is flagged with relations naming each other.

NOT generalised here: `CheckECKeySmallDifference` completeness and the truth of the recorded
`DISCRETE_LOG_DIFF` relation (C02 clause 3) are proved only when every key of the curve group is
on the curve and reduced (`C10.checkECKeySmallDifference_spec`, `SDHyp`); with degenerate neighbours
they are search-level (the tag above).
-/
import ParanoidModel.Proofs.EcTotalComplete
import ParanoidModel.Proofs.EcTotalAll
import ParanoidModel.Props.C16EcAll
namespace Paranoid.C10Any
open Paranoid Paranoid.Ec Paranoid.Bsgs WeierstrassCurve

/-- ★ `BatchDL(points, n)` on ANY list of points (valid curve object, a table state satisfying the
table invariant, `table_size ≥ 1`): it returns, and for every entry whose point is on the curve,
reduced and equal to `x • G` with `x < n`, a value `v` with `v • G = P` is returned (`v = x` under the
no-wrap condition) — whatever the other points are. -/
theorem batchDL_every_list (c : Curve) [Fact (Nat.Prime c.p)] (hc : c.Good)
    (hG : onCurve c c.g = true) (hGr : Reduced c c.g) (st : EcState) (V : Nat)
    (hst : StateOK c st V) (points : List Pt) (n ts m : Nat) (hts : 1 ≤ ts)
    (hm : st.tableSize < ts → 1 ≤ m) :
    ∃ res st', batchDL c st points n ts m = .ok (res, st') ∧
      StateOK c st' (rangeAfter st V ts m) ∧ st'.tableSize = max st.tableSize ts ∧
      (ts ≤ st.tableSize → st' = st) ∧
      List.Forall₂ (fun P r => ∀ x : Nat, onCurve c P = true → Reduced c P → x < n →
        toPoint c P = x • Gp c →
        ∃ v : Int, r = some v ∧ v • Gp c = toPoint c P ∧
          (addOrderOf (Gp c) = c.n → 2 * n + (2 * ts - 1) + rangeAfter st V ts m ≤ c.n → v = (x : Int)))
        points res :=
  batchDL_complete_any c hc hG hGr st V hst points n ts m hts hm

/-- ★ `CheckWeakECPrivateKey.Check` on EVERY batch: valid curve objects with distinct ids, reachable
`_table` states, float oracles `≥ 1` for the non-empty groups (`WKHyp'`: nothing about the keys).
One slot per key; no entry for a key on an unknown curve; for a key on a known curve an entry `kv`
with `WeakKeyOK'`: IF that key is on its curve then (C02) a recorded `DISCRETE_LOG` `v` satisfies
`v • G = P` when `n • P = ∞`, and (C10) if it is reduced and its private key is a 32-bit value
shifted by a multiple of 8 bits or repeated ≥ 2 times, it is flagged with a value congruent to the
key modulo `n` — whatever the OTHER keys of the batch are (off the curve, unreduced, `(0,0)`,
`≥ p`, duplicates, other curves, unknown ids). -/
theorem checkWeakECPrivateKey_every_batch (f : Bsgs.Factory) (sts : List EcState)
    (orc : List (Nat × Nat)) (keys : List ECKey) (hnd : (f.map (·.id)).Nodup)
    (hh : WKHyp' keys f sts orc) :
    ∃ res sts', checkWeakECPrivateKey f sts orc keys = .ok (res, sts') ∧ res.length = keys.length ∧
      StatesOK f sts' ∧
      (∀ (p : Nat) (k : ECKey), keys[p]? = some k → factoryGet f k.curveType = none →
        res[p]? = some none) ∧
      (∀ (p : Nat) (k : ECKey) (c : Curve), keys[p]? = some k → factoryGet f k.curveType = some c →
        ∃ kv hp, res[p]? = some (some kv) ∧ WeakKeyOK' c hp k.pt kv) :=
  checkWeakECPrivateKey_spec_any f sts orc keys hnd hh

theorem wkHyp_weaken {keys : List ECKey} {f : Bsgs.Factory} {sts : List EcState}
    {os : List (Nat × Nat)} (h : WKHyp keys f sts os) : WKHyp' keys f sts os := h.weaken

/-! ### Non-vacuity on named curves, with degenerate neighbours -/

/-- secp256r1: `(1, p)`, `(1, 2)`, `(0,0)` (none of them on the curve); secp256k1: `(p, p)`, `G`; an
unknown curve id. -/
def mixedKeys : List ECKey :=
  [⟨2, 1, secp256r1.p⟩, ⟨2, 1, 2⟩, ⟨2, 0, 0⟩, ⟨6, secp256k1.p, secp256k1.p⟩,
   ⟨6, secp256k1.gx.toNat, secp256k1.gy.toNat⟩, ⟨0, 1, 2⟩]

/-- `WKHyp'` holds on `CURVE_FACTORY` with fresh curve objects for a batch in which four of the five
keys on known curves are not valid keys; `WKHyp` does not (`(1, p)` is not on secp256r1). -/
example : WKHyp' mixedKeys EcAll.ecFactory EcAll.freshTables (EcAll.ecFactory.map fun _ => (3, 1)) :=
  wkHyp'_of mixedKeys _ _ _ EcAll.ecFactory_curveHyp (EcAll.statesOK_init _)
    (EcAll.forall₂_const (fun _ => (3, 1)) EcAll.ecFactory (fun _ _ _ => ⟨by decide, by decide⟩))

end Paranoid.C10Any
