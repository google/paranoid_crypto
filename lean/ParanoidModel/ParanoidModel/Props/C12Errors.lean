/-
Props/C12Errors.lean — exception behaviour of the NIST SP 800-22 tests (property C12).

For EVERY modelled test: the exact set of arguments (and oracle answers) for which it raises, and WHICH
exception.  This complements the ladder / "insufficient data" theorems of Props/C12.lean ("raises
InsufficientDataError exactly below the documented minimum") by "… and otherwise the only ways to raise are
the listed argument errors and, for three tests, a floating-point underflow reported by an explicit oracle".

Float-decided exceptions (Model/NistFloat.lean; Python raises although the exact statistic and the exact
expected distribution are perfectly well defined):
  * `BinaryMatrixRank`: `ChiSquare` rejects the float `RankDistribution` when its lumped tail underflows to
    0.0 (ValueError "Invalid probability"), e.g. shapes (8, 300, 5), (40, 40, 33), (2, 1100, 1);
  * `OverlappingTemplateMatching`: the same for the float matrix power, from m ≈ 1071 on;
  * `RandomWalk`: ZeroDivisionError when `RandomExcursionsDistribution(x, max_cnt)` underflows
    (max_cnt ≥ 1075) and the excursion test is evaluated (J ≥ 500, max_state ≥ 1).
The float test's outcome is the oracle (`ChiOracle`, `excZero`), recorded from the real run by
harness/corr/c12.py; all statements hold for every oracle value.  Nothing here says WHEN a float underflows.

Other tests: no float-decided exception (survey in Model/NistFloat.lean).  Preconditions of the whole model
(not theorems): bits < 2^n; optional parameters ≥ 1 (template length m, max_cnt, step_size); n < 2^1023 and
memory suffices (`Frequency(0, 2**1100)` raises OverflowError in `math.sqrt(n)`: not modelled).
Property theorems only; helper lemmas in Proofs/NistErrors.lean.
-/
import ParanoidModel.Proofs.NistErrors
namespace Paranoid.C12Errors
open Paranoid Paranoid.Nist

/-! ## A. Tests whose exceptions are decided by the integer arguments alone -/

/-- `Frequency` raises only ZeroDivisionError, exactly for the empty string (`abs(s) / math.sqrt(0)`). -/
theorem frequency_raises (bits n : Nat) (e : PyErr) :
    frequency bits n = .error e ↔ n = 0 ∧ e = .zeroDivision := guard_error_iff

/-- `BlockFrequency` raises only InsufficientDataError, exactly for n < 100. -/
theorem blockFrequency_raises (bits n : Nat) (e : PyErr) :
    blockFrequency bits n = .error e ↔ n < 100 ∧ e = .insufficientData := guard_error_iff

/-- `Runs` (repaired, D13) raises only ZeroDivisionError, exactly for the empty string (`BitCount / 0`). -/
theorem runs_raises (bits n : Nat) (e : PyErr) :
    runs bits n = .error e ↔ n = 0 ∧ e = .zeroDivision := guard_error_iff

/-- `LongestRuns` raises only InsufficientDataError, exactly for n < 128 (its `ChiSquare` call is on a
literal table and on ≥ 16 blocks). -/
theorem longestRuns_raises (bits n : Nat) (e : PyErr) :
    longestRuns bits n = .error e ↔ n < 128 ∧ e = .insufficientData := by
  have hp := (lrParams_spec n).1
  unfold longestRuns
  split
  · rename_i h; simp [hp.mp h, eq_comm]
  · rename_i m vl vu h
    have : ¬ n < 128 := fun hn => by rw [hp.mpr hn] at h; cases h
    simp [this]

/-- `LargeBinaryMatrixRank` raises only InsufficientDataError, exactly for n < 64·64. -/
theorem largeRank_raises (bits n : Nat) (e : PyErr) :
    largeBinaryMatrixRank bits n = .error e ↔ n < 4096 ∧ e = .insufficientData := guard_error_iff

/-- `Serial(bits, n, m_max)` raises only ValueError (`FrequencyCount`: "m must not be larger than length"),
exactly for m_max > n … -/
theorem serial_raises (bits n mm : Nat) (e : PyErr) :
    serial bits n (some mm) = .error e ↔ n < mm ∧ e = .valueError := serialWith_error_iff bits n mm e

/-- … and with the default m_max = max(2, min(22, bit_length(n) − 4)) exactly for n < 2. -/
theorem serial_default_raises (bits n : Nat) (e : PyErr) :
    serial bits n none = .error e ↔ n < 2 ∧ e = .valueError := by
  show serialWith bits n (serialMMax n) = .error e ↔ _
  rw [serialWith_error_iff]
  have h1 := (serialMMax_spec n).1
  have h2 := serialMMax_le n
  constructor
  · rintro ⟨h, he⟩; exact ⟨by omega, he⟩
  · rintro ⟨h, he⟩; exact ⟨by omega, he⟩

/-- `ApproximateEntropy(bits, n, m_max)` raises only ValueError, exactly for m_max + 1 > n … -/
theorem apen_raises (bits n mm : Nat) (e : PyErr) :
    approximateEntropy bits n (some mm) = .error e ↔ n < mm + 1 ∧ e = .valueError :=
  apenWith_error_iff bits n mm e

/-- … and with the default m_max exactly for n < 3. -/
theorem apen_default_raises (bits n : Nat) (e : PyErr) :
    approximateEntropy bits n none = .error e ↔ n < 3 ∧ e = .valueError := by
  show apenWith bits n (apenMMax n) = .error e ↔ _
  rw [apenWith_error_iff]
  have h2 := apenMMax_lt n
  constructor
  · rintro ⟨h, he⟩; exact ⟨by omega, he⟩
  · rintro ⟨h, he⟩
    refine ⟨?_, he⟩
    unfold apenMMax
    rw [if_pos (by omega)]
    omega

/-- `LinearComplexity(bits, n, block_size)`, for every answer `cs` of the Berlekamp–Massey oracle:
InsufficientDataError for block_size < 10 or fewer than 200 blocks; otherwise ZeroDivisionError if the
oracle lists no block (`ChiSquare` of zero observations: 0.0/0.0) and ValueError if it reports a
complexity above the block size (`LfsrLogProbability`); nothing else. -/
theorem linearComplexity_raises (n bs : Nat) (cs : List Nat) (e : PyErr) :
    linearComplexity n bs cs = .error e ↔
      ((bs < 10 ∨ n < bs * 200) ∧ e = .insufficientData) ∨
      (10 ≤ bs ∧ bs * 200 ≤ n ∧ cs = [] ∧ e = .zeroDivision) ∨
      (10 ≤ bs ∧ bs * 200 ≤ n ∧ cs ≠ [] ∧ (∃ c ∈ cs, bs < c) ∧ e = .valueError) := by
  unfold linearComplexity
  rw [ite_error_iff, ite_error_iff, linearComplexityImpl_error_iff]
  by_cases h1 : bs < 10
  · simp [h1, Nat.not_le.mpr h1]
  by_cases h2 : n < bs * 200
  · simp [h1, h2, Nat.not_le.mpr h2]
  · have h3 : bs ≠ 0 := by omega
    simp [h1, h2, h3, Nat.not_lt.mp h1, Nat.not_lt.mp h2]

/-- with an oracle that meets its obligation (one complexity ≤ block_size per block, `cs.length = n / bs`),
`LinearComplexity` raises InsufficientDataError below the documented minimum and nothing else. -/
theorem linearComplexity_raises_of_oracle_ok (n bs : Nat) (cs : List Nat) (e : PyErr)
    (hlen : cs.length = n / bs) (hc : ∀ c ∈ cs, c ≤ bs) :
    linearComplexity n bs cs = .error e ↔ (bs < 10 ∨ n < bs * 200) ∧ e = .insufficientData := by
  rw [linearComplexity_raises]
  constructor
  · rintro (h | ⟨h1, h2, h3, _⟩ | ⟨_, _, _, ⟨c, hcm, hlt⟩, _⟩)
    · exact h
    · exfalso
      rw [h3] at hlen
      have : 200 ≤ n / bs := (Nat.le_div_iff_mul_le (by omega)).mpr (by rw [Nat.mul_comm]; exact h2)
      simp at hlen; omega
    · exact absurd (hc c hcm) (by omega)
  · intro h; exact Or.inl h

/-- `UniversalImpl(bits, n, block_size, q)` raises exactly: ZeroDivisionError for block_size = 0
(`SplitSequence`) and for K = ⌊n/L⌋ − q = 0 (`0 ** (−3/L)`), ValueError for K < 0 (`math.sqrt` of a negative
number) and for a block size outside the table (L > 16).  The table walk itself never raises. -/
theorem universalImpl_raises (bits n L q : Nat) (e : PyErr) :
    universalImpl bits n L q = .error e ↔
      (L = 0 ∧ e = .zeroDivision) ∨
      (L ≠ 0 ∧ n / L < q ∧ e = .valueError) ∨
      (L ≠ 0 ∧ q ≤ n / L ∧ 16 < L ∧ e = .valueError) ∨
      (L ≠ 0 ∧ L ≤ 16 ∧ n / L = q ∧ e = .zeroDivision) := by
  unfold universalImpl
  obtain ⟨tab, hf⟩ := universal_walk bits n L q
  rw [hf, ite_error_iff, ite_error_iff, ite_error_iff, guard_error_iff]
  by_cases h1 : L = 0
  · simp [h1]
  by_cases h2 : n / L < q
  · simp [h1, h2, Nat.not_le.mpr h2, Nat.ne_of_lt h2]
  by_cases h3 : 16 < L
  · simp [h1, h2, Nat.not_lt.mp h2, h3, Nat.not_le.mpr h3]
  · simp [h1, h2, Nat.not_lt.mp h2, h3, Nat.not_lt.mp h3]

/-- `Universal` raises only InsufficientDataError, exactly for n < 387840: for every admissible n the
selected (L, Q = 10·2^L) leave K = ⌊n/L⌋ − Q > 0 blocks and L ≤ 16. -/
theorem universal_raises (bits n : Nat) (e : PyErr) :
    universal bits n = .error e ↔ n < 387840 ∧ e = .insufficientData := by
  unfold universal
  split
  · rename_i h
    simp [(universalL_none_iff n).mp h, eq_comm]
  · rename_i L h
    have hn : ¬ n < 387840 := fun hn => by rw [(universalL_none_iff n).mpr hn] at h; cases h
    obtain ⟨⟨b, hb, hbn⟩, _⟩ := (universalL_spec n L).mp h
    obtain ⟨f1, f2, f3⟩ := universalMinN_facts (L, b) hb
    simp only at f1 f2 f3
    have : b / L ≤ n / L := Nat.div_le_div_right hbn
    rw [universalImpl_raises]
    simp [hn, f1]
    omega

/-- `LinearComplexityScatter` raises only ValueError (`LfsrLogProbability`), exactly when the oracle reports
a complexity above the length of its interleaved sequence, or that length is 0 (step_size > n).
NOTE: the statement includes step = 0, where the model is NOT the Python code
(`LinearComplexityScatter(x, 100, 0)`: ZeroDivisionError in `util.Scatter`; model: ok).  The version with the
precondition `1 ≤ step` in the statement is `C12ErrorsPre.scatter_raises_pre`. -/
theorem scatter_raises (n step : Nat) (mb : Option Nat) (cs : List Nat) (e : PyErr) :
    linearComplexityScatter n step mb cs = .error e ↔
      (∃ p ∈ (scatterSizes (scatterN n step mb) step).zip cs, p.1 = 0 ∨ p.1 < p.2) ∧ e = .valueError := by
  rw [← scatterSum_error_iff]
  unfold linearComplexityScatter
  cases scatterSum (scatterSizes (scatterN n step mb) step) cs <;> simp

/-! ### Non-overlapping template matching: ladder and exceptions of the function itself -/

/-- ★ `NonOverlappingTemplateMatching(bits, n,
blocks)` with default `m` and `templates` raises InsufficientDataError exactly when the block size
⌊n / blocks⌋ is below 4, ZeroDivisionError exactly for blocks = 0, and nothing else: the default templates
are non-overlapping, shorter than a block, and inside the count table. -/
theorem nonOverlapping_default_raises (bits n blocks : Nat) (e : PyErr) :
    nonOverlapping bits n blocks none none = .error e ↔
      (blocks = 0 ∧ e = .zeroDivision) ∨ (blocks ≠ 0 ∧ n / blocks < 4 ∧ e = .insufficientData) := by
  by_cases h1 : blocks = 0
  · simp [nonOverlapping, h1, eq_comm]
  · rw [nonOverlapping_default_eq bits n blocks h1]
    cases hm : notmM (n / blocks) with
    | none => simp [h1, (notmM_spec (n / blocks)).1.mp hm, eq_comm]
    | some m =>
      obtain ⟨h4, hle, _, _⟩ := notmM_le _ _ hm
      dsimp only
      rw [notmImpl_error_iff]
      constructor
      · rintro (⟨⟨t, ht, hf⟩, _⟩ | ⟨_, ⟨h, _⟩ | ⟨_, _, ⟨t, ht, hf⟩, _⟩⟩)
        · rw [(defaultTemplates_mem m t ht).1] at hf; cases hf
        · omega
        · have := (defaultTemplates_mem m t ht).2; omega
      · rintro (⟨h, _⟩ | ⟨_, h, _⟩)
        · exact absurd h h1
        · omega

/-- ★ … and when it succeeds, the template length is the ladder value of the block size ⌊n / blocks⌋ ≥ 4
(`C12.nonOverlapping_template_size`), the templates are all non-overlapping templates of that length, and
there is one row of counts per complete block. -/
theorem nonOverlapping_default_params (bits n blocks : Nat) (o : NotmOut)
    (h : nonOverlapping bits n blocks none none = .ok o) :
    blocks ≠ 0 ∧ 4 ≤ n / blocks ∧ notmM (n / blocks) = some o.m ∧ o.blockSize = n / blocks ∧
      o.templates = defaultTemplates o.m ∧ o.counts.length = n / (n / blocks) := by
  have h1 : blocks ≠ 0 := fun h0 => by subst h0; cases h
  rw [nonOverlapping_default_eq bits n blocks h1] at h
  cases hm : notmM (n / blocks) with
  | none => rw [hm] at h; cases h
  | some m =>
    rw [hm] at h
    obtain ⟨_, _, counts, hc, rfl⟩ := (notmImpl_ok_iff _ _ _ _ _).mp h
    have hlen := ((mapM_ok_iff _).mp hc).length_eq
    rw [List.length_map, chunks_length, bitList_length] at hlen
    exact ⟨h1, (notmM_le _ _ hm).1, rfl, rfl, rfl, hlen.symm⟩

/-- `templates` without `m`: ValueError ("m is required when templates is not None"), after the division
`n // blocks`. -/
theorem nonOverlapping_templates_without_m_raises (bits n blocks : Nat) (ts : List Nat) (e : PyErr) :
    nonOverlapping bits n blocks none (some ts) = .error e ↔
      (blocks = 0 ∧ e = .zeroDivision) ∨ (blocks ≠ 0 ∧ e = .valueError) := by
  by_cases h1 : blocks = 0 <;> simp [nonOverlapping, h1, eq_comm]

/-- `m` given (`T` = the given templates, or all non-overlapping ones of length m): ZeroDivisionError for
blocks = 0 or an empty block (blocks > n); ValueError for an overlapping template or m > block size
(`FrequencyCount`); IndexError for a template ≥ 2^m; nothing else.  No float can raise: the variance
n(2^−m − (2m−1)2^−2m) is positive. -/
theorem nonOverlapping_given_raises (bits n blocks m : Nat) (ts : Option (List Nat)) (e : PyErr) :
    nonOverlapping bits n blocks (some m) ts = .error e ↔
      (blocks = 0 ∧ e = .zeroDivision) ∨ (blocks ≠ 0 ∧ n / blocks = 0 ∧ e = .zeroDivision) ∨
      (blocks ≠ 0 ∧ n / blocks ≠ 0 ∧
        (((∃ t ∈ notmTemplates m ts, isNonOverlapping t m = false) ∧ e = .valueError) ∨
         ((∀ t ∈ notmTemplates m ts, isNonOverlapping t m = true) ∧ n / blocks < m ∧ e = .valueError) ∨
         ((∀ t ∈ notmTemplates m ts, isNonOverlapping t m = true) ∧ m ≤ n / blocks ∧
            (∃ t ∈ notmTemplates m ts, 2 ^ m ≤ t) ∧ e = .indexError))) := by
  by_cases h1 : blocks = 0
  · unfold nonOverlapping
    rw [if_pos h1]
    simp only [Except.error.injEq, h1, ne_eq, not_true_eq_false, false_and, or_false, true_and, eq_comm]
  by_cases h2 : n / blocks = 0
  · unfold nonOverlapping
    rw [if_neg h1]
    dsimp only
    rw [if_pos h2]
    simp only [Except.error.injEq, h1, h2, ne_eq, not_true_eq_false, not_false_eq_true, false_and, or_false,
      false_or, true_and, eq_comm]
  · rw [nonOverlapping_given_eq bits n blocks m ts h1 h2, notmImpl_top_error_iff bits n blocks m _ h1 h2 e]
    simp only [h1, h2, ne_eq, not_false_eq_true, false_and, false_or, true_and]

/-! ## B. Tests with a float-decided exception (oracle) -/

/-- ★ the insufficient-data condition of `OverlappingTemplateMatching` as a
function (repaired, D14): InsufficientDataError exactly when there is no complete block. -/
theorem overlapping_insufficient_iff (o : ChiOracle) (bits n m bs : Nat) :
    overlappingWithF o bits n m bs = .error .insufficientData ↔ bs ≠ 0 ∧ n < bs := by
  unfold overlappingWithF
  rw [thenChi_error_iff, overlappingWith_error_iff]
  simp

/-- ★ all exceptions of `OverlappingTemplateMatching(bits, n, m, block_size)`: ZeroDivisionError for
block_size = 0, InsufficientDataError without a complete block, and ValueError from `ChiSquare` — either
because a block of fewer than m + 4 bits cannot contain five occurrences (exactly-zero probability) or
because the oracle reports that the float distribution was rejected (underflow, m ≳ 1071).
NOTE: the statement includes m = 0, where the model is NOT the Python code
(`OverlappingTemplateMatching(x, 10, 0, 5)`: ValueError "negative shift count"; model: ok).  The version
with the precondition `1 ≤ m` in the statement is `C12ErrorsPre.overlapping_raises_pre`. -/
theorem overlapping_raises (o : ChiOracle) (bits n m bs : Nat) (e : PyErr) :
    overlappingWithF o bits n m bs = .error e ↔
      (bs = 0 ∧ e = .zeroDivision) ∨ (bs ≠ 0 ∧ n < bs ∧ e = .insufficientData) ∨
      (bs ≠ 0 ∧ bs ≤ n ∧ (bs < m + 4 ∨ o.rejects = true) ∧ e = .valueError) := by
  unfold overlappingWithF
  rw [thenChi_error_iff, exists_ok_iff]
  simp only [overlappingWith_error_iff, ne_eq]
  by_cases h1 : bs = 0
  · simp [h1]
  by_cases h2 : n < bs
  · simp [h1, h2, Nat.not_le.mpr h2]
  by_cases h3 : bs < m + 4
  · simp [h1, h2, Nat.not_lt.mp h2, h3]
  · simp [h1, h2, Nat.not_lt.mp h2, h3]

/-- ★ defaults (m = 9, block_size = 2^10 + 9 − 1 = 1032): InsufficientDataError exactly for n < 1032;
beyond that only the oracle can make it raise (it never does at m = 9: harness evidence). -/
theorem overlapping_default_raises (o : ChiOracle) (bits n : Nat) (e : PyErr) :
    overlappingF o bits n none none = .error e ↔
      (n < 1032 ∧ e = .insufficientData) ∨ (1032 ≤ n ∧ o.rejects = true ∧ e = .valueError) := by
  show overlappingWithF o bits n 9 1032 = .error e ↔ _
  rw [overlapping_raises]
  constructor
  · rintro (⟨h, _⟩ | ⟨_, h, he⟩ | ⟨_, h, h' | h', he⟩)
    · omega
    · exact Or.inl ⟨h, he⟩
    · omega
    · exact Or.inr ⟨h, h', he⟩
  · rintro (⟨h, he⟩ | ⟨h, h', he⟩)
    · exact Or.inr (Or.inl ⟨by omega, h, he⟩)
    · exact Or.inr (Or.inr ⟨by omega, h, Or.inr h', he⟩)

/-- ★ all exceptions of `BinaryMatrixRank(bits, n, r, c, k, check_size)`, for EVERY shape: ValueError for
k > min(r, c); InsufficientDataError below 38·r·c bits (when checked) or without a complete matrix;
ZeroDivisionError for a zero dimension; ValueError from `ChiSquare` for an exactly-zero probability
(c < r: full rank impossible; k = 0) outside the table branch — and, when all that passes, ValueError
exactly when the oracle reports that `ChiSquare` rejected the float `RankDistribution`. -/
theorem rank_raises (o : ChiOracle) (bits n r c k : Nat) (cs : Bool) (e : PyErr) :
    binaryMatrixRankF o bits n r c k cs = .error e ↔
      (min r c < k ∧ e = .valueError) ∨
      (k ≤ min r c ∧ cs = true ∧ n < 38 * r * c ∧ e = .insufficientData) ∨
      (k ≤ min r c ∧ ¬ (cs = true ∧ n < 38 * r * c) ∧ (c = 0 ∨ r = 0) ∧ e = .zeroDivision) ∨
      (k ≤ min r c ∧ ¬ (cs = true ∧ n < 38 * r * c) ∧ c ≠ 0 ∧ r ≠ 0 ∧ n / c < r ∧ e = .insufficientData) ∨
      (k ≤ min r c ∧ ¬ (cs = true ∧ n < 38 * r * c) ∧ c ≠ 0 ∧ r ≠ 0 ∧ r ≤ n / c ∧
        ¬ (r = c ∧ r ≥ 31 ∧ k ≤ 5) ∧ (k = 0 ∨ c < r) ∧ e = .valueError) ∨
      ((∃ out, binaryMatrixRank bits n r c k cs = .ok out) ∧ o.rejects = true ∧ e = .valueError) := by
  unfold binaryMatrixRankF
  rw [thenChi_error_iff, binaryMatrixRank_error_iff]
  simp only [or_assoc]

/-- ★ for the admissible shapes 1 ≤ k ≤ min(r, c) (every documented use): InsufficientDataError exactly
below the NIST minimum 38·r·c (when `check_size`) or without one complete r×c matrix; ValueError exactly
when, with enough data, c < r or the float distribution underflowed (oracle); nothing else. -/
theorem rank_raises_admissible (o : ChiOracle) (bits n r c k : Nat) (cs : Bool) (e : PyErr)
    (hk : 1 ≤ k) (hkm : k ≤ min r c) :
    binaryMatrixRankF o bits n r c k cs = .error e ↔
      (((cs = true ∧ n < 38 * r * c) ∨ n / c < r) ∧ e = .insufficientData) ∨
      (¬ (cs = true ∧ n < 38 * r * c) ∧ r ≤ n / c ∧ (c < r ∨ o.rejects = true) ∧ e = .valueError) := by
  have hr : r ≠ 0 := by omega
  have hc : c ≠ 0 := by omega
  have hk0 : k ≠ 0 := by omega
  have hmin : ¬ min r c < k := by omega
  unfold binaryMatrixRankF
  rw [thenChi_error_iff, exists_ok_iff]
  simp only [binaryMatrixRank_error_iff, hr, hc, hk0, hkm, hmin, ne_eq, not_false_eq_true, true_and, false_and,
    false_or, or_false]
  by_cases hA : cs = true ∧ n < 38 * r * c
  · simp [hA]
  have hA' : ∀ e' : PyErr, ¬ (cs = true ∧ n < 38 * r * c ∧ e' = .insufficientData) :=
    fun _ h => hA ⟨h.1, h.2.1⟩
  by_cases hB : n / c < r
  · simp [hA, hA', hB, Nat.not_le.mpr hB]
  by_cases hC : c < r
  · have : ¬ (r = c ∧ r ≥ 31 ∧ k ≤ 5) := by omega
    simp [hA, hA', hB, Nat.not_lt.mp hB, hC, this]
  · simp [hA, hA', hB, Nat.not_lt.mp hB, hC]

/-- ★ the NIST minimum as a function of the float-aware model: with `check_size`, InsufficientDataError
exactly for n < 38·r·c, whatever the oracle says (strengthens `C12.rank_insufficient_iff`). -/
theorem rank_insufficient_iff (o : ChiOracle) (bits n r c k : Nat) (hk : 1 ≤ k) (hkm : k ≤ min r c) :
    binaryMatrixRankF o bits n r c k true = .error .insufficientData ↔ n < 38 * r * c :=
  (rank_insufficient_any o bits n r c k).trans (and_iff_right hkm)

/-- ★ all exceptions of `RandomWalk` (repaired code, D4): ZeroDivisionError and nothing else — for the empty
string (`CumulativeSumsPValue` divides by √0), and when the random-excursions test is evaluated (J ≥ 500
cycles, J = #{1 ≤ k ≤ n | S_k = 0} + 1, and max_state ≥ 1) while the oracle reports a 0.0 in the float
`RandomExcursionsDistribution` (max_cnt ≥ 1075).
NOTE: the statement includes max_cnt = 0, where the model is NOT the Python code as far
as RESULTS go (`RandomWalk(x, 1200, 4, 0, 9)`: p-values nan for x = ±1, exact value 1; neither side raises).
The version with the precondition `1 ≤ max_cnt` in the statement is `C12ErrorsPre.randomWalk_raises_pre`. -/
theorem randomWalk_raises (excZero : Bool) (bits n ms mc msv : Nat) (e : PyErr) :
    randomWalkF excZero .repaired bits n ms mc msv = .error e ↔
      e = .zeroDivision ∧
        (n = 0 ∨ (500 ≤ (walkFrom 0 (bitList bits n)).count 0 + 1 ∧ 1 ≤ ms ∧ excZero = true)) := by
  rw [randomWalkF_error_iff]
  constructor
  · rintro (⟨h, he⟩ | ⟨out, hout, h1, h2, h3, he⟩)
    · exact ⟨he, Or.inl h⟩
    · have := (randomWalk_spec bits n ms mc msv out hout).2.2.2.1
      exact ⟨he, Or.inr ⟨by omega, h2, h3⟩⟩
  · rintro ⟨he, h | ⟨h1, h2, h3⟩⟩
    · exact Or.inl ⟨h, he⟩
    · by_cases hn : n = 0
      · exact Or.inl ⟨hn, he⟩
      · cases hres : randomWalk .repaired bits n ms mc msv with
        | error e' =>
          exact absurd ((randomWalk_repaired_error_iff bits n ms mc msv e').mp hres).1 hn
        | ok out =>
          have := (randomWalk_spec bits n ms mc msv out hres).2.2.2.1
          exact Or.inr ⟨out, rfl, by omega, h2, h3, he⟩

/-! ## C. The oracle is the ONLY difference between the float-aware functions and the exact ones -/

/-- with a clean oracle (every expected probability a valid float — all runs but the underflow shapes) the
float-aware functions ARE the exact ones of Model/Nist.lean, so every theorem of Props/C12.lean and
Props/C12More.lean about results applies verbatim. -/
theorem clean_oracle (bits n r c k m bs ms mc msv : Nat) (cs : Bool) (v : Variant) (om obs : Option Nat) :
    binaryMatrixRankF .clean bits n r c k cs = binaryMatrixRank bits n r c k cs ∧
    overlappingWithF .clean bits n m bs = overlappingWith bits n m bs ∧
    overlappingF .clean bits n om obs = overlapping bits n om obs ∧
    randomWalkF false v bits n ms mc msv = randomWalk v bits n ms mc msv := by
  refine ⟨thenChi_clean _, thenChi_clean _, thenChi_clean _, ?_⟩
  unfold randomWalkF
  cases randomWalk v bits n ms mc msv <;> simp

/-- a successful float-aware run returns exactly the exact model's result (histogram etc.), for every
oracle: the oracle can only turn a result into ValueError, never alter it. -/
theorem rank_result (o : ChiOracle) (bits n r c k : Nat) (cs : Bool) (out : RankOut) :
    binaryMatrixRankF o bits n r c k cs = .ok out ↔
      binaryMatrixRank bits n r c k cs = .ok out ∧ o.rejects = false := thenChi_ok_iff o _ out

theorem overlapping_result (o : ChiOracle) (bits n m bs : Nat) (out : OtmOut) :
    overlappingWithF o bits n m bs = .ok out ↔
      overlappingWith bits n m bs = .ok out ∧ o.rejects = false := thenChi_ok_iff o _ out

theorem randomWalk_result (excZero : Bool) (v : Variant) (bits n ms mc msv : Nat) (out : RandomWalkOut) :
    randomWalkF excZero v bits n ms mc msv = .ok out ↔
      randomWalk v bits n ms mc msv = .ok out ∧ ¬ (500 ≤ out.cycles ∧ 1 ≤ ms ∧ excZero = true) := by
  unfold randomWalkF excursionsEvaluated
  cases randomWalk v bits n ms mc msv with
  | error e => simp
  | ok o' =>
    simp only [ite_ok_iff, Bool.and_eq_true, decide_eq_true_eq, Except.ok.injEq, and_assoc]
    constructor
    · rintro ⟨h, rfl⟩; exact ⟨rfl, h⟩
    · rintro ⟨rfl, h⟩; exact ⟨h, rfl⟩

/-! ## Non-vacuity: every branch is met by a concrete input -/

-- shape (2, 1100, 1): the exact model succeeds, the oracle turns it into ValueError
example : (binaryMatrixRank (2 ^ 2300 - 1 - 12345) 2300 2 1100 1 false).map (·.hist) = .ok [1, 0] ∧
    binaryMatrixRankF ⟨true, false⟩ (2 ^ 2300 - 1 - 12345) 2300 2 1100 1 false = .error .valueError ∧
    (binaryMatrixRankF .clean (2 ^ 2300 - 1 - 12345) 2300 2 1100 1 false).map (·.hist) = .ok [1, 0] := by
  decide +kernel
-- admissible shape, enough data, c < r
example : binaryMatrixRankF .clean 0b101101110101 12 3 2 1 false = .error .valueError := by decide +kernel
-- fewer than 38 matrices with check_size
example : binaryMatrixRankF .clean 0b101101110101 12 2 3 1 true = .error .insufficientData := by
  decide +kernel
example : 1 ≤ 1 ∧ 1 ≤ min 2 1100 ∧ ¬ (false = true ∧ 2300 < 38 * 2 * 1100) ∧ 2 ≤ 2300 / 1100 := by decide
-- overlapping: a block shorter than m + 4; the oracle; insufficient data
example : overlappingWithF .clean 0b1011011101 10 3 6 = .error .valueError ∧
    (overlappingWithF .clean 0b1011011101 10 3 7).map (·.hist) = .ok [0, 1, 0, 0, 0, 0] ∧
    overlappingWithF ⟨true, false⟩ 0b1011011101 10 3 7 = .error .valueError ∧
    overlappingWithF ⟨true, false⟩ 0b1011011101 10 3 11 = .error .insufficientData := by decide +kernel
-- non-overlapping: ladder value 2 for block size 5; insufficient data for block size 3
example : (nonOverlapping 0b1011011101 10 2 none none).map (fun o => (o.m, o.blockSize, o.templates)) =
      .ok (2, 5, [1, 2]) ∧
    nonOverlapping 0b1011011101 10 3 none none = .error .insufficientData ∧
    nonOverlapping 0b1011011101 10 2 (some 2) (some [1, 5]) = .error .indexError ∧
    nonOverlapping 0b1011011101 10 2 (some 2) (some [3]) = .error .valueError := by decide +kernel
-- random walk with 500 cycles: the excursion oracle applies; with 499 cycles it does not
set_option maxRecDepth 20000 in
example : (randomWalk .repaired (2 ^ 998 / 3) 998 4 1075 9).map (·.cycles) = .ok 500 ∧
    randomWalkF true .repaired (2 ^ 998 / 3) 998 4 1075 9 = .error .zeroDivision ∧
    (randomWalkF true .repaired (2 ^ 998 / 3) 998 0 1075 9).map (·.cycles) = .ok 500 ∧
    (randomWalkF true .repaired (2 ^ 996 / 3) 996 4 1075 9).map (·.cycles) = .ok 499 := by decide +kernel
example : universalImpl 0b110110011101 12 2 6 = .error .zeroDivision ∧
    universalImpl 0b110110011101 12 2 7 = .error .valueError := by decide +kernel
example : linearComplexity 2000 10 [11] = .error .valueError ∧
    linearComplexity 2000 10 [] = .error .zeroDivision := by decide +kernel

end Paranoid.C12Errors
