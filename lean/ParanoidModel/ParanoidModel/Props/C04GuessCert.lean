/-
Props/C04GuessCert.lean — non-vacuity of the PRIME forms of the C04Guess theorems
(`sud_complete_primes`, `unseeded_complete_primes`): a real 768-bit member whose two 384-bit
primes carry kernel-checked Pratt certificates (Proofs/Pratt.lean).

`prP = c·2^284 + 1`, `prQ = prP + 2^284 = (c + 1)·2^284 + 1` (so `q = p + D` with
`D = 2^(L-100)`, gap `g = 0`), `c` chosen by search so that both are prime and `c`, `c + 1`
factor completely (scratch search, untrusted; the kernel re-checks every Lucas step).
On this modulus the real `CheckSmallUpperDifferences` returns `[prP, prQ]`.
-/
import ParanoidModel.Props.C04Guess
import ParanoidModel.Proofs.Pratt

namespace Paranoid.C04GuessCert
open Paranoid Paranoid.FwgC Paranoid.C04Guess

def prP : Nat := 27342938545976857826297566600930321456493647847796647922018909627723934948591250693144848418411852199902978286551041
def prQ : Nat := 27342938545976857826297566600961404158769259512931359312528085930230213458016084925484877416967674668466261622521857

def prPChain : List Pratt.Step :=
  [⟨254161, 11, [(2, 4), (3, 2), (5, 1), (353, 1)]⟩,
   ⟨7624831, 3, [(2, 1), (3, 1), (5, 1), (254161, 1)]⟩,
   ⟨457489861, 2, [(2, 2), (3, 1), (5, 1), (7624831, 1)]⟩,
   ⟨prP, 17, [(2, 284), (3, 4), (5, 1), (7, 1), (29, 1), (457, 1), (26317, 1), (31627, 1), (61487, 1), (457489861, 1)]⟩]

def prQChain : List Pratt.Step :=
  [⟨271771, 3, [(2, 1), (3, 1), (5, 1), (9059, 1)]⟩,
   ⟨14220127, 3, [(2, 1), (3, 2), (17, 1), (46471, 1)]⟩,
   ⟨59646891506581, 2, [(2, 2), (3, 2), (5, 1), (7, 1), (3329, 1), (14220127, 1)]⟩,
   ⟨1073644047118459, 3, [(2, 1), (3, 2), (59646891506581, 1)]⟩,
   ⟨809213862674716752963349, 2, [(2, 2), (3, 2), (59, 1), (73, 1), (4861, 1), (1073644047118459, 1)]⟩,
   ⟨prQ, 3, [(2, 286), (271771, 1), (809213862674716752963349, 1)]⟩]

theorem prP_prime : prP.Prime :=
  Pratt.prime_of_fastCert ⟨prP, prPChain⟩ prP (by decide +kernel)

theorem prQ_prime : prQ.Prime :=
  Pratt.prime_of_fastCert ⟨prQ, prQChain⟩ prQ (by decide +kernel)

/-- `sud_complete_primes` on a certified member: both primes are returned. -/
theorem sud_member :
    checkSmallUpperDifferences (prP * prQ) 7060048282464001 = .ok (some [prP, prQ]) ∨
      checkSmallUpperDifferences (prP * prQ) 7060048282464001 = .ok (some [prQ, prP]) :=
  sud_complete_primes 384 prP prQ (2 ^ (384 - 100)) 0 7060048282464001 (by decide)
    prP_prime prQ_prime (by decide +kernel) (by decide +kernel) (by decide +kernel)
    (by decide +kernel) (by decide +kernel) (by decide +kernel)

/-- `unseeded_complete_primes` on a certified member: the candidate `prP - 1000` is within the
gap bound below `prP` (a second, useless candidate comes first). -/
theorem unseeded_member :
    vUnseeded (prP * prQ) 7060048282464001 [12345, prP - 1000] = .ok ⟨true, [prP, prQ], false⟩ ∨
      vUnseeded (prP * prQ) 7060048282464001 [12345, prP - 1000] = .ok ⟨true, [prQ, prP], false⟩ :=
  unseeded_complete_primes 384 prP prQ (prP - 1000) 1000 7060048282464001 [12345, prP - 1000]
    prP_prime prQ_prime (by decide +kernel) (by decide +kernel) (by decide +kernel)
    (by decide +kernel) (by decide +kernel) (by decide +kernel) (by decide +kernel)
    (by decide +kernel) (by decide +kernel) (by decide +kernel)

end Paranoid.C04GuessCert
