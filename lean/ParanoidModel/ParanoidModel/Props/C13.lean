/-
Props/C13.lean — C13, decision-rule part: "A sub-test is failed exactly when the Fisher
combination of its p-values is below the fail level, is repeated exactly while that combination
does not exceed the combination of the repeat level, and the entry points return True exactly
when some sub-test failed."

NOT decided here (and not claimed): the first two sentences of C13 (p-values of a good
generator are not systematically small; the documented weak generators fail the documented
tests) — they are statements about distributions.

Everything is universally quantified over the number type `α` and `N : Num α`: the comparison
`<` (so ties, NaN semantics, any ordering), the `== 0` test and EVERY value of the float tail
`Igamc(k, Σ -log p)` of CombinedPValue, over every fail / repeat level, every minimum repetition
count, and every history of test outcomes (named lists — also empty, with names that disappear
in later runs —, single numbers, InsufficientDataError).  "`… = .ok …`" means the call returned
(the only exception inside is math.log's in CombinedPValue).
Helper lemmas: Proofs/Suite.lean, Proofs/SuiteHistory.lean.
-/
import ParanoidModel.Proofs.SuiteHistory
namespace Paranoid.C13
open Paranoid Paranoid.Suite

variable {α : Type}

/-- CombinedPValue's three concrete cases: empty sample raises ValueError, a single p-value is
returned as is, a sample whose (Python) minimum equals 0 gives 0; otherwise the float tail. -/
theorem combined_shortcuts (N : Num α) (p q : α) (ps : List α) :
    combinedPValue N [] = .error .valueError ∧
    combinedPValue N [p] = .ok p ∧
    (N.eqZero (pyMin N p (q :: ps)) = true → combinedPValue N (p :: q :: ps) = .ok N.zero) ∧
    (N.eqZero (pyMin N p (q :: ps)) = false →
      combinedPValue N (p :: q :: ps) = N.igamc (p :: q :: ps)) := by
  refine ⟨rfl, rfl, ?_, ?_⟩ <;> intro h <;> simp [combinedPValue, h]

/-- a single float / int result is treated as `[("result", p)]`. -/
theorem scalar_is_result (N : Num α) (ts : TS α) (p : α) :
    run N ts (.scalar p) = run N ts (.named [("result", p)]) := rfl

/-- THE RULE, after any history of runs of a structure created with levels `fail`, `rep`:
for every sub-test name with a recorded state there are recorded p-values `pv` whose
combination `c` is the recorded combined p-value, and
  FAILED    ↔ c < fail
  PASSED    ↔ ¬ c < fail ∧ CombinedPValue([rep]*len(pv)) < c
  UNDECIDED ↔ ¬ c < fail ∧ ¬ CombinedPValue([rep]*len(pv)) < c     (ties are UNDECIDED / not failed). -/
theorem state_rule (N : Num α) (fail rep : α) (minRep : Nat) (os : List (Outcome α)) (ts : TS α)
    (h : runHistory N (TS.init fail rep minRep) os = .ok ts) (name : String) (st : TState)
    (hst : dictGet name ts.state = some st) :
    ∃ pv c, dictGet name ts.pvalues = some pv ∧ dictGet name ts.combined = some c ∧
      combinedPValue N pv = .ok c ∧
      (st = .failed ↔ N.lt c fail = true) ∧
      (st = .passed ↔ N.lt c fail = false ∧
        ∃ rp, combinedPValue N (List.replicate pv.length rep) = .ok rp ∧ N.lt rp c = true) ∧
      (st = .undecided ↔ N.lt c fail = false ∧
        ∃ rp, combinedPValue N (List.replicate pv.length rep) = .ok rp ∧ N.lt rp c = false) := by
  have hh := history_spec N fail rep minRep os ts h
  obtain ⟨pv, c, h1, h2, h3⟩ := hh.tracked.inv.decided name st hst
  rw [hh.fail, hh.rep] at h3
  obtain ⟨s1, s2, s3, s4⟩ := stateOf_spec N _ _ pv c st h3
  exact ⟨pv, c, h1, h2, s1, s2, s3, s4⟩

/-- every name that has p-values has a state, the number of runs is the length of the history. -/
theorem history_bookkeeping (N : Num α) (fail rep : α) (minRep : Nat) (os : List (Outcome α))
    (ts : TS α) (h : runHistory N (TS.init fail rep minRep) os = .ok ts) :
    ts.runs = os.length ∧ ts.fail = fail ∧ ts.rep = rep ∧ ts.minRep = minRep ∧
    ∀ name pv, dictGet name ts.pvalues = some pv → ∃ st, dictGet name ts.state = some st := by
  have hh := history_spec N fail rep minRep os ts h
  exact ⟨hh.runs, hh.fail, hh.rep, hh.minRep, hh.tracked.inv.hasState⟩

/-- `finished` exactly as coded: after InsufficientDataError the structure is finished (and
nothing else changes but the run counter); after a result with pairwise different names it is
finished iff no sub-test OF THIS RESULT is UNDECIDED and the minimum number of repetitions is
reached; `Run` returns `finished`. -/
theorem finished_rule (N : Num α) (ts ts' : TS α) (o : Outcome α) (fin : Bool)
    (h : run N ts o = .ok (ts', fin)) :
    fin = ts'.finished ∧ ts'.runs = ts.runs + 1 ∧
    (o = .insufficient → ts' = { ts with runs := ts.runs + 1, finished := true }) ∧
    (∀ items, asNamed o = some items → (items.map (·.1)).Nodup →
      (ts'.finished = true ↔
        (∀ name ∈ items.map (·.1), dictGet name ts'.state ≠ some TState.undecided) ∧
        ts'.minRep ≤ ts'.runs)) := by
  refine ⟨run_flag N ts ts' o fin h, (run_spec N ts ts' o fin h).2, ?_,
    fun items ho hnd => run_finished_distinct_names N ts ts' o items fin ho hnd h⟩
  intro ho
  subst ho
  rw [run_insufficient] at h
  cases h; rfl

/-- `Failed()` ↔ some sub-test is FAILED ↔ some sub-test's combination is below the fail
level. -/
theorem failed_rule (N : Num α) (fail rep : α) (minRep : Nat) (os : List (Outcome α)) (ts : TS α)
    (h : runHistory N (TS.init fail rep minRep) os = .ok ts) :
    (failed ts = true ↔ ∃ name, dictGet name ts.state = some TState.failed) ∧
    (failed ts = true ↔ ∃ name pv c, dictGet name ts.pvalues = some pv ∧
      combinedPValue N pv = .ok c ∧ N.lt c fail = true) := by
  have hh := history_spec N fail rep minRep os ts h
  refine ⟨failed_iff N ts hh.tracked.inv, ?_⟩
  rw [failed_iff_comb N ts hh.tracked.inv, hh.fail]

/-- TestSource's loop repeats exactly while some structure is unfinished: one round skips the
finished structures, runs every unfinished one exactly once on fresh bits and counts the
structures still unfinished; with count 0 the loop returns, otherwise it goes round again. -/
theorem testSource_repeats (N : Num α) (outcomes : Nat → Nat → Outcome α) (fuel r : Nat)
    (tests : List (TS α)) :
    (∀ tests' u, runRound N (outcomes r) 0 tests = .ok (tests', u) →
      PW (RoundStep N (outcomes r)) 0 tests tests' ∧ u = unfinished tests') ∧
    (unfinished tests = 0 →
      sourceLoop N outcomes fuel r tests (unfinished tests) = .ok (some tests)) ∧
    (unfinished tests ≠ 0 →
      sourceLoop N outcomes (fuel + 1) r tests (unfinished tests) =
        match runRound N (outcomes r) 0 tests with
        | .error e => .error e
        | .ok (tests', u) => sourceLoop N outcomes fuel (r + 1) tests' u) :=
  ⟨fun tests' u h => runRound_spec N _ 0 tests tests' u h,
   (sourceLoop_step N outcomes fuel r tests).1, (sourceLoop_step N outcomes fuel r tests).2⟩

/-- TestSource: when it returns, every selected test is finished and satisfies the rule's
invariant with the given levels, and the return value is True exactly when some sub-test of some
test is FAILED (`None` when no test was selected). -/
theorem testSource_rule (N : Num α) (nTests : Nat) (fail rep : α) (minRep : Nat)
    (outcomes : Nat → Nat → Outcome α) (fuel : Nat) (tests : List (TS α)) (ret : Option Bool)
    (h : testSource N nTests fail rep minRep outcomes fuel = .ok (some (tests, ret))) :
    (nTests = 0 → ret = none ∧ tests = []) ∧
    (nTests ≠ 0 → ∃ b, ret = some b ∧
      (b = true ↔ ∃ ts ∈ tests, ∃ name, dictGet name ts.state = some TState.failed) ∧
      ∀ ts ∈ tests, ts.finished = true ∧ ts.fail = fail ∧ ts.rep = rep ∧ Inv N ts) := by
  rcases testSource_ok N nTests fail rep minRep outcomes fuel tests ret h with
    ⟨hn, rfl, rfl⟩ | ⟨hn, rfl, -⟩
  · exact ⟨fun _ => ⟨rfl, rfl⟩, fun h' => (h' hn).elim⟩
  · have hall : ∀ ts ∈ tests, ts.finished = true ∧ ∃ os, IsHistory N fail rep minRep os ts := by
      intro ts hts
      obtain ⟨i, hi⟩ := List.mem_iff_getElem?.1 hts
      obtain ⟨k, hh, hfin, -⟩ :=
        (testSource_histories N nTests fail rep minRep outcomes fuel tests _ h).2 i ts hi
      exact ⟨hfin, _, history_spec N fail rep minRep _ ts hh⟩
    refine ⟨fun h' => (hn h').elim, fun _ => ⟨_, rfl, any_failed_iff N tests fun ts hts => ?_,
      fun ts hts => ?_⟩⟩
    · obtain ⟨-, os, hh⟩ := hall ts hts
      exact hh.tracked.inv
    · obtain ⟨hfin, os, hh⟩ := hall ts hts
      exact ⟨hfin, hh.fail, hh.rep, hh.tracked.inv⟩

/-- TestBitString: every selected test is run exactly once with fail level = repeat level, and
the return value is True exactly when some sub-test is FAILED. -/
theorem testBitString_rule (N : Num α) (nTests : Nat) (level : α) (outcome : Nat → Outcome α)
    (tests : List (TS α)) (b : Bool)
    (h : testBitString N nTests level outcome = .ok (tests, b)) :
    (b = true ↔ ∃ ts ∈ tests, ∃ name, dictGet name ts.state = some TState.failed) ∧
    ∀ ts ∈ tests, ts.runs = 1 ∧ ts.fail = level ∧ ts.rep = level ∧ Inv N ts := by
  obtain ⟨rfl, hrun⟩ := testBitString_ok N nTests level outcome tests b h
  have hall : ∀ ts ∈ tests, ∃ o, IsHistory N level level 1 [o] ts := by
    intro ts hts
    obtain ⟨i, hi⟩ := List.mem_iff_getElem?.1 hts
    exact ⟨_, history_spec N level level 1 _ ts
      ((runAll_histories N outcome 0 (TS.init level level 1) nTests tests hrun).2 i ts hi)⟩
  refine ⟨any_failed_iff N tests fun ts hts => ?_, fun ts hts => ?_⟩
  · obtain ⟨o, hh⟩ := hall ts hts
    exact hh.tracked.inv
  · obtain ⟨o, hh⟩ := hall ts hts
    exact ⟨hh.runs, hh.fail, hh.rep, hh.tracked.inv⟩

/-! ## Non-vacuity: a concrete number type (per-mille integers, float tail := product/1000) -/

def milli : Num Nat :=
  { lt := fun a b => decide (a < b), eqZero := fun a => a == 0, zero := 0,
    igamc := fun ps => .ok (ps.foldl (fun acc p => acc * p / 1000) 1000) }

/-- fail level 1‰, repeat level 10‰: 500‰ passes; exactly the repeat level is UNDECIDED (tie)
and is repeated; exactly the fail level is not FAILED (tie); below it is FAILED. -/
example :
    ((runHistory milli (TS.init 1 10 1) [.named [("a", 500), ("b", 10), ("c", 1), ("d", 0)]]).map
      (fun ts => (ts.state, ts.finished, failed ts))) =
    .ok ([("a", .passed), ("b", .undecided), ("c", .undecided), ("d", .failed)], false, true) := by
  decide +kernel

/-- the name `b` disappears in the second run: it stays UNDECIDED but the structure finishes;
a scalar is stored under "result"; InsufficientDataError finishes the structure. -/
example :
    ((runHistory milli (TS.init 1 10 1) [.named [("a", 500), ("b", 10)], .named [("a", 400)]]).map
      (fun ts => (ts.state, ts.finished, ts.runs))) =
      .ok ([("a", .passed), ("b", .undecided)], true, 2) ∧
    ((runHistory milli (TS.init 1 10 3) [.scalar 700, .insufficient]).map
      (fun ts => (ts.state, ts.finished, ts.runs))) = .ok ([("result", .passed)], true, 2) := by
  decide +kernel

/-- TestSource with two tests: the second needs a second round (UNDECIDED at the repeat level),
the first is not run again; the source is not failed. -/
example :
    ((testSource milli 2 1 10 1
      (fun r i => if i = 0 then .scalar 500 else if r = 0 then .scalar 10 else .scalar 900) 5).map
      (fun o => o.map (fun p => (p.1.map (fun ts => (ts.runs, ts.finished)), p.2)))) =
    .ok (some ([(1, true), (2, true)], some false)) := by decide +kernel

end Paranoid.C13
