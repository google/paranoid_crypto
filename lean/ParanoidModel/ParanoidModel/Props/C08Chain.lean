/-
Props/C08Chain.lean — the composed "sandwich" theorems for C08.

Props/C08.lean proves three layers separately:
 PRE   the planted vector lies in the lattice `GetLattice(a, b, w, n, bias)` builds (for a GIVEN `w`),
 POST  a reduced basis containing (a unit multiple of) the planted row makes the solver report the key,
 CHECK a guess that is the issuer's private key flags every signature of that issuer.
This file composes them, for the call the checks really make (`w = None`), bias kind by bias kind:

  signatures `(r_i, s_i, z_i)` of ONE private key `d`, nonces `k_i` with the bias        (hypotheses)
    ⇒ the planted row — an explicit function of `d`, `k_i` and the default weight — is an integer
      combination of the rows of `GetLattice(a, b, None, n, bias)` and its entries obey the bound
      `2^(bit_length(n) − bias bits)·w` against `n·w` on the diagonal                       (PRE, proved)
    ⇒ IF the basis returned by `lll.reduce` contains ± that row                             (ORACLE)
    ⇒ `HiddenNumberProblem(a, b, None, n, bias)` returns a list containing `d`              (POST, proved)
    ⇒ with the check layer's solver oracle INSTANTIATED by the solver model, every signature of
      the batch with that curve and issuer key is marked weak with DISCRETE_LOG = format(d, "x")
                                                                                       (CHECK, proved)

WHAT REMAINS ORACLE.  Only the middle implication: "`lll.reduce` returns a basis one of whose rows is
± the planted row".  The Lovász / short-vector argument (that an LLL-reduced basis of this lattice
must contain the planted vector when `#signatures × bias bits ≥ 2·bit_length(n)`) is NOT formalised;
the correspondence run records, on the real code with planted bias of every kind, how often the
recorded LLL output contains ± the planted row when the key is found (`extra.chain_statistics`).

Read Props/C08ChainAny.lean for the statements to cite.
The `sigs_*` / `chain_*` theorems of THIS file put the natural number `d` in the key position
of the planted row.  fpylll returns that coordinate reduced to `(−n/2, n/2]`, i.e. `d − n` for every
key above `n/2`: for about half of all keys the hypothesis `hlll` below is FALSE on real runs that do
find the key (kernel witness on secp256r1: Props/C08ChainAnyEx.lean).  The theorems stay true; the
generalisations with ANY representative `x ≡ d (mod n)` (and the family `{d, d − n}` that occurs)
are `C08ChainAny.chain_*_any`, `chain_bias_post`, `chain_bias_family`.  The `sandwich_*` theorems
here already take any representative `x`.
The bias hypotheses `hbias` are used ONLY for the entry-bound conjunct of PRE; POST and CHECK do
not depend on them (`C08ChainAny.chain_bias_post` proves the verdict with no bias and no signing
relation), so every `chain_*` theorem below also holds for unbiased nonces — all of its content is
in the oracle hypothesis `hlll`.  What the bias buys is that the planted row is SHORT, which is what
an LLL guarantee would need; the statements that carry this in a form that is false without bias
(`ScaleShort`, margin `r·bl + 2M ≤ M·bits`) are in Props/C08ChainAny.lean.  Three bounds of this
file are weaker than the text suggests: COMMON_POSTFIX bounds the entries by `2^(bl − β)·w` with
`β = max(3, fb)` (what the default weight exploits), not by the number of common bits; the Cr50
theorems use `c < 256` only for the sign (no bound in the conclusion: `sandwich_cr50_short` adds
it); the LCG bound `∀ B, … → |e·w| < B·w` is a tautology (`sandwich_lcg_any` states it on the entries).

Vocabulary: `ent v i` entry `i` (0 outside); `lincomb dim cs rows = Σ cs_j • rows_j`;
`PMMem row basis` = `row ∈ basis ∨ −row ∈ basis`; `defaultW bias len fb` = the value of the
`if w is None:` block (`fb` = float oracle `int(n.bit_length()/len(a)*1.25)`, COMMON_POSTFIX only).
-/
import ParanoidModel.Proofs.C08Chain
import ParanoidModel.Proofs.C08ChainCheck
import ParanoidModel.Props.C08
import ParanoidModel.Props.C11Primes
namespace Paranoid.C08Chain
open Paranoid Paranoid.Hnp Paranoid.Ec Paranoid.EcdsaChecks

/-! ## 1. Integer-lattice level (`a`, `b` with `k_i ≡ a_i + b_i·x (mod n)`), `w = None` -/

/-- the planted row of the MSB / COMMON_PREFIX / COMMON_POSTFIX lattices:
`(n·w + 1, x, e_0·w, …, e_{m-1}·w)`. -/
def plantedRow (n : Nat) (w x : Int) (es : List Int) : List Int :=
  ((n : Int) * w + 1) :: x :: es.map (· * w)

/-- the planted row of the GENERALIZED lattice: `(mult, y, e_0·w, …)` with `y ≡ mult·x (mod n)`. -/
def plantedRowGen (w mult y : Int) (es : List Int) : List Int := mult :: y :: es.map (· * w)

/-- **MSB sandwich, `w = None`.**  `n` prime, `k_i ≡ a_i + b_i·x (mod n)` with `0 ≤ k_i <
2^(bit_length(n) − bits)` (the top `bits` bits are zero).  Then, with `w = defaultW .msb len(a)`:
the lattice is built; the planted row `(n·w+1, x, k_i·w)` is the integer combination
`1·row₀ + x·row₁ − Σ c_i·row_{i+2}` of its rows; its entries lie in `[0, 2^(bl−bits)·w)`; and for
EVERY answer `basis` of `lll.reduce` (rows with at least two entries) that contains ± the planted
row, `HiddenNumberProblem(a, b, None, n, MSB)` returns a list containing `x mod n`.
`x` is any integer representative of the key (`x = d`, or `d − n`: both rows are in the lattice). -/
theorem sandwich_msb (a b ks : List Int) (x : Int) (n fb bits : Nat) (hp : n.Prime)
    (hb : b.length = a.length) (hk : ks.length = a.length)
    (hrel : ∀ i, i < a.length → ent a i + ent b i * x ≡ ent ks i [ZMOD n])
    (hbias : ∀ k ∈ ks, 0 ≤ k ∧ k < 2 ^ (bitLength n - bits)) :
    ∃ lat cs,
      getLattice a b none n .msb fb = .ok lat ∧
      lincomb (a.length + 2) (1 :: x :: cs) lat =
        plantedRow n (defaultW .msb a.length fb) x ks ∧
      (∀ v ∈ ks.map (· * defaultW .msb a.length fb),
        0 ≤ v ∧ v < 2 ^ (bitLength n - bits) * defaultW .msb a.length fb) ∧
      ∀ basis : List (List Int), (∀ r ∈ basis, 2 ≤ r.length) →
        PMMem (plantedRow n (defaultW .msb a.length fb) x ks) basis →
        ∃ gs, hiddenNumberProblem a b none n .msb fb basis = .ok gs ∧
          (x % (n : Int)).toNat ∈ gs := by
  have hR := hnpRel_of_modEq a b ks n x 0 hb hk fun i hi => by rw [zero_add]; exact hrel i hi
  refine ⟨_, _, getLattice_none_W a b n .msb fb hb (Or.inr nofun), hnp_pre_msb_rows a b ks _ x _ n hR,
    entries_bound ks _ _ (defaultW_pos _ _ _) hbias, fun basis hrows hin => ?_⟩
  exact hnp_post_any a b n .msb fb hp hb nofun basis hrows x _ _ _ (nw1_modEq n _ x)
    (not_dvd_nw1 n hp _) hin

/-- **COMMON_PREFIX sandwich, `w = None`.**  `k_i ≡ a_i + b_i·x`, `k_i = top + e_i` with
`|e_i| < 2^(bit_length(n) − bits)` (the nonces share the part above the low `bl − bits` bits; `top`
is any common offset — LLL returns the row centred, `e_i` of both signs, which is why the
hypothesis is on `|e_i|`).  Planted row `(n·w+1, x, e_i·w)`, `w = defaultW .commonPrefix len(a)`. -/
theorem sandwich_prefix (a b es : List Int) (x top : Int) (n fb bits : Nat) (hp : n.Prime)
    (hb : b.length = a.length) (hk : es.length = a.length)
    (hrel : ∀ i, i < a.length → ent a i + ent b i * x ≡ top + ent es i [ZMOD n])
    (hbias : ∀ e ∈ es, |e| < 2 ^ (bitLength n - bits)) :
    ∃ lat cs,
      getLattice a b none n .commonPrefix fb = .ok lat ∧
      lincomb (a.length + 2) (1 :: x :: cs) lat =
        plantedRow n (defaultW .commonPrefix a.length fb) x es ∧
      (∀ v ∈ es.map (· * defaultW .commonPrefix a.length fb),
        |v| < 2 ^ (bitLength n - bits) * defaultW .commonPrefix a.length fb) ∧
      ∀ basis : List (List Int), (∀ r ∈ basis, 2 ≤ r.length) →
        PMMem (plantedRow n (defaultW .commonPrefix a.length fb) x es) basis →
        ∃ gs, hiddenNumberProblem a b none n .commonPrefix fb basis = .ok gs ∧
          (x % (n : Int)).toNat ∈ gs := by
  have hG := genRel_of_modEq a b es n 1 x top hb hk fun i hi => by rw [one_mul]; exact hrel i hi
  have hpre := gen_pre_rows a b es _ (defaultW .commonPrefix a.length fb) n
    (n * defaultW .commonPrefix a.length fb + 1) 1 x top hG
  rw [one_mul] at hpre
  refine ⟨_, _, getLattice_none_W a b n .commonPrefix fb hb (Or.inr nofun), hpre,
    target_bound es _ _ (defaultW_pos _ _ _) hbias, fun basis hrows hin => ?_⟩
  exact hnp_post_any a b n .commonPrefix fb hp hb nofun basis hrows x _ _ _ (nw1_modEq n _ x)
    (not_dvd_nw1 n hp _) hin

/-- **GENERALIZED sandwich, `w = None`.**  A secret multiplier `mult` (`n ∤ mult`) with
`mult·(a_i + b_i·x) ≡ top + e_i (mod n)`, `|e_i| < 2^(bl − bits)`; `y` ANY representative of
`mult·x` modulo `n` (LLL returns a reduced one).  Planted row `(mult, y, e_i·w)`,
`w = defaultW .generalized len(a)`. -/
theorem sandwich_generalized (a b es : List Int) (x mult y top : Int) (n fb bits : Nat)
    (hp : n.Prime) (hb : b.length = a.length) (hk : es.length = a.length)
    (hm : ¬ (n : Int) ∣ mult) (hy : y ≡ mult * x [ZMOD n])
    (hrel : ∀ i, i < a.length → mult * (ent a i + ent b i * x) ≡ top + ent es i [ZMOD n])
    (hbias : ∀ e ∈ es, |e| < 2 ^ (bitLength n - bits)) :
    ∃ lat cs,
      getLattice a b none n .generalized fb = .ok lat ∧
      lincomb (a.length + 2) (mult :: y :: cs) lat =
        plantedRowGen (defaultW .generalized a.length fb) mult y es ∧
      (∀ v ∈ es.map (· * defaultW .generalized a.length fb),
        |v| < 2 ^ (bitLength n - bits) * defaultW .generalized a.length fb) ∧
      ∀ basis : List (List Int), (∀ r ∈ basis, 2 ≤ r.length) →
        PMMem (plantedRowGen (defaultW .generalized a.length fb) mult y es) basis →
        ∃ gs, hiddenNumberProblem a b none n .generalized fb basis = .ok gs ∧
          (x % (n : Int)).toNat ∈ gs := by
  have hG := genRel_of_modEq a b es n mult y top hb hk fun i hi => by
    refine Int.ModEq.trans ?_ (hrel i hi)
    rw [mul_add, ← mul_assoc, mul_comm mult (ent b i), mul_assoc]
    exact (hy.mul_left (ent b i)).add_left _
  have hpre := gen_pre_rows a b es _ (defaultW .generalized a.length fb) n 1 mult y top hG
  rw [mul_one] at hpre
  refine ⟨_, _, getLattice_none_W a b n .generalized fb hb (Or.inr nofun), hpre,
    target_bound es _ _ (defaultW_pos _ _ _) hbias, fun basis hrows hin => ?_⟩
  exact hnp_post_any a b n .generalized fb hp hb nofun basis hrows x _ _ _ hy hm hin

/-- **COMMON_POSTFIX sandwich, `w = None`.**  `n` an odd prime, a non-empty window,
`k_i ≡ a_i + b_i·x`, and `k_i = low + 2^β·h_i` with `|h_i| < 2^(bl − β)` where `2^β`,
`β = max(3, fb)`, is the DEFAULT weight (`fb` = float oracle `int(n.bit_length()/len(a)*1.25)`).
Nonces that agree on their low `bits ≥ β` bits have this shape for every centre `c`
(`postfix_common_low_bits`: `h_i = k_i div 2^β − c`; LLL returns the row centred).  Only `β` of the
`bits` common bits are exploited by the default weight; `bits ≥ 16` and `len(a)·bits ≥ 2·bl` imply
`β ≤ bits`.  The code multiplies `a`, `b` by `w⁻¹ mod n` and builds the prefix lattice; the planted
row is `(n·w+1, x, h_i·w)`, `w = 2^β`. -/
theorem sandwich_postfix (a b ks hs : List Int) (x low : Int) (n fb : Nat) (hp : n.Prime)
    (h2 : n ≠ 2) (hne : a ≠ []) (hb : b.length = a.length) (hk : ks.length = a.length)
    (hh : hs.length = a.length)
    (hrel : ∀ i, i < a.length → ent a i + ent b i * x ≡ ent ks i [ZMOD n])
    (hsuf : ∀ i, i < a.length → ent ks i = low + 2 ^ (max 3 fb) * ent hs i)
    (hbias : ∀ h ∈ hs, |h| < 2 ^ (bitLength n - max 3 fb)) :
    ∃ lat cs,
      getLattice a b none n .commonPostfix fb = .ok lat ∧
      lincomb (a.length + 2) (1 :: x :: cs) lat =
        plantedRow n (defaultW .commonPostfix a.length fb) x hs ∧
      (∀ v ∈ hs.map (· * defaultW .commonPostfix a.length fb),
        |v| < 2 ^ (bitLength n - max 3 fb) * defaultW .commonPostfix a.length fb) ∧
      ∀ basis : List (List Int), (∀ r ∈ basis, 2 ≤ r.length) →
        PMMem (plantedRow n (defaultW .commonPostfix a.length fb) x hs) basis →
        ∃ gs, hiddenNumberProblem a b none n .commonPostfix fb basis = .ok gs ∧
          (x % (n : Int)).toNat ∈ gs := by
  have hR := hnpRel_of_modEq a b ks n x 0 hb hk fun i hi => by rw [zero_add]; exact hrel i hi
  obtain ⟨wi, rows, _, hlat', hpre⟩ := C08.hnp_pre_postfix a b ks _ hs x
    (2 ^ (max 3 fb)) low n fb hp.pos (gcd_two_pow n hp h2 _) hR hh hsuf
  have hlat : getLattice a b none n .commonPostfix fb = .ok rows :=
    (getLattice_none a b n .commonPostfix fb
      (Or.inl (mt List.length_eq_zero_iff.mp hne))).trans hlat'
  refine ⟨rows, _, hlat, hpre, target_bound hs _ _ (defaultW_pos _ _ _) hbias,
    fun basis hrows hin => ?_⟩
  exact hnp_post_any a b n .commonPostfix fb hp hb (fun _ => ⟨h2, hne⟩) basis hrows x _ _ _
    (nw1_modEq n _ x) (not_dvd_nw1 n hp _) hin

/-- nonces in `[0, 2^bl)` that agree on their low `bits` bits (`β ≤ bits ≤ bl`) are
`k = (lb mod 2^β + 2^β·c) + 2^β·(k div 2^β − c)` with `|k div 2^β − c| < 2^(bl − β)` for every
centre `0 ≤ c < 2^(bl − β)`: the hypotheses `hsuf`, `hbias` of the COMMON_POSTFIX theorems. -/
theorem postfix_common_low_bits (k lb c : Int) (bl bits β : Nat) (hβ : β ≤ bits) (hbl : bits ≤ bl)
    (h0 : 0 ≤ k) (h1 : k < 2 ^ bl) (hk : k % 2 ^ bits = lb) (hc0 : 0 ≤ c) (hc1 : c < 2 ^ (bl - β)) :
    k = (lb % 2 ^ β + 2 ^ β * c) + 2 ^ β * (k / 2 ^ β - c) ∧ |k / 2 ^ β - c| < 2 ^ (bl - β) := by
  have hd := postfix_decomp k lb bits β hβ hk
  obtain ⟨q0, q1⟩ := postfix_high_bound k bl β h0 h1 (le_trans hβ hbl)
  refine ⟨by linarith, ?_⟩
  rw [abs_lt]; constructor <;> linarith

/-! ## 2. Signature level: `(r_i, s_i, z_i)` signed with ONE key `d`, solver called as the checks do

`vals` = the issuer's (window of) `unique_vals`; `nonce v` = the nonce used for `v = (r, s, z)`;
`SignedWith n d v k` = `s·k ≡ z + r·d (mod n)`.  `argA ab`, `argB ab` = the lists `a`, `b` the check
hands to `HiddenNumberProblem` (`HiddenNumberParams` of every value, `hnpParamsList`). -/

/-- the argument `a` (resp. `b`) of the solver call for a prepared parameter list. -/
abbrev argA (ab : List (Nat × Nat)) : List Int := natsToInts (ab.map Prod.fst)
abbrev argB (ab : List (Nat × Nat)) : List Int := natsToInts (ab.map Prod.snd)

/-- **MSB, signatures.**  `n` prime, `d < n`, every `s` invertible, every value signed with `d`
and a nonce `0 ≤ k < 2^(bl − bits)`: `HiddenNumberParams` succeeds on every value, the planted row
`(n·w+1, d, k_i·w)` (`w = defaultW .msb len`) is in the lattice of the call
`HiddenNumberProblem(a, b, None, n, MSB)` with entries in `[0, 2^(bl−bits)·w)`, and every LLL answer
containing ± that row makes the call return a list containing `d`. -/
theorem sigs_msb (n : Nat) (hp : n.Prime) (d : Nat) (hd : d < n) (vals : List Triple)
    (nonce : Triple → Int) (bits fb : Nat)
    (hs : ∀ v ∈ vals, Int.gcd (v.2.1 : Int) n = 1)
    (hsig : ∀ v ∈ vals, SignedWith n d v (nonce v))
    (hbias : ∀ v ∈ vals, 0 ≤ nonce v ∧ nonce v < 2 ^ (bitLength n - bits)) :
    ∃ ab, hnpParamsList n vals = .ok ab ∧ ∃ lat cs,
      getLattice (argA ab) (argB ab) none n .msb fb = .ok lat ∧
      lincomb (vals.length + 2) (1 :: (d : Int) :: cs) lat =
        plantedRow n (defaultW .msb vals.length fb) d (vals.map nonce) ∧
      (∀ v ∈ (vals.map nonce).map (· * defaultW .msb vals.length fb),
        0 ≤ v ∧ v < 2 ^ (bitLength n - bits) * defaultW .msb vals.length fb) ∧
      ∀ basis : List (List Int), (∀ r ∈ basis, 2 ≤ r.length) →
        PMMem (plantedRow n (defaultW .msb vals.length fb) d (vals.map nonce)) basis →
        ∃ gs, hiddenNumberProblem (argA ab) (argB ab) none n .msb fb basis = .ok gs ∧ d ∈ gs := by
  obtain ⟨ab, hab, hl, hb, hk, hrel⟩ := sig_rel n hp.two_le d d (Int.ModEq.refl _) nonce id vals hs hsig
  obtain ⟨lat, cs, h1, h2, h3, h4⟩ := sandwich_msb (argA ab) (argB ab) (vals.map nonce) d n fb bits
    hp hb hk hrel (List.forall_mem_map.mpr hbias)
  rw [hl] at h2 h3 h4
  exact ⟨ab, hab, lat, cs, h1, h2, h3, fun basis hr hin => (h4 basis hr hin).imp fun gs hg =>
    ⟨hg.1, toNat_of_modEq d d n hd (Int.ModEq.refl _) ▸ hg.2⟩⟩

/-- **COMMON_PREFIX, signatures.**  Nonces `k = top + e(v)`, `|e(v)| < 2^(bl − bits)`; planted
row `(n·w+1, d, e_i·w)`. -/
theorem sigs_prefix (n : Nat) (hp : n.Prime) (d : Nat) (hd : d < n) (vals : List Triple)
    (top : Int) (e : Triple → Int) (bits fb : Nat)
    (hs : ∀ v ∈ vals, Int.gcd (v.2.1 : Int) n = 1)
    (hsig : ∀ v ∈ vals, SignedWith n d v (top + e v))
    (hbias : ∀ v ∈ vals, |e v| < 2 ^ (bitLength n - bits)) :
    ∃ ab, hnpParamsList n vals = .ok ab ∧ ∃ lat cs,
      getLattice (argA ab) (argB ab) none n .commonPrefix fb = .ok lat ∧
      lincomb (vals.length + 2) (1 :: (d : Int) :: cs) lat =
        plantedRow n (defaultW .commonPrefix vals.length fb) d (vals.map e) ∧
      (∀ v ∈ (vals.map e).map (· * defaultW .commonPrefix vals.length fb),
        |v| < 2 ^ (bitLength n - bits) * defaultW .commonPrefix vals.length fb) ∧
      ∀ basis : List (List Int), (∀ r ∈ basis, 2 ≤ r.length) →
        PMMem (plantedRow n (defaultW .commonPrefix vals.length fb) d (vals.map e)) basis →
        ∃ gs, hiddenNumberProblem (argA ab) (argB ab) none n .commonPrefix fb basis = .ok gs ∧
          d ∈ gs := by
  obtain ⟨ab, hab, hl, hb, hk, hrel⟩ := sig_rel n hp.two_le d d (Int.ModEq.refl _) e (top + ·) vals hs
    hsig
  obtain ⟨lat, cs, h1, h2, h3, h4⟩ := sandwich_prefix (argA ab) (argB ab) (vals.map e) d top n fb
    bits hp hb hk hrel (List.forall_mem_map.mpr hbias)
  rw [hl] at h2 h3 h4
  exact ⟨ab, hab, lat, cs, h1, h2, h3, fun basis hr hin => (h4 basis hr hin).imp fun gs hg =>
    ⟨hg.1, toNat_of_modEq d d n hd (Int.ModEq.refl _) ▸ hg.2⟩⟩

/-- **COMMON_POSTFIX, signatures.**  `n` an odd prime, at least one value, nonces
`low + 2^β·hi(v)` with `|hi(v)| < 2^(bl − β)`, `β = max(3, fb)` for the float oracle `fb` of this
window; planted row `(n·w+1, d, hi_i·w)`, `w = 2^β`. -/
theorem sigs_postfix (n : Nat) (hp : n.Prime) (h2 : n ≠ 2) (d : Nat) (hd : d < n)
    (vals : List Triple) (hne : vals ≠ []) (low : Int) (hi : Triple → Int) (fb : Nat)
    (hs : ∀ v ∈ vals, Int.gcd (v.2.1 : Int) n = 1)
    (hsig : ∀ v ∈ vals, SignedWith n d v (low + 2 ^ (max 3 fb) * hi v))
    (hbias : ∀ v ∈ vals, |hi v| < 2 ^ (bitLength n - max 3 fb)) :
    ∃ ab, hnpParamsList n vals = .ok ab ∧ ∃ lat cs,
      getLattice (argA ab) (argB ab) none n .commonPostfix fb = .ok lat ∧
      lincomb (vals.length + 2) (1 :: (d : Int) :: cs) lat =
        plantedRow n (defaultW .commonPostfix vals.length fb) d (vals.map hi) ∧
      (∀ v ∈ (vals.map hi).map (· * defaultW .commonPostfix vals.length fb),
        |v| < 2 ^ (bitLength n - max 3 fb) * defaultW .commonPostfix vals.length fb) ∧
      ∀ basis : List (List Int), (∀ r ∈ basis, 2 ≤ r.length) →
        PMMem (plantedRow n (defaultW .commonPostfix vals.length fb) d (vals.map hi)) basis →
        ∃ gs, hiddenNumberProblem (argA ab) (argB ab) none n .commonPostfix fb basis = .ok gs ∧
          d ∈ gs := by
  obtain ⟨ab, hab, hl, hb, hk, hrel⟩ := sig_rel n hp.two_le d d (Int.ModEq.refl _) hi
    (low + 2 ^ (max 3 fb) * ·) vals hs hsig
  have hane : argA ab ≠ [] := fun h0 =>
    hne (List.length_eq_zero_iff.mp (hl.symm.trans (congrArg List.length h0)))
  obtain ⟨lat, cs, h1, h2', h3, h4⟩ := sandwich_postfix (argA ab) (argB ab)
    ((vals.map hi).map (low + 2 ^ (max 3 fb) * ·)) (vals.map hi) d low n fb hp h2 hane hb
    (by simpa using hk) hk
    (fun i hi' => by rw [ent_map_of_lt _ _ i (by rw [hk]; exact hi')]; exact hrel i hi')
    (fun i hi' => ent_map_of_lt _ _ i (by rw [hk]; exact hi'))
    (List.forall_mem_map.mpr hbias)
  rw [hl] at h2' h3 h4
  exact ⟨ab, hab, lat, cs, h1, h2', h3, fun basis hr hin => (h4 basis hr hin).imp fun gs hg =>
    ⟨hg.1, toNat_of_modEq d d n hd (Int.ModEq.refl _) ▸ hg.2⟩⟩

/-- **GENERALIZED, signatures.**  A secret multiplier `mult` (`n ∤ mult`) such that
`mult·k ≡ top + e(v) (mod n)` for the nonce `k` of every value, `|e(v)| < 2^(bl − bits)`; `y` any
representative of `mult·d`; planted row `(mult, y, e_i·w)`, `w = defaultW .generalized len`. -/
theorem sigs_generalized (n : Nat) (hp : n.Prime) (d : Nat) (hd : d < n) (vals : List Triple)
    (nonce : Triple → Int) (mult y top : Int) (e : Triple → Int) (bits fb : Nat)
    (hm : ¬ (n : Int) ∣ mult) (hy : y ≡ mult * d [ZMOD n])
    (hs : ∀ v ∈ vals, Int.gcd (v.2.1 : Int) n = 1)
    (hsig : ∀ v ∈ vals, SignedWith n d v (nonce v))
    (hmul : ∀ v ∈ vals, mult * nonce v ≡ top + e v [ZMOD n])
    (hbias : ∀ v ∈ vals, |e v| < 2 ^ (bitLength n - bits)) :
    ∃ ab, hnpParamsList n vals = .ok ab ∧ ∃ lat cs,
      getLattice (argA ab) (argB ab) none n .generalized fb = .ok lat ∧
      lincomb (vals.length + 2) (mult :: y :: cs) lat =
        plantedRowGen (defaultW .generalized vals.length fb) mult y (vals.map e) ∧
      (∀ v ∈ (vals.map e).map (· * defaultW .generalized vals.length fb),
        |v| < 2 ^ (bitLength n - bits) * defaultW .generalized vals.length fb) ∧
      ∀ basis : List (List Int), (∀ r ∈ basis, 2 ≤ r.length) →
        PMMem (plantedRowGen (defaultW .generalized vals.length fb) mult y (vals.map e)) basis →
        ∃ gs, hiddenNumberProblem (argA ab) (argB ab) none n .generalized fb basis = .ok gs ∧
          d ∈ gs := by
  obtain ⟨ab, hab, hl, hb, hk, hrel⟩ := sig_rel n hp.two_le d d (Int.ModEq.refl _) nonce id vals hs hsig
  obtain ⟨lat, cs, h1, h2, h3, h4⟩ := sandwich_generalized (argA ab) (argB ab) (vals.map e) d mult y
    top n fb bits hp hb (by simpa using hk) hm hy (fun i hi => by
      have hi' : i < vals.length := hl ▸ hi
      rw [ent_map_getElem vals e i hi']
      refine ((hrel i hi).mul_left mult).trans ?_
      rw [id, ent_map_getElem vals nonce i hi']
      exact hmul _ (List.getElem_mem hi')) (List.forall_mem_map.mpr hbias)
  rw [hl] at h2 h3 h4
  exact ⟨ab, hab, lat, cs, h1, h2, h3, fun basis hr hin => (h4 basis hr hin).imp fun gs hg =>
    ⟨hg.1, toNat_of_modEq d d n hd (Int.ModEq.refl _) ▸ hg.2⟩⟩

/-! ## 3. Check level: the solver oracle of `BiasedBaseCheck.Check` instantiated by the solver model

`Setting k O factory arts res cid obj key d env lll` (Proofs/C08ChainCheck.lean) bundles: valid
reduced curve objects with distinct ids; `list(guesses)` consistent; the call returned `res`;
`n` prime and the order of `G`; `key` reduced with private key `d < n`; and `SolvedGroup`: every
recorded solver answer of the curve group `cid` has exactly the elements the solver MODEL returns on
the recorded `lll.reduce` answers `lll j kk` (evaluable: `solvedGroupB`, `solvedGroup_of_B`).

In each theorem `j` is the position of an issuer in the group's dict, `(O cid).uniq j` its
`unique_vals` (all signed with `d`, all biased), `win` the `kk`-th window the check cuts
(`window_single`: at most 24 values ⇒ one window with all of them), `lll j kk 0` the answer of the
one `lll.reduce` call made for it.  Conclusion: EVERY signature of the batch with curve `cid` and
key tuple `key` is marked weak with DISCRETE_LOG = `format(d, "x")` (`posVerdict d`). -/

/-- **chain, CheckNonceMSB.** -/
theorem chain_msb {O : Nat → GroupOracle} {factory : Factory} {arts : List Sig} {res : CheckResult}
    {cid : Nat} {obj : CurveObj} {key : Key} {d : Nat} {env : SolverEnv}
    {lll : Nat → Nat → LllAnswers}
    (S : Setting (.biased (.bias 1)) O factory arts res cid obj key d env lll)
    (j : Nat) (hj : j < (mapIssuerSigIndexes ((groupFrom cid 0 arts).map Prod.snd)).length)
    (nonce : Triple → Int) (bits : Nat)
    (hsig : ∀ v ∈ (O cid).uniq j, SignedWith obj.curve.n d v (nonce v))
    (hbias : ∀ v ∈ (O cid).uniq j, 0 ≤ nonce v ∧ nonce v < 2 ^ (bitLength obj.curve.n - bits))
    (kk : Nat) (win : List Triple) (hwin : (sizeLoop windowSizes ((O cid).uniq j))[kk]? = some win)
    (hrows : ∀ r ∈ lll j kk 0, 2 ≤ r.length)
    (hlll : PMMem (plantedRow obj.curve.n (defaultW .msb win.length 0) d (win.map nonce))
      (lll j kk 0)) :
    ∀ bi s, arts[bi]? = some s → s.curve = cid → s.key = key →
      verdictOf res.writes bi = some (posVerdict d) :=
  chain_post rfl S nofun j hj kk win hwin hrows _ d _ (nw1_modEq _ _ _)
    (not_dvd_nw1 _ S.nPrime _) hlll

/-- **chain, CheckNonceCommonPrefix.**  Nonces `top + e(v)`, `|e(v)| < 2^(bl − bits)`. -/
theorem chain_prefix {O : Nat → GroupOracle} {factory : Factory} {arts : List Sig}
    {res : CheckResult} {cid : Nat} {obj : CurveObj} {key : Key} {d : Nat} {env : SolverEnv}
    {lll : Nat → Nat → LllAnswers}
    (S : Setting (.biased (.bias 2)) O factory arts res cid obj key d env lll)
    (j : Nat) (hj : j < (mapIssuerSigIndexes ((groupFrom cid 0 arts).map Prod.snd)).length)
    (top : Int) (e : Triple → Int) (bits : Nat)
    (hsig : ∀ v ∈ (O cid).uniq j, SignedWith obj.curve.n d v (top + e v))
    (hbias : ∀ v ∈ (O cid).uniq j, |e v| < 2 ^ (bitLength obj.curve.n - bits))
    (kk : Nat) (win : List Triple) (hwin : (sizeLoop windowSizes ((O cid).uniq j))[kk]? = some win)
    (hrows : ∀ r ∈ lll j kk 0, 2 ≤ r.length)
    (hlll : PMMem (plantedRow obj.curve.n (defaultW .commonPrefix win.length 0) d (win.map e))
      (lll j kk 0)) :
    ∀ bi s, arts[bi]? = some s → s.curve = cid → s.key = key →
      verdictOf res.writes bi = some (posVerdict d) :=
  chain_post rfl S nofun j hj kk win hwin hrows _ d _ (nw1_modEq _ _ _)
    (not_dvd_nw1 _ S.nPrime _) hlll

/-- **chain, CheckNonceCommonPostfix.**  `n ≠ 2`; nonces `low + 2^β·hi(v)`, `|hi(v)| < 2^(bl − β)`,
`β = max(3, fb)` where `fb = env.fbOf n len(win)` is the float oracle of this window (nonces agreeing
on `bits ≥ β` low bits: `postfix_common_low_bits`). -/
theorem chain_postfix {O : Nat → GroupOracle} {factory : Factory} {arts : List Sig}
    {res : CheckResult} {cid : Nat} {obj : CurveObj} {key : Key} {d : Nat} {env : SolverEnv}
    {lll : Nat → Nat → LllAnswers}
    (S : Setting (.biased (.bias 3)) O factory arts res cid obj key d env lll)
    (h2 : obj.curve.n ≠ 2)
    (j : Nat) (hj : j < (mapIssuerSigIndexes ((groupFrom cid 0 arts).map Prod.snd)).length)
    (kk : Nat) (win : List Triple) (hwin : (sizeLoop windowSizes ((O cid).uniq j))[kk]? = some win)
    (low : Int) (hi : Triple → Int)
    (hsig : ∀ v ∈ (O cid).uniq j, SignedWith obj.curve.n d v
      (low + 2 ^ (max 3 (env.fbOf obj.curve.n win.length)) * hi v))
    (hbias : ∀ v ∈ (O cid).uniq j,
      |hi v| < 2 ^ (bitLength obj.curve.n - max 3 (env.fbOf obj.curve.n win.length)))
    (hrows : ∀ r ∈ lll j kk 0, 2 ≤ r.length)
    (hlll : PMMem (plantedRow obj.curve.n
        (defaultW .commonPostfix win.length (env.fbOf obj.curve.n win.length)) d (win.map hi))
      (lll j kk 0)) :
    ∀ bi s, arts[bi]? = some s → s.curve = cid → s.key = key →
      verdictOf res.writes bi = some (posVerdict d) :=
  chain_post rfl S (fun _ => h2) j hj kk win hwin hrows _ d _ (nw1_modEq _ _ _)
    (not_dvd_nw1 _ S.nPrime _) hlll

/-- **chain, CheckNonceGeneralized.**  A secret multiplier `mult` (`n ∤ mult`) with
`mult·k ≡ top + e(v) (mod n)`, `|e(v)| < 2^(bl − bits)`; `y ≡ mult·d`. -/
theorem chain_generalized {O : Nat → GroupOracle} {factory : Factory} {arts : List Sig}
    {res : CheckResult} {cid : Nat} {obj : CurveObj} {key : Key} {d : Nat} {env : SolverEnv}
    {lll : Nat → Nat → LllAnswers}
    (S : Setting (.biased (.bias 4)) O factory arts res cid obj key d env lll)
    (j : Nat) (hj : j < (mapIssuerSigIndexes ((groupFrom cid 0 arts).map Prod.snd)).length)
    (nonce : Triple → Int) (mult y top : Int) (e : Triple → Int) (bits : Nat)
    (hm : ¬ (obj.curve.n : Int) ∣ mult) (hy : y ≡ mult * d [ZMOD obj.curve.n])
    (hsig : ∀ v ∈ (O cid).uniq j, SignedWith obj.curve.n d v (nonce v))
    (hmul : ∀ v ∈ (O cid).uniq j, mult * nonce v ≡ top + e v [ZMOD obj.curve.n])
    (hbias : ∀ v ∈ (O cid).uniq j, |e v| < 2 ^ (bitLength obj.curve.n - bits))
    (kk : Nat) (win : List Triple) (hwin : (sizeLoop windowSizes ((O cid).uniq j))[kk]? = some win)
    (hrows : ∀ r ∈ lll j kk 0, 2 ≤ r.length)
    (hlll : PMMem (plantedRowGen (defaultW .generalized win.length 0) mult y (win.map e))
      (lll j kk 0)) :
    ∀ bi s, arts[bi]? = some s → s.curve = cid → s.key = key →
      verdictOf res.writes bi = some (posVerdict d) :=
  chain_post rfl S nofun j hj kk win hwin hrows mult y _ hy hm hlll

/-! ## 4. The Cr50 U2F check (two signatures) -/

/-- the planted row of the Cr50 lattice: the base-256 digits of the two nonces (one digit per
32-bit word, every byte of a word equal), then `−256, 0`. -/
def plantedRowCr50 (c1 c2 : List Int) : List Int := c1 ++ (c2 ++ [-256, 0])

/-- **Cr50 sandwich.**  `n` prime with bit length a multiple of 32, `d < n`, two values signed with
`d` and nonces `k_i = Σ_j c^i_j·0x01010101·2^(32j)` (digits `0 ≤ c^i_j < 256`, one per word),
`n ∤ r_1, r_2`.  PRE: the row `(c¹, c², −256, 0)` is an explicit integer combination of the rows of
the lattice `Cr50U2fGuesses` builds (entries: the digits and 256, against `n` in the last row).
POST: every `lll.reduce` answer containing ± that row makes `Cr50U2fGuesses(r1,s1,z1,r2,s2,z2,n)`
return a list containing `d`. -/
theorem sandwich_cr50 (n : Nat) (hp : n.Prime) (hbl : bitLength n % 32 = 0) (d : Nat) (hd : d < n)
    (v1 v2 : Triple) (c1 c2 : List Int)
    (h1 : c1.length = (cr50Basis (bitLength n)).length)
    (h2 : c2.length = (cr50Basis (bitLength n)).length)
    (hd1 : ∀ c ∈ c1, 0 ≤ c ∧ c < 256) (hd2 : ∀ c ∈ c2, 0 ≤ c ∧ c < 256)
    (hs1 : SignedWith n d v1 (dotZip (cr50Basis (bitLength n)) c1))
    (hs2 : SignedWith n d v2 (dotZip (cr50Basis (bitLength n)) c2))
    (hr1 : ¬ n ∣ v1.1) (hr2 : ¬ n ∣ v2.1) :
    (∃ rows q, cr50Lattice ((v2.1 : Int) * v1.2.1 % (n : Int)) (-(v1.1 : Int) * v2.2.1 % (n : Int))
        (((v2.1 : Int) * v1.2.2 - (v1.1 : Int) * v2.2.2) % (n : Int)) n
        (cr50Basis (bitLength n)) = .ok rows ∧
      lincomb (2 * (cr50Basis (bitLength n)).length + 2) (c1 ++ (c2 ++ [-1, -q])) rows =
        plantedRowCr50 c1 c2) ∧
    ∀ reduced : List (List Int), PMMem (plantedRowCr50 c1 c2) reduced →
      ∃ gs, cr50Guesses v1.1 v1.2.1 v1.2.2 v2.1 v2.2.1 v2.2.2 n reduced = .ok gs ∧ d ∈ gs := by
  have cop : ∀ r : Nat, ¬ n ∣ r → Int.gcd (r : Int) n = 1 := fun r hr =>
    gcd_eq_one_of_not_dvd n hp r fun h => hr (Int.natCast_dvd_natCast.mp h)
  refine ⟨C08.cr50_pre v1.1 v1.2.1 v1.2.2 v2.1 v2.2.1 v2.2.2 d n hp.pos c1 c2 h1 h2 hs1 hs2, ?_⟩
  intro reduced hin
  have hrow : (c1 ++ (c2 ++ [-256, 0])) ∈ reduced ∨
      (c1.map (fun c => -c) ++ (c2.map (fun c => -c) ++ [256, 0])) ∈ reduced := by
    rcases hin with h | h
    · exact Or.inl h
    · right
      simpa [plantedRowCr50] using h
  obtain ⟨gs, hg1, hg2⟩ : ∃ gs, cr50Guesses v1.1 v1.2.1 v1.2.2 v2.1 v2.2.1 v2.2.2 n reduced = .ok gs ∧
      ((d : Int) % (n : Int)).toNat ∈ gs := by
    rcases hrow with h | h
    · exact C08.cr50_post v1.1 v1.2.1 v1.2.2 v2.1 v2.2.1 v2.2.2 d n reduced c1 c2 [-256, 0] hbl
        hp.one_lt h1 h2 (C08.cr50_nonce_nonneg _ c1 (fun c hc => (hd1 c hc).1))
        (C08.cr50_nonce_nonneg _ c2 (fun c hc => (hd2 c hc).1)) hs1 hs2 (cop _ hr1) (cop _ hr2)
        (Or.inl h)
    · exact C08.cr50_post v1.1 v1.2.1 v1.2.2 v2.1 v2.2.1 v2.2.2 d n reduced c1 c2 [256, 0] hbl
        hp.one_lt h1 h2 (C08.cr50_nonce_nonneg _ c1 (fun c hc => (hd1 c hc).1))
        (C08.cr50_nonce_nonneg _ c2 (fun c hc => (hd2 c hc).1)) hs1 hs2 (cop _ hr1) (cop _ hr2)
        (Or.inr h)
  refine ⟨gs, hg1, ?_⟩
  rwa [Int.emod_eq_of_lt (by omega) (by exact_mod_cast hd), Int.toNat_natCast] at hg2

/-- **chain, CheckCr50U2f.**  Two CONSECUTIVE values `unique_vals[kk]`, `unique_vals[kk+1]` of
issuer `j`, both signed with `d` and nonces of the U2F shape: if the `lll.reduce` answer of that
pair's call contains ± the digit row, every signature of the key tuple is flagged with `d`. -/
theorem chain_cr50 {O : Nat → GroupOracle} {factory : Factory} {arts : List Sig}
    {res : CheckResult} {cid : Nat} {obj : CurveObj} {key : Key} {d : Nat} {env : SolverEnv}
    {lll : Nat → Nat → LllAnswers}
    (S : Setting .cr50 O factory arts res cid obj key d env lll)
    (hbl : bitLength obj.curve.n % 32 = 0)
    (j : Nat) (hj : j < (mapIssuerSigIndexes ((groupFrom cid 0 arts).map Prod.snd)).length)
    (kk : Nat) (v1 v2 : Triple) (hv1 : ((O cid).uniq j)[kk]? = some v1)
    (hv2 : ((O cid).uniq j)[kk + 1]? = some v2) (c1 c2 : List Int)
    (h1 : c1.length = (cr50Basis (bitLength obj.curve.n)).length)
    (h2 : c2.length = (cr50Basis (bitLength obj.curve.n)).length)
    (hd1 : ∀ c ∈ c1, 0 ≤ c ∧ c < 256) (hd2 : ∀ c ∈ c2, 0 ≤ c ∧ c < 256)
    (hs1 : SignedWith obj.curve.n d v1 (dotZip (cr50Basis (bitLength obj.curve.n)) c1))
    (hs2 : SignedWith obj.curve.n d v2 (dotZip (cr50Basis (bitLength obj.curve.n)) c2))
    (hr1 : ¬ obj.curve.n ∣ v1.1) (hr2 : ¬ obj.curve.n ∣ v2.1)
    (hlll : PMMem (plantedRowCr50 c1 c2) (lll j kk 0)) :
    ∀ bi s, arts[bi]? = some s → s.curve = cid → s.key = key →
      verdictOf res.writes bi = some (posVerdict d) := by
  obtain ⟨gs, hgs, hdgs⟩ := (sandwich_cr50 obj.curve.n S.nPrime hbl d S.dLt v1 v2 c1 c2 h1 h2 hd1 hd2
    hs1 hs2 hr1 hr2).2 _ hlll
  exact chain_cr50_core O factory arts res S.factoryOK S.factoryReduced S.nodup S.guessConsistent
    S.checked cid obj S.hobj S.gOrder key S.keyReduced d S.dLt S.keyOf env S.envN lll S.solved j hj
    kk v1 v2 hv1 hv2 gs hgs hdgs

/-! ## 5. The LCG checks (`HiddenNumberProblemForCurve`, precomputed constants)

PARTIAL with respect to the property sentence "nonces drawn from GMP's truncated linear congruential
generator are detected … from as many consecutive signatures as the shipped model declares": the
bias condition is stated on the quantity the precomputed constants are MADE to shrink —
`A_t + B_t·x mod n` for the flattened lists `A_t = (a_i·c_j − d_j) mod n`, `B_t = b_i·c_j mod n` of
one yielded subset (`C08.precomp_entries`: `A_t + B_t·x ≡ c_j·k_i − d_j`, `k_i` the nonce) — not on
"the nonces come from the LCG".  That the shipped 1 200 lines of constants make `c_j·k − d_j mod n`
small for GMP's generator is not provable here (DESIGN §5 C08 ✗). -/

/-- **LCG sandwich.**  `n` prime, `len(a) = len(b)`, at least one flag, selected metadata positive
(`C08.shipped_meta_ok`).  `s` = the `k`-th subset `_HiddenNumberProblemSubsets` yields (its window
`s.a`, `s.b`, its constants, its weight `s.w`), `es` with `A_t + B_t·x ≡ e_t (mod n)`.
PRE: `(n·w+1, x, e_t·w)` is an integer combination of the rows of the lattice
`HiddenNumberProblemWithPrecomputation` builds for that subset; `|e_t| < B` gives entries below
`B·w` (against `n·w` on the diagonal).  POST: if the
`k`-th `lll.reduce` answer contains ± that row, `HiddenNumberProblemForCurve` returns a list
containing `x mod n` — whatever the other reductions returned. -/
theorem sandwich_lcg (a b : List Int) (x : Int) (curve n : Nat) (lcg : Option Nat) (f : SearchFlags)
    (factory : List LcgMeta) (oracle : Nat → List (List Int)) (hp : n.Prime)
    (hlen : a.length = b.length) (hf : f.none = false)
    (hmeta : ∀ m ∈ factory, entrySelected m curve lcg = true → MetaOk m)
    (k : Nat) (s : HnpSubset) (hs : (hnpSubsets a b curve lcg f factory).yields[k]? = some s)
    (es : List Int) (hes : es.length = s.a.length * s.constants.length)
    (hrel : ∀ t, t < s.a.length * s.constants.length →
      ent (precompAs s.a n s.constants) t + ent (precompBs s.a s.b n s.constants) t * x ≡
        ent es t [ZMOD n])
    (hrows : ∀ i, ∀ r ∈ oracle i, 2 ≤ r.length) :
    ∃ rows cs, precompLattice s.a s.b n s.constants s.w = .ok rows ∧
      lincomb (s.a.length * s.constants.length + 2) (1 :: x :: cs) rows = plantedRow n s.w x es ∧
      (∀ B : Int, 0 < s.w → (∀ e ∈ es, |e| < B) → ∀ v ∈ es.map (· * s.w), |v| < B * s.w) ∧
      (PMMem (plantedRow n s.w x es) (oracle k) →
        ∃ gs, hnpForCurve a b curve (some (some n)) lcg f factory oracle = .ok gs ∧
          (x % (n : Int)).toNat ∈ gs) := by
  have hsub : hnpSubsets a b curve lcg f factory = subsetsLoop a b curve lcg f factory := by
    unfold hnpSubsets; rw [hf]; rfl
  have hb : s.a.length ≤ s.b.length :=
    le_of_eq ((subsetsLoop_ok a b curve lcg f hlen factory hmeta).2 s
      (by rw [← hsub]; exact List.mem_of_getElem? hs))
  have hAl := precompAs_length s.a n s.constants
  have hR := hnpRel_of_modEq (precompAs s.a n s.constants) (precompBs s.a s.b n s.constants) es n x 0
    (by rw [hAl, precompBs_length s.a s.b n s.constants hb]) (by rw [hAl, hes])
    fun t ht => by rw [zero_add]; exact hrel t (hAl ▸ ht)
  obtain ⟨rows, hrows', hpre⟩ := C08.precomp_pre s.a s.b n s.constants s.w x es _ hp.pos hb hR
  refine ⟨rows, _, hrows', hpre, fun B hw hbias => target_bound es _ B hw hbias, fun hin => ?_⟩
  exact C08.forcurve_post a b curve n lcg f factory oracle x hlen hf hp.one_lt hmeta
    (fun i r hr => rowOk_of_prime n hp r (hrows i r hr))
    ⟨k, (List.getElem?_eq_some_iff.mp hs).1,
      good_row_of_pm n hp (oracle k) x _ _ _ (nw1_modEq n _ x) (not_dvd_nw1 n hp _) hin⟩

/-- **chain, CheckLCGNonceGMP / CheckLCGNonceJavaUtilRandom** (`Mode.lcg name flags`).  `ab` = the
prepared parameters of issuer `j`; `s` the `k`-th subset yielded for them; `lll j 0 i` the answer of
the `i`-th `lll.reduce` call inside the one `HiddenNumberProblemForCurve` call of this issuer. -/
theorem chain_lcg {name flags : Nat} {O : Nat → GroupOracle} {factory : Factory} {arts : List Sig}
    {res : CheckResult} {cid : Nat} {obj : CurveObj} {key : Key} {d : Nat} {env : SolverEnv}
    {lll : Nat → Nat → LllAnswers}
    (S : Setting (.biased (.lcg name flags)) O factory arts res cid obj key d env lll)
    (j : Nat) (hj : j < (mapIssuerSigIndexes ((groupFrom cid 0 arts).map Prod.snd)).length)
    (ab : List (Nat × Nat)) (hab : hnpParamsList obj.curve.n ((O cid).uniq j) = .ok ab)
    (hf : (flagsOfNat flags).none = false)
    (hmeta : ∀ m ∈ env.lcgFactory, entrySelected m cid (some name) = true → MetaOk m)
    (k : Nat) (s : HnpSubset)
    (hs : (hnpSubsets (argA ab) (argB ab) cid (some name) (flagsOfNat flags)
      env.lcgFactory).yields[k]? = some s)
    (es : List Int) (hes : es.length = s.a.length * s.constants.length)
    (hrel : ∀ t, t < s.a.length * s.constants.length →
      ent (precompAs s.a obj.curve.n s.constants) t +
        ent (precompBs s.a s.b obj.curve.n s.constants) t * d ≡ ent es t [ZMOD obj.curve.n])
    (hrows : ∀ i, ∀ r ∈ lll j 0 i, 2 ≤ r.length)
    (hlll : PMMem (plantedRow obj.curve.n s.w d es) (lll j 0 k)) :
    ∀ bi s', arts[bi]? = some s' → s'.curve = cid → s'.key = key →
      verdictOf res.writes bi = some (posVerdict d) := by
  have hlen : (argA ab).length = (argB ab).length := by simp [natsToInts]
  obtain ⟨_, _, _, _, _, hpost⟩ := sandwich_lcg (argA ab) (argB ab) d cid obj.curve.n (some name)
    (flagsOfNat flags) env.lcgFactory (lll j 0) S.nPrime hlen hf hmeta k s hs es hes hrel
    hrows
  obtain ⟨gs, hgs, hdgs⟩ := hpost hlll
  rw [toNat_of_modEq d d _ S.dLt (Int.ModEq.refl _)] at hdgs
  exact chain_forcurve name flags O factory arts res S.factoryOK S.factoryReduced S.nodup
    S.guessConsistent S.checked cid obj S.hobj S.gOrder key S.keyReduced d S.dLt S.keyOf env S.envN
    lll S.solved j hj ab hab gs hgs hdgs

/-! ## 6. The hypotheses about the curve objects hold for CURVE_FACTORY

For `ec_util.CURVE_FACTORY` as regenerated from /repo (`namedFactory`: nine curves, fresh caches)
every curve-side field of `Setting` is a theorem: field primes and group orders are the certified
primes of Props/C11Primes, `G` has order exactly `n`, `n` is odd. -/

theorem named_curves_ok :
    FactoryOK namedFactory ∧ FactoryReduced namedFactory ∧ (namedFactory.map Prod.fst).Nodup ∧
    ∀ cid obj, (cid, some obj) ∈ namedFactory →
      obj.curve.n.Prime ∧ GOrder obj.curve ∧ obj.curve.n ≠ 2 := by
  obtain ⟨h1, h2, h3⟩ := C02S.namedFactory_ok fun c hc => (named_facts c hc).2.1
  refine ⟨h1, h2, h3, fun cid obj hm => ?_⟩
  obtain ⟨c, hc, rfl⟩ := namedFactory_objs hm
  obtain ⟨hpar, _, hn, hodd⟩ := named_facts c hc
  exact ⟨hn, gOrder_of_paramsOK c hpar hn, fun h2 => by rw [h2] at hodd; cases hodd⟩

/-! ## 7. The solver model does not raise on the calls the checks make (solver side)

`SolvedGroup` asks, call by call, that the solver MODEL returns.  For the bias checks this is
automatic on every supported curve: prime `n`, `len(a) = len(b)` (always: both come from
`HiddenNumberParams`), a non-empty window (`window_subset`), `n` odd for COMMON_POSTFIX, and every
row of the LLL answer with at least two entries.  (For `Cr50U2fGuesses`: `C08.cr50_total_prime`,
which needs `n ∤ r₁, r₂` — the real code raises `ZeroDivisionError` for `r ≡ 0`.) -/

theorem hnp_total_prime (a b : List Int) (n : Nat) (bias : Bias) (fb : Nat)
    (basis : List (List Int)) (hp : n.Prime) (hb : b.length = a.length)
    (hpost : bias = .commonPostfix → n ≠ 2 ∧ a ≠ [])
    (hrows : ∀ r ∈ basis, 2 ≤ r.length) :
    ∃ gs, hiddenNumberProblem a b none n bias fb basis = .ok gs :=
  hnp_total a b n bias fb basis hp hb hpost hrows

/-- where the hypotheses of `hnp_total_prime` are needed: `n = 2` with COMMON_POSTFIX raises
(`gmpy.invert(8, 2)`), and so does a row with fewer than two entries. -/
example : hiddenNumberProblem [1] [1] none 2 .commonPostfix 0 [] = .error .zeroDivision ∧
    hiddenNumberProblem [1] [1] none 7 .msb 0 [[3]] = .error .indexError := by decide +kernel

end Paranoid.C08Chain
