/-
Props/C17Ec.lean — C17 ("a verdict does not depend on batch neighbours, batch order or earlier
calls") for the four EC key checks, stated about the check models of Model/Bsgs.lean /
Model/EcAll.lean (tied to the real code by harness/corr/c10.py, c16.py, ecall.py).

What holds, and what does NOT (each negative statement has a kernel-checked witness here and a run
of the real code, quoted in the docstring):

* CheckValidECKey, CheckWeakCurve: the verdict of a key is a function of that key alone — batch,
  position, order, earlier calls are irrelevant (`checkValidECKey_local`, `checkWeakCurve_local`,
  end to end `checkAllEC_individual_entries_local`).
* CheckWeakECPrivateKey (registered as a SINGLE check in ec_single_checks.py): the verdict of a key
  is NOT a function of the key alone — the table size is `int(sqrt(2**32 · 36 · len(keys)))`, so a
  private key just outside the documented families can be found in a larger batch and missed alone
  (`weakKey_verdict_depends_on_batch`).  What IS invariant: whatever is flagged is correct whatever
  the neighbours (`weakKey_sound_any_batch`), and the documented families (32-bit value shifted by
  a multiple of 8 bits, 32-bit word repeated) are flagged with a congruent log in EVERY batch, from
  EVERY reachable state (`weakKey_guaranteed_any_context`).
* CheckECKeySmallDifference (joint): the BOOLEAN verdicts are exactly characterised
  (`smallDiff_flag_iff`: flagged ⇔ some other key of the batch on the same curve differs by
  `k • G`, `0 < |k| < V`, `V` = number of multiples in the table in use), hence invariant under
  permutation and duplication of the batch (`smallDiff_flags_same_set`, `smallDiff_flags_perm`) and
  under adding keys that are not within `V` of the key (`smallDiff_add_healthy`).  The recorded
  EVIDENCE (which partner, which `k`) is the last hit in scan order and depends on the batch order
  (`smallDiff_evidence_depends_on_order`); `V` depends on the cached table, so a pair at distance
  `≥ max_diff` that is not flagged in a fresh process can be flagged after earlier work
  (`smallDiff_verdict_depends_on_history`) — never the other way round
  (`smallDiff_guaranteed_any_context`).
-/
import ParanoidModel.Props.C16EcAll
import ParanoidModel.Props.C10
import ParanoidModel.Proofs.BsgsDiffExactCheck
import ParanoidModel.Proofs.EcPrivKey
namespace Paranoid.C17Ec
open Paranoid Paranoid.Ec Paranoid.Bsgs Paranoid.EcAll WeierstrassCurve

/-! ## CheckValidECKey, CheckWeakCurve: functions of the key alone -/

/-- ★ CheckValidECKey: in ANY two batches the verdict of the same key is the same, and it is the
verdict of checking the key alone. -/
theorem checkValidECKey_local (f : Factory) (keys keys' : List ECKey)
    (row row' : List Bsgs.KeyVerdict) (h : checkValidECKey f keys = .ok row)
    (h' : checkValidECKey f keys' = .ok row') (n n' : Nat) (k : ECKey) (hk : keys[n]? = some k)
    (hk' : keys'[n']? = some k) :
    row[n]? = row'[n']? ∧ ∃ v, checkValidECKey f [k] = .ok [v] ∧ row[n]? = some v := by
  obtain ⟨v, hv, hkv⟩ := forall₂_idx (forE_ok h) n k hk
  obtain ⟨v', hv', hkv'⟩ := forall₂_idx (forE_ok h') n' k hk'
  rw [hkv] at hkv'; cases hkv'
  refine ⟨by rw [hv, hv'], v, ?_, hv⟩
  simp only [checkValidECKey, forE, hkv]

/-- ★ CheckWeakCurve: the verdict at a position is `weakCurveOne` of the key at that position — the
verdict of checking the key alone. -/
theorem checkWeakCurve_local (f : Factory) (keys : List ECKey) (n : Nat) (k : ECKey)
    (hk : keys[n]? = some k) :
    (checkWeakCurve f keys)[n]? = some (weakCurveOne f k) ∧
    checkWeakCurve f [k] = [weakCurveOne f k] := by
  constructor
  · simp only [checkWeakCurve, List.getElem?_map, hk, Option.map_some]
  · rfl

/-- ★ end to end: two runs of `CheckAllEC` on FRESH keys — any batches, sizes, positions,
neighbours, parameters, float values, `_table` states — give the same key (same curve id and point)
the same CheckValidECKey entry and the same CheckWeakCurve entry. -/
theorem checkAllEC_individual_entries_local (p p' : EcParams) (o o' : EcOracle)
    (sts sts2 : List EcState) (arts arts2 arts' arts2' : List Artifact) (r r2 : Bool)
    (sts' sts2' : List EcState) (hfresh : ∀ a ∈ arts, a.info = TestInfo.empty)
    (hfresh2 : ∀ a ∈ arts2, a.info = TestInfo.empty)
    (h : checkAllECFull p o sts arts = .ok ((arts', r), sts'))
    (h2 : checkAllECFull p' o' sts2 arts2 = .ok ((arts2', r2), sts2'))
    (n n2 : Nat) (a a' a2' : Artifact) (ha : arts[n]? = some a) (ha2 : arts2[n2]? = some a)
    (ha' : arts'[n]? = some a') (ha2' : arts2'[n2]? = some a2') :
    getTestResult a'.info "CheckValidECKey" = getTestResult a2'.info "CheckValidECKey" ∧
    getTestResult a'.info "CheckWeakCurve" = getTestResult a2'.info "CheckWeakCurve" := by
  obtain ⟨_, _, rows, hrows, hall⟩ := checkAllEC_entries p o sts arts arts' r sts' hfresh h
  obtain ⟨_, _, rows2, hrows2, hall2⟩ := checkAllEC_entries p' o' sts2 arts2 arts2' r2 sts2' hfresh2 h2
  obtain ⟨_, _, _, he, _⟩ := hall n a a' ha ha'
  obtain ⟨_, _, _, he2, _⟩ := hall2 n2 a a2' ha2 ha2'
  obtain ⟨row1, row3, row4, _, rfl, hv, _⟩ := ecRowsG_ok hrows
  obtain ⟨row1', row3', row4', _, rfl, hv', _⟩ := ecRowsG_ok hrows2
  have hj0 : ecAll[0]? = some ⟨"CheckValidECKey", 2, false, false, false⟩ := by rw [ecAll_eq]; rfl
  have hj1 : ecAll[1]? = some ⟨"CheckWeakCurve", 2, true, false, false⟩ := by rw [ecAll_eq]; rfl
  have hloc := (checkValidECKey_local ecFactory _ _ _ _ hv hv' n n2 (keyOf a) (keys_getElem? ha)
    (keys_getElem? ha2)).1
  have hwc := (checkWeakCurve_local ecFactory (arts.map keyOf) n (keyOf a) (keys_getElem? ha)).1
  have hwc2 := (checkWeakCurve_local ecFactory (arts2.map keyOf) n2 (keyOf a) (keys_getElem? ha2)).1
  constructor
  · have e1 := he 0 _ hj0
    have e2 := he2 0 _ hj0
    simp only at e1 e2
    rw [e1, e2]
    have : verdictAt [row1, checkWeakCurve ecFactory (arts.map keyOf), row3, row4] 0 n =
        verdictAt [row1', checkWeakCurve ecFactory (arts2.map keyOf), row3', row4'] 0 n2 := by
      simp only [verdictAt, List.getElem?_cons_zero, hloc]
    rw [this]
  · have e1 := he 1 _ hj1
    have e2 := he2 1 _ hj1
    simp only at e1 e2
    rw [e1, e2]
    have : verdictAt [row1, checkWeakCurve ecFactory (arts.map keyOf), row3, row4] 1 n =
        verdictAt [row1', checkWeakCurve ecFactory (arts2.map keyOf), row3', row4'] 1 n2 := by
      simp only [verdictAt, List.getElem?_cons_succ, List.getElem?_cons_zero, hwc, hwc2]
    rw [this]

/-! ## CheckWeakECPrivateKey -/

/-- ★ soundness whatever the neighbours.  ANY batch (other keys off their curve, unreduced,
duplicates, unknown curves), any bound, `_table` states and float values: a verdict written for a
key on a known curve is negative without evidence or positive with a `DISCRETE_LOG` `v`; and if the
key is on the curve and has a private key (`P = d • G`, any integer `d`) then `v • G = P` and
`v ≡ d (mod n)`.  No hypothesis on the curve (primes certified). -/
theorem weakKey_sound_any_batch {bound : Nat} {keys : List ECKey} {sts : List EcState}
    {os : List (Nat × Nat)} {row : List Bsgs.KeyVerdict} {sts' : List EcState}
    (h : checkWeakECPrivateKeyB listImpl bound ecFactory sts os keys = .ok (row, sts'))
    {n : Nat} {k : ECKey} {kv : KV} (hk : keys[n]? = some k) (hkv : row[n]? = some (some kv))
    {c : Curve} (hc : factoryGet ecFactory k.curveType = some c) :
    haveI : Fact (Nat.Prime c.p) := ⟨prime_of_get hc⟩
    (kv = ⟨false, none⟩ ∨ ∃ v, kv = ⟨true, some (.dlog v)⟩) ∧
    ∀ v d : Int, kv.info = some (.dlog v) → onCurve c k.pt = true → toPoint c k.pt = d • Gp c →
      v • Gp c = toPoint c k.pt ∧ (v - d) % (c.n : Int) = 0 := by
  haveI : Fact (Nat.Prime c.p) := ⟨prime_of_get hc⟩
  obtain ⟨h1, h2⟩ := row3_sound fieldPrimes h hk hkv hc
  exact ⟨h1, fun v d hv hon hd => dlog_of_privateKey c (curveHyp_of_get hc).params
    (orderPrime_of_get hc) hd (h2 v hv (prime_of_get hc) hon)⟩

/-- ★ the documented families are found in EVERY context.  Two calls of CheckWeakECPrivateKey —
different batches, sizes, positions, neighbours (same or other curves), `_table` states left by any
earlier work, float values — each satisfying `WKHyp` (keys of known curves on their curve, reachable
states, floats `≥ 1`).  A reduced key `P = d • G` whose private key is a 32-bit value shifted by a
multiple of 8 bits or a 32-bit word repeated (`StructuredKey`) is flagged in BOTH, with logs
`v₁ ≡ v₂ ≡ d (mod n)`. -/
theorem weakKey_guaranteed_any_context (keys keys' : List ECKey) (sts sts2 : List EcState)
    (os os2 : List (Nat × Nat)) (hh : WKHyp keys ecFactory sts os) (hh2 : WKHyp keys' ecFactory sts2 os2)
    (n n' : Nat) (k : ECKey) (hk : keys[n]? = some k) (hk' : keys'[n']? = some k) (c : Curve)
    (hc : factoryGet ecFactory k.curveType = some c) (d i : Nat) (hred : Reduced c k.pt)
    (hi : i < 2 ^ 32) (hs : StructuredKey c d i) :
    haveI : Fact (Nat.Prime c.p) := ⟨prime_of_get hc⟩
    toPoint c k.pt = d • Gp c →
    ∃ row st1 row' st2 v v', checkWeakECPrivateKey ecFactory sts os keys = .ok (row, st1) ∧
      checkWeakECPrivateKey ecFactory sts2 os2 keys' = .ok (row', st2) ∧
      row[n]? = some (some ⟨true, some (.dlog v)⟩) ∧ row'[n']? = some (some ⟨true, some (.dlog v')⟩) ∧
      (v - d) % (c.n : Int) = 0 ∧ (v' - d) % (c.n : Int) = 0 := by
  haveI : Fact (Nat.Prime c.p) := ⟨prime_of_get hc⟩
  intro hd
  obtain ⟨row, st1, h1, _, _, _, s1⟩ := C10.checkWeakECPrivateKey_spec ecFactory sts os keys
    ecFactory_nodup hh
  obtain ⟨row', st2, h2, _, _, _, s2⟩ := C10.checkWeakECPrivateKey_spec ecFactory sts2 os2 keys'
    ecFactory_nodup hh2
  obtain ⟨kv, _, hkv, hok⟩ := s1 n k c hk hc
  obtain ⟨kv', _, hkv', hok'⟩ := s2 n' k c hk' hc
  obtain ⟨v, rfl, _, hv⟩ := hok.2.2 d i hred hd hi hs
  obtain ⟨v', rfl, _, hv'⟩ := hok'.2.2 d i hred hd hi hs
  exact ⟨row, st1, row', st2, v, v', h1, h2, hkv, hkv', hv (orderPrime_of_get hc),
    hv' (orderPrime_of_get hc)⟩

/-- a 40-bit curve object (`C10.ssCurve`: prime subgroup order of 40 bits, so ExtendedBatchDL has
the two multipliers `1`, `2^8`) as the only non-`None` entry of a factory. -/
def fSS : Factory := [⟨5, some C10.ssCurve⟩, ⟨6, none⟩]

/-- `30 • G` and three keys with 30/31-bit private keys (`1000000007 • G`, …) on `C10.ssCurve`. -/
def k30 : ECKey := ⟨5, 2302230261730, 1427356280212⟩
def kA : ECKey := ⟨5, 1880580146135, 3632557104279⟩
def kB : ECKey := ⟨5, 183945069868, 695884852719⟩
def kC : ECKey := ⟨5, 3338659869431, 2346414713389⟩

/-- ★ the verdict of CheckWeakECPrivateKey is NOT a function of the key alone.  Kernel-evaluated
ON THE 40-BIT TOY CURVE `C10.ssCurve` (not a curve of `CURVE_FACTORY`; `fSS` plants it under id 5),
with the literal `2**32` replaced by 16 (`checkWeakECPrivateKeyB … 16`) and the REAL float values
(`int(sqrt(16·2·1)) = 5`, `int(sqrt(5)) = 2`; `int(sqrt(16·2·4)) = 11`, `int(sqrt(11)) = 3`): the key
`30 • G` (30 ≥ 16: outside the documented family) is NOT flagged when checked alone in a fresh
process and IS flagged, with `DISCRETE_LOG = 30`, in a batch with three unrelated keys — the giant
step is `2·table_size - 1` and `table_size` grows with the batch.
Real code (secp256r1, literal `2**32`, fresh process; first two runs: `d22_probe`, harness/corr/c17.py): the key
`d • G`, `d = 2**32 + 2000000`, alone → `result = False`; at position 4 of a batch with 8 random
keys → `result = True`, `DISCRETE_LOG = "1001e8480"`; alone again afterwards (cached table of
1179648 entries) → `False`. -/
theorem weakKey_verdict_depends_on_batch :
    (checkWeakECPrivateKeyB listImpl 16 fSS [StateG.init listImpl, StateG.init listImpl]
      [(5, 2), (1, 1)] [k30]).toOption.map Prod.fst = some [some ⟨false, none⟩] ∧
    (checkWeakECPrivateKeyB listImpl 16 fSS [StateG.init listImpl, StateG.init listImpl]
      [(11, 3), (1, 1)] [kA, kB, k30, kC]).toOption.map Prod.fst =
      some [some ⟨false, none⟩, some ⟨false, none⟩, some ⟨true, some (.dlog 30)⟩,
        some ⟨false, none⟩] := by
  rw [checkWeakECPrivateKeyB_eq_fast, checkWeakECPrivateKeyB_eq_fast]
  decide +kernel

/-! ## CheckECKeySmallDifference -/

/-- ★ soundness whatever the batch: a verdict written for a key on a known curve is negative without
evidence or positive with a relation; when every key of the batch with the same curve id is on the
curve, the relation names ANOTHER key `Q` of the batch on the same curve with `P ≠ Q` and
`P - Q = d • G`.  Any `max_diff`, states, float values; no hypothesis on the curve. -/
theorem smallDiff_sound_any_batch {maxDiff : Nat} {keys : List ECKey} {sts : List EcState}
    {ms : List Nat} {row : List Bsgs.KeyVerdict} {sts' : List EcState}
    (h : checkECKeySmallDifferenceG listImpl ecFactory sts ms keys maxDiff = .ok (row, sts'))
    {n : Nat} {k : ECKey} {kv : KV} (hk : keys[n]? = some k) (hkv : row[n]? = some (some kv))
    {c : Curve} (hc : factoryGet ecFactory k.curveType = some c) :
    haveI : Fact (Nat.Prime c.p) := ⟨prime_of_get hc⟩
    (kv = ⟨false, none⟩ ∨ ∃ rel, kv = ⟨true, some (.diff rel)⟩) ∧
    ∀ rel, kv.info = some (.diff rel) →
      (∀ (n' : Nat) (k' : ECKey), keys[n']? = some k' → k'.curveType = k.curveType →
        onCurve c k'.pt = true) →
      ∃ (n' : Nat) (k' : ECKey), n' ≠ n ∧ keys[n']? = some k' ∧ k'.curveType = k.curveType ∧
        toPoint c (.aff rel.qx rel.qy) = toPoint c k'.pt ∧
        toPoint c k.pt - toPoint c k'.pt = rel.dl • Gp c ∧ toPoint c k.pt ≠ toPoint c k'.pt := by
  haveI : Fact (Nat.Prime c.p) := ⟨prime_of_get hc⟩
  obtain ⟨h1, h2⟩ := row4_sound fieldPrimes h hk hkv hc
  refine ⟨h1, fun rel hrel hon => ?_⟩
  obtain ⟨n', k', a1, a2, a3, _, a5, a6, a7⟩ := h2 rel hrel (prime_of_get hc) hon
  exact ⟨n', k', a1, a2, a3, a5, a6, a7⟩

/-- ★ WHO is flagged, exactly (`Bsgs.checkECKeySmallDifference_flag_iff`).  Factory with distinct
ids, a batch satisfying `SDHyp`.  For a curve entry `e` with curve `c`, `_table` state `st`, float
value `m`, and `V` a range of the table its `BatchDLOfDifferences(max_diff)` call uses (`DiffRange`:
a property of `st`, `max_diff`, `m` — `V ≥ max(cached size, max_diff)`, `V = ceil(size/m)·m` after
a rebuild): the key `k` of that curve is flagged IF AND ONLY IF some key `k'` of the batch on the
same curve satisfies `P ≠ P'`, `P - P' = kk • G`, `|kk| < V`. -/
theorem smallDiff_flag_iff (f : Factory) (sts : List EcState) (ms : List Nat)
    (keys : List ECKey) (maxDiff : Nat) (hnd : (f.map (·.id)).Nodup)
    (hh : SDHyp keys maxDiff f sts ms) :
    ∃ res sts', checkECKeySmallDifference f sts ms keys maxDiff = .ok (res, sts') ∧
      res.length = keys.length ∧
      (∀ (p : Nat) (k : ECKey), keys[p]? = some k → factoryGet f k.curveType = none →
        res[p]? = some none) ∧
      ∀ (e : FEntry) (c : Curve) (st : EcState) (m V : Nat) (hp : Nat.Prime c.p), e ∈ f →
        e.curve = some c → InFac f sts ms e st m →
        haveI : Fact (Nat.Prime c.p) := ⟨hp⟩
        DiffRange c st maxDiff m V →
        ∀ (p : Nat) (k : ECKey), keys[p]? = some k → k.curveType = e.id →
          ∃ kv, res[p]? = some (some kv) ∧
            (kv.result = true ↔ ∃ k' ∈ keys, k'.curveType = e.id ∧
              CloseG c V (toPoint c k.pt) (toPoint c k'.pt)) :=
  checkECKeySmallDifference_flag_iff f sts ms keys maxDiff hnd hh

/-- ★ the boolean verdicts are a function of the SET of keys of the batch.  Two calls of
CheckECKeySmallDifference from the same `_table` states with the same `max_diff` and float values,
on batches `keys`, `keys'` that contain the same keys (any order, any multiplicities): a key gets
the same boolean verdict in both, at whatever positions it stands; keys of unknown curves get no
entry in either. -/
theorem smallDiff_flags_same_set (f : Factory) (sts : List EcState) (ms : List Nat)
    (keys keys' : List ECKey) (maxDiff : Nat) (hnd : (f.map (·.id)).Nodup)
    (hh : SDHyp keys maxDiff f sts ms) (hset : ∀ k, k ∈ keys' ↔ k ∈ keys) :
    ∃ res st1 res' st2, checkECKeySmallDifference f sts ms keys maxDiff = .ok (res, st1) ∧
      checkECKeySmallDifference f sts ms keys' maxDiff = .ok (res', st2) ∧
      ∀ (p p' : Nat) (k : ECKey), keys[p]? = some k → keys'[p']? = some k →
        (factoryGet f k.curveType = none → res[p]? = some none ∧ res'[p']? = some none) ∧
        (∀ c, factoryGet f k.curveType = some c → ∃ kv kv', res[p]? = some (some kv) ∧
          res'[p']? = some (some kv') ∧ kv.result = kv'.result) := by
  have hh' : SDHyp keys' maxDiff f sts ms := sdHyp_mono (fun k hk => (hset k).mp hk) maxDiff f sts ms hh
  obtain ⟨res, st1, h1, _, n1, e1⟩ := smallDiff_flag_iff f sts ms keys maxDiff hnd hh
  obtain ⟨res', st2, h2, _, n2, e2⟩ := smallDiff_flag_iff f sts ms keys' maxDiff hnd hh'
  refine ⟨res, st1, res', st2, h1, h2, ?_⟩
  intro p p' k hk hk'
  refine ⟨fun hnone => ⟨n1 p k hk hnone, n2 p' k hk' hnone⟩, fun c hc => ?_⟩
  obtain ⟨e, he, hid, hcur⟩ := factoryGet_mem hc
  obtain ⟨st, m, hin, hch, hst, hm⟩ := sdHyp_entry hh e he c hcur
  haveI : Fact (Nat.Prime c.p) := ⟨hch.prime⟩
  obtain ⟨g1, g2, _, _, _, _⟩ := generator_of_paramsOK c hch.params
  obtain ⟨V, hV⟩ := diffRange_exists c g1 g2 hst maxDiff m hm
  obtain ⟨kv, hkv, hiff⟩ := e1 e c st m V hch.prime he hcur hin hV p k hk hid.symm
  obtain ⟨kv', hkv', hiff'⟩ := e2 e c st m V hch.prime he hcur hin hV p' k hk' hid.symm
  refine ⟨kv, kv', hkv, hkv', ?_⟩
  apply Bool.eq_iff_iff.mpr
  rw [hiff, hiff']
  constructor
  · rintro ⟨k', hm', rest⟩; exact ⟨k', (hset k').mpr hm', rest⟩
  · rintro ⟨k', hm', rest⟩; exact ⟨k', (hset k').mp hm', rest⟩

/-- ★ permuting the batch permutes the boolean verdicts. -/
theorem smallDiff_flags_perm (f : Factory) (sts : List EcState) (ms : List Nat)
    (keys keys' : List ECKey) (maxDiff : Nat) (hnd : (f.map (·.id)).Nodup)
    (hh : SDHyp keys maxDiff f sts ms) (hperm : keys.Perm keys') :
    ∃ res st1 res' st2, checkECKeySmallDifference f sts ms keys maxDiff = .ok (res, st1) ∧
      checkECKeySmallDifference f sts ms keys' maxDiff = .ok (res', st2) ∧
      ∀ (p p' : Nat) (k : ECKey), keys[p]? = some k → keys'[p']? = some k →
        (factoryGet f k.curveType = none → res[p]? = some none ∧ res'[p']? = some none) ∧
        (∀ c, factoryGet f k.curveType = some c → ∃ kv kv', res[p]? = some (some kv) ∧
          res'[p']? = some (some kv') ∧ kv.result = kv'.result) :=
  smallDiff_flags_same_set f sts ms keys keys' maxDiff hnd hh (fun _ => hperm.mem_iff.symm)

/-- ★ adding healthy keys changes no boolean verdict.  `keys'` contains every key of `keys` (plus
any further keys, anywhere in the batch; both batches satisfy `SDHyp`).  For a key `k` of `keys` on
curve entry `e` and every range `V` of the table in use (`DiffRange`): if no ADDED key of the same
curve is within `V` of `k` (`CloseG`), `k` gets the same boolean verdict in both batches. -/
theorem smallDiff_add_healthy (f : Factory) (sts : List EcState) (ms : List Nat)
    (keys keys' : List ECKey) (maxDiff : Nat) (hnd : (f.map (·.id)).Nodup)
    (hh : SDHyp keys maxDiff f sts ms) (hh' : SDHyp keys' maxDiff f sts ms)
    (hsub : ∀ k ∈ keys, k ∈ keys') :
    ∃ res st1 res' st2, checkECKeySmallDifference f sts ms keys maxDiff = .ok (res, st1) ∧
      checkECKeySmallDifference f sts ms keys' maxDiff = .ok (res', st2) ∧
      ∀ (e : FEntry) (c : Curve) (st : EcState) (m V : Nat) (hp : Nat.Prime c.p), e ∈ f →
        e.curve = some c → InFac f sts ms e st m →
        haveI : Fact (Nat.Prime c.p) := ⟨hp⟩
        DiffRange c st maxDiff m V →
        ∀ (p p' : Nat) (k : ECKey), keys[p]? = some k → keys'[p']? = some k → k.curveType = e.id →
          (∀ h ∈ keys', h ∉ keys → h.curveType = e.id →
            ¬ CloseG c V (toPoint c k.pt) (toPoint c h.pt)) →
          ∃ kv kv', res[p]? = some (some kv) ∧ res'[p']? = some (some kv') ∧
            kv.result = kv'.result := by
  obtain ⟨res, st1, h1, _, _, e1⟩ := smallDiff_flag_iff f sts ms keys maxDiff hnd hh
  obtain ⟨res', st2, h2, _, _, e2⟩ := smallDiff_flag_iff f sts ms keys' maxDiff hnd hh'
  refine ⟨res, st1, res', st2, h1, h2, ?_⟩
  intro e c st m V hp he hcur hin
  haveI : Fact (Nat.Prime c.p) := ⟨hp⟩
  intro hV p p' k hk hk' hid hhealthy
  obtain ⟨kv, hkv, hiff⟩ := e1 e c st m V hp he hcur hin hV p k hk hid
  obtain ⟨kv', hkv', hiff'⟩ := e2 e c st m V hp he hcur hin hV p' k hk' hid
  refine ⟨kv, kv', hkv, hkv', ?_⟩
  apply Bool.eq_iff_iff.mpr
  rw [hiff, hiff']
  constructor
  · rintro ⟨k', hm', rest⟩; exact ⟨k', hsub k' hm', rest⟩
  · rintro ⟨k', hm', hid', hcl⟩
    by_cases hin' : k' ∈ keys
    · exact ⟨k', hin', hid', hcl⟩
    · exact absurd hcl (hhealthy k' hm' hin' hid')

/-- ★ the guaranteed pairs are flagged in EVERY context: whatever the batch composition and order,
whatever earlier work left in `_table` (any reachable state), whatever the float value — a key with
a partner in the batch on the same curve at distance `0 < |kk| < max_diff` is flagged. -/
theorem smallDiff_guaranteed_any_context (f : Factory) (sts : List EcState) (ms : List Nat)
    (keys : List ECKey) (maxDiff : Nat) (hnd : (f.map (·.id)).Nodup)
    (hh : SDHyp keys maxDiff f sts ms) :
    ∃ res sts', checkECKeySmallDifference f sts ms keys maxDiff = .ok (res, sts') ∧
      ∀ (p : Nat) (k k' : ECKey) (c : Curve) (hp : Nat.Prime c.p), keys[p]? = some k →
        factoryGet f k.curveType = some c → k' ∈ keys → k'.curveType = k.curveType →
        haveI : Fact (Nat.Prime c.p) := ⟨hp⟩
        CloseG c maxDiff (toPoint c k.pt) (toPoint c k'.pt) →
        ∃ kv, res[p]? = some (some kv) ∧ kv.result = true := by
  obtain ⟨res, sts', h1, _, _, e1⟩ := smallDiff_flag_iff f sts ms keys maxDiff hnd hh
  refine ⟨res, sts', h1, ?_⟩
  intro p k k' c hp hk hc hk' hid'
  haveI : Fact (Nat.Prime c.p) := ⟨hp⟩
  intro hcl
  obtain ⟨e, he, hid, hcur⟩ := factoryGet_mem hc
  obtain ⟨st, m, hin, hch, hst, hm⟩ := sdHyp_entry hh e he c hcur
  obtain ⟨g1, g2, _, _, _, _⟩ := generator_of_paramsOK c hch.params
  obtain ⟨V, hV⟩ := diffRange_exists c g1 g2 hst maxDiff m hm
  obtain ⟨kv, hkv, hiff⟩ := e1 e c st m V hp he hcur hin hV p k hk hid.symm
  have hle : maxDiff ≤ V := by
    obtain ⟨_, _, _, _, hle⟩ := hV
    exact le_trans (le_max_right _ _) hle
  obtain ⟨hne, kk, hkk, hlt⟩ := hcl
  exact ⟨kv, hkv, hiff.mpr ⟨k', hk', hid'.trans hid.symm, hne, kk, hkk, by omega⟩⟩

/-- factory with the toy curve of Props/C10 (`y² = x³ - 3x + 12` over GF(113), order 101). -/
def fToy : Factory := [⟨5, some C10.toy⟩]

/-- ★ the recorded EVIDENCE depends on the order of the batch.  Keys `10•G = (2, 50)`,
`11•G = (6, 60)`, `12•G = (96, 3)` on the toy curve, `max_diff = 4`, fresh state: all three are
flagged in both orders (as `smallDiff_flags_perm` says), but the key `10•G` carries
`"key - (96, 3) = -2 * G"` (partner `12•G`) in the order `[10, 11, 12]` and `"key - (6, 60) = -1 * G"`
(partner `11•G`) in the order `[10, 12, 11]`: the last hit in scan order is kept.
Real code (secp256r1, keys `b+10, b+11, b+12`): order
`(0,1,2)` → key 0 names key 2 with `-2 * G`; order `(0,2,1)` → key 0 names key 1 with `-1 * G`; the
`result` booleans are `True` for all three keys in all six orders. -/
theorem smallDiff_evidence_depends_on_order :
    (checkECKeySmallDifference fToy [StateG.init listImpl] [2]
      [⟨5, 2, 50⟩, ⟨5, 6, 60⟩, ⟨5, 96, 3⟩] 4).toOption.map Prod.fst =
      some [some ⟨true, some (.diff ⟨96, 3, -2⟩)⟩, some ⟨true, some (.diff ⟨96, 3, -1⟩)⟩,
        some ⟨true, some (.diff ⟨6, 60, 1⟩)⟩] ∧
    (checkECKeySmallDifference fToy [StateG.init listImpl] [2]
      [⟨5, 2, 50⟩, ⟨5, 96, 3⟩, ⟨5, 6, 60⟩] 4).toOption.map Prod.fst =
      some [some ⟨true, some (.diff ⟨6, 60, -1⟩)⟩, some ⟨true, some (.diff ⟨6, 60, 1⟩)⟩,
        some ⟨true, some (.diff ⟨96, 3, -1⟩)⟩] := by
  decide +kernel

/-- the state an earlier `BatchDL` / `BatchDLOfDifferences` call with table size 8 leaves on the toy
curve object. -/
def stToy8 : EcState :=
  ⟨8, [(none, 0), (some 42, 1), (some 4, 2), (some 54, 3), (some 3, 4), (some 112, 5), (some 57, 6),
    (some 5, 7)]⟩

/-- ★ the verdict depends on earlier work (in the direction the property allows only).  Keys
`20•G = (60, 51)` and `25•G = (36, 111)` — distance 5 — with `max_diff = 4`: from the fresh state
nobody is flagged; from the reachable state `stToy8` (cached table of size 8 ≥ 4, kept) both are.
Real code (secp256r1): distance 1500, `max_diff = 1024`: fresh
→ `[False, False]`; after an unrelated `BatchDL([g], 2**22)` (leaves `_table_size = 2048`) →
`[True, True]` with `"… = -1500 * G"`. -/
theorem smallDiff_verdict_depends_on_history :
    (ensureTableG listImpl C10.toy (StateG.init listImpl) 8 2).toOption.map
      (fun s => (s.tableSize, s.table)) = some (stToy8.tableSize, stToy8.table) ∧
    (checkECKeySmallDifference fToy [StateG.init listImpl] [2]
      [⟨5, 60, 51⟩, ⟨5, 36, 111⟩] 4).toOption.map Prod.fst =
      some [some ⟨false, none⟩, some ⟨false, none⟩] ∧
    ((checkECKeySmallDifference fToy [stToy8] [2]
      [⟨5, 60, 51⟩, ⟨5, 36, 111⟩] 4).toOption.map Prod.fst).map (·.map (·.map (·.result))) =
      some [some true, some true] := by
  decide +kernel

/-- `SDHyp` for the toy factory, the three-key batch of `smallDiff_evidence_depends_on_order` and
the NON-fresh state `stToy8` — so `smallDiff_flags_perm` / `_same_set` / `_add_healthy` apply. -/
example : SDHyp [⟨5, 2, 50⟩, ⟨5, 6, 60⟩, ⟨5, 96, 3⟩] 4 fToy [stToy8] [2] := by
  refine ⟨fun c hc => ?_, trivial⟩
  cases hc
  exact ⟨⟨by decide +kernel, by decide +kernel, by decide +kernel⟩,
    .inr ⟨2, by decide, by decide, by decide +kernel⟩, by decide +kernel, fun _ => by decide⟩

end Paranoid.C17Ec
