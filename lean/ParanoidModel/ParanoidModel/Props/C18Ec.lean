/-
Props/C18Ec.lean — C18 "Checks are total on well-formed batches", the EC and ECDSA half at the
strength of the property text: "EC coordinates of any size … coordinates 0 / p / huge / off-curve …
ECDSA signatures with r and s in [1, n-1], any hash length and any issuer key … signatures whose
issuer key is invalid".

What is proved (model of the code as repaired by fixes D3, D18; all statements for EVERY batch size
incl. the empty batch, every mixture of known / unknown / binary-field curve ids, duplicates):

EC keys — NO hypothesis on the coordinates (any natural numbers: 0, p, p+x, 2^600, off the curve,
`(0,0)`, keys equal up to reduction mod p) and NO hypothesis on the cached `_table` of the curve
objects (any dict), for every `ExtendedBatchDL` bound and every `max_diff`:
  * `multiply_raises_iff`  `EcCurve.Multiply(P, k)` raises exactly for `k = 2`, `y ≠ 0`, `p ∣ y`,
    `3x² + a ≡ 0 (mod p)` (ValueError) — e.g. `Multiply((1, p), 2)` on secp256r1; NO check reaches
    it (`ExtendedBatchDL` multiplies by `invert(mult, n) ≠ 2`: `Bsgs.ext_inverse_ne_two`);
  * `batchDL_total`, `extendedBatchDL_total`, `batchDLOfDifferences_total`  function level;
  * `validECKey_total`, `weakCurve_total`, `weakECPrivateKey_total_any`,
    `smallDifference_total_any`  check level, with an entry exactly for the keys on known curves;
  * `checkAllEC_total_any`  the entry point `paranoid.CheckAllEC`.
  Remaining hypotheses: the curve objects are valid (`FactoryHyp`: proved for `CURVE_FACTORY`, incl.
  primality), one `_table` state per curve object, float oracles `int(math.sqrt(·)) ≥ 1`.
ECDSA signatures:
  * `checkAllECDSASigs_total_any`  the entry point with solver ANSWERS as oracles: no hypothesis on
    the issuer keys (CheckIssuerKey runs `CheckAllEC` on them), only `gcd(s, n) = 1`;
  * `sig_checks_solver_total`  each nonce check COMPOSED with the solver models (Model/Hnp.lean,
    Model/Cr50.lean): hypotheses `r, s ∈ [1, n-1]` (here `r` matters: `Cr50U2fGuesses` raises
    ZeroDivisionError for `r ≡ 0`, `cr50_solver_raises`); oracles left: `lll.reduce` output (rows of
    length ≥ 2), one float value, the `set` orders;
  * `checkAllECDSASigs_solver_total`  the same at the entry point: the run returns and every solver
    call it recorded returns in the solver model.
-/
import ParanoidModel.Proofs.EcTotalAll
import ParanoidModel.Props.C16EcAll
namespace Paranoid.C18Ec
open Paranoid Paranoid.Ec Paranoid.Bsgs Paranoid.EcAll

/-! ## `EcCurve.Multiply` on arbitrary integer coordinates -/

/-- ★ exact domain of failure of `Multiply` over an odd prime field: ANY integers `x, y, k`. The only
exception is `ValueError("All coordinates zero in Jacobian representation")`, raised iff the scalar is
`2`, `y` is a NON-ZERO multiple of `p` (so `DoubleJacobian`'s test `y == 0` on the unreduced integer
does not fire) and the tangent numerator `3x² + a` (`3(x+1)(x-1)` for `a = -3`) vanishes mod `p`.
Real code: `secp256r1.Multiply((1, p), 2)` raises ValueError, `Multiply((1, p), 3) = (1, 0)`,
`Multiply((1, p), 4) = INFINITY`. -/
theorem multiply_raises_iff (c : Curve) [Fact (Nat.Prime c.p)] (h2 : c.p ≠ 2) (x y k : Int) (e : PyErr) :
    multiply c (.aff x y) k = .error e ↔
      e = .valueError ∧ k = 2 ∧ y ≠ 0 ∧ c.red y = 0 ∧ doubleJM c x 1 = 0 := by
  rcases multiply_cases c h2 x y k with ⟨hb, he⟩ | ⟨hb, R, hR⟩
  · rw [he]
    constructor
    · intro h; cases h; exact ⟨rfl, hb⟩
    · rintro ⟨rfl, _⟩; rfl
  · rw [hR]
    constructor
    · intro h; cases h
    · intro h; exact absurd h.2 hb

/-- … and it returns on everything else. -/
theorem multiply_total_off (c : Curve) [Fact (Nat.Prime c.p)] (h2 : c.p ≠ 2) (x y k : Int)
    (h : ¬ (k = 2 ∧ y ≠ 0 ∧ c.red y = 0 ∧ doubleJM c x 1 = 0)) :
    ∃ R, multiply c (.aff x y) k = .ok R := by
  rcases multiply_cases c h2 x y k with ⟨hb, _⟩ | ⟨_, hR⟩
  · exact absurd hb h
  · exact hR

example : multiply secp256r1 (.aff 1 secp256r1.p) 2 = .error .valueError := by decide +kernel
example : multiply secp256r1 (.aff 1 secp256r1.p) 3 = .ok (.aff 1 0) := by decide +kernel
example : multiply secp256r1 (.aff 1 secp256r1.p) 4 = .ok .inf := by decide +kernel
example : multiply secp256k1 (.aff 0 (3 * secp256k1.p)) 2 = .error .valueError := by decide +kernel

/-- the scalar `2` is never an `ExtendedBatchDL` multiplier inverse, for ANY group order. -/
theorem ext_inverse_ne_two (c : Curve) (hn : 2 ≤ c.n) (mu : Nat) (hmu : mu ∈ extMultipliers c)
    (inv : Nat) (h : invMod (mu : Int) c.n = .ok inv) : inv ≠ 2 :=
  Bsgs.ext_inverse_ne_two c hn mu hmu inv h

/-! ## function level: any points, any cached table -/

/-- `BatchDL(points, n)` never raises: valid curve object, ANY `_table` state, ANY list of points
(INFINITY allowed), `table_size ≥ 1`. -/
theorem batchDL_total (c : Curve) (hc : CurveHyp c) (st : EcState) (points : List Pt)
    (n ts m : Nat) (hts : 1 ≤ ts) (hm : st.tableSize < ts → 1 ≤ m) :
    ∃ res st', batchDL c st points n ts m = .ok (res, st') ∧ res.length = points.length := by
  haveI : Fact (Nat.Prime c.p) := ⟨hc.prime⟩
  obtain ⟨h1, h2, _⟩ := generator_of_paramsOK c hc.params
  exact batchDL_total_any c h1 h2 (reduced_of_paramsOK c hc.params).1 st points n ts m hts hm

/-- `ExtendedBatchDL(points)` never raises on ANY points. -/
theorem extendedBatchDL_total (c : Curve) (hc : CurveHyp c) (st : EcState) (points : List Pt)
    (ts m : Nat) (hts : 1 ≤ ts) (hm : st.tableSize < ts → 1 ≤ m) :
    ∃ res st', extendedBatchDL c st points ts m = .ok (res, st') ∧ res.length = points.length := by
  haveI : Fact (Nat.Prime c.p) := ⟨hc.prime⟩
  obtain ⟨h1, h2, _⟩ := generator_of_paramsOK c hc.params
  obtain ⟨h7, h8⟩ := reduced_of_paramsOK c hc.params
  exact extendedBatchDLB_total_any c h1 h2 h7 h8 (multipliersOK_of_b hc.mults) (2 ^ 32) st points
    ts m hts hm

/-- `BatchDLOfDifferences(points, other_points, max_diff)` never raises on ANY finite points. -/
theorem batchDLOfDifferences_total (c : Curve) (hc : CurveHyp c) (st : EcState)
    (points other : List Pt) (hpts : ∀ P ∈ points, IsAff P) (hoth : ∀ P ∈ other, IsAff P)
    (maxDiff m : Nat) (hm : st.tableSize < maxDiff → 1 ≤ m) :
    ∃ rels st', batchDLOfDifferences c st points other maxDiff m = .ok (rels, st') ∧
      rels.length = points.length := by
  haveI : Fact (Nat.Prime c.p) := ⟨hc.prime⟩
  obtain ⟨h1, h2, _⟩ := generator_of_paramsOK c hc.params
  exact batchDLOfDifferences_total_any c h1 h2 st points other hpts hoth maxDiff m hm

/-! ## check level -/

/-- `CheckValidECKey.Check` on `CURVE_FACTORY`: every key gets a verdict, any coordinates. -/
theorem validECKey_total (keys : List ECKey) :
    ∃ row, checkValidECKey ecFactory keys = .ok row ∧ row.length = keys.length :=
  ⟨_, C06.checkValidECKey_factory keys, by simp⟩

/-- `CheckWeakCurve.Check` has no `Except` in its model; one slot per key. -/
theorem weakCurve_total (f : Bsgs.Factory) (keys : List ECKey) :
    (checkWeakCurve f keys).length = keys.length := by simp [checkWeakCurve]

/-- ★ `CheckWeakECPrivateKey.Check`: every factory of valid curve objects with distinct ids, ANY
`_table` states, ANY keys. Stronger than `C18.weakECPrivateKey_total` (which assumes `WKHyp`: on-curve
keys, reachable tables). -/
theorem weakECPrivateKey_total_any (f : Bsgs.Factory) (hf : FactoryHyp f)
    (hnd : (f.map (·.id)).Nodup) (sts : List EcState) (hlen : sts.length = f.length)
    (orc : List (Nat × Nat)) (keys : List ECKey)
    (horc : List.Forall₂ (fun (e : FEntry) (x : Nat × Nat) =>
      groupPoints e.id keys ≠ [] → 1 ≤ x.1 ∧ 1 ≤ x.2) f orc) :
    ∃ res sts', checkWeakECPrivateKey f sts orc keys = .ok (res, sts') ∧
      sts'.length = f.length ∧ RowShape f keys res := by
  obtain ⟨res, sts', h, hl, hs⟩ := checkWeakECPrivateKeyB_total_any (2 ^ 32) f hf hnd sts hlen orc keys horc
  exact ⟨res, sts', by rw [← checkWeakECPrivateKeyB_eq]; exact h, hl, hs⟩

/-- ★ `CheckECKeySmallDifference(max_diff).Check`: same quantification. Stronger than
`C18.smallDifference_total` (which assumes `SDHyp`: on-curve AND reduced keys). -/
theorem smallDifference_total_any (f : Bsgs.Factory) (hf : FactoryHyp f)
    (hnd : (f.map (·.id)).Nodup) (sts : List EcState) (hlen : sts.length = f.length)
    (ms : List Nat) (keys : List ECKey) (maxDiff : Nat)
    (hms : List.Forall₂ (fun (_ : FEntry) (m : Nat) => 0 < maxDiff → 1 ≤ m) f ms) :
    ∃ res sts', checkECKeySmallDifference f sts ms keys maxDiff = .ok (res, sts') ∧
      sts'.length = f.length ∧ RowShape f keys res :=
  checkECKeySmallDifference_total_any maxDiff f hf hnd sts hlen ms keys hms

/-- the hypotheses on the factory hold for `CURVE_FACTORY` as regenerated from /repo (parameter
check, invertible multipliers, and — kernel-checked Pratt certificates — prime fields). -/
theorem curve_factory_hyp : FactoryHyp ecFactory ∧ (ecFactory.map (·.id)).Nodup :=
  ⟨ecFactory_curveHyp, ecFactory_nodup⟩

/-! ## `paranoid.CheckAllEC` -/

/-- ★ **`CheckAllEC` is total on arbitrary coordinates.** For every `ExtendedBatchDL` bound and
`max_diff`, every batch of keys (any coordinates, any curve ids, any `test_info` already present),
one `_table` state of ANY content per curve object and float oracles `≥ 1` (`ECWF'`): none of the four
registered checks raises, the check models and the bookkeeping layer agree about which keys get an
entry, the bookkeeping layer does not raise. No `FieldPrimes` hypothesis, no `bound = 2^32`. -/
theorem checkAllEC_total_any (p : EcParams) (o : EcOracle) (sts : List EcState)
    (arts : List Artifact) (hwf : ECWF' p o sts arts) :
    ∃ arts' r sts', checkAllECFull p o sts arts = .ok ((arts', r), sts') ∧
      sts'.length = ecFactory.length := by
  obtain ⟨rows, sts', hrows, hst'⟩ := ecRowsG_total_any p o sts arts hwf
  obtain ⟨arts', r, h⟩ := checkAllECFull_of_rows hrows
  exact ⟨arts', r, sts', h, hst'⟩

/-- `ECWF` implies `ECWF'` (so this theorem also covers every call covered by
`EcAll.checkAllECFull_total`). -/
theorem ecwf_weaken {p : EcParams} {o : EcOracle} {sts : List EcState} {arts : List Artifact}
    (h : ECWF p o sts arts) : ECWF' p o sts arts := h.weaken

/-! ## `paranoid.CheckAllECDSASigs` -/

/-- ★ **`CheckAllECDSASigs` is total for ANY issuer keys** (solver answers as oracles). On a call
satisfying `SigWF'` — curve objects of `CURVE_FACTORY`, one `_table` state of any content per curve
object, `set`-order oracles that are enumerations, `gcd(s, n) = 1` for signatures with a known
curve, float oracles of the inner `CheckAllEC` `≥ 1` — all eight registered checks return. Nothing is
assumed about the issuer keys: CheckIssuerKey runs the whole `CheckAllEC` model on the distinct
issuer keys, whatever their coordinates. (`r` is unconstrained HERE only because the solver is an
answer oracle in this model: see `checkAllECDSASigs_solver_total`.) -/
theorem checkAllECDSASigs_total_any (p : EcParams) (O : SigOracle) (st : SigState XTable)
    (sarts : List SigArt) (hwf : SigWF' p O st sarts) :
    ∃ run, checkAllECDSASigsFull p O st sarts = .ok run ∧ TotInv' run.state := by
  obtain ⟨outs, st', hsteps, hi', _⟩ := sigStepsG_total_any hwf ecdsaAll.zipIdx
    (fun _ => List.mem_zipIdx_iff_getElem?.1) st ⟨hwf.factory, hwf.curves, hwf.tables⟩
  obtain ⟨r, h⟩ := checkAllECDSASigsFull_of_steps hwf.factory hwf.curves hsteps
  exact ⟨_, h, hi'⟩

/-! ## the nonce checks composed with the solver models -/

section solver
open Paranoid.EcdsaChecks Paranoid.Hnp

/-- ★ **check layer ∘ solver layer never raises on the property's inputs.** `checkSolved` runs
`BiasedBaseCheck.Check` / `CheckCr50U2f.Check` and evaluates every solver call
(`HiddenNumberProblem`, `HiddenNumberProblemForCurve`, `Cr50U2fGuesses`) by its MODEL on the
arguments the check built. Hypotheses: a registered kind of check; valid curve objects with
distinct ids and odd prime orders; every signature with a known curve id has `r, s ∈ [1, n-1]`
(any hash length — empty, 64 bytes —, any issuer key, any mixture of curve ids, any batch size);
`set`-order oracles that are enumerations. Oracles that remain: the reduced bases returned by
`lll.reduce` (ANY rows of length ≥ 2), the float `int(n.bit_length()/len(a)*1.25)` (ANY value), the
constant table `CONSTANT_FACTORY` (ANY constants; positive size fields). -/
theorem sig_checks_solver_total (lcg : List LcgMeta) (hlcg : ∀ m ∈ lcg, MetaOk m) (S : SolverOracle)
    (hS : ∀ cid j kk, LllShape (S cid j kk)) (k : Kind) (hk : KindOK k) (O : Nat → GroupOracle)
    (factory : EcdsaChecks.Factory) (arts : List Sig) (hF : FactoryOK factory)
    (hnd : (factory.map Prod.fst).Nodup)
    (hprime : ∀ cid obj, (cid, some obj) ∈ factory → obj.curve.n.Prime ∧ obj.curve.n ≠ 2)
    (hcons : UniqConsistent O arts factory)
    (hrange : ∀ s ∈ arts, ∀ obj, (s.curve, some obj) ∈ factory → SigRange obj.curve.n s) :
    ∃ res answers, checkSolved (envOf lcg factory) S k O factory arts = .ok (res, answers) := by
  obtain ⟨res, hres⟩ := check_total k O factory arts hF hcons (fun _ s hs obj hm => by
    obtain ⟨_, _, h1, h2⟩ := hrange s hs obj hm
    exact C02S.wf_of_range _ (hprime _ obj hm).1 _ h1 h2)
  have hwf := check_calls_wf (envOf lcg factory) k hk O factory arts res hres
    (fun cid obj hm => ⟨(hprime cid obj hm).1, (hprime cid obj hm).2, factoryN_of_mem hnd hm⟩)
    hcons hrange
  obtain ⟨a, ha⟩ := solveAll_total (envOf lcg factory) hlcg S hS res.calls hwf
  exact ⟨res, a, by rw [checkSolved, hres]; simp only; rw [ha]⟩

/-- the composed model returns what the check model returns: every C02 / C08 statement about
`EcdsaChecks.check` applies to it. -/
theorem checkSolved_is_check (E : SolverEnv) (S : SolverOracle) (k : Kind) (O : Nat → GroupOracle)
    (factory : EcdsaChecks.Factory) (arts : List Sig) (res : CheckResult)
    (answers : List (Nat × List (List (List Int))))
    (h : checkSolved E S k O factory arts = .ok (res, answers)) :
    check k O factory arts = .ok res ∧ solveAll E S res.calls = .ok answers := by
  unfold checkSolved at h
  split at h
  · cases h
  · rename_i res' hres
    split at h
    · cases h
    · rename_i a ha
      cases h
      exact ⟨hres, ha⟩

/-- the solver layer: `HiddenNumberProblem(a, b, None, n, bias)` on a non-empty `a`, `len(a) = len(b)`,
odd prime `n` (needed: the postfix variant inverts `2^bits` modulo `n`). -/
theorem hiddenNumberProblem_never_raises (a b : List Int) (n : Nat) (β : Bias) (fb : Nat)
    (basis : List (List Int)) (hlen : a.length = b.length) (ha : a ≠ []) (hp : n.Prime)
    (h2 : n ≠ 2) (hrows : ∀ r ∈ basis, 2 ≤ r.length) :
    ∃ gs, hiddenNumberProblem a b none n β fb basis = .ok gs :=
  C08Chain.hnp_total a b n β fb basis hp hlen.symm (fun _ => ⟨h2, ha⟩) hrows

/-- `HiddenNumberProblemForCurve` on `len(a) = len(b)`, a curve of prime order, a non-empty flag set. -/
theorem hnpForCurve_never_raises (a b : List Int) (curve n : Nat) (lcg : Option Nat)
    (f : SearchFlags) (factory : List LcgMeta) (oracle : Nat → List (List Int))
    (hlen : a.length = b.length) (hf : f.none = false) (hp : n.Prime)
    (hmeta : ∀ m ∈ factory, MetaOk m) (hrows : ∀ k, ∀ r ∈ oracle k, 2 ≤ r.length) :
    ∃ gs, hnpForCurve a b curve (some (some n)) lcg f factory oracle = .ok gs :=
  hnpForCurve_total a b curve n lcg f factory oracle hlen hf hp hmeta hrows

/-- what is excluded by `r ∈ [1, n-1]`: with `r1 ≡ 0 (mod n)` the solver model (like the real
`Cr50U2fGuesses`) raises ZeroDivisionError as soon as a reduced row passes the congruence test. -/
theorem cr50_solver_raises :
    solveCall ⟨[], fun _ => none⟩ ⟨fun _ => [[3, 0, 256, 0]], 0⟩
      (.cr50 (4294967291, 1979693995, 2619613418) (1, 1, 0) 4294967291) = .error .zeroDivision := by
  decide +kernel

/-- the shipped `CONSTANT_FACTORY` has positive size fields. -/
example : ∀ m ∈ Consts.lcgMeta, 0 < m.2.2.1 ∧ 0 < m.2.2.2.1 ∧ 0 < m.2.2.2.2.1 := by decide +kernel

/-- ★ **`CheckAllECDSASigs` with the solver models, end to end.** On a call satisfying `SigWFR` — the
property's hypotheses: curve objects of `CURVE_FACTORY`, every signature with a known curve id has
`r, s ∈ [1, n-1]`, ANY hash, ANY issuer key, plus well-formed oracles (`set` orders, floats ≥ 1) —
the entry-point model returns, and every solver call recorded by every registered nonce check
returns in the solver model, for every `lll.reduce` answer of the right shape, every float value
and every constant table with positive size fields. -/
theorem checkAllECDSASigs_solver_total (p : EcParams) (O : SigOracle) (st : SigState XTable)
    (sarts : List SigArt) (hwf : SigWFR p O st sarts) :
    ∃ run, checkAllECDSASigsFull p O st sarts = .ok run ∧ TotInv' run.state ∧
      ∀ (lcg : List LcgMeta), (∀ m ∈ lcg, MetaOk m) → ∀ (S : SolverOracle),
        (∀ cid j kk, LllShape (S cid j kk)) →
        ∀ (j : Nat) writes calls, run.outs[j]? = some (StepOut.direct writes calls) →
          ∃ a, solveAll (envOf lcg namedFactory) S calls = .ok a := by
  obtain ⟨outs, st', hsteps, hi', hfor⟩ := sigStepsG_total_any hwf.toWF' ecdsaAll.zipIdx
    (fun _ => List.mem_zipIdx_iff_getElem?.1) st ⟨hwf.factory, hwf.curves, hwf.tables⟩
  obtain ⟨r, h⟩ := checkAllECDSASigsFull_of_steps hwf.factory hwf.curves hsteps
  refine ⟨_, h, hi', fun lcg hlcg S hS j writes calls hj => ?_⟩
  obtain ⟨cj, hcj, sti, hsti, hstep⟩ := forall₂_getElem? hfor j _ hj
  -- the registry entry at position `j` of `zipIdx` is `(ecdsaAll[j], j)`
  rw [List.getElem?_zipIdx, Option.map_eq_some_iff] at hcj
  obtain ⟨c, hc, rfl⟩ := hcj
  rw [Nat.zero_add] at hstep
  exact step_calls_solved hwf lcg hlcg S hS j c hc sti hsti _ hstep writes calls rfl

end solver

/-! ## Non-vacuity -/

/-- keys with degenerate coordinates on TWO named curves (secp256r1 id 2, secp256k1 id 6), mixed with
valid keys, an unknown id and a binary-field id: `(1, p)` (the `Multiply(·, 2)` failure point),
`(0, 0)`, `(p, p)`, `G`, `G` with `x + p` (equal to `G` up to reduction), a 600-bit off-curve pair. -/
def degenerateKeys : List Artifact :=
  [⟨TestInfo.empty, 2, (1, secp256r1.p)⟩,
   ⟨TestInfo.empty, 2, (secp256r1.gx.toNat, secp256r1.gy.toNat)⟩,
   ⟨TestInfo.empty, 2, (secp256r1.gx.toNat + secp256r1.p, secp256r1.gy.toNat)⟩,
   ⟨TestInfo.empty, 6, (0, 0)⟩, ⟨TestInfo.empty, 6, (secp256k1.p, secp256k1.p)⟩,
   ⟨TestInfo.empty, 6, (0, 3 * secp256k1.p)⟩,
   ⟨TestInfo.empty, 2, (2 ^ 200 * 2 ^ 200 * 2 ^ 200, 2 ^ 200 * 2 ^ 200 * 2 ^ 200 + 1)⟩,
   ⟨TestInfo.empty, 0, (1, 2)⟩, ⟨TestInfo.empty, 7, (5, 7)⟩]

/-- `ECWF'` holds for them with the REAL parameters (`2**32`, `2**24`) and fresh curve objects — while
`ECWF` does not (`(1, p)` is neither on secp256r1 nor reduced). -/
theorem degenerate_wf : ECWF' EcParams.real someFloats freshTables degenerateKeys :=
  ⟨by simp [freshTables],
   forall₂_const (fun _ => (3, 1)) ecFactory (fun _ _ _ => ⟨by decide, by decide⟩),
   forall₂_const (fun _ => 4096) ecFactory (fun _ _ _ => by decide)⟩

example : ∃ arts' r sts', checkAllECFull EcParams.real someFloats freshTables degenerateKeys =
    .ok ((arts', r), sts') ∧ sts'.length = ecFactory.length :=
  checkAllEC_total_any _ _ _ _ degenerate_wf

example : ¬ ECWF EcParams.real someFloats freshTables degenerateKeys := by
  intro h
  have := h.points ⟨TestInfo.empty, 2, (1, secp256r1.p)⟩ (by simp [degenerateKeys]) secp256r1
    (by decide +kernel)
  exact absurd this.1 (by decide +kernel)

/-! ### a well-formed `CheckAllECDSASigs` call whose issuer key is INVALID -/

section sigs
open Paranoid.EcdsaChecks

/-- two secp256r1 signatures (`r, s` = `(1, 1)`, `(2, 3)`; hashes of 1 and 2 bytes) of ONE issuer whose
key `(1, p)` is off the curve and unreduced, and a signature with the unknown curve id 0. -/
def badIssuerSigs : List SigArt :=
  [⟨TestInfo.empty, ⟨2, [1], int2bytes secp256r1.p, [1], [1], [7]⟩⟩,
   ⟨TestInfo.empty, ⟨2, [1], int2bytes secp256r1.p, [2], [3], [9, 9]⟩⟩,
   ⟨TestInfo.empty, ⟨0, [1], [2], [3], [4], [5]⟩⟩]

def badIssuerGroup : Nat → GroupOracle := fun cid =>
  if cid = 2 then ⟨fun j => if j = 0 then [(1, 1, 7), (2, 3, 2313)] else [], fun _ _ => [], []⟩
  else ⟨fun _ => [], fun _ _ => [], []⟩

def badIssuerOracle : SigOracle := ⟨fun _ => badIssuerGroup, fun _ => someFloats⟩

theorem badIssuer_consistent :
    checkConsistent .cr50 badIssuerGroup (badIssuerSigs.map SigArt.sig) namedFactory = true := by
  decide +kernel

/-- `SigWFR` (the property's hypotheses) is satisfiable with the REAL parameters, fresh curve objects
and an INVALID issuer key — `SigWF` is not (its `inner` clause requires valid issuer keys). -/
theorem badIssuer_wf :
    SigWFR EcParams.real badIssuerOracle (SigState.fresh listImpl) badIssuerSigs where
  factory := (C02S.namedFactory_ok named_primes).1
  curves := rfl
  tables := by simp [SigState.fresh]
  uniq := fun _ _ _ _ _ => (consistent_of_check .cr50 badIssuerGroup _ namedFactory badIssuer_consistent).1
  range := fun sa hsa obj hobj =>
    (by unfold SigRange; decide +kernel : ∀ sa ∈ badIssuerSigs, ∀ e ∈ namedFactory,
      e.1 = sa.sig.curve → ∀ obj ∈ e.2, SigRange obj.curve.n sa.sig) sa hsa _ hobj rfl obj rfl
  innerWk := fun _ _ _ _ =>
    forall₂_const (fun _ => (3, 1)) ecFactory (fun _ _ _ => ⟨by decide, by decide⟩)
  innerSd := fun _ _ _ _ => forall₂_const (fun _ => 4096) ecFactory (fun _ _ _ => by decide)

/-- the issuer key of the first two signatures is not a valid key of secp256r1. -/
example : isValidPublicKey secp256r1 (.aff 1 secp256r1.p) = .ok false := by decide +kernel

example : ∃ run, checkAllECDSASigsFull EcParams.real badIssuerOracle (SigState.fresh listImpl)
    badIssuerSigs = .ok run :=
  let ⟨run, h, _⟩ := checkAllECDSASigs_solver_total _ _ _ _ badIssuer_wf
  ⟨run, h⟩

end sigs

end Paranoid.C18Ec
