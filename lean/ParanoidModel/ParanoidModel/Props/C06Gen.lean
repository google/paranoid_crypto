/-
Props/C06Gen.lean — why `generate_key(bits)` cannot return for `(bits / 2) % 8 ≥ 3`: the size of the primes
`keypair_generator.Generator.generate_prime` produces (property C06 / finding D21).

`C06.product_size_never_reached` is pure arithmetic: IF both primes are below `2^(k−1) + 3·2^(8m−1)`
(k = 8m + r the prime size, r ≥ 3) THEN the product has fewer than 2k bits.
Here the construction is followed statement by statement at the arithmetic level
(keypair_generator.py:57-86; the AES byte stream is a universally quantified byte string — no model of
AES or SHA-1 is needed for a size bound):

    p_size_bytes = k // 8
    prime_bytes  = prime_bytes[1 : p_size_bytes + 1]          -- exactly k // 8 bytes `bs`
    p  = int.from_bytes(prime_bytes, 'big')                   -- x = beNat bs < 2^(8(k//8))
    p |= 1 << (k - 1)                                         -- set MSB
    p += 31 - p % 30                                          -- = KeypairGen.primeStart k x, ≡ 1 (mod 30)
    while not is_prime(p, 1): p += GCD_30_DELTA[idx % 8]      -- adds `gap` ≥ 0 in total
    if is_prime(p, 10): return p                              -- else: fresh bytes, same shape

so the returned prime is `primeStart k (beNat bs) + gap` for the bytes and the gap of the LAST attempt.

THE GAP HYPOTHESIS (explicit, not proved): `gap + 31 ≤ 2^(8(k//8) − 1)`.  `gap` is at most the distance from
`primeStart` to the next prime (the search visits every residue coprime to 30 and a prime passes every
Miller–Rabin round).  For k ≥ 32 (moduli of ≥ 64 bits, the range of the check) the hypothesis allows a gap
of 2^31 − 31 at the least, while the primes have k ≤ 2^13 or so bits in practice; the largest known prime gap
below 2^64 is 1550.  It follows from Cramér-type conjectures and, for large k, from Baker–Harman–Pintz
(p^0.525), but NOT from Bertrand's postulate (gap < p ≈ 2^(k−1) is too weak), and is not available in
Mathlib: it stays a hypothesis.  Measured on the real `generate_prime`
(k ∈ {32 … 47, 64, 67, 100, 256, 509, 1019, 1023, 1024}, 425 primes): `primeStart` recorded at the first
`is_prime` call of the last attempt satisfies `primeStart_spec`; largest gap 1558 (k = 1023); products for
k % 8 ≥ 3 all have exactly 2k − 1 bits.

With the hypothesis, "cannot return" is a theorem: `generate_key_never_returns_size`.
-/
import ParanoidModel.Proofs.KeypairGen
import ParanoidModel.Props.C06
namespace Paranoid.C06Gen
open Paranoid Paranoid.KeypairGen

/-- the slice `prime_bytes[1 : k // 8 + 1]` read big-endian is below `2^(8·(k // 8))`. -/
theorem prime_bytes_lt (k : Nat) (bs : List UInt8) (hlen : bs.length = k / 8) :
    beNat bs < 2 ^ (8 * (k / 8)) := by
  rw [← hlen]; exact beNat_lt bs

/-- the candidate the prime search starts from: bit k − 1 is set, it is ≡ 1 (mod 30), and it exceeds
`2^(k−1)` by less than `2^(8(k//8)) + 31` — only `8·(k // 8)` of its k bits are random. -/
theorem primeStart_spec (k : Nat) (bs : List UInt8) (hlen : bs.length = k / 8) :
    2 ^ (k - 1) ≤ primeStart k (beNat bs) ∧
      primeStart k (beNat bs) < 2 ^ (k - 1) + 2 ^ (8 * (k / 8)) + 31 ∧
      primeStart k (beNat bs) % 30 = 1 :=
  primeStart_bounds k (beNat bs) (prime_bytes_lt k bs hlen)

/-- ★ the size of the prime `generate_prime(k)` returns, for every byte stream and every search gap within
the explicit gap hypothesis: `2^(k−1) ≤ p < 2^(k−1) + 3·2^(8(k//8) − 1)` — the hypothesis of
`C06.product_size_never_reached` with m = k // 8, r = k % 8. -/
theorem generate_prime_bound (k : Nat) (bs : List UInt8) (gap : Nat) (hk : 8 ≤ k)
    (hlen : bs.length = k / 8) (hgap : gap + 31 ≤ 2 ^ (8 * (k / 8) - 1)) :
    2 ^ (k - 1) ≤ primeStart k (beNat bs) + gap ∧
      primeStart k (beNat bs) + gap < 2 ^ (k - 1) + 3 * 2 ^ (8 * (k / 8) - 1) := by
  obtain ⟨h1, h2, _⟩ := primeStart_spec k bs hlen
  have hm : 1 ≤ k / 8 := (Nat.le_div_iff_mul_le (by decide)).2 hk
  clear hk hlen
  generalize k / 8 = m at *
  rw [show 8 * m = 8 * m - 1 + 1 by omega, Nat.pow_succ] at h2
  omega

/-- ★ D21, even sizes, as a theorem about the construction (modulo the gap hypothesis): for a prime size
k ≥ 8 with `k % 8 ≥ 3`, ANY two primes `generate_prime(k)` can return multiply to a number of EXACTLY
`2k − 1` bits — never the `bits = 2k` that `generate_key(2k)` (`while True: … if n.bit_length() == bits:
return`) waits for, so that loop does not end, whatever the seed. -/
theorem generate_key_never_returns_size (k : Nat) (bs₁ bs₂ : List UInt8) (gap₁ gap₂ : Nat) (hk : 8 ≤ k)
    (hr : 3 ≤ k % 8) (hlen₁ : bs₁.length = k / 8) (hlen₂ : bs₂.length = k / 8)
    (hgap₁ : gap₁ + 31 ≤ 2 ^ (8 * (k / 8) - 1)) (hgap₂ : gap₂ + 31 ≤ 2 ^ (8 * (k / 8) - 1)) :
    bitLength ((primeStart k (beNat bs₁) + gap₁) * (primeStart k (beNat bs₂) + gap₂)) = 2 * k - 1 ∧
      bitLength ((primeStart k (beNat bs₁) + gap₁) * (primeStart k (beNat bs₂) + gap₂)) ≠ 2 * k := by
  obtain ⟨l1, u1⟩ := generate_prime_bound k bs₁ gap₁ hk hlen₁ hgap₁
  obtain ⟨l2, u2⟩ := generate_prime_bound k bs₂ gap₂ hk hlen₂ hgap₂
  have hkk : 8 * (k / 8) + k % 8 = k := Nat.div_add_mod k 8
  have hup := C06.product_size_never_reached (k / 8) (k % 8) _ _
    ((Nat.le_div_iff_mul_le (by decide)).2 hk) hr (by rw [hkk]; exact u1) (by rw [hkk]; exact u2)
  rw [hkk] at hup
  exact bitLength_mul_of_bounds (Nat.le_trans (by decide) hk) l1 l2 hup

/-- the same in the vocabulary of `CheckKeypairDenylist`: for an even modulus size `bits` that the check's
size guard `keypairSizeOk` rejects because `(bits / 2) % 8 ≥ 3`, no product of two generator primes has
`bits` bits (so a table hit at such a size can only be a coincidence, and not consulting the generator —
`C06.keypair_short_prime_size` — loses nothing). -/
theorem unsupported_even_size_unreachable (bits : Nat) (bs₁ bs₂ : List UInt8) (gap₁ gap₂ : Nat)
    (hbits : 64 ≤ bits) (hr : 3 ≤ (bits / 2) % 8)
    (hlen₁ : bs₁.length = bits / 2 / 8) (hlen₂ : bs₂.length = bits / 2 / 8)
    (hgap₁ : gap₁ + 31 ≤ 2 ^ (8 * (bits / 2 / 8) - 1)) (hgap₂ : gap₂ + 31 ≤ 2 ^ (8 * (bits / 2 / 8) - 1)) :
    bitLength ((primeStart (bits / 2) (beNat bs₁) + gap₁) * (primeStart (bits / 2) (beNat bs₂) + gap₂))
      ≠ bits := by
  obtain ⟨h, _⟩ := generate_key_never_returns_size (bits / 2) bs₁ bs₂ gap₁ gap₂ (by omega) hr hlen₁ hlen₂
    hgap₁ hgap₂
  omega

/-- the ODD-size companion (`C06.product_size_never_odd` needs `p, q < 2^k`): for `k % 8 ≥ 2` the returned
prime has exactly k bits, so `generate_key(2k + 1)` multiplies two primes below `2^k` and never sees a
product of `2k + 1` bits.  For `k % 8 ∈ {0, 1}` the bound `p < 2^k` is NOT a theorem about the construction:
random bytes within `31 + gap` of all-ones make `p += 31 - p % 30` carry into bit k (example below; probability
about `(31 + gap) / 2^(8(k//8))` per prime) — there "cannot return" is "does not return unless that happens". -/
theorem generate_prime_lt_two_pow (k : Nat) (bs : List UInt8) (gap : Nat) (hk : 8 ≤ k) (hr : 2 ≤ k % 8)
    (hlen : bs.length = k / 8) (hgap : gap + 31 ≤ 2 ^ (8 * (k / 8) - 1)) :
    primeStart k (beNat bs) + gap < 2 ^ k := by
  obtain ⟨_, u⟩ := generate_prime_bound k bs gap hk hlen hgap
  have hkk : 8 * (k / 8) + k % 8 = k := Nat.div_add_mod k 8
  have hm : 1 ≤ k / 8 := (Nat.le_div_iff_mul_le (by decide)).2 hk
  clear hgap hlen
  generalize k / 8 = m at *
  generalize k % 8 = r at *
  have h1 : 4 * 2 ^ (8 * m - 1) ≤ 2 ^ (k - 1) := by
    rw [show k - 1 = 2 + (8 * m - 1) + (r - 2) by omega, Nat.pow_add, Nat.pow_add]
    exact Nat.le_mul_of_pos_right _ (Nat.two_pow_pos _)
  have h2 : 2 ^ k = 2 * 2 ^ (k - 1) := by rw [← Nat.pow_succ']; congr 1; omega
  omega

theorem generate_key_never_returns_odd (k : Nat) (bs₁ bs₂ : List UInt8) (gap₁ gap₂ : Nat) (hk : 8 ≤ k)
    (hr : 2 ≤ k % 8) (hlen₁ : bs₁.length = k / 8) (hlen₂ : bs₂.length = k / 8)
    (hgap₁ : gap₁ + 31 ≤ 2 ^ (8 * (k / 8) - 1)) (hgap₂ : gap₂ + 31 ≤ 2 ^ (8 * (k / 8) - 1)) :
    bitLength ((primeStart k (beNat bs₁) + gap₁) * (primeStart k (beNat bs₂) + gap₂)) ≠ 2 * k + 1 := by
  have h := C06.product_size_never_odd k _ _
    (generate_prime_lt_two_pow k bs₁ gap₁ hk hr hlen₁ hgap₁)
    (generate_prime_lt_two_pow k bs₂ gap₂ hk hr hlen₂ hgap₂)
  have := (bitLength_le_iff _ (2 * k)).mpr h
  omega

/-! ## Non-vacuity -/

-- k = 32 (k % 8 = 0), all-ones bytes: the alignment step carries into bit 32 — `p < 2^k` fails, and the
-- product of two such "32-bit" primes has 65 = 2k + 1 bits
example : 2 ^ 32 ≤ primeStart 32 (beNat [0xff, 0xff, 0xff, 0xff]) ∧
    bitLength (primeStart 32 (beNat [0xff, 0xff, 0xff, 0xff]) *
      primeStart 32 (beNat [0xff, 0xff, 0xff, 0xff])) = 65 := by decide +kernel

-- k = 35 (bits = 70), 4 random bytes, gaps 6 and 120
example : primeStart 35 (beNat [0x12, 0x34, 0x56, 0x78]) = 17485289101 ∧
    17485289101 % 30 = 1 ∧ ([0x12, 0x34, 0x56, 0x78] : List UInt8).length = 35 / 8 ∧
    8 ≤ 35 ∧ 3 ≤ 35 % 8 ∧ 6 + 31 ≤ 2 ^ (8 * (35 / 8) - 1) ∧ 120 + 31 ≤ 2 ^ (8 * (35 / 8) - 1) ∧
    bitLength ((primeStart 35 (beNat [0x12, 0x34, 0x56, 0x78]) + 6) *
      (primeStart 35 (beNat [0xff, 0xff, 0xff, 0xff]) + 120)) = 69 := by decide +kernel
-- the bound is tight in r: for k % 8 = 2 (k = 34) both 2k − 1 and 2k bits occur
example : bitLength ((primeStart 34 (beNat [0, 0, 0, 0])) * (primeStart 34 (beNat [0, 0, 0, 0]))) = 67 ∧
    bitLength ((primeStart 34 (beNat [0xff, 0xff, 0xff, 0xff])) *
      (primeStart 34 (beNat [0xff, 0xff, 0xff, 0xff]))) = 68 := by decide +kernel

end Paranoid.C06Gen
