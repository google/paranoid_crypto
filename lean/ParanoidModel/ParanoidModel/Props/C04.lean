/-
Props/C04.lean — "RSA keys whose primes are close in a documented sense are always factored".

Proved here at full strength: the Fermat clause (first sentence of the property), and for the
guess-based clauses the exact success condition of the single Fermat step, what it returns, the
guess algebra and the list of differences tried.
The second sentence (equal high and low bits) is only STATED here, as a `def … : Prop`; it is
proved in Props/C04Hlbe.lean. That the guess-based families reach the success condition is
Props/C04Guess.lean (under an explicit gap bound and a hypothesis on the float cube root).
-/
import ParanoidModel.Proofs.Lehman
namespace Paranoid.C04
open Paranoid

/-- **Fermat clause, exact.** For distinct odd primes `p < q` and every step bound,
`FermatFactor(p*q, steps)` returns `(q, p)` exactly when
`(p+q)/2 - ceil(sqrt(p*q)) < steps` (`ceil(sqrt n) = isqrt n + 1` as `n` is not a square),
and `None` otherwise. -/
theorem fermat_exact {p q : Nat} (hp : p.Prime) (hq : q.Prime) (hpq : p < q)
    (hpo : p % 2 = 1) (hqo : q % 2 = 1) (steps : Nat) :
    fermatFactor (p * q) steps =
      if (p + q) / 2 - (Nat.sqrt (p * q) + 1) < steps then some (q, p) else none := by
  have hchar := sqAt_prime_product hp hq hpq hpo hqo
  have hp2 := hp.two_le
  obtain ⟨k, rfl⟩ : ∃ k, q = p + 2 * k := ⟨(q - p) / 2, by omega⟩
  have hA : (p + (p + 2 * k)) / 2 = p + k := by omega
  have hAsq : (p + k) * (p + k) = p * (p + 2 * k) + k * k := by ring
  rw [hA] at hchar ⊢
  have hodd : p * (p + 2 * k) % 2 = 1 := by rw [Nat.mul_mod, hpo, hqo]
  have h3 : 3 * (p + 2 * k) ≤ p * (p + 2 * k) := Nat.mul_le_mul_right _ (by omega)
  generalize p * (p + 2 * k) = n at *
  -- `√n < A = p + k < (n + 1) / 2`, and these two are the only `a` with `a² − n` a square
  have hlt : Nat.sqrt n < p + k := by
    rw [Nat.sqrt_lt]
    have := Nat.mul_pos (by omega : 0 < k) (by omega : 0 < k)
    omega
  have hnsq : Nat.sqrt n * Nat.sqrt n ≠ n :=
    not_square_of_sqAt fun a ha hs => by have := (hchar a ha).1 hs; omega
  rw [fermatFactor_of_first n steps (p + k) hodd hnsq hlt ((hchar _ (by omega)).2 (Or.inl rfl))
    (fun a h1 h2 hs => by have := (hchar a (Nat.sqrt_lt.1 h1).le).1 hs; omega),
    show (p + k) * (p + k) - n = k * k by omega, Nat.sqrt_eq, Nat.add_sub_cancel, Nat.add_assoc,
    ← Nat.two_mul]

/-- even moduli are split by the shortcut, whatever the step bound. -/
theorem fermat_even (n steps : Nat) (h : n % 2 = 0) : fermatFactor n steps = some (2, n / 2) := by
  simp [fermatFactor, h]

/-- perfect squares are split by the shortcut, whatever the step bound. -/
theorem fermat_square (a steps : Nat) (h : (a * a) % 2 = 1) :
    fermatFactor (a * a) steps = some (a, a) := by
  unfold fermatFactor
  rw [if_neg (by omega)]
  simp [isqrt, Nat.sqrt_eq]

/-- contrapositive used by C07: primes far apart ⇒ Fermat is silent. -/
theorem fermat_silent {p q : Nat} (hp : p.Prime) (hq : q.Prime) (hpq : p < q)
    (hpo : p % 2 = 1) (hqo : q % 2 = 1) (steps : Nat)
    (hfar : steps ≤ (p + q) / 2 - (Nat.sqrt (p * q) + 1)) :
    fermatFactor (p * q) steps = none := by
  rw [fermat_exact hp hq hpq hpo hqo, if_neg (by omega)]


/-- **Exact success condition of the Fermat step inside `FactorWithGuess`** (used by the
small-upper-difference and unseeded-PRNG checks): for `d = 4·u·v·n = (2uq)(2vp)` the step
`a = ceil(sqrt d)`, `is_square(a² - d)` succeeds with `a = uq + vp` exactly when
`(uq - vp)² < 2(uq + vp) - 1`. -/
theorem fwg_one_step (u v p q : Nat) (hu : 0 < u) (hv : 0 < v) (hp : 0 < p) (hq : 0 < q) :
    ceilSqrt (4 * u * v * (p * q)) = u * q + v * p ↔
      ((u * q : Nat) - (v * p : Nat) : Int) * ((u * q : Nat) - (v * p : Nat) : Int)
        < 2 * (((u * q : Nat) : Int) + (v * p : Nat)) - 1 := by
  have e : 4 * u * v * (p * q) = 4 * (u * q) * (v * p) := by ring
  rw [e]
  exact fermat_one_step (u * q) (v * p) (Nat.mul_pos hu hq) (Nat.mul_pos hv hp)

/-- When that condition holds and the convergent is not degenerate (`p ∤ u`, `q ∤ v`),
the step returns both primes — for every odd prime pair. -/
theorem fwg_step_post {p q : Nat} (hp : p.Prime) (hq : q.Prime) (hpq : p ≠ q)
    (hpo : p % 2 = 1) (hqo : q % 2 = 1) (u v : Nat) (hu : 0 < u) (hv : 0 < v)
    (hpu : ¬ p ∣ u) (hqv : ¬ q ∣ v)
    (hcond : ((u * q : Nat) - (v * p : Nat) : Int) * ((u * q : Nat) - (v * p : Nat) : Int)
        < 2 * (((u * q : Nat) : Int) + (v * p : Nat)) - 1) :
    fwgFinish (p * q) (ceilSqrt (4 * u * v * (p * q))) (4 * u * v * (p * q)) = some [q, p] ∨
    fwgFinish (p * q) (ceilSqrt (4 * u * v * (p * q))) (4 * u * v * (p * q)) = some [p, q] := by
  have hp2 := hp.two_le
  have hq2 := hq.two_le
  rw [fwgFinish_mul p q u v (Nat.mul_pos hu hq.pos) (Nat.mul_pos hv hp.pos) hcond]
  -- `p` is an odd prime that does not divide `u`, so `gcd(2u, p) = 1`; likewise `gcd(2v, q) = 1`
  have hp2u : Nat.gcd (2 * u) p = 1 := Nat.Coprime.symm <| Nat.Coprime.mul_right
    (Nat.coprime_two_right.2 (Nat.odd_iff.2 hpo)) ((Nat.Prime.coprime_iff_not_dvd hp).2 hpu)
  have hq2v : Nat.gcd (2 * v) q = 1 := Nat.Coprime.symm <| Nat.Coprime.mul_right
    (Nat.coprime_two_right.2 (Nat.odd_iff.2 hqo)) ((Nat.Prime.coprime_iff_not_dvd hq).2 hqv)
  have hlt1 : q < p * q := (Nat.lt_mul_iff_one_lt_left hq.pos).2 hp2
  have hlt2 : p < p * q := (Nat.lt_mul_iff_one_lt_right hp.pos).2 hq2
  unfold splitBy
  split
  · rw [hp2u, Nat.one_mul, if_pos ⟨by omega, hlt1⟩, Nat.mul_div_cancel _ hq.pos]
    exact Or.inl rfl
  · rw [hq2v, Nat.one_mul, if_pos ⟨by omega, hlt2⟩, Nat.mul_div_cancel_left _ hp.pos]
    exact Or.inr rfl

/-- the control flow of `FactorWithGuess` over the convergents (after the `fix:` that keeps
trying while `u*v ≤ bound` this lemma is about the FIRST admissible convergent only). -/
theorem fwg_first_admissible (n p0 q0 bound a u v : Nat) (rest : List (Nat × Nat × Nat))
    (hadm : ((u : Int) * q0 - (v : Int) * p0).natAbs < bound)
    (fs : List Nat) (h : fwgFinish n (ceilSqrt (4 * u * v * n)) (4 * u * v * n) = some fs) :
    fwgLoop n p0 q0 bound ((a, u, v) :: rest) = some fs := by
  unfold fwgLoop
  rw [if_pos hadm, h]

/-- the six differences tried are exactly the documented ones, in this order. -/
theorem sud_differences (L : Nat) :
    sudDifferences L = [2 ^ (L - 100), 2 ^ (L - 128), 2 ^ (L - 160), 2 ^ (L - 256),
      2 ^ (L - 2), 2 ^ (L - 3)] := rfl

/-- the guess for difference `D` is exact when `q - p = D`:
`isqrt(n + (D/2)²) + D/2 = q` for `n = p·q`, `q = p + D`, `D` even. -/
theorem sud_guess_exact (p D : Nat) (hD : D % 2 = 0) :
    sudGuess (p * (p + D)) D = p + D := by
  obtain ⟨k, rfl⟩ : ∃ k, D = 2 * k := ⟨D / 2, by omega⟩
  have h := FwgC.sudGuess_near p k 0
  exact Nat.le_antisymm h.2 h.1

/-! Non-vacuity. -/
example : fermatFactor (89 * 97) 1 = some (97, 89) := by decide +kernel
example : fermatFactor (89 * 97) 0 = none := by decide +kernel
example : fermatFactor (101 * 199) 8 = none ∧ fermatFactor (101 * 199) 9 = some (199, 101) := by
  decide +kernel

/-- second sentence (equal high and low bits) — full statement; proof: `C04Hlbe.hlbe_complete`. -/
def hlbe_complete_statement : Prop :=
  ∀ (p q r s : Nat), p.Prime → q.Prime → p ≠ q → 3 ≤ r →
    p % 2 ^ r = q % 2 ^ r → bitLength p = bitLength q →
    p / 2 ^ (bitLength p - s) = q / 2 ^ (bitLength q - s) →
    bitLength (p * q) / 4 + 2 ≤ r + s →
    (∃ fs, factorHighAndLowBitsEqual (p * q) 3 = .ok (some fs)) ∨
      (∃ x y, fermatFactor (p * q) 100000 = some (x, y))

end Paranoid.C04
