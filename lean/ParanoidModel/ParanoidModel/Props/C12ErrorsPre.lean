/-
Props/C12ErrorsPre.lean — the raise-theorems of Props/C12Errors.lean with the parameter precondition IN THE
STATEMENT.

`C12Errors.scatter_raises`, `overlapping_raises`, `randomWalk_raises` are stated for every value of the
optional parameter (step_size, template length m, max_cnt).  They are true statements about the MODEL; at
the parameter value 0 the model is not the Python code (measured on /repo HEAD):

  * `LinearComplexityScatter(x, 100, 0)`        Python: ZeroDivisionError ("integer modulo by zero", in
    `util.Scatter`)                             model `linearComplexityScatter 100 0 none []`: ok;
  * `OverlappingTemplateMatching(x, 10, 0, 5)`  Python: ValueError ("negative shift count")
    (also block_size 4; block_size 3: both ValueError)  model `overlappingWithF .clean … 10 0 5`: ok;
  * `RandomWalk(x, 1200, 4, 0, 9)`              Python: returns, p-values nan for x = ±1
                                                model: returns, exact p-value 1 (no exception on either
                                                side: the raise-SET agrees, the result does not).

The corollaries below carry `1 ≤ step`, `1 ≤ m`, `1 ≤ max_cnt` as hypotheses, so that every instance is one
at which model and Python were compared by harness/corr/c12.py.  At the first admissible value the real code
does: `LinearComplexityScatter(x, 100, 1)` = 0.03125, `OverlappingTemplateMatching(x, 10, 1, 5)` = 0.7307…,
`RandomWalk(x, 1200, 4, 1, 9)` returns 28 finite p-values.

`scatter_size_zero_iff` / `scatter_raises_pre_nonempty` also give "some size is 0" of `C12Errors.scatter_raises`
its arithmetic meaning (step_size > n′, Python: ValueError "n must be positive" from `LfsrLogProbability`,
e.g. `LinearComplexityScatter(x, 100, 101)`).
-/
import ParanoidModel.Props.C12Errors
namespace Paranoid.C12ErrorsPre
open Paranoid Paranoid.Nist

/-- the i-th interleaved sequence (i < step_size) is empty exactly when fewer than i + 1 bits are used. -/
theorem scatter_size_zero_iff (n step i : Nat) (hi : i < step) :
    (n + step - 1 - i) / step = 0 ↔ n ≤ i := by
  rw [Nat.div_eq_zero_iff]
  omega

/-- `LinearComplexityScatter` with `step_size ≥ 1` (the range in which the model is the Python code):
raises only ValueError, exactly when the oracle reports a complexity above the length of its interleaved
sequence, or that length is 0. -/
theorem scatter_raises_pre (n step : Nat) (mb : Option Nat) (cs : List Nat) (e : PyErr)
    (_hstep : 1 ≤ step) :
    linearComplexityScatter n step mb cs = .error e ↔
      (∃ p ∈ (scatterSizes (scatterN n step mb) step).zip cs, p.1 = 0 ∨ p.1 < p.2) ∧ e = .valueError :=
  C12Errors.scatter_raises n step mb cs e

/-- every length paired with an oracle answer is `(n′ + step − 1 − i) / step` for an `i < step`. -/
theorem mem_scatterSizes (n step s : Nat) (h : s ∈ scatterSizes n step) :
    ∃ i, i < step ∧ s = (n + step - 1 - i) / step := by
  unfold scatterSizes at h
  rw [List.mem_map] at h
  obtain ⟨i, hi, rfl⟩ := h
  exact ⟨i, List.mem_range.mp hi, rfl⟩

/-- with `1 ≤ step_size ≤ n′` (n′ = the number of bits used, `scatterN`) no interleaved sequence is empty,
so `LinearComplexityScatter` raises exactly when the Berlekamp–Massey oracle reports a complexity above the
sequence length — never with an oracle that meets its obligation. -/
theorem scatter_raises_pre_nonempty (n step : Nat) (mb : Option Nat) (cs : List Nat) (e : PyErr)
    (_hstep : 1 ≤ step) (hn : step ≤ scatterN n step mb) :
    linearComplexityScatter n step mb cs = .error e ↔
      (∃ p ∈ (scatterSizes (scatterN n step mb) step).zip cs, p.1 < p.2) ∧ e = .valueError := by
  rw [C12Errors.scatter_raises]
  constructor
  · rintro ⟨⟨p, hp, h0 | hlt⟩, he⟩
    · exfalso
      obtain ⟨i, hi, hs⟩ := mem_scatterSizes _ _ _ (List.of_mem_zip hp).1
      rw [hs, scatter_size_zero_iff _ _ _ hi] at h0
      omega
    · exact ⟨⟨p, hp, hlt⟩, he⟩
  · rintro ⟨⟨p, hp, hlt⟩, he⟩
    exact ⟨⟨p, hp, Or.inr hlt⟩, he⟩

/-- `OverlappingTemplateMatching(bits, n, m, block_size)` with template length `m ≥ 1` (the range in which
the model is the Python code; m = 0 is `1 << -1` in Python): all exceptions. -/
theorem overlapping_raises_pre (o : ChiOracle) (bits n m bs : Nat) (e : PyErr) (_hm : 1 ≤ m) :
    overlappingWithF o bits n m bs = .error e ↔
      (bs = 0 ∧ e = .zeroDivision) ∨ (bs ≠ 0 ∧ n < bs ∧ e = .insufficientData) ∨
      (bs ≠ 0 ∧ bs ≤ n ∧ (bs < m + 4 ∨ o.rejects = true) ∧ e = .valueError) :=
  C12Errors.overlapping_raises o bits n m bs e

/-- the insufficient-data condition of `OverlappingTemplateMatching` with `m ≥ 1`. -/
theorem overlapping_insufficient_iff_pre (o : ChiOracle) (bits n m bs : Nat) (_hm : 1 ≤ m) :
    overlappingWithF o bits n m bs = .error .insufficientData ↔ bs ≠ 0 ∧ n < bs :=
  C12Errors.overlapping_insufficient_iff o bits n m bs

/-- `RandomWalk` (repaired code, D4) with `max_cnt ≥ 1` (for max_cnt = 0 Python returns nan p-values where
the model's exact value is 1; neither raises): ZeroDivisionError and nothing else, for the empty string or an
evaluated excursion test whose float distribution contains 0.0 (oracle). -/
theorem randomWalk_raises_pre (excZero : Bool) (bits n ms mc msv : Nat) (e : PyErr) (_hmc : 1 ≤ mc) :
    randomWalkF excZero .repaired bits n ms mc msv = .error e ↔
      e = .zeroDivision ∧
        (n = 0 ∨ (500 ≤ (walkFrom 0 (bitList bits n)).count 0 + 1 ∧ 1 ≤ ms ∧ excZero = true)) :=
  C12Errors.randomWalk_raises excZero bits n ms mc msv e

/-! ## Non-vacuity at the first admissible parameter value, and the excluded points of the MODEL -/

-- step_size = 1: one sequence of n bits; complexity 101 > 100 raises, complexity 50 does not
example : linearComplexityScatter 100 1 none [101] = .error .valueError ∧
    (linearComplexityScatter 100 1 none [50]).toOption.isSome = true ∧
    1 ≤ 1 ∧ 1 ≤ scatterN 100 1 none := by decide +kernel
-- step_size = 101 > n = 100: the last sequence is empty (Python: ValueError "n must be positive")
example : linearComplexityScatter 100 101 none (List.replicate 101 0) = .error .valueError := by
  decide +kernel
-- m = 1: block of 4 < m + 4 bits raises, block of 5 bits does not
example : overlappingWithF .clean 0b1011011101 10 1 4 = .error .valueError ∧
    (overlappingWithF .clean 0b1011011101 10 1 5).toOption.isSome = true := by decide +kernel
-- max_cnt = 1, 500 cycles
set_option maxRecDepth 20000 in
example : randomWalkF true .repaired (2 ^ 998 / 3) 998 4 1 9 = .error .zeroDivision ∧
    (randomWalkF false .repaired (2 ^ 998 / 3) 998 4 1 9).map (·.cycles) = .ok 500 := by decide +kernel
-- the excluded points: here the MODEL returns and the Python code raises (header)
example : (linearComplexityScatter 100 0 none []).toOption.isSome = true ∧
    (overlappingWithF .clean 0b1011011101 10 0 5).toOption.isSome = true := by decide +kernel

end Paranoid.C12ErrorsPre
