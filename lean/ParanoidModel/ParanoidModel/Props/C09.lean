/-
Props/C09.lean — "The nonce relation extracted from any ECDSA signature is exact".

Property theorems only; helper lemmas live in Proofs/Basic.lean and Proofs/Ecdsa.lean, the
RFC 6979 bit-string definitions in Spec/Rfc6979.lean.

All statements are universally quantified: every curve order `n` (only `n`, never the curve,
enters the modelled functions), every `d`, `k`, `r`, `s`, every hash length `hlen` (shorter,
equal, longer than the order length `qlen = bitLength n`, `qlen` a multiple of 8 or not —
521), every byte string including leading zero bytes.  No size bound anywhere.
-/
import ParanoidModel.Proofs.Ecdsa
namespace Paranoid.C09
open Paranoid Paranoid.Rfc6979

/-! ### `gmpy.invert` (shared with the EC arithmetic model) -/

/-- `invMod a m` (`gmpy2.invert`) for `m ≥ 2`: either `gcd(a, m) = 1` and it returns the
inverse `x < m`, `a·x ≡ 1 (mod m)`, or `gcd(a, m) ≠ 1` and it raises `ZeroDivisionError`.
The fuel `2·bitLength m + 2` of the model's Euclid loop is sufficient for every input. -/
theorem invMod_spec (a : Int) (m : Nat) (hm : 2 ≤ m) :
    (Int.gcd a m = 1 ∧ ∃ x : Nat, invMod a m = .ok x ∧ x < m ∧ (a * x) % (m : Int) = 1) ∨
    (Int.gcd a m ≠ 1 ∧ invMod a m = .error .zeroDivision) :=
  invMod_cases a m hm

theorem invMod_ok (a : Int) (m x : Nat) (hm : 2 ≤ m) (h : invMod a m = .ok x) :
    (a * x) % (m : Int) = 1 ∧ x < m ∧ Int.gcd a m = 1 :=
  Paranoid.invMod_ok a m x hm h

theorem invMod_error_iff (a : Int) (m : Nat) (hm : 2 ≤ m) (e : PyErr) :
    invMod a m = .error e ↔ (e = .zeroDivision ∧ Int.gcd a m ≠ 1) := by
  rcases invMod_cases a m hm with ⟨hg, y, hy, _, _⟩ | ⟨hg, he⟩
  · simp [hy, hg]
  · simp only [he, Except.error.injEq, hg, ne_eq, not_false_eq_true, and_true]
    exact eq_comm

/-! ### The nonce relation -/

/-- ★ `hnparams`. For a prime order `n`, any `d, k, z, r, s` with the ECDSA signing equation
`s = k⁻¹ (z + r d)` in `ZMod n`, `k ≠ 0`, `s ≠ 0`: `HiddenNumberParams(r, s, z)` returns a
pair `(a, b)`, `a, b < n`, with `k = a + b d` in `ZMod n`. -/
theorem hnparams (n : Nat) [Fact n.Prime] (r s z d k : Int)
    (hk : (k : ZMod n) ≠ 0) (hs : (s : ZMod n) ≠ 0)
    (hsig : (s : ZMod n) = (k : ZMod n)⁻¹ * ((z : ZMod n) + r * d)) :
    ∃ a b : Nat, hiddenNumberParams n r s z = .ok (a, b) ∧ a < n ∧ b < n ∧
      (k : ZMod n) = (a : ZMod n) + (b : ZMod n) * d := by
  have hp : n.Prime := Fact.out
  have hs' : s % (n : Int) ≠ 0 := by
    intro h
    apply hs
    rw [ZMod.intCast_zmod_eq_zero_iff_dvd]
    exact Int.dvd_of_emod_eq_zero h
  have hsig' : s * k ≡ z + r * d [ZMOD (n : Int)] := by
    rw [← ZMod.intCast_eq_intCast_iff]
    push_cast
    have hkk : (k : ZMod n) * (k : ZMod n)⁻¹ = 1 := mul_inv_cancel₀ hk
    rw [hsig, mul_comm, ← mul_assoc, hkk, one_mul]
  obtain ⟨a, b, h1, h2, h3, h4⟩ :=
    hiddenNumberParams_spec n hp.two_le r s z d k (gcd_eq_one_of_emod_ne_zero n hp s hs') hsig'
  refine ⟨a, b, h1, h2, h3, ?_⟩
  rw [← ZMod.intCast_eq_intCast_iff] at h4
  push_cast at h4
  exact h4.symm

/-- the same law without primality: any modulus `n ≥ 2`, any `s` coprime to `n`, signing
equation in the division-free form `s·k ≡ z + r·d`. (Covers `r`, `s`, `z ≥ n` or negative.) -/
theorem hnparams_general (n : Nat) (hn : 2 ≤ n) (r s z d k : Int)
    (hs : Int.gcd s n = 1) (hsig : s * k ≡ z + r * d [ZMOD (n : Int)]) :
    ∃ a b : Nat, hiddenNumberParams n r s z = .ok (a, b) ∧ a < n ∧ b < n ∧
      (a : Int) + b * d ≡ k [ZMOD (n : Int)] :=
  hiddenNumberParams_spec n hn r s z d k hs hsig

/-- `HiddenNumberParams` raises exactly `ZeroDivisionError`, exactly when `s` is not
invertible modulo `n` (for a prime `n`: exactly when `s ≡ 0`). -/
theorem hnparams_error_iff (n : Nat) (hn : 2 ≤ n) (r s z : Int) (e : PyErr) :
    hiddenNumberParams n r s z = .error e ↔ (e = .zeroDivision ∧ Int.gcd s n ≠ 1) :=
  hiddenNumberParams_error_iff n hn r s z e

/-! ### Hash truncation = RFC 6979 -/

/-- ★ `transform_rfc6979`. For every order `n > 0`, every `hlen` and every `h < 2^hlen`:
`TransformOrderLen(h, hlen)` is RFC 6979 `bits2int` (section 2.3.2: keep the `qlen` leftmost
bits if `qlen < hlen`, else pad with zeros on the left) applied to the `hlen`-bit big-endian
bit string of `h`, followed by reduction modulo `n`. -/
theorem transform_rfc6979 (n h hlen : Nat) (hn : n ≠ 0) (hh : h < 2 ^ hlen) :
    transformOrderLen n (h : Int) (hlen : Int) =
      .ok (bits2int (bitLength n) (toBits h hlen) % n) :=
  transformOrderLen_bits n h hlen hn hh

/-- the three cases written out: `hlen` longer than `qlen` — shift right by the difference;
equal or shorter — unchanged; then `% n`. Needs no bound on `h`. -/
theorem transform_cases (n h hlen : Nat) (hn : n ≠ 0) :
    transformOrderLen n (h : Int) (hlen : Int) =
      .ok ((if bitLength n < hlen then h >>> (hlen - bitLength n) else h) % n) :=
  transformOrderLen_nat n h hlen hn

/-- RFC 6979 reduces `z1 = bits2int(h)` by ONE conditional subtraction (`bits2octets`,
section 2.3.4); the code uses `% n`. They are equal on every value `bits2int` can produce,
because `bits2int < 2^qlen ≤ 2n`. -/
theorem transform_reduce_once (n : Nat) (hn : n ≠ 0) (b : List Bool) :
    bits2int (bitLength n) b % n = reduceOnce (bits2int (bitLength n) b) n :=
  mod_eq_reduceOnce n _ hn (bits2int_lt _ _)

/-- `TransformOrderLen` with order `0` raises `ZeroDivisionError` (`mpz % 0`). -/
theorem transform_zero (h hlen : Int) : transformOrderLen 0 h hlen = .error .zeroDivision := rfl

/-- ★ `ecdsaValues`: composition of `Bytes2Int` on the three fields with
`TransformOrderLen(·, 8 * len(message_hash))`. -/
theorem ecdsaValues_composition (n : Nat) (r s mh : List Nat) :
    ecdsaValues n r s mh =
      (transformOrderLen n (bytes2int mh) ((8 * mh.length : Nat) : Int)).map
        (fun z => (bytes2int r, bytes2int s, z)) := by
  unfold ecdsaValues
  rw [Nat.mul_comm]
  cases transformOrderLen n (bytes2int mh) ((8 * mh.length : Nat) : Int) <;> rfl

/-- … hence, on octet strings (`hlen = 8·len`, every length incl. 0), `z` is `bits2int` of the
hash's own bit sequence reduced modulo `n`. -/
theorem ecdsaValues_rfc6979 (n : Nat) (r s mh : List Nat) (hn : n ≠ 0)
    (hmh : ∀ x ∈ mh, x < 256) :
    ecdsaValues n r s mh =
      .ok (bytes2int r, bytes2int s, bits2int (bitLength n) (octetsToBits mh) % n) := by
  unfold ecdsaValues
  rw [transformOrderLen_bits n _ _ hn (bytes2int_lt_two_pow mh hmh), toBits_bytes2int mh hmh]

/-- End to end: for a prime order `n`, signature fields `rB`, `sB` and hash `mh` as byte
strings (any leading zeros), private key `d` and nonce `k` with
`s·k ≡ bits2int(mh) + r·d (mod n)` and `s ≢ 0`: the `(a, b)` the library derives via
`ECDSAValues` and `HiddenNumberParams` satisfy `k ≡ a + b·d (mod n)`. -/
theorem nonce_relation (n : Nat) (hp : n.Prime) (rB sB mh : List Nat) (d k : Int)
    (hmh : ∀ x ∈ mh, x < 256)
    (hs : (bytes2int sB : Int) % (n : Int) ≠ 0)
    (hsig : (bytes2int sB : Int) * k ≡
      (bits2int (bitLength n) (octetsToBits mh) : Int) + (bytes2int rB : Int) * d [ZMOD (n : Int)]) :
    ∃ r s z a b : Nat, ecdsaValues n rB sB mh = .ok (r, s, z) ∧
      hiddenNumberParams n r s z = .ok (a, b) ∧ a < n ∧ b < n ∧
      (a : Int) + b * d ≡ k [ZMOD (n : Int)] := by
  have hn : n ≠ 0 := hp.ne_zero
  have hz : ((bits2int (bitLength n) (octetsToBits mh) % n : Nat) : Int) ≡
      (bits2int (bitLength n) (octetsToBits mh) : Int) [ZMOD (n : Int)] := by
    rw [Int.natCast_mod]; exact Int.mod_modEq _ _
  obtain ⟨a, b, h1, h2, h3, h4⟩ := hiddenNumberParams_spec n hp.two_le (bytes2int rB)
    (bytes2int sB) ((bits2int (bitLength n) (octetsToBits mh) % n : Nat) : Int) d k
    (gcd_eq_one_of_emod_ne_zero n hp _ hs) (hsig.trans (hz.symm.add_right _))
  exact ⟨_, _, _, a, b, ecdsaValues_rfc6979 n rB sB mh hn hmh, h1, h2, h3, h4⟩

/-! ### Byte / integer conversions -/

/-- ★ `Bytes2Int(Int2Bytes(v)) = v` for every `v ≥ 0`. -/
theorem bytes2int_int2bytes (v : Nat) : bytes2int (int2bytes v) = v :=
  Paranoid.bytes2int_int2bytes v

/-- `Int2Bytes` of a negative value raises `OverflowError`; of `v ≥ 0` it is the minimal
big-endian encoding. -/
theorem int2bytesI_cases (v : Int) :
    (0 ≤ v ∧ int2bytesI v = .ok (int2bytes v.toNat)) ∨ (v < 0 ∧ int2bytesI v = .error .overflow) := by
  cases v with
  | ofNat n => left; exact ⟨Int.natCast_nonneg n, rfl⟩
  | negSucc n => right; exact ⟨Int.negSucc_lt_zero n, rfl⟩

/-- ★ `Int2Bytes(Bytes2Int(b))` is `b` without its leading zero bytes, for every byte
string `b` — so a field with leading zeros denotes the same integer and re-encodes
minimally. -/
theorem int2bytes_bytes2int (b : List Nat) (h : ∀ x ∈ b, x < 256) :
    int2bytes (bytes2int b) = b.dropWhile (· = 0) :=
  Paranoid.int2bytes_bytes2int b h

/-- leading zero bytes never change the value read from a field. -/
theorem bytes2int_leading_zeros (k : Nat) (b : List Nat) :
    bytes2int (List.replicate k 0 ++ b) = bytes2int b :=
  bytes2int_zeros_append k b

/-- the output of `Int2Bytes` is a byte string (entries `< 256`) with no leading zero. -/
theorem int2bytes_bytes (v : Nat) : (∀ x ∈ int2bytes v, x < 256) ∧ (int2bytes v).head? ≠ some 0 := by
  refine ⟨int2bytesLen_lt v _, ?_⟩
  have h := Paranoid.int2bytes_bytes2int (int2bytes v) (int2bytesLen_lt v _)
  rw [Paranoid.bytes2int_int2bytes] at h
  intro h0
  have := List.head?_dropWhile_not (· = 0) (int2bytes v)
  rw [← h, h0] at this
  simp at this

/-- `PublicPoint` reads both coordinates big-endian. -/
theorem publicPoint_eq (x y : List Nat) : publicPoint x y = (bytes2int x, bytes2int y) := rfl

/-- ★ `Hex2Bytes` on a string of `L` hex digits: `⌈L/2⌉` bytes whose big-endian value is the
number the digits denote; an odd-length string is padded with one `0` digit on the LEFT. -/
theorem hex2bytes_digits (s : List Char) (hh : AllHex s) :
    ∃ bs, hex2bytes s = .ok bs ∧ bs.length = (s.length + 1) / 2 ∧ (∀ x ∈ bs, x < 256) ∧
      bytes2int bs = hexNum s := by
  unfold hex2bytes
  split
  · rename_i hodd
    have h0 : AllHex ('0' :: s) := by
      intro c hc
      simp only [List.mem_cons] at hc
      rcases hc with rfl | hc
      · decide
      · exact hh c hc
    obtain ⟨bs, h1, h2, h3, h4⟩ := fromHex_even ((s.length + 1) / 2) ('0' :: s)
      (by simp only [List.length_cons]; omega) h0
    refine ⟨bs, h1, h2, h3, ?_⟩
    rw [h4, hexNum_cons]
    simp [hexDigitVal, hexVal?]
  · rename_i heven
    obtain ⟨bs, h1, h2, h3, h4⟩ := fromHex_even ((s.length + 1) / 2) s (by omega) hh
    exact ⟨bs, h1, h2, h3, h4⟩

/-- `bytes.fromhex` skips ASCII whitespace standing before a byte (note that `Hex2Bytes`
counts such characters in its parity test, so `"ab cd"` — odd length — becomes `"0ab cd"` and
is rejected, while `"ab  cd"` is accepted). -/
theorem fromHex_whitespace (c : Char) (s : List Char) (hc : isPySpace c = true) :
    fromHex (c :: s) = fromHex s := by
  cases s with
  | nil => simp [fromHex, hc]
  | cons d rest => rw [fromHex, if_pos hc]

/-- the only exception `Hex2Bytes` can raise is `ValueError`. -/
theorem hex2bytes_raises (s : List Char) (e : PyErr) (h : hex2bytes s = .error e) :
    e = .valueError := by
  have key : ∀ (k : Nat) (t : List Char), t.length ≤ k → fromHex t = .error e → e = .valueError := by
    intro k
    induction k with
    | zero =>
      intro t ht h
      have : t = [] := List.eq_nil_of_length_eq_zero (by omega)
      subst this; simp [fromHex] at h
    | succ k ih =>
      intro t ht h
      match t, ht, h with
      | [], _, h => simp [fromHex] at h
      | [c], _, h =>
        rw [fromHex] at h
        split at h
        · simp at h
        · simp only [Except.error.injEq] at h; exact h.symm
      | c :: d :: rest, ht, h =>
        rw [fromHex] at h
        split at h
        · exact ih (d :: rest) (by simp only [List.length_cons] at ht ⊢; omega) h
        · split at h
          · simp only [Except.error.injEq] at h; exact h.symm
          · split at h
            · rename_i e' he'
              simp only [Except.error.injEq] at h
              subst h
              exact ih rest (by simp only [List.length_cons] at ht; omega) he'
            · simp at h
  unfold hex2bytes at h
  split at h
  · exact key _ _ (Nat.le_refl _) h
  · exact key _ _ (Nat.le_refl _) h

/-! Non-vacuity: concrete inputs meeting the hypotheses. -/

-- toy prime order 23 (qlen = 5), d = 7, k = 10, r = 9, hash bytes [0xff] (8 bits > 5 bits):
-- e = 0xff >> 3 = 31, z = 31 % 23 = 8, s = k⁻¹ (e + r d) = 7 * (31 + 63) % 23 = 14.
example : bits2int (bitLength 23) (octetsToBits [0xff]) = 31 := by decide +kernel
example : ((14 : Int) * 10 - (31 + 9 * 7)) % 23 = 0 := by decide
example : ecdsaValues 23 [0, 9] [0, 0, 14] [0xff] = .ok (9, 14, 8) := by decide +kernel
example : hiddenNumberParams 23 9 14 8 = .ok (17, 22) := by decide +kernel
example : ((17 : Int) + 22 * 7 - 10) % 23 = 0 := by decide
example : hiddenNumberParams 23 9 46 8 = .error .zeroDivision := by decide +kernel
example : hiddenNumberParams 24 9 14 8 = .error .zeroDivision := by decide +kernel
-- hlen shorter (4 < 5), equal (5) and longer (16 > 5) than qlen
example : transformOrderLen 23 0xf 4 = .ok 15 := by decide +kernel
example : transformOrderLen 23 0x1f 5 = .ok 8 := by decide +kernel
example : transformOrderLen 23 0xffff 16 = .ok 8 := by decide +kernel
example : int2bytes (bytes2int [0, 0, 1, 0]) = [1, 0] := by decide +kernel
example : hex2bytes "abc".toList = .ok [0x0a, 0xbc] := by decide +kernel
example : hex2bytes "ab c".toList = .error .valueError := by decide +kernel
example : hex2bytes "ab cd".toList = .error .valueError := by decide +kernel
example : hex2bytes "ab  cd".toList = .ok [0xab, 0xcd] := by decide +kernel

end Paranoid.C09
