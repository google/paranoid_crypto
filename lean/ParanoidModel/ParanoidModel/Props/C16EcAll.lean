/-
Props/C16EcAll.lean — the entry points `paranoid.CheckAllEC` and `paranoid.CheckAllECDSASigs` END TO
END: property theorems about the composed models of Model/EcAll.lean, in which what every check
decides is computed by the check models of Model/Bsgs.lean / Model/EcdsaChecks.lean and only the
float values `int(math.sqrt(·))`, the lattice-solver answers, the `set` iteration orders and the
state of the process-wide curve objects are inputs.  Every theorem is a composition of theorems of
C02S, C06, C10, C16, C18 through the glue lemmas of Proofs/EcAll.lean; nothing about a check is
re-proved here.

No primality hypothesis: `FieldPrimes` (the field moduli of the nine curves of `CURVE_FACTORY` are
prime) is the theorem `fieldPrimes` (Proofs/EcAllPrimes.lean, from the kernel-checked Pratt
certificates of Proofs/PrattCurves.lean).  No hypothesis on `EcParams.bound` either: totality holds for
every value of the literal `2**32` (Proofs/EcAllBound.lean), in particular for the `2**16` the quick
tier of harness/corr/ecall.py runs the real code with.  "fresh" = `test_info` is a newly constructed
`TestInfo()`.
-/
import ParanoidModel.Proofs.EcAll
import ParanoidModel.Proofs.EcAllFast
import ParanoidModel.Proofs.EcAllBound
import ParanoidModel.Proofs.EcAllEval
namespace Paranoid.EcAll
open Paranoid Paranoid.Ec Paranoid.Bsgs WeierstrassCurve

/-! ## CheckAllEC -/

/-- ★ totality (C18 end to end).  On a well-formed call (`ECWF`: reachable `_table` states, every
key with a known curve id is a reduced point of its curve, float oracles `≥ 1` where a table is
built) with ANY value `p.bound` of the literal `2**32` and any `max_diff`, `CheckAllEC` returns: none
of the four registered checks raises, the check models and the bookkeeping layer agree about which
keys get an entry, and the bookkeeping layer does not raise — whatever `test_info` the keys already
carry.  The states left behind are again reachable, so the next call on the same curve objects is
covered too.  (The bound enters only through the float `int(math.sqrt(bound * len(all_points)))`,
which `ECWF.wk` asks to be `≥ 1`: with the real `math.sqrt`, every bound `≥ 1`.  No primality
hypothesis: `fieldPrimes`.) -/
theorem checkAllECFull_total (p : EcParams)
    (o : EcOracle) (sts : List EcState) (arts : List Artifact) (hwf : ECWF p o sts arts) :
    ∃ arts' r sts', checkAllECFull p o sts arts = .ok ((arts', r), sts') ∧
      StatesOK ecFactory sts' := by
  obtain ⟨rows, sts', hrows, hst'⟩ := ecRowsG_total_certified p o sts arts hwf
  obtain ⟨arts', r, h⟩ := checkAllECFull_of_rows hrows
  exact ⟨arts', r, sts', h, hst'⟩

/-- ★ `checkAllEC_dlogs_sound` (C02 end to end).  After `CheckAllEC` on FRESH keys — any batch:
other keys may be off their curve, unreduced, duplicates, on unknown curves; any bound, `max_diff`,
`_table` states and float-oracle values — for the key at position `n` on a known curve `c`:

* a `DISCRETE_LOG` attached to it is `format(v, "x")` for an integer `v` which, when the key is on
  the curve and `n • P = ∞`, satisfies `v • G = P`.  (`n • P = ∞` is a HYPOTHESIS: for the nine
  cofactor-1 curves it is what `IsValidPublicKey` gives only together with `#E(F_p) = n`, which is
  not proved.  For keys that have a private key, `P = d • G`, it is not needed:
  `checkAllEC_dlogs_sound_priv`, Props/C16EcAllCert.lean.);
* a `DISCRETE_LOG_DIFF` attached to it is the string `"key - (qx, qy) = d * G"` of a relation which,
  when all keys of the batch with the same curve id are on the curve, names ANOTHER key `Q` of the
  batch on the same curve with `P ≠ Q` and `P - Q = d • G`. -/
theorem checkAllEC_dlogs_sound (p : EcParams) (o : EcOracle) (sts : List EcState)
    (arts arts' : List Artifact) (r : Bool) (sts' : List EcState)
    (hfresh : ∀ a ∈ arts, a.info = TestInfo.empty)
    (h : checkAllECFull p o sts arts = .ok ((arts', r), sts'))
    (n : Nat) (a a' : Artifact) (ha : arts[n]? = some a) (ha' : arts'[n]? = some a')
    (c : Curve) (hc : factoryGet ecFactory a.curve = some c) :
    haveI : Fact (Nat.Prime c.p) := ⟨prime_of_get hc⟩
    (∀ x, getAttachedInfo a'.info infoNameDiscreteLog = some x →
      ∃ v : Int, x = .raw (Proto.hexInt v) ∧
        (onCurve c (keyOf a).pt = true → c.n • toPoint c (keyOf a).pt = 0 →
          v • Gp c = toPoint c (keyOf a).pt)) ∧
    (∀ x, getAttachedInfo a'.info infoNameDiscreteLogDiff = some x →
      ∃ rel : Rel, x = .raw (relString rel) ∧
        ((∀ b ∈ arts, b.curve = a.curve → onCurve c (keyOf b).pt = true) →
          ∃ (n' : Nat) (b : Artifact), n' ≠ n ∧ arts[n']? = some b ∧ b.curve = a.curve ∧
            onCurve c (.aff rel.qx rel.qy) = true ∧
            toPoint c (.aff rel.qx rel.qy) = toPoint c (keyOf b).pt ∧
            toPoint c (keyOf a).pt - toPoint c (keyOf b).pt = rel.dl • Gp c ∧
            toPoint c (keyOf a).pt ≠ toPoint c (keyOf b).pt)) := by
  have hpc : Nat.Prime c.p := prime_of_get hc
  haveI : Fact (Nat.Prime c.p) := ⟨hpc⟩
  obtain ⟨rows, hrows, hbk⟩ := checkAllECFull_ok h
  obtain ⟨row1, row3, row4, sts3, rfl, hv, hw, hd, _⟩ := ecRowsG_ok hrows
  have hkey := keys_getElem? ha
  -- which registered check attached the value, and the verdict it came with
  have origin : ∀ k x, getAttachedInfo a'.info k = some x → ∃ kv : KV,
      kv.info.map infoOf = some (k, x) ∧ (row3[n]? = some (some kv) ∨ row4[n]? = some (some kv)) := by
    intro k x hx
    obtain ⟨s, hs, _, _, _, hinfo⟩ := fresh_attached hbk
      (fun s hs i => by obtain ⟨j, c, _, rfl⟩ := mem_mkSteps hs; exact verdictAt_factors _ j i)
      ha ha' (hfresh a (List.mem_of_getElem? ha)) k x hx
    obtain ⟨j, cj, _, rfl⟩ := mem_mkSteps hs
    obtain ⟨kv, hkv, hj⟩ := verdictAt_info hv hinfo
    exact ⟨kv, hkv, hj.imp And.right And.right⟩
  -- a verdict of CheckWeakECPrivateKey carries no relation, one of CheckECKeySmallDifference no log
  have h3 := fun kv hkv => row3_sound fieldPrimes hw hkey (kv := kv) hkv hc
  have h4 := fun kv hkv => row4_sound fieldPrimes hd hkey (kv := kv) hkv hc
  constructor
  · intro x hx
    obtain ⟨kv, hinfo, hkv | hkv⟩ := origin _ x hx
    · obtain ⟨hcase, hsound⟩ := h3 kv hkv
      rcases hcase with rfl | ⟨v, rfl⟩
      · cases hinfo
      · simp only [Option.map_some, infoOf, Option.some.injEq, Prod.mk.injEq, true_and] at hinfo
        exact ⟨v, hinfo.symm, fun hon hN => hsound v rfl hpc hon hN⟩
    · rcases (h4 kv hkv).1 with rfl | ⟨rel, rfl⟩
      · cases hinfo
      · simp [infoOf, infoNameDiscreteLog, infoNameDiscreteLogDiff] at hinfo
  · intro x hx
    obtain ⟨kv, hinfo, hkv | hkv⟩ := origin _ x hx
    · rcases (h3 kv hkv).1 with rfl | ⟨v, rfl⟩
      · cases hinfo
      · simp [infoOf, infoNameDiscreteLog, infoNameDiscreteLogDiff] at hinfo
    · obtain ⟨hcase, hsound⟩ := h4 kv hkv
      rcases hcase with rfl | ⟨rel, rfl⟩
      · cases hinfo
      · simp only [Option.map_some, infoOf, Option.some.injEq, Prod.mk.injEq, true_and] at hinfo
        refine ⟨rel, hinfo.symm, fun hon => ?_⟩
        -- positions of the key batch are positions of the artefact batch
        have hart : ∀ {n' : Nat} {k' : ECKey}, (arts.map keyOf)[n']? = some k' →
            ∃ b, arts[n']? = some b ∧ keyOf b = k' := fun hk' => by
          rwa [List.getElem?_map, Option.map_eq_some_iff] at hk'
        obtain ⟨n', k', hne, hk', hid, q1, q2, q3, q4⟩ := hsound rel rfl hpc (fun n' k' hk' hid => by
          obtain ⟨b, hb, rfl⟩ := hart hk'
          exact hon b (List.mem_of_getElem? hb) hid)
        obtain ⟨b, hb, rfl⟩ := hart hk'
        exact ⟨n', b, hne, hb, hid, q1, q2, q3, q4⟩

/-- ★ entries for `CheckAllEC` (C16 end to end).  On FRESH keys (any batch, any oracle values):
the batch keeps its length and key material; every key carries EXACTLY one entry per registered
check that applies to it, in registry order — all four when its curve id is in `CURVE_FACTORY`,
CheckValidECKey alone otherwise (unknown and binary-field ids); the entry of check `j` is
`(check_name, verdict of the check model on that key, the check's documented severity)`; the weak
flag is set iff some entry is positive, the library version is recorded, and the call returns True
iff some key is weak afterwards. -/
theorem checkAllEC_entries (p : EcParams) (o : EcOracle) (sts : List EcState)
    (arts arts' : List Artifact) (r : Bool) (sts' : List EcState)
    (hfresh : ∀ a ∈ arts, a.info = TestInfo.empty)
    (h : checkAllECFull p o sts arts = .ok ((arts', r), sts')) :
    arts'.length = arts.length ∧ (r = true ↔ ∃ a' ∈ arts', a'.info.weak = true) ∧
    ∃ rows, ecRowsG listImpl p o sts arts = .ok (rows, sts') ∧
      ∀ (n : Nat) (a a' : Artifact), arts[n]? = some a → arts'[n]? = some a' →
        a'.curve = a.curve ∧ a'.point = a.point ∧
        a'.info.results.map (·.name) =
          (if (factoryGet ecFactory a.curve).isSome then ecAll.map (·.name)
           else ["CheckValidECKey"]) ∧
        (∀ (j : Nat) (c : CheckSpec), ecAll[j]? = some c →
          getTestResult a'.info c.name =
            if applicable c a then some ⟨c.name, (verdictAt rows j n).positive, c.severity⟩
            else none) ∧
        (a'.info.weak = true ↔ ∃ e ∈ a'.info.results, e.result = true) ∧
        a'.info.version = Consts.libVersion := by
  obtain ⟨rows, hrows, hbk⟩ := checkAllECFull_ok h
  obtain ⟨hall, hret⟩ := C16.checkAllEC_fresh .repaired _ _ _ _ _ hfresh hbk
  have hmono := C16.checkArtifacts_monotone .repaired _ _ _ _ _ _ hbk
  refine ⟨hmono.1, hret, rows, hrows, ?_⟩
  intro n a a' ha ha'
  obtain ⟨hnames, hweak, hver⟩ := hall n a a' ha ha'
  have hlater := hmono.2 n a a' ha ha'
  have hfr := hfresh a (List.mem_of_getElem? ha)
  refine ⟨hlater.key.1, hlater.key.2, ?_, ?_, hweak, hver⟩
  · rw [hnames, ecAll_eq]
    obtain ⟨q1, q2, q3, q4⟩ := applicable_ec a
    simp only [List.filter_cons, Bool.false_or, q1, q2, q3, q4, List.filter_nil]
    cases (factoryGet ecFactory a.curve).isSome <;> simp
  · intro j c hj
    rw [(registry_fresh C16.registry_names_nodup.2.1 hbk ha ha' hfr).2.2.2 j c hj,
      expectedEntry_generic _ _ _ _ _ _ _ (ecAll_noIssuer c (List.mem_of_getElem? hj))]
    have hu : c.unknownIfUnfactored = false := by
      have : ∀ c ∈ ecAll, c.unknownIfUnfactored = false := by decide +kernel
      exact this c (List.mem_of_getElem? hj)
    simp [entryFor, sevFor, hu]

/-! ## CheckAllECDSASigs -/

/-- ★ `checkAllECDSA_weak_only_with_key` (C02 end to end, nonce-check half).  `CheckAllECDSASigs` on
FRESH signatures, starting from valid curve objects (`C02S.FactoryOK`: `namedFactory_ok` for a fresh
process, `check_preserves` afterwards), for EVERY batch, every solver answer, every `set` order and
every float-oracle value: the signature at position `n`

* is weak afterwards only if some registered NONCE check `c` recorded a positive entry for it
  because one of the guesses `d` handed to `_IssuerDLogs` for its own curve group is a private key
  of ITS OWN issuer key tuple (`KeyOf`: the raw tuple lies on the curve and is `(d mod n) • G`) — or
  its CheckIssuerKey entry is positive (characterised by `checkAllECDSA_issuer_entry`);
* and whatever `DISCRETE_LOG` it carries afterwards is `format(d, "x")` of such a `d`. -/
theorem checkAllECDSA_weak_only_with_key (p : EcParams) (O : SigOracle) (st : SigState XTable)
    (sarts : List SigArt) (run : SigRun XTable)
    (hF : EcdsaChecks.FactoryOK st.factory) (hnd : (st.factory.map Prod.fst).Nodup)
    (hfresh : ∀ sa ∈ sarts, sa.info = TestInfo.empty)
    (h : checkAllECDSASigsFull p O st sarts = .ok run)
    (n : Nat) (sa : SigArt) (a' : Artifact) (hsa : sarts[n]? = some sa)
    (ha' : run.result.1[n]? = some a') :
    (a'.info.weak = true →
      (∃ (j : Nat) (c : CheckSpec) (d : Int) (obj : EcdsaChecks.CurveObj),
        ecdsaAll[j]? = some c ∧ c.issuer = false ∧
        getTestResult a'.info c.name = some ⟨c.name, true, c.severity⟩ ∧
        d ∈ (O.solver j sa.sig.curve).guessList ∧ (sa.sig.curve, some obj) ∈ st.factory ∧
        EcdsaChecks.KeyOf obj.curve sa.sig.key d) ∨
      (∃ e, getTestResult a'.info "CheckIssuerKey" = some e ∧ e.result = true)) ∧
    (∀ x, getAttachedInfo a'.info EcdsaChecks.infoNameDiscreteLog = some x →
      ∃ (d : Int) (obj : EcdsaChecks.CurveObj), x = .raw (EcdsaChecks.dlogHex d) ∧
        (sa.sig.curve, some obj) ∈ st.factory ∧ EcdsaChecks.KeyOf obj.curve sa.sig.key d) := by
  obtain ⟨hsteps, hbk⟩ := checkAllECDSASigsFull_ok h
  obtain ⟨hart, hsig⟩ := sigArts_getElem? hsa
  have hinv : SigInv st.factory st := ⟨hF, hnd, fun cid obj hm => ⟨obj, hm, rfl⟩⟩
  have hfr : sa.art.info = TestInfo.empty := hfresh sa (List.mem_of_getElem? hsa)
  have hndS := mkSteps_nodup ecdsaAll (sigVerdictAt run.outs) (sigInnerAt run.outs) ecdsaAll_nodup
  -- a positive verdict of a nonce check at position n comes with a key of the signature's issuer
  have key : ∀ (j : Nat) (c : CheckSpec), ecdsaAll[j]? = some c → c.issuer = false →
      (sigVerdictAt run.outs j n).positive = true →
      ∃ (d : Int) (obj : EcdsaChecks.CurveObj),
        sigVerdictAt run.outs j n = EcdsaChecks.posVerdict d ∧
        d ∈ (O.solver j sa.sig.curve).guessList ∧ (sa.sig.curve, some obj) ∈ st.factory ∧
        EcdsaChecks.KeyOf obj.curve sa.sig.key d := by
    intro j c hj hiss hpos
    obtain ⟨out, sti, sti', hout, hi, hstep⟩ := sig_step_at hinv hsteps j c hj
    rcases runSigStepG_cases hstep with ⟨hiss', _⟩ | ⟨_, _, k, res, _, hchk, rfl, _, _⟩
    · rw [hiss] at hiss'; cases hiss'
    · simp only [sigVerdictAt, hout] at hpos ⊢
      cases hv : EcdsaChecks.verdictOf res.writes n with
      | none => rw [hv] at hpos; cases hpos
      | some v =>
        rw [hv] at hpos
        simp only at hpos ⊢
        obtain ⟨s, obj, hs, hobj, hcase⟩ := C02S.weak_only_with_key k (O.solver j) sti.factory _ res
          hi.1 hi.2.1 hchk n v hv
        rw [hsig] at hs; cases hs
        rcases hcase with rfl | ⟨d, rfl, hd, hk⟩
        · cases hpos
        · obtain ⟨obj0, hobj0, hcur⟩ := hi.2.2 _ obj hobj
          exact ⟨d, obj0, rfl, hd, hobj0, by rw [← hcur]; exact hk⟩
  constructor
  · intro hweak
    obtain ⟨_, hw, _, hent⟩ := registry_fresh ecdsaAll_nodup hbk hart ha' hfr
    obtain ⟨e, he, hpos⟩ := hw.mp hweak
    obtain ⟨hres, _, _⟩ := C16.fresh_entries .repaired _ _ _ _ _ _ hndS hbk n sa.art a' hart ha' hfr
    rw [hres, List.mem_filterMap] at he
    obtain ⟨s, hs, hes⟩ := he
    obtain ⟨j, c, hj, rfl⟩ := mem_mkSteps hs
    have hget := hent j c hj
    cases hiss : c.issuer with
    | true =>
      right
      obtain ⟨_, hname⟩ := ecdsaAll_flags c (List.mem_of_getElem? hj)
      refine ⟨e, ?_, hpos⟩
      rw [← (hname hiss).1]
      rw [hes] at hget
      exact hget
    | false =>
      left
      rw [expectedEntry_generic _ _ _ _ _ _ _ hiss] at hes hget
      split at hes
      · simp only [Option.some.injEq] at hes
        subst hes
        obtain ⟨d, obj, hv, hd, hobj, hk⟩ := key j c hj hiss hpos
        refine ⟨j, c, d, obj, hj, hiss, ?_, hd, hobj, hk⟩
        rw [hget, if_pos ‹_›]
        simp only [entryFor, sevFor, (ecdsaAll_flags c (List.mem_of_getElem? hj)).1, hv,
          EcdsaChecks.posVerdict, Bool.false_and, Bool.false_eq_true, if_false]
      · cases hes
  · intro x hx
    obtain ⟨s, hs, hiss, _, hpos, hinfo⟩ := fresh_attached hbk
      (fun s hs i => by
        obtain ⟨j, c, _, rfl⟩ := mem_mkSteps hs
        exact sigVerdictAt_factors hinv hsteps j i) hart ha' hfr _ x hx
    obtain ⟨j, c, hj, rfl⟩ := mem_mkSteps hs
    obtain ⟨d, obj, hv, hd, hobj, hk⟩ := key j c hj hiss hpos
    simp only at hinfo
    rw [hv] at hinfo
    simp only [EcdsaChecks.posVerdict, Option.some.injEq, Prod.mk.injEq, true_and] at hinfo
    exact ⟨d, obj, hinfo.symm, hobj, hk⟩

/-- ★ `checkAllECDSA_issuer_entry` (C02 / C16 end to end, CheckIssuerKey half;
`C16.issuer_verdict` with the REAL inner model).  `CheckAllECDSASigs` on FRESH signatures, any batch
and oracle values.  There is a state `tables` of the curve objects (the one the registered checks
before CheckIssuerKey left behind) such that, for `keys'` = the batch after the END-TO-END model
`checkAllECFull` of `paranoid.CheckAllEC` ran on `pks_pb` = fresh `ECKey`s of the distinct
(curve id, x, y) issuer keys of the batch from that state:
the signature at position `n` has its own issuer key at some position `k` of `pks_pb`, and its
CheckIssuerKey entry is positive IFF `CheckAllEC` marked that key weak; the entry then carries the
HIGHEST severity among the key's failed EC checks, and `SEVERITY_UNKNOWN` (0) otherwise. -/
theorem checkAllECDSA_issuer_entry (p : EcParams) (O : SigOracle) (st : SigState XTable)
    (sarts : List SigArt) (run : SigRun XTable)
    (hfresh : ∀ sa ∈ sarts, sa.info = TestInfo.empty)
    (h : checkAllECDSASigsFull p O st sarts = .ok run)
    (n : Nat) (sa : SigArt) (a' : Artifact) (hsa : sarts[n]? = some sa)
    (ha' : run.result.1[n]? = some a') :
    ∃ (j : Nat) (tables tables' : List EcState) (keys' : List Artifact) (rk : Bool) (k : Nat)
      (key' : Artifact) (e : Entry),
      (ecdsaAll[j]?).map (·.name) = some "CheckIssuerKey" ∧
      checkAllECFull p (O.floats j) tables (issuerKeys .repaired (sarts.map SigArt.art)) =
        .ok ((keys', rk), tables') ∧
      (issuerKeys .repaired (sarts.map SigArt.art))[k]? = some (freshKey sa.art) ∧
      keys'[k]? = some key' ∧
      getTestResult a'.info "CheckIssuerKey" = some e ∧
      (e.result = true ↔ key'.info.weak = true) ∧
      (key'.info.weak = true →
        (∃ e0 ∈ key'.info.results, e0.result = true ∧ e0.severity = e.severity) ∧
        ∀ e0 ∈ key'.info.results, e0.result = true → e0.severity ≤ e.severity) ∧
      (key'.info.weak = false → e.severity = Consts.severityUnknown) := by
  obtain ⟨hsteps, hbk⟩ := checkAllECDSASigsFull_ok h
  obtain ⟨hart, _⟩ := sigArts_getElem? hsa
  have hfr : sa.art.info = TestInfo.empty := hfresh sa (List.mem_of_getElem? hsa)
  have hj : ecdsaAll[6]? = some ⟨"CheckIssuerKey", 0, false, false, true⟩ := by
    rw [ecdsaAll_eq]; rfl
  -- the CheckIssuerKey step of the run
  obtain ⟨_, hf⟩ := sigStepsG_spec (fun _ => True) (fun _ _ _ _ _ _ _ => trivial) _ st run.outs
    run.state trivial hsteps
  obtain ⟨out, hout, sti, sti', _, hstep⟩ := forall₂_idx hf 6 _ (zipIdx_getElem? _ 6 _ hj)
  rcases runSigStepG_cases hstep with ⟨_, _, _, rows, rfl, hrows⟩ | ⟨hiss, _⟩
  swap
  · cases hiss
  have hinner : sigInnerAt run.outs 6 = verdictAt rows := by
    funext jj k; simp only [sigInnerAt, hout]
  -- its entry on the signature
  have hs := mkSteps_mem (O := sigVerdictAt run.outs) (I := sigInnerAt run.outs) hj
  have hget := (registry_fresh ecdsaAll_nodup hbk hart ha' hfr).2.2.2 6 _ hj
  obtain ⟨_, _, hgood⟩ := checkArtifacts_spec hbk
  obtain ⟨keys', r', hin, hok⟩ := hgood _ hs rfl
  rw [issuerKeys_statics] at hin
  simp only [hinner] at hin
  obtain ⟨k, key0, key', hk, hk', hid, ⟨b, hb, hkb⟩, hact, hfind⟩ :=
    issuer_key_exists hin sa.art (List.mem_of_getElem? hart)
  obtain ⟨en, hen⟩ := hok key' (List.mem_of_getElem? hk')
  have hexp : expectedEntry .repaired Consts.libVersion ecAll
      ⟨⟨"CheckIssuerKey", 0, false, false, true⟩, sigVerdictAt run.outs 6, sigInnerAt run.outs 6⟩
      (statics (sarts.map SigArt.art)) n sa.art = some en := by
    simp [expectedEntry, issuerKeys_statics, hinner, hin, hfind, hen]
  rw [hexp] at hget
  have hkey : key0 = freshKey sa.art := by
    rw [hkb]
    have : keyId .repaired b = keyId .repaired sa.art := by
      rw [← keyId_freshKey .repaired b, ← hkb]; exact hid
    simp only [keyId, Prod.mk.injEq] at this
    simp only [freshKey, Artifact.mk.injEq, true_and]
    exact ⟨this.1, Prod.ext this.2.1 this.2.2⟩
  obtain ⟨_, e2, e3, e4⟩ := issuerEntry_spec hen
  have hfull : checkAllECFull p (O.floats 6) sti.tables (issuerKeys .repaired (sarts.map SigArt.art)) =
      .ok ((keys', r'), sti'.tables) := by
    apply checkAllECFull_of hrows
    rw [← innerCheckAllEC_eq (verdictAt rows) noInner]
    exact hin
  refine ⟨6, sti.tables, sti'.tables, keys', r', k, key', en, by rw [hj]; rfl, hfull,
    by rw [← hkey]; exact hk, hk', hget, by rw [e2], ?_, ?_⟩
  · intro hw
    exact C16.highest_severity_spec key'.info |>.2 en.severity (e4 hw)
  · intro hw
    exact e3 hw

/-- ★ the two halves together (C02 end to end): after `CheckAllECDSASigs` on FRESH signatures from
valid curve objects, a signature is weak ONLY IF a nonce check recorded a verifiable private key of
its own issuer key, OR the end-to-end `CheckAllEC` model, run on the distinct issuer keys of the
batch, marks its issuer key weak. -/
theorem checkAllECDSA_weak_only_with_key_or_weak_issuer (p : EcParams) (O : SigOracle)
    (st : SigState XTable) (sarts : List SigArt) (run : SigRun XTable)
    (hF : EcdsaChecks.FactoryOK st.factory) (hnd : (st.factory.map Prod.fst).Nodup)
    (hfresh : ∀ sa ∈ sarts, sa.info = TestInfo.empty)
    (h : checkAllECDSASigsFull p O st sarts = .ok run)
    (n : Nat) (sa : SigArt) (a' : Artifact) (hsa : sarts[n]? = some sa)
    (ha' : run.result.1[n]? = some a') (hweak : a'.info.weak = true) :
    (∃ (j : Nat) (c : CheckSpec) (d : Int) (obj : EcdsaChecks.CurveObj),
      ecdsaAll[j]? = some c ∧ c.issuer = false ∧
      getTestResult a'.info c.name = some ⟨c.name, true, c.severity⟩ ∧
      d ∈ (O.solver j sa.sig.curve).guessList ∧ (sa.sig.curve, some obj) ∈ st.factory ∧
      EcdsaChecks.KeyOf obj.curve sa.sig.key d) ∨
    (∃ (j : Nat) (tables tables' : List EcState) (keys' : List Artifact) (rk : Bool) (k : Nat)
      (key' : Artifact),
      checkAllECFull p (O.floats j) tables (issuerKeys .repaired (sarts.map SigArt.art)) =
        .ok ((keys', rk), tables') ∧
      (issuerKeys .repaired (sarts.map SigArt.art))[k]? = some (freshKey sa.art) ∧
      keys'[k]? = some key' ∧ key'.info.weak = true) := by
  rcases (checkAllECDSA_weak_only_with_key p O st sarts run hF hnd hfresh h n sa a' hsa ha').1 hweak
    with h1 | ⟨e, he, hpos⟩
  · exact .inl h1
  · obtain ⟨j, tables, tables', keys', rk, k, key', e', _, hfull, hk, hk', he', hiff, _⟩ :=
      checkAllECDSA_issuer_entry p O st sarts run hfresh h n sa a' hsa ha'
    rw [he] at he'
    cases he'
    exact .inr ⟨j, tables, tables', keys', rk, k, key', hfull, hk, hk', hiff.mp hpos⟩

/-- ★ entries for `CheckAllECDSASigs` (C16 end to end).  On FRESH signatures: the batch keeps its
length; every signature carries EXACTLY one entry per registered check that applies to it, in
registry order — all eight when its issuer curve id is in `CURVE_FACTORY`, CheckIssuerKey alone
otherwise; the entry of a nonce check is `(check_name, verdict of the check model, documented
severity)` (the CheckIssuerKey entry: `checkAllECDSA_issuer_entry`); weak iff some entry is
positive; version recorded; the call returns True iff some signature is weak afterwards. -/
theorem checkAllECDSA_entries (p : EcParams) (O : SigOracle) (st : SigState XTable)
    (sarts : List SigArt) (run : SigRun XTable)
    (hfresh : ∀ sa ∈ sarts, sa.info = TestInfo.empty)
    (h : checkAllECDSASigsFull p O st sarts = .ok run) :
    run.result.1.length = sarts.length ∧
    (run.result.2 = true ↔ ∃ a' ∈ run.result.1, a'.info.weak = true) ∧
    ∀ (n : Nat) (sa : SigArt) (a' : Artifact), sarts[n]? = some sa → run.result.1[n]? = some a' →
      a'.info.results.map (·.name) =
        (if (factoryGet ecFactory sa.sig.curve).isSome then ecdsaAll.map (·.name)
         else ["CheckIssuerKey"]) ∧
      (∀ (j : Nat) (c : CheckSpec), ecdsaAll[j]? = some c → c.issuer = false →
        getTestResult a'.info c.name =
          if applicable c sa.art then some ⟨c.name, (sigVerdictAt run.outs j n).positive, c.severity⟩
          else none) ∧
      (a'.info.weak = true ↔ ∃ e ∈ a'.info.results, e.result = true) ∧
      a'.info.version = Consts.libVersion := by
  obtain ⟨_, hbk⟩ := checkAllECDSASigsFull_ok h
  obtain ⟨hall, hret⟩ := C16.checkAllECDSASigs_fresh .repaired _ _ _ _ _ (sigArts_fresh hfresh) hbk
  have hmono := C16.checkArtifacts_monotone .repaired _ _ _ _ _ _ hbk
  refine ⟨by rw [hmono.1, List.length_map], hret, ?_⟩
  intro n sa a' hsa ha'
  obtain ⟨hart, _⟩ := sigArts_getElem? hsa
  obtain ⟨hnames, hweak, hver⟩ := hall n sa.art a' hart ha'
  have hfr := hfresh sa (List.mem_of_getElem? hsa)
  refine ⟨?_, ?_, hweak, hver⟩
  · rw [hnames, ecdsaAll_eq]
    have hk : known sa.art = (factoryGet ecFactory sa.sig.curve).isSome := known_keyOf sa.art
    simp only [List.filter_cons, applicable, Bool.not_true, Bool.not_false, Bool.false_or,
      Bool.true_or, Bool.or_true, hk, List.filter_nil]
    cases (factoryGet ecFactory sa.sig.curve).isSome <;> simp
  · intro j c hj hiss
    rw [(registry_fresh ecdsaAll_nodup hbk hart ha' hfr).2.2.2 j c hj,
      expectedEntry_generic _ _ _ _ _ _ _ hiss]
    simp [entryFor, sevFor, (ecdsaAll_flags c (List.mem_of_getElem? hj)).1]

/-- ★ totality of `CheckAllECDSASigs` (C18 end to end).  On a well-formed call (`SigWF`: valid
curve objects that are those of `CURVE_FACTORY` up to `_cache`, reachable `_table` states,
`list(set)` oracles that are enumerations, `s` invertible modulo the curve order for signatures
with a known curve, well-formed inner `CheckAllEC` call on the distinct issuer keys) with ANY
value of the literal `2**32`: all eight registered checks return — for ANY solver ANSWERS (the solvers are
answer oracles of this model: an exception raised inside a solver, e.g. `Cr50U2fGuesses` for `r ≡ 0 (mod n)`,
is not modelled here; `C18Ec.checkAllECDSASigs_solver_total` composes the solver models under
`r, s ∈ [1, n-1]` and drops the valid-issuer-key clause of `SigWF`), any hash length,
batch size, duplicates and unknown curve ids — the check models and the bookkeeping layer agree
about which signatures get an entry, the bookkeeping layer does not raise (whatever `test_info` the
signatures already carry), and the curve objects are left in a state from which the next call is
covered again. -/
theorem checkAllECDSASigsFull_total (p : EcParams)
    (O : SigOracle) (st : SigState XTable) (sarts : List SigArt) (hwf : SigWF p O st sarts) :
    ∃ run, checkAllECDSASigsFull p O st sarts = .ok run ∧ TotInv run.state := by
  obtain ⟨outs, st', hsteps, hi'⟩ := sigStepsG_total_certified hwf ecdsaAll.zipIdx
    (fun _ => List.mem_zipIdx_iff_getElem?.1) st ⟨hwf.factory, hwf.curves, hwf.tables⟩
  obtain ⟨r, h⟩ := checkAllECDSASigsFull_of_steps hwf.factory hwf.curves hsteps
  exact ⟨_, h, hi'⟩

/-! ## The native driver runs the same functions -/

/-- The correspondence harness talks to a driver that keeps every `_table` in a `Std.HashMap`
(rebuilt from the state token `size:m`, `C10.driver_token_state`).  From states that answer every
lookup alike (`SimSts`), both instances of the composed entry-point models end with the same error,
or with the same annotated batch and return value (for `CheckAllECDSASigs` also the same per-check
verdicts, solver calls and inner rows) and again related states. -/
theorem driver_model_agree (p : EcParams) :
    (∀ (o : EcOracle) (arts : List Artifact) (ss : List (StateG XTable)) (ts : List (StateG HTable)),
      SimSts ss ts →
      RowsSim (checkAllECFullG listImpl p o ss arts) (checkAllECFullG hashImpl p o ts arts)) ∧
    (∀ (O : SigOracle) (sarts : List SigArt) (a : SigState XTable) (b : SigState HTable),
      SimSig a b →
      RelErr (fun (x : SigRun XTable) (y : SigRun HTable) =>
          x.result = y.result ∧ x.outs = y.outs ∧ SimSig x.state y.state)
        (checkAllECDSASigsFullG listImpl p O a sarts) (checkAllECDSASigsFullG hashImpl p O b sarts)) :=
  ⟨fun o arts _ _ h => checkAllECFullG_sim p o arts h,
   fun O sarts _ _ h => checkAllECDSASigsFullG_sim p O sarts h⟩

/-! ## Non-vacuity: the hypotheses are met by concrete non-trivial inputs -/

/-- the curve objects of a fresh process. -/
def freshTables : List EcState := ecFactory.map fun _ => StateG.init listImpl

/-- float oracles `(ts, m) = (3, 1)` / `m = 4096` for every curve object. -/
def someFloats : EcOracle := ⟨ecFactory.map fun _ => (3, 1), ecFactory.map fun _ => 4096⟩

/-- the generators of secp256r1 (id 2) and secp192r1 (id 1) as public keys, a key with the unknown
curve id 0 and one with the binary-field id 7 (`None` entry of `CURVE_FACTORY`). -/
def sampleKeys : List Artifact :=
  [⟨TestInfo.empty, 2, (secp256r1.gx.toNat, secp256r1.gy.toNat)⟩,
   ⟨TestInfo.empty, 1, (secp192r1.gx.toNat, secp192r1.gy.toNat)⟩,
   ⟨TestInfo.empty, 0, (1, 2)⟩, ⟨TestInfo.empty, 7, (5, 7)⟩]

/-- `ECWF` is satisfiable with the REAL parameters (`2**32`, `2**24`), fresh curve objects and a
batch mixing two known curves, an unknown id and a binary-field id — so `checkAllECFull_total`
applies to it, and its conclusion provides the hypothesis `… = .ok …` of `checkAllEC_dlogs_sound`
and `checkAllEC_entries` on a batch of fresh keys. -/
example : ECWF EcParams.real someFloats freshTables sampleKeys :=
  ecwf_const 3 1 4096 (by decide) (by decide) (by decide) (statesOK_init _) (by decide +kernel)

/-- a kernel-evaluated run of the composed model (bound 1 and `max_diff = 4` instead of `2**32` /
`2**24` so that the kernel can evaluate it): the key `3·G` on secp192r1 and a key with the unknown
curve id 0.  The first gets all four entries, is flagged by CheckWeakCurve and by
CheckWeakECPrivateKey with `DISCRETE_LOG = "3"`; the second gets the CheckValidECKey entry only. -/
example : (checkAllECFull ⟨1, 4⟩ ⟨ecFactory.map fun _ => (5, 2), ecFactory.map fun _ => 2⟩ freshTables
      [⟨TestInfo.empty, 1, (2915109630280678890720206779706963455590627465886103135194,
          2946626711558792003980654088990112021985937607003425539581)⟩,
       ⟨TestInfo.empty, 0, (1, 2)⟩]).toOption.map (fun r => (r.1.1.map (·.info), r.1.2)) =
    some ([⟨true, [⟨"CheckValidECKey", false, 2⟩, ⟨"CheckWeakCurve", true, 2⟩,
                   ⟨"CheckWeakECPrivateKey", true, 4⟩, ⟨"CheckECKeySmallDifference", false, 3⟩],
             [("DISCRETE_LOG", .raw "3")], "1.1.1"⟩,
           ⟨true, [⟨"CheckValidECKey", true, 2⟩], [], "1.1.1"⟩], true) := by
  -- evaluated with the ladder of Proofs/EcNat.lean: the 26 `Multiply(key, inverse)` calls of
  -- ExtendedBatchDL are nearly all of the work, and the model's integer ladder is slow in the kernel
  rw [checkAllECFull, checkAllECFullG, ecRowsG_eq_fast]
  decide +kernel

/-- a registry name without a model is an error, not a pass. -/
example : (runEcCheckG listImpl EcParams.real someFloats [] "CheckSomethingNew" freshTables).toOption.isNone
    ∧ runEcCheckG listImpl EcParams.real someFloats [] "CheckSomethingNew" freshTables =
      .error (.noModel "CheckSomethingNew") := by
  constructor <;> rfl

/-- an oracle that answers nothing (every solver returns no guess). -/
def silentOracle : SigOracle :=
  ⟨fun _ _ => ⟨fun _ => [], fun _ _ => [], []⟩, fun _ => someFloats⟩

/-- a kernel-evaluated run of the composed signature model: two signatures whose issuer curve ids
are unknown (0) / binary-field (7).  No nonce check writes an entry; CheckIssuerKey runs the whole
`CheckAllEC` model on the two distinct issuer keys, CheckValidECKey flags both (SEVERITY_MEDIUM = 2)
and that severity is copied to the signatures. -/
example : (checkAllECDSASigsFull EcParams.real silentOracle (SigState.fresh listImpl)
      [⟨TestInfo.empty, ⟨0, [1], [2], [3], [4], [5]⟩⟩,
       ⟨TestInfo.empty, ⟨7, [1], [2], [3], [4], [5]⟩⟩]).toOption.map
        (fun run => (run.result.1.map (·.info), run.result.2)) =
    some ([⟨true, [⟨"CheckIssuerKey", true, 2⟩], [], "1.1.1"⟩,
           ⟨true, [⟨"CheckIssuerKey", true, 2⟩], [], "1.1.1"⟩], true) := by
  decide +kernel

end Paranoid.EcAll
