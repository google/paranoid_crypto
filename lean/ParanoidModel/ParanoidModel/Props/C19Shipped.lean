/-
Props/C19Shipped.lean — C19, statements about the functions /repo SHIPS at HEAD.

/repo HEAD contains the repairs of D7 (275bdf4, `echelon_form`), D16 (cdbbb74, `DivmodRounded`)
and D9 (02ff5e0, small-root guards).  The models of the shipped functions are the `…R` /
`.repaired` definitions (`divmodRoundedR`, `guardUniR`, `uniTailR`, `guardMultiR`,
`solveRightX .repaired`); the correspondence run of C19 evaluates exactly these
(`evidence/C19.json`: `divmodrounded_variant = repaired`, `small_roots_guard_variant = repaired`,
`d7_patch_status`).  The theorems of Props/C19.lean about `divmodRounded`, `guardUni`, `uniTail`,
`guardMulti`, `solveRight .pinned` describe the pre-fix functions.

This file gives their counterparts for the shipped `DivmodRounded` and small-root guards (shipped
`solve_right`: Props/C19.lean (c)), plus the `n = 0` / `n < 0` behaviour of PseudoAverage and Bias
that the `0 < n` theorems of Props/C19.lean leave out.
-/
import ParanoidModel.Proofs.NTheory
import ParanoidModel.Proofs.Lattice
namespace Paranoid.C19Shipped
open Paranoid Paranoid.NT Paranoid.Lat

/-! ## ntheory_util.DivmodRounded as shipped (`d = b // 2 if b > 0 else (b + 1) // 2`)

Real code at the boundary (run against /repo HEAD through harness/shims.py):
`DivmodRounded(7, 0)`, `DivmodRounded(0, 0)` and the same with `gmpy2.mpz` arguments raise
`ZeroDivisionError` (from `divmod(a + d, b)`; `d = (0 + 1) // 2 = 0` is computed first and
cannot raise); `DivmodRounded(1, 3) = (0, 1)`, `(3, 2) → (2, -1)`, `(-3, 2) → (-1, -1)`,
`(3, -2) → (-1, 1)`, `(5, 1) → (5, 0)`, `(5, -1) → (-5, 0)`.  Nothing else can raise for `int`
/ `mpz` arguments: the function is total on `b ≠ 0`. -/

/-- zero divisor: `ZeroDivisionError`, for every dividend. -/
theorem divmodRounded_zero (a : Int) : divmodRoundedR a 0 = .error .zeroDivision := by
  simp [divmodRoundedR]

/-- totality: every non-zero divisor (positive or negative, odd or even) gives a pair. -/
theorem divmodRounded_total (a b : Int) (hb : b ≠ 0) :
    ∃ q r, divmodRoundedR a b = .ok (q, r) :=
  ⟨_, _, divmodRoundedR_ok a b hb⟩

/-- the function raises exactly for `b = 0`, and the only exception is `ZeroDivisionError`. -/
theorem divmodRounded_error_iff (a b : Int) (e : PyErr) :
    divmodRoundedR a b = .error e ↔ b = 0 ∧ e = .zeroDivision := by
  constructor
  · intro h
    by_cases hb : b = 0
    · subst hb
      rw [divmodRounded_zero] at h
      exact ⟨rfl, by cases h; rfl⟩
    · rw [divmodRoundedR_ok a b hb] at h; cases h
  · rintro ⟨rfl, rfl⟩; exact divmodRounded_zero a

theorem divmodRounded_identity (a b q r : Int) (h : divmodRoundedR a b = .ok (q, r)) :
    b ≠ 0 ∧ r = a - q * b := by
  obtain ⟨hb, he, _⟩ := divmodRoundedR_spec a b q r h
  exact ⟨hb, by omega⟩

/-- exact remainder range for `b > 0`, odd or even: `−b ≤ 2r < b` (a tie `2r = −b`, possible for
even `b` only, is resolved to the LARGER quotient). -/
theorem divmodRounded_range_pos (a b q r : Int) (hb : 0 < b)
    (h : divmodRoundedR a b = .ok (q, r)) : -b ≤ 2 * r ∧ 2 * r < b :=
  divmodRoundedR_range_pos a b q r hb h

/-- exact remainder range for `b < 0` (Python floor `divmod`): `b < 2r ≤ −b` (the tie `2r = −b`
again belongs to the larger quotient). -/
theorem divmodRounded_range_neg (a b q r : Int) (hb : b < 0)
    (h : divmodRoundedR a b = .ok (q, r)) : b < 2 * r ∧ 2 * r ≤ -b :=
  divmodRoundedR_range_neg a b q r hb h

/-- the docstring's `abs(2*r) <= abs(b)`. -/
theorem divmodRounded_abs (a b q r : Int) (h : divmodRoundedR a b = .ok (q, r)) :
    2 * |r| ≤ |b| :=
  (divmodRoundedR_spec a b q r h).2.2

/-- the docstring's "q is an integer closest to a/b": no multiple of `b` is closer to `a`. -/
theorem divmodRounded_nearest (a b q r : Int) (h : divmodRoundedR a b = .ok (q, r)) :
    IsNearest a b q :=
  divmodRoundedR_nearest a b q r h

/-- the docstring's "ties are rounded towards +infinity", exactly: every integer `z` that is at
least as close to `a/b` as `q` satisfies `z ≤ q` (so `q` is the largest nearest integer). -/
theorem divmodRounded_ties_up (a b q r : Int) (h : divmodRoundedR a b = .ok (q, r)) (z : Int)
    (hz : |a - z * b| ≤ |a - q * b|) : z ≤ q := by
  obtain ⟨hb, he, _⟩ := divmodRoundedR_spec a b q r h
  rw [show a - q * b = r by omega, show a - z * b = r + (q - z) * b by rw [← he]; ring] at hz
  by_contra hlt
  -- one step further the distance `|r − k·b|`, `k ≥ 1`, exceeds `|r|` by the half-open range of `r`
  rcases lt_or_gt_of_ne hb with hneg | hpos
  · have hr := divmodRoundedR_range_neg a b q r hneg h
    have hm := mul_le_mul_of_nonpos_right (show q - z ≤ -1 by omega) hneg.le
    have h1 : r - b ≤ |r| := le_trans (by omega) ((le_abs_self _).trans hz)
    have h2 : |r| < r - b := abs_lt.mpr ⟨by omega, by omega⟩
    omega
  · have hr := divmodRoundedR_range_pos a b q r hpos h
    have hm := mul_le_mul_of_nonneg_right (show q - z ≤ -1 by omega) hpos.le
    have h1 : b - r ≤ |r| := le_trans (by omega) ((neg_le_abs _).trans hz)
    have h2 : |r| < b - r := abs_lt.mpr ⟨by omega, by omega⟩
    omega

/-- closed form, every non-zero divisor of either sign: `q = ⌊a/b + 1/2⌋ = (2a + b) // (2b)`
(round half up — NOT Python's `round`, which rounds half to even). -/
theorem divmodRounded_half_up (a b q r : Int) (h : divmodRoundedR a b = .ok (q, r)) :
    q = Int.fdiv (2 * a + b) (2 * b) :=
  divmodRoundedR_half_up a b q r h

/-- FULL SPECIFICATION (characterisation): for `b ≠ 0`, `(q, r)` is the result iff
`q·b + r = a` and `r` lies in the half-open range of the sign of `b`. -/
theorem divmodRounded_spec (a b q r : Int) (hb : b ≠ 0) :
    divmodRoundedR a b = .ok (q, r) ↔
      q * b + r = a ∧ (0 < b → -b ≤ 2 * r ∧ 2 * r < b) ∧ (b < 0 → b < 2 * r ∧ 2 * r ≤ -b) := by
  constructor
  · intro h
    exact ⟨(divmodRoundedR_spec a b q r h).2.1, fun hp => divmodRoundedR_range_pos a b q r hp h,
      fun hn => divmodRoundedR_range_neg a b q r hn h⟩
  · rintro ⟨he, hp, hn⟩
    obtain ⟨q', r', h'⟩ := divmodRounded_total a b hb
    have he' := (divmodRoundedR_spec a b q' r' h').2.1
    obtain ⟨rfl, rfl⟩ := quot_unique_of_range a b q r q' r' hb he he'
      (fun hpos => ⟨hp hpos, divmodRoundedR_range_pos a b q' r' hpos h'⟩)
      (fun hneg => ⟨hn hneg, divmodRoundedR_range_neg a b q' r' hneg h'⟩)
    exact h'

/-- exact division: `b ∣ a` gives remainder 0. -/
theorem divmodRounded_exact (k b : Int) (hb : b ≠ 0) : divmodRoundedR (k * b) b = .ok (k, 0) := by
  rw [divmodRounded_spec _ _ _ _ hb]
  refine ⟨by ring, fun h => by omega, fun h => by omega⟩

/-- the callers' case, including `x = 2^0 = 1`: `CheckContinuedFraction` passes
`x = 2^(bitlen(n)//2)`; for every power of two the result exists, satisfies the identity, the
symmetric range `−x ≤ 2r < x`, is a nearest integer, and is `⌊(2a + x) / 2x⌋`. -/
theorem divmodRounded_pow2 (a : Int) (j : Nat) :
    ∃ q r, divmodRoundedR a (2 ^ j) = .ok (q, r) ∧ q * 2 ^ j + r = a ∧
      -(2 : Int) ^ j ≤ 2 * r ∧ 2 * r < 2 ^ j ∧ IsNearest a (2 ^ j) q ∧
      q = Int.fdiv (2 * a + 2 ^ j) (2 * 2 ^ j) :=
  divmodRoundedR_pow2 a j

/-- divisor 1 (the callers' `x` for `n < 2`): `(a, 0)`; the pre-fix function returns
`(a + 1, -1)` (`C19.divmodRounded_by_one`). -/
theorem divmodRounded_by_one (a : Int) : divmodRoundedR a 1 = .ok (a, 0) := by
  have := divmodRounded_exact a 1 (by decide)
  simpa using this

/-- the two consecutive calls of `rsa_util.CheckContinuedFraction`
(`r, c = DivmodRounded(n*v, x); a, b = DivmodRounded(r, x)`) with `x` a power of two: both
succeed and write `N = a·x² + b·x + c` with balanced digits `−x ≤ 2b < x`, `−x ≤ 2c < x`. -/
theorem divmodRounded_caller_digits (N : Int) (j : Nat) :
    ∃ r c a b, divmodRoundedR N (2 ^ j) = .ok (r, c) ∧ divmodRoundedR r (2 ^ j) = .ok (a, b) ∧
      N = a * (2 ^ j) ^ 2 + b * 2 ^ j + c ∧
      -(2 : Int) ^ j ≤ 2 * b ∧ 2 * b < 2 ^ j ∧ -(2 : Int) ^ j ≤ 2 * c ∧ 2 * c < 2 ^ j := by
  obtain ⟨r, c, h1, e1, c1, c2, -, -⟩ := divmodRounded_pow2 N j
  obtain ⟨a, b, h2, e2, b1, b2, -, -⟩ := divmodRounded_pow2 r j
  refine ⟨r, c, a, b, h1, h2, ?_, b1, b2, c1, c2⟩
  rw [← e1, ← e2]; ring

/-- the shipped function differs from the pre-fix one only for odd `b > 0`. -/
theorem divmodRounded_eq_prefix (a b : Int) (hb : b % 2 = 0 ∨ b < 0) :
    divmodRoundedR a b = divmodRounded a b :=
  divmodRoundedR_eq_pinned a b hb

/-- … and for odd `b > 0` it does differ, for one residue class of the dividend (the pre-fix
pair has `2r ∈ [−(b+1), b−1)`); e.g. `(1, 3)`: shipped `(0, 1)`, pre-fix `(1, −2)`. -/
theorem divmodRounded_ne_prefix_witness :
    divmodRoundedR 1 3 = .ok (0, 1) ∧ divmodRounded 1 3 = .ok (1, -2) := by decide +kernel

/-! ## small_roots guards as shipped (`abs(y) > 1 and n % y == 0`)

`C19.uni_tail_repaired_true_root` / `C19.guard_multi_repaired_true_root` give the "true root"
conclusion; the following are the shipped counterparts of `C19.guard_uni_sound`,
`C19.uni_tail_sound`, `C19.guard_multi_sound`, `C19.guard_uni_accepts_unit` (pre-fix guard). -/

/-- what the shipped guard of `univariate_modp` guarantees: the returned value is the candidate
and `y ≡ f(rx) (mod n)` is a divisor of `n` with `|y| > 1`; `gcd(f(rx), n) = |y|`. -/
theorem guard_uni_sound (coeffs : List Int) (n rx r : Int) (h : guardUniR coeffs n rx = some r) :
    r = rx ∧ ∃ y : Int, 1 < y.natAbs ∧ y ∣ n ∧ n ∣ polyEval coeffs r - y ∧
      Int.gcd (polyEval coeffs r) n = y.natAbs := by
  obtain ⟨hg, hr⟩ := Option.ite_none_right_eq_some.1 h
  cases hr
  obtain ⟨hy1, hyn⟩ := (guardAcceptR_iff _ _).mp hg
  exact ⟨rfl, _, hy1, hyn, symMod_congr _ _, gcd_of_congr_dvd _ _ _ (symMod_congr _ _) hyn⟩

/-- the shipped candidate loop, for EVERY candidate list (every LLL / factorisation answer): a
returned value is one of the candidates and passed the guard; `None` ↔ every candidate was
rejected. -/
theorem uni_tail_sound (coeffs : List Int) (n : Int) (cands : List Int) :
    (∀ r, uniTailR coeffs n cands = some r → r ∈ cands ∧ guardUniR coeffs n r = some r) ∧
    (uniTailR coeffs n cands = none ↔ ∀ c ∈ cands, guardUniR coeffs n c = none) := by
  unfold uniTailR
  constructor
  · intro r h
    obtain ⟨c, hc, hg⟩ := List.exists_of_findSome?_eq_some h
    have := (guard_uni_sound coeffs n c r hg).1
    subst this
    exact ⟨hc, hg⟩
  · exact List.findSome?_eq_none_iff

/-- D9: a candidate with `f(r) ≡ 0, 1, −1 (mod n)` is rejected. -/
theorem guard_uni_rejects_unit (coeffs : List Int) (n rx : Int)
    (h : (symMod (polyEval coeffs rx) n).natAbs ≤ 1) : guardUniR coeffs n rx = none := by
  unfold guardUniR
  rw [if_neg]
  intro hg
  have := ((guardAcceptR_iff _ _).mp hg).1
  omega

/-- the shipped guard accepts exactly the pre-fix acceptances with `|y| ≠ 1`. -/
theorem guard_uni_iff_prefix (coeffs : List Int) (n rx : Int) :
    guardUniR coeffs n rx = some rx ↔
      guardUni coeffs n rx = some rx ∧ (symMod (polyEval coeffs rx) n).natAbs ≠ 1 := by
  unfold guardUniR guardUni
  constructor
  · intro h
    split at h
    · rename_i hg
      obtain ⟨h1, hd⟩ := (guardAcceptR_iff _ _).mp hg
      refine ⟨?_, by omega⟩
      rw [if_pos ((guardAccept_iff _ _).mpr ⟨by intro h0; rw [h0] at h1; simp at h1, hd⟩)]
    · simp at h
  · rintro ⟨h, hne⟩
    split at h
    · rename_i hg
      obtain ⟨h0, hd⟩ := (guardAccept_iff _ _).mp hg
      rw [if_pos ((guardAcceptR_iff _ _).mpr ⟨by omega, hd⟩)]
    · simp at h

/-- shipped guard of `multivariate_modp`. -/
theorem guard_multi_sound (f : List Mono) (n : Int) (roots r : List Int)
    (h : guardMultiR f n roots = some r) :
    r = roots ∧ ∃ y : Int, 1 < y.natAbs ∧ y ∣ n ∧ n ∣ mpolyEval f r - y ∧
      Int.gcd (mpolyEval f r) n = y.natAbs := by
  obtain ⟨hg, hr⟩ := Option.ite_none_right_eq_some.1 h
  cases hr
  obtain ⟨hy1, hyn⟩ := (guardAcceptR_iff _ _).mp hg
  exact ⟨rfl, _, hy1, hyn, symMod_congr _ _, gcd_of_congr_dvd _ _ _ (symMod_congr _ _) hyn⟩

theorem guard_multi_rejects_unit (f : List Mono) (n : Int) (roots : List Int)
    (h : (symMod (mpolyEval f roots) n).natAbs ≤ 1) : guardMultiR f n roots = none := by
  unfold guardMultiR
  rw [if_neg]
  intro hg
  have := ((guardAcceptR_iff _ _).mp hg).1
  omega

/-! ## PseudoAverage / Bias outside `0 < n`

Real code (run against /repo HEAD): `PseudoAverage([1,2,3], 0)` → `ZeroDivisionError` (at
`% n`), `PseudoAverage([], 0)` and `PseudoAverage([], 5)` → `ZeroDivisionError` (at `// m`),
`PseudoAverage([1,2,3], -7) = 0`, `PseudoAverage([0,6,7,8,9], -10) = -8`;
`Bias([1,2,3], 0, [(1,0)])` → `ZeroDivisionError` (at `% n`), `Bias([], 0, [(1,0)])` and
`Bias([1,2], 0, [])` → `ZeroDivisionError` (float `2*t/n`), `Bias([], 5, …) = 0.0`,
`Bias([1,2,3], -7, [(1,0),(2,1)]) = 1.0`. -/

/-- `n = 0`: `ZeroDivisionError` for every list (empty or not). -/
theorem pseudoAverage_n_zero (a : List Int) : pseudoAverage a 0 = .error .zeroDivision := by
  unfold pseudoAverage; split <;> simp

/-- empty list: `ZeroDivisionError` for every modulus. -/
theorem pseudoAverage_empty (n : Int) : pseudoAverage [] n = .error .zeroDivision := by
  simp [pseudoAverage]

/-- totality: a value is returned exactly for a non-empty list and `n ≠ 0`, and the only
exception is `ZeroDivisionError`. -/
theorem pseudoAverage_total_iff (a : List Int) (n : Int) :
    ((∃ v, pseudoAverage a n = .ok v) ↔ a ≠ [] ∧ n ≠ 0) ∧
    (∀ e, pseudoAverage a n = .error e → e = .zeroDivision) := by
  unfold pseudoAverage
  by_cases ha : a.length = 0
  · have : a = [] := List.eq_nil_of_length_eq_zero ha
    simp [this]
  · have : a ≠ [] := by intro h; rw [h] at ha; simp at ha
    by_cases hn : n = 0
    · simp [ha, hn]
    · simp [ha, hn, this]

/-- `n < 0` (Python `%` takes the sign of the divisor): the result lies in `(n, 0]`. -/
theorem pseudoAverage_range_neg (a : List Int) (n v : Int) (hn : n < 0)
    (h : pseudoAverage a n = .ok v) : n < v ∧ v ≤ 0 := by
  unfold pseudoAverage at h
  split at h
  · simp at h
  · split at h
    · simp at h
    · simp only [Except.ok.injEq] at h
      subst h
      exact paFinal_range_neg _ n hn

/-- `n < 0`: the loop's `diff < best_diff` then selects a prefix shift of MAXIMAL variance
(`n·diff_j` is the variance difference, and `n` is negative): the docstring's "variance
minimal" holds for `n > 0` only (`C19.pseudoAverage_min_variance`). -/
theorem pseudoAverage_neg_max_variance (s : List Int) (n : Int) (hn : n < 0) (j : Nat)
    (hj : j ≤ s.length) :
    (s.length : Int) * sumSq (paShift s n j) - (paShift s n j).sum ^ 2 ≤
      (s.length : Int) * sumSq (paShift s n (paBestJ s n)) - (paShift s n (paBestJ s n)).sum ^ 2 := by
  obtain ⟨-, hb, hmin, -⟩ := paBestJ_firstMin s n
  have h1 := paDiff_identity s n j hj
  have h2 := paDiff_identity s n _ hb
  have := Int.mul_le_mul_of_nonpos_left (Int.le_of_lt hn) (hmin j hj)
  linarith

/-- `n = 0`: `Bias` raises `ZeroDivisionError` for every sample and every transform list
(including empty ones). -/
theorem bias_n_zero (sample : List Int) (tr : List (Int × Int)) :
    bias sample 0 tr = .error .zeroDivision := by
  simp [bias]

/-- totality of the integer part of `Bias`: a value exactly for `n ≠ 0`. -/
theorem bias_total_iff (sample : List Int) (n : Int) (tr : List (Int × Int)) :
    ((∃ v, bias sample n tr = .ok v) ↔ n ≠ 0) ∧
    (∀ e, bias sample n tr = .error e → e = .zeroDivision) := by
  unfold bias
  by_cases hn : n = 0
  · simp [hn]
  · simp [hn]

/-- `n < 0`: each summand `min(v, n − v)` is in `[n, n/2]` (non-positive; minus the LARGER
distance to the two neighbouring multiples of `n`). -/
theorem bias_term_neg (n s a b : Int) (hn : n < 0) :
    n ≤ biasTerm n s a b ∧ 2 * biasTerm n s a b ≤ n :=
  biasTerm_neg n s a b hn

/-- `n < 0`: `normalized = 2t/n ∈ [len, 2·len]`: at or above the upper end of the support, so
the p-value is `UniformSumCdf(len, x ≥ len) = 1.0` whenever `len > 0` (`C19.uniformSum_ge`). -/
theorem bias_normalized_range_neg (sample : List Int) (n : Int) (hn : n < 0)
    (tr : List (Int × Int)) :
    ((sample.length * tr.length : Nat) : ℚ) ≤ biasNormalized sample n tr ∧
      biasNormalized sample n tr ≤ 2 * ((sample.length * tr.length : Nat) : ℚ) := by
  obtain ⟨h0, h1⟩ := biasT_bounds sample n tr (2 * n) n fun s a b => by
    obtain ⟨t0, t1⟩ := biasTerm_neg n s a b hn
    exact ⟨Int.mul_le_mul_of_nonneg_left t0 (by decide), t1⟩
  unfold biasNormalized
  have hn' : (n : Rat) < 0 := Int.cast_lt_zero.2 hn
  constructor
  · rw [le_div_iff_of_neg hn']
    exact_mod_cast h1
  · rw [div_le_iff_of_neg hn', mul_comm 2, mul_assoc]
    exact_mod_cast h0

/-! ## Non-vacuity -/

example : divmodRoundedR 1 3 = .ok (0, 1) ∧ divmodRoundedR 4 3 = .ok (1, 1) ∧
    divmodRoundedR 7 5 = .ok (1, 2) ∧ divmodRoundedR 2 (-3) = .ok (-1, -1) := by decide +kernel
-- ties: up for both signs of the divisor
example : divmodRoundedR 3 2 = .ok (2, -1) ∧ divmodRoundedR (-3) 2 = .ok (-1, -1) ∧
    divmodRoundedR 3 (-2) = .ok (-1, 1) ∧ divmodRoundedR (-3) (-2) = .ok (2, 1) := by
  decide +kernel
-- not Python's round-half-even: round(0.5) = 0, round(2.5) = 2
example : divmodRoundedR 1 2 = .ok (1, -1) ∧ divmodRoundedR 5 2 = .ok (3, -1) := by
  decide +kernel
example : divmodRoundedR 1234567 (2 ^ 10) = .ok (1206, -377) := by decide +kernel
example : divmodRoundedR 5 1 = .ok (5, 0) ∧ divmodRoundedR 5 (-1) = .ok (-5, 0) := by
  decide +kernel
example : guardUniR [-5, 5, 3] 35 13 = some 13 ∧ guardUniR [1, 1] 35 0 = none ∧
    guardUni [1, 1] 35 0 = some 0 := by decide +kernel
example : pseudoAverage [1, 2, 3] (-7) = .ok 0 ∧ pseudoAverage [0, 6, 7, 8, 9] (-10) = .ok (-8) := by
  decide +kernel
example : bias [1, 2, 3] (-7) [(1, 0), (2, 1)] = .ok (-31, 6) := by decide +kernel
example : biasTerm (-7) 2 3 1 = -7 ∧ biasTerm (-7) 3 3 1 = -4 := by decide +kernel

end Paranoid.C19Shipped
