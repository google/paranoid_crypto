/-
Props/C04Hlbe.lean — C04, second sentence: "moduli whose primes agree on r ≥ 3 low bits and
s high bits with r + s ≥ len/4 + 2 are factored by FactorHighAndLowBitsEqual or FermatFactor".

`hlbe_complete` proves `C04.hlbe_complete_statement` (which Props/C04.lean only states).
The sharper `hlbe_complete_sharp` shows what each function contributes: FactorHighAndLowBitsEqual
succeeds for EVERY `middle_bits` whenever `(p+q)/2 > ⌈√n⌉`, and the remaining case
`(p+q)/2 = ⌈√n⌉` is the very first step of FermatFactor.

Ingredients (Proofs/HlbeComplete.lean): the loop invariant of the bit-fixing walk
(`hlbeBits_reaches`), the 2-adic fact that odd square roots modulo `2^J` agree up to sign modulo
`2^(J-1)` (`two_adic_split`), success of the two 2-adic helper calls (`hlbe_root`, from the C19
theorems about Inverse2exp / InverseSqrt2exp) — together `hlbe_of_square`, which needs no primes —
and the window bound `(p+q)/2 − ⌈√n⌉ < 2^min(2r−3, k)` from the shared high bits
(`target_in_window`).
-/
import ParanoidModel.Props.C04
import ParanoidModel.Proofs.HlbeComplete
import Mathlib.Tactic.NormNum.Prime
namespace Paranoid.C04Hlbe
open Paranoid

/-- **Loop invariant of the walk** (`for i in range(k)` of FactorHighAndLowBitsEqual), as a
stand-alone statement: if `S² − n` is a perfect square, `S` agrees with `r` on its `j` low bits,
the walk stands at bit index `i ≤ j` with `s < S < s + 2^j`, `s ≡ S (mod 2^i)`, and at least
`j − i` iterations remain, then factors are returned — for every `middle_bits`. -/
theorem hlbe_walk_invariant (n r mb S j : Nat)
    (hsq : isSquareI ((S : Int) * S - n) = true) (hr : S % 2 ^ j = r % 2 ^ j)
    (fuel i s : Nat) (hij : i ≤ j) (hfuel : j ≤ i + fuel) (hs : s < S) (hS : S < s + 2 ^ j)
    (hmod : S % 2 ^ i = s % 2 ^ i) : ∃ fs, hlbeBits n r mb fuel i s = some fs :=
  hlbeBits_reaches n r mb S j hsq hr fuel i s hij hfuel hs hS hmod

/-- odd square roots of the same number modulo `2^J` agree up to sign modulo `2^(J−1)`. -/
theorem sqrt_two_adic_unique (x y : Int) (J : Nat) (hx : Odd x) (hy : Odd y)
    (h : (2 : Int) ^ J ∣ x * x - y * y) :
    (2 : Int) ^ (J - 1) ∣ x - y ∨ (2 : Int) ^ (J - 1) ∣ x + y :=
  two_adic_split x y J hy h

/-- **FactorHighAndLowBitsEqual alone**, for `p < q`: under the hypotheses of the property it
returns factors for every `middle_bits`, provided `(p+q)/2` is not already `⌈√n⌉`
(`⌈√n⌉ = isqrt(n−1) + 1` is the start value `a` of the walk). -/
theorem hlbe_finds_lt {p q r s : Nat} (hp : p.Prime) (hq : q.Prime) (hlt : p < q) (hr : 3 ≤ r)
    (hlow : p % 2 ^ r = q % 2 ^ r) (hL : bitLength p = bitLength q)
    (hhigh : p / 2 ^ (bitLength p - s) = q / 2 ^ (bitLength q - s))
    (hrs : bitLength (p * q) / 4 + 2 ≤ r + s) (mb : Nat)
    (ha : Nat.sqrt (p * q - 1) + 1 < (p + q) / 2) :
    ∃ fs, factorHighAndLowBitsEqual (p * q) mb = .ok (some fs) :=
  hlbe_finds_of_odd (low_bits_odd hp hq (Nat.ne_of_lt hlt) (by omega) hlow).1 hlt hr hlow hL hhigh hrs mb ha

/-- **Sharp form**, `p < q`: for every `middle_bits`, either FactorHighAndLowBitsEqual returns
factors or FermatFactor succeeds in its first step. -/
theorem hlbe_complete_sharp_lt {p q r s : Nat} (hp : p.Prime) (hq : q.Prime) (hlt : p < q)
    (hr : 3 ≤ r) (hlow : p % 2 ^ r = q % 2 ^ r) (hL : bitLength p = bitLength q)
    (hhigh : p / 2 ^ (bitLength p - s) = q / 2 ^ (bitLength q - s))
    (hrs : bitLength (p * q) / 4 + 2 ≤ r + s) (mb steps : Nat) (hsteps : 1 ≤ steps) :
    (∃ fs, factorHighAndLowBitsEqual (p * q) mb = .ok (some fs)) ∨
      fermatFactor (p * q) steps = some (q, p) := by
  obtain ⟨hpo, hqo⟩ := low_bits_odd hp hq (Nat.ne_of_lt hlt) (by omega) hlow
  by_cases h : (p + q) / 2 - (Nat.sqrt (p * q) + 1) < steps
  · right
    rw [C04.fermat_exact hp hq hlt hpo hqo steps, if_pos h]
  · left
    apply hlbe_finds_of_odd hpo hlt hr hlow hL hhigh hrs mb
    have := Nat.sqrt_le_sqrt (Nat.sub_le (p * q) 1)
    omega

theorem hlbe_complete_sharp {p q r s : Nat} (hp : p.Prime) (hq : q.Prime) (hne : p ≠ q)
    (hr : 3 ≤ r) (hlow : p % 2 ^ r = q % 2 ^ r) (hL : bitLength p = bitLength q)
    (hhigh : p / 2 ^ (bitLength p - s) = q / 2 ^ (bitLength q - s))
    (hrs : bitLength (p * q) / 4 + 2 ≤ r + s) (mb steps : Nat) (hsteps : 1 ≤ steps) :
    (∃ fs, factorHighAndLowBitsEqual (p * q) mb = .ok (some fs)) ∨
      fermatFactor (p * q) steps = some (max p q, min p q) := by
  rcases Nat.lt_or_gt_of_ne hne with hlt | hgt
  · rw [Nat.max_eq_right hlt.le, Nat.min_eq_left hlt.le]
    exact hlbe_complete_sharp_lt hp hq hlt hr hlow hL hhigh hrs mb steps hsteps
  · rw [Nat.max_eq_left hgt.le, Nat.min_eq_right hgt.le, Nat.mul_comm p q]
    rw [Nat.mul_comm p q] at hrs
    exact hlbe_complete_sharp_lt hq hp hgt hr hlow.symm hL.symm hhigh.symm hrs mb steps hsteps

/-- **hlbe_complete**: the statement left open in Props/C04.lean (`middle_bits = 3`, Fermat
bound 100000, the defaults of the two checks). -/
theorem hlbe_complete : C04.hlbe_complete_statement := by
  intro p q r s hp hq hne hr hlow hL hhigh hrs
  rcases hlbe_complete_sharp hp hq hne hr hlow hL hhigh hrs 3 100000 (by norm_num) with h | h
  · exact Or.inl h
  · exact Or.inr ⟨_, _, h⟩

/-! ### non-vacuity -/

/-- `p = 521`, `q = 809`: 10-bit primes, `r = 5` equal low bits (`…01001`), `s = 1` equal high
bit, `bitLength n = 19`, `19/4 + 2 = 6 ≤ r + s`; `(p+q)/2 − ⌈√n⌉ = 15`, the walk finds it. -/
example : Nat.Prime 521 ∧ Nat.Prime 809 := by constructor <;> norm_num
example : 521 % 2 ^ 5 = 809 % 2 ^ 5 ∧ bitLength 521 = bitLength 809 ∧
    521 / 2 ^ (bitLength 521 - 1) = 809 / 2 ^ (bitLength 809 - 1) ∧
    bitLength (521 * 809) / 4 + 2 ≤ 5 + 1 ∧
    Nat.sqrt (521 * 809 - 1) + 1 < (521 + 809) / 2 ∧
    factorHighAndLowBitsEqual (521 * 809) 3 = .ok (some [521, 809]) ∧
    factorHighAndLowBitsEqual (521 * 809) 0 = .ok (some [521, 809]) := by decide +kernel

/-- the remaining case is real, so the disjunction is needed: for the 11-bit primes `p = 1031`,
`q = 1039` (`r = 3`, `s = 7`, `21/4 + 2 = 7 ≤ 10`) `(p+q)/2 = ⌈√n⌉ = 1035`; the walk never tests
its start value and FactorHighAndLowBitsEqual returns `None`; Fermat's first step finds the
factors. -/
example : Nat.Prime 1031 ∧ Nat.Prime 1039 := by constructor <;> norm_num
example : 1031 % 2 ^ 3 = 1039 % 2 ^ 3 ∧ bitLength 1031 = bitLength 1039 ∧
    1031 / 2 ^ (bitLength 1031 - 7) = 1039 / 2 ^ (bitLength 1039 - 7) ∧
    bitLength (1031 * 1039) / 4 + 2 ≤ 3 + 7 ∧
    Nat.sqrt (1031 * 1039 - 1) + 1 = (1031 + 1039) / 2 ∧
    factorHighAndLowBitsEqual (1031 * 1039) 3 = .ok none ∧
    fermatFactor (1031 * 1039) 1 = some (1039, 1031) := by decide +kernel

/-- the docstring example of FactorHighAndLowBitsEqual (32 + 32 equal bits of 128: below the
`len/4 + 2` of the property, found thanks to `middle_bits`; evaluated, not covered by the
theorem). -/
example : factorHighAndLowBitsEqual
    (0xcb557401230321b723a2342377a28249 * 0xcb557401a315c42e24cc6aaa77a28249) 3 =
    .ok (some [0xcb557401230321b723a2342377a28249, 0xcb557401a315c42e24cc6aaa77a28249]) := by
  decide +kernel

end Paranoid.C04Hlbe
