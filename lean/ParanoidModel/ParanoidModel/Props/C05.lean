/-
Props/C05.lean — "RSA keys with patterned, sparse or smooth primes are always flagged".

What a theorem can carry here (see DESIGN.md section 5/7):
 * the Pollard p-1 clause for an ARBITRARY product `m` under the hypothesis `g ∣ m`
   (`pollard_flag`); which `g` divide the product the constructor really builds — and that
   "2^20-smooth" is not enough — is Props/C05Pollard.lean (`defaultM_dvd_iff`,
   `pollard_default_flag`, `literal_text_fails`);
 * for the lattice families: the check-level enumeration of denominators, and soundness of
   whatever LLL returns (C01). That LLL *finds* the planted vector is an oracle assumption and
   is NOT claimed (pre/post sandwich: Props/C05Pre.lean, Props/C05Permuted.lean);
 * the continued-fraction clause is proved (Props/C05Cf.lean);
 * for the low-Hamming-weight clause: nothing beyond soundness (best-first search is a heuristic).
-/
import ParanoidModel.Proofs.Pollard
import ParanoidModel.Proofs.Fraction
namespace Paranoid.C05
open Paranoid

/-- **Pollard p-1 clause.** If `p-1` and `q-1` share a factor `g ≥ gcd_bound` that divides the
Pollard product `m`, and `p-1` is smooth enough for `m` (`(p-1) ∣ (n-1)·m`), the modulus is
flagged; it is factored as `[p, q]` unless `q` is caught as well (`2^((n-1)m) ≡ 1 (mod q)`,
e.g. when `q-1` is smooth too), in which case it is flagged with no factors. -/
theorem pollard_flag {p q : Nat} (hp : p.Prime) (hq : q.Prime) (hpq : p ≠ q)
    (hpo : p % 2 = 1) (hqo : q % 2 = 1) (m g gb : Nat) (hm : 0 < m)
    (hgp : g ∣ p - 1) (hgq : g ∣ q - 1) (hgm : g ∣ m) (hg : gb ≤ g)
    (hsm : (p - 1) ∣ (p * q - 1) * m) :
    pollardPm1 (p * q) m gb =
      if 2 ^ ((p * q - 1) * m) % q = 1 then (true, []) else (true, [p, q]) :=
  pollardPm1_semiprime hp hq hpq hpo hgp hgq hgm hg hsm

/-- **Lattice families, completeness given the oracle.** For `n = p·q` (distinct primes): if
the basis returned by LLL contains a row `(c·x, -a·x, …)` whose value `a·x·w + c·x` is a
multiple of `p` but not of `q` (the planted short vector of a prime `p = (a·B + c)/d`), then
`CheckFraction` returns both primes — whatever the other rows are. That LLL returns such a
row is the oracle assumption; it is not claimed. -/
theorem fraction_post {p q : Nat} (hp : p.Prime) (hq : q.Prime) (hpq : p ≠ q)
    (basis : List (List Int)) (hlen : ∀ row ∈ basis, 2 ≤ row.length)
    (hgood : ∃ cx v1 rest, (cx :: v1 :: rest) ∈ basis ∧
        (p : Int) ∣ rowValue (2 ^ (bitLength (p * q) / 2)) cx v1 ∧
        ¬ (q : Int) ∣ rowValue (2 ^ (bitLength (p * q) / 2)) cx v1) :
    checkFraction (p * q) basis = .ok [p, q] ∨ checkFraction (p * q) basis = .ok [q, p] :=
  checkFractionLoop_complete hp hq hpq _ basis hlen hgood

/-- the flag alone (first component), as the property words it. -/
theorem pollard_flagged {p q : Nat} (hp : p.Prime) (hq : q.Prime) (hpq : p ≠ q)
    (hpo : p % 2 = 1) (hqo : q % 2 = 1) (m g gb : Nat) (hm : 0 < m)
    (hgp : g ∣ p - 1) (hgq : g ∣ q - 1) (hgm : g ∣ m) (hg : gb ≤ g)
    (hsm : (p - 1) ∣ (p * q - 1) * m) :
    (pollardPm1 (p * q) m gb).1 = true := by
  rw [pollard_flag hp hq hpq hpo hqo m g gb hm hgp hgq hgm hg hsm]
  split <;> rfl

/-- non-vacuity: p = 13 (p-1 = 12), q = 47 (q-1 = 2·23), g = 2, m = 12 → factored;
q = 37 (q-1 = 36 | (n-1)·12) → both caught, flagged without factors. -/
example : pollardPm1 (13 * 47) 12 2 = (true, [13, 47]) := by decide +kernel
example : pollardPm1 (13 * 37) 12 12 = (true, []) := by decide +kernel

end Paranoid.C05
