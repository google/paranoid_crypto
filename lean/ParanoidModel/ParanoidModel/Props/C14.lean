/-
Props/C14.lean — "Linear complexity is the true shortest-LFSR length in every implementation".
Property theorems only; helper lemmas live in Proofs/Lfsr.lean and Proofs/BM.lean.

What is proved here, for ALL inputs (no size bound):
* `native_is_shortest_lfsr`: the model of `LinearComplexityNative` (the `sb`/`sc` big-integer
  loop, also standing for the value the C++ code returns) computes the length of the shortest
  LFSR generating the bit sequence — via `native_simulates_textbook` (register invariant over
  carry-less products) and `textbook_correct` (Massey's theorem);
* `textbook_count`, `model_count`, `count_total`, `logprob_count`: `LfsrCount` is the true number
  of sequences of each linear complexity and `LfsrLogProbability` its base-2 logarithm minus `n`
  (for `n ≥ 1`; `LfsrCount(0, 0)` is 0 in the pinned code although the empty sequence exists —
  `count_length_zero_pinned`, `count_repaired`).
`bounded_agree`, `bounded_native_textbook_le10` are the instances for lengths `≤ 8` / `≤ 10`, stated
as Boolean checks of the three executable definitions.
The C++ code (both variants, word level) is the subject of Props/C14Cpp.lean, which proves that it
computes `bmLength`. The Python functions and the C++ builds are tied to their models by the
correspondence check (harness/corr/c14.py).
-/
import ParanoidModel.Proofs.BM
namespace Paranoid.C14
open Paranoid Paranoid.Lfsr

/-- ★ `count_total`: the closed-form counts of all complexities `m = 0..n` add up to the
number `2^n` of sequences of length `n` (`n ≥ 1`). -/
theorem count_total (n : Nat) (hn : 1 ≤ n) :
    (∑ m ∈ Finset.range (n + 1), lfsrCount n m) = 2 ^ n := by
  rw [← cnt_total n]
  exact Finset.sum_congr rfl (fun m _ => lfsrCount_eq_cnt n m hn)

/-- `LfsrCount` is 0 outside `1 ≤ n`, `0 ≤ m ≤ n` (in particular for `m > n`, `m < 0`). -/
theorem count_outside (n m : Int) (h : n ≤ 0 ∨ m < 0 ∨ n < m) : lfsrCount n m = 0 := by
  unfold lfsrCount
  rw [if_pos (by omega)]

/-- `LfsrLogProbability` raises (`ValueError`) exactly outside `1 ≤ n`, `0 ≤ m ≤ n`. -/
theorem logprob_raises_iff (n m : Int) :
    (∃ e, lfsrLogProbability n m = .error e) ↔ (n ≤ 0 ∨ m < 0 ∨ n < m) := by
  unfold lfsrLogProbability
  constructor
  · intro ⟨e, h⟩
    by_contra hc
    rw [if_neg (by omega), if_neg (by omega)] at h
    split at h <;> [skip; split at h] <;> cases h
  · intro h
    by_cases h1 : n ≤ 0
    · exact ⟨_, if_pos h1⟩
    · rw [if_neg h1, if_pos (by omega)]; exact ⟨_, rfl⟩

/-- ★ `logprob_count`: whenever `LfsrLogProbability(n, m)` returns `e`, the count is exactly
`2^(n + e)`, i.e. the probability `LfsrCount(n, m) / 2^n` is `2^e`. Conventions read off the
code: `m = 0 ↦ e = -n`; `1 ≤ m ≤ n // 2 ↦ e = 2m - n - 1`; `n // 2 < m ≤ n ↦ e = n - 2m`. -/
theorem logprob_count (n m e : Int) (h : lfsrLogProbability n m = .ok e) :
    0 ≤ n + e ∧ lfsrCount n m = 2 ^ (n + e).toNat := by
  unfold lfsrLogProbability at h
  unfold lfsrCount
  split at h
  · cases h
  split at h
  · cases h
  rename_i h1 h2
  rw [if_neg (by omega)]
  split at h
  · rename_i h3
    injection h with h; subst h
    rw [if_pos h3]
    refine ⟨by omega, ?_⟩
    have : (n + -n).toNat = 0 := by omega
    rw [this]; rfl
  split at h
  · rename_i h3 h4
    injection h with h; subst h
    rw [if_neg h3, if_pos h4]
    refine ⟨by omega, ?_⟩
    have : (n + (2 * m - n - 1)).toNat = 2 * (m - 1).toNat + 1 := by omega
    rw [this, Nat.pow_succ, Nat.pow_mul]
    have e4 : (2 : Nat) ^ 2 = 4 := rfl
    rw [e4]
    omega
  · rename_i h3 h4
    injection h with h; subst h
    rw [if_neg h3, if_neg h4]
    refine ⟨by omega, ?_⟩
    have : (n + (n - 2 * m)).toNat = 2 * (n - m).toNat := by omega
    rw [this, Nat.pow_mul]

/-- ★ `native_step_structure`: in one iteration of the `LinearComplexityNative` loop the length
update is `deg_c ← n + 1 - deg_c` exactly when the discrepancy bit (bit `m` of `sc`) is 1 and
`2·deg_c ≤ n`; in every other case `deg_c` is unchanged. -/
theorem native_step_structure (n : Nat) (st : BMState) :
    (bmStep n st).degC =
      if st.sc.testBit st.m = true ∧ 2 * st.degC ≤ n then n + 1 - st.degC else st.degC := by
  unfold bmStep
  by_cases hd : st.sc.testBit st.m = true
  · rw [if_pos ((bmDisc_ne_zero_iff st).2 hd)]
    unfold bmUpdate
    by_cases hl : 2 * st.degC ≤ n
    · rw [if_pos hl, if_pos ⟨hd, hl⟩]
    · rw [if_neg hl, if_neg (fun h => hl h.2)]
  · rw [if_neg (fun h => hd ((bmDisc_ne_zero_iff st).1 h)), if_neg (fun h => hd h.1)]

/-- The same structure for the textbook recursion, in the form used for counting: of the two
one-bit extensions of `s`, the one continuing the current LFSR keeps `L`, the other moves to
`max L (|s| + 1 - L)`. -/
theorem textbook_step_structure (s : List Bool) (b : Bool) :
    textbookL (s ++ [b]) =
      if (b ^^ predicted s) = true then max (textbookL s) (s.length + 1 - textbookL s)
      else textbookL s := by
  rw [textbookL_snoc, upd_eq_max]

/-- `allSeqs n` lists every bit sequence of length `n` exactly once. -/
theorem allSeqs_spec (n : Nat) :
    (∀ s : List Bool, s ∈ allSeqs n ↔ s.length = n) ∧ (allSeqs n).Nodup ∧
      (allSeqs n).length = 2 ^ n :=
  ⟨mem_allSeqs n, nodup_allSeqs n, length_allSeqs n⟩

/-- ★ `textbook_count`: for all `n ≥ 1` and all `m`, the number of bit sequences of length `n`
to which the textbook Berlekamp–Massey recursion assigns length `m` is `LfsrCount(n, m)`. -/
theorem textbook_count (n m : Nat) (hn : 1 ≤ n) :
    ((allSeqs n).filter fun s => decide (textbookL s = m)).length = lfsrCount n m := by
  rw [lfsrCount_eq_cnt n m hn, ← countL_eq_cnt, countL, List.countP_eq_length_filter]

/-- `textbook_count` without reference to an enumeration: ANY finite set consisting of exactly
the sequences of length `n` with textbook length `m` has `LfsrCount(n, m)` elements. -/
theorem textbook_count_finset (n m : Nat) (hn : 1 ≤ n) (S : Finset (List Bool))
    (hS : ∀ s, s ∈ S ↔ s.length = n ∧ textbookL s = m) : S.card = lfsrCount n m := by
  rw [← textbook_count n m hn]
  have : S = ((allSeqs n).filter fun s => decide (textbookL s = m)).toFinset := by
    ext s
    simp [hS, mem_allSeqs]
  rw [this, List.toFinset_card_of_nodup ((nodup_allSeqs n).filter _)]

/-- the count with the guard of `LfsrCount` repaired (`n < 0` instead of `n <= 0`) is exact for
EVERY `n`, including the empty sequence. -/
theorem count_repaired (n m : Nat) :
    ((allSeqs n).filter fun s => decide (textbookL s = m)).length = lfsrCountRepaired n m := by
  rw [lfsrCountRepaired_eq_cnt, ← countL_eq_cnt, countL, List.countP_eq_length_filter]

/-- Pinned behaviour at `n = 0` (known finding "LfsrCount, n = 0"): the code answers 0 although
one sequence of length 0 exists and has linear complexity 0. -/
theorem count_length_zero_pinned :
    lfsrCount 0 0 = 0 ∧ ((allSeqs 0).filter fun s => decide (textbookL s = 0)).length = 1 := by
  decide

/-- ☆ `native_simulates_textbook`: for every `s` and `len` the `sb`/`sc` loop returns
the textbook Berlekamp–Massey length of the first `len` bits of `s`. The invariant is
`Paranoid.Sim`: `sc >> m = (C·S) >> n`, `sb = (B·S) >> (n + 1 - x)` over carry-less products. -/
theorem native_simulates_textbook (s len : Nat) :
    bmLength s len = textbookL (bitsOf s len) :=
  bmLength_eq_textbookL s len

/-- ☆ `textbook_correct` (Massey's theorem): the textbook length is the length of the
shortest LFSR generating `s` — an LFSR of that length exists and none shorter does. -/
theorem textbook_correct (s : List Bool) : IsShortestLfsr s (textbookL s) :=
  textbookL_isShortest s

/-- the brute-force definition computes the same number. -/
theorem shortestLfsr_correct (s : List Bool) : IsShortestLfsr s (shortestLfsr s) :=
  shortestLfsr_isShortest s

/-- **First sentence of C14 for the model**: for every bit sequence `s` (as an integer) and every
length, `LinearComplexityNative` does not raise and returns the length of the shortest LFSR
generating `s_0 … s_{len-1}`. -/
theorem native_is_shortest_lfsr (s len : Nat) :
    linearComplexityNative s len = .ok (bmLength s len) ∧
      IsShortestLfsr (bitsOf s len) (bmLength s len) ∧
      bmLength s len = shortestLfsr (bitsOf s len) := by
  refine ⟨?_, ?_, ?_⟩
  · unfold linearComplexityNative
    rw [if_neg (by omega)]
    rfl
  · rw [bmLength_eq_textbookL]; exact textbookL_isShortest _
  · rw [bmLength_eq_textbookL]; exact textbookL_eq_shortestLfsr _

/-- The wrapper `LinearComplexity` (Python in front of the C++ value modelled by the same loop)
returns the same number for `s < 2^len` (which fits the `(len + 7) // 8` bytes it is serialised to);
therefore the two Python entry points agree on every well-formed input. -/
theorem wrapper_agrees (s len : Nat) (hlen : len < 2 ^ 31) (hs : s < 2 ^ len) :
    linearComplexity s len = .ok (bmLength s len) ∧
      linearComplexityNative s len = .ok (bmLength s len) := by
  refine ⟨linearComplexity_of_fits hlen (Nat.lt_of_lt_of_le hs ?_), (native_is_shortest_lfsr s len).1⟩
  exact Nat.pow_le_pow_right Nat.two_pos (by omega)

/-- bits of `s` at positions `≥ len` have no influence on `LinearComplexityNative`. -/
theorem native_ignores_high_bits (s len : Nat) : bmLength s len = bmLength (s % 2 ^ len) len :=
  (bmLength_mod_two_pow (Nat.le_refl len) s).symm

/-- `model_count`: the count theorem for the model itself — among the `2^n` integers `s < 2^n`
exactly `LfsrCount(n, m)` have `LinearComplexityNative(s, n) = m` (`n ≥ 1`). -/
theorem model_count (n m : Nat) (hn : 1 ≤ n) :
    ((List.range (2 ^ n)).filter fun s => decide (bmLength s n = m)).length = lfsrCount n m := by
  rw [lfsrCount_eq_cnt n m hn, ← bmLength_count, List.countP_eq_length_filter]

/-! ### Bounded instances (special cases of the theorems above, as Boolean checks) -/

/-- ★ `bounded_agree`: on all 511 sequences of length `≤ 8` the native loop, the textbook
recursion and the brute-force shortest LFSR (all `2^L` tap vectors tried) agree. -/
theorem bounded_agree_le8 : agreeUpTo 8 = true := agreeUpTo_eq_true 8

/-- ★ `bounded_agree`, native vs textbook only: all 2047 sequences of length `≤ 10`. -/
theorem bounded_native_textbook_le10 : agreeNativeTextbookUpTo 10 = true :=
  agreeNativeTextbookUpTo_eq_true 10

/-- readable form of `bounded_agree_le8`. -/
theorem bounded_agree (len s : Nat) (hlen : len ≤ 8) (hs : s < 2 ^ len) :
    bmLength s len = textbookL (bitsOf s len) ∧
      textbookL (bitsOf s len) = shortestLfsr (bitsOf s len) :=
  (agreeUpTo_iff 8).1 bounded_agree_le8 len s hlen hs

/-! ### Non-vacuity: concrete non-trivial instances -/

example : linearComplexityNative 0b1011001110001111 16 = .ok 8 := by decide +kernel
example : textbookL (bitsOf 0b1011001110001111 16) = 8 := by decide +kernel
example : generates [true, false, true] (bitsOf 0b0111001 7) := by decide +kernel
example : shortestLfsr (bitsOf 0b0111001 7) = 3 := by decide +kernel
example : lfsrLogProbability 9 4 = .ok (-2) ∧ lfsrCount 9 4 = 2 ^ 7 := by decide +kernel
example : (bmStep 4 ⟨1, 0b10000, 2, 4⟩).degC = 3 := by decide +kernel
example : linearComplexity 0x1ff 8 = .error .overflow := by decide +kernel
example : linearComplexity 0b1011001110001111 16 = .ok 8 := by decide +kernel
example : linearComplexity 0 (-3) = .ok (-1) ∧ linearComplexityNative 0 (-3) = .error .valueError := by
  decide +kernel

end Paranoid.C14
