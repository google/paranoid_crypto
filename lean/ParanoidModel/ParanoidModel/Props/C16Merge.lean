/-
Props/C16Merge.lean — C16 for PRE-ANNOTATED artefacts: the exact `test_info` after a run.

Props/C16.lean gives, for artefacts that already carry `test_info` from earlier runs, only
monotonicity (`checkArtifacts_monotone`) and the return relation; the entry tables there assume
`a.info = TestInfo.empty`.  Here, for ANY initial `test_info` — entries of an earlier library
run (stale positive or negative verdicts of the same checks), entries with foreign names, several
entries with the same name (a protobuf repeated field allows it), any order, any weak flag and
version string — and for every list of checks with pairwise different names (the three registries
are instances), every batch and EVERY verdict oracle, after `_CheckArtifacts` returned:

for every check that applies to the artefact, with `e` the `test_result` the check passes to
`util.SetTestResult` (name of the check, this run's verdict, severity rule):
* the entries named after the check are the OLD entries of that name with `e` merged into the
  FIRST of them, `(name, old.result OR e.result, max(old.severity, e.severity))`, later duplicates
  untouched; exactly `[e]` if there was none — so `GetTestResult` returns
  `mergeEntry old e` and the number of entries of that name is `max 1 (old number)`
  (exactly one unless the artefact came with duplicates);
* entries named after a check that does not apply (curve not in CURVE_FACTORY) and entries of any
  other name are untouched;
* the names of the result list are the old names in their old order followed by the names of the
  applicable checks that had no entry, in the order the checks ran (together with the per-name
  statement this determines the whole list: nothing is reordered, removed or duplicated);
* `weak = old weak OR (some check of THIS run is positive)`: a stale positive entry or a stale weak
  flag is never cleared, and a stale weak flag without positive entry stays;
* `paranoid_lib_version`: kept if it was non-empty (also a stale or foreign version string),
  else set to the library version as soon as one check applies.  (It is NOT refreshed by a
  re-run: `if not test_info.paranoid_lib_version`.)

RANGE OF "ANY initial `test_info`": `Entry.severity : Nat` (Model/Bookkeeping.lean), so
"any" means any test_info whose severities are NON-NEGATIVE.  `paranoid.proto` is proto3 and
`TestResultsEntry.severity` an open enum (`SeverityType`, named values 0 … 4): the protobuf runtime accepts and
round-trips every int32, including negative ones (measured: `r.severity = -1`, `= -2**31` are stored;
`2**31` raises ValueError "Value out of range"; a serialized -1 parses back as -1; `SetTestResult` of a
severity-0 entry onto a stale severity -1 gives `max(-1, 0) = 0`).  Artefacts carrying a negative severity are
outside the model and outside every theorem of this file; the library itself only ever writes the named
values 0 … 4.  Unnamed values ≥ 5 are covered.

Helper lemmas: Proofs/CheckMerge.lean (from `checkArtifacts_spec`).
-/
import ParanoidModel.Proofs.CheckMerge
import ParanoidModel.Props.C16
namespace Paranoid.C16Merge
open Paranoid

/-! ## util.SetTestResult on any TestInfo -/

/-- One `SetTestResult(e)` on ANY `TestInfo`: the entries named `e.name` get `e` merged into the
first of them (`[e]` if there is none), entries of every other name are untouched, names keep
their order with `e.name` appended iff it was missing; weak is OR-ed, the version is written only
if it was empty, attached info is untouched. -/
theorem setTestResult_exact (ver : String) (ti : TestInfo) (e : Entry) :
    namedAs e.name (setTestResult ver ti e).results = mergeInto (namedAs e.name ti.results) e ∧
    (∀ n, n ≠ e.name → namedAs n (setTestResult ver ti e).results = namedAs n ti.results) ∧
    (setTestResult ver ti e).results.map (·.name) =
      (if e.name ∈ ti.results.map (·.name) then ti.results.map (·.name)
       else ti.results.map (·.name) ++ [e.name]) ∧
    (setTestResult ver ti e).weak = (ti.weak || e.result) ∧
    (setTestResult ver ti e).version = (if ti.version = "" then ver else ti.version) ∧
    (setTestResult ver ti e).attached = ti.attached := by
  refine ⟨?_, fun n hn => ?_, ?_, rfl, rfl, rfl⟩
  · rw [setTestResult_results, namedAs_setRes, if_pos rfl]
  · rw [setTestResult_results, namedAs_setRes, if_neg hn]
  · rw [setTestResult_results, names_setRes]

/-- what `mergeInto` means for the readers `GetTestResult` (first entry of the name) and for the
number of entries. -/
theorem mergeInto_read (l : List Entry) (e : Entry) :
    (mergeInto l e).head? = some (mergeEntry l.head? e) ∧
    (mergeInto l e).length = max 1 l.length ∧ (mergeInto l e).tail = l.tail := by
  cases l with
  | nil => exact ⟨rfl, rfl, rfl⟩
  | cons x xs =>
    refine ⟨rfl, ?_, rfl⟩
    simp only [mergeInto, List.length_cons]
    omega

/-- the merged entry: name of the old entry, result OR-ed, severity = max; the new entry itself
when there was none. -/
theorem mergeEntry_spec (old : Option Entry) (e : Entry) :
    (old = none → mergeEntry old e = e) ∧
    (∀ x, old = some x → mergeEntry old e = ⟨x.name, x.result || e.result, max x.severity e.severity⟩) :=
  ⟨fun h => by rw [h]; rfl, fun x h => by rw [h]; rfl⟩

/-- Any history of util calls (no call raised) whose SetTestResult calls carry pairwise different
names, on ANY `TestInfo`: result list (names + per name), weak flag, version. -/
theorem ops_exact (ver : String) (ti t : TestInfo) (ops : List Op)
    (hnd : ((entriesOf ops).map (·.name)).Nodup) (h : applyOps ver ti ops = .ok t) :
    (∀ n, namedAs n t.results =
      match (entriesOf ops).find? (fun x => x.name = n) with
      | some e => mergeInto (namedAs n ti.results) e
      | none => namedAs n ti.results) ∧
    t.results.map (·.name) = ti.results.map (·.name) ++
      ((entriesOf ops).map (·.name)).filter (fun m => decide (m ∉ ti.results.map (·.name))) ∧
    t.weak = (ti.weak || (entriesOf ops).any (·.result)) ∧
    t.version = (if ti.version = "" ∧ (entriesOf ops).isEmpty = false then ver else ti.version) := by
  refine ⟨fun n => ?_, ?_, applyOps_weak h, applyOps_version h⟩
  · rw [applyOps_results h]; exact namedAs_resAll _ _ hnd n
  · rw [applyOps_results h]; exact names_resAll _ _ hnd

/-! ## `_CheckArtifacts` on pre-annotated artefacts -/

/-- MAIN THEOREM.  `_CheckArtifacts(arts, steps)` returned, check names pairwise different;
`a` = artefact at position `n` before (ANY `test_info`), `a'` after.  With
`expectedEntry … s … n a` the `test_result` step `s` passes to SetTestResult for this artefact
(`none`: the check does not apply) and `newEntries` the list of those of all steps:
(1) step applies: its name's entries = old ones with the new one merged into the first;
    `GetTestResult` = `mergeEntry old new`; count = `max 1 old count`;
(2) step does not apply: its name's entries untouched;
(3) names of no step: untouched;
(4) names: old names in order, then the new names that were missing, in run order;
(5) weak = old weak OR some new entry positive;
(6) version kept if non-empty, else the library version iff some step applied;
(7) a step applies iff it is CheckIssuerKey or (not needsCurve or the curve is known). -/
theorem preannotated_entries (var : Variant) (ver : String) (ec : List CheckSpec)
    (steps : List Step) (arts arts' : List Artifact) (r : Bool)
    (hnd : (steps.map (·.spec.name)).Nodup)
    (h : checkArtifacts var ver ec steps arts = .ok (arts', r))
    (n : Nat) (a a' : Artifact) (ha : arts[n]? = some a) (ha' : arts'[n]? = some a') :
    (∀ s ∈ steps, ∀ e, expectedEntry var ver ec s (statics arts) n a = some e →
      namedAs s.spec.name a'.info.results = mergeInto (namedAs s.spec.name a.info.results) e ∧
      getTestResult a'.info s.spec.name =
        some (mergeEntry (getTestResult a.info s.spec.name) e) ∧
      nameCount s.spec.name a'.info.results = max 1 (nameCount s.spec.name a.info.results)) ∧
    (∀ s ∈ steps, expectedEntry var ver ec s (statics arts) n a = none →
      namedAs s.spec.name a'.info.results = namedAs s.spec.name a.info.results) ∧
    (∀ nm, nm ∉ steps.map (·.spec.name) →
      namedAs nm a'.info.results = namedAs nm a.info.results) ∧
    a'.info.results.map (·.name) = a.info.results.map (·.name) ++
      ((newEntries var ver ec steps (statics arts) n a).map (·.name)).filter
        (fun m => decide (m ∉ a.info.results.map (·.name))) ∧
    a'.info.weak =
      (a.info.weak || (newEntries var ver ec steps (statics arts) n a).any (·.result)) ∧
    a'.info.version =
      (if a.info.version = "" ∧ (newEntries var ver ec steps (statics arts) n a).isEmpty = false
       then ver else a.info.version) ∧
    (∀ s ∈ steps, (expectedEntry var ver ec s (statics arts) n a).isSome =
      (s.spec.issuer || applicable s.spec a)) := by
  obtain ⟨_, _, g⟩ := checkArtifacts_spec h
  obtain ⟨hres, hweak, hver⟩ := actsBy_merge (checkArtifacts_acts h ha ha')
  have hnew := newEntries_nodup var ver ec steps (statics arts) n a hnd
  have hper : ∀ nm, namedAs nm a'.info.results =
      match (newEntries var ver ec steps (statics arts) n a).find? (fun x => x.name = nm) with
      | some e => mergeInto (namedAs nm a.info.results) e
      | none => namedAs nm a.info.results := by
    intro nm; rw [hres]; exact namedAs_resAll _ _ hnew nm
  refine ⟨fun s hs e he => ?_, fun s hs he => ?_, fun nm hnm => ?_, ?_, hweak, hver,
    fun s hs => expectedEntry_isSome (g s hs) n a (List.mem_of_getElem? ha)⟩
  · have hn := hper s.spec.name
    rw [newEntries, find_expected var ver ec steps _ n a hnd s hs, he] at hn
    dsimp only at hn
    obtain ⟨m1, m2, _⟩ := mergeInto_read (namedAs s.spec.name a.info.results) e
    refine ⟨hn, ?_, ?_⟩
    · have := head_namedAs s.spec.name a'.info.results
      rw [hn, m1, head_namedAs] at this
      exact this.symm
    · rw [nameCount_eq_length_namedAs, nameCount_eq_length_namedAs, hn, m2]
  · have hn := hper s.spec.name
    rw [newEntries, find_expected var ver ec steps _ n a hnd s hs, he] at hn
    exact hn
  · have hn := hper nm
    rw [find_newEntries_foreign var ver ec steps _ n a nm hnm] at hn
    exact hn
  · rw [hres]; exact names_resAll _ _ hnew

/-- the weak flag after a run, as an equivalence: weak before, or some check of this run that
applies to the artefact is positive. -/
theorem preannotated_weak_iff (var : Variant) (ver : String) (ec : List CheckSpec)
    (steps : List Step) (arts arts' : List Artifact) (r : Bool)
    (hnd : (steps.map (·.spec.name)).Nodup)
    (h : checkArtifacts var ver ec steps arts = .ok (arts', r))
    (n : Nat) (a a' : Artifact) (ha : arts[n]? = some a) (ha' : arts'[n]? = some a') :
    a'.info.weak = true ↔ a.info.weak = true ∨
      ∃ s ∈ steps, ∃ e, expectedEntry var ver ec s (statics arts) n a = some e ∧
        e.result = true := by
  rw [(preannotated_entries var ver ec steps arts arts' r hnd h n a a' ha ha').2.2.2.2.1,
    Bool.or_eq_true, List.any_eq_true]
  constructor
  · rintro (hw | ⟨e, he, hr⟩)
    · exact Or.inl hw
    · obtain ⟨s, hs, hes⟩ := List.mem_filterMap.1 he
      exact Or.inr ⟨s, hs, e, hes, hr⟩
  · rintro (hw | ⟨s, hs, e, hes, hr⟩)
    · exact Or.inl hw
    · exact Or.inr ⟨e, List.mem_filterMap.2 ⟨s, hs, hes⟩, hr⟩

/-- every check but CheckIssuerKey: the new entry is `(check_name, this run's verdict, severity
rule)`; none if the check needs the curve and the curve is unknown. -/
theorem expected_generic (var : Variant) (ver : String) (ec : List CheckSpec) (s : Step)
    (st : List Artifact) (j : Nat) (a : Artifact) (hs : s.spec.issuer = false) :
    expectedEntry var ver ec s st j a =
      if applicable s.spec a then some (entryFor s.spec (s.verdict j)) else none :=
  expectedEntry_generic var ver ec s st j a hs

/-! ## the three entry points -/

/-- conclusion of the entry-point theorems for the registry `specs` (checks numbered in registry
order, `O j n` = verdict of check `j` on artefact `n`): -/
structure RegistryMerge (var : Variant) (specs : List CheckSpec) (O : Nat → Nat → Verdict)
    (I : Nat → Nat → Nat → Verdict) (arts : List Artifact) (n : Nat) (a a' : Artifact) : Prop where
  /-- a registered check (not CheckIssuerKey) that applies: merged entry, exactly one unless the
  artefact came with duplicates -/
  applies : ∀ (j : Nat) (c : CheckSpec), specs[j]? = some c → c.issuer = false → applicable c a = true →
    namedAs c.name a'.info.results =
      mergeInto (namedAs c.name a.info.results) (entryFor c (O j n)) ∧
    getTestResult a'.info c.name =
      some (mergeEntry (getTestResult a.info c.name) (entryFor c (O j n))) ∧
    nameCount c.name a'.info.results = max 1 (nameCount c.name a.info.results)
  /-- a registered check that does not apply (unknown curve): its entries are untouched -/
  skips : ∀ (j : Nat) (c : CheckSpec), specs[j]? = some c → c.issuer = false → applicable c a = false →
    namedAs c.name a'.info.results = namedAs c.name a.info.results
  /-- CheckIssuerKey always applies; `en` is the entry built from the checked issuer key -/
  issuer : ∀ (j : Nat) (c : CheckSpec), specs[j]? = some c → c.issuer = true →
    ∃ en, expectedEntry var Consts.libVersion ecAll ⟨c, O j, I j⟩ (statics arts) n a = some en ∧
      en.name = c.name ∧
      namedAs c.name a'.info.results = mergeInto (namedAs c.name a.info.results) en ∧
      getTestResult a'.info c.name = some (mergeEntry (getTestResult a.info c.name) en) ∧
      nameCount c.name a'.info.results = max 1 (nameCount c.name a.info.results)
  /-- names outside the registry are untouched -/
  foreign : ∀ nm, nm ∉ specs.map (·.name) →
    namedAs nm a'.info.results = namedAs nm a.info.results
  /-- old names in their order, then the registry names that apply and were missing, in registry
  order -/
  names : a'.info.results.map (·.name) = a.info.results.map (·.name) ++
    ((specs.filter (fun c => c.issuer || applicable c a)).map (·.name)).filter
      (fun m => decide (m ∉ a.info.results.map (·.name)))
  /-- weak: old flag OR some applicable check positive in this run -/
  weak : a'.info.weak = true ↔ a.info.weak = true ∨
    (∃ (j : Nat) (c : CheckSpec), specs[j]? = some c ∧ c.issuer = false ∧ applicable c a = true ∧
      (O j n).positive = true) ∨
    (∃ (j : Nat) (c : CheckSpec) (en : Entry), specs[j]? = some c ∧ c.issuer = true ∧
      expectedEntry var Consts.libVersion ecAll ⟨c, O j, I j⟩ (statics arts) n a = some en ∧
      en.result = true)
  /-- version: kept if non-empty, else the library version iff some registered check applies -/
  version : a'.info.version =
    (if a.info.version = "" ∧ (∃ c ∈ specs, (c.issuer || applicable c a) = true)
     then Consts.libVersion else a.info.version)

theorem registry_preannotated (var : Variant) (specs : List CheckSpec)
    (O : Nat → Nat → Verdict) (I : Nat → Nat → Nat → Verdict) (arts arts' : List Artifact)
    (r : Bool) (hnd : (specs.map (·.name)).Nodup)
    (h : checkArtifacts var Consts.libVersion ecAll (mkSteps specs O I) arts = .ok (arts', r))
    (n : Nat) (a a' : Artifact) (ha : arts[n]? = some a) (ha' : arts'[n]? = some a') :
    RegistryMerge var specs O I arts n a a' := by
  have hnd' := mkSteps_names_nodup specs O I hnd
  obtain ⟨h1, h2, h3, h4, _, h6, h7⟩ :=
    preannotated_entries var _ _ _ arts arts' r hnd' h n a a' ha ha'
  have hweak := preannotated_weak_iff var _ _ _ arts arts' r hnd' h n a a' ha ha'
  have hmem : ∀ j c, specs[j]? = some c → (⟨c, O j, I j⟩ : Step) ∈ mkSteps specs O I :=
    fun j c hc => mem_mkSteps.2 ⟨j, c, hc, rfl⟩
  have hspecs := mkSteps_names specs O I
  have hnames : (mkSteps specs O I).map (·.spec.name) = specs.map (·.name) := by
    conv => rhs; rw [← hspecs]
    rw [List.map_map]; rfl
  refine ⟨?_, ?_, ?_, ?_, ?_, ?_, ?_⟩
  · intro j c hc hiss happ
    have he : expectedEntry var Consts.libVersion ecAll ⟨c, O j, I j⟩ (statics arts) n a =
        some (entryFor c (O j n)) := by
      rw [expectedEntry_generic _ _ _ _ _ _ _ hiss]; simp [happ]
    exact h1 _ (hmem j c hc) _ he
  · intro j c hc hiss happ
    have he : expectedEntry var Consts.libVersion ecAll ⟨c, O j, I j⟩ (statics arts) n a = none := by
      rw [expectedEntry_generic _ _ _ _ _ _ _ hiss]; simp [happ]
    exact h2 _ (hmem j c hc) he
  · intro j c hc hiss
    have hsome := h7 _ (hmem j c hc)
    simp only [hiss, Bool.true_or] at hsome
    obtain ⟨en, hen⟩ := Option.isSome_iff_exists.1 hsome
    obtain ⟨x1, x2, x3⟩ := h1 _ (hmem j c hc) en hen
    exact ⟨en, hen, expectedEntry_name hen, x1, x2, x3⟩
  · intro nm hnm
    exact h3 nm (by rw [hnames]; exact hnm)
  · rw [h4, newEntries, names_expected_registry h7]
  · rw [hweak]
    constructor
    · rintro (hw | ⟨s, hs, e, hes, hr⟩)
      · exact Or.inl hw
      · obtain ⟨j, c, hc, rfl⟩ := mem_mkSteps.1 hs
        cases hiss : c.issuer with
        | false =>
          rw [expectedEntry_generic _ _ _ _ _ _ _ hiss] at hes
          by_cases happ : applicable c a = true
          · simp only [happ, if_true, Option.some.injEq] at hes
            subst hes
            exact Or.inr (Or.inl ⟨j, c, hc, hiss, happ, hr⟩)
          · simp [happ] at hes
        | true => exact Or.inr (Or.inr ⟨j, c, e, hc, hiss, hes, hr⟩)
    · rintro (hw | ⟨j, c, hc, hiss, happ, hpos⟩ | ⟨j, c, en, hc, hiss, hen, hr⟩)
      · exact Or.inl hw
      · refine Or.inr ⟨_, hmem j c hc, entryFor c (O j n), ?_, hpos⟩
        rw [expectedEntry_generic _ _ _ _ _ _ _ hiss]; simp [happ]
      · exact Or.inr ⟨_, hmem j c hc, en, hen, hr⟩
  · rw [h6]
    have : ((newEntries var Consts.libVersion ecAll (mkSteps specs O I) (statics arts) n a).isEmpty
        = false) ↔ ∃ c ∈ specs, (c.issuer || applicable c a) = true := by
      have hlen := congrArg List.length (names_expected_registry h7)
      rw [List.length_map, List.length_map] at hlen
      rw [← Bool.not_eq_true, List.isEmpty_iff, ← List.length_eq_zero_iff, newEntries, hlen,
        List.length_eq_zero_iff, List.filter_eq_nil_iff]
      simp only [Classical.not_forall, Classical.not_not, exists_prop]
    by_cases hv : a.info.version = ""
    · by_cases hx : ∃ c ∈ specs, (c.issuer || applicable c a) = true
      · rw [if_pos ⟨hv, this.2 hx⟩, if_pos ⟨hv, hx⟩]
      · rw [if_neg (fun hh => hx (this.1 hh.2)), if_neg (fun hh => hx hh.2)]
    · rw [if_neg (fun hh => hv hh.1), if_neg (fun hh => hv hh.1)]

/-- CheckAllRSA on RSA keys with ANY `test_info`.  Every registered RSA check applies to every key
(`rsa_checks_always_apply`), so after the run every name of the registry `rsaAll` has its merged
entry. -/
theorem checkAllRSA_preannotated (var : Variant) (O : Nat → Nat → Verdict)
    (I : Nat → Nat → Nat → Verdict) (arts arts' : List Artifact) (r : Bool)
    (h : checkAllRSA var O I arts = .ok (arts', r))
    (n : Nat) (a a' : Artifact) (ha : arts[n]? = some a) (ha' : arts'[n]? = some a') :
    RegistryMerge var rsaAll O I arts n a a' :=
  registry_preannotated var rsaAll O I arts arts' r C16.registry_names_nodup.1 h n a a' ha ha'

theorem rsa_checks_always_apply :
    ∀ c ∈ rsaAll, c.issuer = false ∧ ∀ a, applicable c a = true := by
  have h : ∀ c ∈ rsaAll, c.issuer = false ∧ c.needsCurve = false := by decide +kernel
  intro c hc
  exact ⟨(h c hc).1, fun a => by simp [applicable, (h c hc).2]⟩

/-- CheckAllEC on EC keys with ANY `test_info`. -/
theorem checkAllEC_preannotated (var : Variant) (O : Nat → Nat → Verdict)
    (I : Nat → Nat → Nat → Verdict) (arts arts' : List Artifact) (r : Bool)
    (h : checkAllEC var O I arts = .ok (arts', r))
    (n : Nat) (a a' : Artifact) (ha : arts[n]? = some a) (ha' : arts'[n]? = some a') :
    RegistryMerge var ecAll O I arts n a a' :=
  registry_preannotated var ecAll O I arts arts' r C16.registry_names_nodup.2.1 h n a a' ha ha'

/-- CheckAllECDSASigs on signatures with ANY `test_info`. -/
theorem checkAllECDSASigs_preannotated (var : Variant) (O : Nat → Nat → Verdict)
    (I : Nat → Nat → Nat → Verdict) (arts arts' : List Artifact) (r : Bool)
    (h : checkAllECDSASigs var O I arts = .ok (arts', r))
    (n : Nat) (a a' : Artifact) (ha : arts[n]? = some a) (ha' : arts'[n]? = some a') :
    RegistryMerge var ecdsaAll O I arts n a a' :=
  registry_preannotated var ecdsaAll O I arts arts' r C16.registry_names_nodup.2.2.1 h n a a' ha ha'

/-! ## Non-vacuity -/

/-- an EC key on secp256r1 (curve id 2) as an earlier run / a hand edit left it: a STALE POSITIVE
CheckWeakCurve entry with a foreign severity 7, a FOREIGN entry "Other", a stale NEGATIVE
CheckValidECKey entry with a lower severity, a DUPLICATE CheckWeakCurve entry, weak flag set,
version of another release. -/
def staleKey : Artifact :=
  ⟨⟨true, [⟨"CheckWeakCurve", true, 7⟩, ⟨"Other", true, 1⟩, ⟨"CheckValidECKey", false, 1⟩,
           ⟨"CheckWeakCurve", false, 0⟩], [], "0.9.0"⟩, 2, (5, 6)⟩

/-- the same key labelled with the unknown curve id 0, no version recorded. -/
def staleKeyUnknown : Artifact :=
  ⟨⟨false, [⟨"CheckWeakCurve", true, 7⟩, ⟨"Other", false, 1⟩], [], ""⟩, 0, (5, 6)⟩

/-- CheckAllEC where this run finds only CheckWeakECPrivateKey positive on the first key: the
stale positive entry stays positive with severity max(7, 2) = 7, its duplicate is untouched, the
stale negative CheckValidECKey entry gets severity max(1, 2) = 2, "Other" is untouched, the two
missing checks are appended in registry order, the version stays "0.9.0"; on the unknown curve
only CheckValidECKey applies: CheckWeakCurve's stale entry is untouched, the weak flag goes up
because CheckValidECKey is positive, the version is recorded. -/
example :
    (checkAllEC .repaired
      (fun j i => if (j = 2 ∧ i = 0) ∨ (j = 0 ∧ i = 1) then ⟨true, none, none⟩
                  else ⟨false, none, none⟩)
      (fun _ _ _ => ⟨false, none, none⟩) [staleKey, staleKeyUnknown]).map
      (fun p => (p.1.map (·.info), p.2)) =
    .ok ([⟨true, [⟨"CheckWeakCurve", true, 7⟩, ⟨"Other", true, 1⟩, ⟨"CheckValidECKey", false, 2⟩,
                  ⟨"CheckWeakCurve", false, 0⟩, ⟨"CheckWeakECPrivateKey", true, 4⟩,
                  ⟨"CheckECKeySmallDifference", false, 3⟩], [], "0.9.0"⟩,
          ⟨true, [⟨"CheckWeakCurve", true, 7⟩, ⟨"Other", false, 1⟩,
                  ⟨"CheckValidECKey", true, 2⟩], [], "1.1.1"⟩], true) := by
  decide +kernel

/-- the pieces of `RegistryMerge` on that run, evaluated: merge of a stale positive entry with a
negative verdict, count with a pre-existing duplicate, a skipped check. -/
example :
    mergeEntry (some ⟨"CheckWeakCurve", true, 7⟩) (entryFor ⟨"CheckWeakCurve", 2, true, false, false⟩
      ⟨false, none, none⟩) = ⟨"CheckWeakCurve", true, 7⟩ ∧
    mergeInto (namedAs "CheckWeakCurve" staleKey.info.results) ⟨"CheckWeakCurve", false, 2⟩ =
      [⟨"CheckWeakCurve", true, 7⟩, ⟨"CheckWeakCurve", false, 0⟩] ∧
    nameCount "CheckWeakCurve" staleKey.info.results = 2 ∧
    applicable ⟨"CheckWeakCurve", 2, true, false, false⟩ staleKeyUnknown = false ∧
    applicable ⟨"CheckValidECKey", 2, false, false, false⟩ staleKeyUnknown = true := by
  decide +kernel

/-- a pre-annotated signature through CheckAllECDSASigs: the stale POSITIVE CheckIssuerKey entry
(severity 4) survives a run in which the issuer key is healthy (new entry negative, severity 0);
a stale negative CheckNonceMSB entry turns positive. -/
example :
    (checkAllECDSASigs .repaired
      (fun j _ => if j = 2 then ⟨true, none, none⟩ else ⟨false, none, none⟩)
      (fun _ _ _ => ⟨false, none, none⟩)
      [⟨⟨true, [⟨"CheckIssuerKey", true, 4⟩, ⟨"CheckNonceMSB", false, 4⟩], [], "0.9.0"⟩,
        2, (5, 6)⟩]).map
      (fun p => (p.1.map (fun a => (a.info.weak, a.info.results.take 2, a.info.results.length)),
        p.2)) =
    .ok ([(true, [⟨"CheckIssuerKey", true, 4⟩, ⟨"CheckNonceMSB", true, 4⟩], 8)], true) := by
  decide +kernel

end Paranoid.C16Merge
