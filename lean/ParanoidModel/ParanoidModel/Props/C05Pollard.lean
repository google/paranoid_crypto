/-
Props/C05Pollard.lean — C05, the Pollard p-1 clause for the product the constructor of
`CheckPollardpm1` REALLY builds.

`Props/C05.lean pollard_flag` is stated for an arbitrary `m` with `g ∣ m`. Here `m` is the
constructor's product (Model/RsaChecks.lean `pollardProduct`) with the documented exponents
(`pollardExpsDocumented`; the float expression `int(math.log(bound, p))` is an oracle that the
harness compares with these exact values on every run, ops `chk.pm1_product` / `chk.pm1_exps`).
For the DEFAULT product the float values are the documented ones (gated on every run), so the
`default…` theorems are about the product the real default check uses. For USER bounds they are NOT
always: `int(math.log(243, 3)) = 4` (also 4913, 29791, 59049, 68921, 571787 below 2^20), there
`userM_dvd_iff` / `pollard_user_flag` describe the documented product, not the one the code builds;
the statements that are true of the code for every float answer are
`C05PollardExps.product_dvd_iff` / `pollard_flag_exps`:

 * `defaultM_dvd_iff`     g ∣ defaultM ↔ every prime power r^k ∣ g has k ≤ e_r, where
                          e_r = ⌊log_r 2^64⌋ for r ≤ 863 (the first 150 primes), 1 for 863 < r < 2^20,
                          0 for r ≥ 2^20   (`userM_dvd_iff`: the same for a user bound);
 * `pollard_default_flag` the composed statement for the default check;
 * `smooth_not_enough`, `literal_text_fails`: "2^20-smooth" in the property text has to be read
   as "divides the product": 1009^7 ≥ 2^60 is 2^20-smooth but does not divide the default product,
   and a concrete key with that shared factor is NOT flagged (PROPERTY-TEXT LIMITATION, reproduced
   on the real code: `Pollardpm1(n, default m) = (False, [])`).

The 1.5 Mbit product is never evaluated in the kernel: everything follows from
`sieve b = (List.range b).filter Nat.Prime` and unique factorisation
(Proofs/PollardProduct.lean); the only evaluated fact is π(863) = 150.
-/
import ParanoidModel.Props.C05
import ParanoidModel.Proofs.PollardProduct
import Mathlib.Tactic.NormNum.Prime
import Mathlib.Tactic.NormNum.GCD
namespace Paranoid.C05Pollard
open Paranoid Paranoid.PollardProduct

/-! ### the divisibility criterion -/

/-- readable form of `k ≤ defaultExp r`. -/
theorem le_defaultExp_iff (r k : Nat) (hr : 2 ≤ r) :
    k ≤ defaultExp r ↔
      k = 0 ∨ (r < 864 ∧ r ^ k ≤ 2 ^ 64) ∨ (864 ≤ r ∧ r < 2 ^ 20 ∧ k = 1) := by
  unfold defaultExp
  by_cases h1 : r < 864
  · rw [if_pos h1, Nat.le_log_iff_pow_le (by omega) (by positivity)]
    constructor
    · intro h; exact Or.inr (Or.inl ⟨h1, h⟩)
    · rintro (h | ⟨_, h⟩ | ⟨h, _⟩)
      · subst h; simp
      · exact h
      · omega
  · rw [if_neg h1]
    by_cases h2 : r < 2 ^ 20
    · rw [if_pos h2]; omega
    · rw [if_neg h2]; omega

/-- **Exact divisibility criterion for the DEFAULT product** (`CheckPollardpm1()` and, by Python
truthiness, `CheckPollardpm1(0)`): `g ∣ m` iff for every prime power `r^k ∣ g` (`k ≥ 1`):
`r^k ≤ 2^64` when `r ≤ 863`, and `k = 1`, `r < 2^20` otherwise. -/
theorem defaultM_dvd_iff (g : Nat) (hg : g ≠ 0) :
    g ∣ defaultM ↔ ∀ r k, r.Prime → r ^ k ∣ g →
      k = 0 ∨ (r < 864 ∧ r ^ k ≤ 2 ^ 64) ∨ (864 ≤ r ∧ r < 2 ^ 20 ∧ k = 1) := by
  rw [dvd_defaultM_iff_powerSmooth g hg]
  exact powerSmooth_iff_of_le_iff (fun r k hr => le_defaultExp_iff r k hr.two_le) g

/-- `defaultM` is the model's constructor product with the documented exponents, for `None` and for
`0` (`if bound:`); nothing else is assumed about it. -/
theorem defaultM_def :
    defaultM = pollardProduct none (pollardExpsDocumented none) ∧
    defaultM = pollardProduct (some 0) (pollardExpsDocumented (some 0)) ∧
    0 < defaultM := ⟨rfl, rfl, defaultM_pos⟩

/-- **Exact criterion for a user bound `b ≥ 1`, DOCUMENTED exponents**: `g ∣ m` iff `g` is
`b`-powersmooth with prime factors below `b`. This is the product `CheckPollardpm1(b)` really builds
iff the float expression returned `⌊log_r b⌋` for every prime — true for every `b ≤ 2^20` except the
prime powers 243, 4913, 29791, 59049, 68921, 571787 (measured; there the real product lacks one factor
`r`: `C05PollardExps.bound243_real_lacks_3pow5`). The criterion for the exponents actually used is
`C05PollardExps.product_dvd_iff`. -/
theorem userM_dvd_iff (b : Nat) (hb : b ≠ 0) (g : Nat) (hg : g ≠ 0) :
    g ∣ pollardProduct (some b) (pollardExpsDocumented (some b)) ↔
      ∀ r k, r.Prime → r ^ k ∣ g → k = 0 ∨ (r < b ∧ r ^ k ≤ b) := by
  show g ∣ documentedM (some b) ↔ _
  rw [dvd_documentedM_iff_powerSmooth b hb g hg]
  exact powerSmooth_iff_of_le_iff (fun r k hr => le_boundExp_iff b r k hb hr.two_le) g

/-! ### the composed Pollard clause for the default check -/

/-- **Pollard clause, default product.** `p-1` and `q-1` share a factor `g ≥ 2^60` whose prime
powers respect the exponents of the default product, and `p-1` is smooth enough
(`(p-1) ∣ (n-1)·m`): the key is flagged; it is factored as `[p, q]` unless `2^((n-1)m) ≡ 1 (mod q)`
too (then flagged without factors). -/
theorem pollard_default_flag {p q : Nat} (hp : p.Prime) (hq : q.Prime) (hpq : p ≠ q)
    (hpo : p % 2 = 1) (hqo : q % 2 = 1) (g : Nat) (hgp : g ∣ p - 1) (hgq : g ∣ q - 1)
    (hg : 2 ^ 60 ≤ g)
    (hsm : ∀ r k, r.Prime → r ^ k ∣ g →
      k = 0 ∨ (r < 864 ∧ r ^ k ≤ 2 ^ 64) ∨ (864 ≤ r ∧ r < 2 ^ 20 ∧ k = 1))
    (hp1 : (p - 1) ∣ (p * q - 1) * defaultM) :
    pollardPm1 (p * q) defaultM (2 ^ 60) =
      if 2 ^ ((p * q - 1) * defaultM) % q = 1 then (true, []) else (true, [p, q]) := by
  have hg0 : g ≠ 0 := by
    have : 0 < 2 ^ 60 := by positivity
    omega
  exact C05.pollard_flag hp hq hpq hpo hqo defaultM g (2 ^ 60) defaultM_pos hgp hgq
    ((defaultM_dvd_iff g hg0).mpr hsm) hg hp1

/-- the same when `p-1` itself divides the default product (every prime power of `p-1` within the
exponents): then ANY common factor `g ≥ 2^60` of `p-1` and `q-1` will do. -/
theorem pollard_default_flag_of_smooth {p q : Nat} (hp : p.Prime) (hq : q.Prime) (hpq : p ≠ q)
    (hpo : p % 2 = 1) (hqo : q % 2 = 1) (g : Nat) (hgp : g ∣ p - 1) (hgq : g ∣ q - 1)
    (hg : 2 ^ 60 ≤ g)
    (hsm : ∀ r k, r.Prime → r ^ k ∣ p - 1 →
      k = 0 ∨ (r < 864 ∧ r ^ k ≤ 2 ^ 64) ∨ (864 ≤ r ∧ r < 2 ^ 20 ∧ k = 1)) :
    pollardPm1 (p * q) defaultM (2 ^ 60) =
      if 2 ^ ((p * q - 1) * defaultM) % q = 1 then (true, []) else (true, [p, q]) := by
  have hp2 := hp.two_le
  have hpm : (p - 1) ∣ defaultM := (defaultM_dvd_iff (p - 1) (by omega)).mpr hsm
  exact pollard_default_flag hp hq hpq hpo hqo g hgp hgq hg
    (fun r k hr hk => hsm r k hr (Nat.dvd_trans hk hgp)) (Dvd.dvd.mul_left hpm _)

/-- "… unless both are smooth": when `q-1` is smooth enough as well the key is flagged WITHOUT
factors. (The converse is not claimed: `2^((n-1)m) ≡ 1 (mod q)` only needs the order of 2 modulo
`q` to divide `(n-1)·m`.) -/
theorem pollard_default_both_smooth {p q : Nat} (hp : p.Prime) (hq : q.Prime) (hpq : p ≠ q)
    (hpo : p % 2 = 1) (hqo : q % 2 = 1) (g : Nat) (hgp : g ∣ p - 1) (hgq : g ∣ q - 1)
    (hg : 2 ^ 60 ≤ g)
    (hsm : ∀ r k, r.Prime → r ^ k ∣ g →
      k = 0 ∨ (r < 864 ∧ r ^ k ≤ 2 ^ 64) ∨ (864 ≤ r ∧ r < 2 ^ 20 ∧ k = 1))
    (hp1 : (p - 1) ∣ (p * q - 1) * defaultM) (hq1 : (q - 1) ∣ (p * q - 1) * defaultM) :
    pollardPm1 (p * q) defaultM (2 ^ 60) = (true, []) := by
  rw [pollard_default_flag hp hq hpq hpo hqo g hgp hgq hg hsm hp1,
    if_pos (two_pow_mod_prime hq hqo hq1)]

/-- the user-bound version for the DOCUMENTED product of `CheckPollardpm1(b)`, `b ≥ 1`, shared factor
`b`-powersmooth. It is a statement about the real check only when the float exponents are the
documented ones (`C05PollardExps.pollard_user_flag_of_documented` makes that hypothesis explicit); for
`b = 243` it is NOT: `C05PollardExps.bound243_documented_vs_real` is a key that satisfies every
hypothesis here (also the non-vacuity example of this theorem) and that the real `CheckPollardpm1(243)`
does not flag. True of the code for every float answer: `C05PollardExps.pollard_flag_exps`. -/
theorem pollard_user_flag {p q : Nat} (hp : p.Prime) (hq : q.Prime) (hpq : p ≠ q)
    (hpo : p % 2 = 1) (hqo : q % 2 = 1) (b : Nat) (hb : b ≠ 0) (g gb : Nat)
    (hgp : g ∣ p - 1) (hgq : g ∣ q - 1) (hg : gb ≤ g) (hg0 : g ≠ 0)
    (hsm : ∀ r k, r.Prime → r ^ k ∣ g → k = 0 ∨ (r < b ∧ r ^ k ≤ b))
    (hp1 : (p - 1) ∣ (p * q - 1) * pollardProduct (some b) (pollardExpsDocumented (some b))) :
    pollardPm1 (p * q) (pollardProduct (some b) (pollardExpsDocumented (some b))) gb =
      if 2 ^ ((p * q - 1) * pollardProduct (some b) (pollardExpsDocumented (some b))) % q = 1
      then (true, []) else (true, [p, q]) :=
  C05.pollard_flag hp hq hpq hpo hqo _ g gb (documentedM_pos (some b)) hgp hgq
    ((userM_dvd_iff b hb g hg0).mpr hsm) hg hp1

/-! ### non-vacuity: a key whose shared factor contains prime POWERS within the limits -/

theorem powerSmooth_prime_pow {E : Nat → Nat} {r k : Nat} (hr : r.Prime) (hk : k ≤ E r) :
    PowerSmooth E (r ^ k) := by
  intro s j hs hj
  obtain ⟨m, hm, heq⟩ := (Nat.dvd_prime_pow hr).mp hj
  rcases Nat.eq_zero_or_pos j with h0 | hpos
  · omega
  · have hsr : s ∣ r ^ m := heq ▸ dvd_pow_self s (by omega)
    have : s = r := (Nat.prime_dvd_prime_iff_eq hs hr).mp (hs.dvd_of_dvd_pow hsr)
    subst this
    have : j = m := Nat.pow_right_injective hs.two_le heq
    omega

theorem PowerSmooth.mul {E : Nat → Nat} {a b : Nat} (ha : PowerSmooth E a) (hb : PowerSmooth E b)
    (hab : Nat.Coprime a b) : PowerSmooth E (a * b) := by
  intro r k hr hk
  by_cases hra : r ∣ a
  · have hrb : Nat.Coprime (r ^ k) b :=
      Nat.Coprime.pow_left k (Nat.Coprime.coprime_dvd_left hra hab)
    exact ha r k hr (hrb.dvd_of_dvd_mul_right hk)
  · have hra' : Nat.Coprime (r ^ k) a :=
      Nat.Coprime.pow_left k ((Nat.Prime.coprime_iff_not_dvd hr).mpr hra)
    exact hb r k hr (hra'.dvd_of_dvd_mul_left hk)

/-- `2^a·3^b·863²·1009` is within the exponents of the default product for `a ≤ 64`, `b ≤ 40`. -/
theorem smooth4_dvd_defaultM (a b : Nat) (ha : a ≤ 64) (hb : b ≤ 40) :
    2 ^ a * 3 ^ b * 863 ^ 2 * 1009 ^ 1 ∣ defaultM := by
  have h863 : Nat.Prime 863 := by norm_num
  have h1009 : Nat.Prime 1009 := by norm_num
  refine (dvd_defaultM_iff_powerSmooth _ (by positivity)).mpr ?_
  refine PowerSmooth.mul (PowerSmooth.mul (PowerSmooth.mul
    (powerSmooth_prime_pow Nat.prime_two ?_)
    (powerSmooth_prime_pow Nat.prime_three ?_) ?_)
    (powerSmooth_prime_pow h863 ?_) ?_) (powerSmooth_prime_pow h1009 ?_) ?_
  · exact (le_defaultExp_iff 2 a (by norm_num)).mpr
      (Or.inr (Or.inl ⟨by norm_num, Nat.pow_le_pow_right (by norm_num) ha⟩))
  · refine (le_defaultExp_iff 3 b (by norm_num)).mpr (Or.inr (Or.inl ⟨by norm_num, ?_⟩))
    exact le_trans (Nat.pow_le_pow_right (by norm_num) hb) (by norm_num)
  · exact Nat.Coprime.pow _ _ (by norm_num)
  · exact (le_defaultExp_iff 863 2 (by norm_num)).mpr (Or.inr (Or.inl (by norm_num)))
  · exact Nat.Coprime.mul_left (Nat.Coprime.pow _ _ (by norm_num))
      (Nat.Coprime.pow _ _ (by norm_num))
  · exact (le_defaultExp_iff 1009 1 (by norm_num)).mpr (Or.inr (Or.inr (by norm_num)))
  · rw [pow_one]
    exact Nat.Coprime.mul_left (Nat.Coprime.mul_left (Nat.Coprime.pow_left _ (by norm_num))
      (Nat.Coprime.pow_left _ (by norm_num))) (Nat.Coprime.pow_left _ (by norm_num))

/-- `p - 1 = 2^64 · 3^31 · 863^2 · 1009`, `q - 1 = 2^20 · 3^10 · 863^2 · 1009 · 2097257`: the shared
factor `g = 2^20·3^10·863^2·1009 ≥ 2^60` contains prime powers, all within the exponents of the
default product; `p - 1` divides it, `q - 1` does not (2097257 > 2^20). The hypotheses of
`pollard_default_flag_of_smooth` hold; the real `CheckPollardpm1()` returns both primes for this key
(harness case `power-in-witness`, evaluated on every run). -/
example :
    Nat.Prime 8562318457488567634551083203943137586184193 ∧
    Nat.Prime 97583607849372129325744129 ∧
    (2 ^ 20 * 3 ^ 10 * 863 ^ 2 * 1009 ∣ 8562318457488567634551083203943137586184193 - 1) ∧
    (2 ^ 20 * 3 ^ 10 * 863 ^ 2 * 1009 ∣ 97583607849372129325744129 - 1) ∧
    2 ^ 60 ≤ 2 ^ 20 * 3 ^ 10 * 863 ^ 2 * 1009 ∧
    (∀ r k, r.Prime → r ^ k ∣ 8562318457488567634551083203943137586184193 - 1 →
      k = 0 ∨ (r < 864 ∧ r ^ k ≤ 2 ^ 64) ∨ (864 ≤ r ∧ r < 2 ^ 20 ∧ k = 1)) := by
  refine ⟨?_, ?_, ?_, ?_, by norm_num, ?_⟩
  · exact Pratt.prime_of_fastCert ⟨8562318457488567634551083203943137586184193,
      [⟨8562318457488567634551083203943137586184193, 10, [(2, 64), (3, 31), (863, 2), (1009, 1)]⟩]⟩
      _ (by decide +kernel)
  · exact Pratt.prime_of_fastCert ⟨97583607849372129325744129,
      [⟨2097257, 3, [(2, 3), (7, 1), (17, 1), (2203, 1)]⟩,
       ⟨97583607849372129325744129, 13, [(2, 20), (3, 10), (863, 2), (1009, 1), (2097257, 1)]⟩]⟩
      _ (by decide +kernel)
  · exact ⟨2 ^ 44 * 3 ^ 21, by norm_num⟩
  · exact ⟨2097257, by norm_num⟩
  · have heq : 8562318457488567634551083203943137586184193 - 1 =
        2 ^ 64 * 3 ^ 31 * 863 ^ 2 * 1009 ^ 1 := by norm_num
    exact (defaultM_dvd_iff _ (by norm_num)).mp
      (heq ▸ smooth4_dvd_defaultM 64 31 (Nat.le_refl _) (by norm_num))

/-! ### the literal property text is too strong: "2^20-smooth" ≠ "divides the product" -/

/-- `1009^7 ≥ 2^60` is `2^20`-smooth (its only prime factor is 1009) but does NOT divide the
default product, which contains 1009 only once (1009 is the 169th prime, beyond the 150 raised
ones). -/
theorem smooth_not_enough :
    2 ^ 60 ≤ 1009 ^ 7 ∧ (∀ r, r.Prime → r ∣ 1009 ^ 7 → r < 2 ^ 20) ∧ ¬ 1009 ^ 7 ∣ defaultM := by
  have h1009 : Nat.Prime 1009 := by norm_num
  refine ⟨by norm_num, ?_, ?_⟩
  · intro r hr hd
    have : r = 1009 := (Nat.prime_dvd_prime_iff_eq hr h1009).mp (hr.dvd_of_dvd_pow hd)
    subst this; norm_num
  · intro h
    have := (defaultM_dvd_iff (1009 ^ 7) (by norm_num)).mp h 1009 7 h1009 (dvd_refl _)
    norm_num at this

/-- primality of the numbers of the witness (Pratt certificates, Proofs/Pratt.lean). -/
theorem witness_primes :
    Nat.Prime 25553441901090092879257 ∧ Nat.Prime 2233202595329425274535519299 ∧
    Nat.Prime 28478672841607973745406249 ∧ Nat.Prime 1048721 := by
  refine ⟨?_, ?_, ?_, ?_⟩
  · exact Pratt.prime_of_fastCert ⟨25553441901090092879257,
      [⟨25553441901090092879257, 5, [(2, 3), (3, 1), (1009, 7)]⟩]⟩ _ (by decide +kernel)
  · exact Pratt.prime_of_fastCert ⟨2233202595329425274535519299,
      [⟨1048721, 3, [(2, 4), (5, 1), (13109, 1)]⟩,
       ⟨2233202595329425274535519299, 2, [(2, 1), (1009, 7), (1048721, 1)]⟩]⟩ _
      (by decide +kernel)
  · exact Pratt.prime_of_fastCert ⟨28478672841607973745406249,
      [⟨17485729, 11, [(2, 5), (3, 1), (13, 1), (14011, 1)]⟩,
       ⟨90787, 3, [(2, 1), (3, 1), (15131, 1)]⟩,
       ⟨8533979, 2, [(2, 1), (47, 1), (90787, 1)]⟩,
       ⟨17067959, 17, [(2, 1), (8533979, 1)]⟩,
       ⟨295831, 3, [(2, 1), (3, 2), (5, 1), (19, 1), (173, 1)]⟩,
       ⟨2958311, 13, [(2, 1), (5, 1), (295831, 1)]⟩,
       ⟨5916623, 5, [(2, 1), (2958311, 1)]⟩,
       ⟨3975970657, 5, [(2, 5), (3, 1), (7, 1), (5916623, 1)]⟩,
       ⟨28478672841607973745406249, 11,
         [(2, 3), (3, 1), (17067959, 1), (17485729, 1), (3975970657, 1)]⟩]⟩ _ (by decide +kernel)
  · exact Pratt.prime_of_fastCert ⟨1048721, [⟨1048721, 3, [(2, 4), (5, 1), (13109, 1)]⟩]⟩ _
      (by decide +kernel)

/-- the witness for ANY product `m` that contains `2^3·3`, 1009 at most once, and neither the prime
1048721 nor the 85-bit prime `P` (`n - 1 = 1009^7 · 1882 · P`): `p - 1` is smooth enough, `q - 1`
is not, and the gcd gate `gcd(n-1, m) ≥ 2^60` stays closed. -/
theorem witness_generic (m : Nat) (h24 : 24 ∣ m) (hnoP : ¬ 28478672841607973745406249 ∣ m)
    (hnokq : ¬ 1048721 ∣ m) (hno1009 : ¬ 1009 ^ 2 ∣ m) :
    (25553441901090092879257 - 1) ∣
      (25553441901090092879257 * 2233202595329425274535519299 - 1) * m ∧
    ¬ (2233202595329425274535519299 - 1) ∣
      (25553441901090092879257 * 2233202595329425274535519299 - 1) * m ∧
    pollardPm1 (25553441901090092879257 * 2233202595329425274535519299) m (2 ^ 60) =
      (false, []) := by
  obtain ⟨-, -, hP, hkq⟩ := witness_primes
  have h1009 : Nat.Prime 1009 := by norm_num
  have hn1 : 25553441901090092879257 * 2233202595329425274535519299 - 1 =
      1009 ^ 7 * 1882 * 28478672841607973745406249 := by norm_num
  rw [hn1]
  refine ⟨?_, ?_, ?_⟩
  · have : 25553441901090092879257 - 1 = 1009 ^ 7 * 24 := by norm_num
    rw [this, Nat.mul_assoc (1009 ^ 7), Nat.mul_assoc (1009 ^ 7)]
    exact Nat.mul_dvd_mul_left _ (Dvd.dvd.mul_left h24 _)
  · intro h
    have hk : 1048721 ∣ 1009 ^ 7 * 1882 * 28478672841607973745406249 * m :=
      Nat.dvd_trans ⟨2 * 1009 ^ 7, by norm_num⟩ h
    rcases (Nat.Prime.dvd_mul hkq).mp hk with h1 | h1
    · norm_num at h1
    · exact hnokq h1
  · have hd1 := Nat.gcd_dvd_left (1009 ^ 7 * 1882 * 28478672841607973745406249) m
    have hdm := Nat.gcd_dvd_right (1009 ^ 7 * 1882 * 28478672841607973745406249) m
    have hcop : Nat.Coprime (Nat.gcd (1009 ^ 7 * 1882 * 28478672841607973745406249) m)
        28478672841607973745406249 :=
      Nat.Coprime.symm ((Nat.Prime.coprime_iff_not_dvd hP).mpr fun h => hnoP (Nat.dvd_trans h hdm))
    have hd2 := hcop.dvd_of_dvd_mul_right hd1
    have hd3 := dvd_of_dvd_pow_mul h1009 (by norm_num) hd2 fun h => hno1009 (Nat.dvd_trans h hdm)
    have hle := Nat.le_of_dvd (by norm_num) hd3
    unfold pollardPm1
    rw [hn1, if_neg]
    have : (1009 : Nat) * 1882 < 2 ^ 60 := by norm_num
    omega

/-- **PROPERTY-TEXT LIMITATION (kernel-checked witness).** With `g = 1009^7` (`2^20`-smooth,
`≥ 2^60`), `p = 24g + 1`, `q = 2·1048721·g + 1` (both prime, Pratt certificates): `g` divides `p-1`
and `q-1`, `p-1` is smooth enough for the default product (`(p-1) ∣ (n-1)·m`; even `24 ∣ m`), `q-1`
is not — and `Pollardpm1(n, m)` returns `(False, [])`, because `gcd(n-1, m)` divides `1009·1882` and
so stays below the gate `2^60` (`n - 1 = 1009^7 · 1882 · P`, `P` an 85-bit prime). The real code
agrees (harness case `literal-witness`: implementation on every run, model in the thorough tier). Hence the literal wording "share a
2^20-smooth factor of at least 2^60" must be read as "share a factor of at least 2^60 that divides
the Pollard product" (`pollard_default_flag`). -/
theorem literal_text_fails :
    ∃ p q g : Nat, p.Prime ∧ q.Prime ∧ p ≠ q ∧ g ∣ p - 1 ∧ g ∣ q - 1 ∧ 2 ^ 60 ≤ g ∧
      (∀ r, r.Prime → r ∣ g → r < 2 ^ 20) ∧
      (p - 1) ∣ (p * q - 1) * defaultM ∧ ¬ (q - 1) ∣ (p * q - 1) * defaultM ∧
      pollardPm1 (p * q) defaultM (2 ^ 60) = (false, []) := by
  obtain ⟨hp, hq, hP, hkq⟩ := witness_primes
  have h1009 : Nat.Prime 1009 := by norm_num
  have hnoP : ¬ 28478672841607973745406249 ∣ defaultM := fun h => by
    have := (defaultM_dvd_iff _ (by norm_num)).mp h _ 1 hP (by rw [pow_one])
    norm_num at this
  have hnokq : ¬ 1048721 ∣ defaultM := fun h => by
    have := (defaultM_dvd_iff _ (by norm_num)).mp h _ 1 hkq (by rw [pow_one])
    norm_num at this
  have hno1009 : ¬ 1009 ^ 2 ∣ defaultM := fun h => by
    have := (defaultM_dvd_iff _ (by norm_num)).mp h 1009 2 h1009 (dvd_refl _)
    norm_num at this
  have h24 : 24 ∣ defaultM :=
    Nat.dvd_trans ⟨863 ^ 2 * 1009, by norm_num⟩ (smooth4_dvd_defaultM 3 1 (by norm_num) (by norm_num))
  obtain ⟨w1, w2, w3⟩ := witness_generic defaultM h24 hnoP hnokq hno1009
  exact ⟨25553441901090092879257, 2233202595329425274535519299, 1009 ^ 7, hp, hq, by norm_num,
    ⟨24, by norm_num⟩, ⟨2 * 1048721, by norm_num⟩, smooth_not_enough.1, smooth_not_enough.2.1,
    w1, w2, w3⟩

end Paranoid.C05Pollard
