/-
Props/C12.lean — "NIST SP 800-22 statistics and p-values are computed as specified".
Property theorems only; helper lemmas live in Proofs/Nist.lean, Proofs/NistTables.lean and
Proofs/Nist2Runs.lean.  The insufficient-data conditions of section A are the instances "InsufficientDataError" /
"some exception" of the full raise sets of Props/C12Errors.lean.

What is proved here is the EXACT part of every test (Model/Nist.lean): parameter ladders and
the insufficient-data conditions, the integer statistic as the definition of NIST SP 800-22
over the bit list ε₁ … εₙ (`bitList bits n`, ε₁ = least significant bit), its invariances, the
tables that are rationally derivable, and the ranges that put every special-function argument in
its domain.  Everything floating point (erfc, igamc, erf, log, sqrt, the value of the p-value) is
NOT proved: it is re-evaluated with mpmath by harness/corr/c12.py on every run.

All statements are universally quantified over the bit string (`bits n : Nat`, no size bound) and
over the optional parameters.  The model follows the repairs D4, D10–D14, D19 (fixes/*.diff); the pinned
D4 (`Variant.pinned`) and D19 (`universalLPinned`) are refuted on concrete witnesses (`…_pinned_fails`).
-/
import ParanoidModel.Proofs.Nist2Runs
import ParanoidModel.Props.C12Errors
namespace Paranoid.C12
open Paranoid Paranoid.Nist

/-! ## A. Parameter ladders and insufficient-data conditions (★) -/

/-- `BlockFrequency` raises (InsufficientDataError, and nothing else) exactly for n < 100. -/
theorem blockFrequency_insufficient_iff (bits n : Nat) :
    (∃ e, blockFrequency bits n = .error e) ↔ n < 100 := by
  simp only [C12Errors.blockFrequency_raises, exists_and_left, exists_eq, and_true]

theorem blockFrequency_only_insufficient (bits n : Nat) (e : PyErr)
    (h : blockFrequency bits n = .error e) : e = .insufficientData :=
  ((C12Errors.blockFrequency_raises bits n e).mp h).2

/-- chosen block size: M ≥ 20, fewer than 100 blocks (hence M > n/100, NIST 2.2.7), and M is 20
or the smallest of 32, 64, 128, … with fewer than 100 blocks; at least one block exists. -/
theorem blockFrequency_block_size (bits n : Nat) (o : BlockFreqOut) (h : blockFrequency bits n = .ok o) :
    o.m = bfBlockSize n ∧ 20 ≤ o.m ∧ n / o.m < 100 ∧ 0 < o.counts.length ∧
      (o.m = 20 ∨ ((∃ k, o.m = 16 * 2 ^ k) ∧ 100 ≤ n / (o.m / 2))) := by
  obtain ⟨_, hm, _, _, _⟩ := blockFrequency_ok bits n o h
  have hs := bfBlockSize_spec n
  rw [← hm] at hs
  exact ⟨hm, hs.1, hs.2.1, blockFrequency_blocks_pos bits n o h, hs.2.2⟩

/-- `LongestRuns` raises exactly for n < 128 (NIST 2.4.7). -/
theorem longestRuns_insufficient_iff (bits n : Nat) :
    (∃ e, longestRuns bits n = .error e) ↔ n < 128 := by
  simp only [C12Errors.longestRuns_raises, exists_and_left, exists_eq, and_true]

/-- parameter set (M, v_lower, v_upper) by the thresholds 128 / 6272 / 750000 (NIST 2.4.2). -/
theorem longestRuns_params (n : Nat) :
    (lrParams n = none ↔ n < 128) ∧
    (lrParams n = some (8, 1, 4) ↔ 128 ≤ n ∧ n < 6272) ∧
    (lrParams n = some (128, 4, 9) ↔ 6272 ≤ n ∧ n < 750000) ∧
    (lrParams n = some (10000, 10, 16) ↔ 750000 ≤ n) := lrParams_spec n

/-- the thresholds, block sizes and class bounds in the source are the ones of the model. -/
theorem longestRuns_params_source :
    Paranoid.Consts.Nist.longestRunsParams.map (fun p => (p.1, p.2.1, p.2.2.1, p.2.2.2.1)) =
      [(128, 8, 1, 4), (6272, 128, 4, 9), (750000, 10000, 10, 16)] := by decide

/-- `BinaryMatrixRank` with `check_size` raises InsufficientDataError exactly for n < 38·r·c
(NIST 2.5.7), for every admissible shape 1 ≤ k ≤ min(r, c). -/
theorem rank_insufficient_iff (bits n r c k : Nat) (hk : 1 ≤ k) (hkm : k ≤ min r c) :
    binaryMatrixRank bits n r c k true = .error .insufficientData ↔ n < 38 * r * c := by
  rw [← C12Errors.rank_insufficient_iff .clean bits n r c k hk hkm, binaryMatrixRankF, thenChi_clean]

/-- `Universal` raises InsufficientDataError exactly for n < 387840 (NIST 2.9.7). -/
theorem universal_insufficient_iff (bits n : Nat) :
    universal bits n = .error .insufficientData ↔ n < 387840 :=
  (C12Errors.universal_raises bits n _).trans (and_iff_left rfl)

/-- block size: L = max {L | min_n L ≤ n}, Q = 10·2^L, K = ⌊n/L⌋ − Q; the `min_n` table of the
source is the model's. (Repaired behaviour; the pinned code takes the minimum: `universal_pinned_fails`.) -/
theorem universal_block_size (bits n : Nat) (o : UniversalOut) (h : universal bits n = .ok o) :
    ((∃ b, (o.blockSize, b) ∈ Paranoid.Consts.Nist.universalMinN ∧ b ≤ n) ∧
      ∀ L' b', (L', b') ∈ Paranoid.Consts.Nist.universalMinN → b' ≤ n → L' ≤ o.blockSize) ∧
    o.q = 10 * 2 ^ o.blockSize ∧ o.k = n / o.blockSize - o.q := by
  obtain ⟨hL, hq, hk⟩ := universal_ok_params bits n o h
  rw [← universalMinN_eq_consts]
  exact ⟨(universalL_spec n o.blockSize).mp hL, hq, hk⟩

/-- D19: for n = 904960 NIST prescribes L = 7, the pinned `min(...)` gives L = 6. -/
theorem universal_pinned_fails : universalLPinned 904960 = some 6 ∧ universalL 904960 = some 7 := by
  decide

/-- `LinearComplexity` raises InsufficientDataError exactly for block_size < 10 or fewer than 200
blocks, whatever the oracle (Berlekamp–Massey) answers. -/
theorem linearComplexity_insufficient_iff (n bs : Nat) (cs : List Nat) :
    linearComplexity n bs cs = .error .insufficientData ↔ bs < 10 ∨ bs * 200 > n := by
  simp only [C12Errors.linearComplexity_raises, reduceCtorEq, and_false, or_false, and_true, gt_iff_lt]

/-- template length of `NonOverlappingTemplateMatching` by block size. -/
theorem nonOverlapping_template_size (bs : Nat) :
    (notmM bs = none ↔ bs < 4) ∧
    (notmM bs = some 2 ↔ 4 ≤ bs ∧ bs < 64) ∧ (notmM bs = some 3 ↔ 64 ≤ bs ∧ bs < 256) ∧
    (notmM bs = some 4 ↔ 256 ≤ bs ∧ bs < 1024) ∧ (notmM bs = some 5 ↔ 1024 ≤ bs ∧ bs < 2048) ∧
    (notmM bs = some 6 ↔ 2048 ≤ bs ∧ bs < 4096) ∧ (notmM bs = some 7 ↔ 4096 ≤ bs ∧ bs < 8192) ∧
    (notmM bs = some 8 ↔ 8192 ≤ bs ∧ bs < 16384) ∧ (notmM bs = some 9 ↔ 16384 ≤ bs ∧ bs < 32768) ∧
    (notmM bs = some 10 ↔ 32768 ≤ bs) := notmM_spec bs

/-- default m_max of `Serial`: the largest m with m < ⌊log₂ n⌋ − 2 (NIST 2.11.7), within [2, 22]. -/
theorem serial_m_max (n : Nat) :
    2 ≤ serialMMax n ∧ serialMMax n ≤ 22 ∧
      (32 ≤ n → serialMMax n + 3 ≤ Nat.log2 n ∧ (serialMMax n = 22 ∨ serialMMax n + 3 = Nat.log2 n)) :=
  serialMMax_spec n

/-- default m_max of `ApproximateEntropy`: never above NIST's bound m < ⌊log₂ n⌋ − 5 (2.12.7) and
one / two / three less for n ≥ 2^16 / 2^20 / 2^24 (capped at 22), as documented in the code. -/
theorem apen_m_max (n : Nat) (hn : 256 ≤ n) :
    2 ≤ apenMMax n ∧ apenMMax n ≤ 22 ∧ apenMMax n + 6 ≤ Nat.log2 n ∧
    (n < 2 ^ 16 → apenMMax n + 6 = Nat.log2 n) ∧
    (2 ^ 16 ≤ n → n < 2 ^ 20 → apenMMax n + 7 = Nat.log2 n) ∧
    (2 ^ 20 ≤ n → n < 2 ^ 24 → apenMMax n + 8 = Nat.log2 n) ∧
    (2 ^ 24 ≤ n → apenMMax n = min 22 (Nat.log2 n - 9)) := by
  have h8 : 8 ≤ Nat.log2 n := by rw [Nat.le_log2 (by omega)]; omega
  have hbl := bitLength_eq n (by omega)
  have l16 : 2 ^ 16 ≤ n ↔ 16 ≤ Nat.log2 n := (Nat.le_log2 (by omega)).symm
  have l20 : 2 ^ 20 ≤ n ↔ 20 ≤ Nat.log2 n := (Nat.le_log2 (by omega)).symm
  have l24 : 2 ^ 24 ≤ n ↔ 24 ≤ Nat.log2 n := (Nat.le_log2 (by omega)).symm
  unfold apenMMax
  rw [hbl]
  split_ifs <;> omega

/-- `LargeBinaryMatrixRank` raises exactly for n < 4096. -/
theorem largeRank_insufficient_iff (bits n : Nat) :
    (∃ e, largeBinaryMatrixRank bits n = .error e) ↔ n < 4096 := by
  simp only [C12Errors.largeRank_raises, exists_and_left, exists_eq, and_true]

/-! ## B. The exact statistic is the NIST definition over the bit list (★) -/

/-- the bit list is ε_{i+1} = bit i of `bits`, i < n. -/
theorem bitList_spec (bits n : Nat) :
    bitList bits n = (List.range n).map (fun i => bits.testBit i) := by
  rw [bitList_eq, bitsSmall_testBit]

/-- 2.1.4: s_obs·√n = |S_n| = |Σ (2εᵢ − 1)|; the only exception is the division by √0. -/
theorem frequency_statistic (bits n a m : Nat) (h : frequency bits n = .ok (a, m)) :
    m = n ∧ 0 < n ∧ (a : Int) = |walkSum (bitList bits n)| := by
  obtain ⟨h1, h2, h3⟩ := frequency_ok bits n a m h
  exact ⟨h1, h2, by rw [h3, freqStat_eq]⟩

theorem frequency_raises_iff (bits n : Nat) : (∃ e, frequency bits n = .error e) ↔ n = 0 := by
  simp only [C12Errors.frequency_raises, exists_and_left, exists_eq, and_true]

/-- 2.3.4: π = (#ones)/n and V_n(obs) = Σ_{k<n} [ε_k ≠ ε_{k+1}] + 1; the result is the degenerate
case (p = 0, D13) exactly when π(1−π) = 0, and otherwise 0 < #ones < n (positive denominator). -/
theorem runs_statistic (bits n : Nat) (o : RunsOut) (h : runs bits n = .ok o) :
    0 < n ∧
    (o = .degenerate ↔ ones (bitList bits n) = 0 ∨ ones (bitList bits n) = n) ∧
    ∀ pop v m, o = .stat pop v m →
      m = n ∧ pop = ones (bitList bits n) ∧ 0 < pop ∧ pop < n ∧
      v = (List.range (n - 1)).countP (fun k => (bitList bits n)[k]? != (bitList bits n)[k + 1]?) + 1 := by
  obtain ⟨hn, ho⟩ := runs_ok bits n o h
  refine ⟨hn, ?_, ?_⟩
  · rw [ho]; unfold runsOfCounts; split <;> simp_all
  · intro pop v m hs
    rw [ho] at hs
    have hle : ones (bitList bits n) ≤ n := by
      have := ones_le_length (bitList bits n); rwa [bitList_length] at this
    obtain ⟨h1, h2, h3, h4, h5⟩ := runsOfCounts_stat _ _ _ _ _ _ hs hle
    refine ⟨h3, h1, by omega, by omega, ?_⟩
    rw [h2]
    unfold runsCount
    have hne : (bitList bits n).isEmpty = false := by
      cases hl : bitList bits n with
      | nil => have := bitList_length bits n; rw [hl] at this; simp at this; omega
      | cons a l => rfl
    rw [hne, transitions_index, bitList_length]
    simp

/-- 2.2.4: the blocks are the consecutive M-bit pieces, the counts their numbers of ones, and
num/den = χ²(obs) = 4M Σ (πᵢ − ½)². -/
theorem blockFrequency_statistic (bits n : Nat) (o : BlockFreqOut) (h : blockFrequency bits n = .ok o) :
    o.counts = ((List.range (n / o.m)).map (fun i => ((bitList bits n).drop (i * o.m)).take o.m)).map ones ∧
    ((o.num : ℚ) / o.den) = 4 * o.m * (o.counts.map (fun (c : Nat) => ((c : ℚ) / o.m - 1 / 2) ^ 2)).sum := by
  obtain ⟨_, hm, hd, hc, hn⟩ := blockFrequency_ok bits n o h
  have h20 := (bfBlockSize_spec n).1
  constructor
  · rw [hc, chunks_spec, bitList_length, hm]
  · have := blockFrequency_chi o.m (by omega) o.counts
    simp only [blockFrequencyImpl] at this
    rw [hn, hd, ← hm]
    exact this

/-- 2.4.4: `hist[i]` = number of M-bit blocks whose longest run of ones falls in class i
(≤ v_lower, v_lower+1, …, ≥ v_upper) … -/
theorem longestRuns_histogram (bits n : Nat) (o : LongestRunsOut) (h : longestRuns bits n = .ok o) :
    lrParams n = some (o.m, o.vLower, o.vUpper) ∧
    o.hist = (List.range (o.vUpper - o.vLower + 1)).map (fun i =>
      ((chunks (bitList bits n) o.m).map (fun b => lrClass o.vLower o.vUpper (longestRun b))).count i) := by
  unfold longestRuns at h
  split at h
  · cases h
  · rename_i m vl vu hp
    simp only [Except.ok.injEq] at h
    subst h
    simp [longestRunsWith, tally_spec, hp]

/-- … where the longest run of a block is the largest k such that k consecutive ones occur. -/
theorem longestRun_spec (l : List Bool) (k : Nat) (hk : 1 ≤ k) :
    k ≤ longestRun l ↔ ∃ i, ∀ j < k, l[i + j]? = some true := by
  rw [longestRun_eq_tailsMax, le_tailsMax_iff l k hk]
  constructor
  · rintro ⟨i, hi⟩
    refine ⟨i, fun j hj => ?_⟩
    have := (le_leadOnes_iff _ _).mp hi j hj
    simpa [List.getElem?_drop] using this
  · rintro ⟨i, hi⟩
    refine ⟨i, (le_leadOnes_iff _ _).mpr fun j hj => ?_⟩
    simpa [List.getElem?_drop] using hi j hj

/-- 2.13.4 cusum: z_fwd = max_k |S_k|, z_bwd = max_k |S_n − S_k| (k = 0 … n);
2.14.4: J = (number of k ≤ n with S_k = 0) + 1 — the zero crossings of S′ = 0, S₁, …, Sₙ, 0 —
and, when J ≥ 500, for every state x the histogram of min(max_cnt, visits to x per cycle);
2.15.4: ξ(x) = total number of visits. Below 500 cycles no excursion p-value is computed.
(Repaired code; for the pinned code see `randomWalk_pinned_fails`.) -/
theorem randomWalk_statistics (bits n ms mc msv : Nat) (o : RandomWalkOut)
    (h : randomWalk .repaired bits n ms mc msv = .ok o) :
    o.n = n ∧
    IsMaxOf o.zFwd (((0 : Int) :: walkFrom 0 (bitList bits n)).map Int.natAbs) ∧
    IsMaxOf o.zBwd (((0 : Int) :: walkFrom 0 (bitList bits n)).map
      (fun s => (walkSum (bitList bits n) - s).natAbs)) ∧
    o.cycles = (walkFrom 0 (bitList bits n)).count 0 + 1 ∧
    (500 ≤ o.cycles →
      o.exHists = (stateRange ms).map (fun x => (List.range (mc + 1)).map (fun i =>
        ((visitCounts x (walkFrom 0 (bitList bits n))).map (min mc)).count i)) ∧
      o.totals = (stateRange msv).map (fun x => (walkFrom 0 (bitList bits n)).count x)) ∧
    (o.cycles < 500 → o.exHists = [] ∧ o.totals = []) :=
  randomWalk_spec bits n ms mc msv o h

/-- the visited states are the partial sums S_k = X₁ + … + X_k, X_i = 2ε_i − 1. -/
theorem walk_states (l : List Bool) (x : Int) :
    x ∈ (0 : Int) :: walkFrom 0 l ↔ ∃ k, k ≤ l.length ∧ x = walkSum (l.take k) := by
  rw [mem_walkFrom]; simp

/-- D4: on `1111` the pinned code uses 3 for the backward cusum although max_k |S₄ − S_k| = 4. -/
theorem randomWalk_pinned_fails :
    (randomWalk .pinned 15 4 4 5 9).map (fun o => (o.zFwd, o.zBwd)) = .ok (4, 3) ∧
    (randomWalk .repaired 15 4 4 5 9).map (fun o => (o.zFwd, o.zBwd)) = .ok (4, 4) := by
  decide +kernel

/-- ☆ 2.7.4: non-overlapping template matching counts, per block, the positions p ≤ n − m at which
the m-bit pattern w occurs (the implementation counts every pattern once and looks the templates up). -/
theorem pattern_counts_block (l : List Bool) (m : Nat) (hm : 1 ≤ m) (hl : m ≤ l.length) :
    (countsNoWrap l m).toList = (List.range (2 ^ m)).map (fun w =>
      ((List.range (l.length - m + 1)).map (fun p => natOfBits ((l.drop p).take m))).count w) :=
  countsNoWrap_spec l m hm hl

/-- ☆ 2.11.4 / 2.12.4: the top-level pattern counts of Serial (m = m_max) and ApproximateEntropy
(m = m_max + 1) are the counts ν_w over the n positions of the sequence extended by its first m − 1 bits. -/
theorem pattern_counts_cyclic (l : List Bool) (m : Nat) (hm : 1 ≤ m) (hl : m ≤ l.length) :
    (countsWrap l m).toList = (List.range (2 ^ m)).map (fun w =>
      ((List.range l.length).map (fun p => natOfBits (((l ++ l.take (m - 1)).drop p).take m))).count w) :=
  countsWrap_spec l m hm hl

/-- ☆ the counts for shorter patterns, which the code obtains by adding neighbouring entries, are the
counts of the (m−1)-bit patterns of the extended sequence. -/
theorem pattern_counts_marginal (l : List Bool) (m : Nat) (hm : 2 ≤ m) (hl : m ≤ l.length) :
    pairSum (countsWrap l m).toList = (countsWrap l (m - 1)).toList := pairSum_countsWrap l m hm hl

/-- ☆ 2.11.4: Serial — for every m ≤ m_max, `sq[m−1]` = Σ_w ν_w² over the m-bit patterns, so that
ψ²_m = (2^m/n)·sq[m−1] − n is NIST's ψ²_m (ν_w as in `pattern_counts_cyclic`). -/
theorem serial_statistic (bits n : Nat) (mm : Option Nat) (o : SerialOut) (h : serial bits n mm = .ok o) :
    o.n = n ∧ o.mMax ≤ n ∧
    o.sq = (List.range o.mMax).map (fun i => sumSq (countsWrap (bitList bits n) (i + 1)).toList) :=
  ⟨(serial_ok bits n mm o h).1, (serial_ok bits n mm o h).2.1, serial_sq bits n mm o h⟩

/-- ☆ 2.12.4: ApproximateEntropy — `levels[m−2]` is the multiset of the non-zero counts of the m-bit
patterns, m = 2 … m_max + 1, from which φ^(m) = Σ (ν/n) ln(ν/n) is formed. -/
theorem apen_statistic (bits n : Nat) (mm : Option Nat) (o : ApenOut)
    (h : approximateEntropy bits n mm = .ok o) :
    o.n = n ∧ o.mMax + 1 ≤ n ∧
    o.levels = (List.range o.mMax).map (fun i =>
      multiset ((countsWrap (bitList bits n) (i + 2)).toList.filter (· ≠ 0))) :=
  ⟨(apen_ok bits n mm o h).1, (apen_ok bits n mm o h).2.1, apen_levels bits n mm o h⟩

/-! ## C. Invariances at statistic level (★) -/

theorem complement_bitList (bits n : Nat) (h : bits < 2 ^ n) :
    bitList (2 ^ n - 1 - bits) n = (bitList bits n).map (!·) := bitList_compl bits n h

theorem frequency_complement (bits n : Nat) (h : bits < 2 ^ n) :
    frequency (2 ^ n - 1 - bits) n = frequency bits n := by
  have := freqStat_map_not (bitList bits n)
  unfold freqStat at this
  simp only [List.length_map, bitList_length] at this
  by_cases hn : n = 0
  · simp only [frequency, hn, if_true]
  · simp only [frequency, hn, if_false]
    rw [bitList_compl bits n h, this]

/-- block frequency: same block size and same χ² (num/den) for the complemented string. -/
theorem blockFrequency_complement (bits n : Nat) (h : bits < 2 ^ n) (o : BlockFreqOut)
    (ho : blockFrequency bits n = .ok o) :
    ∃ o', blockFrequency (2 ^ n - 1 - bits) n = .ok o' ∧ o'.m = o.m ∧ o'.num = o.num ∧ o'.den = o.den := by
  unfold blockFrequency at ho ⊢
  split at ho
  · cases ho
  · rename_i hn
    simp only [hn, if_false]
    simp only [Except.ok.injEq] at ho
    subst ho
    refine ⟨_, rfl, ?_, ?_, ?_⟩
    · simp only [blockFrequencyImpl]
    · rw [bitList_compl bits n h]
      exact blockFrequency_num_compl _ _
    · simp only [blockFrequencyImpl]

/-- runs: the complemented string has the same V_n(obs) and #ones ↦ n − #ones, so the same
π(1−π) and the same |V − 2nπ(1−π)|. -/
theorem runs_complement (bits n : Nat) (h : bits < 2 ^ n) :
    runs (2 ^ n - 1 - bits) n =
      (if n = 0 then .error .zeroDivision
       else .ok (runsOfCounts (n - ones (bitList bits n)) (runsCount (bitList bits n)) n)) := by
  by_cases hn : n = 0
  · simp only [runs, hn, if_true]
  · simp only [runs, hn, if_false]
    rw [bitList_compl bits n h, runsCount_map_not]
    have := ones_map_not (bitList bits n)
    rw [bitList_length] at this
    have e : ones ((bitList bits n).map (!·)) = n - ones (bitList bits n) := by omega
    rw [e]

theorem frequency_reversal (l : List Bool) : freqStat l.reverse = freqStat l := by
  have := freqStat_eq l.reverse
  rw [walkSum_reverse, ← freqStat_eq] at this
  exact_mod_cast this

theorem runs_reversal (l : List Bool) :
    ones l.reverse = ones l ∧ runsCount l.reverse = runsCount l :=
  ⟨ones_reverse l, runsCount_reverse l⟩

theorem runs_complement_list (l : List Bool) :
    ones (l.map (!·)) + ones l = l.length ∧ runsCount (l.map (!·)) = runsCount l :=
  ⟨ones_map_not l, runsCount_map_not l⟩

/-- the forward cusum of the reversed string is the backward cusum of the string. -/
theorem cusum_reversal (l : List Bool) (zf zb : Nat)
    (hb : IsMaxOf zb (((0 : Int) :: walkFrom 0 l).map (fun s => (walkSum l - s).natAbs)))
    (hf : IsMaxOf zf (((0 : Int) :: walkFrom 0 l.reverse).map Int.natAbs)) : zf = zb := by
  apply IsMaxOf.unique hf hb
  intro x
  simp only [List.mem_map]
  constructor
  · rintro ⟨s, hs, rfl⟩
    obtain ⟨t, ht, rfl⟩ := (mem_walk_reverse l s).mp hs
    exact ⟨t, ht, rfl⟩
  · rintro ⟨t, ht, rfl⟩
    exact ⟨walkSum l - t, (mem_walk_reverse l _).mpr ⟨t, ht, rfl⟩, rfl⟩

/-- ☆ the wrap-around pattern counts of Serial / ApproximateEntropy — hence every ψ²_m, every φ^(m)
and all their p-values — are invariant under cyclic rotation of the string, for every pattern length. -/
theorem serial_apen_rotation_invariant (l : List Bool) (m k : Nat) (hm : 1 ≤ m) (hl : m ≤ l.length) :
    (countsWrap (l.rotate k) m).toList = (countsWrap l m).toList := by
  rw [countsWrap_cyc _ m hm (by rw [List.length_rotate]; exact hl), countsWrap_cyc l m hm hl, List.length_rotate]
  apply List.map_congr_left
  intro w _
  refine ((List.Perm.of_eq ?_).trans
    (shiftk_perm l.length (fun q => natOfBits (cycWin l m q)) k)).count_eq w
  apply List.map_congr_left
  intro p hp
  rw [cycWin_rotate l k m p (List.mem_range.mp hp)]

/-! ## D. Probability tables (★ / ☆) -/

/-- ★ LongestRuns, M = 8: the table is the exact distribution over all 256 blocks (55, 94, 59, 48
of 256) rounded to 4 digits. -/
theorem longestRuns_table_M8 :
    lrExactCounts 8 1 4 = [55, 94, 59, 48] ∧
    rowMatches (lrRow 0) (exactRows (lrExactCounts 8 1 4) (2 ^ 8) 10000) 10000 false = true :=
  ⟨lr8_counts, lr_table_M8⟩

/-- ☆ LongestRuns, M = 128: every entry is the exact probability rounded or truncated to 4 digits;
exact counts through the recurrence `leCount` (equal to brute force for M = 8 and M = 10). -/
theorem longestRuns_table_M128_partial :
    rowMatches (lrRow 1) (exactRows (lrDPCounts 128 4 9) (2 ^ 128) 10000) 10000 true = true ∧
    lrDPCounts 8 1 4 = lrExactCounts 8 1 4 ∧ lrDPCounts 10 2 6 = lrExactCounts 10 2 6 :=
  ⟨lr_table_M128, lrDP_eq_exact 8 1 4 (by omega), lrDP_eq_exact 10 2 6 (by omega)⟩

/-- the recurrence counts what it should, for every M (stated here; PROVED in Props/C12More.lean:
`C12More.longestRuns_recurrence_correct`, next to the M = 128 / 10000 table facts for `lrExactCounts`). -/
def longestRuns_recurrence_correct : Prop :=
  ∀ M vl vu, vl < vu → lrDPCounts M vl vu = lrExactCounts M vl vu

/-- ☆ LongestRuns, M = 10000: the row in the source is NIST's printed one or the repaired one; the
printed one is NOT exact (first entry 0.0882, exact P(longest run ≤ 10) = 0.0866…) — finding D20. -/
theorem longestRuns_table_M10000_partial :
    (rowSame (lrRow 2) nistPrinted10000 = true ∨ rowSame (lrRow 2) repaired10000 = true) ∧
    classEntry 0 (leCount 10 10000) (2 ^ 10000) 10000 = (866, 866) ∧
    rowMatches (nistPrinted10000.take 1) [classEntry 0 (leCount 10 10000) (2 ^ 10000) 10000] 10000 true = false :=
  ⟨lr_table_M10000, lr10000_first, nist_printed_M10000_inexact⟩

/-- ★ LinearComplexity: `pi[1..5]` are exactly the probabilities 2^(−x) of the complexities
median − 2 … median + 2, for every block size m ≥ 10 … -/
theorem linearComplexity_table_central (m : Nat) (hm : 10 ≤ m) :
    Paranoid.Consts.Nist.linCompPiEven = [(1, 96), (1, 32), (1, 8), (1, 2), (1, 4), (1, 16), (1, 48)] ∧
    Paranoid.Consts.Nist.linCompPiOdd = [(1, 48), (1, 16), (1, 4), (1, 2), (1, 8), (1, 32), (1, 96)] ∧
    lfsrNegLogProb m ((m + 1) / 2 - 2) = .ok (if m % 2 = 0 then 5 else 4) ∧
    lfsrNegLogProb m ((m + 1) / 2 - 1) = .ok (if m % 2 = 0 then 3 else 2) ∧
    lfsrNegLogProb m ((m + 1) / 2) = .ok 1 ∧
    lfsrNegLogProb m ((m + 1) / 2 + 1) = .ok (if m % 2 = 0 then 2 else 3) ∧
    lfsrNegLogProb m ((m + 1) / 2 + 2) = .ok (if m % 2 = 0 then 4 else 5) :=
  ⟨lincomp_pi_consts.1, lincomp_pi_consts.2, lincomp_pi_central m hm⟩

/-- … 2^(−x) is `LfsrCount/2^m` … -/
theorem linearComplexity_count (n c : Nat) (hn : 0 < n) (hc : c ≤ n) :
    ∃ x, lfsrNegLogProb n c = .ok x ∧ lfsrCount n c * 2 ^ x = 2 ^ n := by
  have h4 : ∀ j, (4 : Nat) ^ j = 2 ^ (2 * j) := fun j => by rw [Nat.pow_mul]
  rcases Nat.eq_zero_or_pos c with rfl | h0
  · exact ⟨n, by simp [lfsrNegLogProb, hn.ne'], by simp [lfsrCount]⟩
  · rcases Nat.lt_or_ge n (2 * c) with h | h
    · refine ⟨_, lfsrNegLogProb_high n c h hc, ?_⟩
      rw [lfsrCount_high n c h hc, h4, ← Nat.pow_add]
      congr 1
      omega
    · refine ⟨_, lfsrNegLogProb_low n c h0 h, ?_⟩
      rw [lfsrCount_low n c h0 h, h4, Nat.mul_assoc, ← Nat.pow_add, ← Nat.pow_succ']
      congr 1
      omega

/-- … and `pi[0]`, `pi[6]` are the tail sums up to 1/(3·2^m): with T_up = #{sequences of complexity
≥ median+3} and T_low = #{≤ median−3}: 3·T_up + 1 = 4^(m−median−2) and 3·T_low = 2·4^(median−3) + 1,
i.e. T_up/2^m = 1/48 − 1/(3·2^m), T_low/2^m = 1/96 + 1/(3·2^m) for even m (1/96, 1/48 for odd m). -/
theorem linearComplexity_table_tails (m : Nat) (hm : 10 ≤ m) :
    3 * ((List.range (m - (m + 1) / 2 - 2)).map (fun i => lfsrCount m (m - i))).sum + 1
      = 4 ^ (m - (m + 1) / 2 - 2) ∧
    3 * (lfsrCount m 0 + ((List.range ((m + 1) / 2 - 3)).map (fun i => lfsrCount m (i + 1))).sum)
      = 2 * 4 ^ ((m + 1) / 2 - 3) + 1 :=
  ⟨lincomp_upper_tail m, lincomp_lower_tail m⟩

/-- ★ RandomExcursionsDistribution: equals the NIST closed form (3.14) and sums to 1, for every
state |x| ≥ 1 and every max_cnt ≥ 1; all entries are positive. -/
theorem randomExcursions_distribution (x K : Nat) (hx : 1 ≤ x) (hK : 1 ≤ K) :
    (excursionPi x K).map qOf =
      ((1 - 1 / (2 * (x : ℚ))) ::
        (List.range (K - 1)).map (fun j => 1 / (4 * (x : ℚ) ^ 2) * (1 - 1 / (2 * (x : ℚ))) ^ j))
      ++ [1 / (2 * (x : ℚ)) * (1 - 1 / (2 * (x : ℚ))) ^ (K - 1)] ∧
    ((excursionPi x K).map qOf).sum = 1 ∧
    ∀ p ∈ excursionPi x K, 0 < p.1 ∧ 0 < p.2 :=
  ⟨excursionPi_closed_form x K hx hK, excursionPi_sum_one x K hx hK, excursionPi_pos x K hx⟩

/-! ## E. Ranges: every special-function argument is in its domain (★) -/

/-- every χ² formed by `ChiSquare` from counts and positive probabilities is ≥ 0. -/
theorem chiSquare_nonneg (v : List Nat) (pi : List ℚ) (hpi : ∀ p ∈ pi, 0 < p) : 0 ≤ chiSq v pi := by
  unfold chiSq
  apply List.sum_nonneg
  intro x hx
  obtain ⟨cp, hcp, rfl⟩ := List.mem_map.mp hx
  have hp : 0 < cp.2 := hpi _ (List.of_mem_zip hcp).2
  have hN : (0 : ℚ) ≤ (v.sum : ℚ) := by positivity
  apply div_nonneg (sq_nonneg _) (mul_nonneg hN hp.le)

/-- block frequency: χ² ≥ 0 and the shape parameter N/2 is positive. -/
theorem blockFrequency_range (bits n : Nat) (o : BlockFreqOut) (h : blockFrequency bits n = .ok o) :
    (0 : ℚ) ≤ (o.num : ℚ) / o.den ∧ 0 < o.counts.length :=
  ⟨by positivity, blockFrequency_blocks_pos bits n o h⟩

/-- Serial: ∇ψ²_m = ψ²_m − ψ²_{m−1} ≥ 0 for every m ≥ 2 (numerators over the common denominator n). -/
theorem serial_first_difference_nonneg (bits n : Nat) (mm : Option Nat) (o : SerialOut)
    (h : serial bits n mm = .ok o) (j a b : Nat) (ha : o.sq[j]? = some a) (hb : o.sq[j + 1]? = some b) :
    psiNum n (j + 1) a ≤ psiNum n (j + 2) b := by
  obtain ⟨_, hle, _⟩ := serial_ok bits n mm o h
  obtain ⟨_, rfl⟩ := serial_sq_get bits n mm o h j a ha
  obtain ⟨hj, rfl⟩ := serial_sq_get bits n mm o h (j + 1) b hb
  have hp := pairSum_countsWrap (bitList bits n) (j + 1 + 1) (by omega) (by rw [bitList_length]; omega)
  rw [Nat.add_sub_cancel] at hp
  -- ν_{m−1} is a sum of two ν_m, and (a+b)² ≤ 2(a²+b²): Σν_{m−1}² ≤ 2·Σν_m²
  exact psiNum_first_diff n (j + 1) _ _ (hp ▸ sumSq_pairSum_le _)

/-- ∇²ψ²_m ≥ 0 (stated here; PROVED in Props/C12More.lean: `C12More.serial_second_difference_nonneg`).
The repaired code clamps at 0 (D11), as it does for the ApEn χ² (D10), so the p-values are in
[0, 1] also without this fact. -/
def serial_second_difference_nonneg : Prop :=
  ∀ (bits n : Nat) (mm : Option Nat) (o : SerialOut), serial bits n mm = .ok o →
    ∀ (j a b c : Nat), o.sq[j]? = some a → o.sq[j + 1]? = some b → o.sq[j + 2]? = some c →
      2 * psiNum n (j + 2) b ≤ psiNum n (j + 3) c + psiNum n (j + 1) a

/-! ## Non-vacuity: the hypotheses are met by concrete non-trivial inputs -/

example : frequency 0b1011010101 10 = .ok (2, 10) := by decide +kernel
example : runs 0b0110110101 10 = .ok (.stat 6 8 10) := by decide +kernel
example : (blockFrequency (2 ^ 100 - 1) 100).map (fun o => (o.m, o.num, o.den)) = .ok (20, 2000, 20) := by
  decide +kernel
example : (randomWalk .repaired 0b0110110101 10 4 5 9).map (fun o => (o.zFwd, o.zBwd, o.cycles)) =
    .ok (3, 2, 3) := by decide +kernel
example : (serial 0b0011011101 10 (some 3)).map (fun o => o.sq) = .ok [52, 28, 16] := by decide +kernel
example : universalL 1000000 = some 7 := by decide
example : (longestRuns (2 ^ 128 - 1) 128).map (fun o => o.hist) = .ok [0, 0, 0, 16] := by decide +kernel

end Paranoid.C12
