/-
Props/C08ChainAny.lean — the C08 chain for any key representative, shortness carried.

The planted row as `lll.reduce` really returns it.  Props/C08Chain.lean fixes the key position
of the planted row to the natural number `d`.  fpylll size-reduces that coordinate against the
lattice vector `(0, n, 0, …, 0)`: on the real code the row that yields the key is, up to sign,
`(n·w+1, x, tail)` with `x` the CENTRED representative of `d` (`x = d` for `2d ≤ n`, `x = d − n`
otherwise: 360 of 360 recorded runs of the four bias kinds, keys planted at 0.49·n … 0.52·n
included; for about half of all keys the hypothesis of `C08Chain.chain_*` is therefore FALSE).
Here the key position carries ANY integer `x ≡ d (mod n)` (`*_any`), with the two-element family
`keyReps d n = [d, d − n]` that actually occurs as a corollary (`chain_bias_family`); the solver
reduces modulo `n`, so the recorded key is `d` itself.

The POST / CHECK half needs neither a bias nor the signing relation: `chain_bias_post` — if the
LLL answer of a window contains `±(T₀, T₁, …)` with `T₁ ≡ T₀·d (mod n)` and `n ∤ T₀`, every signature
of the issuer is flagged with `d`.  (So `C08Chain.chain_msb` holds verbatim for unbiased nonces: all
its content is in the oracle hypothesis.)

What the bias buys.  The theorems are CONDITIONAL ON THE LLL ORACLE; the bias hypothesis buys
exactly one thing: the planted row is SHORT.  Each `sigs_*_any` / `chain_*_any` theorem states
 PRE   the row is an explicit integer combination of the rows of the lattice the call builds,
       every tail entry is below `B(bits) = biasBound n bits w = 2^(bl − bits)·w` (strictly
       decreasing in `bits`: `biasBound_strictAnti`), and `ScaleShort n M r 2^(bl − bits)`:
       `(2·B(bits))^M < n^(M−r)·w^M`, the tail is shorter (factor 2 per coordinate) than the scale
       of the reduced basis vectors other than the known short ones — the quantity a Lovász-type
       argument needs.  `ScaleShort` follows from the margin `r·bl + 2M ≤ M·bits`
       (`scaleShort_of_margin`) and is FALSE without bias (`scaleShort_needs_bias`: it forces
       `bl < M·bits`), so these theorems cannot be instantiated with `bits = 0`;
 POST  IF the LLL answer contains ± that row THEN every signature of the issuer is flagged with `d`.
"LLL returns a short row" is NOT proved (no LLL / Lovász argument is formalised);
`LLLReturnsShort` states that oracle without mentioning the key, and `sigs_msb_of_lll_short`
derives detection from it — there the bias hypothesis is used.
`WeightOK` is the other half of shortness (the key coordinate); it is what fails in known finding
D23 (examples at the end of Props/C08ChainAnyEx.lean).
-/
import ParanoidModel.Proofs.C08ChainAny
import ParanoidModel.Props.C08Chain
namespace Paranoid.C08ChainAny
open Paranoid Paranoid.Hnp Paranoid.Ec Paranoid.EcdsaChecks Paranoid.C08Chain

/-! ## 0. Shortness at the integer-lattice level (all four bias kinds) -/

/-- **bias ⇒ the tail of the planted row is short.**  Small parts `|e_i| < 2^(bl − bits)` and the
margin `r·bl + 2M ≤ M·bits` (`1 ≤ r ≤ M`, `bits ≤ bl`): every tail entry `e_i·w` is below
`B(bits)`, and `B(bits)` beats the scale of the other reduced vectors.  The conclusion is false for
`bits = 0` (`scaleShort_needs_bias`). -/
theorem sandwich_tail_short (es : List Int) (n M r bits : Nat) (w : Int) (hn : n ≠ 0) (hw : 0 < w)
    (hr : 1 ≤ r) (hrM : r ≤ M) (hbits : bits ≤ bitLength n)
    (hbias : ∀ e ∈ es, |e| < 2 ^ (bitLength n - bits))
    (hthr : r * bitLength n + 2 * M ≤ M * bits) :
    (∀ v ∈ es.map (· * w), |v| < biasBound n bits w) ∧
    ScaleShort n M r (2 ^ (bitLength n - bits)) :=
  ⟨target_bound_bias es n bits w hw hbias, scaleShort_of_margin n M r bits hn hr hbits hthr⟩

/-- `ScaleShort` in terms of the entry bound itself: `(2·B(bits))^M < n^(M−r)·w^M`. -/
theorem scaleShort_iff_bound (n M r bits : Nat) (w : Int) (hw : 0 < w) :
    ScaleShort n M r (2 ^ (bitLength n - bits)) ↔
      (2 * biasBound n bits w) ^ M < (n : Int) ^ (M - r) * w ^ M := by
  unfold ScaleShort biasBound
  have hwM : (0 : Int) < w ^ M := pow_pos hw M
  have e : (2 * (2 ^ (bitLength n - bits) * w)) ^ M = (2 * 2 ^ (bitLength n - bits)) ^ M * w ^ M := by
    rw [← mul_assoc, mul_pow]
  rw [e]
  exact ⟨fun h => Int.mul_lt_mul_of_pos_right h hwM, fun h => Int.lt_of_mul_lt_mul_right h hwM.le⟩

/-- the bias is not decorative in a statement that carries `ScaleShort`. -/
theorem short_forces_bias (n M r bits : Nat) (hr : 1 ≤ r)
    (h : ScaleShort n M r (2 ^ (bitLength n - bits))) : 0 < bits ∧ bitLength n < M * bits := by
  have := scaleShort_needs_bias n M r bits hr h
  refine ⟨?_, this⟩
  by_contra h0
  have : bits = 0 := by omega
  subst this; omega

/-! ## 1. Signature level, any representative of the key, shortness carried -/

/-- **MSB, signatures.**  As `C08Chain.sigs_msb`, with `x` ANY integer `≡ d (mod n)` in the key
position, `bits ≤ bl` and the margin `bl + 2·len ≤ len·bits` (implied by the property's
`len·bits ≥ 2·bl` when `2·len ≤ bl`: `msb_margin_of_property`).  PRE: the row `(n·w+1, x, k_i·w)` is
in the lattice of the call, its tail entries lie in `[0, B(bits))`, and `ScaleShort n len 1`.
POST: every LLL answer containing ± that row makes the call return a list containing `d`. -/
theorem sigs_msb_any (n : Nat) (hp : n.Prime) (d : Nat) (hd : d < n) (x : Int)
    (hx : x ≡ (d : Int) [ZMOD (n : Int)]) (vals : List Triple)
    (nonce : Triple → Int) (bits fb : Nat)
    (hs : ∀ v ∈ vals, Int.gcd (v.2.1 : Int) n = 1)
    (hsig : ∀ v ∈ vals, SignedWith n d v (nonce v))
    (hbias : ∀ v ∈ vals, 0 ≤ nonce v ∧ nonce v < 2 ^ (bitLength n - bits))
    (hbits : bits ≤ bitLength n)
    (hthr : 1 * bitLength n + 2 * vals.length ≤ vals.length * bits) :
    ∃ ab, hnpParamsList n vals = .ok ab ∧ ∃ lat cs,
      getLattice (argA ab) (argB ab) none n .msb fb = .ok lat ∧
      lincomb (vals.length + 2) (1 :: x :: cs) lat =
        plantedRow n (defaultW .msb vals.length fb) x (vals.map nonce) ∧
      (∀ v ∈ (vals.map nonce).map (· * defaultW .msb vals.length fb),
        0 ≤ v ∧ v < biasBound n bits (defaultW .msb vals.length fb)) ∧
      ScaleShort n vals.length 1 (2 ^ (bitLength n - bits)) ∧
      ∀ basis : List (List Int), (∀ r ∈ basis, 2 ≤ r.length) →
        PMMem (plantedRow n (defaultW .msb vals.length fb) x (vals.map nonce)) basis →
        ∃ gs, hiddenNumberProblem (argA ab) (argB ab) none n .msb fb basis = .ok gs ∧ d ∈ gs := by
  obtain ⟨ab, hab, hl, hb, hk, hrel⟩ := sig_rel n hp.two_le d x hx nonce id vals hs hsig
  obtain ⟨lat, cs, h1, h2, h3, h4⟩ := sandwich_msb (argA ab) (argB ab) (vals.map nonce) x n fb bits
    hp hb hk hrel (List.forall_mem_map.mpr hbias)
  rw [hl] at h2 h3 h4
  exact ⟨ab, hab, lat, cs, h1, h2, h3, scaleShort_of_margin n _ 1 bits hp.ne_zero (by norm_num) hbits hthr,
    fun basis hr hin => (h4 basis hr hin).imp fun gs hg => ⟨hg.1, toNat_of_modEq x d n hd hx ▸ hg.2⟩⟩

/-- **COMMON_PREFIX, signatures.**  Nonces `top + e(v)`, `|e(v)| < 2^(bl − bits)`; row
`(n·w+1, x, e_i·w)`, any `x ≡ d`; one dimension is spent on the common part: `M = len − 1`, margin
`bl + 2·(len − 1) ≤ (len − 1)·bits`. -/
theorem sigs_prefix_any (n : Nat) (hp : n.Prime) (d : Nat) (hd : d < n) (x : Int)
    (hx : x ≡ (d : Int) [ZMOD (n : Int)]) (vals : List Triple)
    (top : Int) (e : Triple → Int) (bits fb : Nat)
    (hs : ∀ v ∈ vals, Int.gcd (v.2.1 : Int) n = 1)
    (hsig : ∀ v ∈ vals, SignedWith n d v (top + e v))
    (hbias : ∀ v ∈ vals, |e v| < 2 ^ (bitLength n - bits))
    (hbits : bits ≤ bitLength n)
    (hthr : 1 * bitLength n + 2 * (vals.length - 1) ≤ (vals.length - 1) * bits) :
    ∃ ab, hnpParamsList n vals = .ok ab ∧ ∃ lat cs,
      getLattice (argA ab) (argB ab) none n .commonPrefix fb = .ok lat ∧
      lincomb (vals.length + 2) (1 :: x :: cs) lat =
        plantedRow n (defaultW .commonPrefix vals.length fb) x (vals.map e) ∧
      (∀ v ∈ (vals.map e).map (· * defaultW .commonPrefix vals.length fb),
        |v| < biasBound n bits (defaultW .commonPrefix vals.length fb)) ∧
      ScaleShort n (vals.length - 1) 1 (2 ^ (bitLength n - bits)) ∧
      ∀ basis : List (List Int), (∀ r ∈ basis, 2 ≤ r.length) →
        PMMem (plantedRow n (defaultW .commonPrefix vals.length fb) x (vals.map e)) basis →
        ∃ gs, hiddenNumberProblem (argA ab) (argB ab) none n .commonPrefix fb basis = .ok gs ∧
          d ∈ gs := by
  obtain ⟨ab, hab, hl, hb, hk, hrel⟩ := sig_rel n hp.two_le d x hx e (top + ·) vals hs hsig
  obtain ⟨lat, cs, h1, h2, h3, h4⟩ := sandwich_prefix (argA ab) (argB ab) (vals.map e) x top n fb
    bits hp hb hk hrel (List.forall_mem_map.mpr hbias)
  rw [hl] at h2 h3 h4
  exact ⟨ab, hab, lat, cs, h1, h2, h3, scaleShort_of_margin n _ 1 bits hp.ne_zero (by norm_num) hbits hthr,
    fun basis hr hin => (h4 basis hr hin).imp fun gs hg => ⟨hg.1, toNat_of_modEq x d n hd hx ▸ hg.2⟩⟩

/-- **COMMON_POSTFIX, signatures.**  `n` odd, at least one value, nonces `low + 2^β·hi(v)`,
`|hi(v)| < 2^(bl − β)`, `β = max(3, fb)` (`fb` the float oracle of the window).  The default weight
exploits exactly `β` bits — NOT the number `bits ≥ β` of common low bits the nonces may have
(`C08Chain.postfix_common_low_bits` turns `bits ≥ β` common low bits into this shape): the entry
bound is `B(β) = 2^(bl − β)·2^β`, and the margin is in terms of `β`:
`bl + 2·(len − 1) ≤ (len − 1)·β`. -/
theorem sigs_postfix_any (n : Nat) (hp : n.Prime) (h2 : n ≠ 2) (d : Nat) (hd : d < n) (x : Int)
    (hx : x ≡ (d : Int) [ZMOD (n : Int)])
    (vals : List Triple) (hne : vals ≠ []) (low : Int) (hi : Triple → Int) (fb : Nat)
    (hs : ∀ v ∈ vals, Int.gcd (v.2.1 : Int) n = 1)
    (hsig : ∀ v ∈ vals, SignedWith n d v (low + 2 ^ (max 3 fb) * hi v))
    (hbias : ∀ v ∈ vals, |hi v| < 2 ^ (bitLength n - max 3 fb))
    (hbits : max 3 fb ≤ bitLength n)
    (hthr : 1 * bitLength n + 2 * (vals.length - 1) ≤ (vals.length - 1) * max 3 fb) :
    ∃ ab, hnpParamsList n vals = .ok ab ∧ ∃ lat cs,
      getLattice (argA ab) (argB ab) none n .commonPostfix fb = .ok lat ∧
      lincomb (vals.length + 2) (1 :: x :: cs) lat =
        plantedRow n (defaultW .commonPostfix vals.length fb) x (vals.map hi) ∧
      (∀ v ∈ (vals.map hi).map (· * defaultW .commonPostfix vals.length fb),
        |v| < biasBound n (max 3 fb) (defaultW .commonPostfix vals.length fb)) ∧
      ScaleShort n (vals.length - 1) 1 (2 ^ (bitLength n - max 3 fb)) ∧
      ∀ basis : List (List Int), (∀ r ∈ basis, 2 ≤ r.length) →
        PMMem (plantedRow n (defaultW .commonPostfix vals.length fb) x (vals.map hi)) basis →
        ∃ gs, hiddenNumberProblem (argA ab) (argB ab) none n .commonPostfix fb basis = .ok gs ∧
          d ∈ gs := by
  obtain ⟨ab, hab, hl, hb, hk, hrel⟩ := sig_rel n hp.two_le d x hx hi (low + 2 ^ (max 3 fb) * ·) vals hs
    hsig
  have hane : argA ab ≠ [] := fun h0 =>
    hne (List.length_eq_zero_iff.mp (hl.symm.trans (congrArg List.length h0)))
  obtain ⟨lat, cs, h1, h2', h3, h4⟩ := sandwich_postfix (argA ab) (argB ab)
    ((vals.map hi).map (low + 2 ^ (max 3 fb) * ·)) (vals.map hi) x low n fb hp h2 hane hb
    (by simpa using hk) hk
    (fun i hi' => by rw [ent_map_of_lt _ _ i (by rw [hk]; exact hi')]; exact hrel i hi')
    (fun i hi' => ent_map_of_lt _ _ i (by rw [hk]; exact hi'))
    (List.forall_mem_map.mpr hbias)
  rw [hl] at h2' h3 h4
  exact ⟨ab, hab, lat, cs, h1, h2', h3, scaleShort_of_margin n _ 1 _ hp.ne_zero (by norm_num) hbits hthr,
    fun basis hr hin => (h4 basis hr hin).imp fun gs hg => ⟨hg.1, toNat_of_modEq x d n hd hx ▸ hg.2⟩⟩

/-- **GENERALIZED, signatures.**  As `C08Chain.sigs_generalized` (`mult`, `y ≡ mult·d` already
arbitrary representatives there); the lattice also contains `(n, 0, …)`, so `r = 2`, `M = len − 1`:
margin `2·bl + 2·(len − 1) ≤ (len − 1)·bits`.  On the real code the row LLL returns belongs to a
small multiple `c·mult` of the secret multiplier (`|c| < 2^11` in the recorded runs): apply the
theorem with `mult := c·mult mod± n` and `bits` reduced by the bit length of `c`. -/
theorem sigs_generalized_any (n : Nat) (hp : n.Prime) (d : Nat) (hd : d < n) (vals : List Triple)
    (nonce : Triple → Int) (mult y top : Int) (e : Triple → Int) (bits fb : Nat)
    (hm : ¬ (n : Int) ∣ mult) (hy : y ≡ mult * d [ZMOD n])
    (hs : ∀ v ∈ vals, Int.gcd (v.2.1 : Int) n = 1)
    (hsig : ∀ v ∈ vals, SignedWith n d v (nonce v))
    (hmul : ∀ v ∈ vals, mult * nonce v ≡ top + e v [ZMOD n])
    (hbias : ∀ v ∈ vals, |e v| < 2 ^ (bitLength n - bits))
    (hbits : bits ≤ bitLength n)
    (hthr : 2 * bitLength n + 2 * (vals.length - 1) ≤ (vals.length - 1) * bits) :
    ∃ ab, hnpParamsList n vals = .ok ab ∧ ∃ lat cs,
      getLattice (argA ab) (argB ab) none n .generalized fb = .ok lat ∧
      lincomb (vals.length + 2) (mult :: y :: cs) lat =
        plantedRowGen (defaultW .generalized vals.length fb) mult y (vals.map e) ∧
      (∀ v ∈ (vals.map e).map (· * defaultW .generalized vals.length fb),
        |v| < biasBound n bits (defaultW .generalized vals.length fb)) ∧
      ScaleShort n (vals.length - 1) 2 (2 ^ (bitLength n - bits)) ∧
      ∀ basis : List (List Int), (∀ r ∈ basis, 2 ≤ r.length) →
        PMMem (plantedRowGen (defaultW .generalized vals.length fb) mult y (vals.map e)) basis →
        ∃ gs, hiddenNumberProblem (argA ab) (argB ab) none n .generalized fb basis = .ok gs ∧
          d ∈ gs := by
  obtain ⟨ab, hab', lat, cs, h1, h2, h3, h4⟩ := sigs_generalized n hp d hd vals nonce mult y top e
    bits fb hm hy hs hsig hmul hbias
  exact ⟨ab, hab', lat, cs, h1, h2, h3,
    scaleShort_of_margin n _ 2 bits hp.ne_zero (by norm_num) hbits hthr, h4⟩

/-! ## 2. Check level

### 2a. POST / CHECK for all four bias checks at once — no bias, no signing relation -/

/-- **the bias-free half of the chain.**  `b ∈ {1,2,3,4}` the bias of the check (`bs` its model
value; COMMON_POSTFIX: `n ≠ 2`), `win` the `kk`-th window of issuer `j`.  If the `lll.reduce` answer
of that window's solver call has rows with at least two entries and contains `±(T₀, T₁, …)` with
`T₁ ≡ T₀·d (mod n)` and `n ∤ T₀`, EVERY signature of the batch with curve `cid` and key tuple `key`
is marked weak with DISCRETE_LOG = `format(d, "x")`.  Nothing is assumed about the nonces. -/
theorem chain_bias_post {b : Nat} {bs : Bias} (hbs : biasOfNat b = some bs)
    {O : Nat → GroupOracle} {factory : Factory} {arts : List Sig} {res : CheckResult}
    {cid : Nat} {obj : CurveObj} {key : Key} {d : Nat} {env : SolverEnv}
    {lll : Nat → Nat → LllAnswers}
    (S : Setting (.biased (.bias b)) O factory arts res cid obj key d env lll)
    (h2 : bs = .commonPostfix → obj.curve.n ≠ 2)
    (j : Nat) (hj : j < (mapIssuerSigIndexes ((groupFrom cid 0 arts).map Prod.snd)).length)
    (kk : Nat) (win : List Triple) (hwin : (sizeLoop windowSizes ((O cid).uniq j))[kk]? = some win)
    (hrows : ∀ r ∈ lll j kk 0, 2 ≤ r.length)
    (T0 T1 : Int) (tl : List Int) (htgt : T1 ≡ T0 * (d : Int) [ZMOD (obj.curve.n : Int)])
    (h0 : ¬ (obj.curve.n : Int) ∣ T0)
    (hlll : PMMem (T0 :: T1 :: tl) (lll j kk 0)) :
    ∀ bi s, arts[bi]? = some s → s.curve = cid → s.key = key →
      verdictOf res.writes bi = some (posVerdict d) :=
  chain_post hbs S h2 j hj kk win hwin hrows T0 T1 tl htgt h0 hlll

/-- the row `(n·w+1, x, tail)` with `x ≡ d` is such a row (`T₀ = n·w+1 ≡ 1`). -/
theorem chain_bias_post_planted {b : Nat} {bs : Bias} (hbs : biasOfNat b = some bs)
    {O : Nat → GroupOracle} {factory : Factory} {arts : List Sig} {res : CheckResult}
    {cid : Nat} {obj : CurveObj} {key : Key} {d : Nat} {env : SolverEnv}
    {lll : Nat → Nat → LllAnswers}
    (S : Setting (.biased (.bias b)) O factory arts res cid obj key d env lll)
    (h2 : bs = .commonPostfix → obj.curve.n ≠ 2)
    (j : Nat) (hj : j < (mapIssuerSigIndexes ((groupFrom cid 0 arts).map Prod.snd)).length)
    (kk : Nat) (win : List Triple) (hwin : (sizeLoop windowSizes ((O cid).uniq j))[kk]? = some win)
    (hrows : ∀ r ∈ lll j kk 0, 2 ≤ r.length)
    (w x : Int) (es : List Int) (hx : x ≡ (d : Int) [ZMOD (obj.curve.n : Int)])
    (hlll : PMMem (plantedRow obj.curve.n w x es) (lll j kk 0)) :
    ∀ bi s, arts[bi]? = some s → s.curve = cid → s.key = key →
      verdictOf res.writes bi = some (posVerdict d) :=
  chain_bias_post hbs S h2 j hj kk win hwin hrows _ x _
    (hx.trans (nw1_modEq obj.curve.n w (d : Int))) (not_dvd_nw1 obj.curve.n S.nPrime w) hlll

/-- **the family that occurs on the real code**: the key position holds `d` or `d − n`
(`keyReps`; LLL leaves the centred one, `centeredRep_mem`), either sign of the row. -/
theorem chain_bias_family {b : Nat} {bs : Bias} (hbs : biasOfNat b = some bs)
    {O : Nat → GroupOracle} {factory : Factory} {arts : List Sig} {res : CheckResult}
    {cid : Nat} {obj : CurveObj} {key : Key} {d : Nat} {env : SolverEnv}
    {lll : Nat → Nat → LllAnswers}
    (S : Setting (.biased (.bias b)) O factory arts res cid obj key d env lll)
    (h2 : bs = .commonPostfix → obj.curve.n ≠ 2)
    (j : Nat) (hj : j < (mapIssuerSigIndexes ((groupFrom cid 0 arts).map Prod.snd)).length)
    (kk : Nat) (win : List Triple) (hwin : (sizeLoop windowSizes ((O cid).uniq j))[kk]? = some win)
    (hrows : ∀ r ∈ lll j kk 0, 2 ≤ r.length)
    (w : Int) (es : List Int)
    (hlll : ∃ x ∈ keyReps d obj.curve.n, PMMem (plantedRow obj.curve.n w x es) (lll j kk 0)) :
    ∀ bi s, arts[bi]? = some s → s.curve = cid → s.key = key →
      verdictOf res.writes bi = some (posVerdict d) := by
  obtain ⟨x, hxm, hin⟩ := hlll
  exact chain_bias_post_planted hbs S h2 j hj kk win hwin hrows w x es
    (keyReps_modEq d obj.curve.n x hxm) hin

/-! ### 2b. PRE ∧ POST per check -/

/-- **chain, CheckNonceMSB.**  Every unique value of issuer `j` signed with `d` and a nonce
`0 ≤ k < 2^(bl − bits)`; `win` the `kk`-th window; `x` ANY integer `≡ d (mod n)`; margin
`bl + 2·len(win) ≤ len(win)·bits`.
PRE (uses the bias): the row `(n·w+1, x, k_i·w)`, `w = defaultW .msb len(win)`, is an integer
combination of the rows of the lattice the window's call builds, its tail entries lie in
`[0, B(bits))`, and `B(bits)` beats the scale of the other reduced vectors (`ScaleShort`).
POST (does not use the bias — `chain_bias_post`): IF the `lll.reduce` answer of that call contains
± that row, every signature of the key tuple is flagged with `d`. -/
theorem chain_msb_any {O : Nat → GroupOracle} {factory : Factory} {arts : List Sig}
    {res : CheckResult} {cid : Nat} {obj : CurveObj} {key : Key} {d : Nat} {env : SolverEnv}
    {lll : Nat → Nat → LllAnswers}
    (S : Setting (.biased (.bias 1)) O factory arts res cid obj key d env lll)
    (j : Nat) (hj : j < (mapIssuerSigIndexes ((groupFrom cid 0 arts).map Prod.snd)).length)
    (nonce : Triple → Int) (bits : Nat) (x : Int) (hx : x ≡ (d : Int) [ZMOD (obj.curve.n : Int)])
    (hsig : ∀ v ∈ (O cid).uniq j, SignedWith obj.curve.n d v (nonce v))
    (hbias : ∀ v ∈ (O cid).uniq j, 0 ≤ nonce v ∧ nonce v < 2 ^ (bitLength obj.curve.n - bits))
    (kk : Nat) (win : List Triple) (hwin : (sizeLoop windowSizes ((O cid).uniq j))[kk]? = some win)
    (hbits : bits ≤ bitLength obj.curve.n)
    (hthr : 1 * bitLength obj.curve.n + 2 * win.length ≤ win.length * bits) :
    (∃ ab lat cs, hnpParamsList obj.curve.n win = .ok ab ∧
      getLattice (argA ab) (argB ab) none obj.curve.n .msb (env.fbOf obj.curve.n win.length) =
        .ok lat ∧
      lincomb (win.length + 2) (1 :: x :: cs) lat =
        plantedRow obj.curve.n (defaultW .msb win.length 0) x (win.map nonce) ∧
      (∀ v ∈ (win.map nonce).map (· * defaultW .msb win.length 0),
        0 ≤ v ∧ v < biasBound obj.curve.n bits (defaultW .msb win.length 0)) ∧
      ScaleShort obj.curve.n win.length 1 (2 ^ (bitLength obj.curve.n - bits))) ∧
    ((∀ r ∈ lll j kk 0, 2 ≤ r.length) →
      PMMem (plantedRow obj.curve.n (defaultW .msb win.length 0) x (win.map nonce)) (lll j kk 0) →
      ∀ bi s, arts[bi]? = some s → s.curve = cid → s.key = key →
        verdictOf res.writes bi = some (posVerdict d)) := by
  have hsub := (window_subset _ win (List.mem_of_getElem? hwin)).1
  obtain ⟨wab, hwab, hgcd⟩ := window_params S j hj kk win hwin
  constructor
  · obtain ⟨ab, hab, lat, cs, h1, h2, h3, h4, _⟩ := sigs_msb_any obj.curve.n S.nPrime d S.dLt x hx
      win nonce bits (env.fbOf obj.curve.n win.length) hgcd
      (fun v hv => hsig v (hsub v hv)) (fun v hv => hbias v (hsub v hv)) hbits hthr
    exact ⟨ab, lat, cs, hab, h1, h2, h3, h4⟩
  · intro hrows hlll
    exact chain_bias_post_planted (b := 1) rfl S (by intro h; cases h) j hj kk win hwin hrows _ x _ hx
      hlll

/-- **chain, CheckNonceCommonPrefix.**  Nonces `top + e(v)`, `|e(v)| < 2^(bl − bits)`; any `x ≡ d`;
`M = len(win) − 1`, margin `bl + 2·M ≤ M·bits`. -/
theorem chain_prefix_any {O : Nat → GroupOracle} {factory : Factory} {arts : List Sig}
    {res : CheckResult} {cid : Nat} {obj : CurveObj} {key : Key} {d : Nat} {env : SolverEnv}
    {lll : Nat → Nat → LllAnswers}
    (S : Setting (.biased (.bias 2)) O factory arts res cid obj key d env lll)
    (j : Nat) (hj : j < (mapIssuerSigIndexes ((groupFrom cid 0 arts).map Prod.snd)).length)
    (top : Int) (e : Triple → Int) (bits : Nat) (x : Int)
    (hx : x ≡ (d : Int) [ZMOD (obj.curve.n : Int)])
    (hsig : ∀ v ∈ (O cid).uniq j, SignedWith obj.curve.n d v (top + e v))
    (hbias : ∀ v ∈ (O cid).uniq j, |e v| < 2 ^ (bitLength obj.curve.n - bits))
    (kk : Nat) (win : List Triple) (hwin : (sizeLoop windowSizes ((O cid).uniq j))[kk]? = some win)
    (hbits : bits ≤ bitLength obj.curve.n)
    (hthr : 1 * bitLength obj.curve.n + 2 * (win.length - 1) ≤ (win.length - 1) * bits) :
    (∃ ab lat cs, hnpParamsList obj.curve.n win = .ok ab ∧
      getLattice (argA ab) (argB ab) none obj.curve.n .commonPrefix
        (env.fbOf obj.curve.n win.length) = .ok lat ∧
      lincomb (win.length + 2) (1 :: x :: cs) lat =
        plantedRow obj.curve.n (defaultW .commonPrefix win.length 0) x (win.map e) ∧
      (∀ v ∈ (win.map e).map (· * defaultW .commonPrefix win.length 0),
        |v| < biasBound obj.curve.n bits (defaultW .commonPrefix win.length 0)) ∧
      ScaleShort obj.curve.n (win.length - 1) 1 (2 ^ (bitLength obj.curve.n - bits))) ∧
    ((∀ r ∈ lll j kk 0, 2 ≤ r.length) →
      PMMem (plantedRow obj.curve.n (defaultW .commonPrefix win.length 0) x (win.map e))
        (lll j kk 0) →
      ∀ bi s, arts[bi]? = some s → s.curve = cid → s.key = key →
        verdictOf res.writes bi = some (posVerdict d)) := by
  have hsub := (window_subset _ win (List.mem_of_getElem? hwin)).1
  obtain ⟨wab, hwab, hgcd⟩ := window_params S j hj kk win hwin
  constructor
  · obtain ⟨ab, hab, lat, cs, h1, h2, h3, h4, _⟩ := sigs_prefix_any obj.curve.n S.nPrime d S.dLt x
      hx win top e bits (env.fbOf obj.curve.n win.length) hgcd
      (fun v hv => hsig v (hsub v hv)) (fun v hv => hbias v (hsub v hv)) hbits hthr
    exact ⟨ab, lat, cs, hab, h1, h2, h3, h4⟩
  · intro hrows hlll
    exact chain_bias_post_planted (b := 2) rfl S (by intro h; cases h) j hj kk win hwin hrows _ x _ hx
      hlll

/-- **chain, CheckNonceCommonPostfix.**  `n ≠ 2`; nonces `low + 2^β·hi(v)`, `|hi(v)| < 2^(bl − β)`,
`β = max(3, fb)`, `fb = env.fbOf n len(win)` the float oracle of this window; any `x ≡ d`;
`M = len(win) − 1`, margin in terms of `β` (the bits the default weight exploits, not the number of
common low bits): `bl + 2·M ≤ M·β`. -/
theorem chain_postfix_any {O : Nat → GroupOracle} {factory : Factory} {arts : List Sig}
    {res : CheckResult} {cid : Nat} {obj : CurveObj} {key : Key} {d : Nat} {env : SolverEnv}
    {lll : Nat → Nat → LllAnswers}
    (S : Setting (.biased (.bias 3)) O factory arts res cid obj key d env lll)
    (h2 : obj.curve.n ≠ 2)
    (j : Nat) (hj : j < (mapIssuerSigIndexes ((groupFrom cid 0 arts).map Prod.snd)).length)
    (kk : Nat) (win : List Triple) (hwin : (sizeLoop windowSizes ((O cid).uniq j))[kk]? = some win)
    (low : Int) (hi : Triple → Int) (x : Int) (hx : x ≡ (d : Int) [ZMOD (obj.curve.n : Int)])
    (hsig : ∀ v ∈ (O cid).uniq j, SignedWith obj.curve.n d v
      (low + 2 ^ (max 3 (env.fbOf obj.curve.n win.length)) * hi v))
    (hbias : ∀ v ∈ (O cid).uniq j,
      |hi v| < 2 ^ (bitLength obj.curve.n - max 3 (env.fbOf obj.curve.n win.length)))
    (hbits : max 3 (env.fbOf obj.curve.n win.length) ≤ bitLength obj.curve.n)
    (hthr : 1 * bitLength obj.curve.n + 2 * (win.length - 1) ≤
      (win.length - 1) * max 3 (env.fbOf obj.curve.n win.length)) :
    (∃ ab lat cs, hnpParamsList obj.curve.n win = .ok ab ∧
      getLattice (argA ab) (argB ab) none obj.curve.n .commonPostfix
        (env.fbOf obj.curve.n win.length) = .ok lat ∧
      lincomb (win.length + 2) (1 :: x :: cs) lat =
        plantedRow obj.curve.n
          (defaultW .commonPostfix win.length (env.fbOf obj.curve.n win.length)) x (win.map hi) ∧
      (∀ v ∈ (win.map hi).map
          (· * defaultW .commonPostfix win.length (env.fbOf obj.curve.n win.length)),
        |v| < biasBound obj.curve.n (max 3 (env.fbOf obj.curve.n win.length))
          (defaultW .commonPostfix win.length (env.fbOf obj.curve.n win.length))) ∧
      ScaleShort obj.curve.n (win.length - 1) 1
        (2 ^ (bitLength obj.curve.n - max 3 (env.fbOf obj.curve.n win.length)))) ∧
    ((∀ r ∈ lll j kk 0, 2 ≤ r.length) →
      PMMem (plantedRow obj.curve.n
          (defaultW .commonPostfix win.length (env.fbOf obj.curve.n win.length)) x (win.map hi))
        (lll j kk 0) →
      ∀ bi s, arts[bi]? = some s → s.curve = cid → s.key = key →
        verdictOf res.writes bi = some (posVerdict d)) := by
  obtain ⟨hsub, hne⟩ := window_subset _ win (List.mem_of_getElem? hwin)
  obtain ⟨wab, hwab, hgcd⟩ := window_params S j hj kk win hwin
  constructor
  · obtain ⟨ab, hab, lat, cs, h1, h2', h3, h4, _⟩ := sigs_postfix_any obj.curve.n S.nPrime h2 d S.dLt
      x hx win hne low hi (env.fbOf obj.curve.n win.length) hgcd
      (fun v hv => hsig v (hsub v hv)) (fun v hv => hbias v (hsub v hv)) hbits hthr
    exact ⟨ab, lat, cs, hab, h1, h2', h3, h4⟩
  · intro hrows hlll
    exact chain_bias_post_planted (b := 3) rfl S (fun _ => h2) j hj kk win hwin hrows _ x _ hx hlll

/-- **chain, CheckNonceGeneralized.**  A multiplier `mult` (`n ∤ mult`) with
`mult·k ≡ top + e(v) (mod n)`, `|e(v)| < 2^(bl − bits)`; `y ≡ mult·d` any representative;
`M = len(win) − 1`, `r = 2`: margin `2·bl + 2·M ≤ M·bits`. -/
theorem chain_generalized_any {O : Nat → GroupOracle} {factory : Factory} {arts : List Sig}
    {res : CheckResult} {cid : Nat} {obj : CurveObj} {key : Key} {d : Nat} {env : SolverEnv}
    {lll : Nat → Nat → LllAnswers}
    (S : Setting (.biased (.bias 4)) O factory arts res cid obj key d env lll)
    (j : Nat) (hj : j < (mapIssuerSigIndexes ((groupFrom cid 0 arts).map Prod.snd)).length)
    (nonce : Triple → Int) (mult y top : Int) (e : Triple → Int) (bits : Nat)
    (hm : ¬ (obj.curve.n : Int) ∣ mult) (hy : y ≡ mult * d [ZMOD obj.curve.n])
    (hsig : ∀ v ∈ (O cid).uniq j, SignedWith obj.curve.n d v (nonce v))
    (hmul : ∀ v ∈ (O cid).uniq j, mult * nonce v ≡ top + e v [ZMOD obj.curve.n])
    (hbias : ∀ v ∈ (O cid).uniq j, |e v| < 2 ^ (bitLength obj.curve.n - bits))
    (kk : Nat) (win : List Triple) (hwin : (sizeLoop windowSizes ((O cid).uniq j))[kk]? = some win)
    (hbits : bits ≤ bitLength obj.curve.n)
    (hthr : 2 * bitLength obj.curve.n + 2 * (win.length - 1) ≤ (win.length - 1) * bits) :
    (∃ ab lat cs, hnpParamsList obj.curve.n win = .ok ab ∧
      getLattice (argA ab) (argB ab) none obj.curve.n .generalized
        (env.fbOf obj.curve.n win.length) = .ok lat ∧
      lincomb (win.length + 2) (mult :: y :: cs) lat =
        plantedRowGen (defaultW .generalized win.length 0) mult y (win.map e) ∧
      (∀ v ∈ (win.map e).map (· * defaultW .generalized win.length 0),
        |v| < biasBound obj.curve.n bits (defaultW .generalized win.length 0)) ∧
      ScaleShort obj.curve.n (win.length - 1) 2 (2 ^ (bitLength obj.curve.n - bits))) ∧
    ((∀ r ∈ lll j kk 0, 2 ≤ r.length) →
      PMMem (plantedRowGen (defaultW .generalized win.length 0) mult y (win.map e)) (lll j kk 0) →
      ∀ bi s, arts[bi]? = some s → s.curve = cid → s.key = key →
        verdictOf res.writes bi = some (posVerdict d)) := by
  have hsub := (window_subset _ win (List.mem_of_getElem? hwin)).1
  obtain ⟨wab, hwab, hgcd⟩ := window_params S j hj kk win hwin
  constructor
  · obtain ⟨ab, hab, lat, cs, h1, h2, h3, h4, _⟩ := sigs_generalized_any obj.curve.n S.nPrime d S.dLt
      win nonce mult y top e bits (env.fbOf obj.curve.n win.length) hm hy hgcd
      (fun v hv => hsig v (hsub v hv)) (fun v hv => hmul v (hsub v hv))
      (fun v hv => hbias v (hsub v hv)) hbits hthr
    exact ⟨ab, lat, cs, hab, h1, h2, h3, h4⟩
  · intro hrows hlll
    exact chain_bias_post (b := 4) rfl S (by intro h; cases h) j hj kk win hwin hrows mult y _ hy hm
      hlll

/-! ### 2c. the statements of Props/C08Chain.lean are the instances `x := d` -/

/-- `C08Chain.chain_msb` from `chain_bias_post_planted` — without its bias hypothesis. -/
example {O : Nat → GroupOracle} {factory : Factory} {arts : List Sig} {res : CheckResult}
    {cid : Nat} {obj : CurveObj} {key : Key} {d : Nat} {env : SolverEnv}
    {lll : Nat → Nat → LllAnswers}
    (S : Setting (.biased (.bias 1)) O factory arts res cid obj key d env lll)
    (j : Nat) (hj : j < (mapIssuerSigIndexes ((groupFrom cid 0 arts).map Prod.snd)).length)
    (nonce : Triple → Int)
    (kk : Nat) (win : List Triple) (hwin : (sizeLoop windowSizes ((O cid).uniq j))[kk]? = some win)
    (hrows : ∀ r ∈ lll j kk 0, 2 ≤ r.length)
    (hlll : PMMem (plantedRow obj.curve.n (defaultW .msb win.length 0) d (win.map nonce))
      (lll j kk 0)) :
    ∀ bi s, arts[bi]? = some s → s.curve = cid → s.key = key →
      verdictOf res.writes bi = some (posVerdict d) :=
  chain_bias_post_planted (b := 1) rfl S (by intro h; cases h) j hj kk win hwin hrows _ d _
    (Int.ModEq.refl _) hlll

/-! ## 3. The LLL oracle stated without the key — where the bias IS used -/

/-- **the oracle, key-free** (interface for a Lovász-type argument; NOT proved, and only the
planted instance of it is measured on the real code): every row `(n·w+1, x, e_i·w)` of the lattice
whose small parts are below `2^(bl − bits)`, with `ScaleShort n M r 2^(bl − bits)`, appears in the
LLL answer up to sign and up to the representative of the key coordinate. -/
def LLLReturnsShort (n : Nat) (w : Int) (M r bits : Nat) (lat basis : List (List Int)) : Prop :=
  ∀ (x : Int) (es cs : List Int),
    lincomb (es.length + 2) (1 :: x :: cs) lat = plantedRow n w x es →
    (∀ e ∈ es, |e| < 2 ^ (bitLength n - bits)) → ScaleShort n M r (2 ^ (bitLength n - bits)) →
    ∃ x', x' ≡ x [ZMOD (n : Int)] ∧ PMMem (plantedRow n w x' es) basis

/-- **MSB from the key-free oracle — the bias is used.**  Signatures of `d` with nonces
`0 ≤ k < 2^(bl − bits)`, the margin, and an LLL answer that returns the short rows of the lattice of
the call: `HiddenNumberProblem(a, b, None, n, MSB)` returns a list containing `d`.  With `bits = 0`
the margin is unsatisfiable and `ScaleShort` false: the theorem says nothing about unbiased
nonces. -/
theorem sigs_msb_of_lll_short (n : Nat) (hp : n.Prime) (d : Nat) (hd : d < n) (vals : List Triple)
    (nonce : Triple → Int) (bits fb : Nat)
    (hs : ∀ v ∈ vals, Int.gcd (v.2.1 : Int) n = 1)
    (hsig : ∀ v ∈ vals, SignedWith n d v (nonce v))
    (hbias : ∀ v ∈ vals, 0 ≤ nonce v ∧ nonce v < 2 ^ (bitLength n - bits))
    (hbits : bits ≤ bitLength n)
    (hthr : 1 * bitLength n + 2 * vals.length ≤ vals.length * bits)
    (basis : List (List Int)) (hrows : ∀ r ∈ basis, 2 ≤ r.length)
    (horacle : ∀ ab lat, hnpParamsList n vals = .ok ab →
      getLattice (argA ab) (argB ab) none n .msb fb = .ok lat →
      LLLReturnsShort n (defaultW .msb vals.length fb) vals.length 1 bits lat basis) :
    ∃ ab gs, hnpParamsList n vals = .ok ab ∧
      hiddenNumberProblem (argA ab) (argB ab) none n .msb fb basis = .ok gs ∧ d ∈ gs := by
  obtain ⟨ab, hab, lat, cs, h1, h2, h3, h4, _⟩ := sigs_msb_any n hp d hd d (Int.ModEq.refl _) vals nonce
    bits fb hs hsig hbias hbits hthr
  have hlen : (vals.map nonce).length = vals.length := by simp
  obtain ⟨x', hx', hin⟩ := horacle ab lat hab h1 (d : Int) (vals.map nonce) cs
    (by rw [hlen]; exact h2)
    (fun e he => by
      obtain ⟨v, hv, rfl⟩ := List.mem_map.mp he
      rw [abs_of_nonneg (hbias v hv).1]; exact (hbias v hv).2)
    h4
  obtain ⟨ab', hab', _, _, _, _, _, _, hpost⟩ := sigs_msb_any n hp d hd x' hx' vals nonce
    bits fb hs hsig hbias hbits hthr
  rw [hab] at hab'; cases hab'
  obtain ⟨gs, hg1, hg2⟩ := hpost basis hrows hin
  exact ⟨ab, gs, hab, hg1, hg2⟩

/-! ## 4. Cr50 U2F: the digit bound that `C08Chain.sandwich_cr50` only used for its sign -/

/-- **Cr50 sandwich with the bound.**  As `C08Chain.sandwich_cr50`; PRE also states that every
entry of the planted row `(c¹, c², −256, 0)` is at most 256 in absolute value (this is where the
hypothesis `c < 256` is used) and that this is short: `Cr50Short n 256`, `(2·256)^D < 256·n = det`,
`D = 2·words + 2` — false for unbiased 32-bit words (`cr50Short_words_false`).  The row LLL returns
is literally this row or its negative (8 of 8 recorded runs). -/
theorem sandwich_cr50_short (n : Nat) (hp : n.Prime) (hbl : bitLength n % 32 = 0) (d : Nat)
    (hd : d < n) (v1 v2 : Triple) (c1 c2 : List Int)
    (h1 : c1.length = (cr50Basis (bitLength n)).length)
    (h2 : c2.length = (cr50Basis (bitLength n)).length)
    (hd1 : ∀ c ∈ c1, 0 ≤ c ∧ c < 256) (hd2 : ∀ c ∈ c2, 0 ≤ c ∧ c < 256)
    (hs1 : SignedWith n d v1 (dotZip (cr50Basis (bitLength n)) c1))
    (hs2 : SignedWith n d v2 (dotZip (cr50Basis (bitLength n)) c2))
    (hr1 : ¬ n ∣ v1.1) (hr2 : ¬ n ∣ v2.1) :
    ((∃ rows q, cr50Lattice ((v2.1 : Int) * v1.2.1 % (n : Int)) (-(v1.1 : Int) * v2.2.1 % (n : Int))
        (((v2.1 : Int) * v1.2.2 - (v1.1 : Int) * v2.2.2) % (n : Int)) n
        (cr50Basis (bitLength n)) = .ok rows ∧
      lincomb (2 * (cr50Basis (bitLength n)).length + 2) (c1 ++ (c2 ++ [-1, -q])) rows =
        plantedRowCr50 c1 c2) ∧
      (∀ v ∈ plantedRowCr50 c1 c2, |v| ≤ 256) ∧ Cr50Short n 256) ∧
    ∀ reduced : List (List Int), PMMem (plantedRowCr50 c1 c2) reduced →
      ∃ gs, cr50Guesses v1.1 v1.2.1 v1.2.2 v2.1 v2.2.1 v2.2.2 n reduced = .ok gs ∧ d ∈ gs := by
  obtain ⟨hpre, hpost⟩ := sandwich_cr50 n hp hbl d hd v1 v2 c1 c2 h1 h2 hd1 hd2 hs1 hs2 hr1 hr2
  refine ⟨⟨hpre, ?_, cr50Short_bytes n hp.ne_zero hbl⟩, hpost⟩
  intro v hv
  simp only [plantedRowCr50, List.mem_append, List.mem_cons, List.not_mem_nil, or_false] at hv
  rcases hv with hv | hv | rfl | rfl
  · have := hd1 v hv; rw [abs_of_nonneg this.1]; omega
  · have := hd2 v hv; rw [abs_of_nonneg this.1]; omega
  · norm_num
  · norm_num

/-- **chain, CheckCr50U2f, bound carried.** -/
theorem chain_cr50_short {O : Nat → GroupOracle} {factory : Factory} {arts : List Sig}
    {res : CheckResult} {cid : Nat} {obj : CurveObj} {key : Key} {d : Nat} {env : SolverEnv}
    {lll : Nat → Nat → LllAnswers}
    (S : Setting .cr50 O factory arts res cid obj key d env lll)
    (hbl : bitLength obj.curve.n % 32 = 0)
    (j : Nat) (hj : j < (mapIssuerSigIndexes ((groupFrom cid 0 arts).map Prod.snd)).length)
    (kk : Nat) (v1 v2 : Triple) (hv1 : ((O cid).uniq j)[kk]? = some v1)
    (hv2 : ((O cid).uniq j)[kk + 1]? = some v2) (c1 c2 : List Int)
    (h1 : c1.length = (cr50Basis (bitLength obj.curve.n)).length)
    (h2 : c2.length = (cr50Basis (bitLength obj.curve.n)).length)
    (hd1 : ∀ c ∈ c1, 0 ≤ c ∧ c < 256) (hd2 : ∀ c ∈ c2, 0 ≤ c ∧ c < 256)
    (hs1 : SignedWith obj.curve.n d v1 (dotZip (cr50Basis (bitLength obj.curve.n)) c1))
    (hs2 : SignedWith obj.curve.n d v2 (dotZip (cr50Basis (bitLength obj.curve.n)) c2))
    (hr1 : ¬ obj.curve.n ∣ v1.1) (hr2 : ¬ obj.curve.n ∣ v2.1) :
    ((∃ rows q, cr50Lattice ((v2.1 : Int) * v1.2.1 % (obj.curve.n : Int))
        (-(v1.1 : Int) * v2.2.1 % (obj.curve.n : Int))
        (((v2.1 : Int) * v1.2.2 - (v1.1 : Int) * v2.2.2) % (obj.curve.n : Int)) obj.curve.n
        (cr50Basis (bitLength obj.curve.n)) = .ok rows ∧
      lincomb (2 * (cr50Basis (bitLength obj.curve.n)).length + 2) (c1 ++ (c2 ++ [-1, -q])) rows =
        plantedRowCr50 c1 c2) ∧
      (∀ v ∈ plantedRowCr50 c1 c2, |v| ≤ 256) ∧ Cr50Short obj.curve.n 256) ∧
    (PMMem (plantedRowCr50 c1 c2) (lll j kk 0) →
      ∀ bi s, arts[bi]? = some s → s.curve = cid → s.key = key →
        verdictOf res.writes bi = some (posVerdict d)) := by
  obtain ⟨hpre, _⟩ := sandwich_cr50_short obj.curve.n S.nPrime hbl d S.dLt v1 v2 c1 c2 h1 h2 hd1 hd2
    hs1 hs2 hr1 hr2
  exact ⟨hpre, fun hlll => chain_cr50 S hbl j hj kk v1 v2 hv1 hv2 c1 c2 h1 h2 hd1 hd2 hs1 hs2 hr1 hr2
    hlll⟩

/-! ## 5. LCG: any representative, and a bound that is about the entries -/

/-- **LCG sandwich.**  As `C08Chain.sandwich_lcg`, with the bound stated on the actual entries: a
positive weight, `|e_t| < B` for the parts `e_t ≡ A_t + B_t·x` ⇒ every tail entry of the planted row
is below `B·w` (against `n·w` on the diagonal).  There is no `bits` here: how small
`c_j·k_i − d_j mod n` is for GMP's generator is a property of the shipped constants (measured, not
proved — Props/C08ChainAnyEx.lean evaluates `ScaleShort n M 1 B` on a real instance). -/
theorem sandwich_lcg_any (a b : List Int) (x : Int) (curve n : Nat) (lcg : Option Nat)
    (f : SearchFlags) (factory : List LcgMeta) (oracle : Nat → List (List Int)) (hp : n.Prime)
    (hlen : a.length = b.length) (hf : f.none = false)
    (hmeta : ∀ m ∈ factory, entrySelected m curve lcg = true → MetaOk m)
    (k : Nat) (s : HnpSubset) (hs : (hnpSubsets a b curve lcg f factory).yields[k]? = some s)
    (es : List Int) (hes : es.length = s.a.length * s.constants.length)
    (hrel : ∀ t, t < s.a.length * s.constants.length →
      ent (precompAs s.a n s.constants) t + ent (precompBs s.a s.b n s.constants) t * x ≡
        ent es t [ZMOD n])
    (B : Int) (hw : 0 < s.w) (hB : ∀ e ∈ es, |e| < B)
    (hrows : ∀ i, ∀ r ∈ oracle i, 2 ≤ r.length) :
    ∃ rows cs, precompLattice s.a s.b n s.constants s.w = .ok rows ∧
      lincomb (s.a.length * s.constants.length + 2) (1 :: x :: cs) rows = plantedRow n s.w x es ∧
      (∀ v ∈ es.map (· * s.w), |v| < B * s.w) ∧
      (PMMem (plantedRow n s.w x es) (oracle k) →
        ∃ gs, hnpForCurve a b curve (some (some n)) lcg f factory oracle = .ok gs ∧
          (x % (n : Int)).toNat ∈ gs) := by
  obtain ⟨rows, cs, h1, h2, h3, h4⟩ := sandwich_lcg a b x curve n lcg f factory oracle hp hlen hf
    hmeta k s hs es hes hrel hrows
  exact ⟨rows, cs, h1, h2, h3 B hw hB, h4⟩

/-- **chain, CheckLCGNonceGMP / CheckLCGNonceJavaUtilRandom**, any `x ≡ d` in the key position, the
bound carried.  (`hrel` is stated with `d`; it only depends on the class of the key.) -/
theorem chain_lcg_any {name flags : Nat} {O : Nat → GroupOracle} {factory : Factory}
    {arts : List Sig} {res : CheckResult} {cid : Nat} {obj : CurveObj} {key : Key} {d : Nat}
    {env : SolverEnv} {lll : Nat → Nat → LllAnswers}
    (S : Setting (.biased (.lcg name flags)) O factory arts res cid obj key d env lll)
    (j : Nat) (hj : j < (mapIssuerSigIndexes ((groupFrom cid 0 arts).map Prod.snd)).length)
    (ab : List (Nat × Nat)) (hab : hnpParamsList obj.curve.n ((O cid).uniq j) = .ok ab)
    (hf : (flagsOfNat flags).none = false)
    (hmeta : ∀ m ∈ env.lcgFactory, entrySelected m cid (some name) = true → MetaOk m)
    (k : Nat) (s : HnpSubset)
    (hs : (hnpSubsets (argA ab) (argB ab) cid (some name) (flagsOfNat flags)
      env.lcgFactory).yields[k]? = some s)
    (es : List Int) (hes : es.length = s.a.length * s.constants.length)
    (hrel : ∀ t, t < s.a.length * s.constants.length →
      ent (precompAs s.a obj.curve.n s.constants) t +
        ent (precompBs s.a s.b obj.curve.n s.constants) t * d ≡ ent es t [ZMOD obj.curve.n])
    (x : Int) (hx : x ≡ (d : Int) [ZMOD (obj.curve.n : Int)])
    (B : Int) (hw : 0 < s.w) (hB : ∀ e ∈ es, |e| < B)
    (hrows : ∀ i, ∀ r ∈ lll j 0 i, 2 ≤ r.length) :
    (∃ rows cs, precompLattice s.a s.b obj.curve.n s.constants s.w = .ok rows ∧
      lincomb (s.a.length * s.constants.length + 2) (1 :: x :: cs) rows =
        plantedRow obj.curve.n s.w x es ∧
      (∀ v ∈ es.map (· * s.w), |v| < B * s.w)) ∧
    (PMMem (plantedRow obj.curve.n s.w x es) (lll j 0 k) →
      ∀ bi s', arts[bi]? = some s' → s'.curve = cid → s'.key = key →
        verdictOf res.writes bi = some (posVerdict d)) := by
  have hlen : (argA ab).length = (argB ab).length := by simp [natsToInts]
  have hrel' : ∀ t, t < s.a.length * s.constants.length →
      ent (precompAs s.a obj.curve.n s.constants) t +
        ent (precompBs s.a s.b obj.curve.n s.constants) t * x ≡ ent es t [ZMOD obj.curve.n] := by
    intro t ht
    exact ((hx.mul_left _).add_left _).trans (hrel t ht)
  obtain ⟨rows, cs, h1, h2, h3, hpost⟩ := sandwich_lcg_any (argA ab) (argB ab) x cid obj.curve.n
    (some name) (flagsOfNat flags) env.lcgFactory (lll j 0) S.nPrime hlen hf hmeta k s hs es hes hrel'
    B hw hB hrows
  refine ⟨⟨rows, cs, h1, h2, h3⟩, fun hlll => ?_⟩
  obtain ⟨gs, hgs, hdgs⟩ := hpost hlll
  rw [toNat_of_modEq x d obj.curve.n S.dLt hx] at hdgs
  exact chain_forcurve name flags O factory arts res S.factoryOK S.factoryReduced S.nodup
    S.guessConsistent S.checked cid obj S.hobj S.gOrder key S.keyReduced d S.dLt S.keyOf env S.envN
    lll S.solved j hj ab hab gs hgs hdgs

end Paranoid.C08ChainAny
