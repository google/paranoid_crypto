/-
Props/C20TotalLink.lean — C20: the outcome `.diverges` / `.value` of Model/RngTotal.lean LINKED to the
literal `while` loops, and the scope of `C20Total.entry_total`.

`Rng.lehmerOutcome` answers `.diverges` BY DEFINITION for `bits = 0` (`if p.bits = 0 then .diverges`), and
`C20Total.entry_not_ok` / `lehmer_outcome_vs_model` only unfold that definition.  The content — that the Python
`while 8 * len(ba) < n` loop really does not end there, and really ends elsewhere — is
`C20Total.lehmer_bits_zero_never_terminates` / `lehmer_while_is_for`, which are about `Rng.lehmerWhile` (the
loop with fuel), not about `lehmerOutcome`.  Here, for every parameter set the constructor
accepts (`bits % 8 = 0`) with `mod ≠ 0` (for `mod = 0` the first iteration raises; `lehmerWhile` does not
model that), every `n` and every integer seed:

* `lehmer_diverges_iff`  `lehmerOutcome … = .diverges`  ↔  for EVERY fuel the loop is still running;
* `lehmer_value_iff`     `lehmerOutcome … = .value r`   ↔  for SOME fuel the loop has ended with bytes `ba` and
                         `r` is the code's tail (`int.from_bytes`, mask) of `ba`;
* `lehmer_outcome_cases` one of the two, never `.raises`.

For `SubsetSum` the loop consumes `os.urandom` answers, so the model has no fuel: `.diverges` is defined as
"the loop is still running when the SUPPLIED answers are used up" (`subsetSum … = none`).
* `subsetSum_diverges_iff`  `.diverges` ↔ fewer than ⌈n / bits⌉ of the supplied answers have a non-zero subset
                            sum (so for a non-degenerate generator `.diverges` only means "oracle list too
                            short", not non-termination);
* `subsetSum_diverges_for_ever`  in the degenerate cases (`bits = 0`, or all generators 0, e.g. `k = 0`) the
                            outcome is `.diverges` for EVERY continuation of the answer list — genuine
                            non-termination whatever `os.urandom` returns.

SCOPE of `C20Total.entry_total`: `Rng.run` takes an INTEGER SEED.  It covers
`G(params).RandomBits(n, seed=<int>)` only.  The unseeded call of `Lehmer` first draws its seed in a
rejection loop (`while True: seed = urandom % mod; if gcd(seed, mod) == 1: break`), which is NOT modelled:
for `mod ≥ 1` it ends with probability 1 (each draw is accepted with probability ≈ φ(mod)/mod > 0; for
`mod = 1` the first draw `0` is accepted), but no theorem says so, and it never ends if `os.urandom` keeps
returning non-units.  After the draw the code is the seeded code.  `TruncLcgRand` / `Mwc` draw an unseeded
seed without a loop; `SubsetSum` ignores `seed`.  Measured on /repo HEAD: `Lehmer(3, 7, 8).RandomBits(16)`,
`Lehmer().RandomBits(100)`, `Lehmer(3, 1, 8).RandomBits(16)` (unseeded) return; harness/corr/c20.py compares
seeded calls with the model and checks only range / termination of unseeded ones.
-/
import ParanoidModel.Props.C20Total
namespace Paranoid.C20TotalLink
open Paranoid Paranoid.Rng

/-- ★ `.diverges` means: the literal loop is still running after ANY number of iterations. -/
theorem lehmer_diverges_iff (p : LehmerParams) (h8 : p.bits % 8 = 0) (hm : p.mod ≠ 0) (n : Nat)
    (seed : Int) :
    lehmerOutcome p n seed = .diverges ↔ ∀ fuel, lehmerWhile p n fuel seed [] = none := by
  rw [(C20Total.lehmer_outcome_vs_model p n seed).1]
  constructor
  · rintro ⟨hn, _, hb⟩ fuel
    exact lehmerWhile_bits_zero p hb n hn fuel seed
  · intro hall
    by_cases hb : p.bits = 0
    · refine ⟨?_, hm, hb⟩
      by_contra hn
      have h0 : n = 0 := by omega
      have := hall 0
      rw [h0] at this
      simp [lehmerWhile] at this
    · exfalso
      have := lehmerWhile_eq_bytes p h8 (by omega) n seed _ (Nat.le_refl _)
      rw [hall] at this
      cases this

/-- ★ `.value r` means: the literal loop ends (for some, hence every larger, number of allowed
iterations) and `r` is `int.from_bytes(ba, "little")`, masked to `n` bits if `8·len(ba) ≠ n`. -/
theorem lehmer_value_iff (p : LehmerParams) (h8 : p.bits % 8 = 0) (hm : p.mod ≠ 0) (n : Nat)
    (seed : Int) (r : Nat) :
    lehmerOutcome p n seed = .value r ↔
      ∃ fuel ba, lehmerWhile p n fuel seed [] = some ba ∧ finishLE ba n = r := by
  constructor
  · intro h
    unfold lehmerOutcome at h
    by_cases hn : n = 0
    · rw [if_pos hn] at h
      cases h
      exact ⟨0, [], by simp [lehmerWhile, hn], by subst hn; decide⟩
    · rw [if_neg hn, if_neg hm] at h
      by_cases hb : p.bits = 0
      · rw [if_pos hb] at h; cases h
      · rw [if_neg hb] at h
        cases h
        exact ⟨_, _, lehmerWhile_eq_bytes p h8 (by omega) n seed _ (Nat.le_refl _), rfl⟩
  · rintro ⟨fuel, ba, hw, hr⟩
    have hnd : lehmerOutcome p n seed ≠ .diverges := fun hd => by
      rw [(lehmer_diverges_iff p h8 hm n seed).mp hd fuel] at hw; cases hw
    unfold lehmerOutcome at hnd ⊢
    by_cases hn : n = 0
    · rw [if_pos hn]
      subst hn
      have : ba = [] := by
        cases fuel <;> simpa [lehmerWhile] using hw.symm
      subst this
      rw [← hr]; decide
    · rw [if_neg hn, if_neg hm] at hnd ⊢
      by_cases hb : p.bits = 0
      · rw [if_pos hb] at hnd; exact absurd rfl hnd
      · rw [if_neg hb]
        rw [lehmerWhile_closed p h8 (by omega) n fuel seed [], List.length_nil, Nat.mul_zero,
          Nat.sub_zero] at hw
        split at hw
        · cases hw
          rw [← hr]; rfl
        · cases hw

/-- for accepted parameters with `mod ≠ 0` the outcome is a value or divergence, never an exception. -/
theorem lehmer_outcome_cases (p : LehmerParams) (hm : p.mod ≠ 0) (n : Nat) (seed : Int) :
    lehmerOutcome p n seed = .diverges ∨ ∃ r, lehmerOutcome p n seed = .value r := by
  unfold lehmerOutcome
  by_cases hn : n = 0
  · rw [if_pos hn]; exact Or.inr ⟨0, rfl⟩
  · rw [if_neg hn, if_neg hm]
    by_cases hb : p.bits = 0
    · rw [if_pos hb]; exact Or.inl rfl
    · rw [if_neg hb]; exact Or.inr ⟨_, rfl⟩

/-! ## SubsetSum -/

/-- ★ what `.diverges` means for `SubsetSum`: the supplied `os.urandom` answers contain fewer than
⌈n / bits⌉ selections with a non-zero subset sum (`n > bits · #nonzero`), i.e. the `while` loop is still
running when they are used up. -/
theorem subsetSum_diverges_iff (bits : Nat) (h8 : bits % 8 = 0) (n : Nat) (gens : List Nat)
    (sels : List (List UInt8)) (hs : ∀ sel ∈ sels, (gens.length + 7) / 8 ≤ sel.length) :
    subsetSumOutcome bits n gens sels = .diverges ↔ bits * nonzeroSels gens sels < n := by
  have h := (C20Total.subsetSum_returns_iff bits h8 n gens sels hs).1
  unfold subsetSumOutcome
  cases hr : subsetSum bits n gens sels with
  | some r =>
    have := h.mp ⟨r, hr⟩
    simp only [reduceCtorEq, false_iff]
    omega
  | none =>
    simp only [true_iff]
    by_contra hc
    obtain ⟨r, hr'⟩ := h.mpr (by omega)
    rw [hr] at hr'; cases hr'

/-- ★ genuine non-termination: with `bits = 0` or all generators zero (`k = 0` included) and `n ≥ 1`, the
outcome is `.diverges` after the supplied answers AND after every continuation of them. -/
theorem subsetSum_diverges_for_ever (bits : Nat) (h8 : bits % 8 = 0) (n : Nat) (hn : 0 < n)
    (gens : List Nat) (sels : List (List UInt8)) (h : bits = 0 ∨ ∀ g ∈ gens, g = 0)
    (more : List (List UInt8))
    (hs : ∀ sel ∈ sels ++ more, (gens.length + 7) / 8 ≤ sel.length) :
    subsetSumOutcome bits n gens (sels ++ more) = .diverges :=
  (C20Total.subsetSum_never_ends bits h8 n hn gens (sels ++ more) hs
    (h.elim Or.inl (fun h' => Or.inr (Or.inl h')))).2

/-! ## Non-vacuity -/

-- bits = 8: three iterations for n = 20; `.value` and the loop agree
-- (real code: `rng.Lehmer(7, 10, 8).RandomBits(20, seed=5)` = 32896)
example : lehmerOutcome ⟨7, 10, 8⟩ 20 5 = .value 32896 ∧ finishLE (lehmerBytes ⟨7, 10, 8⟩ 3 5) 20 = 32896 ∧
    lehmerWhile ⟨7, 10, 8⟩ 20 3 5 [] = some (lehmerBytes ⟨7, 10, 8⟩ 3 5) ∧
    (⟨7, 10, 8⟩ : LehmerParams).bits % 8 = 0 ∧ (⟨7, 10, 8⟩ : LehmerParams).mod ≠ 0 := by decide +kernel
-- bits = 0
example : lehmerOutcome ⟨7, 10, 0⟩ 1 5 = .diverges ∧ lehmerWhile ⟨7, 10, 0⟩ 1 50 5 [] = none := by
  decide +kernel
-- SubsetSum: two non-zero answers of 8 bits are too few for n = 17, enough for n = 16
example : subsetSumOutcome 8 17 [3, 5] [[0], [3], [1]] = .diverges ∧
    subsetSumOutcome 8 16 [3, 5] [[0], [3], [1]] = .value 776 ∧ nonzeroSels [3, 5] [[0], [3], [1]] = 2 := by
  decide +kernel

end Paranoid.C20TotalLink
