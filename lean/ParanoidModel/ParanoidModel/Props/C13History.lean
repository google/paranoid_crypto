/-
Props/C13History.lean — C13, decision-rule part, stated in terms of the HISTORY of runs.

Props/C13.lean states the rule for "recorded p-values `pv`" (an existential list); nothing there
says that the recorded list is what the runs returned: on the two-run history `twoRuns` at the
end of this file a mutant `Run` that stores only the newest p-value satisfies the conclusion of
`C13.state_rule` and violates the conclusions of this file (ONE instance; that the mutant satisfies
`C13.state_rule` on every history is plausible but NOT proved).
Here the rule is stated as the property words it: after ANY history of runs of a new
TestStructure, with `returned name os` = all p-values the runs `os` returned under `name`, in
order (single floats / ints count under "result", InsufficientDataError returns nothing):

* `pvalues_are_history`  the list recorded under `name` IS `returned name os`;
* `state_rule`           FAILED / PASSED / UNDECIDED ↔ the comparison of
                         CombinedPValue(returned name os) with the fail level and with
                         CombinedPValue([repeat] * number of returned values); no entry iff nothing
                         was returned under the name;
* `failed_rule`          Failed() ↔ some name's returned p-values combine below the fail level;
* `finished_rule`        `finished` after the history `os ++ [o]`, for ANY result list (names may
                         repeat): no decision made while merging `o` came out UNDECIDED and
                         min_repetitions ≤ number of runs; `finished_rule_distinct_names` is the
                         reading "no sub-test of the last result is UNDECIDED";
* `testSource_history`, `testBitString_history`  every structure of the entry points is the history
                         of the outcomes of its own test (run exactly in the rounds in which it
                         was unfinished), and the returned bool ↔ some sub-test of some test
                         fails by the rule on ITS returned p-values.

Quantification as in Props/C13.lean: every number type and comparison semantics `N : Num α`
(ties, NaN), every value of the float tail of CombinedPValue, every fail / repeat level, every
minimum repetition count, every history.  "`… = .ok ts`" = no `Run` raised (the only exception
is math.log's inside CombinedPValue).  Helper lemmas: Proofs/SuiteHistory.lean.
-/
import ParanoidModel.Proofs.SuiteHistory
import ParanoidModel.Props.C13
namespace Paranoid.C13History
open Paranoid Paranoid.Suite

variable {α : Type}

/-- After any history of runs of a new structure the p-values recorded under `name` are exactly
the p-values the runs returned under `name`, in order; a name under which nothing was returned
has no entry. -/
theorem pvalues_are_history (N : Num α) (fail rep : α) (minRep : Nat) (os : List (Outcome α))
    (ts : TS α) (h : runHistory N (TS.init fail rep minRep) os = .ok ts) (name : String) :
    dictGet name ts.pvalues =
      if (returned name os).isEmpty then none else some (returned name os) := by
  rcases history_state N fail rep minRep os ts h name with ⟨he, hp, -, -⟩ | ⟨c, st, hd, hp, -, -⟩
  · rw [he, hp]; rfl
  · rw [hp, stateOf_ne_nil N fail rep _ _ hd]; rfl

/-- one more run appends what it returned (any structure, not only one reached from `init`). -/
theorem run_appends (N : Num α) (ts ts' : TS α) (o : Outcome α) (fin : Bool)
    (h : run N ts o = .ok (ts', fin)) (name : String) :
    pvalsOf ts' name = pvalsOf ts name ++ outcomeVals name o :=
  (run_spec N ts ts' o fin h).1.pvals name

/-- THE RULE in terms of the history.  With `pv := returned name os`:
no p-value returned under `name` ⇒ the name has no state, no combined value, no list;
otherwise the recorded list is `pv`, the recorded combination is `c = CombinedPValue(pv)`, and
  FAILED    ↔ c < fail
  PASSED    ↔ ¬ c < fail ∧ CombinedPValue([rep] * len(pv)) < c
  UNDECIDED ↔ ¬ c < fail ∧ ¬ CombinedPValue([rep] * len(pv)) < c. -/
theorem state_rule (N : Num α) (fail rep : α) (minRep : Nat) (os : List (Outcome α)) (ts : TS α)
    (h : runHistory N (TS.init fail rep minRep) os = .ok ts) (name : String) :
    ((returned name os).isEmpty = true →
      dictGet name ts.state = none ∧ dictGet name ts.combined = none ∧
      dictGet name ts.pvalues = none) ∧
    ((returned name os).isEmpty = false →
      ∃ c st, dictGet name ts.pvalues = some (returned name os) ∧
        combinedPValue N (returned name os) = .ok c ∧
        dictGet name ts.combined = some c ∧ dictGet name ts.state = some st ∧
        (st = .failed ↔ N.lt c fail = true) ∧
        (st = .passed ↔ N.lt c fail = false ∧
          ∃ rp, combinedPValue N (List.replicate (returned name os).length rep) = .ok rp ∧
            N.lt rp c = true) ∧
        (st = .undecided ↔ N.lt c fail = false ∧
          ∃ rp, combinedPValue N (List.replicate (returned name os).length rep) = .ok rp ∧
            N.lt rp c = false)) := by
  rcases history_state N fail rep minRep os ts h name with ⟨he, hp, hc, hs⟩ | ⟨c, st, hd, hp, hc, hs⟩
  · rw [he]
    exact ⟨fun _ => ⟨hs, hc, hp⟩, fun h' => by cases h'⟩
  · obtain ⟨s1, s2, s3, s4⟩ := stateOf_spec N fail rep _ c st hd
    refine ⟨fun he => ?_, fun _ => ⟨c, st, hp, s1, hc, hs, s2, s3, s4⟩⟩
    rw [stateOf_ne_nil N fail rep _ _ hd] at he
    cases he

/-- a sub-test is FAILED after the history iff the Fisher combination of ALL p-values it
returned so far is below the fail level (the sentence of the property). -/
theorem failed_iff_history (N : Num α) (fail rep : α) (minRep : Nat) (os : List (Outcome α))
    (ts : TS α) (h : runHistory N (TS.init fail rep minRep) os = .ok ts) (name : String) :
    dictGet name ts.state = some TState.failed ↔
      ∃ c, combinedPValue N (returned name os) = .ok c ∧ N.lt c fail = true := by
  rcases history_state N fail rep minRep os ts h name with ⟨he, -, -, hs⟩ | ⟨c, st, hd, -, -, hs⟩
  · rw [hs, he]
    constructor
    · intro h'
      cases h'
    · rintro ⟨c, hc, -⟩
      cases hc
  · obtain ⟨s1, s2, -, -⟩ := stateOf_spec N fail rep _ c st hd
    rw [hs]
    constructor
    · intro h'
      cases h'
      exact ⟨c, s1, s2.1 rfl⟩
    · rintro ⟨c', hc', hlt⟩
      rw [s1] at hc'
      cases hc'
      rw [s2.2 hlt]

/-- `Failed()` ↔ some sub-test's returned p-values combine below the fail level. -/
theorem failed_rule (N : Num α) (fail rep : α) (minRep : Nat) (os : List (Outcome α)) (ts : TS α)
    (h : runHistory N (TS.init fail rep minRep) os = .ok ts) :
    failed ts = true ↔
      ∃ name c, combinedPValue N (returned name os) = .ok c ∧ N.lt c fail = true := by
  rw [failed_iff N ts (history_spec N fail rep minRep os ts h).tracked.inv]
  exact exists_congr fun name => failed_iff_history N fail rep minRep os ts h name

/-- "the decision for the p-values `pv` is UNDECIDED", spelled out. -/
theorem undecided_iff (N : Num α) (fail rep : α) (pv : List α) :
    isUndecided N fail rep pv = true ↔
      ∃ c rp, combinedPValue N pv = .ok c ∧ N.lt c fail = false ∧
        combinedPValue N (List.replicate pv.length rep) = .ok rp ∧ N.lt rp c = false := by
  unfold isUndecided
  constructor
  · intro h
    split at h
    · rename_i c hs
      obtain ⟨s1, _, _, s4⟩ := stateOf_spec N fail rep pv c _ hs
      obtain ⟨a, rp, b, d⟩ := s4.1 rfl
      exact ⟨c, rp, s1, a, b, d⟩
    · cases h
  · rintro ⟨c, rp, h1, h2, h3, h4⟩
    have : stateOf N fail rep pv = .ok (c, .undecided) := by
      unfold stateOf
      simp [h1, h2, h3, h4]
    rw [this]

/-- `finished` as coded, for ANY result list (no assumption on the names): after the history
`os ++ [o]` whose last run returned the list `items`, the structure is finished iff
(1) none of the decisions made while merging `items` — one after each item `it`, for everything
returned under `it`'s name up to and including that item — came out UNDECIDED, and
(2) min_repetitions ≤ number of runs.
The real code counts `undecided += 1` per item, so with a name occurring twice in one result a
first UNDECIDED decision keeps the test unfinished even when the second decision for the same
name is PASSED (reproduced on the real TestStructure: result [("a",0.005),("a",0.9)], levels
1e-9 / 0.01 → state {a: PASSED}, Run returns False). -/
theorem finished_rule (N : Num α) (fail rep : α) (minRep : Nat) (os : List (Outcome α))
    (o : Outcome α) (items : List (String × α)) (ts : TS α) (ho : asNamed o = some items)
    (h : runHistory N (TS.init fail rep minRep) (os ++ [o]) = .ok ts) :
    ts.finished = true ↔
      (∀ pre it suf, items = pre ++ it :: suf →
        isUndecided N fail rep (returned it.1 os ++ itemVals it.1 (pre ++ [it])) = false) ∧
      minRep ≤ os.length + 1 := by
  obtain ⟨ts1, fin, h1, h2⟩ := (runHistory_snoc_ok N _ ts os o).mp h
  have hh := history_spec N fail rep minRep os ts1 h1
  simp only [run_finished_any_names N ts1 ts o items fin ho h2, hh.fail, hh.rep, hh.minRep, hh.runs, hh.pvals]

/-- `finished` when the names of the last result are pairwise different (true of every test
registered in `TESTS`: template / block-size / state labels are distinct by construction — read
off the code, not proved): finished iff NO sub-test of the last result is UNDECIDED for ALL the
p-values it returned so far, and min_repetitions ≤ number of runs. -/
theorem finished_rule_distinct_names (N : Num α) (fail rep : α) (minRep : Nat)
    (os : List (Outcome α)) (o : Outcome α) (items : List (String × α)) (ts : TS α)
    (ho : asNamed o = some items) (hnd : (items.map (·.1)).Nodup)
    (h : runHistory N (TS.init fail rep minRep) (os ++ [o]) = .ok ts) :
    ts.finished = true ↔
      (∀ name ∈ items.map (·.1),
        isUndecided N fail rep (returned name (os ++ [o])) = false) ∧
      minRep ≤ os.length + 1 := by
  obtain ⟨ts1, fin, -, h2⟩ := (runHistory_snoc_ok N _ ts os o).mp h
  have hh := history_spec N fail rep minRep _ ts h
  rw [(C13.finished_rule N ts1 ts o fin h2).2.2.2 items ho hnd, hh.minRep, hh.runs, List.length_append]
  have hst : ∀ name, dictGet name ts.state ≠ some TState.undecided ↔
      isUndecided N fail rep (returned name (os ++ [o])) = false := fun name => by
    unfold isUndecided
    rcases history_state N fail rep minRep _ ts h name with ⟨he, -, -, hs⟩ | ⟨c, st, hd, -, -, hs⟩
    · rw [hs, he]
      exact ⟨fun _ => rfl, fun _ h' => nomatch h'⟩
    · rw [hs, hd]
      cases st <;> simp
  simp only [hst]
  rfl

/-- a run that raised InsufficientDataError finishes the structure whatever the history. -/
theorem finished_insufficient (N : Num α) (ts : TS α) :
    run N ts .insufficient = .ok ({ ts with runs := ts.runs + 1, finished := true }, true) :=
  run_insufficient N ts

/-- TestSource, in terms of histories.  When it returns:
* there is one structure per selected test;
* the structure at position `i` is the history of what test `i` returned in the rounds
  `0 … k-1` (`column outcomes i k`) for some `k`: it was unfinished after each shorter history —
  the test is repeated exactly while it is unfinished — and is finished after `k` runs; so its
  recorded p-values are everything test `i` returned in those rounds;
* the return value is True exactly when for some test `i` some sub-test's returned p-values
  combine below the fail level. -/
theorem testSource_history (N : Num α) (nTests : Nat) (fail rep : α) (minRep : Nat)
    (outcomes : Nat → Nat → Outcome α) (fuel : Nat) (tests : List (TS α)) (ret : Option Bool)
    (h : testSource N nTests fail rep minRep outcomes fuel = .ok (some (tests, ret))) :
    tests.length = nTests ∧
    (∀ i ts, tests[i]? = some ts →
      ∃ k, runHistory N (TS.init fail rep minRep) (column outcomes i k) = .ok ts ∧
        ts.finished = true ∧ ts.runs = k ∧
        (∀ j, j < k → ∃ tsj,
          runHistory N (TS.init fail rep minRep) (column outcomes i j) = .ok tsj ∧
          tsj.finished = false) ∧
        ∀ name, dictGet name ts.pvalues =
          if (returned name (column outcomes i k)).isEmpty then none
          else some (returned name (column outcomes i k))) ∧
    (nTests ≠ 0 → ∃ b, ret = some b ∧
      (b = true ↔ ∃ i k ts, tests[i]? = some ts ∧
        runHistory N (TS.init fail rep minRep) (column outcomes i k) = .ok ts ∧
        ∃ name c, combinedPValue N (returned name (column outcomes i k)) = .ok c ∧
          N.lt c fail = true)) := by
  obtain ⟨hlen, htr⟩ := testSource_histories N nTests fail rep minRep outcomes fuel tests ret h
  refine ⟨hlen, fun i ts hi => ?_, fun hn => ?_⟩
  · obtain ⟨k, hh, hfin, hpre⟩ := htr i ts hi
    refine ⟨k, hh, hfin, ?_, hpre, pvalues_are_history N fail rep minRep _ ts hh⟩
    rw [(history_spec N fail rep minRep _ ts hh).runs, column, List.length_map, List.length_range]
  · rcases testSource_ok N nTests fail rep minRep outcomes fuel tests ret h with ⟨h0, -, -⟩ | ⟨-, rfl, -⟩
    · exact (hn h0).elim
    · refine ⟨_, rfl, ?_⟩
      rw [List.any_eq_true]
      constructor
      · rintro ⟨ts, hts, hf⟩
        obtain ⟨i, hi⟩ := List.mem_iff_getElem?.1 hts
        obtain ⟨k, hh, -, -⟩ := htr i ts hi
        exact ⟨i, k, ts, hi, hh, (failed_rule N fail rep minRep _ ts hh).1 hf⟩
      · rintro ⟨i, k, ts, hi, hh, hex⟩
        exact ⟨ts, List.mem_of_getElem? hi, (failed_rule N fail rep minRep _ ts hh).2 hex⟩

/-- TestBitString, in terms of histories: one structure per selected test, the structure at
position `i` is ONE run (fail level = repeat level = `level`) on what test `i` returned, and the
return value is True exactly when some sub-test's returned p-value(s) combine below the level. -/
theorem testBitString_history (N : Num α) (nTests : Nat) (level : α) (outcome : Nat → Outcome α)
    (tests : List (TS α)) (b : Bool)
    (h : testBitString N nTests level outcome = .ok (tests, b)) :
    tests.length = nTests ∧
    (∀ i ts, tests[i]? = some ts →
      runHistory N (TS.init level level 1) [outcome i] = .ok ts ∧
      ∀ name, dictGet name ts.pvalues =
        if (outcomeVals name (outcome i)).isEmpty then none
        else some (outcomeVals name (outcome i))) ∧
    (b = true ↔ ∃ i name c, i < nTests ∧
      combinedPValue N (outcomeVals name (outcome i)) = .ok c ∧ N.lt c level = true) := by
  obtain ⟨rfl, hrun⟩ := testBitString_ok N nTests level outcome tests b h
  obtain ⟨hlen, htr⟩ := runAll_histories N outcome 0 (TS.init level level 1) nTests tests hrun
  have hret : ∀ name i, returned name [outcome i] = outcomeVals name (outcome i) := fun name i => by
    rw [returned_cons, returned_nil, List.append_nil]
  have hh : ∀ i ts, tests[i]? = some ts → runHistory N (TS.init level level 1) [outcome i] = .ok ts :=
    fun i ts hi => by
      have := htr i ts hi
      rwa [Nat.zero_add] at this
  refine ⟨hlen, fun i ts hi => ⟨hh i ts hi, fun name => ?_⟩, ?_⟩
  · have := pvalues_are_history N level level 1 _ ts (hh i ts hi) name
    rwa [hret] at this
  · rw [List.any_eq_true]
    constructor
    · rintro ⟨ts, hts, hf⟩
      obtain ⟨i, hi⟩ := List.mem_iff_getElem?.1 hts
      obtain ⟨nm, c, hc, hlt⟩ := (failed_rule N level level 1 _ ts (hh i ts hi)).1 hf
      rw [hret] at hc
      exact ⟨i, nm, c, by rw [← hlen]; exact (List.getElem?_eq_some_iff.1 hi).1, hc, hlt⟩
    · rintro ⟨i, name, c, hi, hc, hlt⟩
      have hil : i < tests.length := by rw [hlen]; exact hi
      have hget : tests[i]? = some tests[i] := List.getElem?_eq_getElem hil
      exact ⟨_, List.mem_of_getElem? hget,
        (failed_rule N level level 1 _ _ (hh i _ hget)).2 ⟨name, c, by rw [hret]; exact hc, hlt⟩⟩

/-! ## Non-vacuity and discrimination (number type `C13.milli`: per-mille integers) -/

/-- two runs returning 2‰ under "a" (fail level 1‰, repeat level 10‰): the recorded list is the
history `[2, 2]`, its combination 0 is below the fail level, the sub-test is FAILED. After the
first run alone it is UNDECIDED (2 is not below 1, and 10 is not below 2). -/
example :
    returned "a" [Outcome.named [("a", 2), ("b", 7)], Outcome.named [("a", 2)]] = [2, 2] ∧
    ((runHistory C13.milli (TS.init 1 10 1)
        [.named [("a", 2), ("b", 7)], .named [("a", 2)]]).map
      (fun ts => (ts.pvalues, ts.combined, ts.state))) =
      .ok ([("a", [2, 2]), ("b", [7])], [("a", 0), ("b", 7)],
           [("a", .failed), ("b", .undecided)]) ∧
    ((runHistory C13.milli (TS.init 1 10 1) [.named [("a", 2), ("b", 7)]]).map
      (fun ts => ts.state)) = .ok [("a", .undecided), ("b", .undecided)] := by
  decide +kernel

/-- a name occurring twice in ONE result: the first decision for "a" (p-values [5]) is UNDECIDED,
the second ([5, 900]) is PASSED; the recorded state is PASSED, yet the structure is NOT finished
— `finished_rule` (no hypothesis on names) says so, the distinct-names reading would not. -/
example :
    ((runHistory C13.milli (TS.init 1 10 1) [.named [("a", 5), ("a", 900)]]).map
      (fun ts => (ts.pvalues, ts.state, ts.finished))) =
      .ok ([("a", [5, 900])], [("a", .passed)], false) ∧
    isUndecided C13.milli 1 10 [5] = true ∧ isUndecided C13.milli 1 10 [5, 900] = false := by
  decide +kernel

/-- TestSource with two tests: test 1 is run in rounds 0 and 1 (UNDECIDED after round 0), test 0
only in round 0; the recorded lists are the columns of the outcome script. -/
example :
    ((testSource C13.milli 2 1 10 1
      (fun r i => if i = 0 then .scalar 500 else if r = 0 then .scalar 10 else .scalar 900) 5).map
      (fun o => o.map (fun p => p.1.map (fun ts => ts.pvalues)))) =
    .ok (some [[("result", [500])], [("result", [10, 900])]]) := by decide +kernel

/-! ### a mutant that forgets earlier p-values -/

/-- MUTANT of `runItem`: stores (and decides on) only the newest p-value. -/
def runItemForget (N : Num α) (acc : TS α × Nat) (item : String × α) :
    Except PyErr (TS α × Nat) :=
  match stateOf N acc.1.fail acc.1.rep [item.2] with
  | .error e => .error e
  | .ok (pval, st) =>
    .ok ({ acc.1 with
            pvalues := dictSet item.1 [item.2] acc.1.pvalues
            combined := dictSet item.1 pval acc.1.combined
            state := dictSet item.1 st acc.1.state },
         if st = .undecided then acc.2 + 1 else acc.2)

def runItemsForget (N : Num α) : TS α × Nat → List (String × α) → Except PyErr (TS α × Nat)
  | acc, [] => .ok acc
  | acc, it :: its =>
    match runItemForget N acc it with
    | .error e => .error e
    | .ok acc' => runItemsForget N acc' its

/-- `Run` with the mutant loop body. -/
def runForget (N : Num α) (ts : TS α) (o : Outcome α) : Except PyErr (TS α × Bool) :=
  match asNamed o with
  | none => .ok ({ ts with runs := ts.runs + 1, finished := true }, true)
  | some items =>
    match runItemsForget N ({ ts with runs := ts.runs + 1 }, 0) items with
    | .error e => .error e
    | .ok (ts', undecided) =>
      .ok ({ ts' with finished := (undecided == 0) && decide (ts'.minRep ≤ ts'.runs) },
           (undecided == 0) && decide (ts'.minRep ≤ ts'.runs))

def runHistoryForget (N : Num α) : TS α → List (Outcome α) → Except PyErr (TS α)
  | ts, [] => .ok ts
  | ts, o :: os =>
    match runForget N ts o with
    | .error e => .error e
    | .ok (ts', _) => runHistoryForget N ts' os

/-- the two-run history on which the mutant and the model differ. -/
def twoRuns : List (Outcome Nat) := [.named [("a", 2)], .named [("a", 2)]]

/-- DISCRIMINATION ON ONE HISTORY (an instance, not a theorem about the mutant: nothing here says that
the mutant satisfies `C13.state_rule` for every history).  On this history, `twoRuns`, the mutant ends
with the list `[2]` and state UNDECIDED, and
(1) on this history the mutant satisfies the conclusion of `C13.state_rule` (the existential-list
    statement) for the name "a": with `pv = [2]`, `c = 2` the equivalences for its state hold;
(2) on this history the mutant violates the conclusions of `pvalues_are_history` and of
    `failed_iff_history` / `state_rule` above: the history returned `[2, 2]`, whose combination 0 is
    below the fail level 1, so the rule demands FAILED.
The model itself (`runHistory`) ends FAILED with the list `[2, 2]`. -/
example :
    (∃ ts, runHistoryForget C13.milli (TS.init 1 10 1) twoRuns = .ok ts ∧
      -- (1) conclusion of C13.state_rule holds for the mutant
      (∃ pv c, dictGet "a" ts.pvalues = some pv ∧ dictGet "a" ts.combined = some c ∧
        combinedPValue C13.milli pv = .ok c ∧ dictGet "a" ts.state = some .undecided ∧
        (TState.undecided = .failed ↔ C13.milli.lt c 1 = true) ∧
        (TState.undecided = .undecided ↔ C13.milli.lt c 1 = false ∧
          ∃ rp, combinedPValue C13.milli (List.replicate pv.length 10) = .ok rp ∧
            C13.milli.lt rp c = false)) ∧
      -- (2) conclusions of this file fail for the mutant
      dictGet "a" ts.pvalues ≠ some (returned "a" twoRuns) ∧
      ¬ (dictGet "a" ts.state = some TState.failed ↔
          ∃ c, combinedPValue C13.milli (returned "a" twoRuns) = .ok c ∧
            C13.milli.lt c 1 = true)) ∧
    (runHistory C13.milli (TS.init 1 10 1) twoRuns).map (fun ts => (ts.pvalues, ts.state)) =
      .ok ([("a", [2, 2])], [("a", .failed)]) := by
  refine ⟨⟨_, rfl, ⟨[2], 2, by decide +kernel, by decide +kernel, by decide +kernel,
    by decide +kernel, by decide +kernel, ?_⟩, by decide +kernel, ?_⟩, by decide +kernel⟩
  · refine ⟨fun _ => ⟨by decide +kernel, 10, by decide +kernel, by decide +kernel⟩, fun _ => rfl⟩
  · intro hiff
    have : dictGet "a" (TS.mk (α := Nat) 1 10 1 [("a", [2])] [("a", 2)] [("a", .undecided)]
        false 2).state = some TState.failed := by
      have h2 := hiff.2 ⟨0, by decide +kernel, by decide +kernel⟩
      exact h2
    revert this
    decide +kernel

end Paranoid.C13History
