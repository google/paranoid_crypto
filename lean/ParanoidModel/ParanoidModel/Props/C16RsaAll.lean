/-
Props/C16RsaAll.lean — `paranoid.CheckAllRSA` END TO END (Model/RsaAll.lean `checkAllRSAFull`): the
seventeen per-check models plugged into the bookkeeping layer.  Property theorems only; helper
lemmas live in Proofs/RsaAll.lean.  Everything here is COMPOSITION of theorems proved elsewhere:
C01 (`check_*`: factors ⇒ weak ∧ divisibility), C03 (CheckGCD / CheckGCDN1 per-key records,
proper-divisor clause), C06 (closed-form checks, keypair step), C16 (`fresh_entries`,
`checkAllRSA_fresh`, `checkArtifacts_spec`), C18 (per-check totality).

All statements are universally quantified over the batch (`List RsaKey`, any length incl. 0, any
multiplicities), over every constructor parameter and storage content (`RsaGlobals`) and over
EVERY oracle answer (`RsaOracles`: LLL bases, float cube roots, candidate orders, SHA-1 digests,
generator outputs).  Hypothesis `checkAllRSAFull orc keys = .ok (arts', r)` reads "the entry
point returned"; `checkAllRSA_total` says when it does.
-/
import ParanoidModel.Proofs.RsaAllEval
namespace Paranoid.RsaAll
open Paranoid

/-! ## C18 end to end: totality -/

/-- ★ `CheckAllRSA` returns (never raises) on every well-formed batch: any number of keys
(including none), duplicates, moduli of 64 bits or more of ANY shape (prime, even, square, power
of two, odd bit length), any exponent — for every LLL answer whose rows have at least two
entries, every float cube root, every SHA-1 digest, every generator output, every Pollard
product, deny list and constructor parameter, provided the storage lists no zero PRNG output and
the keypair metadata are parsable (`seedFromMeta` succeeds). -/
theorem checkAllRSA_total (orc : RsaOracles) (keys : List RsaKey) (wf : WF orc keys) :
    ∃ arts' r, checkAllRSAFull orc keys = .ok (arts', r) := by
  obtain ⟨tbl, htbl⟩ := verdictTable_total wf
  unfold checkAllRSAFull
  rw [htbl]
  exact checkAllRSA_total_fresh .repaired noInner (tableO_info htbl) keys

/-- a modulus below 64 bits anywhere in the batch makes the entry point raise (ValueError of
`n >> (n.bit_length() - 64)` in CheckKeypairDenylist, or an earlier exception): the size
hypothesis of `checkAllRSA_total` cannot be dropped. -/
theorem checkAllRSA_needs_64_bits (orc : RsaOracles) (keys : List RsaKey) (arts' : List Artifact)
    (r : Bool) (h : checkAllRSAFull orc keys = .ok (arts', r)) : ∀ k ∈ keys, 2 ^ 63 ≤ k.n := by
  obtain ⟨tbl, htbl, _⟩ := full_unfold h
  exact table_big htbl

/-- a registry name without a model is an error of the entry point, never a silent pass. -/
theorem unknown_check_is_error (name : String) (orc : RsaOracles) (keys : List RsaKey) (i : Nat)
    (h1 : singleModels.lookup name = none) (h2 : aggregateModels.lookup name = none) :
    rsaVerdict name orc keys i = .error .keyError := by
  simp [rsaVerdict, h1, h2]

/-- every name of the regenerated registry has a model, and the models are exactly the fifteen
single and two aggregate checks of the registry, in order. -/
theorem registry_modelled :
    singleModels.map (·.1) = Consts.rsaSingleChecks.map (·.1) ∧
    aggregateModels.map (·.1) = Consts.rsaAggregateChecks.map (·.1) ∧
    rsaAll.map (·.name) = singleModels.map (·.1) ++ aggregateModels.map (·.1) := by
  exact ⟨rfl, rfl, rsaAll_names⟩

/-! ## C16 end to end: the entries -/

/-- ★ After `CheckAllRSA` on FRESH keys the batch has its length, and every key `i` carries
EXACTLY ONE entry per check of the regenerated registry, in registry order: entry `j` is
`entryFor c v` = (check_name, `v.positive`, severity rule) where `c` is the `j`-th registered
check and `v` is the verdict `rsaVerdict c.name` of that check on that key; the weak flag is set
exactly when one of the entries is positive; the library version is recorded; the entry point
returns True exactly when some key is weak. -/
theorem checkAllRSA_entries (orc : RsaOracles) (keys : List RsaKey) (arts' : List Artifact)
    (r : Bool) (h : checkAllRSAFull orc keys = .ok (arts', r)) :
    arts'.length = keys.length ∧
    (∀ (i : Nat) (a' : Artifact), arts'[i]? = some a' →
      a'.info.results.map (·.name) = rsaAll.map (·.name) ∧
      (∀ (j : Nat) (c : CheckSpec), rsaAll[j]? = some c →
        ∃ v, rsaVerdict c.name orc keys i = .ok v ∧ a'.info.results[j]? = some (entryFor c v)) ∧
      (a'.info.weak = true ↔ ∃ e ∈ a'.info.results, e.result = true) ∧
      a'.info.version = Consts.libVersion) ∧
    (r = true ↔ ∃ a' ∈ arts', a'.info.weak = true) := by
  obtain ⟨tbl, _, hrun⟩ := full_unfold h
  refine ⟨by simpa using (C16.checkArtifacts_monotone .repaired _ _ _ _ arts' r hrun).1,
    fun i a' ha' => ?_, (C16.checkAllRSA_fresh .repaired _ _ _ arts' r (fresh_all keys) hrun).2⟩
  obtain ⟨V, R⟩ := keyRun h ha'
  exact ⟨R.names, fun j c hc => ⟨V j, R.verdict j c hc, R.entry j c hc⟩, R.weak, R.version⟩

/-- the severity of an entry: the severity the registry documents for the check, except
CheckLowHammingWeight's SEVERITY_UNKNOWN when the key is flagged but not factored — and
CheckLowHammingWeight is the only check with that rule. -/
theorem entry_severity (c : CheckSpec) (hc : c ∈ rsaAll) (v : Verdict) :
    (entryFor c v).name = c.name ∧ (entryFor c v).result = v.positive ∧
    (entryFor c v).severity =
      if c.name = "CheckLowHammingWeight" ∧ v.positive = true ∧ v.factors = none
      then Consts.severityUnknown else c.severity := by
  have hflag : ∀ c ∈ rsaAll, c.unknownIfUnfactored = true ↔ c.name = "CheckLowHammingWeight" := by
    decide +kernel
  obtain ⟨h1, h2, h3⟩ := C16.severity_rule c v
  refine ⟨h1, h2, ?_⟩
  rw [h3]
  simp only [hflag c hc]

/-- the verdict of the CheckLowHammingWeight model on a key: positive iff the search says weak,
"not factored" (hence SEVERITY_UNKNOWN) iff the search returned no factors. -/
theorem lhw_verdict (orc : RsaOracles) (keys : List RsaKey) (i : Nat) (k : RsaKey)
    (hk : keys[i]? = some k) :
    rsaVerdict "CheckLowHammingWeight" orc keys i =
      .ok (ofKeyVerdict (vLhw k.n orc.lhwCutoff orc.lhwMaxSteps)) ∧
    ((ofKeyVerdict (vLhw k.n orc.lhwCutoff orc.lhwMaxSteps)).factors = none ↔
      (vLhw k.n orc.lhwCutoff orc.lhwMaxSteps).factors = []) :=
  ⟨rsaVerdict_single (List.mem_of_getElem? (i := 11) rfl) hk, attach_none⟩

/-! ## C01 end to end: the attached factor records -/

/-- ★ After `CheckAllRSA` on FRESH keys, for every key `i` with modulus `n`: the records
N_FACTORS and N-1_FACTORS are readable (`GetAttachedFactors` does not raise); every value stored
under N_FACTORS is a natural number dividing `n`; every value stored under N-1_FACTORS divides
`n - 1`; a record that exists is non-empty; and if either record exists the key is marked weak
— for every oracle answer. -/
theorem checkAllRSA_factors_sound (orc : RsaOracles) (keys : List RsaKey)
    (arts' : List Artifact) (r : Bool) (h : checkAllRSAFull orc keys = .ok (arts', r))
    (i : Nat) (k : RsaKey) (a' : Artifact) (hk : keys[i]? = some k) (ha' : arts'[i]? = some a') :
    ∃ fn fm, getAttachedFactors a'.info nFactors = .ok fn ∧
      getAttachedFactors a'.info nm1Factors = .ok fm ∧
      (∀ x, MemO x fn → ∃ d : Nat, x = (d : Int) ∧ d ∣ k.n) ∧
      (∀ x, MemO x fm → ∃ d : Nat, x = (d : Int) ∧ d ∣ k.n - 1) ∧
      (fn ≠ none → ∃ x, MemO x fn) ∧ (fm ≠ none → ∃ x, MemO x fm) ∧
      ((fn ≠ none ∨ fm ≠ none) → a'.info.weak = true) := by
  obtain ⟨V, R⟩ := keyRun h ha'
  have hsound : ∀ j c, rsaAll[j]? = some c → VerdictSound k (V j) := fun j c hc =>
    rsaVerdict_sound (fun k hk => by have := R.big k hk; omega) hk (R.verdict j c hc)
  -- one record: its values come from sound positive verdicts, which attach non-empty lists
  have hrec : ∀ (kk : String) (m : Nat),
      (∀ j c, rsaAll[j]? = some c → ∀ fs, (V j).factors = some (kk, fs) →
        ∀ x ∈ fs, ∃ d : Nat, x = (d : Int) ∧ d ∣ m) →
      ∃ f, getAttachedFactors a'.info kk = .ok f ∧
        (∀ x, MemO x f → ∃ d : Nat, x = (d : Int) ∧ d ∣ m) ∧
        (f ≠ none → (∃ x, MemO x f) ∧ a'.info.weak = true) := by
    intro kk m hdiv
    obtain ⟨f, hf, hmem, hnone⟩ := R.factors kk
    refine ⟨f, hf, fun x hx => ?_, fun hne => ?_⟩
    · obtain ⟨j, c, fs, hc, _, hfac, hxs⟩ := (hmem x).1 hx
      exact hdiv j c hc fs hfac x hxs
    · obtain ⟨j, c, fs, hc, hp, hfac⟩ : ∃ j c fs, rsaAll[j]? = some c ∧
          (V j).positive = true ∧ (V j).factors = some (kk, fs) := by
        by_contra hcon
        exact hne (hnone.2 fun j c fs hc hpf => hcon ⟨j, c, fs, hc, hpf⟩)
      obtain ⟨x, hx⟩ := List.exists_mem_of_ne_nil fs ((hsound j c hc).sound kk fs hfac).2.1
      exact ⟨⟨x, (hmem x).2 ⟨j, c, fs, hc, hp, hfac, hx⟩⟩,
        R.weak.2 ⟨_, List.mem_of_getElem? (R.entry j c hc), hp⟩⟩
  obtain ⟨fn, hfn, hdn, hnn⟩ := hrec nFactors k.n fun j c hc fs hfac =>
    (((hsound j c hc).sound _ fs hfac).2.2.resolve_right fun h => absurd h.1 (by decide)).2
  obtain ⟨fm, hfm, hdm, hnm⟩ := hrec nm1Factors (k.n - 1) fun j c hc fs hfac =>
    (((hsound j c hc).sound _ fs hfac).2.2.resolve_left fun h => absurd h.1 (by decide)).2
  exact ⟨fn, fm, hfn, hfm, hdn, hdm, fun h => (hnn h).1, fun h => (hnm h).1,
    fun h => h.elim (fun h => (hnn h).2) fun h => (hnm h).2⟩

/-- ★ after `CheckAllRSA` on FRESH keys the only attached records of a key are N_FACTORS and
N-1_FACTORS, each a readable factor set (no other record, no unparsable value). -/
theorem checkAllRSA_records (orc : RsaOracles) (keys : List RsaKey) (arts' : List Artifact)
    (r : Bool) (h : checkAllRSAFull orc keys = .ok (arts', r)) (i : Nat) (a' : Artifact)
    (ha' : arts'[i]? = some a') :
    (∀ p ∈ a'.info.attached, (p.1 = nFactors ∨ p.1 = nm1Factors) ∧ ∃ s, p.2 = .factors s) := by
  obtain ⟨V, R⟩ := keyRun h ha'
  intro p hp
  obtain ⟨j, c, fs, st, hc, _, hf, hst⟩ := R.attached p hp
  obtain ⟨k, hk⟩ : ∃ k, keys[i]? = some k := ⟨_, List.getElem?_eq_getElem R.lt⟩
  have hs := rsaVerdict_sound (fun k hk => by have := R.big k hk; omega) hk (R.verdict j c hc)
  exact ⟨(hs.sound _ fs hf).2.2.imp (·.1) (·.1), st, hst⟩

/-- which check records under which name: only CheckGCDN1 writes N-1_FACTORS and it writes
nothing else; no RSA check calls AttachInfo. -/
theorem record_names (orc : RsaOracles) (keys : List RsaKey) (i : Nat) (k : RsaKey)
    (hbig : ∀ k ∈ keys, 2 ≤ k.n) (hk : keys[i]? = some k) (name : String) (v : Verdict)
    (h : rsaVerdict name orc keys i = .ok v) :
    v.info = none ∧ ∀ kk fs, v.factors = some (kk, fs) →
      (kk = nm1Factors ↔ name = "CheckGCDN1") ∧ (kk = nFactors ∨ kk = nm1Factors) := by
  refine ⟨(rsaVerdict_sound hbig hk h).info, fun kk fs hf => ?_⟩
  have hn1 : ("CheckGCDN1", mGcdN1) ∈ aggregateModels := List.mem_of_getElem? (i := 1) rfl
  rcases rsaVerdict_ok hk h with ⟨m, hm, hv⟩ | ⟨m, row, hm, hrow, hv⟩
  · cases (single_shape _ hm _ _ _ _ hv).factors_name hf
    exact ⟨⟨fun he => absurd he (by decide), fun he => absurd he (single_ne_aggregate hm hn1)⟩,
      Or.inl rfl⟩
  · simp only [aggregateModels, List.mem_cons, List.not_mem_nil, or_false, Prod.mk.injEq] at hm
    rcases hm with ⟨rfl, rfl⟩ | ⟨rfl, rfl⟩
    · cases gcd_row _ keys hbig row hrow
      simp only [List.getElem?_map, hk, Option.map_some, Option.some.injEq] at hv
      subst hv
      cases (attach_some hf).1
      exact ⟨⟨fun he => absurd he (by decide), fun he => absurd he (by decide)⟩, Or.inl rfl⟩
    · cases gcdn1_row _ keys hbig row hrow
      simp only [List.getElem?_map, hk, Option.map_some, Option.some.injEq] at hv
      subst hv
      cases (attach_some hf).1
      exact ⟨⟨fun _ => rfl, fun _ => rfl⟩, Or.inr rfl⟩

/-- the last clause of C01 in full: whenever N_FACTORS is recorded for a key, some recorded
value is a proper divisor, unless the modulus divides another (different) modulus of the batch.
NOT asserted, and FALSE as stated (`C01Proper.properClause_fails`): CheckFermat records the
trivial pair `(n, 1)` for a Fermat step bound of about `n / 2` (unreachable for the default 100000
on moduli ≥ 2^63, but the statement quantifies over every constructor parameter).  Proved below
for the records of the gcd-derived checks and of CheckGCD (`checkAllRSA_factors_proper_partial`);
with a bound on the Fermat steps for every check (`C01Proper.checkAllRSA_factors_proper`).  The
hypothesis on the generator oracle is necessary (`properClause_needs_generator`). -/
def ProperClause : Prop :=
  ∀ (orc : RsaOracles) (keys : List RsaKey) (arts' : List Artifact) (r : Bool),
    (∀ i seed bits, 1 < (orc.keypairGen i seed bits).1 ∧ 1 < (orc.keypairGen i seed bits).2) →
    checkAllRSAFull orc keys = .ok (arts', r) →
    ∀ (i : Nat) (k : RsaKey) (a' : Artifact), keys[i]? = some k → arts'[i]? = some a' →
      ∀ s, getAttachedFactors a'.info nFactors = .ok (some s) →
        (∃ x ∈ s, 1 < x ∧ x < (k.n : Int)) ∨ ∃ m ∈ keys.map (·.n), m ≠ k.n ∧ k.n ∣ m

/-- ★ proper-divisor clause, proved part: if one of CheckContinuedFractions, CheckBitPatterns,
CheckPermutedBitPatterns, CheckPollardpm1, CheckUnseededRand, CheckSmallUpperDifferences,
CheckGCD records factors for key `i`, then afterwards N_FACTORS of that key contains them and
contains a proper divisor of the modulus — unless (CheckGCD only) the modulus divides another,
different modulus of the batch. -/
theorem checkAllRSA_factors_proper_partial (orc : RsaOracles) (keys : List RsaKey)
    (arts' : List Artifact) (r : Bool) (h : checkAllRSAFull orc keys = .ok (arts', r))
    (i : Nat) (k : RsaKey) (a' : Artifact) (hk : keys[i]? = some k) (ha' : arts'[i]? = some a')
    (c : CheckSpec) (hc : c ∈ rsaAll) (hp : c.name ∈ properChecks) (v : Verdict)
    (hv : rsaVerdict c.name orc keys i = .ok v) (hpos : v.positive = true) (fs : List Int)
    (hf : v.factors = some (nFactors, fs)) :
    ∃ s, getAttachedFactors a'.info nFactors = .ok (some s) ∧ (∀ x ∈ fs, x ∈ s) ∧
      ((∃ x ∈ s, 1 < x ∧ x < (k.n : Int)) ∨ ∃ m ∈ keys.map (·.n), m ≠ k.n ∧ k.n ∣ m) := by
  obtain ⟨V, R⟩ := keyRun h ha'
  have hbig : ∀ k ∈ keys, 2 ≤ k.n := fun k hk => by have := R.big k hk; omega
  obtain ⟨fn, hfn, hmn, _⟩ := R.factors nFactors
  obtain ⟨j, hj⟩ := List.mem_iff_getElem?.1 hc
  cases (R.verdict j c hj).symm.trans hv
  have hin : ∀ x ∈ fs, MemO x fn := fun x hx => (hmn x).2 ⟨j, c, fs, hj, hpos, hf, hx⟩
  obtain ⟨x0, hx0⟩ := List.exists_mem_of_ne_nil fs ((rsaVerdict_sound hbig hk hv).sound _ fs hf).2.1
  obtain ⟨s, rfl, _⟩ := hin x0 hx0
  have hsub : ∀ x ∈ fs, x ∈ s := fun x hx => by
    obtain ⟨s', hs', hx'⟩ := hin x hx
    cases hs'
    exact hx'
  exact ⟨s, hfn, hsub, (rsaVerdict_proper hp hbig hk hv fs hf).imp_left
    fun ⟨x, hx, h1, h2⟩ => ⟨x, hsub x hx, h1, h2⟩⟩

/-! ## C17 end to end: the single checks judge keys individually -/

/-- ★ Two runs of `CheckAllRSA` — different batches, sizes, positions, neighbours, per-key
oracle answers of the OTHER keys — that agree on one key `(n, e)`, on the oracle answers for
that key (its LLL bases, cube root, candidate list, digest, generator) and on the state of the
singleton check objects give that key the SAME entries for the fifteen single checks (entries
`0 … 14` of its result list), and the same single-check verdicts incl. attached factors. -/
theorem checkAllRSA_single_independent (orc orc' : RsaOracles) (keys keys' : List RsaKey)
    (arts1 arts2 : List Artifact) (r1 r2 : Bool)
    (h1 : checkAllRSAFull orc keys = .ok (arts1, r1))
    (h2 : checkAllRSAFull orc' keys' = .ok (arts2, r2))
    (i i' : Nat) (k : RsaKey) (hk : keys[i]? = some k) (hk' : keys'[i']? = some k)
    (hg : orc.toRsaGlobals = orc'.toRsaGlobals) (ho : orc.forKey i = orc'.forKey i')
    (a1 a2 : Artifact) (ha1 : arts1[i]? = some a1) (ha2 : arts2[i']? = some a2)
    (j : Nat) (hj : j < Consts.rsaSingleChecks.length) :
    a1.info.results[j]? = a2.info.results[j]? ∧
    ∃ c, rsaAll[j]? = some c ∧ rsaVerdict c.name orc keys i = rsaVerdict c.name orc' keys' i' := by
  -- the first fifteen registry names are those of the single models, position by position
  obtain ⟨⟨nm, m⟩, hp⟩ : ∃ p, singleModels[j]? = some p :=
    ⟨singleModels[j]'hj, List.getElem?_eq_getElem _⟩
  have hnm : (rsaAll.map (·.name))[j]? = some nm := by
    rw [rsaAll_names, List.getElem?_append_left (by rw [List.length_map]; exact hj),
      List.getElem?_map, hp]
    rfl
  rw [List.getElem?_map] at hnm
  cases hc : rsaAll[j]? with
  | none => rw [hc] at hnm; cases hnm
  | some c =>
    rw [hc] at hnm
    cases hnm
    have heq : rsaVerdict c.name orc keys i = rsaVerdict c.name orc' keys' i' := by
      rw [rsaVerdict_single (List.mem_of_getElem? hp) hk, rsaVerdict_single (List.mem_of_getElem? hp) hk',
        hg, ho]
    obtain ⟨_, he1, _⟩ := checkAllRSA_entries orc keys arts1 r1 h1
    obtain ⟨_, he2, _⟩ := checkAllRSA_entries orc' keys' arts2 r2 h2
    obtain ⟨v1, hv1, hr1⟩ := (he1 i a1 ha1).2.1 j c hc
    obtain ⟨v2, hv2, hr2⟩ := (he2 i' a2 ha2).2.1 j c hc
    rw [heq, hv2] at hv1
    cases hv1
    exact ⟨by rw [hr1, hr2], c, rfl, heq⟩

/-! ## Non-vacuity: concrete runs of the whole model (kernel-evaluated) -/

/-- the hypotheses of `checkAllRSA_total` are satisfiable. -/
example : WF orcEx keysEx where
  big := by decide
  red := fun i d row h => by simp [orcEx] at h
  unseeded := fun i c h => by simp [orcEx] at h
  table := fun p h => by simp [orcEx] at h

set_option synthInstance.maxSize 1024 in
/-- the shared prime is found by CheckGCD (and the close 32-bit primes by CheckFermat; the tiny
search budget of `orcEx` makes CheckLowHammingWeight "suspect" the first key): both keys weak,
factors recorded under N_FACTORS, return value True. -/
example : view (checkAllRSAFull orcEx keysEx) =
    .ok ([(true, ["CheckSizes", "CheckFermat", "CheckContinuedFractions", "CheckLowHammingWeight",
                  "CheckGCD"],
            [("N_FACTORS", .factors [4294967311, 4294968317])]),
          (true, ["CheckSizes", "CheckExponents", "CheckFermat", "CheckContinuedFractions",
                  "CheckGCD"],
            [("N_FACTORS", .factors [4294967311, 4295967341])])], true) :=
  runs_eval.1

/-- the empty batch returns False. -/
example : checkAllRSAFull orcEx [] = .ok ([], false) := runs_eval.2.1

/-- a 63-bit modulus makes the entry point raise ValueError. -/
example : checkAllRSAFull orcEx [⟨2 ^ 62 + 1, 65537⟩] = .error .valueError := runs_eval.2.2.1

/-- `ProperClause` without its hypothesis on the generator oracle. -/
def ProperClauseAnyGenerator : Prop :=
  ∀ (orc : RsaOracles) (keys : List RsaKey) (arts' : List Artifact) (r : Bool),
    checkAllRSAFull orc keys = .ok (arts', r) →
    ∀ (i : Nat) (k : RsaKey) (a' : Artifact), keys[i]? = some k → arts'[i]? = some a' →
      ∀ s, getAttachedFactors a'.info nFactors = .ok (some s) →
        (∃ x ∈ s, 1 < x ∧ x < (k.n : Int)) ∨ ∃ m ∈ keys.map (·.n), m ≠ k.n ∧ k.n ∣ m

/-- a generator oracle that answers `(1, n)` for a table hit makes CheckKeypairDenylist record
`{1, n}` (the code verifies `p * q == n` only): the proper-divisor clause needs the hypothesis
that the generator returns numbers above 1 (the real one returns two primes). -/
theorem properClause_needs_generator : ¬ ProperClauseAnyGenerator := by
  intro hcl
  let n : Nat := 2 ^ 65 + 13      -- 66 bits: the keypair check consults the generator for even sizes only (D21)
  let orc : RsaOracles :=
    { orcEx with keypairTable := [(n >>> 2, [0])], keypairGen := fun _ _ _ => (1, n) }
  have hrun : view (checkAllRSAFull orc [⟨n, 65537⟩]) =
      .ok ([(true, ["CheckSizes", "CheckContinuedFractions", "CheckKeypairDenylist"],
            [("N_FACTORS", .factors [1, n])])],
        true) := runs_eval.2.2.2.1
  obtain ⟨⟨arts', r⟩, hr, hv⟩ := exceptMap_ok hrun
  simp only [Prod.mk.injEq] at hv
  cases arts' with
  | nil => simp at hv
  | cons a' rest =>
    have hatt : [("N_FACTORS", .factors [1, (n : Int)])] = a'.info.attached := by
      have := hv.1
      simp only [List.map_cons, List.cons.injEq, Prod.mk.injEq] at this
      exact this.1.2.2
    have hget : getAttachedFactors a'.info nFactors = .ok (some [1, (n : Int)]) := by
      simp [getAttachedFactors, getAttachedInfo, ← hatt, nFactors]
    rcases hcl orc [⟨n, 65537⟩] (a' :: rest) r hr 0 ⟨n, 65537⟩ a' rfl rfl _ hget with
      ⟨x, hx, h1, h2⟩ | ⟨m, hm, hne, _⟩
    · simp only [List.mem_cons, List.not_mem_nil, or_false] at hx
      rcases hx with rfl | rfl
      · exact absurd h1 (by decide)
      · exact absurd h2 (by simp)
    · simp only [List.map_cons, List.map_nil, List.mem_cons, List.not_mem_nil, or_false] at hm
      exact hne hm

end Paranoid.RsaAll
