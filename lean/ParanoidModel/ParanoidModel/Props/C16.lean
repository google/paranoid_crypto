/-
Props/C16.lean — "Verdict bookkeeping is faithful and monotone".
Property theorems only; helper lemmas live in Proofs/Bookkeeping.lean, Proofs/Checks.lean,
Proofs/CheckAll.lean.

Part 1 (util.py): statements over EVERY history `ops : List Op` of SetTestResult / AttachInfo /
AttachFactors calls on EVERY initial `TestInfo` (fresh, annotated by an earlier run, hand-edited
with duplicate names / inconsistent weak flag / unparsable attached values) and every library
version string.  `runOps` is a caller that survives the exception AttachFactors raises on an
unparsable stored value (the raising call mutates nothing).

Part 2 (checks and entry points): statements over every batch, every list of checks `steps`
(any subset, order, repetition of checks — the registry lists of paranoid.py are instances) and
EVERY verdict oracle (what each check decides about each artefact, which factors / discrete
logs it attaches, what the inner CheckAllEC of CheckIssuerKey decides about each issuer key).
Hypothesis `… = .ok (arts', r)` means "the call returned"; the only reachable exception is the one
of AttachFactors on an unparsable stored value.

Reading of the property used for pre-annotated batches: `return = True → some artefact is weak`;
the converse is NOT intended (an artefact flagged by an earlier run stays weak while this run
returns False) — `return_iff` gives the exact relation.
-/
import ParanoidModel.Proofs.CheckAll
namespace Paranoid.C16
open Paranoid

/-! ## Part 1 — util.py, all histories -/

/-- After any history: the weak flag is never reset; position by position every old entry is
still there under the same name with result and severity not lowered (new entries are only
appended); a recorded version is never changed. -/
theorem ops_monotone (ver : String) (ti : TestInfo) (ops : List Op) :
    (ti.weak = true → (runOps ver ti ops).weak = true) ∧
    EntriesLe ti.results (runOps ver ti ops).results ∧
    (ti.version ≠ "" → (runOps ver ti ops).version = ti.version) :=
  let m := runOps_mono ver ti ops
  ⟨m.weak, m.entries, m.version⟩

/-- Per name: the entry `GetTestResult` returns keeps its name, a positive result stays
positive, the severity never decreases. -/
theorem ops_entry_monotone (ver : String) (ti : TestInfo) (ops : List Op) (n : String)
    (e : Entry) (h : getTestResult ti n = some e) :
    ∃ e', getTestResult (runOps ver ti ops) n = some e' ∧ e'.name = e.name ∧
      (e.result = true → e'.result = true) ∧ e.severity ≤ e'.severity := by
  obtain ⟨e', h1, h2⟩ := (runOps_mono ver ti ops).entries.find n e h
  exact ⟨e', h1, h2.1.symm, h2.2.1, h2.2.2⟩

/-- Entries are never duplicated: the number of entries with a given name stays what it was,
except that a missing name gets exactly one. -/
theorem ops_no_duplicates (ver : String) (ti : TestInfo) (ops : List Op) (n : String) :
    nameCount n (runOps ver ti ops).results ≤ max 1 (nameCount n ti.results) :=
  nameCount_runOps ver ti ops n

/-- Entry names stay unique when they were unique. -/
theorem ops_names_unique (ver : String) (ti : TestInfo) (ops : List Op)
    (h : (ti.results.map (·.name)).Nodup) :
    ((runOps ver ti ops).results.map (·.name)).Nodup :=
  runOps_names_nodup ver ti ops h

/-- The weak flag equals "some entry is positive" after any history, if it did before. -/
theorem ops_weak_iff (ver : String) (ti : TestInfo) (ops : List Op)
    (h : ti.weak = true ↔ ∃ e ∈ ti.results, e.result = true) :
    (runOps ver ti ops).weak = true ↔ ∃ e ∈ (runOps ver ti ops).results, e.result = true :=
  runOps_consistent ver ti ops h

/-- The version is set by the first SetTestResult on a `TestInfo` that has none, to the library
version, and never changed afterwards. -/
theorem ops_version (ver : String) (ti : TestInfo) (ops : List Op) :
    (runOps ver ti ops).version =
      if ti.version = "" ∧ ops.any isSet = true then ver else ti.version :=
  runOps_version ver ti ops

/-- `attach_union`: after any history that does not overwrite the attached entry `k` by a plain
AttachInfo, `GetAttachedFactors(k)` is the union of the initial set and of every factor list
attached under `k`, and is `None` only if it was `None` and nothing was attached under `k`. -/
theorem attach_union (ver : String) (ti : TestInfo) (ops : List Op) (k : String)
    (o : Option (List Int)) (h : getAttachedFactors ti k = .ok o)
    (hno : ∀ op ∈ ops, overwrites k op = false) :
    ∃ o', getAttachedFactors (runOps ver ti ops) k = .ok o' ∧
      (∀ x, MemO x o' ↔ MemO x o ∨ ∃ fs ∈ attachedUnder k ops, x ∈ fs) ∧
      (o' = none ↔ o = none ∧ attachedUnder k ops = []) :=
  runOps_factors ver ti ops k o h hno

/-- A recorded factor is never dropped (same hypothesis as `attach_union`). -/
theorem ops_factors_grow (ver : String) (ti : TestInfo) (ops : List Op) (k : String)
    (s : List Int) (h : getAttachedFactors ti k = .ok (some s))
    (hno : ∀ op ∈ ops, overwrites k op = false) :
    ∃ s', getAttachedFactors (runOps ver ti ops) k = .ok (some s') ∧ ∀ x ∈ s, x ∈ s' := by
  obtain ⟨o', h1, h2, h3⟩ := runOps_factors ver ti ops k (some s) h hno
  obtain ⟨s', rfl, hs'⟩ := exists_superset_of_memO h2 h3
  exact ⟨s', h1, hs'⟩

/-- `GetHighestSeverity`: `None` iff no entry is positive, else the maximum severity among the
positive entries. -/
theorem highest_severity_spec (ti : TestInfo) :
    (getHighestSeverity ti = none ↔ ∀ e ∈ ti.results, e.result = false) ∧
    (∀ s, getHighestSeverity ti = some s →
      (∃ e ∈ ti.results, e.result = true ∧ e.severity = s) ∧
      (∀ e ∈ ti.results, e.result = true → e.severity ≤ s)) :=
  ⟨getHighestSeverity_none ti, getHighestSeverity_some ti⟩

/-! ## Part 2 — checks, `_CheckArtifacts`, entry points -/

/-- PRE-ANNOTATED (any) batch: the batch keeps its length and every artefact keeps its key
material; its weak flag is not reset, its old entries are kept position by position with result
and severity not lowered, its version is kept, entry names are not duplicated (and stay unique if
they were), and "weak = some entry positive" is preserved. -/
theorem checkArtifacts_monotone (var : Variant) (ver : String) (ec : List CheckSpec)
    (steps : List Step) (arts arts' : List Artifact) (r : Bool)
    (h : checkArtifacts var ver ec steps arts = .ok (arts', r)) :
    arts'.length = arts.length ∧
    ∀ (n : Nat) (a a' : Artifact), arts[n]? = some a → arts'[n]? = some a' → Later a a' := by
  exact ⟨(checkArtifacts_spec h).1.length, fun n a a' ha ha' =>
    actsBy_later (checkArtifacts_acts h ha ha')⟩

/-- Re-running checks never drops a recorded factor: for a key `k` that no check overwrites by a
plain AttachInfo (the checks use AttachInfo only for DISCRETE_LOG*), the stored set afterwards
contains the stored set before. -/
theorem checkArtifacts_factors_grow (var : Variant) (ver : String) (ec : List CheckSpec)
    (steps : List Step) (arts arts' : List Artifact) (r : Bool) (k : String)
    (hv : ∀ s ∈ steps, ∀ i k' x, (s.verdict i).info = some (k', x) → k' ≠ k)
    (h : checkArtifacts var ver ec steps arts = .ok (arts', r))
    (n : Nat) (a a' : Artifact) (ha : arts[n]? = some a) (ha' : arts'[n]? = some a')
    (s : List Int) (hs : getAttachedFactors a.info k = .ok (some s)) :
    ∃ s', getAttachedFactors a'.info k = .ok (some s') ∧ ∀ x ∈ s, x ∈ s' := by
  obtain ⟨o', h1, h2, h3⟩ := actsBy_factors (checkArtifacts_acts h ha ha') k
    (overwrites_allOps var ver ec steps _ _ a k hv) (some s) hs
  obtain ⟨s', rfl, hs'⟩ := exists_superset_of_memO h2 h3
  exact ⟨s', h1, hs'⟩

/-- The return value, exactly, for EVERY batch: some artefact is weak afterwards iff one was
weak before or the call returned True. -/
theorem return_iff (var : Variant) (ver : String) (ec : List CheckSpec)
    (steps : List Step) (arts arts' : List Artifact) (r : Bool)
    (h : checkArtifacts var ver ec steps arts = .ok (arts', r)) :
    (∃ a' ∈ arts', a'.info.weak = true) ↔ (∃ a ∈ arts, a.info.weak = true) ∨ r = true := by
  obtain ⟨p, q, _⟩ := checkArtifacts_spec h
  rw [q]
  simpa only [Nat.zero_add] using
    exists_weak_iff (Pointwise.imp (fun _ _ _ hab => actsBy_weak hab) p)

/-- PRE-ANNOTATED batch: returned True → some artefact is weak. -/
theorem return_true_exists_weak (var : Variant) (ver : String) (ec : List CheckSpec)
    (steps : List Step) (arts arts' : List Artifact)
    (h : checkArtifacts var ver ec steps arts = .ok (arts', true)) :
    ∃ a' ∈ arts', a'.info.weak = true :=
  (return_iff var ver ec steps arts arts' true h).2 (Or.inr rfl)

/-- Batch without weak flags (in particular FRESH): returns True exactly when some artefact is
weak afterwards. -/
theorem fresh_return_iff (var : Variant) (ver : String) (ec : List CheckSpec)
    (steps : List Step) (arts arts' : List Artifact) (r : Bool)
    (hfresh : ∀ a ∈ arts, a.info.weak = false)
    (h : checkArtifacts var ver ec steps arts = .ok (arts', r)) :
    r = true ↔ ∃ a' ∈ arts', a'.info.weak = true := by
  rw [return_iff var ver ec steps arts arts' r h]
  constructor
  · exact Or.inr
  · rintro (⟨a, ha, hw⟩ | hr)
    · rw [hfresh a ha] at hw; cases hw
    · exact hr

/-- FRESH artefact, checks with pairwise different names: afterwards its result list is EXACTLY
the list of `expectedEntry`s of the steps, in the order the checks ran (`expectedEntry` is
`(check_name, verdict, severity rule)` for a step that applies to the artefact, nothing for a
step that does not); the weak flag is set exactly when one of the entries is positive; the
library version is recorded as soon as there is an entry. -/
theorem fresh_entries (var : Variant) (ver : String) (ec : List CheckSpec)
    (steps : List Step) (arts arts' : List Artifact) (r : Bool)
    (hnd : (steps.map (·.spec.name)).Nodup)
    (h : checkArtifacts var ver ec steps arts = .ok (arts', r))
    (n : Nat) (a a' : Artifact) (ha : arts[n]? = some a) (ha' : arts'[n]? = some a')
    (hfresh : a.info = TestInfo.empty) :
    a'.info.results = steps.filterMap (fun s => expectedEntry var ver ec s (statics arts) n a) ∧
    (a'.info.weak = true ↔ ∃ e ∈ a'.info.results, e.result = true) ∧
    a'.info.version = (if a'.info.results.isEmpty then "" else ver) := by
  obtain ⟨h1, h2, h3⟩ := actsBy_fresh (checkArtifacts_acts h ha ha') hfresh hnd
  refine ⟨h1, ?_, h3⟩
  rw [h2, List.any_eq_true]

/-- FRESH artefact: exactly one entry per check that applies to it — the names of its entries
are the names of the applicable steps (every signature for CheckIssuerKey, curve known for the
`needsCurve` checks, every artefact otherwise), in order, each once. -/
theorem fresh_one_entry_per_applicable_check (var : Variant) (ver : String) (ec : List CheckSpec)
    (steps : List Step) (arts arts' : List Artifact) (r : Bool)
    (hnd : (steps.map (·.spec.name)).Nodup)
    (h : checkArtifacts var ver ec steps arts = .ok (arts', r))
    (n : Nat) (a a' : Artifact) (ha : arts[n]? = some a) (ha' : arts'[n]? = some a')
    (hfresh : a.info = TestInfo.empty) :
    a'.info.results.map (·.name) =
      (steps.filter (fun s => s.spec.issuer || applicable s.spec a)).map (·.spec.name) := by
  obtain ⟨_, _, g⟩ := checkArtifacts_spec h
  rw [(fresh_entries var ver ec steps arts arts' r hnd h n a a' ha ha' hfresh).1,
    names_filterMap _ (fun s => s.spec.name) (fun s e he => expectedEntry_name he)]
  congr 1
  apply List.filter_congr
  intro s hs
  exact expectedEntry_isSome (g s hs) n a (List.mem_of_getElem? ha)

/-- FRESH artefact: the entry stored under a check's name is the expected entry of that check:
for every check but CheckIssuerKey `(check_name, verdict, sevFor)` if the check applies to the
artefact and no entry otherwise. -/
theorem fresh_entry_of_check (var : Variant) (ver : String) (ec : List CheckSpec)
    (steps : List Step) (arts arts' : List Artifact) (r : Bool)
    (hnd : (steps.map (·.spec.name)).Nodup)
    (h : checkArtifacts var ver ec steps arts = .ok (arts', r))
    (n : Nat) (a a' : Artifact) (ha : arts[n]? = some a) (ha' : arts'[n]? = some a')
    (hfresh : a.info = TestInfo.empty) (s : Step) (hs : s ∈ steps) :
    getTestResult a'.info s.spec.name = expectedEntry var ver ec s (statics arts) n a := by
  rw [getTestResult, (fresh_entries var ver ec steps arts arts' r hnd h n a a' ha ha' hfresh).1]
  exact find_expected var ver ec steps _ n a hnd s hs

/-- Severity rule of every check but CheckIssuerKey: the check's documented severity, except
CheckLowHammingWeight's (`unknownIfUnfactored`) SEVERITY_UNKNOWN when the key is flagged but
not factored. -/
theorem severity_rule (c : CheckSpec) (v : Verdict) :
    (entryFor c v).name = c.name ∧ (entryFor c v).result = v.positive ∧
    (entryFor c v).severity =
      if c.unknownIfUnfactored = true ∧ v.positive = true ∧ v.factors = none
      then Consts.severityUnknown else c.severity := by
  refine ⟨rfl, rfl, ?_⟩
  simp only [entryFor, sevFor, Bool.and_eq_true, Option.isNone_iff_eq_none, and_assoc]

/-- CheckIssuerKey, one call on ANY batch (pre-annotated or not), signature at position `n`:
there is a checked ECKey `key'` = (fresh ECKey `key0` of `pks_pb` with the signature's dictionary
key, after the inner CheckAllEC) such that the signature's entry named after the check is
positive iff it was positive before or the EC checks flag that key, and carries
- when flagged: the highest severity among the key's failed EC checks (max with the old one),
- when not flagged: the check's own severity (max with the old one). -/
theorem issuer_entry (var : Variant) (ver : String) (ec : List CheckSpec) (c : CheckSpec)
    (inner : Nat → Nat → Verdict) (arts arts' : List Artifact) (w : Bool)
    (hec : (ec.map (·.name)).Nodup)
    (h : checkIssuerKey var ver ec c inner arts = .ok (arts', w))
    (n : Nat) (a a' : Artifact) (ha : arts[n]? = some a) (ha' : arts'[n]? = some a') :
    ∃ (k : Nat) (key0 key' : Artifact) (en : Entry),
      (issuerKeys var arts)[k]? = some key0 ∧ key0.info = TestInfo.empty ∧
      keyId var key0 = keyId var a ∧ (∃ b ∈ arts, key0 = freshKey b) ∧
      key'.info.results = innerEntries ec inner k key0 ∧
      (key'.info.weak = true ↔ ecFlags ec inner k key0) ∧
      getTestResult a'.info c.name = some (mergeEntry (getTestResult a.info c.name) en) ∧
      en.name = c.name ∧ (en.result = true ↔ ecFlags ec inner k key0) ∧
      (ecFlags ec inner k key0 →
        (∃ e ∈ innerEntries ec inner k key0, e.result = true ∧ e.severity = en.severity) ∧
        ∀ e ∈ innerEntries ec inner k key0, e.result = true → e.severity ≤ en.severity) ∧
      (¬ ecFlags ec inner k key0 → en.severity = c.severity) := by
  obtain ⟨k, key0, key', en, hk, hid, ⟨b, hb, hkb⟩, hact, hen, hinfo, _⟩ :=
    checkIssuerKey_entry h n a a' ha ha'
  have hfresh : key0.info = TestInfo.empty := by rw [hkb]; rfl
  obtain ⟨hweak, hres, _⟩ := innerKey_state hact hfresh
  obtain ⟨e1, e2, e3, e4⟩ := issuerEntry_spec hen
  refine ⟨k, key0, key', en, hk, hfresh, hid, ⟨b, hb, hkb⟩, hres hec, hweak, ?_, e1, ?_, ?_, ?_⟩
  · rw [hinfo, getTestResult_setTestResult, e1, if_pos rfl]
  · rw [e2]; exact hweak
  · intro hf
    have := getHighestSeverity_some key'.info en.severity (e4 (hweak.2 hf))
    rw [hres hec] at this
    exact this
  · intro hf
    apply e3
    cases hw : key'.info.weak with
    | false => rfl
    | true => exact (hf (hweak.1 hw)).elim

/-- the full reading of the last clause of the property: the ECKey whose verdict a signature
receives is the ECKey made from THAT signature's `issuer_key_info` (same curve id, same
coordinates), and the signature's entry is positive iff (it already was or) the EC checks flag
that key. -/
def IssuerVerdictFaithful (var : Variant) : Prop :=
  ∀ (ver : String) (ec : List CheckSpec) (c : CheckSpec) (inner : Nat → Nat → Verdict)
    (arts arts' : List Artifact) (w : Bool),
    checkIssuerKey var ver ec c inner arts = .ok (arts', w) →
    ∀ (n : Nat) (a a' : Artifact), arts[n]? = some a → arts'[n]? = some a' →
      ∃ k, (issuerKeys var arts)[k]? = some (freshKey a) ∧
        ∃ e, getTestResult a'.info c.name = some e ∧
          (e.result = true ↔
            (∃ e0, getTestResult a.info c.name = some e0 ∧ e0.result = true) ∨
            ecFlags ec inner k (freshKey a))

/-- `issuer_verdict`: with issuer keys de-duplicated by (curve_type, x, y) — the repaired
CheckIssuerKey, fixes/D18-issuer-key-dedup-curve.diff — a signature's issuer-key verdict is the
verdict of the EC checks on that key. -/
theorem issuer_verdict : IssuerVerdictFaithful .repaired := by
  intro ver ec c inner arts arts' w h n a a' ha ha'
  refine issuerKey_verdict h ha ha' fun b _ hid => ?_
  simp only [keyId, Prod.mk.injEq] at hid
  simp only [freshKey, Artifact.mk.injEq, true_and]
  exact ⟨hid.1, Prod.ext hid.2.1 hid.2.2⟩

/-- the pinned CheckIssuerKey (de-duplication by (x, y) only) has the same property for batches
in which issuer keys with equal coordinates have equal curve ids. -/
theorem issuer_verdict_pinned_partial (ver : String) (ec : List CheckSpec) (c : CheckSpec)
    (inner : Nat → Nat → Verdict) (arts arts' : List Artifact) (w : Bool)
    (hcurves : ∀ a ∈ arts, ∀ b ∈ arts, a.point = b.point → a.curve = b.curve)
    (h : checkIssuerKey .pinned ver ec c inner arts = .ok (arts', w))
    (n : Nat) (a a' : Artifact) (ha : arts[n]? = some a) (ha' : arts'[n]? = some a') :
    ∃ k, (issuerKeys .pinned arts)[k]? = some (freshKey a) ∧
      ∃ e, getTestResult a'.info c.name = some e ∧
        (e.result = true ↔
          (∃ e0, getTestResult a.info c.name = some e0 ∧ e0.result = true) ∨
          ecFlags ec inner k (freshKey a)) := by
  refine issuerKey_verdict h ha ha' fun b hb hid => ?_
  simp only [keyId, Prod.mk.injEq, true_and] at hid
  have hp : b.point = a.point := Prod.ext hid.1 hid.2
  simp only [freshKey, Artifact.mk.injEq, true_and]
  exact ⟨hcurves b hb a (List.mem_of_getElem? ha) hp, hp⟩

/-- two fresh signatures whose issuer keys have the same coordinates (1, 1) but curve ids 2
(secp256r1) and 6 (secp256k1). -/
def sigA : Artifact := ⟨TestInfo.empty, 2, (1, 1)⟩
def sigB : Artifact := ⟨TestInfo.empty, 6, (1, 1)⟩

/-- KNOWN FINDING (pinned tree): de-duplicating by coordinates only, the ECKey of signature B is
never checked — B receives the verdict of A's key. -/
theorem issuer_verdict_pinned_fails : ¬ IssuerVerdictFaithful .pinned := by
  intro hfaith
  have hrun : checkIssuerKey .pinned "v" [] ⟨"CheckIssuerKey", 0, false, false, true⟩
      (fun _ _ => ⟨false, none, none⟩) [sigA, sigB] =
      .ok ([⟨⟨false, [⟨"CheckIssuerKey", false, 0⟩], [], "v"⟩, 2, (1, 1)⟩,
            ⟨⟨false, [⟨"CheckIssuerKey", false, 0⟩], [], "v"⟩, 6, (1, 1)⟩], false) := by
    decide +kernel
  obtain ⟨k, hk, _⟩ := hfaith _ _ _ _ _ _ _ hrun 1 sigB _ rfl rfl
  have hkeys : issuerKeys .pinned [sigA, sigB] = [freshKey sigA] := by decide +kernel
  rw [hkeys] at hk
  cases k with
  | zero => simp [freshKey, sigA, sigB] at hk
  | succ m => simp at hk

/-! ### the three entry points with the regenerated registries -/

/-- names in each regenerated registry are pairwise different; the "all" registries are the
single checks followed by the aggregate checks. -/
theorem registry_names_nodup :
    (rsaAll.map (·.name)).Nodup ∧ (ecAll.map (·.name)).Nodup ∧ (ecdsaAll.map (·.name)).Nodup ∧
    Consts.rsaAllChecks = Consts.rsaSingleChecks ++ Consts.rsaAggregateChecks ∧
    Consts.ecAllChecks = Consts.ecSingleChecks ++ Consts.ecAggregateChecks ∧
    Consts.ecdsaAllChecks = Consts.ecdsaSigChecks :=
  ⟨by decide +kernel, by decide +kernel, by decide +kernel, rfl, rfl, rfl⟩

/-- CheckAllRSA on a batch of FRESH keys: every key carries exactly one entry per active RSA
check, in registry order; weak flag, return value and version as the property says. -/
theorem checkAllRSA_fresh (var : Variant) (O : Nat → Nat → Verdict)
    (I : Nat → Nat → Nat → Verdict) (arts arts' : List Artifact) (r : Bool)
    (hfresh : ∀ a ∈ arts, a.info = TestInfo.empty)
    (h : checkAllRSA var O I arts = .ok (arts', r)) :
    (∀ (n : Nat) (a' : Artifact), arts'[n]? = some a' →
      a'.info.results.map (·.name) = rsaAll.map (·.name) ∧
      (a'.info.weak = true ↔ ∃ e ∈ a'.info.results, e.result = true) ∧
      a'.info.version = Consts.libVersion) ∧
    (r = true ↔ ∃ a' ∈ arts', a'.info.weak = true) := by
  unfold checkAllRSA at h
  refine ⟨fun n a' ha' => ?_, fresh_return_iff var _ _ _ arts arts' r
    (fun a ha => by rw [hfresh a ha]; rfl) h⟩
  obtain ⟨a, ha, _⟩ := checkArtifacts_get h ha'
  obtain ⟨h1, h2, h3, _⟩ := registry_fresh registry_names_nodup.1 h ha ha'
    (hfresh _ (List.mem_of_getElem? ha))
  have hnc : ∀ c ∈ rsaAll, c.needsCurve = false := by decide +kernel
  rw [List.filter_eq_self.2 fun c hc => by simp [applicable, hnc c hc]] at h1
  exact ⟨h1, h2, h3 ⟨_, List.mem_of_getElem? (rfl : rsaAll[0]? = some _), by
    simp [applicable, hnc _ (List.mem_of_getElem? (rfl : rsaAll[0]? = some _))]⟩⟩

/-- CheckAllEC on FRESH keys: one entry per active EC check that applies to the key
(CheckValidECKey always; the other checks iff the curve is in CURVE_FACTORY), in registry
order. -/
theorem checkAllEC_fresh (var : Variant) (O : Nat → Nat → Verdict)
    (I : Nat → Nat → Nat → Verdict) (arts arts' : List Artifact) (r : Bool)
    (hfresh : ∀ a ∈ arts, a.info = TestInfo.empty)
    (h : checkAllEC var O I arts = .ok (arts', r)) :
    (∀ (n : Nat) (a a' : Artifact), arts[n]? = some a → arts'[n]? = some a' →
      a'.info.results.map (·.name) =
        (ecAll.filter (fun c => c.issuer || applicable c a)).map (·.name) ∧
      (a'.info.weak = true ↔ ∃ e ∈ a'.info.results, e.result = true) ∧
      a'.info.version = Consts.libVersion) ∧
    (r = true ↔ ∃ a' ∈ arts', a'.info.weak = true) := by
  unfold checkAllEC at h
  refine ⟨fun n a a' ha ha' => ?_, fresh_return_iff var _ _ _ arts arts' r
    (fun a ha => by rw [hfresh a ha]; rfl) h⟩
  obtain ⟨h1, h2, h3, _⟩ := registry_fresh registry_names_nodup.2.1 h ha ha'
    (hfresh _ (List.mem_of_getElem? ha))
  have hany : ∃ c ∈ ecAll, c.needsCurve = false := by decide +kernel
  obtain ⟨c, hc, hncv⟩ := hany
  exact ⟨h1, h2, h3 ⟨c, hc, by simp [applicable, hncv]⟩⟩

/-- CheckAllECDSASigs on FRESH signatures: one entry per active signature check that applies
(CheckIssuerKey always; the nonce checks iff the issuer curve is in CURVE_FACTORY). -/
theorem checkAllECDSASigs_fresh (var : Variant) (O : Nat → Nat → Verdict)
    (I : Nat → Nat → Nat → Verdict) (arts arts' : List Artifact) (r : Bool)
    (hfresh : ∀ a ∈ arts, a.info = TestInfo.empty)
    (h : checkAllECDSASigs var O I arts = .ok (arts', r)) :
    (∀ (n : Nat) (a a' : Artifact), arts[n]? = some a → arts'[n]? = some a' →
      a'.info.results.map (·.name) =
        (ecdsaAll.filter (fun c => c.issuer || applicable c a)).map (·.name) ∧
      (a'.info.weak = true ↔ ∃ e ∈ a'.info.results, e.result = true) ∧
      a'.info.version = Consts.libVersion) ∧
    (r = true ↔ ∃ a' ∈ arts', a'.info.weak = true) := by
  unfold checkAllECDSASigs at h
  refine ⟨fun n a a' ha ha' => ?_, fresh_return_iff var _ _ _ arts arts' r
    (fun a ha => by rw [hfresh a ha]; rfl) h⟩
  obtain ⟨h1, h2, h3, _⟩ := registry_fresh registry_names_nodup.2.2.1 h ha ha'
    (hfresh _ (List.mem_of_getElem? ha))
  have hiss : ∃ c ∈ ecdsaAll, c.issuer = true := by decide +kernel
  obtain ⟨c, hc, hci⟩ := hiss
  exact ⟨h1, h2, h3 ⟨c, hc, by simp [hci]⟩⟩

/-! ## Non-vacuity: concrete runs of the model -/

/-- a history on a hand-edited TestInfo: the duplicate name stays duplicated (not tripled), the
first one is updated, factors are united. -/
example :
    runOps "1.1.1" ⟨false, [⟨"A", false, 1⟩, ⟨"A", true, 0⟩], [("N", .factors [3])], ""⟩
      [.setTestResult ⟨"A", true, 4⟩, .attachFactors "N" [7, 3], .setTestResult ⟨"B", false, 2⟩] =
    ⟨true, [⟨"A", true, 4⟩, ⟨"A", true, 0⟩, ⟨"B", false, 2⟩], [("N", .factors [3, 7])],
      "1.1.1"⟩ := by decide +kernel

/-- AttachFactors on an unparsable stored value raises and changes nothing. -/
example : attachFactors ⟨false, [], [("N", .raw "garbage")], ""⟩ "N" [5] = .error .valueError := by
  decide +kernel

/-- CheckAllEC on a fresh key on secp256r1 (curve id 2, flagged by the 3rd check, discrete log
attached) and a fresh key with unknown curve id 0 (flagged by CheckValidECKey only, and carrying
ONE entry): the hypotheses of `checkAllEC_fresh` are satisfiable and the run returns True. -/
example :
    (checkAllEC .repaired
      (fun j i => if j = 2 ∧ i = 0 then ⟨true, none, some ("DISCRETE_LOG", .raw "fac2")⟩
                  else if j = 0 ∧ i = 1 then ⟨true, none, none⟩ else ⟨false, none, none⟩)
      (fun _ _ _ => ⟨false, none, none⟩)
      [⟨TestInfo.empty, 2, (5, 6)⟩, ⟨TestInfo.empty, 0, (5, 6)⟩]).map
      (fun p => (p.1.map (fun a => (a.info.weak, a.info.results.map (·.name), a.info.version)), p.2)) =
    .ok ([(true, ["CheckValidECKey", "CheckWeakCurve", "CheckWeakECPrivateKey",
                  "CheckECKeySmallDifference"], "1.1.1"),
          (true, ["CheckValidECKey"], "1.1.1")], true) := by decide +kernel

/-- the two variants of CheckIssuerKey differ on [sigA, sigB] when the EC checks flag the second
distinct key (B's own key, which only the repaired variant checks): pinned leaves B unflagged. -/
example :
    ((checkIssuerKey .pinned "v" ecAll ⟨"CheckIssuerKey", 0, false, false, true⟩
      (fun j k => if j = 0 ∧ k = 1 then ⟨true, none, none⟩ else ⟨false, none, none⟩)
      [sigA, sigB]).map (fun p => (p.1.map (·.info.weak), p.2)) = .ok ([false, false], false)) ∧
    ((checkIssuerKey .repaired "v" ecAll ⟨"CheckIssuerKey", 0, false, false, true⟩
      (fun j k => if j = 0 ∧ k = 1 then ⟨true, none, none⟩ else ⟨false, none, none⟩)
      [sigA, sigB]).map (fun p => (p.1.map (·.info.weak), p.2)) = .ok ([false, true], true)) := by
  decide +kernel

/-- CheckIssuerKey copies the HIGHEST severity among the failed EC checks (2 and 4 here → 4)
to both signatures of the issuer; CheckLowHammingWeight's override gives severity 0. -/
example :
    ((checkIssuerKey .repaired "v" ecAll ⟨"CheckIssuerKey", 0, false, false, true⟩
      (fun j _ => if j = 1 ∨ j = 2 then ⟨true, none, none⟩ else ⟨false, none, none⟩)
      [⟨TestInfo.empty, 1, (8, 9)⟩, ⟨TestInfo.empty, 1, (8, 9)⟩]).map
      (fun p => p.1.map (·.info.results)) =
      .ok [[⟨"CheckIssuerKey", true, 4⟩], [⟨"CheckIssuerKey", true, 4⟩]]) ∧
    entryFor ⟨"CheckLowHammingWeight", 4, false, true, false⟩ ⟨true, none, none⟩ =
      ⟨"CheckLowHammingWeight", true, 0⟩ := by decide +kernel

end Paranoid.C16
