/-
Props/C13Tie.lean — the function the DRIVER runs is the function the C13 theorems are about.

The theorems of Props/C13.lean / Props/C13History.lean speak of `Suite.runHistory` (Proofs/Suite.lean: a fold
of `Suite.run` that drops the returned flags).  The line-protocol op `su.run`, which harness/corr/c13.py
compares with the real `TestStructure.Run` history, evaluates `Driver.runScript` (Driver/Suite.lean: the same
fold, which also collects the returned `finished` flags).  Both are folds of the SAME model function `run`;
without the lemmas below a difference between the two recursions (e.g. one of them stopping early)
would be invisible both to the theorems and to the correspondence.

* `runScript_structure`   first component of `runScript` = `runHistory`, for every history, accumulator and
                          number semantics, including the error case;
* `runScript_flags`       the collected flags are the `finished` fields after each prefix of the history
                          (so the flag string printed by `su.run` is determined by `runHistory` too);
* `su_run_is_history`     the two together for the call made by the op (`TS.init …`, empty accumulator), in
                          the form in which the hypotheses `runHistory … = .ok ts` of C13History are stated.

`su.source` / `su.bits` call `Suite.testSource` / `Suite.testBitString` directly — the functions of
`C13History.testSource_history` / `testBitString_history` — and need no tie.
Imports Driver/Suite.lean (Mathlib-free) so that the statement is about the compiled definition itself.
-/
import ParanoidModel.Props.C13History
import ParanoidModel.Driver.Suite
namespace Paranoid.C13Tie
open Paranoid Paranoid.Suite Paranoid.Driver

/-- `Driver.runScript` (op `su.run`) and `Suite.runHistory` (the theorems) compute the same structure and
fail on the same histories with the same exception. -/
theorem runScript_structure (N : Num Val) (ts : TS Val) (os : List (Outcome Val)) (acc : List Bool) :
    (runScript N ts os acc).map (·.1) = runHistory N ts os := by
  induction os generalizing ts acc with
  | nil => rfl
  | cons o os ih =>
    simp only [runScript, runHistory]
    cases h : run N ts o with
    | error e => rfl
    | ok p => exact ih p.1 (p.2 :: acc)

/-- the flags `runScript` returns: the accumulator (reversed) followed by one flag per run, the i-th being
the `finished` field of the structure after the first i + 1 runs. -/
theorem runScript_flags (N : Num Val) (ts ts' : TS Val) (os : List (Outcome Val)) (acc fl : List Bool)
    (h : runScript N ts os acc = .ok (ts', fl)) :
    ∃ fl', fl = acc.reverse ++ fl' ∧ fl'.length = os.length ∧
      ∀ i, i < os.length → ∃ tsi, runHistory N ts (os.take (i + 1)) = .ok tsi ∧
        fl'[i]? = some tsi.finished := by
  induction os generalizing ts acc with
  | nil =>
    simp only [runScript, Except.ok.injEq, Prod.mk.injEq] at h
    exact ⟨[], by simp [h.2], rfl, fun i hi => absurd hi (Nat.not_lt_zero i)⟩
  | cons o os ih =>
    rw [runScript] at h
    cases hr : run N ts o with
    | error e => rw [hr] at h; cases h
    | ok p =>
      obtain ⟨ts1, fin⟩ := p
      rw [hr] at h
      obtain ⟨fl', h1, h2, h3⟩ := ih ts1 (fin :: acc) h
      have hfin : fin = ts1.finished := run_flag N ts ts1 o fin hr
      refine ⟨fin :: fl', by rw [h1]; simp, by simp [h2], fun i hi => ?_⟩
      cases i with
      | zero => exact ⟨ts1, by simp [runHistory, hr], by simp [hfin]⟩
      | succ i =>
        obtain ⟨tsi, ha, hb⟩ := h3 i (by simpa using hi)
        exact ⟨tsi, by simp only [List.take_succ_cons, runHistory, hr]; exact ha, by simpa using hb⟩

/-- ★ the call made by `su.run`: it answers `ok` with structure `ts` exactly when
`runHistory N (TS.init fail rep minRep) os = .ok ts` — the hypothesis of `C13History.state_rule`,
`pvalues_are_history`, `failed_rule`, `finished_rule` — and then prints one flag per run, the last one being
`ts.finished`. -/
theorem su_run_is_history (N : Num Val) (fail rep : Val) (minRep : Nat) (os : List (Outcome Val))
    (ts : TS Val) :
    (∃ fl, runScript N (TS.init fail rep minRep) os [] = .ok (ts, fl)) ↔
      runHistory N (TS.init fail rep minRep) os = .ok ts := by
  rw [← runScript_structure N _ os []]
  cases runScript N (TS.init fail rep minRep) os [] with
  | error e => simp [Except.map]
  | ok p =>
    obtain ⟨t, fl⟩ := p
    simp only [Except.map, Except.ok.injEq, Prod.mk.injEq]
    constructor
    · rintro ⟨fl', h, _⟩; exact h
    · intro h; exact ⟨fl, h, rfl⟩

/-- … so the C13History rule applies verbatim to every `ok` answer of `su.run` (instance: the recorded list
under every name is what the runs returned). -/
theorem su_run_pvalues (N : Num Val) (fail rep : Val) (minRep : Nat) (os : List (Outcome Val))
    (ts : TS Val) (fl : List Bool)
    (h : runScript N (TS.init fail rep minRep) os [] = .ok (ts, fl)) (name : String) :
    dictGet name ts.pvalues =
      if (returned name os).isEmpty then none else some (returned name os) :=
  C13History.pvalues_are_history N fail rep minRep os ts
    ((su_run_is_history N fail rep minRep os ts).mp ⟨fl, h⟩) name

end Paranoid.C13Tie
