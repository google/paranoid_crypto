/-
Proofs/Lfsr.lean — theory of the textbook Berlekamp–Massey recursion of Spec/Lfsr.lean:

* GF(2) sums (`xsum`), coefficient lists, the convolution coefficient `conv p σ k = [X^k] p·S`;
* the loop invariant `TBInv` of the textbook recursion (upper bound: the LFSR read off `C`
  generates everything read so far);
* Massey's lemma and Massey's theorem `textbookL_isShortest` (the textbook length IS the length
  of the shortest LFSR), and the correctness of the brute-force definition `shortestLfsr`;
* the step structure `textbookL_snoc` and the counting theorem `countL_eq_cnt`.
-/
import ParanoidModel.Spec.Lfsr
import Mathlib.Tactic.Linarith
import Mathlib.Data.List.Nodup
namespace Paranoid.Lfsr

@[simp] theorem xsum_zero (f : Nat → Bool) : xsum 0 f = false := rfl
theorem xsum_succ (n : Nat) (f : Nat → Bool) : xsum (n + 1) f = (xsum n f ^^ f n) := rfl

theorem xsum_congr {n : Nat} {f g : Nat → Bool} (h : ∀ i, i < n → f i = g i) :
    xsum n f = xsum n g := by
  induction n with
  | zero => rfl
  | succ n ih =>
    rw [xsum_succ, xsum_succ, ih (fun i hi => h i (by omega)), h n (by omega)]

theorem xsum_trunc {L k : Nat} {f : Nat → Bool} (hLk : L ≤ k)
    (h : ∀ i, L ≤ i → i < k → f i = false) : xsum k f = xsum L f := by
  induction hLk with
  | refl => rfl
  | step hk ih =>
    rw [xsum_succ, ih fun i h1 h2 => h i h1 (Nat.lt_succ_of_lt h2), h _ hk (Nat.lt_succ_self _)]
    exact Bool.xor_false _

theorem xsum_false {n : Nat} {f : Nat → Bool} (h : ∀ i, i < n → f i = false) :
    xsum n f = false :=
  xsum_trunc (Nat.zero_le n) fun i _ hi => h i hi

theorem xsum_xor (n : Nat) (f g : Nat → Bool) :
    xsum n (fun i => f i ^^ g i) = (xsum n f ^^ xsum n g) := by
  induction n with
  | zero => rfl
  | succ n ih =>
    simp only [xsum_succ, ih]
    cases xsum n f <;> cases xsum n g <;> cases f n <;> cases g n <;> rfl

theorem xsum_and_left (a : Bool) (n : Nat) (f : Nat → Bool) :
    (a && xsum n f) = xsum n (fun i => a && f i) := by
  induction n with
  | zero => cases a <;> rfl
  | succ n ih =>
    simp only [xsum_succ, ← ih]
    cases a <;> cases xsum n f <;> cases f n <;> rfl

theorem xsum_succ_first (n : Nat) (f : Nat → Bool) :
    xsum (n + 1) f = (f 0 ^^ xsum n (fun i => f (i + 1))) := by
  induction n with
  | zero => simp [xsum_succ]
  | succ n ih =>
    rw [xsum_succ, ih, xsum_succ]
    cases f 0 <;> cases xsum n (fun i => f (i + 1)) <;> cases f (n + 1) <;> rfl

theorem xsum_comm (n m : Nat) (f : Nat → Nat → Bool) :
    xsum n (fun i => xsum m (fun j => f i j)) = xsum m (fun j => xsum n (fun i => f i j)) := by
  induction n with
  | zero => simp [xsum_false]
  | succ n ih =>
    simp only [xsum_succ, ih]
    rw [← xsum_xor]

theorem coef_nil (i : Nat) : coef [] i = false := by simp [coef]
@[simp] theorem coef_cons_zero (a : Bool) (p : List Bool) : coef (a :: p) 0 = a := by simp [coef]
@[simp] theorem coef_cons_succ (a : Bool) (p : List Bool) (i : Nat) :
    coef (a :: p) (i + 1) = coef p i := by simp [coef]

theorem coef_polyAdd (p q : List Bool) (i : Nat) :
    coef (polyAdd p q) i = (coef p i ^^ coef q i) := by
  induction p generalizing q i with
  | nil => simp [polyAdd, coef_nil]
  | cons a p ih =>
    cases q with
    | nil => simp [polyAdd, coef_nil]
    | cons b q =>
      cases i with
      | zero => simp [polyAdd]
      | succ i => simp [polyAdd, ih]

theorem coef_polyShift (x : Nat) (p : List Bool) (i : Nat) :
    coef (polyShift x p) i = (decide (x ≤ i) && coef p (i - x)) := by
  unfold polyShift coef
  by_cases h : x ≤ i
  · rw [List.getD_eq_getElem?_getD, List.getElem?_append_right (by rwa [List.length_replicate]),
      List.length_replicate, decide_eq_true h, Bool.true_and, List.getD_eq_getElem?_getD]
  · rw [List.getD_eq_getElem?_getD, List.getElem?_append_left (by rw [List.length_replicate]; omega),
      List.getElem?_replicate, if_pos (by omega), decide_eq_false h]
    rfl

/-- coefficient of `X^k` in `p · S` where `S = Σ σ_i X^i`. -/
def conv (p : List Bool) (σ : Nat → Bool) (k : Nat) : Bool :=
  xsum (k + 1) (fun i => coef p i && σ (k - i))

theorem conv_polyAdd (p q : List Bool) (σ : Nat → Bool) (k : Nat) :
    conv (polyAdd p q) σ k = (conv p σ k ^^ conv q σ k) := by
  unfold conv
  rw [← xsum_xor]
  apply xsum_congr
  intro i _
  rw [coef_polyAdd]
  cases coef p i <;> cases coef q i <;> cases σ (k - i) <;> rfl

theorem conv_cons_false (p : List Bool) (σ : Nat → Bool) (k : Nat) :
    conv (false :: p) σ k = (decide (1 ≤ k) && conv p σ (k - 1)) := by
  unfold conv
  rw [xsum_succ_first, coef_cons_zero, Bool.false_and, Bool.false_xor]
  cases k with
  | zero => rfl
  | succ k => exact xsum_congr fun i _ => by rw [coef_cons_succ, Nat.succ_sub_succ]; rfl

theorem conv_polyShift (x : Nat) (p : List Bool) (σ : Nat → Bool) (k : Nat) :
    conv (polyShift x p) σ k = (decide (x ≤ k) && conv p σ (k - x)) := by
  induction x generalizing k with
  | zero => rw [decide_eq_true (Nat.zero_le k)]; rfl
  | succ x ih =>
    rw [polyShift, List.replicate_succ, List.cons_append, conv_cons_false]
    show (_ && conv (polyShift x p) σ (k - 1)) = _
    rw [ih]
    cases k with
    | zero => rfl
    | succ k =>
      simp only [Nat.succ_sub_succ, Nat.succ_le_succ_iff, Nat.zero_le, Nat.sub_zero, decide_true,
        Bool.true_and]

/-- with `p_0 = 1` and `deg p ≤ L ≤ k`, the convolution coefficient is the textbook
discrepancy form `σ_k ⊕ Σ_{i=1..L} p_i σ_{k-i}`. -/
theorem conv_eq_disc {p : List Bool} {σ : Nat → Bool} {L k : Nat} (h0 : coef p 0 = true)
    (hdeg : ∀ i, L < i → coef p i = false) (hLk : L ≤ k) :
    conv p σ k = (σ k ^^ xsum L (fun i => coef p (i + 1) && σ (k - 1 - i))) := by
  unfold conv
  rw [xsum_succ_first, h0]
  simp only [Bool.true_and, Nat.sub_zero]
  congr 1
  rw [xsum_trunc hLk]
  · apply xsum_congr
    intro i _
    congr 2
    omega
  · intro i hi _
    rw [hdeg (i + 1) (by omega)]
    rfl


/-- what the loop invariant says of the current connection polynomial: `C_0 = 1`,
`deg C ≤ L ≤ n`, and the LFSR read off `C` generates `σ_0 … σ_{n-1}`. -/
structure CInv (σ : Nat → Bool) (n : Nat) (C : List Bool) (L : Nat) : Prop where
  c0 : coef C 0 = true
  degC : ∀ i, L < i → coef C i = false
  hL : L ≤ n
  genC : ∀ k, L ≤ k → k < n → conv C σ k = false

/-- what it says of the connection polynomial `B` before the last length change, `x` steps ago:
`LB := n + 1 - x - L` is the length of that LFSR; it generated up to position `n - x` and failed
there (`discB`). Before the first length change there is no such position: then `B = 1`,
`x = n + 1` and `L = 0`, which is what the guard `x ≤ n` of `discB` and the field `first` say;
`first` is how `x ≤ n` is obtained once `L > 0`. -/
structure BInv (σ : Nat → Bool) (n : Nat) (B : List Bool) (L x : Nat) : Prop where
  hx1 : 1 ≤ x
  hxL : x + L ≤ n + 1
  degB : ∀ i, n + 1 < i + x + L → coef B i = false
  genB : ∀ k, n + 1 ≤ k + x + L → k + x < n → conv B σ k = false
  discB : x ≤ n → conv B σ (n - x) = true
  first : n < x → L = 0

/-- Loop invariant of textbook Berlekamp–Massey after reading `σ_0 … σ_{n-1}`. -/
structure TBInv (σ : Nat → Bool) (n : Nat) (st : TB) : Prop
  extends CInv σ n st.C st.L, BInv σ n st.B st.L st.x

theorem coef_one (i : Nat) (h : 0 < i) : coef [true] i = false := by
  cases i with
  | zero => omega
  | succ i => simp [coef_nil]

theorem tbInv_init (σ : Nat → Bool) : TBInv σ 0 tbInit where
  c0 := rfl
  degC := fun i h => coef_one i h
  hL := Nat.le_refl _
  hx1 := Nat.le_refl _
  hxL := Nat.le_refl _
  genC := fun k _ h => absurd h (Nat.not_lt_zero _)
  degB := fun i h => coef_one i (by simp [tbInit] at h; omega)
  genB := fun k _ h => absurd h (Nat.not_lt_zero _)
  discB := fun h => by simp [tbInit] at h
  first := fun _ => rfl

theorem disc_eq_conv {σ : Nat → Bool} {n : Nat} {st : TB} (h : TBInv σ n st) :
    disc σ st n = conv st.C σ n := by
  unfold disc
  rw [conv_eq_disc h.c0 h.degC h.hL]

theorem conv_update (C B : List Bool) (x : Nat) (σ : Nat → Bool) (k : Nat) :
    conv (polyAdd C (polyShift x B)) σ k
      = (conv C σ k ^^ (decide (x ≤ k) && conv B σ (k - x))) := by
  rw [conv_polyAdd, conv_polyShift]

theorem coef_update (C B : List Bool) (x i : Nat) :
    coef (polyAdd C (polyShift x B)) i = (coef C i ^^ (decide (x ≤ i) && coef B (i - x))) := by
  rw [coef_polyAdd, coef_polyShift]

/-- no discrepancy: `C` also generates `σ_n`. -/
theorem CInv.keep {σ : Nat → Bool} {n L : Nat} {C : List Bool} (h : CInv σ n C L)
    (hd : conv C σ n = false) : CInv σ (n + 1) C L :=
  ⟨h.c0, h.degC, Nat.le_succ_of_le h.hL, fun k h1 h2 =>
    (Nat.lt_succ_iff_lt_or_eq.1 h2).elim (h.genC k h1) fun e => e ▸ hd⟩

/-- a step without length change: one more step since `B`. -/
theorem BInv.shift {σ : Nat → Bool} {n L x : Nat} {B : List Bool} (h : BInv σ n B L x) :
    BInv σ (n + 1) B L (x + 1) where
  hx1 := Nat.le_add_left 1 x
  hxL := by have := h.hxL; omega
  degB := fun i hi => h.degB i (by omega)
  genB := fun k h1 h2 => h.genB k (by omega) (by omega)
  discB := fun hx => by
    rw [Nat.add_sub_add_right]
    exact h.discB (by omega)
  first := fun hx => h.first (by omega)

/-- the correction `C + X^x·B` cancels the discrepancy at `n`; its degree is at most any `L'`
with `L ≤ L'` and `LB + x = n + 1 - L ≤ L'` (`L' = L` without, `L' = n + 1 - L` with a length
change). -/
theorem CInv.update {σ : Nat → Bool} {n L x L' : Nat} {C B : List Bool} (hC : CInv σ n C L)
    (hB : BInv σ n B L x) (hd : conv C σ n = true) (h1 : L ≤ L') (h2 : n + 1 ≤ L' + L)
    (h3 : L' ≤ n + 1) : CInv σ (n + 1) (polyAdd C (polyShift x B)) L' where
  c0 := by
    rw [coef_update, hC.c0, decide_eq_false (Nat.not_le.2 hB.hx1)]
    rfl
  degC := fun i hi => by
    rw [coef_update, hC.degC i (by omega)]
    by_cases hx : x ≤ i
    · rw [hB.degB (i - x) (by omega), Bool.and_false]; rfl
    · rw [decide_eq_false hx]; rfl
  hL := h3
  genC := fun k hk1 hk2 => by
    have hxn : x ≤ n := Nat.le_of_not_lt fun hc => by have := hB.first hc; omega
    rw [conv_update]
    rcases Nat.lt_succ_iff_lt_or_eq.1 hk2 with hk | rfl
    · rw [hC.genC k (by omega) hk]
      by_cases hx : x ≤ k
      · rw [hB.genB (k - x) (by omega) (by omega), Bool.and_false]; rfl
      · rw [decide_eq_false hx]; rfl
    · rw [hd, hB.discB hxn, decide_eq_true hxn]; rfl

/-- after a length change the old `C` is the new `B`. -/
theorem CInv.asB {σ : Nat → Bool} {n L : Nat} {C : List Bool} (h : CInv σ n C L)
    (hd : conv C σ n = true) (hl : 2 * L ≤ n) : BInv σ (n + 1) C (n + 1 - L) 1 where
  hx1 := Nat.le_refl 1
  hxL := by omega
  degB := fun i hi => h.degC i (by omega)
  genB := fun k h1 h2 => h.genC k (by omega) (by omega)
  discB := fun _ => hd
  first := fun hx => by omega

theorem tbInv_step {σ : Nat → Bool} {n : Nat} {st : TB} (h : TBInv σ n st) :
    TBInv σ (n + 1) (tbStep σ n st) := by
  have hL := h.hL
  unfold tbStep
  rw [disc_eq_conv h]
  by_cases hd : conv st.C σ n = true
  · rw [if_pos hd]
    by_cases hl : 2 * st.L ≤ n
    · rw [if_pos hl]
      exact ⟨h.toCInv.update (L' := n + 1 - st.L) h.toBInv hd (by omega) (by omega) (by omega),
        h.toCInv.asB hd hl⟩
    · rw [if_neg hl]
      exact ⟨h.toCInv.update (L' := st.L) h.toBInv hd (Nat.le_refl _) (by omega) (Nat.le_succ_of_le hL),
        h.toBInv.shift⟩
  · rw [if_neg hd]
    exact ⟨h.toCInv.keep (by simpa using hd), h.toBInv.shift⟩

theorem tbInv_run (σ : Nat → Bool) (n : Nat) : TBInv σ n (tbRun σ n) := by
  induction n with
  | zero => exact tbInv_init σ
  | succ n ih => exact tbInv_step ih

/-- `taps` generates `σ_0 … σ_{n-1}`. -/
def Gen (taps : List Bool) (σ : Nat → Bool) (n : Nat) : Prop :=
  ∀ k, taps.length ≤ k → k < n → σ k = feedback taps σ k

theorem Gen.mono {taps : List Bool} {σ : Nat → Bool} {n m : Nat} (h : Gen taps σ n)
    (hmn : m ≤ n) : Gen taps σ m := fun k h1 h2 => h k h1 (by omega)

theorem generates_iff_gen (taps s : List Bool) : generates taps s ↔ Gen taps (sbit s) s.length :=
  Iff.rfl

/-- **Massey's lemma.** If an LFSR of length `L` generates `σ_0 … σ_{n-1}` but not `σ_n`, every
LFSR generating `σ_0 … σ_n` has length at least `n + 1 - L`. -/
theorem massey_lemma {c c' : List Bool} {σ : Nat → Bool} {n : Nat}
    (hc : Gen c σ n) (hfail : σ n ≠ feedback c σ n) (hc' : Gen c' σ (n + 1)) :
    n + 1 - c.length ≤ c'.length := by
  by_contra hlt
  have hsum : c'.length + c.length ≤ n := by omega
  apply hfail
  -- σ_n = Σ_i c'_i σ_{n-1-i}
  rw [hc' n (by omega) (by omega)]
  unfold feedback
  -- expand each σ_{n-1-i} with c
  have e1 : xsum c'.length (fun i => coef c' i && σ (n - 1 - i))
      = xsum c'.length (fun i => xsum c.length
          (fun j => coef c' i && (coef c j && σ (n - 1 - i - 1 - j)))) := by
    apply xsum_congr
    intro i hi
    rw [hc (n - 1 - i) (by omega) (by omega)]
    unfold feedback
    rw [xsum_and_left]
  have e2 : xsum c.length (fun j => coef c j && σ (n - 1 - j))
      = xsum c.length (fun j => xsum c'.length
          (fun i => coef c' i && (coef c j && σ (n - 1 - i - 1 - j)))) := by
    apply xsum_congr
    intro j hj
    rw [hc' (n - 1 - j) (by omega) (by omega)]
    unfold feedback
    rw [xsum_and_left]
    apply xsum_congr
    intro i hi
    have : n - 1 - j - 1 - i = n - 1 - i - 1 - j := by omega
    rw [this]
    cases coef c j <;> cases coef c' i <;> cases σ (n - 1 - i - 1 - j) <;> rfl
  rw [e1, e2, xsum_comm]

/-- the taps `c_1 … c_L` read off the connection polynomial. -/
def tapsOf (st : TB) : List Bool := (List.range st.L).map fun i => coef st.C (i + 1)

@[simp] theorem tapsOf_length (st : TB) : (tapsOf st).length = st.L := by simp [tapsOf]

theorem coef_tapsOf (st : TB) (i : Nat) (h : i < st.L) : coef (tapsOf st) i = coef st.C (i + 1) := by
  simp [tapsOf, coef, h]

theorem feedback_tapsOf (st : TB) (σ : Nat → Bool) (k : Nat) :
    feedback (tapsOf st) σ k = xsum st.L (fun i => coef st.C (i + 1) && σ (k - 1 - i)) := by
  unfold feedback
  rw [tapsOf_length]
  apply xsum_congr
  intro i hi
  rw [coef_tapsOf st i hi]

theorem conv_eq_false_iff {σ : Nat → Bool} {n : Nat} {st : TB} (h : TBInv σ n st) (k : Nat)
    (hk : st.L ≤ k) : conv st.C σ k = false ↔ σ k = feedback (tapsOf st) σ k := by
  rw [feedback_tapsOf, conv_eq_disc h.c0 h.degC hk]
  generalize σ k = a
  generalize xsum _ _ = b
  cases a <;> cases b <;> decide

theorem tbInv_gen {σ : Nat → Bool} {n : Nat} {st : TB} (h : TBInv σ n st) :
    Gen (tapsOf st) σ n := fun k h1 h2 =>
  (conv_eq_false_iff h k (tapsOf_length st ▸ h1)).1 (h.genC k (tapsOf_length st ▸ h1) h2)

/-- length after a discrepancy at step `n` from length `l`. -/
def upd (n l : Nat) : Nat := if 2 * l ≤ n then n + 1 - l else l

theorem upd_eq_max (n l : Nat) : upd n l = max l (n + 1 - l) := by
  unfold upd; split <;> omega

theorem tbStep_L (σ : Nat → Bool) (n : Nat) (st : TB) :
    (tbStep σ n st).L = if disc σ st n = true then upd n st.L else st.L := by
  unfold tbStep upd
  split
  · split <;> rfl
  · rfl

theorem tbRun_minimal (σ : Nat → Bool) (n : Nat) :
    ∀ taps : List Bool, Gen taps σ n → (tbRun σ n).L ≤ taps.length := by
  induction n with
  | zero => intro taps _; exact Nat.zero_le _
  | succ n ih =>
    intro taps hg
    have hinv := tbInv_run σ n
    have hprev := ih taps (hg.mono (Nat.le_succ n))
    show (tbStep σ n (tbRun σ n)).L ≤ taps.length
    rw [tbStep_L, disc_eq_conv hinv, upd]
    split
    next hd =>
      split
      next hl =>
        have hfail : σ n ≠ feedback (tapsOf (tbRun σ n)) σ n := fun e =>
          Bool.noConfusion (hd.symm.trans ((conv_eq_false_iff hinv n hinv.hL).2 e))
        have := massey_lemma (tbInv_gen hinv) hfail hg
        rwa [tapsOf_length] at this
      next => exact hprev
    next => exact hprev

/-- **Massey's theorem** at the level of prefixes of an infinite sequence. -/
theorem tbRun_shortest (σ : Nat → Bool) (n : Nat) :
    (∃ taps : List Bool, taps.length = (tbRun σ n).L ∧ Gen taps σ n) ∧
      ∀ taps : List Bool, Gen taps σ n → (tbRun σ n).L ≤ taps.length :=
  ⟨⟨tapsOf (tbRun σ n), tapsOf_length _, tbInv_gen (tbInv_run σ n)⟩, tbRun_minimal σ n⟩

/-- **Massey's theorem**: the textbook Berlekamp–Massey length is the length of the shortest
LFSR generating `s`, for every finite bit sequence `s`. -/
theorem textbookL_isShortest (s : List Bool) : IsShortestLfsr s (textbookL s) :=
  tbRun_shortest (sbit s) s.length

theorem IsShortestLfsr.unique {s : List Bool} {a b : Nat} (ha : IsShortestLfsr s a)
    (hb : IsShortestLfsr s b) : a = b := by
  obtain ⟨⟨ta, rfl, ga⟩, ma⟩ := ha
  obtain ⟨⟨tb, rfl, gb⟩, mb⟩ := hb
  exact Nat.le_antisymm (ma tb gb) (mb ta ga)

theorem generatesB_iff (taps s : List Bool) : generatesB taps s = true ↔ generates taps s := by
  unfold generatesB generates
  simp only [List.all_eq_true, List.mem_range, Bool.or_eq_true, decide_eq_true_eq, beq_iff_eq]
  constructor
  · intro h k h1 h2
    rcases h k h2 with h3 | h3
    · omega
    · exact h3
  · intro h k h2
    by_cases h1 : k < taps.length
    · exact Or.inl h1
    · exact Or.inr (h k (by omega) h2)

instance (taps s : List Bool) : Decidable (generates taps s) :=
  decidable_of_iff _ (generatesB_iff taps s)

theorem mem_allSeqs (n : Nat) (s : List Bool) : s ∈ allSeqs n ↔ s.length = n := by
  induction n generalizing s with
  | zero => simp [allSeqs]
  | succ n ih =>
    simp only [allSeqs, List.mem_flatMap, List.mem_cons, List.not_mem_nil, or_false]
    constructor
    · rintro ⟨t, ht, rfl | rfl⟩ <;> simp [(ih t).1 ht]
    · intro hs
      have hne : s ≠ [] := by intro h; simp [h] at hs
      refine ⟨s.dropLast, (ih _).2 (by simp [hs]), ?_⟩
      have := List.dropLast_concat_getLast hne
      cases hb : s.getLast hne
      · left; rw [← hb]; exact this.symm
      · right; rw [← hb]; exact this.symm

theorem nodup_allSeqs (n : Nat) : (allSeqs n).Nodup := by
  induction n with
  | zero => simp [allSeqs]
  | succ n ih =>
    rw [allSeqs, List.nodup_flatMap]
    refine ⟨fun s _ => by simp, ?_⟩
    refine List.Pairwise.imp_of_mem ?_ ih
    intro a b _ _ hab
    simp only [Function.onFun, List.disjoint_cons_left, List.mem_cons, List.append_cancel_right_eq,
      List.not_mem_nil, or_false, List.disjoint_nil_left, and_true]
    simp [hab]

theorem length_allSeqs (n : Nat) : (allSeqs n).length = 2 ^ n := by
  induction n with
  | zero => rfl
  | succ n ih =>
    have key : ∀ l : List (List Bool),
        (l.flatMap fun s => [s ++ [false], s ++ [true]]).length = 2 * l.length := by
      intro l
      induction l with
      | nil => rfl
      | cons a l ihl => rw [List.flatMap_cons, List.length_append, ihl]; simp; omega
    rw [allSeqs, key, ih, Nat.pow_succ, Nat.mul_comm]

theorem hasLfsrB_iff (L : Nat) (s : List Bool) :
    hasLfsrB L s = true ↔ ∃ taps : List Bool, taps.length = L ∧ generates taps s := by
  unfold hasLfsrB
  simp only [List.any_eq_true, mem_allSeqs, generatesB_iff]

theorem findFirst_spec (p : Nat → Bool) (fuel L : Nat) :
    L ≤ findFirst p fuel L ∧ findFirst p fuel L ≤ L + fuel ∧
      (∀ j, L ≤ j → j < findFirst p fuel L → p j = false) ∧
      (findFirst p fuel L < L + fuel → p (findFirst p fuel L) = true) := by
  induction fuel generalizing L with
  | zero => simp [findFirst]; intro j h1 h2; omega
  | succ fuel ih =>
    unfold findFirst
    by_cases hp : p L = true
    · rw [if_pos hp]
      refine ⟨Nat.le_refl _, by omega, fun j h1 h2 => by omega, fun _ => hp⟩
    · rw [if_neg hp]
      obtain ⟨h1, h2, h3, h4⟩ := ih (L + 1)
      refine ⟨by omega, by omega, fun j hj1 hj2 => ?_, fun h => h4 (by omega)⟩
      by_cases hj : j = L
      · subst hj; simpa using hp
      · exact h3 j (by omega) hj2

theorem generates_of_length_ge (taps s : List Bool) (h : s.length ≤ taps.length) :
    generates taps s := fun k h1 h2 => by omega

theorem shortestLfsr_isShortest (s : List Bool) : IsShortestLfsr s (shortestLfsr s) := by
  unfold shortestLfsr
  obtain ⟨_, h2, h3, h4⟩ := findFirst_spec (fun L => hasLfsrB L s) s.length 0
  constructor
  · by_cases hlt : findFirst (fun L => hasLfsrB L s) s.length 0 < 0 + s.length
    · exact (hasLfsrB_iff _ s).1 (h4 hlt)
    · have e : findFirst (fun L => hasLfsrB L s) s.length 0 = s.length := by omega
      rw [e]
      exact ⟨List.replicate s.length false, by simp,
        generates_of_length_ge _ _ (by simp)⟩
  · intro taps hg
    by_contra hc
    have := h3 taps.length (Nat.zero_le _) (by omega)
    have h5 : hasLfsrB taps.length s = true := (hasLfsrB_iff _ s).2 ⟨taps, rfl, hg⟩
    rw [h5] at this
    exact Bool.noConfusion this

/-- **Massey's theorem**, computational form. -/
theorem textbookL_eq_shortestLfsr (s : List Bool) : textbookL s = shortestLfsr s :=
  (textbookL_isShortest s).unique (shortestLfsr_isShortest s)

theorem tbRun_congr {σ τ : Nat → Bool} {n : Nat} (h : ∀ k, k < n → σ k = τ k) :
    tbRun σ n = tbRun τ n := by
  induction n with
  | zero => rfl
  | succ n ih =>
    show tbStep σ n (tbRun σ n) = tbStep τ n (tbRun τ n)
    rw [ih (fun k hk => h k (by omega))]
    have hd : disc σ (tbRun τ n) n = disc τ (tbRun τ n) n := by
      unfold disc
      rw [h n (by omega)]
      congr 1
      apply xsum_congr
      intro i _
      by_cases hn : n = 0
      · subst hn; simp [h 0 (by omega)]
      · rw [h (n - 1 - i) (by omega)]
    unfold tbStep
    rw [hd]

theorem sbit_append_lt (s t : List Bool) (k : Nat) (h : k < s.length) :
    sbit (s ++ t) k = sbit s k := by
  simp [sbit, List.getD_eq_getElem?_getD, List.getElem?_append_left h]

theorem sbit_snoc (s : List Bool) (b : Bool) : sbit (s ++ [b]) s.length = b := by
  simp [sbit, List.getD_eq_getElem?_getD]

/-- the bit the current LFSR predicts for position `|s|`. -/
def predicted (s : List Bool) : Bool :=
  xsum (tbRun (sbit s) s.length).L
    (fun i => coef (tbRun (sbit s) s.length).C (i + 1) && sbit s (s.length - 1 - i))

/-- **Step structure of the textbook recursion**: appending the predicted bit keeps `L`; appending
the other bit moves `L` to `max L (n + 1 - L)`. -/
theorem textbookL_snoc (s : List Bool) (b : Bool) :
    textbookL (s ++ [b]) =
      if (b ^^ predicted s) = true then upd s.length (textbookL s) else textbookL s := by
  have hrun : tbRun (sbit (s ++ [b])) s.length = tbRun (sbit s) s.length :=
    tbRun_congr (fun k hk => sbit_append_lt s [b] k hk)
  have hL := (tbInv_run (sbit s) s.length).hL
  have hdisc : disc (sbit (s ++ [b])) (tbRun (sbit s) s.length) s.length = (b ^^ predicted s) := by
    unfold disc predicted
    rw [sbit_snoc]
    congr 1
    apply xsum_congr
    intro i hi
    rw [sbit_append_lt s [b] _ (by omega)]
  unfold textbookL
  rw [List.length_append, List.length_singleton]
  show (tbStep (sbit (s ++ [b])) s.length (tbRun (sbit (s ++ [b])) s.length)).L = _
  rw [hrun, tbStep_L, hdisc]

/-- number of sequences of length `n` to which textbook Berlekamp–Massey assigns length `m`. -/
def countL (n m : Nat) : Nat := (allSeqs n).countP (fun s => decide (textbookL s = m))

theorem countP_and_eq {α : Type} (l : List α) (f : α → Nat) (P : Nat → Prop) [DecidablePred P]
    (v : Nat) :
    l.countP (fun a => decide (P (f a) ∧ f a = v))
      = if P v then l.countP (fun a => decide (f a = v)) else 0 := by
  split
  next h =>
    refine List.countP_congr fun a _ => ?_
    simp only [decide_eq_true_eq]
    exact ⟨fun x => x.2, fun e => ⟨e ▸ h, e⟩⟩
  next h =>
    refine List.countP_eq_zero.2 fun a _ => ?_
    simp only [decide_eq_true_eq]
    exact fun x => h (x.2 ▸ x.1)

/-- the two one-bit extensions of `s`: one keeps `L`; the other keeps it too if `2L > n` and moves
it to `n + 1 - L` if `2L ≤ n`. -/
theorem countP_ext (n m : Nat) (l : List (List Bool)) (hl : ∀ s ∈ l, s.length = n) :
    (l.flatMap fun s => [s ++ [false], s ++ [true]]).countP (fun s => decide (textbookL s = m))
      = l.countP (fun s => decide (textbookL s = m))
        + l.countP (fun s => decide (¬ 2 * textbookL s ≤ n ∧ textbookL s = m))
        + l.countP (fun s => decide (2 * textbookL s ≤ n ∧ n + 1 - textbookL s = m)) := by
  induction l with
  | nil => rfl
  | cons s l ih =>
    have hs : s.length = n := hl s List.mem_cons_self
    rw [List.flatMap_cons, List.countP_append, ih fun t ht => hl t (List.mem_cons_of_mem s ht)]
    simp only [List.countP_cons, List.countP_nil, textbookL_snoc, hs, upd, decide_eq_true_eq]
    by_cases h : 2 * textbookL s ≤ n <;> cases predicted s <;>
      simp +decide only [h, if_true, if_false, true_and, false_and] <;> omega

/-- sequences with `2L > n` count twice for their `L`; those with `2L ≤ n` once for `L` and once
for `n + 1 - L`. -/
theorem countL_succ (n m : Nat) :
    countL (n + 1) m = countL n m + (if n < 2 * m then countL n m else 0)
      + (if n + 2 ≤ 2 * m ∧ m ≤ n + 1 then countL n (n + 1 - m) else 0) := by
  have e : ∀ l : Nat, (2 * l ≤ n ∧ n + 1 - l = m) ↔ ((2 * l ≤ n ∧ m ≤ n + 1) ∧ l = n + 1 - m) := by
    omega
  unfold countL
  rw [allSeqs, countP_ext n m _ fun s hs => (mem_allSeqs n s).1 hs]
  simp only [e]
  rw [countP_and_eq _ textbookL (fun l => ¬ 2 * l ≤ n),
    countP_and_eq _ textbookL (fun l => 2 * l ≤ n ∧ m ≤ n + 1)]
  congr 1
  · congr 1
    exact if_congr Nat.not_le rfl rfl
  · exact if_congr (by omega) rfl rfl

/-- the closed form (`LfsrCount` for `n ≥ 1`; for `n = 0` it counts the empty sequence). -/
def cnt (n m : Nat) : Nat :=
  if m = 0 then 1 else if m ≤ n / 2 then 2 * 4 ^ (m - 1) else if m ≤ n then 4 ^ (n - m) else 0

theorem cnt_zero (n : Nat) : cnt n 0 = 1 := if_pos rfl

theorem cnt_low {n m : Nat} (h0 : m ≠ 0) (h : 2 * m ≤ n) : cnt n m = 2 * 4 ^ (m - 1) := by
  rw [cnt, if_neg h0, if_pos (by omega)]

theorem cnt_high {n m : Nat} (h : n < 2 * m) (hmn : m ≤ n) : cnt n m = 4 ^ (n - m) := by
  rw [cnt, if_neg (by omega), if_neg (by omega), if_pos hmn]

theorem cnt_big {n m : Nat} (h : n < m) : cnt n m = 0 := by
  rw [cnt, if_neg (by omega), if_neg (by omega), if_neg (by omega)]

/-- the closed form satisfies the recurrence of `countL_succ`; the cases are `m = 0`, `2m ≤ n`,
`2m = n + 1`, `n + 2 ≤ 2m ≤ 2n`, `m = n + 1`, `m > n + 1`. -/
theorem cnt_succ (n m : Nat) :
    cnt (n + 1) m = cnt n m + (if n < 2 * m then cnt n m else 0)
      + (if n + 2 ≤ 2 * m ∧ m ≤ n + 1 then cnt n (n + 1 - m) else 0) := by
  by_cases h0 : m = 0
  · subst h0; rfl
  by_cases h1 : 2 * m ≤ n
  · rw [cnt_low h0 h1, cnt_low h0 (Nat.le_succ_of_le h1), if_neg (by omega), if_neg (by omega)]
    rfl
  rw [if_pos (by omega)]
  by_cases h2 : 2 * m = n + 1
  · rw [cnt_low h0 (Nat.le_of_eq h2), cnt_high (by omega) (by omega), if_neg (by omega),
      show n - m = m - 1 by omega]
    omega
  by_cases h3 : m ≤ n
  · have h4 : n + 1 < 2 * m := by omega
    rw [cnt_high h4 (Nat.le_succ_of_le h3), cnt_high (by omega) h3, if_pos (by omega),
      cnt_low (n := n) (m := n + 1 - m) (by omega) (by omega),
      show n + 1 - m = n - m + 1 by omega, Nat.pow_succ, Nat.add_sub_cancel]
    omega
  rw [cnt_big (n := n) (m := m) (by omega)]
  by_cases h4 : m = n + 1
  · subst h4
    rw [cnt_high (by omega) (Nat.le_refl _), if_pos (by omega), Nat.sub_self, cnt_zero]
    rfl
  · rw [cnt_big (n := n + 1) (by omega), if_neg (by omega)]

theorem countL_zero (m : Nat) : countL 0 m = cnt 0 m := by
  unfold countL cnt
  have : textbookL [] = 0 := rfl
  by_cases h : m = 0
  · subst h; simp [allSeqs, this]
  · have h' : ¬ 0 = m := fun e => h e.symm
    simp [allSeqs, this, h, h']

/-- **Counting theorem for the textbook recursion**: exactly `cnt n m` of the `2^n` sequences
of length `n` get linear complexity `m`. -/
theorem countL_eq_cnt (n m : Nat) : countL n m = cnt n m := by
  induction n generalizing m with
  | zero => exact countL_zero m
  | succ n ih => rw [countL_succ, cnt_succ, ih, ih]

end Paranoid.Lfsr
