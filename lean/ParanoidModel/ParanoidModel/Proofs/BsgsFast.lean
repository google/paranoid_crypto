/-
Proofs/BsgsFast.lean — the hash-map instance of the model (`hashImpl`, run by the native driver)
gives the same answers as the association-list instance (`listImpl`, the subject of Props/C10).
Only the `Std.HashMap` lemmas `getElem?_insert`, `getElem?_empty` are used about the hash map, and
`XTable.get?_set` (Proofs/EcTable.lean) about the association list.

`Sim a b`: the two dicts answer every lookup alike. It holds for the empty dicts, is preserved by
`d[k] = v`, hence by PointTable; every other function reads the dict only through `get?`.
`SimRes`: both sides raise the same exception, or return equal results and `Sim`-related states.
-/
import ParanoidModel.Model.Bsgs
import ParanoidModel.Proofs.EcTable
import ParanoidModel.Proofs.BsgsLoop
namespace Paranoid.Bsgs
open Paranoid Paranoid.Ec

abbrev HTable := Std.HashMap (Option Int) Nat

def Sim (a : XTable) (b : HTable) : Prop := ∀ k, listImpl.get? a k = hashImpl.get? b k

theorem sim_empty : Sim listImpl.empty hashImpl.empty := by
  intro k
  simp [listImpl, hashImpl, XTable.get?]

theorem sim_set {a : XTable} {b : HTable} (h : Sim a b) (k : Option Int) (v : Nat) :
    Sim (listImpl.set a k v) (hashImpl.set b k v) := by
  intro k'
  have := h k'
  simp only [listImpl, hashImpl] at this ⊢
  rw [XTable.get?_set, Std.HashMap.getElem?_insert, this]
  simp only [beq_iff_eq]

theorem tableRowG_sim : ∀ (xs : List (Option Int)) (a : XTable) (b : HTable) (v : Nat), Sim a b →
    Sim (tableRowG listImpl a xs v) (tableRowG hashImpl b xs v)
  | [], _, _, _, h => h
  | x :: xs, _, _, v, h => tableRowG_sim xs _ _ (v + 1) (sim_set h x v)

/-- results of two runs: same exception, or `R`-related values. -/
def RelE {α β} (R : α → β → Prop) : Except PyErr α → Except PyErr β → Prop
  | .ok a, .ok b => R a b
  | .error e, .error e' => e = e'
  | _, _ => False

/-- how `RelE` is used: both runs raise the same exception, or both return. After rewriting with the
two equations every `match … with | .error e => .error e | .ok a => …` step of the model reduces. -/
theorem RelE.cases {α β} {R : α → β → Prop} {x : Except PyErr α} {y : Except PyErr β}
    (h : RelE R x y) :
    (∃ e, x = .error e ∧ y = .error e) ∨ ∃ a b, x = .ok a ∧ y = .ok b ∧ R a b := by
  cases x <;> cases y
  · exact .inl ⟨_, rfl, congrArg _ h.symm⟩
  · exact h.elim
  · exact h.elim
  · exact .inr ⟨_, _, rfl, rfl, h⟩

theorem tableRowsG_sim (c : Curve) (low : List Pt) (m : Nat) :
    ∀ (ps : List Pt) (i : Nat) (a : XTable) (b : HTable), Sim a b →
    RelE Sim (tableRowsG listImpl c low m ps i a) (tableRowsG hashImpl c low m ps i b)
  | [], _, _, _, h => h
  | p :: ps, i, a, b, h => by
    rw [tableRowsG, tableRowsG]
    cases batchAddX c p low with
    | error e => rfl
    | ok xs => exact tableRowsG_sim c low m ps (i + 1) _ _ (tableRowG_sim xs a b (i * m) h)

theorem pointTableG_sim (c : Curve) (base : Pt) (n m : Nat) :
    RelE Sim (pointTableG listImpl c base n m) (pointTableG hashImpl c base n m) := by
  unfold pointTableG
  split
  · rfl
  · cases pointSequence c base m with
    | error e => rfl
    | ok low =>
      simp only
      cases multiply c base m with
      | error e => rfl
      | ok bm =>
        simp only
        cases pointSequence c bm ((n + m - 1) / m) with
        | error e => rfl
        | ok high => exact tableRowsG_sim c low m high 0 _ _ sim_empty

def SimSt (s : StateG XTable) (t : StateG HTable) : Prop :=
  s.tableSize = t.tableSize ∧ Sim s.table t.table

theorem simSt_init : SimSt (StateG.init listImpl) (StateG.init hashImpl) := ⟨rfl, sim_empty⟩

theorem ensureTableG_sim (c : Curve) {s : StateG XTable} {t : StateG HTable} (h : SimSt s t)
    (size m : Nat) :
    RelE SimSt (ensureTableG listImpl c s size m) (ensureTableG hashImpl c t size m) := by
  unfold ensureTableG
  rw [h.1]
  split
  · obtain ⟨e, h1, h2⟩ | ⟨_, _, h1, h2, hab⟩ := (pointTableG_sim c c.g size m).cases <;> rw [h1, h2]
    · rfl
    · exact ⟨rfl, hab⟩
  · exact h

theorem lookup_eq {s : StateG XTable} {t : StateG HTable} (h : SimSt s t) :
    listImpl.get? s.table = hashImpl.get? t.table := funext h.2

def SimRes {α} : Except PyErr (α × StateG XTable) → Except PyErr (α × StateG HTable) → Prop :=
  RelE fun a b => a.1 = b.1 ∧ SimSt a.2 b.2

theorem batchDLG_sim (c : Curve) {s : StateG XTable} {t : StateG HTable} (h : SimSt s t)
    (points : List Pt) (n ts m : Nat) :
    SimRes (batchDLG listImpl c s points n ts m) (batchDLG hashImpl c t points n ts m) := by
  unfold batchDLG
  obtain ⟨e, h1, h2⟩ | ⟨s', t', h1, h2, h'⟩ := (ensureTableG_sim c h ts m).cases <;> rw [h1, h2]
  · rfl
  · simp only
    rw [lookup_eq h']
    cases batchDLCore c (hashImpl.get? t'.table) points n ts with
    | error e => rfl
    | ok res => exact ⟨rfl, h'⟩

theorem extendedBatchDLB_sim (c : Curve) (bound : Nat) {s : StateG XTable} {t : StateG HTable}
    (h : SimSt s t) (points : List Pt) (ts m : Nat) :
    SimRes (extendedBatchDLB listImpl c bound s points ts m)
      (extendedBatchDLB hashImpl c bound t points ts m) := by
  unfold extendedBatchDLB
  cases extInverses c with
  | error e => rfl
  | ok invs =>
    simp only
    cases extAllPoints c points invs with
    | error e => rfl
    | ok all =>
      obtain ⟨e, h1, h2⟩ | ⟨⟨d, s'⟩, ⟨_, t'⟩, h1, h2, rfl, h'⟩ :=
        (batchDLG_sim c h all bound ts m).cases <;> simp only [h1, h2]
      · rfl
      · cases extCollect points.length (extMultipliers c) d 0 (List.replicate points.length none) with
        | error e => rfl
        | ok res => exact ⟨rfl, h'⟩

theorem extendedBatchDLG_sim (c : Curve) {s : StateG XTable} {t : StateG HTable} (h : SimSt s t)
    (points : List Pt) (ts m : Nat) :
    SimRes (extendedBatchDLG listImpl c s points ts m) (extendedBatchDLG hashImpl c t points ts m) :=
  extendedBatchDLB_sim c _ h points ts m

theorem batchDLOfDifferencesG_sim (c : Curve) {s : StateG XTable} {t : StateG HTable}
    (h : SimSt s t) (points other : List Pt) (maxDiff m : Nat) :
    SimRes (batchDLOfDifferencesG listImpl c s points other maxDiff m)
      (batchDLOfDifferencesG hashImpl c t points other maxDiff m) := by
  unfold batchDLOfDifferencesG
  split
  · exact ⟨rfl, h⟩
  · obtain ⟨e, h1, h2⟩ | ⟨s', t', h1, h2, h'⟩ := (ensureTableG_sim c h maxDiff m).cases <;>
      rw [h1, h2]
    · rfl
    · simp only
      rw [lookup_eq h']
      cases diffOuter c (hashImpl.get? t'.table) other.length points 0 (other.map (negate c))
          (List.replicate points.length none) with
      | error e => rfl
      | ok res => exact ⟨rfl, h'⟩

def SimSts : List (StateG XTable) → List (StateG HTable) → Prop := List.Forall₂ SimSt

def SimResL {α} : Except PyErr (α × List (StateG XTable)) → Except PyErr (α × List (StateG HTable)) → Prop :=
  RelE fun a b => a.1 = b.1 ∧ SimSts a.2 b.2

theorem consState_sim {s : StateG XTable} {t : StateG HTable} (hst : SimSt s t)
    {r1 : Except PyErr (List KeyVerdict × List (StateG XTable))}
    {r2 : Except PyErr (List KeyVerdict × List (StateG HTable))} (h : SimResL r1 r2) :
    SimResL (consState s r1) (consState t r2) := by
  obtain ⟨e, rfl, rfl⟩ | ⟨a, b, rfl, rfl, h'⟩ := RelE.cases h
  · rfl
  · exact ⟨h'.1, .cons hst h'.2⟩

/-- steps that agree from related states make loops that agree. -/
theorem genLoop_sim {ω : Type} (keys : List ECKey)
    {step : FEntry → Curve → StateG XTable → ω → Option (Except PyErr (List KV × StateG XTable))}
    {step' : FEntry → Curve → StateG HTable → ω → Option (Except PyErr (List KV × StateG HTable))}
    (hstep : ∀ e c s t o, SimSt s t → Option.Rel SimRes (step e c s o) (step' e c t o)) :
    ∀ (f : Factory) {ss : List (StateG XTable)} {ts : List (StateG HTable)} (os : List ω)
      (res : List KeyVerdict), SimSts ss ts →
    SimResL (genLoop keys step f ss os res) (genLoop keys step' f ts os res)
  | [], _, _, _, _, _ => by simp [genLoop, SimResL, RelE, SimSts]
  | _ :: _, _, _, _, _, .nil => by simp [genLoop, SimResL, RelE, SimSts]
  | _ :: _, _, _, [], _, .cons _ _ => by simp [genLoop, SimResL, RelE, SimSts]
  | e :: es, _, _, o :: os, res, .cons (a := s) (b := t) hst hrest => by
    rw [genLoop, genLoop]
    cases e.curve with
    | none => exact consState_sim hst (genLoop_sim keys hstep es os res hrest)
    | some c =>
      simp only
      have h := hstep e c s t o hst
      generalize step e c s o = r at h ⊢
      generalize step' e c t o = r' at h ⊢
      cases h with
      | none => exact consState_sim hst (genLoop_sim keys hstep es os res hrest)
      | some h =>
        obtain ⟨e, rfl, rfl⟩ | ⟨⟨d, s'⟩, ⟨_, t'⟩, rfl, rfl, rfl, hs⟩ := RelE.cases h
        · rfl
        · exact consState_sim hs (genLoop_sim keys hstep es os _ hrest)

theorem weakStep_sim (bound : Nat) (keys : List ECKey) (e : FEntry) (c : Curve) (s : StateG XTable)
    (t : StateG HTable) (o : Nat × Nat) (h : SimSt s t) :
    Option.Rel SimRes (weakStep listImpl bound keys e c s o) (weakStep hashImpl bound keys e c t o) := by
  unfold weakStep
  split
  · exact .none
  · obtain ⟨e, h1, h2⟩ | ⟨⟨d, s'⟩, ⟨_, t'⟩, h1, h2, rfl, hs⟩ :=
      (extendedBatchDLB_sim c bound h (groupPoints e.id keys) o.1 o.2).cases <;> rw [h1, h2]
    · exact .some rfl
    · exact .some ⟨rfl, hs⟩

theorem diffStepE_sim (maxDiff : Nat) (keys : List ECKey) (e : FEntry) (c : Curve)
    (s : StateG XTable) (t : StateG HTable) (m : Nat) (h : SimSt s t) :
    Option.Rel SimRes (diffStepE listImpl maxDiff keys e c s m) (diffStepE hashImpl maxDiff keys e c t m) := by
  unfold diffStepE
  obtain ⟨e, h1, h2⟩ | ⟨⟨d, s'⟩, ⟨_, t'⟩, h1, h2, rfl, hs⟩ :=
    (batchDLOfDifferencesG_sim c h (groupPoints e.id keys) [] maxDiff m).cases <;> rw [h1, h2]
  · exact .some rfl
  · exact .some ⟨rfl, hs⟩

/-- both check methods run with the hash-map dict from `Sim`-related states give the same exception
or the same verdicts and `Sim`-related states as the association-list model. (The driver starts from
`StateG.init` or from `pointTableG hashImpl` of the state token, `pointTableG_sim`.) -/
theorem driver_agrees_checks (f : Factory) {ss : List (StateG XTable)} {ts : List (StateG HTable)}
    (h : SimSts ss ts) (keys : List ECKey) :
    (∀ orc, SimResL (checkWeakECPrivateKeyG listImpl f ss orc keys)
      (checkWeakECPrivateKeyG hashImpl f ts orc keys)) ∧
    (∀ ms maxDiff, SimResL (checkECKeySmallDifferenceG listImpl f ss ms keys maxDiff)
      (checkECKeySmallDifferenceG hashImpl f ts ms keys maxDiff)) := by
  refine ⟨fun orc => ?_, fun ms md => ?_⟩
  · rw [checkWeakECPrivateKeyG, checkWeakECPrivateKeyG, weakKeyLoop_eq_gen, weakKeyLoop_eq_gen]
    exact genLoop_sim keys (weakStep_sim _ keys) f orc _ h
  · rw [checkECKeySmallDifferenceG, checkECKeySmallDifferenceG, smallDiffLoop_eq_gen, smallDiffLoop_eq_gen]
    exact genLoop_sim keys (diffStepE_sim md keys) f ms _ h

end Paranoid.Bsgs
