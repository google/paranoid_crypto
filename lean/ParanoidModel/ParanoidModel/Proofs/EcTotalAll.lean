/-
Proofs/EcTotalAll.lean — the entry-point models `checkAllECFull` / `checkAllECDSASigsFull` are total
on ARBITRARY coordinates and issuer keys, for every `ExtendedBatchDL` bound and without the
hypothesis `FieldPrimes` (`fieldPrimes`, Proofs/EcAllPrimes.lean).

`ECWF'` / `SigWF'` are `ECWF` / `SigWF` of Proofs/EcAll.lean WITHOUT the clauses
  * `points`  (every key on a known curve is on the curve and reduced),
  * `states` / `tables` reachable (`StatesOK`: replaced by "one `_table` state per curve object"),
  * `inner`'s `points` (valid issuer keys).
What remains are conditions on ORACLES only (float values `≥ 1`, `set` orders are enumerations),
on the curve objects (those of `CURVE_FACTORY`), and — for the nonce checks — `gcd(s, n) = 1`.
-/
import ParanoidModel.Proofs.EcAll
import ParanoidModel.Proofs.EcTotal
import ParanoidModel.Proofs.EcTotalSolver
import ParanoidModel.Proofs.EcAllPrimes
namespace Paranoid.EcAll
open Paranoid Paranoid.Ec Paranoid.Bsgs

/-- Well-formed `CheckAllEC` call WITHOUT any condition on the keys or on the cached tables: one
`_table` state per `CURVE_FACTORY` item (whatever it contains), float oracles `≥ 1` where a table is
(re)built. -/
structure ECWF' (p : EcParams) (o : EcOracle) (sts : List EcState) (arts : List Artifact) : Prop where
  len : sts.length = ecFactory.length
  wk : List.Forall₂ (fun (e : FEntry) (x : Nat × Nat) =>
    groupPoints e.id (arts.map keyOf) ≠ [] → 1 ≤ x.1 ∧ 1 ≤ x.2) ecFactory o.wk
  sd : List.Forall₂ (fun (_ : FEntry) (m : Nat) => 0 < p.maxDiff → 1 ≤ m) ecFactory o.sd

theorem statesOK_length {f : Factory} {sts : List EcState} (h : StatesOK f sts) :
    sts.length = f.length := (statesOK_iff.mp h).length_eq.symm

theorem ECWF.weaken {p : EcParams} {o : EcOracle} {sts : List EcState} {arts : List Artifact}
    (h : ECWF p o sts arts) : ECWF' p o sts arts := ⟨statesOK_length h.states, h.wk, h.sd⟩

/-- the four registered EC checks never raise and agree with the bookkeeping layer about which keys
get an entry: ANY keys, ANY `_table` states, ANY bound and `max_diff`. -/
theorem ecRowsG_total_any (p : EcParams) (o : EcOracle) (sts : List EcState) (arts : List Artifact)
    (hwf : ECWF' p o sts arts) :
    ∃ rows sts', ecRowsG listImpl p o sts arts = .ok (rows, sts') ∧ sts'.length = ecFactory.length := by
  obtain ⟨row3, sts3, h3, l3, s3⟩ := checkWeakECPrivateKeyB_total_any p.bound ecFactory ecFactory_curveHyp
    ecFactory_nodup sts hwf.len o.wk (arts.map keyOf) hwf.wk
  obtain ⟨row4, sts4, h4, l4, s4⟩ := checkECKeySmallDifference_total_any p.maxDiff ecFactory
    ecFactory_curveHyp ecFactory_nodup sts3 l3 o.sd (arts.map keyOf) hwf.sd
  exact ⟨_, sts4, ecRowsG_of_shape h3 s3 h4 s4, l4⟩

/-- Well-formed `CheckAllECDSASigs` call WITHOUT any condition on the issuer keys or on the cached
tables: valid curve objects that are those of `CURVE_FACTORY` up to `_cache`; one `_table` state per
`CURVE_FACTORY` item; `list(set)` order oracles that are enumerations; `s` invertible modulo the
curve order for signatures with a known curve; float oracles of the inner `CheckAllEC` `≥ 1`. -/
structure SigWF' (p : EcParams) (O : SigOracle) (st : SigState XTable) (sarts : List SigArt) : Prop where
  factory : EcdsaChecks.FactoryOK st.factory
  curves : curvesOf st.factory = curvesOf EcdsaChecks.namedFactory
  tables : st.tables.length = ecFactory.length
  uniq : ∀ j c k, ecdsaAll[j]? = some c → kindOfName c.name = some k →
    EcdsaChecks.UniqConsistent (O.solver j) (sarts.map SigArt.sig) EcdsaChecks.namedFactory
  sInv : ∀ sa ∈ sarts, ∀ obj, (sa.sig.curve, some obj) ∈ EcdsaChecks.namedFactory →
    Int.gcd (bytes2int sa.sig.s : Int) obj.curve.n = 1
  innerWk : ∀ j c, ecdsaAll[j]? = some c → c.issuer = true →
    List.Forall₂ (fun (e : FEntry) (x : Nat × Nat) =>
      groupPoints e.id ((issuerKeys .repaired (sarts.map SigArt.art)).map keyOf) ≠ [] →
        1 ≤ x.1 ∧ 1 ≤ x.2) ecFactory (O.floats j).wk
  innerSd : ∀ j c, ecdsaAll[j]? = some c → c.issuer = true →
    List.Forall₂ (fun (_ : FEntry) (m : Nat) => 0 < p.maxDiff → 1 ≤ m) ecFactory (O.floats j).sd

theorem SigWF.weaken {p : EcParams} {O : SigOracle} {st : SigState XTable} {sarts : List SigArt}
    (h : SigWF p O st sarts) : SigWF' p O st sarts :=
  ⟨h.factory, h.curves, statesOK_length h.tables, h.uniq, h.sInv,
   fun j c hj hi => (h.inner j c hj hi st.tables h.tables).wk,
   fun j c hj hi => (h.inner j c hj hi st.tables h.tables).sd⟩

/-- the part of `SigWF'` that is an invariant of the curve objects. -/
def TotInv' (st : SigState XTable) : Prop :=
  EcdsaChecks.FactoryOK st.factory ∧ curvesOf st.factory = curvesOf EcdsaChecks.namedFactory ∧
  st.tables.length = ecFactory.length

/-- a nonce-check step IS a successful run of the check model `EcdsaChecks.check` from the curve
objects `st.factory`; its recorded solver calls are those of that run. -/
def StepFrom (O : SigOracle) (sigs : List EcdsaChecks.Sig) (c : CheckSpec) (j : Nat)
    (st : SigState XTable) (out : StepOut) : Prop :=
  ∀ writes calls, out = .direct writes calls → ∃ k res, kindOfName c.name = some k ∧
    EcdsaChecks.check k (O.solver j) st.factory sigs = .ok res ∧ calls = res.calls

theorem runSigStepG_total_any {p : EcParams} {O : SigOracle}
    {st0 : SigState XTable} {sarts : List SigArt} (hwf : SigWF' p O st0 sarts)
    (j : Nat) (c : CheckSpec) (hj : ecdsaAll[j]? = some c) (st : SigState XTable) (hi : TotInv' st) :
    ∃ out st', runSigStepG listImpl p O (sarts.map SigArt.art) (sarts.map SigArt.sig) c j st =
      .ok (out, st') ∧ TotInv' st' ∧ StepFrom O (sarts.map SigArt.sig) c j st out := by
  obtain ⟨hF, hcur, htab⟩ := hi
  have hmem := List.mem_of_getElem? hj
  cases hiss : c.issuer with
  | true =>
    obtain ⟨hname, _⟩ := (ecdsaAll_flags c hmem).2 hiss
    obtain ⟨rows, sts', hrows, hst'⟩ := ecRowsG_total_any p (O.floats j) st.tables
      (issuerKeys .repaired (sarts.map SigArt.art))
      ⟨htab, hwf.innerWk j c hj hiss, hwf.innerSd j c hj hiss⟩
    refine ⟨.inner rows, ⟨sts', st.factory⟩, ?_, ⟨hF, hcur, hst'⟩, fun _ _ h => by cases h⟩
    unfold runSigStepG
    rw [if_pos hname, if_pos hiss, hrows]
  | false =>
    obtain ⟨k, res, hk, hres, hrun, hF', hcur'⟩ := nonceStep_total (p := p) hj hiss hF hcur
      (fun k hk => hwf.uniq j c k hj hk) hwf.sInv
    exact ⟨_, _, hrun, ⟨hF', hcur', htab⟩, fun _ _ h => by cases h; exact ⟨k, res, hk, hres, rfl⟩⟩

theorem sigStepsG_total_any {p : EcParams} {O : SigOracle}
    {st0 : SigState XTable} {sarts : List SigArt} (hwf : SigWF' p O st0 sarts) :
    ∀ (l : List (CheckSpec × Nat)), (∀ cj ∈ l, ecdsaAll[cj.2]? = some cj.1) →
    ∀ (st : SigState XTable), TotInv' st →
    ∃ outs st', sigStepsG listImpl p O (sarts.map SigArt.art) (sarts.map SigArt.sig) l st =
      .ok (outs, st') ∧ TotInv' st' ∧
      List.Forall₂ (fun (cj : CheckSpec × Nat) out => ∃ sti, TotInv' sti ∧
        StepFrom O (sarts.map SigArt.sig) cj.1 cj.2 sti out) l outs :=
  fun l hl => sigStepsG_of_step l fun cj hcj sti hsti =>
    runSigStepG_total_any hwf cj.2 cj.1 (hl cj hcj) sti hsti

/-! ### the nonce checks composed with the solver models, at the entry point -/

/-- the orders of the nine named curves are odd primes (kernel-checked Pratt certificates). -/
theorem named_orders : ∀ cid obj, (cid, some obj) ∈ EcdsaChecks.namedFactory →
    obj.curve.n.Prime ∧ obj.curve.n ≠ 2 := by
  intro cid obj hm
  obtain ⟨c, hc, rfl⟩ := namedFactory_objs hm
  obtain ⟨_, _, hn, hodd⟩ := named_facts c hc
  exact ⟨hn, fun h2 => by rw [h2] at hodd; cases hodd⟩

/-- Well-formed `CheckAllECDSASigs` call in the PROPERTY's terms: `SigWF'` with "`s` invertible"
replaced by `r, s ∈ [1, n-1]` for every signature whose curve id is known. Nothing about the hash,
nothing about the issuer key. -/
structure SigWFR (p : EcParams) (O : SigOracle) (st : SigState XTable) (sarts : List SigArt) : Prop where
  factory : EcdsaChecks.FactoryOK st.factory
  curves : curvesOf st.factory = curvesOf EcdsaChecks.namedFactory
  tables : st.tables.length = ecFactory.length
  uniq : ∀ j c k, ecdsaAll[j]? = some c → kindOfName c.name = some k →
    EcdsaChecks.UniqConsistent (O.solver j) (sarts.map SigArt.sig) EcdsaChecks.namedFactory
  range : ∀ sa ∈ sarts, ∀ obj, (sa.sig.curve, some obj) ∈ EcdsaChecks.namedFactory →
    EcdsaChecks.SigRange obj.curve.n sa.sig
  innerWk : ∀ j c, ecdsaAll[j]? = some c → c.issuer = true →
    List.Forall₂ (fun (e : FEntry) (x : Nat × Nat) =>
      groupPoints e.id ((issuerKeys .repaired (sarts.map SigArt.art)).map keyOf) ≠ [] →
        1 ≤ x.1 ∧ 1 ≤ x.2) ecFactory (O.floats j).wk
  innerSd : ∀ j c, ecdsaAll[j]? = some c → c.issuer = true →
    List.Forall₂ (fun (_ : FEntry) (m : Nat) => 0 < p.maxDiff → 1 ≤ m) ecFactory (O.floats j).sd

theorem SigWFR.toWF' {p : EcParams} {O : SigOracle} {st : SigState XTable} {sarts : List SigArt}
    (h : SigWFR p O st sarts) : SigWF' p O st sarts :=
  ⟨h.factory, h.curves, h.tables, h.uniq,
   fun sa hsa obj hobj => by
     obtain ⟨_, _, h1, h2⟩ := h.range sa hsa obj hobj
     exact C02S.wf_of_range _ (named_orders _ obj hobj).1 _ h1 h2,
   h.innerWk, h.innerSd⟩

theorem factoryN_curvesOf : ∀ {f g : EcdsaChecks.Factory}, curvesOf f = curvesOf g →
    EcdsaChecks.factoryN f = EcdsaChecks.factoryN g
  | [], [], _ => rfl
  | [], _ :: _, h => by simp [curvesOf] at h
  | _ :: _, [], h => by simp [curvesOf] at h
  | (c1, o1) :: f, (c2, o2) :: g, h => by
    simp only [curvesOf, List.map_cons, List.cons.injEq, Prod.mk.injEq] at h
    obtain ⟨⟨rfl, ho⟩, hrest⟩ := h
    have ih := factoryN_curvesOf (f := f) (g := g) hrest
    funext cid
    simp only [EcdsaChecks.factoryN, ih]
    have : o1.map (fun obj => obj.curve.n) = o2.map (fun obj => obj.curve.n) := by
      cases o1 <;> cases o2 <;> simp_all
    rw [this]

def kindOKb : EcdsaChecks.Kind → Bool
  | .biased (.bias b) => (EcdsaChecks.biasOfNat b).isSome
  | .biased (.lcg _ flags) => !(EcdsaChecks.flagsOfNat flags).none
  | .cr50 => true

theorem kindOK_of_b {k : EcdsaChecks.Kind} (h : kindOKb k = true) : EcdsaChecks.KindOK k := by
  cases k with
  | cr50 => trivial
  | biased m =>
    cases m with
    | bias b => exact h
    | lcg name flags =>
      simp only [kindOKb, Bool.not_eq_true'] at h
      exact h

/-- the constructor arguments of the seven registered nonce checks are enum members. -/
theorem ecdsaAll_kindOK : ∀ c ∈ ecdsaAll, ∀ k, kindOfName c.name = some k → EcdsaChecks.KindOK k := by
  have h : ∀ c ∈ ecdsaAll, (match kindOfName c.name with
      | some k => kindOKb k
      | none => true) = true := by
    decide +kernel
  intro c hc k hk
  have := h c hc
  rw [hk] at this
  exact kindOK_of_b this

/-- every solver call recorded by a nonce-check step that started from curve objects satisfying the
invariant has well-formed arguments, hence the solver MODEL returns on it. -/
theorem step_calls_solved {p : EcParams} {O : SigOracle} {st0 : SigState XTable}
    {sarts : List SigArt} (hwf : SigWFR p O st0 sarts) (lcg : List LcgMeta)
    (hlcg : ∀ m ∈ lcg, Hnp.MetaOk m) (S : EcdsaChecks.SolverOracle)
    (hS : ∀ cid j kk, EcdsaChecks.LllShape (S cid j kk))
    (j : Nat) (c : CheckSpec) (hj : ecdsaAll[j]? = some c) (sti : SigState XTable)
    (hi : TotInv' sti) (out : StepOut) (hstep : StepFrom O (sarts.map SigArt.sig) c j sti out)
    (writes : List (Nat × Verdict)) (calls : List (Nat × List (List EcdsaChecks.Call)))
    (hout : out = .direct writes calls) :
    ∃ a, EcdsaChecks.solveAll (EcdsaChecks.envOf lcg EcdsaChecks.namedFactory) S calls = .ok a := by
  obtain ⟨hF, hcur, _⟩ := hi
  obtain ⟨k, res, hk, hres, rfl⟩ := hstep writes calls hout
  have hnd : (sti.factory.map Prod.fst).Nodup := by
    rw [curvesOf_ids hcur]; exact C02S.namedFactory_ids.1
  have hwfc := EcdsaChecks.check_calls_wf (EcdsaChecks.envOf lcg EcdsaChecks.namedFactory) k
    (ecdsaAll_kindOK c (List.mem_of_getElem? hj) k hk) (O.solver j) sti.factory _ res hres
    (fun cid obj hm => by
      obtain ⟨obj0, hm0, hc0⟩ := curvesOf_mem hcur hm
      have := named_orders cid obj0 hm0
      rw [hc0] at this
      refine ⟨this.1, this.2, ?_⟩
      show EcdsaChecks.factoryN EcdsaChecks.namedFactory cid = _
      rw [← factoryN_curvesOf hcur]
      exact EcdsaChecks.factoryN_of_mem hnd hm)
    (uniqConsistent_of_curves hcur (hwf.uniq j c k hj hk))
    (fun s hs obj hm => by
      obtain ⟨sa, hsa, rfl⟩ := List.mem_map.mp hs
      obtain ⟨obj0, hm0, hc0⟩ := curvesOf_mem hcur hm
      rw [← hc0]
      exact hwf.range sa hsa obj0 hm0)
  exact EcdsaChecks.solveAll_total _ hlcg S hS res.calls hwfc

end Paranoid.EcAll
