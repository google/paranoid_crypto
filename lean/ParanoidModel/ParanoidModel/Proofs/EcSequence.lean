/-
Proofs/EcSequence.lean — PointSequence(base, n)[i] = i • base.
-/
import ParanoidModel.Proofs.EcBatchJ
import ParanoidModel.Proofs.EcJacobian
namespace Paranoid.Ec
open Paranoid WeierstrassCurve
variable (c : Curve) [hp : Fact (Nat.Prime c.p)]

/-- coordinates in `[0, p)` (or the point at infinity). -/
def Reduced : Pt → Prop
  | .inf => True
  | .aff x y => 0 ≤ x ∧ x < c.p ∧ 0 ≤ y ∧ y < c.p

theorem reduced_red (u v : Int) : Reduced c (.aff (c.red u) (c.red v)) :=
  have hpos : 0 < c.p := hp.out.pos
  ⟨red_nonneg c hpos _, red_lt c hpos _, red_nonneg c hpos _, red_lt c hpos _⟩

theorem JRep.not000 {P : JPt} {A : (W c).Point} (h : JRep c P A) : ¬(P.x = 0 ∧ P.y = 0 ∧ P.z = 0) := by
  rcases h with ⟨_, h, _⟩ | ⟨h, _⟩
  · exact fun h' => h ⟨h'.1, h'.2.1⟩
  · intro h'; rw [h'.2.2] at h; exact h (by simp)

theorem jToAffine_reduced {P : JPt} {R : Pt} (h : jToAffine c P = .ok R) : Reduced c R := by
  unfold jToAffine at h
  split at h
  · split at h
    · cases h
    · cases h; trivial
  · split at h
    · cases h
    · cases h
      exact reduced_red c _ _

theorem batchJToAffine_rep {α} {φ : α → (W c).Point} {js : List JPt} {is : List α}
    (h : List.Forall₂ (fun J i => JRep c J (φ i)) js is) :
    ∃ rs, batchJToAffine c js = .ok rs ∧
      List.Forall₂ (fun R i => onCurve c R = true ∧ toPoint c R = φ i ∧ Reduced c R) rs is := by
  rw [batchJToAffine_eq_map c js (by
    intro P hP
    obtain ⟨i, _, hi⟩ := forall₂_mem_left h hP
    exact hi.not000 c)]
  refine mapE_forall₂ h fun J i hJ => ?_
  obtain ⟨R, hR1, hR2, hR3⟩ := jToAffine_refines c hJ
  exact ⟨R, hR1, hR2, hR3, jToAffine_reduced c hR1⟩


theorem pointSeqJ_spec (hc : c.Good) {baseJ : JPt} {B : (W c).Point} (hb : JRep c baseJ B) :
    ∀ (cnt : Nat) (prev : JPt) (a : Nat), JRep c prev (a • B) →
    List.Forall₂ (fun J (i : Nat) => JRep c J (i • B)) (pointSeqJ c baseJ cnt prev)
      (List.range' (a + 1) cnt)
  | 0, _, _, _ => .nil
  | cnt + 1, prev, a, hprev => by
    rw [pointSeqJ, List.range'_succ]
    have h1 : JRep c (addJ c prev baseJ) ((a + 1) • B) := by
      rw [succ_nsmul]; exact addJ_refines c hc hprev hb
    exact .cons h1 (pointSeqJ_spec hc hb cnt _ (a + 1) h1)

/-- **PointSequence**: `PointSequence(base, n)[i] = i • base` for `i < n` (`n ≥ 1`; `n = 0` raises
IndexError), every entry reduced. -/
theorem pointSequence_spec (hc : c.Good) (base : Pt) (hbase : onCurve c base = true) (n : Nat)
    (hn : 0 < n) :
    ∃ rs, pointSequence c base n = .ok rs ∧
      List.Forall₂ (fun R (i : Nat) => onCurve c R = true ∧ toPoint c R = i • toPoint c base ∧ Reduced c R)
        rs (List.range n) := by
  obtain ⟨k, rfl⟩ := Nat.exists_eq_succ_of_ne_zero (by omega : n ≠ 0)
  rw [pointSequence, List.range_eq_range', List.range'_succ]
  have hb := jrep_affineToJ c hc base hbase
  have h0 : JRep c infJ ((0 : Nat) • toPoint c base) := by rw [zero_nsmul]; exact jrep_infJ c
  exact batchJToAffine_rep c (φ := fun i : Nat => i • toPoint c base)
    (.cons h0 (pointSeqJ_spec c hc hb k infJ 0 h0))

omit hp in
theorem pointSequence_zero (base : Pt) : pointSequence c base 0 = .error .indexError := rfl

end Paranoid.Ec
