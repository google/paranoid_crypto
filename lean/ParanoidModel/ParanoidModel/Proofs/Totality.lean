/-
Proofs/Totality.lean — the RSA single checks never raise on well-formed keys (C18).
-/
import ParanoidModel.Proofs.RsaChecks

namespace Paranoid

theorem cfCheckLoop_ok (n x bound : Nat) (hx : x ≠ 0) (l : List (Nat × Nat × Nat)) :
    ∃ r, cfCheckLoop n x bound l = .ok r := by
  rcases cfCheckLoop_cases n x bound hx l with ⟨h, _⟩ | ⟨fs, h, _⟩ <;> exact ⟨_, h⟩

/-- the LLL oracle is well-formed: every returned row has at least two entries. -/
def RedWF (red : Nat → List (List Int)) : Prop := ∀ d, ∀ row ∈ red d, 2 ≤ row.length

theorem checkFractionLoop_ok (n w : Nat) : ∀ (basis : List (List Int)),
    (∀ row ∈ basis, 2 ≤ row.length) → ∃ r, checkFractionLoop n w basis = .ok r
  | [], _ => ⟨_, rfl⟩
  | row :: rest, h => by
    have hrow := h row (List.mem_cons_self ..)
    match row, hrow with
    | a :: b :: tl, _ =>
      unfold checkFractionLoop
      simp only
      split
      · exact ⟨_, rfl⟩
      · exact checkFractionLoop_ok n w rest (fun r hr => h r (List.mem_cons_of_mem _ hr))

theorem tryDenominators_ok (n : Nat) (red : Nat → List (List Int)) (hred : RedWF red) (ds : List Nat) :
    ∃ v, tryDenominators n red ds = .ok v := by
  rcases tryDenominators_cases n red ds with ⟨_, hp⟩ | ⟨_, d, _, _, _, ⟨e, hd, _⟩ | ⟨_, _, _, hr⟩⟩
  · exact ⟨_, hp⟩
  · obtain ⟨r, hr⟩ := checkFractionLoop_ok n (2 ^ (bitLength n / 2)) (red d) (hred d)
    rw [checkFraction, hr] at hd; cases hd
  · exact ⟨_, hr⟩

theorem factorWithGuess_ok (n p0 cbrt : Nat) (hp : p0 ≠ 0) : ∃ r, factorWithGuess n p0 cbrt = .ok r := by
  unfold factorWithGuess
  rw [if_neg hp]
  exact ⟨_, rfl⟩

theorem sudGuess_pos (n diff : Nat) (hn : 0 < n) : sudGuess n diff ≠ 0 := by
  unfold sudGuess isqrt
  have : 0 < Nat.sqrt (n + (diff / 2) ^ 2) := Nat.sqrt_pos.mpr (by omega)
  omega

theorem sudLoop_ok (n cbrt : Nat) (hn : 0 < n) : ∀ (l : List Nat), ∃ r, sudLoop n cbrt l = .ok r
  | [] => ⟨_, rfl⟩
  | d :: rest => by
    unfold sudLoop
    obtain ⟨r, h⟩ := factorWithGuess_ok n (sudGuess n d) cbrt (sudGuess_pos n d hn)
    simp only [bind, Except.bind, h]
    split
    · exact ⟨_, rfl⟩
    · exact sudLoop_ok n cbrt hn rest

theorem unseededLoop_ok (n cbrt : Nat) : ∀ (l : List Nat), (∀ c ∈ l, c ≠ 0) →
    ∃ v, unseededLoop n cbrt l = .ok v
  | [], _ => ⟨_, rfl⟩
  | c :: rest, h => by
    unfold unseededLoop
    obtain ⟨r, hr⟩ := factorWithGuess_ok n c cbrt (h c (List.mem_cons_self ..))
    rw [hr]
    split
    · simp at *
    · exact ⟨_, rfl⟩
    · exact unseededLoop_ok n cbrt rest (fun c hc => h c (List.mem_cons_of_mem _ hc))

end Paranoid
