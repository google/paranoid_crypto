/-
Proofs/EcNat.lean — `EcCurve.Multiply` in a form the kernel evaluates several times faster.

The kernel multiplies and reduces `Nat` literals with GMP in one step, while every `Int` operation of
the model is unfolded through its constructors. `mulJN` is the Jacobian ladder `mulJLoop` with each
`(u - v) % p` written as `(u + (p - v % p)) % p`; it is proved equal to the model's loop once
(`mulJLoop_nat`). `multiplyF` takes that path when point and scalar are non-negative and `0 < p` and is
`multiply` otherwise, so `multiply = multiplyF` holds without hypothesis (`multiply_eq_fast`) and a
kernel-evaluated run may be rewritten with it first.
-/
import ParanoidModel.Proofs.Ec
namespace Paranoid.Ec
open Paranoid

structure NJ where
  x : Nat
  y : Nat
  z : Nat

def NJ.toJ (P : NJ) : JPt := ⟨P.x, P.y, P.z⟩

/-! The functions below are spelt with `Nat.mul`, `Nat.mod`, `Nat.beq`, … applied directly and take
triples apart by pattern matching: `a * b % p` costs the kernel three or four instance unfoldings
before its GMP shortcut applies, an `if` on a decidable proposition goes through `Nat.decEq`, and
together that doubles the cost of a round of the ladder. -/

def mulM (p a b : Nat) : Nat := Nat.mod (Nat.mul a b) p

/-- `-v mod p`. -/
def negM (p v : Nat) : Nat := Nat.sub p (Nat.mod v p)

variable (c : Curve)

/-- `a mod p`. -/
def aN : Nat := (c.a % (c.p : Int)).toNat

def doubleJMN (x zsqr : Nat) : Nat :=
  if c.a = -3 then mulM c.p (Nat.mul 3 (Nat.add x zsqr)) (Nat.add x (negM c.p zsqr))
  else Nat.mod (Nat.add (Nat.mul (Nat.mul 3 x) x) (Nat.mul (Nat.mul (aN c) zsqr) zsqr)) c.p

def doubleJOutN (y z ysqr s m : Nat) : NJ :=
  ⟨Nat.mod (Nat.add (Nat.mul m m) (negM c.p (Nat.mul 2 s))) c.p,
   Nat.mod (Nat.add
      (Nat.mul m (Nat.add s (negM c.p (Nat.mod (Nat.add (Nat.mul m m) (negM c.p (Nat.mul 2 s))) c.p))))
      (negM c.p (Nat.mul (Nat.mul 8 ysqr) ysqr))) c.p,
   mulM c.p (Nat.mul 2 y) z⟩

def doubleJN : NJ → NJ
  | ⟨x, y, z⟩ =>
    bif Nat.beq z 0 || Nat.beq y 0 then ⟨1, 1, 0⟩
    else doubleJOutN c y z (mulM c.p y y) (mulM c.p (Nat.mul 4 x) (mulM c.p y y))
      (doubleJMN c x (mulM c.p z z))

def addJOutN (z1 z2 u1 s1 h r : Nat) : NJ :=
  ⟨Nat.mod (Nat.add (Nat.add (Nat.mul r r) (negM c.p (mulM c.p (mulM c.p h h) h)))
      (negM c.p (Nat.mul 2 (mulM c.p u1 (mulM c.p h h))))) c.p,
   Nat.mod (Nat.add
      (Nat.mul r (Nat.add (mulM c.p u1 (mulM c.p h h)) (negM c.p
        (Nat.mod (Nat.add (Nat.add (Nat.mul r r) (negM c.p (mulM c.p (mulM c.p h h) h)))
          (negM c.p (Nat.mul 2 (mulM c.p u1 (mulM c.p h h))))) c.p))))
      (negM c.p (Nat.mul s1 (mulM c.p (mulM c.p h h) h)))) c.p,
   mulM c.p (Nat.mul h z1) z2⟩

def addJCoreN (P : NJ) (z1 z2 u1 u2 s1 s2 : Nat) : NJ :=
  bif Nat.beq u1 u2 then
    bif Nat.beq s1 s2 then doubleJN c P else ⟨1, 1, 0⟩
  else addJOutN c z1 z2 u1 s1 (Nat.add u2 (negM c.p u1)) (Nat.add s2 (negM c.p s1))

def addJN : NJ → NJ → NJ
  | ⟨x1, y1, z1⟩, ⟨x2, y2, z2⟩ =>
    bif Nat.beq z1 0 then ⟨x2, y2, z2⟩
    else bif Nat.beq z2 0 then ⟨x1, y1, z1⟩
    else addJCoreN c ⟨x1, y1, z1⟩ z1 z2
      (mulM c.p x1 (mulM c.p z2 z2)) (mulM c.p x2 (mulM c.p z1 z1))
      (mulM c.p (Nat.mul y1 z2) (mulM c.p z2 z2)) (mulM c.p (Nat.mul y2 z1) (mulM c.p z1 z1))

def mulJN : Nat → Nat → NJ → NJ → NJ
  | 0, _, res, _ => res
  | fuel + 1, n, res, pj =>
    bif Nat.beq n 0 then res
    else mulJN fuel (Nat.div n 2) (bif Nat.beq (Nat.mod n 2) 1 then addJN c res pj else res)
      (doubleJN c pj)

/-- `multiply`, through the ladder on natural numbers where that applies. -/
def multiplyF (P : Pt) (k : Int) : Except PyErr Pt :=
  match P, k with
  | .aff (.ofNat x) (.ofNat y), .ofNat n =>
    if 0 < c.p then
      if n = 1 then .ok (.aff x y)
      else jToAffine c (mulJN c (bitLength n) n ⟨1, 1, 0⟩ ⟨x, y, 1⟩).toJ
    else multiply c P k
  | _, _ => multiply c P k

theorem natMod_eq (a b : Nat) : Nat.mod a b = a % b := rfl
theorem natDiv_eq (a b : Nat) : Nat.div a b = a / b := rfl
theorem mulM_eq (p a b : Nat) : mulM p a b = a * b % p := rfl
theorem negM_eq (p v : Nat) : negM p v = p - v % p := rfl
theorem natBeq_eq (a b : Nat) : Nat.beq a b = decide (a = b) := by
  cases h : Nat.beq a b
  · exact (decide_eq_false (Nat.ne_of_beq_eq_false h)).symm
  · exact (decide_eq_true (Nat.eq_of_beq_eq_true h)).symm

variable (hp : 0 < c.p)
include hp

theorem cast_negM (v : Nat) : ((negM c.p v : Nat) : ZMod c.p) = -(v : ZMod c.p) := by
  rw [negM_eq, Nat.cast_sub (Nat.mod_lt v hp).le, ZMod.natCast_self, ZMod.natCast_mod, zero_sub]

theorem cast_aN : ((aN c : Nat) : ZMod c.p) = (c.a : ZMod c.p) := by
  rw [← Int.cast_natCast, aN, Int.toNat_of_nonneg (Int.emod_nonneg _ (by omega)), ZMod.intCast_mod]

omit hp in
/-- a reduction of the model is the remainder of any natural number in the same residue class. -/
theorem red_eq_natMod {E : Int} {E' : Nat} (h : (E : ZMod c.p) = (E' : ZMod c.p)) :
    c.red E = ((E' % c.p : Nat) : Int) := by
  rw [Curve.red, Int.natCast_mod]
  exact (ZMod.intCast_eq_intCast_iff' _ _ _).mp (by rw [h, Int.cast_natCast])

theorem doubleJM_nat (x zsqr : Nat) : doubleJM c x zsqr = (doubleJMN c x zsqr : Nat) := by
  unfold doubleJM doubleJMN
  simp only [mulM_eq, Nat.mul_eq, Nat.add_eq, natMod_eq]
  split <;>
  · refine red_eq_natMod c ?_
    push_cast [cast_negM c hp, cast_aN c hp]
    ring

theorem doubleJOut_nat (y z ysqr s m : Nat) :
    doubleJOut c y z ysqr s m = (doubleJOutN c y z ysqr s m).toJ := by
  simp only [doubleJOut, doubleJOutN, NJ.toJ, JPt.mk.injEq, mulM_eq, Nat.mul_eq, Nat.add_eq, natMod_eq]
  refine ⟨?_, ?_, ?_⟩ <;>
  · refine red_eq_natMod c ?_
    push_cast [cast_red, cast_negM c hp, ZMod.natCast_mod]
    ring

omit hp in
@[simp] theorem NJ.toJ_x (P : NJ) : P.toJ.x = P.x := rfl
omit hp in
@[simp] theorem NJ.toJ_y (P : NJ) : P.toJ.y = P.y := rfl
omit hp in
@[simp] theorem NJ.toJ_z (P : NJ) : P.toJ.z = P.z := rfl

theorem doubleJ_nat (P : NJ) : doubleJ c P.toJ = (doubleJN c P).toJ := by
  obtain ⟨x, y, z⟩ := P
  unfold doubleJ doubleJN
  simp only [NJ.toJ_x, NJ.toJ_y, NJ.toJ_z, Int.natCast_eq_zero, natBeq_eq, ← Bool.decide_or,
    Bool.cond_decide, mulM_eq, Nat.mul_eq]
  split
  · rfl
  · rw [← doubleJOut_nat c hp, ← doubleJM_nat c hp]
    simp only [Curve.red]
    norm_cast

theorem addJOut_nat (z1 z2 u1 s1 : Nat) {h r : Int} {h' r' : Nat}
    (hh : (h : ZMod c.p) = (h' : ZMod c.p)) (hr : (r : ZMod c.p) = (r' : ZMod c.p)) :
    addJOut c z1 z2 u1 s1 h r = (addJOutN c z1 z2 u1 s1 h' r').toJ := by
  simp only [addJOut, addJOutN, NJ.toJ, JPt.mk.injEq, mulM_eq, Nat.mul_eq, Nat.add_eq, natMod_eq]
  refine ⟨?_, ?_, ?_⟩ <;>
  · refine red_eq_natMod c ?_
    push_cast [cast_red, cast_negM c hp, ZMod.natCast_mod, hh, hr]
    ring

theorem addJCore_nat (P : NJ) (z1 z2 u1 u2 s1 s2 : Nat) :
    addJCore c P.toJ z1 z2 u1 u2 s1 s2 = (addJCoreN c P z1 z2 u1 u2 s1 s2).toJ := by
  unfold addJCore addJCoreN
  simp only [Int.natCast_inj, ne_eq, natBeq_eq, Bool.cond_decide, Nat.add_eq]
  by_cases hu : u1 = u2
  · rw [if_pos hu, if_pos hu]
    by_cases hs : s1 = s2
    · rw [if_neg (not_not.mpr hs), if_pos hs]; exact doubleJ_nat c hp P
    · rw [if_pos hs, if_neg hs]; rfl
  · rw [if_neg hu, if_neg hu]
    refine addJOut_nat c hp _ _ _ _ ?_ ?_ <;>
    · push_cast [cast_red, cast_negM c hp]
      ring

theorem addJ_nat (P Q : NJ) : addJ c P.toJ Q.toJ = (addJN c P Q).toJ := by
  obtain ⟨x1, y1, z1⟩ := P
  obtain ⟨x2, y2, z2⟩ := Q
  unfold addJ addJN
  simp only [NJ.toJ_x, NJ.toJ_y, NJ.toJ_z, Int.natCast_eq_zero, natBeq_eq, Bool.cond_decide,
    mulM_eq, Nat.mul_eq]
  by_cases h1 : z1 = 0
  · rw [if_pos h1, if_pos h1]
  by_cases h2 : z2 = 0
  · rw [if_neg h1, if_neg h1, if_pos h2, if_pos h2]
  rw [if_neg h1, if_neg h1, if_neg h2, if_neg h2, ← addJCore_nat c hp]
  simp only [Curve.red, NJ.toJ]
  norm_cast

theorem mulJLoop_nat : ∀ (fuel n : Nat) (R P : NJ),
    mulJLoop c fuel n R.toJ P.toJ = (mulJN c fuel n R P).toJ
  | 0, _, _, _ => rfl
  | fuel + 1, n, R, P => by
    rw [mulJLoop, mulJN]
    simp only [natBeq_eq, Bool.cond_decide, natDiv_eq, natMod_eq]
    split
    · rfl
    · rw [doubleJ_nat c hp, ← mulJLoop_nat fuel]
      split
      · rw [addJ_nat c hp]
      · rfl

omit hp in
theorem multiply_eq_fast : multiply = multiplyF := by
  funext c P k
  unfold multiplyF
  split
  · rename_i x y n
    split
    · rename_i hp
      simp only [Int.ofNat_eq_natCast]
      rw [multiply, if_neg (Int.not_lt.mpr (Int.natCast_nonneg n)), multiplyNat]
      simp only [Int.natAbs_natCast]
      split
      · rfl
      · rw [← mulJLoop_nat c hp]
        rfl
    · rfl
  · rfl

end Paranoid.Ec
