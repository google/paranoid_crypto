/-
Proofs/CfLarge.lean — a good rational approximation forces a large partial quotient (C05,
continued-fraction clause), and a large partial quotient makes CheckContinuedFraction flag.

`euclid_large_quot`: if `|a·d − c·b| = E > 0` and `(K + 3)·E·d ≤ b + E` then Euclid's algorithm on
`(a, b)` produces a quotient `≥ K`. (Classically: `c/d` is a convergent of `a/b` by Legendre's
criterion and the next partial quotient exceeds `b/(d·E) − 2`; the proof here is a direct induction
on `d` that runs Euclid's algorithm on `(a, b)` and `(c, d)` in parallel — the quotients agree, the
determinant keeps its absolute value `E`, the invariant `(K+3)·E·d ≤ b + E` is preserved — until
`d ∣ c`, where the remainder is `E/d` and the next quotient is about `b·d/E`.)
-/
import ParanoidModel.Proofs.NTheory
import ParanoidModel.Proofs.Factoring
import Mathlib.Tactic.Ring

namespace Paranoid.CfLarge
open Paranoid Paranoid.NT

theorem div_mod_of_eq {a b q r : Nat} (h : a = q * b + r) (hr : r < b) : a / b = q ∧ a % b = r :=
  (Nat.div_mod_unique (by omega)).2 ⟨by rw [h, Nat.mul_comm]; omega, hr⟩

theorem mem_euclidQuots_head (a b : Nat) (hb : b ≠ 0) : a / b ∈ euclidQuots a b := by
  rw [euclidQuots_pos a b hb]; exact List.mem_cons_self

theorem mem_euclidQuots_tail {a b q : Nat} (hb : b ≠ 0) (h : q ∈ euclidQuots b (a % b)) :
    q ∈ euclidQuots a b := by
  rw [euclidQuots_pos a b hb]; exact List.mem_cons_of_mem _ h

/-- One step of Euclid's algorithm on `(a, b)` and on `(c, d)` in parallel. The determinant is
written `a·d + F = c·b + E` so that both signs are instances (`F = 0` or `E = 0`): the quotients
agree, and the remainders satisfy the same equation. `hF` keeps the new remainder of `a` positive,
`hE` keeps it below `b`. -/
theorem euclid_step {a b c d E F : Nat} (hd : 0 < d) (hF : F < c % d * b + E) (hE : E < b + F)
    (h : a * d + F = c * b + E) : a / b = c / d ∧ a % b * d + F = c % d * b + E := by
  have hc : c * b = c / d * b * d + c % d * b := by
    calc c * b = (d * (c / d) + c % d) * b := by rw [Nat.div_add_mod]
      _ = _ := by ring
  have hr : (a - c / d * b) * d + F = c % d * b + E := by rw [Nat.sub_mul]; omega
  have hlt : (a - c / d * b) * d < b * d := by
    have : c % d * b + b ≤ b * d := by
      rw [← Nat.succ_mul, Nat.mul_comm b d]; exact Nat.mul_le_mul_right b (Nat.mod_lt c hd)
    omega
  have hpos : 0 < (a - c / d * b) * d := by omega
  obtain ⟨h1, h2⟩ := div_mod_of_eq (a := a) (q := c / d) (r := a - c / d * b)
    (by have := Nat.pos_of_mul_pos_right hpos; omega) (Nat.lt_of_mul_lt_mul_right hlt)
  exact ⟨h1, h2 ▸ hr⟩

/-- The size invariant survives a step `(b, d) ↦ (r, d')`, whatever the sign of the determinant. -/
theorem size_step {M E b r d d' : Nat} (hd : d' < d) (h : M * d ≤ b + E) (hr : d' * b ≤ r * d + E) :
    M * d' ≤ r + E := by
  apply Nat.le_of_mul_le_mul_right _ (Nat.zero_lt_of_lt hd)
  calc M * d' * d = d' * (M * d) := by ring
    _ ≤ d' * (b + E) := Nat.mul_le_mul_left _ h
    _ = d' * b + d' * E := Nat.mul_add ..
    _ ≤ r * d + (d' + 1) * E := by rw [Nat.succ_mul]; omega
    _ ≤ r * d + d * E := Nat.add_le_add_left (Nat.mul_le_mul_right E hd) _
    _ = (r + E) * d := by ring

/-- `a = q·b + e` with `0 < e` small: quotients `q`, then `b / e ≥ K`. -/
theorem large_quot_above {a b q e K : Nat} (h : a = q * b + e) (he : 0 < e) (hK : 1 ≤ K)
    (hb : K * e + e ≤ b) : ∃ x ∈ euclidQuots a b, K ≤ x := by
  have hKe := Nat.le_mul_of_pos_left e hK
  obtain ⟨-, h2⟩ := div_mod_of_eq h (by omega)
  refine ⟨b / e, mem_euclidQuots_tail (by omega) (h2 ▸ mem_euclidQuots_head b e (by omega)), ?_⟩
  rw [Nat.le_div_iff_mul_le he]
  omega

/-- `a = q·b − e` with `0 < e` small: quotients `q − 1`, `1`, then `(b − e) / e ≥ K`. -/
theorem large_quot_below {a b q e K : Nat} (h : a + e = q * b) (he : 0 < e) (hK : 1 ≤ K)
    (hb : K * e + 2 * e ≤ b) : ∃ x ∈ euclidQuots a b, K ≤ x := by
  obtain ⟨q, rfl⟩ : ∃ q', q = q' + 1 := ⟨q - 1, by
    rcases Nat.eq_zero_or_pos q with h0 | h0
    · rw [h0, Nat.zero_mul] at h; omega
    · omega⟩
  rw [Nat.succ_mul] at h
  obtain ⟨-, h2⟩ := div_mod_of_eq (a := a) (b := b) (q := q) (r := b - e) (by omega) (by omega)
  rw [euclidQuots_pos a b (by omega), h2]
  obtain ⟨x, hx, hK⟩ := large_quot_above (a := b) (b := b - e) (q := 1) (e := e) (K := K)
    (by omega) he hK (by omega)
  exact ⟨x, List.mem_cons_of_mem _ hx, hK⟩

theorem euclid_large_quot : ∀ (d : Nat) (a b c E K : Nat), 0 < d → 0 < E → 1 ≤ K →
    (a * d = c * b + E ∨ a * d + E = c * b) → (K + 3) * E * d ≤ b + E →
    ∃ q ∈ euclidQuots a b, K ≤ q := by
  intro d
  induction d using Nat.strong_induction_on with
  | _ d ih =>
    intro a b c E K hd hE hK hdet hsz
    have hb : K * E + 2 * E ≤ b := by
      have := Nat.le_trans (Nat.le_mul_of_pos_right _ hd) hsz
      rw [Nat.add_mul] at this
      omega
    have hlt := Nat.mod_lt c hd
    -- when `d ∣ c`: `a = (c/d)·b ± e` with `e·d = E`, so `e ≤ E` is small against `b`
    have hterm : ∀ e, e * d = E → 0 < e ∧ K * e + 2 * e ≤ b := fun e he =>
      have heE : e ≤ E := he ▸ Nat.le_mul_of_pos_right _ hd
      ⟨Nat.pos_of_mul_pos_right (he ▸ hE), by have := Nat.mul_le_mul_left K heE; omega⟩
    rcases hdet with h | h
    · obtain ⟨-, h2⟩ := euclid_step (F := 0) hd (by omega) (by omega) h
      rcases Nat.eq_zero_or_pos (c % d) with hz | hpos
      · rw [hz, Nat.zero_mul, Nat.zero_add, Nat.add_zero] at h2
        obtain ⟨he0, heb⟩ := hterm _ h2
        exact large_quot_above (Nat.div_add_mod' a b).symm he0 hK (by omega)
      · obtain ⟨q, hq, hKq⟩ := ih (c % d) hlt b (a % b) d E K hpos hE hK
          (Or.inr (by rw [Nat.mul_comm b, Nat.mul_comm d]; omega))
          (size_step hlt hsz (by omega))
        exact ⟨q, mem_euclidQuots_tail (by omega) hq, hKq⟩
    · rcases Nat.eq_zero_or_pos (c % d) with hz | hpos
      · have hc := Nat.div_add_mod' c d
        rw [hz, Nat.add_zero] at hc
        have hed : (c / d * b - a) * d = E := by
          rw [Nat.sub_mul, Nat.mul_right_comm, hc]; omega
        obtain ⟨he0, heb⟩ := hterm _ hed
        exact large_quot_below (q := c / d) (by omega) he0 hK heb
      · have hbb : b ≤ c % d * b := Nat.le_mul_of_pos_left b hpos
        obtain ⟨-, h2⟩ := euclid_step (E := 0) hd (by omega) (by omega) h
        obtain ⟨q, hq, hKq⟩ := ih (c % d) hlt b (a % b) d E K hpos hE hK
          (Or.inl (by rw [Nat.mul_comm b, Nat.mul_comm d]; omega))
          (size_step hlt hsz (by omega))
        exact ⟨q, mem_euclidQuots_tail (by omega) hq, hKq⟩

theorem euclid_large_quot_abs {a b c d K X : Nat} (hd : 0 < d) (hK : 1 ≤ K)
    (hne : a * d ≠ c * b) (hX : |(a : Int) * d - c * b| ≤ X) (hsz : (K + 3) * X * d ≤ b) :
    ∃ q ∈ euclidQuots a b, K ≤ q := by
  obtain ⟨h1, h2⟩ := abs_le.1 hX
  have hE : ((a : Int) * d - c * b).natAbs ≤ X := by omega
  refine euclid_large_quot d a b c ((a : Int) * d - c * b).natAbs K hd (by omega) hK (by omega) ?_
  exact Nat.le_trans (Nat.mul_le_mul_right d (Nat.mul_le_mul_left _ hE))
    (Nat.le_trans hsz (Nat.le_add_right ..))

theorem odd_mul_ne_mul_two_pow {n d A k : Nat} (hn : n % 2 = 1) (hd : 0 < d) (hdk : d < 2 ^ k) :
    n * d ≠ A * 2 ^ k := by
  intro h
  have hcop : Nat.Coprime (2 ^ k) n :=
    Nat.Coprime.pow_left _ ((Nat.Prime.coprime_iff_not_dvd Nat.prime_two).2 (by omega))
  exact absurd (Nat.le_of_dvd hd (hcop.dvd_of_dvd_mul_left ⟨A, by rw [h, Nat.mul_comm]⟩)) (by omega)

/-- **Large quotient ⇒ flagged.** If Euclid's algorithm on `(n, 2^bitlen n)` has a quotient
`≥ bound`, `CheckContinuedFraction(n, bound)` returns `(False, fs)` for some `fs`. -/
theorem checkContinuedFraction_large (n bound : Nat)
    (h : ∃ q ∈ euclidQuots n (2 ^ bitLength n), bound ≤ q) :
    ∃ fs, checkContinuedFraction n bound = .ok (false, fs) := by
  obtain ⟨q, hq, hb⟩ := h
  rw [← convergents_map_fst (euclidQuots n (2 ^ bitLength n)) 1 0 0 1, ← continuedFraction_eq] at hq
  obtain ⟨e, he, rfl⟩ := List.mem_map.mp hq
  rcases cfCheckLoop_cases n (2 ^ (bitLength n / 2)) bound (by positivity) _ with ⟨_, h2⟩ | ⟨fs, h1, _⟩
  · exact absurd (h2 e he) (by omega)
  · exact ⟨fs, h1⟩

end Paranoid.CfLarge
