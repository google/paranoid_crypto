/-
Proofs/C08ChainCheck.lean — the check layer of `ecdsa_sig_checks.py` (Model/EcdsaChecks.lean) with
its solver oracle INSTANTIATED by the solver models (Model/Hnp.lean, Model/Cr50.lean); helper
lemmas for Props/C08Chain.lean.

 * `solveCall env c lll` — what the solver MODEL returns for a recorded call `c : Call`, given the
   answers `lll` of the `lll.reduce` calls made inside it (`HiddenNumberProblem(a, b, None, n, bias)`,
   `Cr50U2fGuesses(...)`, `HiddenNumberProblemForCurve(...)`);
 * `SolvedGroup` — the check layer's `GroupOracle.answer` of one curve group is, call by call, the
   list the solver model returns (as a set: Python returns `list(set)`);
 * every guess of a solver model is `< n` (hence the value `_IssuerDLogs` records, the LAST key
   guess of `list(guesses)`, is the private key itself and not `d + n`);
 * `chain_core` — if the solver model of ANY call made for the group returns a list containing the
   private key `d < n` of an issuer key tuple, every signature of the batch with that curve and
   key tuple gets the verdict `posVerdict d` (weak, DISCRETE_LOG = format(d, "x"));
 * from signatures to the solver arguments: `HiddenNumberParams` of values signed with `d` satisfy
   `a_i + b_i·d ≡ k_i (mod n)`; the windows of the parameter list are the parameter lists of the
   windows.
-/
import ParanoidModel.Proofs.C08Chain
import ParanoidModel.Proofs.EcdsaChecksEc
import ParanoidModel.Proofs.Forall2
import ParanoidModel.Proofs.EcNat
namespace Paranoid.C08Chain
open Paranoid Paranoid.Hnp Paranoid.Ec Paranoid.EcdsaChecks WeierstrassCurve

/-! ### the solver model behind a recorded call -/

/-- what the check layer does not determine: the float oracle of `GetLattice`, and (LCG checks)
`lcg_constants.CONSTANT_FACTORY` and `CURVE_FACTORY[curve_type].n` as `hnpForCurve` takes them. -/
structure SolverEnv where
  /-- `int(n.bit_length() / len(a) * 1.25)` as a function of `(n, len(a))` -/
  fbOf : Nat → Nat → Nat
  lcgFactory : List LcgMeta
  curveN : Nat → Option (Option Nat)

/-- `hnp.Bias(value)`. -/
def biasOfNat : Nat → Option Bias
  | 1 => some .msb
  | 2 => some .commonPrefix
  | 3 => some .commonPostfix
  | 4 => some .generalized
  | _ => none

/-- `hnp.SearchStrategy(value)`: SINGLE = 1, SLIDING = 2, INCLUDE_KEY = 4. -/
def flagsOfNat (v : Nat) : SearchFlags := ⟨v % 2 == 1, (v / 2) % 2 == 1, (v / 4) % 2 == 1⟩

def natsToInts (l : List Nat) : List Int := l.map (fun (v : Nat) => (v : Int))

theorem mem_natsToInts (z : Int) (l : List Nat) : z ∈ natsToInts l ↔ ∃ g ∈ l, (g : Int) = z := by
  unfold natsToInts; exact List.mem_map

/-- the answers of the `lll.reduce` calls made inside ONE solver call, in call order. -/
abbrev LllAnswers := Nat → List (List Int)

/-- the solver model applied to a recorded call, exactly with the arguments the check passes
(`w = None`). -/
def solveCall (env : SolverEnv) : Call → LllAnswers → Except PyErr (List Nat)
  | .hnp a b n bias, lll =>
    match biasOfNat bias with
    | none => .error .valueError
    | some bs =>
      hiddenNumberProblem (natsToInts a) (natsToInts b) none n bs (env.fbOf n a.length) (lll 0)
  | .cr50 v1 v2 n, lll =>
    cr50Guesses v1.1 v1.2.1 v1.2.2 v2.1 v2.2.1 v2.2.2 n (lll 0)
  | .hnpCurve a b cid name flags, lll =>
    hnpForCurve (natsToInts a) (natsToInts b) cid (env.curveN cid) (some name) (flagsOfNat flags)
      env.lcgFactory lll

/-- the solver oracle of one curve group IS the solver model: for every issuer `j` of the group and
every call `kk` the check makes for it, the model returns (no exception) and the recorded answer
has exactly the model's elements.  `lll j kk` are the `lll.reduce` answers inside that call. -/
def SolvedGroup (k : Kind) (cid n : Nat) (env : SolverEnv) (G : GroupOracle)
    (lll : Nat → Nat → LllAnswers) (npks : Nat) : Prop :=
  ∀ j, j < npks → ∀ cs, issuerCalls k cid n (G.uniq j) = .ok cs → ∀ kk c, cs[kk]? = some c →
    ∃ gs, solveCall env c (lll j kk) = .ok gs ∧ ∀ g : Int, g ∈ G.answer j kk ↔ g ∈ natsToInts gs

/-! ### every model guess is `< n` -/

theorem precomp_lt (a b : List Int) (n : Nat) (consts : List (Int × Int)) (w : Int)
    (basis : List (List Int)) (gs : List Nat)
    (h : hiddenNumberProblemWithPrecomputation a b n consts w basis = .ok gs) :
    ∀ g ∈ gs, g < n := by
  unfold hiddenNumberProblemWithPrecomputation at h
  split at h
  · cases h
  intro g hg
  rcases mem_of_hnpGuessLoop h hg with h0 | ⟨r, _, hs⟩
  · cases h0
  · obtain ⟨_, _, _, _, _, hlt⟩ := hnpRowGuess_sound n r g ((hnpRowGuessPre_ok_iff n r _).mp hs)
    exact hlt

theorem forCurveLoop_lt (n : Nat) (oracle : Nat → List (List Int)) :
    ∀ (subs : List HnpSubset) (i : Nat) (acc gs : List Nat),
      forCurveLoop n oracle subs i acc = .ok gs → (∀ g ∈ acc, g < n) → ∀ g ∈ gs, g < n
  | [], i, acc, gs, h, hacc => by
    simp only [forCurveLoop, Except.ok.injEq] at h
    subst h; exact hacc
  | s :: rest, i, acc, gs, h, hacc => by
    unfold forCurveLoop at h
    split at h
    · cases h
    · rename_i g0 hg0
      apply forCurveLoop_lt n oracle rest (i + 1) _ gs h
      intro g hg
      rcases List.mem_append.mp hg with h1 | h1
      · exact hacc g h1
      · exact precomp_lt _ _ _ _ _ _ _ hg0 g h1

theorem hnpForCurve_lt (a b : List Int) (curve n : Nat) (lcg : Option Nat) (f : SearchFlags)
    (factory : List LcgMeta) (oracle : Nat → List (List Int)) (gs : List Nat)
    (h : hnpForCurve a b curve (some (some n)) lcg f factory oracle = .ok gs) :
    ∀ g ∈ gs, g < n := by
  unfold hnpForCurve at h
  split at h
  · cases h
  simp only [forCurveRun] at h
  split at h
  · cases h
  · rename_i gs' hgs'
    split at h
    · cases h
    · cases h
      exact forCurveLoop_lt n oracle _ 0 [] _ hgs' (by simp)

theorem cr50Guesses_lt (r1 s1 z1 r2 s2 z2 : Int) (n : Nat) (reduced : List (List Int))
    (gs : List Nat) (h : cr50Guesses r1 s1 z1 r2 s2 z2 n reduced = .ok gs) : ∀ g ∈ gs, g < n := by
  rw [cr50Guesses_eq] at h
  split at h
  · cases h; simp
  split at h
  · cases h
  intro g hg
  rcases mem_of_hnpGuessLoop h hg with h0 | ⟨row, _, hs⟩
  · cases h0
  · exact cr50Step_lt _ _ _ _ _ _ _ _ _ _ _ row g hs

/-- which calls `issuerCalls` produces: all with the group's `n` (resp. curve id). -/
def CallFor (cid n : Nat) : Call → Prop
  | .hnp _ _ n' _ => n' = n
  | .cr50 _ _ n' => n' = n
  | .hnpCurve _ _ cid' _ _ => cid' = cid

theorem issuerCalls_callFor (k : Kind) (cid n : Nat) (uniq : List Triple) (cs : List Call)
    (h : issuerCalls k cid n uniq = .ok cs) : ∀ c ∈ cs, CallFor cid n c := by
  intro c hc
  rcases issuerCalls_ok h with ⟨_, _, rfl⟩ | ⟨m, ab, _, _, rfl⟩
  · obtain ⟨_, _, rfl, _⟩ := cr50Spec_mem n uniq c hc
    rfl
  · cases m with
    | bias b =>
      simp only [modeCalls, List.mem_map] at hc
      obtain ⟨w, _, rfl⟩ := hc; rfl
    | lcg name flags =>
      simp only [modeCalls, List.mem_singleton] at hc
      subst hc; rfl

/-- every guess of the solver model of a call made for the group is below the group's `n`. -/
theorem solveCall_lt (env : SolverEnv) (cid n : Nat) (henv : env.curveN cid = some (some n))
    (c : Call) (hc : CallFor cid n c) (lll : LllAnswers) (gs : List Nat)
    (h : solveCall env c lll = .ok gs) : ∀ g ∈ gs, g < n := by
  cases c with
  | hnp a b n' bias =>
    simp only [CallFor] at hc; subst hc
    simp only [solveCall] at h
    split at h
    · cases h
    · intro g hg
      obtain ⟨_, _, _, _, _, hlt⟩ := hnp_guess_origin _ _ _ _ _ _ _ _ h g hg
      exact hlt
  | cr50 v1 v2 n' =>
    simp only [CallFor] at hc; subst hc
    exact cr50Guesses_lt _ _ _ _ _ _ _ _ _ h
  | hnpCurve a b cid' name flags =>
    simp only [CallFor] at hc; subst hc
    simp only [solveCall, henv] at h
    exact hnpForCurve_lt _ _ _ _ _ _ _ _ _ h

/-! ### uniqueness of the reduced private key -/

/-- `G` has order exactly `n` in the Mathlib group (for whichever proof of `p` prime). -/
def GOrder (c : Curve) : Prop :=
  ∀ _ : Fact (Nat.Prime c.p), addOrderOf (toPoint c c.g) = c.n

theorem gOrder_of_paramsOK (c : Curve) (h : c.paramsOK = true) (hn : Nat.Prime c.n) : GOrder c := by
  intro inst
  exact (generator_of_paramsOK c h).2.2.2.2.2 hn

/-- two private keys of the same key tuple, both in `[0, n)`, are equal when `G` has order `n`. -/
theorem keyOf_unique (c : Curve) (hord : GOrder c) (k : Key) (d d' : Int)
    (h : KeyOf c k d) (h' : KeyOf c k d') (h0 : 0 ≤ d) (h1 : d < c.n) (h0' : 0 ≤ d') (h1' : d' < c.n) :
    d = d' := by
  obtain ⟨inst, hk⟩ := h
  obtain ⟨_, hk'⟩ := h'
  have := isKeyOf_emod_eq c (by omega) (hord inst) k d d' hk hk'
  rwa [Int.emod_eq_of_lt h0 h1, Int.emod_eq_of_lt h0' h1'] at this

/-- the key tuple `Multiply(G, d)` evaluates to (on the `Nat` ladder), `d < n`, is the key tuple of
`d` in the Mathlib group. -/
theorem keyOf_of_multiply (c : Curve) (hp : Nat.Prime c.p) (hpar : c.paramsOK = true) (key : Key)
    (d : Nat) (hd : d < c.n) (e : multiplyF c c.g d = .ok (.aff key.1 key.2)) : KeyOf c key d := by
  have inst : Fact (Nat.Prime c.p) := ⟨hp⟩
  refine ⟨inst, ?_⟩
  obtain ⟨hc, hG, _⟩ := generator_of_paramsOK c hpar
  obtain ⟨R, h1, h2, h3⟩ := multiply_zsmul c hc c.g d hG
  rw [multiply_eq_fast, e] at h1
  cases h1
  refine ⟨h2, ?_⟩
  rw [h3, Int.emod_eq_of_lt (by omega) (by exact_mod_cast hd), Int.toNat_natCast, ← natCast_zsmul]

/-! ### the check succeeded, so the arguments of every issuer were prepared -/

theorem issuerCalls_of_check (k : Kind) (O : Nat → GroupOracle) (factory : Factory)
    (arts : List Sig) (res : CheckResult) (h : check k O factory arts = .ok res)
    (cid : Nat) (obj : CurveObj) (hobj : (cid, some obj) ∈ factory)
    (j : Nat) (hj : j < (mapIssuerSigIndexes ((groupFrom cid 0 arts).map Prod.snd)).length) :
    ∃ cs, issuerCalls k cid obj.curve.n ((O cid).uniq j) = .ok cs := by
  obtain ⟨gr, hgr, _, _⟩ := (checkLoop_ok k O arts factory res h).1 cid obj hobj
    (group_ne_nil_of_issuer hj)
  obtain ⟨_, _, hc, _⟩ := processGroup_ok _ _ _ _ _ _ _ hgr
  obtain ⟨q1, q2⟩ := groupCallsFrom_inv _ _ _ _ _ _ _ _ hc
  have hj' : j < gr.calls.length := by rw [q1]; exact hj
  have := q2 j gr.calls[j] (by rw [List.getElem?_eq_getElem hj'])
  rw [Nat.zero_add] at this
  exact ⟨_, this⟩

/-! ### the check layer on top of the solver models -/

/-- **chain, check side.**  Curve objects as in `all_of_issuer_flagged` (valid, reduced, distinct
ids), `G` of order `n`, order oracles consistent, the group's solver oracle instantiated by the
solver models (`SolvedGroup`).  If the model of ONE call made for the group returns a list containing
`d < n`, a private key of the reduced key tuple `key`, then every signature of the batch with that
curve id and key tuple gets `posVerdict d`: weak, DISCRETE_LOG = `format(d, "x")` — `d` itself,
because every model guess is `< n`. -/
theorem chain_core (k : Kind) (O : Nat → GroupOracle) (factory : Factory) (arts : List Sig)
    (res : CheckResult) (hF : FactoryOK factory) (hR : FactoryReduced factory)
    (hnd : (factory.map Prod.fst).Nodup) (hG : GuessConsistent k O arts factory)
    (h : check k O factory arts = .ok res)
    (cid : Nat) (obj : CurveObj) (hobj : (cid, some obj) ∈ factory) (hord : GOrder obj.curve)
    (key : Key) (hkr : KeyReduced obj.curve key) (d : Nat) (hd : d < obj.curve.n)
    (hkey : KeyOf obj.curve key d)
    (env : SolverEnv) (henv : env.curveN cid = some (some obj.curve.n))
    (lll : Nat → Nat → LllAnswers)
    (hsolve : SolvedGroup k cid obj.curve.n env (O cid) lll
      (mapIssuerSigIndexes ((groupFrom cid 0 arts).map Prod.snd)).length)
    (j : Nat) (hj : j < (mapIssuerSigIndexes ((groupFrom cid 0 arts).map Prod.snd)).length)
    (cs : List Call) (hc : issuerCalls k cid obj.curve.n ((O cid).uniq j) = .ok cs)
    (kk : Nat) (c : Call) (hck : cs[kk]? = some c)
    (gs : List Nat) (hgs : solveCall env c (lll j kk) = .ok gs) (hdgs : d ∈ gs) :
    ∀ bi s, arts[bi]? = some s → s.curve = cid → s.key = key →
      verdictOf res.writes bi = some (posVerdict d) := by
  have hne := group_ne_nil_of_issuer hj
  have hkk : kk < cs.length := (List.getElem?_eq_some_iff.mp hck).1
  -- the key is among the recorded answers, hence in `list(guesses)`
  obtain ⟨gs', hgs', hiff⟩ := hsolve j hj cs hc kk c hck
  rw [hgs] at hgs'; cases hgs'
  have hdans : (d : Int) ∈ (O cid).answer j kk :=
    (hiff d).mpr ((mem_natsToInts _ _).mpr ⟨d, hdgs, rfl⟩)
  have hdgl : (d : Int) ∈ (O cid).guessList :=
    answer_in_guessList k O factory arts hG cid obj hobj hne j cs kk _ hj hc hkk hdans
  obtain ⟨d', ⟨inst, hlast⟩, hall⟩ := flagged_of_guess k O factory arts res hF hR hnd h
    cid obj hobj key hkr d hdgl hkey
  -- the last key guess is a model guess, hence in `[0, n)`, hence `d`
  obtain ⟨hd'gl, q2⟩ := lastKeyGuess_mem obj.curve hlast
  have hd'ans := ((isEnumOf_iff _ _).mp (hG cid obj hobj hne)).2 d' |>.mp hd'gl
  obtain ⟨j', cs', kk', hj', hc', hkk', hans'⟩ :=
    (mem_groupAnswers k cid obj.curve.n (O cid) d' _ 0).mp hd'ans
  rw [Nat.zero_add] at hc' hans'
  obtain ⟨gs'', hgs'', hiff'⟩ := hsolve j' hj' cs' hc' kk' cs'[kk'] (List.getElem?_eq_getElem hkk')
  obtain ⟨g, hg, hgd⟩ := (mem_natsToInts _ _).mp ((hiff' d').mp hans')
  have hglt : g < obj.curve.n :=
    solveCall_lt env cid obj.curve.n henv _
      (issuerCalls_callFor k cid obj.curve.n _ cs' hc' _ (List.getElem_mem hkk')) _ _ hgs'' g hg
  rw [keyOf_unique obj.curve hord key d d' hkey ⟨inst, q2⟩ (by omega) (by exact_mod_cast hd)
    (by rw [← hgd]; omega) (by rw [← hgd]; exact_mod_cast hglt)]
  exact hall

/-- **the setting of the check-level chain theorems**: one `Check` call of kind `k` on the batch
`arts` that returned `res`; a curve id `cid` with its curve object; an issuer key tuple `key` whose
private key is `d`; and the solver oracle of that curve group instantiated by the solver models
fed with the `lll.reduce` answers `lll j kk` (issuer `j`, call `kk`). -/
structure Setting (k : Kind) (O : Nat → GroupOracle) (factory : Factory) (arts : List Sig)
    (res : CheckResult) (cid : Nat) (obj : CurveObj) (key : Key) (d : Nat) (env : SolverEnv)
    (lll : Nat → Nat → LllAnswers) : Prop where
  /-- curve objects valid (`ObjOK`), generator and caches reduced, ids distinct -/
  factoryOK : FactoryOK factory
  factoryReduced : FactoryReduced factory
  nodup : (factory.map Prod.fst).Nodup
  /-- `list(guesses)` is an enumeration of the union of the solver answers -/
  guessConsistent : GuessConsistent k O arts factory
  /-- the call returned (in particular every `s` of a known curve is invertible) -/
  checked : check k O factory arts = .ok res
  hobj : (cid, some obj) ∈ factory
  /-- the group order is prime and is the order of `G` -/
  nPrime : obj.curve.n.Prime
  gOrder : GOrder obj.curve
  /-- the issuer key tuple has coordinates below `p` and is `d • G`, `d < n` -/
  keyReduced : KeyReduced obj.curve key
  dLt : d < obj.curve.n
  keyOf : KeyOf obj.curve key d
  envN : env.curveN cid = some (some obj.curve.n)
  /-- the recorded solver answers of the group are the solver models' answers -/
  solved : SolvedGroup k cid obj.curve.n env (O cid) lll
    (mapIssuerSigIndexes ((groupFrom cid 0 arts).map Prod.snd)).length

/-! ### from signatures to the solver arguments -/

/-- the ECDSA signing equation of `(r, s, z)` with nonce `k` and private key `d`:
`s·k ≡ z + r·d (mod n)`. -/
def SignedWith (n : Nat) (d : Int) (v : Triple) (k : Int) : Prop :=
  (v.2.1 : Int) * k ≡ (v.2.2 : Int) + (v.1 : Int) * d [ZMOD (n : Int)]

instance (n : Nat) (d : Int) (v : Triple) (k : Int) : Decidable (SignedWith n d v k) := by
  unfold SignedWith; infer_instance

/-- the relation `HiddenNumberParams` establishes, signature by signature. -/
def ParamsOf (n : Nat) (v : Triple) (p : Nat × Nat) : Prop :=
  hiddenNumberParams n v.1 v.2.1 v.2.2 = .ok p

theorem paramsOf_rel (n : Nat) (hn : 2 ≤ n) (d : Int) (nonce : Triple → Int)
    (vals : List Triple) (ab : List (Nat × Nat)) (hF : List.Forall₂ (ParamsOf n) vals ab)
    (hsig : ∀ v ∈ vals, SignedWith n d v (nonce v)) :
    ab.length = vals.length ∧
    ∀ i, i < vals.length →
      ent (natsToInts (ab.map Prod.fst)) i + ent (natsToInts (ab.map Prod.snd)) i * d ≡
        ent (vals.map nonce) i [ZMOD (n : Int)] := by
  obtain ⟨hlen, hget⟩ := List.forall₂_iff_get.mp hF
  refine ⟨hlen.symm, fun i hi => ?_⟩
  have hi' : i < ab.length := hlen ▸ hi
  simp only [natsToInts, List.map_map]
  rw [ent_map_getElem ab _ i hi', ent_map_getElem ab _ i hi', ent_map_getElem vals nonce i hi]
  exact ((hiddenNumberParams_ok_rel n hn _ _ _ _ (hget i hi hi')).2 d _
    (hsig _ (List.getElem_mem hi))).2.2

/-- the signing relation only depends on the class of the key. -/
theorem signedWith_congr (n : Nat) (d x : Int) (hx : x ≡ d [ZMOD (n : Int)]) (v : Triple) (k : Int)
    (h : SignedWith n d v k) : SignedWith n x v k :=
  h.trans (((hx.symm).mul_left (v.1 : Int)).add_left (v.2.2 : Int))

/-- **from signatures to the solver arguments.**  Values with invertible `s`, all signed with `d` and
the nonce `g (f v)` (`g` the shape of the bias: `id`, `top + ·`, `low + 2^β·`), `x` ANY representative
of `d`: `HiddenNumberParams` succeeds on every value, and the lists `a`, `b` handed to the solver
have the length of `vals` and satisfy `a_i + b_i·x ≡ g (f v_i) (mod n)`. -/
theorem sig_rel (n : Nat) (hn : 2 ≤ n) (d x : Int) (hx : x ≡ d [ZMOD (n : Int)])
    (f : Triple → Int) (g : Int → Int) (vals : List Triple)
    (hs : ∀ v ∈ vals, Int.gcd (v.2.1 : Int) n = 1)
    (hsig : ∀ v ∈ vals, SignedWith n d v (g (f v))) :
    ∃ ab, hnpParamsList n vals = .ok ab ∧
      (natsToInts (ab.map Prod.fst)).length = vals.length ∧
      (natsToInts (ab.map Prod.snd)).length = (natsToInts (ab.map Prod.fst)).length ∧
      (vals.map f).length = (natsToInts (ab.map Prod.fst)).length ∧
      ∀ i, i < (natsToInts (ab.map Prod.fst)).length →
        ent (natsToInts (ab.map Prod.fst)) i + ent (natsToInts (ab.map Prod.snd)) i * x ≡
          g (ent (vals.map f) i) [ZMOD (n : Int)] := by
  obtain ⟨ab, hab⟩ := hnpParamsList_total n hn vals hs
  obtain ⟨h1, h2⟩ := paramsOf_rel n hn x (fun v => g (f v)) vals ab ((hnpParamsList_ok n vals ab).mp hab)
    (fun v hv => signedWith_congr n d x hx v _ (hsig v hv))
  have hl : (natsToInts (ab.map Prod.fst)).length = vals.length := by simp [natsToInts, h1]
  refine ⟨ab, hab, hl, by simp [natsToInts], by simp [natsToInts, h1], fun i hi => ?_⟩
  rw [hl] at hi
  rw [ent_map_getElem vals f i hi, ← ent_map_getElem vals (fun v => g (f v)) i hi]
  exact h2 i hi

/-! ### windows commute with the elementwise relation -/

theorem forall₂_chunksAux {α β} (R : α → β → Prop) (size : Nat) :
    ∀ (fuel : Nat) (l : List α) (m : List β), List.Forall₂ R l m →
      List.Forall₂ (List.Forall₂ R) (chunksAux size fuel l) (chunksAux size fuel m)
  | 0, _, _, _ => .nil
  | fuel + 1, [], _, .nil => .nil
  | fuel + 1, x :: xs, y :: ys, h => by
    simp only [chunksAux]
    exact .cons (List.forall₂_take size h)
      (forall₂_chunksAux R size fuel _ _ (List.forall₂_drop size h))

theorem forall₂_chunks {α β} (R : α → β → Prop) (size : Nat) (l : List α) (m : List β)
    (h : List.Forall₂ R l m) : List.Forall₂ (List.Forall₂ R) (chunks size l) (chunks size m) := by
  unfold chunks
  rw [← h.length_eq]
  exact forall₂_chunksAux R size _ l m h

theorem forall₂_sizeLoop {α β} (R : α → β → Prop) : ∀ (sizes : List Nat) (l : List α) (m : List β),
    List.Forall₂ R l m → List.Forall₂ (List.Forall₂ R) (sizeLoop sizes l) (sizeLoop sizes m)
  | [], _, _, _ => .nil
  | size :: rest, l, m, h => by
    simp only [sizeLoop]
    rw [← h.length_eq]
    apply List.rel_append (forall₂_chunks R size l m h)
    split
    · exact .nil
    · exact forall₂_sizeLoop R rest l m h

/-- **the call of window `kk`.**  If the arguments of an issuer were prepared and `win` is the
`kk`-th window of its `unique_vals`, the `kk`-th solver call of a bias check is
`HiddenNumberProblem(a, b, None, n, bias)` with `(a_i, b_i) = HiddenNumberParams(win_i)`. -/
theorem window_call (b cid n : Nat) (uniq : List Triple) (cs : List Call)
    (hc : issuerCalls (.biased (.bias b)) cid n uniq = .ok cs)
    (kk : Nat) (win : List Triple) (hwin : (sizeLoop windowSizes uniq)[kk]? = some win) :
    ∃ wab, List.Forall₂ (ParamsOf n) win wab ∧
      cs[kk]? = some (Call.hnp (wab.map Prod.fst) (wab.map Prod.snd) n b) := by
  obtain ⟨h0, _⟩ | ⟨_, ab, hm, hab, rfl⟩ := issuerCalls_ok hc
  · cases h0
  cases hm
  have hF : List.Forall₂ (ParamsOf n) uniq ab := (hnpParamsList_ok n uniq ab).mp hab
  obtain ⟨wab, hw1, hw2⟩ := forall₂_idx (forall₂_sizeLoop (ParamsOf n) windowSizes uniq ab hF)
    kk win hwin
  refine ⟨wab, hw2, ?_⟩
  simp only [modeCalls, List.getElem?_map, hw1, Option.map_some]

/-- the `s` of every value whose parameters were prepared is invertible. -/
theorem gcd_of_paramsList (n : Nat) (hn : 2 ≤ n) (vals : List Triple) (ab : List (Nat × Nat))
    (h : hnpParamsList n vals = .ok ab) : ∀ v ∈ vals, Int.gcd (v.2.1 : Int) n = 1 := by
  intro v hv
  obtain ⟨i, hi, rfl⟩ := List.mem_iff_getElem.mp hv
  obtain ⟨p, _, hp⟩ := forall₂_idx ((hnpParamsList_ok n vals ab).mp h) i vals[i]
    (List.getElem?_eq_getElem hi)
  exact (hiddenNumberParams_ok_rel n hn _ _ _ p hp).1

/-- the window's parameters were prepared (the `Check` call returned) and every `s` is invertible. -/
theorem window_params {b : Nat}
    {O : Nat → GroupOracle} {factory : Factory} {arts : List Sig} {res : CheckResult}
    {cid : Nat} {obj : CurveObj} {key : Key} {d : Nat} {env : SolverEnv}
    {lll : Nat → Nat → LllAnswers}
    (S : Setting (.biased (.bias b)) O factory arts res cid obj key d env lll)
    (j : Nat) (hj : j < (mapIssuerSigIndexes ((groupFrom cid 0 arts).map Prod.snd)).length)
    (kk : Nat) (win : List Triple) (hwin : (sizeLoop windowSizes ((O cid).uniq j))[kk]? = some win) :
    ∃ wab, hnpParamsList obj.curve.n win = .ok wab ∧
      ∀ v ∈ win, Int.gcd (v.2.1 : Int) obj.curve.n = 1 := by
  obtain ⟨cs, hc⟩ := issuerCalls_of_check _ O factory arts res S.checked cid obj S.hobj j hj
  obtain ⟨wab, hw, _⟩ := window_call b cid obj.curve.n _ cs hc kk win hwin
  have hwab := (hnpParamsList_ok _ win wab).mpr hw
  exact ⟨wab, hwab, gcd_of_paramsList _ S.nPrime.two_le win wab hwab⟩

/-- a non-empty list of at most 24 values is solved in ONE call with all of them (window 0). -/
theorem window_single {α} (l : List α) (hne : l ≠ []) (hlen : l.length ≤ 24) :
    (sizeLoop windowSizes l)[0]? = some l := by
  rw [sizeLoop_windowSizes, if_pos hlen, chunks_of_le 24 (by omega) l hne (by omega)]
  rfl

/-- **the Cr50 call of the pair `kk`, `kk + 1`.** -/
theorem cr50_pair_call (n : Nat) : ∀ (uniq : List Triple) (cs : List Call),
    cr50Calls n uniq = .ok cs → ∀ (kk : Nat) (v1 v2 : Triple), uniq[kk]? = some v1 →
      uniq[kk + 1]? = some v2 → cs[kk]? = some (Call.cr50 v1 v2 n)
  | [], cs, h, _, _, _, _, _ => by cases h
  | [v], cs, _, kk, v1, v2, _, h2 => by simp at h2
  | v :: w :: rest, cs, h, kk, v1, v2, h1, h2 => by
    unfold cr50Calls at h
    split at h
    · cases h
    · rename_i cs' hcs'
      cases h
      cases kk with
      | zero =>
        simp only [List.getElem?_cons_zero, Option.some.injEq, Nat.zero_add,
          List.getElem?_cons_succ] at h1 h2
        subst h1; subst h2; rfl
      | succ kk =>
        simp only [List.getElem?_cons_succ] at h1 h2 ⊢
        exact cr50_pair_call n (w :: rest) cs' hcs' kk v1 v2 h1 h2

/-! ### `SolvedGroup` as an evaluable predicate -/

/-- same elements (the recorded answer is `list(set)` in Python's order). -/
def sameElems (ans : List Int) (gs : List Nat) : Bool :=
  ans.all (fun z => (natsToInts gs).contains z) && (natsToInts gs).all (fun z => ans.contains z)

theorem sameElems_iff (ans : List Int) (gs : List Nat) (h : sameElems ans gs = true) :
    ∀ g : Int, g ∈ ans ↔ g ∈ natsToInts gs := by
  simp only [sameElems, Bool.and_eq_true, List.all_eq_true, List.contains_iff_mem] at h
  exact fun g => ⟨h.1 g, h.2 g⟩

/-- the calls of issuer `j`, checked one by one from index `kk`. -/
def solvedCallsB (env : SolverEnv) (G : GroupOracle) (lll : Nat → Nat → LllAnswers) (j : Nat) :
    List Call → Nat → Bool
  | [], _ => true
  | c :: rest, kk =>
    (match solveCall env c (lll j kk) with
     | .ok gs => sameElems (G.answer j kk) gs
     | .error _ => false) && solvedCallsB env G lll j rest (kk + 1)

theorem solvedCallsB_spec (env : SolverEnv) (G : GroupOracle) (lll : Nat → Nat → LllAnswers)
    (j : Nat) : ∀ (cs : List Call) (k0 : Nat), solvedCallsB env G lll j cs k0 = true →
      ∀ kk c, cs[kk]? = some c →
        ∃ gs, solveCall env c (lll j (k0 + kk)) = .ok gs ∧
          ∀ g : Int, g ∈ G.answer j (k0 + kk) ↔ g ∈ natsToInts gs
  | [], _, _, kk, c, h => by simp at h
  | c0 :: rest, k0, hB, kk, c, h => by
    simp only [solvedCallsB, Bool.and_eq_true] at hB
    cases kk with
    | zero =>
      simp only [List.getElem?_cons_zero, Option.some.injEq] at h
      subst h
      cases hs : solveCall env c0 (lll j k0) with
      | error e => rw [hs] at hB; simp at hB
      | ok gs =>
        rw [hs] at hB
        exact ⟨gs, by simp, by simpa using sameElems_iff _ _ hB.1⟩
    | succ kk =>
      simp only [List.getElem?_cons_succ] at h
      have := solvedCallsB_spec env G lll j rest (k0 + 1) hB.2 kk c h
      rwa [show k0 + 1 + kk = k0 + (kk + 1) by omega] at this

/-- `SolvedGroup`, evaluated: for every issuer position whose arguments could be prepared, every
call's recorded answer has the elements of the model's answer. -/
def solvedGroupB (k : Kind) (cid n : Nat) (env : SolverEnv) (G : GroupOracle)
    (lll : Nat → Nat → LllAnswers) (npks : Nat) : Bool :=
  (List.range npks).all fun j =>
    match issuerCalls k cid n (G.uniq j) with
    | .ok cs => solvedCallsB env G lll j cs 0
    | .error _ => true

theorem solvedGroup_of_B (k : Kind) (cid n : Nat) (env : SolverEnv) (G : GroupOracle)
    (lll : Nat → Nat → LllAnswers) (npks : Nat) (h : solvedGroupB k cid n env G lll npks = true) :
    SolvedGroup k cid n env G lll npks := by
  intro j hj cs hc kk c hck
  simp only [solvedGroupB, List.all_eq_true, List.mem_range] at h
  have := h j hj
  rw [hc] at this
  have := solvedCallsB_spec env G lll j cs 0 this kk c hck
  simpa using this

/-! ### a batch on one curve: the call returns, and the verdicts as a list -/

/-- a batch on ONE curve whose `s` are all invertible modulo its order, `unique_vals` consistent for
that curve group (the only one processed): the call returns. -/
theorem check_total_one_curve (k : Kind) (O : Nat → GroupOracle) (factory : Factory)
    (arts : List Sig) (hF : FactoryOK factory) (hnd : (factory.map Prod.fst).Nodup)
    (cid : Nat) (obj : CurveObj) (hobj : (cid, some obj) ∈ factory)
    (hcons : uniqConsistentFrom obj.curve.n ((groupFrom cid 0 arts).map Prod.snd) (O cid) 0
      (mapIssuerSigIndexes ((groupFrom cid 0 arts).map Prod.snd)) = true)
    (h : ∀ s ∈ arts, s.curve = cid ∧ Int.gcd (bytes2int s.s : Int) obj.curve.n = 1) :
    ∃ res, check k O factory arts = .ok res := by
  have key : ∀ cid' obj', (cid', some obj') ∈ factory → (∃ s ∈ arts, s.curve = cid') →
      cid' = cid ∧ obj' = obj := by
    rintro cid' obj' hm ⟨s, hs, rfl⟩
    have hc := (h s hs).1
    rw [hc] at hm
    cases List.inj_on_of_nodup_map hnd hobj hm rfl
    exact ⟨hc, rfl⟩
  refine check_total k O factory arts hF (fun cid' obj' hm hne => ?_) fun _ s hs obj' hobj' => ?_
  · obtain ⟨⟨bi, s⟩, hbs⟩ := List.exists_mem_of_ne_nil _ hne
    obtain ⟨_, h2, h3⟩ := (mem_groupFrom cid' arts 0 bi s).mp hbs
    obtain ⟨rfl, rfl⟩ := key cid' obj' hm ⟨s, List.mem_of_getElem? h2, h3⟩
    exact hcons
  · obtain ⟨_, rfl⟩ := key _ obj' hobj' ⟨s, hs, rfl⟩
    exact (h s hs).2

theorem verdicts_all (writes : List (Nat × Verdict)) (arts : List Sig) (v : Verdict)
    (hv : ∀ bi s, arts[bi]? = some s → verdictOf writes bi = some v) :
    (List.range arts.length).map (verdictOf writes) = List.replicate arts.length (some v) := by
  refine List.ext_getElem (by simp) fun i h1 _ => ?_
  rw [List.getElem_map, List.getElem_range, List.getElem_replicate]
  exact hv i _ (List.getElem?_eq_getElem (by simpa using h1))

/-! ### the chain for a bias check and for the Cr50 check, modulo the solver-level statement -/

/-- the solver reduces modulo `n`: every representative of `d < n` is reported as `d`. -/
theorem toNat_of_modEq (x : Int) (d n : Nat) (hd : d < n)
    (hx : x ≡ (d : Int) [ZMOD (n : Int)]) : (x % (n : Int)).toNat = d := by
  have h : x % (n : Int) = (d : Int) % (n : Int) := hx
  rw [h, Int.emod_eq_of_lt (by omega) (by exact_mod_cast hd), Int.toNat_natCast]

section chain
variable {O : Nat → GroupOracle} {factory : Factory} {arts : List Sig} {res : CheckResult}
  {cid : Nat} {obj : CurveObj} {key : Key} {d : Nat} {env : SolverEnv} {lll : Nat → Nat → LllAnswers}

/-- bias checks: if the solver model of window `kk` of issuer `j` returns `d` (hypothesis `hpost`),
every signature of the key tuple gets `posVerdict d`.  This and the next two chain theorems take their
hypotheses one by one and not as a `Setting`: they need no primality of `n` (`Setting.nPrime`). -/
theorem chain_hnp (b : Nat) (bs : Bias) (hbs : biasOfNat b = some bs)
    (O : Nat → GroupOracle) (factory : Factory) (arts : List Sig)
    (res : CheckResult) (hF : FactoryOK factory) (hR : FactoryReduced factory)
    (hnd : (factory.map Prod.fst).Nodup) (hG : GuessConsistent (.biased (.bias b)) O arts factory)
    (h : check (.biased (.bias b)) O factory arts = .ok res)
    (cid : Nat) (obj : CurveObj) (hobj : (cid, some obj) ∈ factory) (hord : GOrder obj.curve)
    (key : Key) (hkr : KeyReduced obj.curve key) (d : Nat) (hd : d < obj.curve.n)
    (hkey : KeyOf obj.curve key d)
    (env : SolverEnv) (henv : env.curveN cid = some (some obj.curve.n))
    (lll : Nat → Nat → LllAnswers)
    (hsolve : SolvedGroup (.biased (.bias b)) cid obj.curve.n env (O cid) lll
      (mapIssuerSigIndexes ((groupFrom cid 0 arts).map Prod.snd)).length)
    (j : Nat) (hj : j < (mapIssuerSigIndexes ((groupFrom cid 0 arts).map Prod.snd)).length)
    (kk : Nat) (win : List Triple)
    (hwin : (sizeLoop windowSizes ((O cid).uniq j))[kk]? = some win)
    (hpost : ∀ wab, hnpParamsList obj.curve.n win = .ok wab →
      ∃ gs, hiddenNumberProblem (natsToInts (wab.map Prod.fst)) (natsToInts (wab.map Prod.snd)) none
        obj.curve.n bs (env.fbOf obj.curve.n win.length) (lll j kk 0) = .ok gs ∧ d ∈ gs) :
    ∀ bi s, arts[bi]? = some s → s.curve = cid → s.key = key →
      verdictOf res.writes bi = some (posVerdict d) := by
  obtain ⟨cs, hc⟩ := issuerCalls_of_check _ O factory arts res h cid obj hobj j hj
  obtain ⟨wab, hw, hck⟩ := window_call b cid obj.curve.n _ cs hc kk win hwin
  obtain ⟨gs, hgs, hdgs⟩ := hpost wab ((hnpParamsList_ok _ win wab).mpr hw)
  have hlen : (wab.map Prod.fst).length = win.length := by simp [hw.length_eq]
  exact chain_core _ O factory arts res hF hR hnd hG h cid obj hobj hord key hkr d hd hkey env henv
    lll hsolve j hj cs hc kk _ hck gs (by simp only [solveCall, hbs, hlen]; exact hgs) hdgs

/-- **the bias-free half of the chain**, all four bias checks at once (`bs` the model value of the
check's bias `b`; COMMON_POSTFIX: `n ≠ 2`): if the `lll.reduce` answer of the window's solver call
has rows with at least two entries and contains `±(T₀, T₁, …)` with `T₁ ≡ T₀·d (mod n)`, `n ∤ T₀`,
every signature of the key tuple is flagged with `d`.  No bias, no signing relation. -/
theorem chain_post {b : Nat} {bs : Bias} (hbs : biasOfNat b = some bs)
    (S : Setting (.biased (.bias b)) O factory arts res cid obj key d env lll)
    (h2 : bs = .commonPostfix → obj.curve.n ≠ 2)
    (j : Nat) (hj : j < (mapIssuerSigIndexes ((groupFrom cid 0 arts).map Prod.snd)).length)
    (kk : Nat) (win : List Triple) (hwin : (sizeLoop windowSizes ((O cid).uniq j))[kk]? = some win)
    (hrows : ∀ r ∈ lll j kk 0, 2 ≤ r.length)
    (T0 T1 : Int) (tl : List Int) (htgt : T1 ≡ T0 * (d : Int) [ZMOD (obj.curve.n : Int)])
    (h0 : ¬ (obj.curve.n : Int) ∣ T0)
    (hlll : PMMem (T0 :: T1 :: tl) (lll j kk 0)) :
    ∀ bi s, arts[bi]? = some s → s.curve = cid → s.key = key →
      verdictOf res.writes bi = some (posVerdict d) := by
  refine chain_hnp b bs hbs O factory arts res S.factoryOK S.factoryReduced S.nodup S.guessConsistent
    S.checked cid obj S.hobj S.gOrder key S.keyReduced d S.dLt S.keyOf env S.envN lll S.solved j hj kk
    win hwin fun wab hwab => ?_
  have hlen : wab.length = win.length := ((hnpParamsList_ok obj.curve.n win wab).mp hwab).length_eq.symm
  have hne : natsToInts (wab.map Prod.fst) ≠ [] := fun h0' =>
    (window_subset _ win (List.mem_of_getElem? hwin)).2 (List.length_eq_zero_iff.mp (by
      simpa [natsToInts, hlen] using congrArg List.length h0'))
  obtain ⟨gs, hg1, hg2⟩ := hnp_post_any (natsToInts (wab.map Prod.fst))
    (natsToInts (wab.map Prod.snd)) obj.curve.n bs (env.fbOf obj.curve.n win.length) S.nPrime
    (by simp [natsToInts]) (fun hb => ⟨h2 hb, hne⟩) (lll j kk 0) hrows (d : Int) T0 T1 tl htgt h0 hlll
  exact ⟨gs, hg1, toNat_of_modEq (d : Int) d obj.curve.n S.dLt (Int.ModEq.refl _) ▸ hg2⟩

/-- the Cr50 check: the pair `unique_vals[kk]`, `unique_vals[kk+1]`. -/
theorem chain_cr50_core (O : Nat → GroupOracle) (factory : Factory) (arts : List Sig)
    (res : CheckResult) (hF : FactoryOK factory) (hR : FactoryReduced factory)
    (hnd : (factory.map Prod.fst).Nodup) (hG : GuessConsistent .cr50 O arts factory)
    (h : check .cr50 O factory arts = .ok res)
    (cid : Nat) (obj : CurveObj) (hobj : (cid, some obj) ∈ factory) (hord : GOrder obj.curve)
    (key : Key) (hkr : KeyReduced obj.curve key) (d : Nat) (hd : d < obj.curve.n)
    (hkey : KeyOf obj.curve key d)
    (env : SolverEnv) (henv : env.curveN cid = some (some obj.curve.n))
    (lll : Nat → Nat → LllAnswers)
    (hsolve : SolvedGroup .cr50 cid obj.curve.n env (O cid) lll
      (mapIssuerSigIndexes ((groupFrom cid 0 arts).map Prod.snd)).length)
    (j : Nat) (hj : j < (mapIssuerSigIndexes ((groupFrom cid 0 arts).map Prod.snd)).length)
    (kk : Nat) (v1 v2 : Triple) (h1 : ((O cid).uniq j)[kk]? = some v1)
    (h2 : ((O cid).uniq j)[kk + 1]? = some v2)
    (gs : List Nat)
    (hgs : cr50Guesses v1.1 v1.2.1 v1.2.2 v2.1 v2.2.1 v2.2.2 obj.curve.n (lll j kk 0) = .ok gs)
    (hdgs : d ∈ gs) :
    ∀ bi s, arts[bi]? = some s → s.curve = cid → s.key = key →
      verdictOf res.writes bi = some (posVerdict d) := by
  obtain ⟨cs, hc⟩ := issuerCalls_of_check _ O factory arts res h cid obj hobj j hj
  exact chain_core _ O factory arts res hF hR hnd hG h cid obj hobj hord key hkr d hd hkey env henv
    lll hsolve j hj cs hc kk _ (cr50_pair_call obj.curve.n _ cs hc kk v1 v2 h1 h2) gs hgs hdgs

/-- the LCG checks: one call `HiddenNumberProblemForCurve(a, b, curve_id, lcg, flags)` per issuer. -/
theorem chain_forcurve (name flags : Nat)
    (O : Nat → GroupOracle) (factory : Factory) (arts : List Sig)
    (res : CheckResult) (hF : FactoryOK factory) (hR : FactoryReduced factory)
    (hnd : (factory.map Prod.fst).Nodup)
    (hG : GuessConsistent (.biased (.lcg name flags)) O arts factory)
    (h : check (.biased (.lcg name flags)) O factory arts = .ok res)
    (cid : Nat) (obj : CurveObj) (hobj : (cid, some obj) ∈ factory) (hord : GOrder obj.curve)
    (key : Key) (hkr : KeyReduced obj.curve key) (d : Nat) (hd : d < obj.curve.n)
    (hkey : KeyOf obj.curve key d)
    (env : SolverEnv) (henv : env.curveN cid = some (some obj.curve.n))
    (lll : Nat → Nat → LllAnswers)
    (hsolve : SolvedGroup (.biased (.lcg name flags)) cid obj.curve.n env (O cid) lll
      (mapIssuerSigIndexes ((groupFrom cid 0 arts).map Prod.snd)).length)
    (j : Nat) (hj : j < (mapIssuerSigIndexes ((groupFrom cid 0 arts).map Prod.snd)).length)
    (ab : List (Nat × Nat)) (hab : hnpParamsList obj.curve.n ((O cid).uniq j) = .ok ab)
    (gs : List Nat)
    (hgs : hnpForCurve (natsToInts (ab.map Prod.fst)) (natsToInts (ab.map Prod.snd)) cid
      (some (some obj.curve.n)) (some name) (flagsOfNat flags) env.lcgFactory (lll j 0) = .ok gs)
    (hdgs : d ∈ gs) :
    ∀ bi s, arts[bi]? = some s → s.curve = cid → s.key = key →
      verdictOf res.writes bi = some (posVerdict d) :=
  chain_core _ O factory arts res hF hR hnd hG h cid obj hobj hord key hkr d hd hkey env henv lll
    hsolve j hj [Call.hnpCurve (ab.map Prod.fst) (ab.map Prod.snd) cid name flags]
    (by simp [issuerCalls, biasedCalls, hab, modeCalls]) 0 _ rfl gs
    (by simp only [solveCall, henv]; exact hgs) hdgs

end chain

end Paranoid.C08Chain
