/-
Proofs/CheckAll.lean — consequences of `checkArtifacts_spec` for pre-annotated and for fresh
batches, the exact entries written by every step, CheckIssuerKey's verdict.  Core Lean only.
-/
import ParanoidModel.Proofs.Checks
namespace Paranoid

/-! ### reading back a result after SetTestResult -/

/-- the stored entry after `SetTestResult(e)` when `old` was stored under the same name. -/
def mergeEntry (old : Option Entry) (e : Entry) : Entry :=
  match old with
  | some x => ⟨x.name, x.result || e.result, max x.severity e.severity⟩
  | none => e

/-- the entries named `n` after the first entry named `e.name` was merged with `e`: only that one
changes. (`find_updateFirst` is the head of this list.) -/
theorem filter_updateFirst (e : Entry) (l : List Entry) (n : String) :
    (updateFirst e l).filter (fun x => x.name = n) =
      if n = e.name then
        (match l.filter (fun x => x.name = n) with
         | [] => []
         | x :: rest => mergeEntry (some x) e :: rest)
      else l.filter (fun x => x.name = n) := by
  induction l with
  | nil => simp [updateFirst]
  | cons x xs ih =>
    unfold updateFirst
    by_cases hx : x.name = e.name
    · simp only [hx, if_true]
      by_cases hn : n = e.name
      · subst hn
        simp [hx, mergeEntry]
      · have h1 : ¬ e.name = n := fun h => hn h.symm
        simp [hx, hn, h1]
    · simp only [hx, if_false, List.filter_cons, ih]
      by_cases hxn : x.name = n
      · have : ¬ n = e.name := fun h => hx (hxn.trans h)
        simp [hxn, this]
      · by_cases hn : n = e.name
        · subst hn; simp [hx]
        · simp [hxn, hn]

theorem find_updateFirst (e : Entry) (l : List Entry) (n : String) :
    (updateFirst e l).find? (fun x => x.name = n) =
      if n = e.name then
        (l.find? (fun x => x.name = n)).map fun x => mergeEntry (some x) e
      else l.find? (fun x => x.name = n) := by
  rw [← List.head?_filter, filter_updateFirst, ← List.head?_filter]
  split
  · cases l.filter (fun x => x.name = n) <;> rfl
  · rfl

theorem getTestResult_setTestResult (ver : String) (ti : TestInfo) (e : Entry) (n : String) :
    getTestResult (setTestResult ver ti e) n =
      if n = e.name then some (mergeEntry (getTestResult ti n) e) else getTestResult ti n := by
  unfold setTestResult
  split
  · rename_i x hx
    simp only [getTestResult] at *
    rw [find_updateFirst]
    by_cases hn : n = e.name
    · subst hn; simp [hx, mergeEntry]
    · simp [hn]
  · rename_i hx
    simp only [getTestResult] at *
    rw [List.find?_append]
    by_cases hn : n = e.name
    · subst hn; simp [hx, mergeEntry]
    · have : ¬ e.name = n := fun h => hn h.symm
      simp [hn, this]

/-! ### what holds for every artefact, pre-annotated or not -/

/-- `a'` is `a` after some checks: nothing recorded was lost. -/
structure Later (a a' : Artifact) : Prop where
  key : SameKey a a'
  mono : Mono a.info a'.info
  nodup : (a.info.results.map (·.name)).Nodup → (a'.info.results.map (·.name)).Nodup
  count : ∀ n, nameCount n a'.info.results ≤ max 1 (nameCount n a.info.results)
  consistent : Consistent a.info → Consistent a'.info

theorem actsBy_later {ver : String} {ops : Nat → Artifact → List Op} {j : Nat} {a a' : Artifact}
    (h : ActsBy ver ops j a a') : Later a a' := by
  obtain ⟨hk, ho⟩ := h
  have hr := applyOps_eq_runOps ho
  refine ⟨hk, ?_, ?_, ?_, ?_⟩
  · rw [← hr]; exact runOps_mono ver _ _
  · intro hnd; rw [← hr]; exact runOps_names_nodup ver _ _ hnd
  · intro n; rw [← hr]; exact nameCount_runOps ver _ _ n
  · intro hc; rw [← hr]; exact runOps_consistent ver _ _ hc

theorem actsBy_weak {ver : String} {ops : Nat → Artifact → List Op} {j : Nat} {a a' : Artifact}
    (h : ActsBy ver ops j a a') : a'.info.weak = (a.info.weak || posFlag (ops j a)) :=
  applyOps_weak h.2

/-- recorded factors under `k` survive when no check overwrites `k` by a plain AttachInfo. -/
theorem actsBy_factors {ver : String} {ops : Nat → Artifact → List Op} {j : Nat} {a a' : Artifact}
    (h : ActsBy ver ops j a a') (k : String) (hno : ∀ op ∈ ops j a, overwrites k op = false)
    (o : Option (List Int)) (ho : getAttachedFactors a.info k = .ok o) :
    ∃ o', getAttachedFactors a'.info k = .ok o' ∧
      (∀ x, MemO x o' ↔ MemO x o ∨ ∃ fs ∈ attachedUnder k (ops j a), x ∈ fs) ∧
      (o' = none ↔ o = none ∧ attachedUnder k (ops j a) = []) := by
  have hr := applyOps_eq_runOps h.2
  rw [← hr]
  exact runOps_factors ver _ _ k o ho hno

theorem overwrites_allOps (var : Variant) (ver : String) (ec : List CheckSpec) (steps : List Step)
    (st : List Artifact) (j : Nat) (a : Artifact) (k : String)
    (hv : ∀ s ∈ steps, ∀ i k' x, (s.verdict i).info = some (k', x) → k' ≠ k) :
    ∀ op ∈ allOps var ver ec steps st j a, overwrites k op = false := by
  intro op hop
  rcases mem_allOps hop with ⟨e, rfl⟩ | ⟨s, hs, _, _, _, ⟨p, _, rfl⟩ | ⟨p, hp, rfl⟩⟩
  · rfl
  · rfl
  · simpa [overwrites] using hv s hs j p.1 p.2 (by rw [hp])

/-! ### the entry each step writes -/

/-- the `test_result` the step passes to SetTestResult for the artefact `a` at position `j`
(`none`: the check does not apply to it — no entry). -/
def expectedEntry (var : Variant) (ver : String) (ec : List CheckSpec) (s : Step)
    (st : List Artifact) (j : Nat) (a : Artifact) : Option Entry :=
  if s.spec.issuer then
    match innerCheckAllEC ver ec s.inner (issuerKeys var st) with
    | .ok (keys', _) =>
      match keys'.find? (fun key => keyId var a = keyId var key) with
      | some key =>
        match issuerEntry s.spec key with
        | .ok en => some en
        | .error _ => none
      | none => none
    | .error _ => none
  else if applicable s.spec a then some (entryFor s.spec (s.verdict j)) else none

theorem issuerEntry_spec {c : CheckSpec} {key : Artifact} {en : Entry}
    (h : issuerEntry c key = .ok en) :
    en.name = c.name ∧ en.result = key.info.weak ∧
    (key.info.weak = false → en.severity = c.severity) ∧
    (key.info.weak = true → getHighestSeverity key.info = some en.severity) := by
  unfold issuerEntry at h
  split at h
  · rename_i hw
    split at h
    · rename_i sv hs
      cases h
      exact ⟨rfl, hw.symm, fun h' => (by rw [hw] at h'; cases h'), fun _ => hs⟩
    · cases h
  · rename_i hw
    cases h
    have hw' : key.info.weak = false := by simpa using hw
    exact ⟨rfl, hw'.symm, fun _ => rfl, fun h' => (by rw [hw'] at h'; cases h')⟩

theorem expectedEntry_name {var : Variant} {ver : String} {ec : List CheckSpec} {s : Step}
    {st : List Artifact} {j : Nat} {a : Artifact} {e : Entry}
    (h : expectedEntry var ver ec s st j a = some e) : e.name = s.spec.name := by
  unfold expectedEntry at h
  split at h
  · split at h
    · split at h
      · split at h
        · rename_i hen; cases h; exact (issuerEntry_spec hen).1
        · cases h
      · cases h
    · cases h
  · split at h
    · cases h; rfl
    · cases h

theorem issuerOps_nil_of_no_match (var : Variant) (c : CheckSpec) (keys : List Artifact)
    (a : Artifact) (h : ∀ k ∈ keys, keyId var a ≠ keyId var k) : issuerOps var c keys a = [] := by
  induction keys with
  | nil => rfl
  | cons key keys ih =>
    simp only [issuerOps]
    rw [if_neg (h key List.mem_cons_self), ih (fun k hk => h k (List.mem_cons_of_mem _ hk))]
    rfl

theorem issuerOps_eq (var : Variant) (c : CheckSpec) (keys : List Artifact) (a : Artifact)
    (hnd : (keys.map (keyId var)).Nodup) :
    issuerOps var c keys a =
      match keys.find? (fun key => keyId var a = keyId var key) with
      | some key =>
        match issuerEntry c key with
        | .ok en => [Op.setTestResult en]
        | .error _ => []
      | none => [] := by
  induction keys with
  | nil => rfl
  | cons key keys ih =>
    simp only [List.map_cons, List.nodup_cons] at hnd
    rw [List.find?_cons]
    by_cases hk : keyId var a = keyId var key
    · simp only [hk, decide_true, issuerOps, if_true]
      have : issuerOps var c keys a = [] := by
        apply issuerOps_nil_of_no_match
        intro k hkm heq
        exact hnd.1 (List.mem_map.2 ⟨k, hkm, by rw [← heq, hk]⟩)
      rw [this, List.append_nil]
      cases issuerEntry c key <;> rfl
    · simp only [hk, decide_false, issuerOps, if_false, List.nil_append]
      exact ih hnd.2

theorem entriesOf_issuerOps (var : Variant) (c : CheckSpec) (keys : List Artifact) (a : Artifact)
    (hnd : (keys.map (keyId var)).Nodup) :
    entriesOf (issuerOps var c keys a) =
      match keys.find? (fun key => keyId var a = keyId var key) with
      | some key =>
        match issuerEntry c key with
        | .ok en => [en]
        | .error _ => []
      | none => [] := by
  rw [issuerOps_eq var c keys a hnd]
  cases keys.find? (fun key => keyId var a = keyId var key) with
  | none => rfl
  | some key => dsimp only; cases issuerEntry c key <;> rfl

theorem innerKeys_nodup {var : Variant} {ver : String} {ec : List CheckSpec}
    {inner : Nat → Nat → Verdict} {st keys' : List Artifact} {r : Bool}
    (h : innerCheckAllEC ver ec inner (issuerKeys var st) = .ok (keys', r)) :
    (keys'.map (keyId var)).Nodup := by
  rw [(innerCheckAllEC_spec h).map_eq (keyId var) fun _ _ _ hh => hh.1.keyId var]
  exact issuerKeys_nodup var st

/-- the entries a step writes are exactly its expected entry (one or none). -/
theorem entriesOf_stepOps (var : Variant) (ver : String) (ec : List CheckSpec) (s : Step)
    (st : List Artifact) (j : Nat) (a : Artifact) :
    entriesOf (stepOps var ver ec s st j a) = (expectedEntry var ver ec s st j a).toList := by
  unfold stepOps expectedEntry
  by_cases hiss : s.spec.issuer = true
  · simp only [hiss, if_true]
    cases hin : innerCheckAllEC ver ec s.inner (issuerKeys var st) with
    | error e => rfl
    | ok p =>
      obtain ⟨keys', r'⟩ := p
      dsimp only
      rw [entriesOf_issuerOps var _ _ _ (innerKeys_nodup hin)]
      cases hf : keys'.find? (fun key => keyId var a = keyId var key) with
      | none => rfl
      | some key =>
        dsimp only
        cases issuerEntry s.spec key <;> rfl
  · simp only [hiss, Bool.false_eq_true, if_false]
    rw [entriesOf_genOps]
    split <;> rfl

theorem entriesOf_flatMap {σ : Type} (f : σ → List Op) (ss : List σ) :
    entriesOf (ss.flatMap f) = ss.flatMap (fun s => entriesOf (f s)) := by
  induction ss with
  | nil => rfl
  | cons s ss ih => simp only [List.flatMap_cons, entriesOf_append, ih]

theorem flatMap_toList_eq_filterMap {σ β : Type} (f : σ → Option β) (ss : List σ) :
    ss.flatMap (fun s => (f s).toList) = ss.filterMap f := by
  induction ss with
  | nil => rfl
  | cons s ss ih =>
    simp only [List.flatMap_cons, List.filterMap_cons, ih]
    cases f s <;> rfl

theorem entriesOf_allOps (var : Variant) (ver : String) (ec : List CheckSpec) (steps : List Step)
    (st : List Artifact) (j : Nat) (a : Artifact) :
    entriesOf (allOps var ver ec steps st j a) =
      steps.filterMap (fun s => expectedEntry var ver ec s st j a) := by
  unfold allOps
  rw [entriesOf_flatMap, ← flatMap_toList_eq_filterMap]
  congr 1
  funext s
  exact entriesOf_stepOps var ver ec s st j a

theorem names_filterMap {σ : Type} (f : σ → Option Entry) (g : σ → String)
    (hf : ∀ s e, f s = some e → e.name = g s) (l : List σ) :
    (l.filterMap f).map (·.name) = (l.filter (fun s => (f s).isSome)).map g := by
  induction l with
  | nil => rfl
  | cons s ss ih =>
    simp only [List.filterMap_cons, List.filter_cons]
    cases h : f s with
    | none => simpa using ih
    | some e => simp [hf s e h, ih]

/-- names of the expected entries: a sub-sequence of the step names. -/
theorem names_filterMap_expected (var : Variant) (ver : String) (ec : List CheckSpec)
    (steps : List Step) (st : List Artifact) (j : Nat) (a : Artifact) :
    ((steps.filterMap (fun s => expectedEntry var ver ec s st j a)).map (·.name)).Sublist
      (steps.map (·.spec.name)) := by
  rw [names_filterMap _ (·.spec.name) fun _ _ he => expectedEntry_name he]
  exact List.filter_sublist.map _

theorem any_isSet_eq (ops : List Op) : ops.any isSet = !(entriesOf ops).isEmpty := by
  induction ops with
  | nil => rfl
  | cons op ops ih =>
    cases op with
    | setTestResult e => simp [isSet, entriesOf]
    | attachInfo k v => simpa [isSet, entriesOf] using ih
    | attachFactors k fs => simpa [isSet, entriesOf] using ih

theorem runOps_version (ver : String) (ti : TestInfo) (ops : List Op) :
    (runOps ver ti ops).version =
      if ti.version = "" ∧ ops.any isSet = true then ver else ti.version := by
  obtain ⟨att, hr⟩ := runOps_eq_sets ver ops ti
  rw [hr, any_isSet_eq]
  exact (foldl_set_version ver _ ti).trans (by cases (entriesOf ops).isEmpty <;> simp)

/-- FRESH artefact: after the checks its result list is exactly the expected entries of the
steps, in order; weak = some entry positive; version recorded as soon as one entry exists. -/
theorem actsBy_fresh {var : Variant} {ver : String} {ec : List CheckSpec} {steps : List Step}
    {st : List Artifact} {j : Nat} {a a' : Artifact}
    (h : ActsBy ver (allOps var ver ec steps st) j a a') (hfresh : a.info = TestInfo.empty)
    (hnd : (steps.map (·.spec.name)).Nodup) :
    a'.info.results = steps.filterMap (fun s => expectedEntry var ver ec s st j a) ∧
    a'.info.weak = a'.info.results.any (·.result) ∧
    a'.info.version = (if a'.info.results.isEmpty then "" else ver) := by
  obtain ⟨_, ho⟩ := h
  rw [hfresh] at ho
  have hres : a'.info.results = entriesOf (allOps var ver ec steps st j a) := by
    have := applyOps_results_fresh ho (by
      simp only [TestInfo.empty, List.map_nil, List.nil_append]
      rw [entriesOf_allOps]
      exact (names_filterMap_expected var ver ec steps st j a).nodup hnd)
    simpa [TestInfo.empty] using this
  refine ⟨by rw [hres, entriesOf_allOps], ?_, ?_⟩
  · rw [applyOps_weak ho, hres]; simp [TestInfo.empty]
  · rw [applyOps_version ho, hres]
    cases (entriesOf (allOps var ver ec steps st j a)).isEmpty <;> simp [TestInfo.empty]

/-! ### which steps write an entry -/

theorem expectedEntry_generic (var : Variant) (ver : String) (ec : List CheckSpec) (s : Step)
    (st : List Artifact) (j : Nat) (a : Artifact) (hs : s.spec.issuer = false) :
    expectedEntry var ver ec s st j a =
      if applicable s.spec a then some (entryFor s.spec (s.verdict j)) else none := by
  simp [expectedEntry, hs]

/-- the checked issuer key of a signature, as CheckIssuerKey sees it. -/
theorem issuer_key_exists {var : Variant} {ver : String} {ec : List CheckSpec}
    {inner : Nat → Nat → Verdict} {arts keys' : List Artifact} {r : Bool}
    (hin : innerCheckAllEC ver ec inner (issuerKeys var arts) = .ok (keys', r))
    (a : Artifact) (ha : a ∈ arts) :
    ∃ k key0 key', (issuerKeys var arts)[k]? = some key0 ∧ keys'[k]? = some key' ∧
      keyId var key0 = keyId var a ∧ (∃ b ∈ arts, key0 = freshKey b) ∧
      ActsBy ver (innerOps ec inner) k key0 key' ∧
      keys'.find? (fun key => keyId var a = keyId var key) = some key' := by
  obtain ⟨key0, hk0, hid⟩ := issuerKeys_cover var arts a ha
  obtain ⟨k, hk⟩ := List.mem_iff_getElem?.1 hk0
  have hpw := innerCheckAllEC_spec hin
  have hlen := hpw.length
  have hk' : k < keys'.length := by
    rw [hlen]
    exact (List.getElem?_eq_some_iff.1 hk).1
  refine ⟨k, key0, keys'[k], hk, List.getElem?_eq_getElem hk', hid,
    issuerKeys_from var arts key0 hk0, ?_, ?_⟩
  · have := hpw.get k key0 keys'[k] hk (List.getElem?_eq_getElem hk')
    simpa using this
  · have hact := hpw.get k key0 keys'[k] hk (List.getElem?_eq_getElem hk')
    have hidk : keyId var keys'[k] = keyId var a := by rw [hact.1.keyId, hid]
    have hnd := innerKeys_nodup (st := arts) hin
    -- the unique key with this id is the one at position k
    rw [List.find?_eq_some_iff_append]
    refine ⟨by simp [hidk], ?_⟩
    refine ⟨keys'.take k, keys'.drop (k + 1), ?_, ?_⟩
    · rw [List.getElem_cons_drop, List.take_append_drop]
    · intro x hx
      simp only [Bool.not_eq_true', decide_eq_false_iff_not]
      intro heq
      obtain ⟨m, hm, hxm⟩ := List.mem_take_iff_getElem.1 hx
      have hmk : m < k := by omega
      have hm' : m < keys'.length := by omega
      have hpair := (List.pairwise_iff_getElem.1 hnd) m k (by simpa using hm') (by simpa using hk') hmk
      apply hpair
      simp only [List.getElem_map]
      rw [hxm, ← heq, hidk]

/-- in a run that returned, every step writes an entry exactly for the artefacts it applies to
(CheckIssuerKey: every signature). -/
theorem expectedEntry_isSome {var : Variant} {ver : String} {ec : List CheckSpec} {s : Step}
    {arts : List Artifact} (hg : StepGood var ver ec s (statics arts)) (j : Nat) (a : Artifact)
    (ha : a ∈ arts) :
    (expectedEntry var ver ec s (statics arts) j a).isSome = (s.spec.issuer || applicable s.spec a) := by
  cases hiss : s.spec.issuer with
  | false =>
    rw [expectedEntry_generic _ _ _ _ _ _ _ hiss]
    cases applicable s.spec a <;> simp
  | true =>
    obtain ⟨keys', r', hin, hok⟩ := hg hiss
    have hin' := hin
    rw [issuerKeys_statics] at hin'
    obtain ⟨k, key0, key', _, hk', _, _, _, hfind⟩ := issuer_key_exists hin' a ha
    obtain ⟨en, hen⟩ := hok key' (List.mem_of_getElem? hk')
    simp [expectedEntry, hiss, hin, hfind, hen]

/-! ### CheckIssuerKey: the verdict copied to a signature -/

/-- do the EC checks flag the issuer key at position `k` of `pks_pb`? -/
def ecFlags (ec : List CheckSpec) (inner : Nat → Nat → Verdict) (k : Nat) (key : Artifact) :
    Prop :=
  ∃ j c, ec[j]? = some c ∧ applicable c key = true ∧ (inner j k).positive = true

theorem posFlag_innerOps (ec : List CheckSpec) (inner : Nat → Nat → Verdict) (k : Nat)
    (key : Artifact) : posFlag (innerOps ec inner k key) = true ↔ ecFlags ec inner k key := by
  unfold innerOps ecFlags
  rw [posFlag_flatMap, List.any_eq_true]
  constructor
  · rintro ⟨⟨c, j⟩, hmem, hf⟩
    rw [posFlag_genOps, Bool.and_eq_true] at hf
    exact ⟨j, c, List.mem_zipIdx_iff_getElem?.1 hmem, hf.1, hf.2⟩
  · rintro ⟨j, c, hc, h1, h2⟩
    refine ⟨(c, j), List.mem_zipIdx_iff_getElem?.2 hc, ?_⟩
    rw [posFlag_genOps, Bool.and_eq_true]; exact ⟨h1, h2⟩

/-- entries the inner CheckAllEC leaves on the (fresh) issuer key at position `k`. -/
def innerEntries (ec : List CheckSpec) (inner : Nat → Nat → Verdict) (k : Nat) (key : Artifact) :
    List Entry :=
  ec.zipIdx.filterMap (fun (s : CheckSpec × Nat) =>
    if applicable s.1 key then some (entryFor s.1 (inner s.2 k)) else none)

theorem entriesOf_innerOps (ec : List CheckSpec) (inner : Nat → Nat → Verdict) (k : Nat)
    (key : Artifact) : entriesOf (innerOps ec inner k key) = innerEntries ec inner k key := by
  unfold innerOps innerEntries
  rw [entriesOf_flatMap, ← flatMap_toList_eq_filterMap]
  congr 1
  funext s
  rw [entriesOf_genOps]
  split <;> rfl

theorem names_innerEntries (ec : List CheckSpec) (inner : Nat → Nat → Verdict) (k : Nat)
    (key : Artifact) :
    ((innerEntries ec inner k key).map (·.name)).Sublist (ec.map (·.name)) := by
  unfold innerEntries
  rw [names_filterMap _ ((·.name) ∘ Prod.fst) fun s e he => by split at he <;> cases he; rfl,
    ← List.map_map]
  refine List.Sublist.map _ ?_
  conv => rhs; rw [← List.zipIdx_map_fst 0 ec]
  exact List.filter_sublist.map _

/-- state of a checked issuer key: fresh ECKey + the inner EC checks. -/
theorem innerKey_state {ver : String} {ec : List CheckSpec} {inner : Nat → Nat → Verdict}
    {k : Nat} {key0 key' : Artifact} (hact : ActsBy ver (innerOps ec inner) k key0 key')
    (hfresh : key0.info = TestInfo.empty) :
    (key'.info.weak = true ↔ ecFlags ec inner k key0) ∧
    ((ec.map (·.name)).Nodup → key'.info.results = innerEntries ec inner k key0) ∧
    Consistent key'.info := by
  have hw := actsBy_weak hact
  rw [hfresh] at hw
  refine ⟨?_, ?_, ?_⟩
  · rw [hw, ← posFlag_innerOps]; simp [TestInfo.empty]
  · intro hnd
    have ho := hact.2
    rw [hfresh] at ho
    have := applyOps_results_fresh ho (by
      simp only [TestInfo.empty, List.map_nil, List.nil_append]
      rw [entriesOf_innerOps]
      exact (names_innerEntries ec inner k key0).nodup hnd)
    simpa [TestInfo.empty, entriesOf_innerOps] using this
  · have := (actsBy_later hact).consistent
    rw [hfresh] at this
    exact this consistent_empty

/-- `test_result.severity = GetHighestSeverity(...)` never assigns `None`: a weak checked key
has a positive entry. -/
theorem issuerEntry_ok_of_consistent (c : CheckSpec) (key : Artifact) (hc : Consistent key.info) :
    ∃ en, issuerEntry c key = .ok en := by
  unfold issuerEntry
  split
  · rename_i hw
    obtain ⟨e, he, hr⟩ := hc.1 hw
    cases hs : getHighestSeverity key.info with
    | none =>
      rw [getHighestSeverity_none] at hs
      rw [hs e he] at hr; cases hr
    | some s => exact ⟨_, rfl⟩
  · exact ⟨_, rfl⟩

/-! ### CheckIssuerKey called directly -/

/-- what one CheckIssuerKey call does to the signature at position `n`: exactly one
SetTestResult, with the test_result built from the checked ECKey whose dictionary key equals the
signature's. -/
theorem checkIssuerKey_entry {var : Variant} {ver : String} {ec : List CheckSpec} {c : CheckSpec}
    {inner : Nat → Nat → Verdict} {arts arts' : List Artifact} {w : Bool}
    (h : checkIssuerKey var ver ec c inner arts = .ok (arts', w))
    (n : Nat) (a a' : Artifact) (ha : arts[n]? = some a) (ha' : arts'[n]? = some a') :
    ∃ k key0 key' en, (issuerKeys var arts)[k]? = some key0 ∧ keyId var key0 = keyId var a ∧
      (∃ b ∈ arts, key0 = freshKey b) ∧ ActsBy ver (innerOps ec inner) k key0 key' ∧
      issuerEntry c key' = .ok en ∧ a'.info = setTestResult ver a.info en ∧ SameKey a a' := by
  unfold checkIssuerKey at h
  split at h
  · cases h
  · rename_i keys' r' hin
    obtain ⟨p, _, hok⟩ := copyBackAll_spec (i := 0) h
    obtain ⟨k, key0, key', hk, hk', hid, hfrom, hact, hfind⟩ :=
      issuer_key_exists hin a (List.mem_of_getElem? ha)
    obtain ⟨en, hen⟩ := hok key' (List.mem_of_getElem? hk')
    have hact' := p.get n a a' ha ha'
    obtain ⟨hkey, ho⟩ := hact'
    have ho : applyOps ver a.info (issuerOps var c keys' a) = .ok a'.info := ho
    rw [issuerOps_eq var c keys' a (innerKeys_nodup hin), hfind] at ho
    simp only [hen, applyOps, applyOp, Except.ok.injEq] at ho
    exact ⟨k, key0, key', en, hk, hid, hfrom, hact, hen, ho.symm, hkey⟩

/-! ### small list facts -/

theorem eq_of_nodup_map {α β : Type} (f : α → β) {l : List α} (hnd : (l.map f).Nodup)
    {x y : α} (hx : x ∈ l) (hy : y ∈ l) (h : f x = f y) : x = y := by
  induction l with
  | nil => cases hx
  | cons z zs ih =>
    simp only [List.map_cons, List.nodup_cons] at hnd
    rcases List.mem_cons.1 hx with hxz | hx' <;> rcases List.mem_cons.1 hy with hyz | hy'
    · rw [hxz, hyz]
    · subst hxz; exact (hnd.1 (List.mem_map.2 ⟨y, hy', h.symm⟩)).elim
    · subst hyz; exact (hnd.1 (List.mem_map.2 ⟨x, hx', h⟩)).elim
    · exact ih hnd.2 hx' hy'

theorem find_of_mem_nodup {l : List Entry} (hnd : (l.map (·.name)).Nodup) {e : Entry}
    (he : e ∈ l) : l.find? (fun x => x.name = e.name) = some e := by
  induction l with
  | nil => cases he
  | cons z zs ih =>
    simp only [List.map_cons, List.nodup_cons] at hnd
    rw [List.find?_cons]
    rcases List.mem_cons.1 he with rfl | he
    · simp
    · have : ¬ z.name = e.name := fun h => hnd.1 (List.mem_map.2 ⟨e, he, h.symm⟩)
      simp only [this, decide_false]
      exact ih hnd.2 he

theorem mkSteps_names (specs : List CheckSpec) (O : Nat → Nat → Verdict)
    (I : Nat → Nat → Nat → Verdict) :
    (mkSteps specs O I).map (·.spec) = specs := by
  unfold mkSteps
  rw [List.map_map]
  exact List.zipIdx_map_fst 0 specs

theorem mem_mkSteps {specs : List CheckSpec} {O : Nat → Nat → Verdict}
    {I : Nat → Nat → Nat → Verdict} {s : Step} :
    s ∈ mkSteps specs O I ↔ ∃ j c, specs[j]? = some c ∧ s = ⟨c, O j, I j⟩ := by
  unfold mkSteps
  rw [List.mem_map]
  constructor
  · rintro ⟨⟨c, j⟩, hmem, rfl⟩
    exact ⟨j, c, List.mem_zipIdx_iff_getElem?.1 hmem, rfl⟩
  · rintro ⟨j, c, hc, rfl⟩
    exact ⟨(c, j), List.mem_zipIdx_iff_getElem?.2 hc, rfl⟩

theorem mkSteps_names_nodup (specs : List CheckSpec) (O : Nat → Nat → Verdict)
    (I : Nat → Nat → Nat → Verdict) (h : (specs.map (·.name)).Nodup) :
    ((mkSteps specs O I).map (·.spec.name)).Nodup := by
  rwa [← mkSteps_names specs O I, List.map_map] at h

theorem find_none_of_not_mem (n : String) (es : List Entry) (h : n ∉ es.map (·.name)) :
    es.find? (fun x => x.name = n) = none := by
  rw [List.find?_eq_none]
  intro x hx
  simp only [decide_eq_true_eq]
  intro hxn
  exact h (List.mem_map.2 ⟨x, hx, hxn⟩)

theorem find_expected (var : Variant) (ver : String) (ec : List CheckSpec) (steps : List Step)
    (st : List Artifact) (j : Nat) (a : Artifact) (hnd : (steps.map (·.spec.name)).Nodup)
    (s : Step) (hs : s ∈ steps) :
    (steps.filterMap fun s => expectedEntry var ver ec s st j a).find?
      (fun x => x.name = s.spec.name) = expectedEntry var ver ec s st j a := by
  cases he : expectedEntry var ver ec s st j a with
  | some e =>
    have := find_of_mem_nodup ((names_filterMap_expected var ver ec steps st j a).nodup hnd)
      (List.mem_filterMap.2 ⟨s, hs, he⟩)
    rwa [expectedEntry_name he] at this
  | none =>
    apply find_none_of_not_mem
    intro hmem
    obtain ⟨e, he', hname⟩ := List.mem_map.1 hmem
    obtain ⟨s', hs', hes'⟩ := List.mem_filterMap.1 he'
    cases eq_of_nodup_map (fun (x : Step) => x.spec.name) hnd hs' hs
      (by rw [← expectedEntry_name hes', hname])
    rw [he] at hes'; cases hes'

/-! ### fresh artefacts under a registry; the issuer-key verdict -/

theorem names_expected_registry {var : Variant} {ver : String} {ec specs : List CheckSpec}
    {O : Nat → Nat → Verdict} {I : Nat → Nat → Nat → Verdict} {st : List Artifact} {n : Nat}
    {a : Artifact}
    (h : ∀ s ∈ mkSteps specs O I, (expectedEntry var ver ec s st n a).isSome =
      (s.spec.issuer || applicable s.spec a)) :
    ((mkSteps specs O I).filterMap fun s => expectedEntry var ver ec s st n a).map (·.name) =
      (specs.filter fun c => c.issuer || applicable c a).map (·.name) := by
  rw [names_filterMap _ (fun s => s.spec.name) (fun s e he => expectedEntry_name he),
    List.filter_congr h]
  conv => rhs; rw [← mkSteps_names specs O I]
  rw [List.filter_map, List.map_map]
  rfl

/-- the three entry points (`C16.checkAllRSA_fresh`, …) are this statement at their registry. -/
theorem registry_fresh {var : Variant} {ver : String} {ec specs : List CheckSpec}
    {O : Nat → Nat → Verdict} {I : Nat → Nat → Nat → Verdict} {arts arts' : List Artifact} {r : Bool}
    (hnd : (specs.map (·.name)).Nodup)
    (h : checkArtifacts var ver ec (mkSteps specs O I) arts = .ok (arts', r))
    {n : Nat} {a a' : Artifact} (ha : arts[n]? = some a) (ha' : arts'[n]? = some a')
    (hfresh : a.info = TestInfo.empty) :
    a'.info.results.map (·.name) =
      (specs.filter fun c => c.issuer || applicable c a).map (·.name) ∧
    (a'.info.weak = true ↔ ∃ e ∈ a'.info.results, e.result = true) ∧
    ((∃ c ∈ specs, (c.issuer || applicable c a) = true) → a'.info.version = ver) ∧
    ∀ j c, specs[j]? = some c →
      getTestResult a'.info c.name = expectedEntry var ver ec ⟨c, O j, I j⟩ (statics arts) n a := by
  have hnd' := mkSteps_names_nodup specs O I hnd
  obtain ⟨_, _, g⟩ := checkArtifacts_spec h
  obtain ⟨h1, h2, h3⟩ := actsBy_fresh (checkArtifacts_acts h ha ha') hfresh hnd'
  have hnames := h1 ▸ names_expected_registry fun s hs =>
    expectedEntry_isSome (g s hs) n a (List.mem_of_getElem? ha)
  refine ⟨hnames, by rw [h2, List.any_eq_true], fun ⟨c, hc, happ⟩ => ?_, fun j c hj => by
    rw [getTestResult, h1]
    exact find_expected var ver ec _ _ n a hnd' _ (mem_mkSteps.2 ⟨j, c, hj, rfl⟩)⟩
  have hmem : c.name ∈ a'.info.results.map (·.name) :=
    hnames ▸ List.mem_map_of_mem (List.mem_filter.2 ⟨hc, happ⟩)
  cases hr : a'.info.results with
  | nil => rw [hr] at hmem; cases hmem
  | cons x xs => rw [h3, hr]; rfl

/-- `hkey`: signatures with `a`'s dictionary key have `a`'s issuer key (true of the repaired
de-duplication; of the pinned one when equal coordinates imply equal curve ids). -/
theorem issuerKey_verdict {var : Variant} {ver : String} {ec : List CheckSpec} {c : CheckSpec}
    {inner : Nat → Nat → Verdict} {arts arts' : List Artifact} {w : Bool}
    (h : checkIssuerKey var ver ec c inner arts = .ok (arts', w))
    {n : Nat} {a a' : Artifact} (ha : arts[n]? = some a) (ha' : arts'[n]? = some a')
    (hkey : ∀ b ∈ arts, keyId var b = keyId var a → freshKey b = freshKey a) :
    ∃ k, (issuerKeys var arts)[k]? = some (freshKey a) ∧
      ∃ e, getTestResult a'.info c.name = some e ∧
        (e.result = true ↔
          (∃ e0, getTestResult a.info c.name = some e0 ∧ e0.result = true) ∨
          ecFlags ec inner k (freshKey a)) := by
  obtain ⟨k, key0, key', en, hk, hid, ⟨b, hb, hkb⟩, hact, hen, hinfo, _⟩ :=
    checkIssuerKey_entry h n a a' ha ha'
  have hk0 : key0 = freshKey a := by
    rw [hkb]
    exact hkey b hb (by rw [← keyId_freshKey var b, ← hkb]; exact hid)
  subst hk0
  obtain ⟨hweak, _, _⟩ := innerKey_state hact rfl
  obtain ⟨e1, e2, _, _⟩ := issuerEntry_spec hen
  refine ⟨k, hk, mergeEntry (getTestResult a.info c.name) en, ?_, ?_⟩
  · rw [hinfo, getTestResult_setTestResult, e1, if_pos rfl]
  · rw [← hweak, ← e2]
    cases getTestResult a.info c.name <;> simp [mergeEntry]

/-! ### when `_CheckArtifacts` returns; where an attached record comes from -/

/-- a verdict whose attachments keep the records under the names in `K` readable. -/
def VerdictKeeps (K : String → Prop) (v : Verdict) : Prop :=
  (∀ k fs, v.factors = some (k, fs) → K k) ∧
    ∀ k x, v.info = some (k, x) → K k → ∃ s, x = AttachedValue.factors s

theorem VerdictKeeps.of_info_none {v : Verdict} (h : v.info = none) :
    VerdictKeeps (fun _ => True) v :=
  ⟨fun _ _ _ => trivial, fun _ _ hx => nomatch h ▸ hx⟩

theorem VerdictKeeps.of_factors_none {v : Verdict} (h : v.factors = none) :
    VerdictKeeps (fun _ => False) v :=
  ⟨fun _ _ hx => (nomatch h ▸ hx), fun _ _ _ hk => hk.elim⟩

theorem verdictOps_keep {K : String → Prop} (c : CheckSpec) {v : Verdict} (hv : VerdictKeeps K v) :
    OpsKeep K (verdictOps c v) := by
  intro op hop
  rcases (mem_verdictOps c v op).1 hop with ⟨_, ⟨p, hp, rfl⟩ | ⟨p, hp, rfl⟩⟩ | rfl
  · exact hv.1 p.1 p.2 hp
  · exact hv.2 p.1 p.2 hp
  · trivial

theorem runCheckFrom_total {K : String → Prop} (ver : String) (c : CheckSpec) {v : Nat → Verdict}
    (hv : ∀ i, VerdictKeeps K (v i)) (i : Nat) {arts : List Artifact}
    (ha : ∀ a ∈ arts, Readable K a.info) :
    ∃ arts' w, runCheckFrom ver c v i arts = .ok (arts', w) ∧ ∀ a ∈ arts', Readable K a.info := by
  induction arts generalizing i with
  | nil => exact ⟨[], false, rfl, fun a h => by cases h⟩
  | cons a as ih =>
    have h1 : ∃ a' w, checkOne ver c a (v i) = .ok (a', w) ∧ Readable K a'.info := by
      unfold checkOne
      split
      · obtain ⟨t, ht, hn⟩ := applyOps_readable ver (ha a List.mem_cons_self)
          (verdictOps_keep c (hv i))
        rw [ht]
        exact ⟨_, _, rfl, hn⟩
      · exact ⟨_, _, rfl, ha a List.mem_cons_self⟩
    obtain ⟨a', w, h1, hn1⟩ := h1
    obtain ⟨as', w', h2, hn2⟩ := ih (i + 1) (fun x hx => ha x (List.mem_cons_of_mem _ hx))
    exact ⟨a' :: as', w || w', by simp only [runCheckFrom, h1, h2],
      List.forall_mem_cons.2 ⟨hn1, hn2⟩⟩

theorem foldChecks_total {σ : Type} {run : σ → List Artifact → Except PyErr (List Artifact × Bool)}
    {P : List Artifact → Prop} {steps : List σ}
    (hrun : ∀ s ∈ steps, ∀ arts, P arts → ∃ arts' w, run s arts = .ok (arts', w) ∧ P arts')
    {arts : List Artifact} (ha : P arts) :
    ∃ arts' r, foldChecks run steps arts = .ok (arts', r) ∧ P arts' := by
  induction steps generalizing arts with
  | nil => exact ⟨arts, false, rfl, ha⟩
  | cons s ss ih =>
    obtain ⟨arts1, r1, h1, p1⟩ := hrun s List.mem_cons_self arts ha
    obtain ⟨arts2, r2, h2, p2⟩ := ih (fun s' h' => hrun s' (List.mem_cons_of_mem _ h')) p1
    exact ⟨arts2, r1 || r2, by simp only [foldChecks, h1, h2], p2⟩

/-- the copy-back loop writes test results only. -/
theorem copyBackAll_total (var : Variant) (ver : String) (c : CheckSpec) {keys : List Artifact}
    (hk : ∀ key ∈ keys, ∃ en, issuerEntry c key = .ok en)
    {K : String → Prop} {arts : List Artifact} (ha : ∀ a ∈ arts, Readable K a.info) :
    ∃ arts' w, copyBackAll var ver c keys arts = .ok (arts', w) ∧
      ∀ a ∈ arts', Readable K a.info := by
  induction keys generalizing arts with
  | nil => exact ⟨arts, false, rfl, ha⟩
  | cons key keys ih =>
    obtain ⟨en, hen⟩ := hk key List.mem_cons_self
    obtain ⟨arts', w, h', he⟩ := ih (fun k h => hk k (List.mem_cons_of_mem _ h))
      (arts := copyBack var ver en key arts) fun a ha' => by
        obtain ⟨b, hb, rfl⟩ := List.mem_map.1 ha'
        split <;> exact ha b hb
    exact ⟨arts', key.info.weak || w, by simp only [copyBackAll, hen, h'], he⟩

/-- CheckIssuerKey returns when the inner EC checks do: their run starts from fresh keys, and a
checked key that is weak has a positive entry. -/
theorem checkIssuerKey_total {K : String → Prop} (var : Variant) (ver : String)
    (ec : List CheckSpec) (c : CheckSpec) {inner : Nat → Nat → Verdict}
    (hin : ∀ j k, VerdictKeeps K (inner j k))
    {arts : List Artifact} (ha : ∀ a ∈ arts, Readable K a.info) :
    ∃ arts' w, checkIssuerKey var ver ec c inner arts = .ok (arts', w) ∧
      ∀ a ∈ arts', Readable K a.info := by
  obtain ⟨keys', r', h, _⟩ := foldChecks_total (P := fun l => ∀ a ∈ l, Readable K a.info)
    (run := fun (s : CheckSpec × Nat) => runCheck ver s.1 (inner s.2)) (steps := ec.zipIdx)
    (fun s _ l hl => runCheckFrom_total ver s.1 (fun k => hin s.2 k) 0 hl)
    (arts := issuerKeys var arts) fun k hk => by
      obtain ⟨a, _, rfl⟩ := issuerKeys_from var arts k hk
      exact readable_empty K
  have h' : innerCheckAllEC ver ec inner (issuerKeys var arts) = .ok (keys', r') := h
  unfold checkIssuerKey
  rw [h']
  refine copyBackAll_total var ver c (fun key hkey => ?_) ha
  obtain ⟨_, key0, hk0, hact⟩ := (innerCheckAllEC_spec h').of_mem_right key hkey
  obtain ⟨a, _, rfl⟩ := issuerKeys_from var arts key0 hk0
  exact issuerEntry_ok_of_consistent c key (innerKey_state hact rfl).2.2

/-- `_CheckArtifacts` returns when the records under the names in `K` are readable and every
verdict keeps them so (`K = fun _ => False`: no check attaches a factor list; `K = fun _ => True`:
no stored value is unparsable and no check attaches a plain value). -/
theorem checkArtifacts_total {K : String → Prop} (var : Variant) (ver : String)
    (ec : List CheckSpec) {steps : List Step}
    (hs : ∀ s ∈ steps, (∀ i, VerdictKeeps K (s.verdict i)) ∧
      (s.spec.issuer = true → ∀ j k, VerdictKeeps K (s.inner j k)))
    {arts : List Artifact} (ha : ∀ a ∈ arts, Readable K a.info) :
    ∃ arts' r, checkArtifacts var ver ec steps arts = .ok (arts', r) ∧
      ∀ a ∈ arts', Readable K a.info :=
  foldChecks_total (run := runStep var ver ec) (fun s hs' l hl => by
    unfold runStep
    split
    · next hiss => exact checkIssuerKey_total var ver ec s.spec ((hs s hs').2 hiss) hl
    · exact runCheckFrom_total ver s.spec (hs s hs').1 0 hl) ha

/-- an attached record found after `_CheckArtifacts` was there before, or was attached by a check
that applies to the artefact, together with a positive result. -/
theorem checkArtifacts_attached {var : Variant} {ver : String} {ec : List CheckSpec}
    {steps : List Step} {arts arts' : List Artifact} {r : Bool}
    (h : checkArtifacts var ver ec steps arts = .ok (arts', r))
    {n : Nat} {a a' : Artifact} (ha : arts[n]? = some a) (ha' : arts'[n]? = some a')
    {p : String × AttachedValue} (hp : p ∈ a'.info.attached) :
    p ∈ a.info.attached ∨ ∃ s ∈ steps, s.spec.issuer = false ∧ applicable s.spec a = true ∧
      (s.verdict n).positive = true ∧ ((s.verdict n).info = some p ∨
        ∃ fs st, (s.verdict n).factors = some (p.1, fs) ∧ p.2 = .factors st) := by
  obtain ⟨k, x⟩ := p
  refine (mem_attached_applyOps (checkArtifacts_acts h ha ha').2 hp).imp_right fun ⟨op, hop, hw⟩ => ?_
  rcases mem_allOps hop with ⟨e, rfl⟩ | ⟨s, hs, hiss, happ, hpos, hq⟩
  · rcases hw with hw | ⟨_, _, hw, _⟩ <;> cases hw
  · refine ⟨s, hs, hiss, happ, hpos, ?_⟩
    rcases hq with ⟨q, hq, rfl⟩ | ⟨q, hq, rfl⟩
    · rcases hw with hw | ⟨fs, st, hw, hst⟩
      · cases hw
      · cases hw; exact .inr ⟨_, st, hq, hst⟩
    · rcases hw with hw | ⟨_, _, hw, _⟩
      · cases hw; exact .inl hq
      · cases hw

end Paranoid
