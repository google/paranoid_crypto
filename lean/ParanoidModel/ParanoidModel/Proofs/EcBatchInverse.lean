/-
Proofs/EcBatchInverse.lean — BatchInverse (Montgomery's simultaneous inversion) equals the
entry-wise `gmpy.invert`, raises ZeroDivisionError exactly when a non-skipped entry is `≡ 0 (mod p)`,
and its final self-check is unreachable.
-/
import ParanoidModel.Proofs.Ec
import ParanoidModel.Proofs.ExceptList
namespace Paranoid.Ec
open Paranoid WeierstrassCurve
variable (c : Curve)

/-- `[f(x) for x in xs]` where `f` may raise: the first exception wins. -/
def mapE {α β} (f : α → Except PyErr β) : List α → Except PyErr (List β)
  | [] => .ok []
  | a :: as =>
    match f a with
    | .error e => .error e
    | .ok b =>
      match mapE f as with
      | .error e => .error e
      | .ok bs => .ok (b :: bs)

theorem mapE_eq_mapM {α β} (f : α → Except PyErr β) : ∀ l : List α, mapE f l = l.mapM f
  | [] => rfl
  | a :: l => by
    rw [mapE, mapE_eq_mapM f l, mapM_cons_eq]
    cases f a with
    | error e => rfl
    | ok b => cases l.mapM f <;> rfl

theorem mapE_ok_iff {α β} {f : α → Except PyErr β} {l : List α} {rs : List β} :
    mapE f l = .ok rs ↔ List.Forall₂ (fun a b => f a = .ok b) l rs := by
  rw [mapE_eq_mapM, mapM_ok_iff]

theorem mapE_forall₂ {α β ι} {f : α → Except PyErr β} {R : α → ι → Prop} {S : β → ι → Prop}
    {as : List α} {is : List ι} (h : List.Forall₂ R as is)
    (hf : ∀ a i, R a i → ∃ b, f a = .ok b ∧ S b i) :
    ∃ bs, mapE f as = .ok bs ∧ List.Forall₂ S bs is :=
  mapE_eq_mapM f as ▸ mapM_forall₂ h hf

/-- specification of one entry of BatchInverse: `None`/`0` ↦ `None`, else `gmpy.invert(v, mod)`. -/
def invEntry (v : Option Int) : Except PyErr (Option Int) :=
  match truthy v with
  | none => .ok none
  | some x =>
    match c.inv x with
    | .error e => .error e
    | .ok i => .ok (some i)

theorem biForward_cons (v : Option Int) (vs : List (Option Int)) (prod : Int) :
    biForward c (v :: vs) prod =
      match truthy v with
      | some x => (some prod :: (biForward c vs (c.red (prod * x))).1, (biForward c vs (c.red (prod * x))).2)
      | none => (none :: (biForward c vs prod).1, (biForward c vs prod).2) := by
  rw [biForward]
  cases truthy v with
  | none => generalize biForward c vs prod = q; obtain ⟨a, b⟩ := q; rfl
  | some x => generalize biForward c vs (c.red (prod * x)) = q; obtain ⟨a, b⟩ := q; rfl

theorem biBackward_cons (v r : Option Int) (vs rs : List (Option Int)) (inv : Int) :
    biBackward c (v :: vs) (r :: rs) inv =
      match truthy v, r with
      | some x, some r' => (some (c.red (r' * (biBackward c vs rs inv).2)) :: (biBackward c vs rs inv).1,
          c.red ((biBackward c vs rs inv).2 * x))
      | _, _ => (r :: (biBackward c vs rs inv).1, (biBackward c vs rs inv).2) := by
  rw [biBackward]
  generalize biBackward c vs rs inv = q; obtain ⟨a, b⟩ := q; rfl

/-- product in `ZMod p` of the entries that BatchInverse does not skip. -/
def fprod : List (Option Int) → ZMod c.p
  | [] => 1
  | v :: vs =>
    match truthy v with
    | some x => (x : ZMod c.p) * fprod vs
    | none => fprod vs

theorem biForward_prod (vs : List (Option Int)) : ∀ prod : Int,
    (((biForward c vs prod).2 : Int) : ZMod c.p) = (prod : ZMod c.p) * fprod c vs := by
  induction vs with
  | nil => intro prod; simp [biForward, fprod]
  | cons v vs ih =>
    intro prod
    rw [biForward_cons, fprod]
    cases hv : truthy v with
    | none => simp only; exact ih prod
    | some x =>
      simp only
      rw [ih, cast_red, Int.cast_mul, mul_assoc]

variable [hp : Fact (Nat.Prime c.p)]

/-- the value `gmpy.invert(x, mod)` when it exists. -/
def invVal (x : Int) : Int :=
  match c.inv x with
  | .ok i => i
  | .error _ => 0

theorem invVal_spec {x : Int} (hx : (x : ZMod c.p) ≠ 0) :
    c.inv x = .ok (invVal c x) ∧ 0 ≤ invVal c x ∧ invVal c x < c.p ∧
      ((invVal c x : Int) : ZMod c.p) = (x : ZMod c.p)⁻¹ := by
  obtain ⟨i, hi, h⟩ := inv_of_ne_zero c hx
  have : invVal c x = i := by simp [invVal, hi]
  rw [this]; exact ⟨hi, h⟩

/-- every non-skipped entry is invertible mod `p`. -/
def AllInvertible (vs : List (Option Int)) : Prop :=
  ∀ v ∈ vs, ∀ x, truthy v = some x → (x : ZMod c.p) ≠ 0

theorem allInvertible_cons {v : Option Int} {vs : List (Option Int)} :
    AllInvertible c (v :: vs) ↔ (∀ x, truthy v = some x → (x : ZMod c.p) ≠ 0) ∧ AllInvertible c vs :=
  List.forall_mem_cons

/-- what BatchInverse returns for an entry when nothing fails. -/
def specEntry (v : Option Int) : Option Int :=
  match truthy v with
  | none => none
  | some x => some (invVal c x)

/-- invariant of the backward pass of Montgomery's trick: started with `inv · (running product) = 1`
it emits the specified entries and ends with `inv' · prod = 1` for the product `prod` the forward
pass started from (reduced, so `inv' = 1` when `prod = 1`: the final self-check passes). -/
theorem biBackward_inv (vs : List (Option Int)) (hall : AllInvertible c vs) : ∀ (prod inv : Int),
    0 ≤ inv → inv < c.p →
    (inv : ZMod c.p) * (((biForward c vs prod).2 : Int) : ZMod c.p) = 1 →
    (biBackward c vs (biForward c vs prod).1 inv).1 = vs.map (specEntry c) ∧
    0 ≤ (biBackward c vs (biForward c vs prod).1 inv).2 ∧
    (biBackward c vs (biForward c vs prod).1 inv).2 < c.p ∧
    (((biBackward c vs (biForward c vs prod).1 inv).2 : Int) : ZMod c.p) * (prod : ZMod c.p) = 1 := by
  have hpos : 0 < c.p := hp.out.pos
  induction vs with
  | nil =>
    intro prod inv h0 hlt h
    simp only [biForward, biBackward, List.map_nil] at h ⊢
    exact ⟨trivial, h0, hlt, h⟩
  | cons v vs ih =>
    intro prod inv h0 hlt h
    obtain ⟨hv0, hall'⟩ := (allInvertible_cons c).mp hall
    rw [biForward_cons] at h ⊢
    cases hv : truthy v with
    | none =>
      simp only [hv] at h ⊢
      rw [biBackward_cons]
      simp only [hv]
      obtain ⟨i1, i2, i3, i4⟩ := ih hall' prod inv h0 hlt h
      refine ⟨?_, i2, i3, i4⟩
      rw [List.map_cons, i1]
      simp [specEntry, hv]
    | some x =>
      simp only [hv] at h ⊢
      rw [biBackward_cons]
      simp only [hv]
      have hx : (x : ZMod c.p) ≠ 0 := hv0 x hv
      obtain ⟨i1, i2, i3, i4⟩ := ih hall' (c.red (prod * x)) inv h0 hlt h
      rw [cast_red, Int.cast_mul] at i4
      obtain ⟨_, s0, slt, sv⟩ := invVal_spec c hx
      refine ⟨?_, red_nonneg c hpos _, red_lt c hpos _, ?_⟩
      · rw [List.map_cons, i1]
        congr 1
        simp only [specEntry, hv]
        congr 1
        apply eq_of_cast_eq c (red_nonneg c hpos _) (red_lt c hpos _) s0 slt
        rw [cast_red, Int.cast_mul, sv]
        apply eq_inv_of_mul_eq_one_left
        linear_combination i4
      · rw [cast_red, Int.cast_mul]
        linear_combination i4

theorem mapE_invEntry_ok (vs : List (Option Int)) (hall : AllInvertible c vs) :
    mapE (invEntry c) vs = .ok (vs.map (specEntry c)) := by
  induction vs with
  | nil => rfl
  | cons v vs ih =>
    obtain ⟨hv0, hall'⟩ := (allInvertible_cons c).mp hall
    rw [mapE, ih hall']
    cases hv : truthy v with
    | none => simp [invEntry, specEntry, hv]
    | some x => simp [invEntry, specEntry, hv, (invVal_spec c (hv0 x hv)).1]

theorem mapE_invEntry_err (vs : List (Option Int)) (hbad : ¬ AllInvertible c vs) :
    mapE (invEntry c) vs = .error .zeroDivision := by
  induction vs with
  | nil => exact absurd (fun v hv => absurd hv (List.not_mem_nil)) hbad
  | cons v vs ih =>
    rw [allInvertible_cons, not_and] at hbad
    rw [mapE]
    cases hv : truthy v with
    | none => simp [invEntry, hv, ih (hbad (fun x hx => by rw [hv] at hx; cases hx))]
    | some x =>
      rcases inv_cases c x with ⟨hx, i, hi, _⟩ | ⟨_, he⟩
      · simp [invEntry, hv, hi, ih (hbad (fun y hy => by rw [hv] at hy; cases hy; exact hx))]
      · simp [invEntry, hv, he]

theorem fprod_eq_zero_iff (vs : List (Option Int)) : fprod c vs = 0 ↔ ¬ AllInvertible c vs := by
  induction vs with
  | nil => simp [fprod, AllInvertible]
  | cons v vs ih =>
    rw [fprod, allInvertible_cons]
    cases truthy v with
    | none => simpa using ih
    | some x => simp only [mul_eq_zero, ih, Option.some.injEq, forall_eq', not_and_or, not_not]

/-- **BatchInverse**: entry `i` is `gmpy.invert(values[i], mod)` for every entry that is not
`None`/`0`, `None` otherwise; the call raises ZeroDivisionError exactly when some such entry is
`≡ 0 (mod p)`; the final self-check (`ArithmeticError`) is unreachable. -/
theorem batchInverse_spec (vs : List (Option Int)) :
    batchInverse c vs = mapE (invEntry c) vs := by
  have hpos : 0 < c.p := hp.out.pos
  unfold batchInverse
  have hprod := biForward_prod c vs 1
  rw [Int.cast_one, one_mul] at hprod
  by_cases hall : AllInvertible c vs
  · rw [mapE_invEntry_ok c vs hall]
    have hne : (((biForward c vs 1).2 : Int) : ZMod c.p) ≠ 0 := by
      rw [hprod]; intro h; exact (fprod_eq_zero_iff c vs).mp h hall
    obtain ⟨hinv, s0, slt, sv⟩ := invVal_spec c hne
    obtain ⟨i1, i2, i3, i4⟩ := biBackward_inv c vs hall 1 _ s0 slt (by rw [sv]; exact inv_mul_cancel₀ hne)
    simp only [hinv]
    have h1 : (biBackward c vs (biForward c vs 1).1 (invVal c (biForward c vs 1).2)).2 = 1 := by
      apply eq_of_cast_eq c i2 i3 (by norm_num) (by have := hp.out.two_le; omega)
      rw [Int.cast_one, mul_one] at i4
      rw [i4, Int.cast_one]
    rw [if_neg (not_not.mpr h1), i1]
  · rw [mapE_invEntry_err c vs hall]
    have h0 : (((biForward c vs 1).2 : Int) : ZMod c.p) = 0 := by
      rw [hprod]; exact (fprod_eq_zero_iff c vs).mpr hall
    rcases inv_cases c (biForward c vs 1).2 with ⟨hne, _⟩ | ⟨_, he⟩
    · exact absurd h0 hne
    · simp only [he]

end Paranoid.Ec
