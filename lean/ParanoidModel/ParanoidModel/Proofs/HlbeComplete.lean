/-
Proofs/HlbeComplete.lean — completeness of FactorHighAndLowBitsEqual (C04, second sentence).

 * `hlbeBits_reaches`: the loop invariant of the bit-fixing walk (the comments in the Python);
 * `two_adic_split`: odd square roots modulo `2^J` agree up to sign modulo `2^(J-1)`;
 * `hlbe_root`: the two 2-adic helper calls succeed and return a square root of `n`;
 * `hlbe_eq`: past the guards the function is the first successful of two walks (its shape, soundness
   and totality are read off this);
 * `hlbe_of_square`: for `n ≡ 1 (mod 8)` and `S² = n + D²` with `2^m ∣ D` and
   `⌈√n⌉ < S < ⌈√n⌉ + 2^j`, `j < 2m`, `j ≤ k`, the function returns factors (no primality);
 * `hlbe_of_half_diff`: the same for `n = p·(p + 2D)`, `S = p + D`, with the size and
   divisibility of `D` as hypotheses;
 * `hlbe_finds_of_odd`: odd `p < q` of equal bit length that agree on `r ≥ 3` low and `s` high bits
   with `r + s ≥ bitLength (p·q) / 4 + 2` put `S = (p+q)/2` into that window, unless
   `(p+q)/2 = ⌈√n⌉` already (the case FermatFactor handles in its first step).
-/
import ParanoidModel.Proofs.Factoring
import ParanoidModel.Proofs.NTheory
import ParanoidModel.Proofs.Basic
import Mathlib.Tactic.Ring
import Mathlib.Tactic.Linarith
import Mathlib.Algebra.Ring.Parity
import Mathlib.Algebra.Ring.Int.Parity
import Mathlib.Data.Nat.ModEq
import Mathlib.Data.Nat.Prime.Basic

namespace Paranoid

theorem xor_bit_iff (s r i : Nat) :
    ((s ^^^ r) >>> i) % 2 = 1 ↔ s.testBit i ≠ r.testBit i := by
  rw [Nat.shiftRight_eq_div_pow]
  have h := Nat.testBit_eq_decide_div_mod_eq (x := s ^^^ r) (i := i)
  rw [Nat.testBit_xor] at h
  constructor
  · intro h1
    rw [h1] at h
    cases hs : s.testBit i <;> cases hr : r.testBit i <;> simp_all
  · intro h1
    cases hs : s.testBit i <;> cases hr : r.testBit i <;> simp_all

theorem testBit_of_mod_eq {x y j i : Nat} (h : x % 2 ^ j = y % 2 ^ j) (hi : i < j) :
    x.testBit i = y.testBit i := by
  simpa [Nat.testBit_mod_two_pow, hi] using congrArg (·.testBit i) h

theorem mod_succ_of_testBit_eq {x y i : Nat} (h : x % 2 ^ i = y % 2 ^ i)
    (hb : x.testBit i = y.testBit i) : x % 2 ^ (i + 1) = y % 2 ^ (i + 1) := by
  apply Nat.eq_of_testBit_eq
  intro b
  rw [Nat.testBit_mod_two_pow, Nat.testBit_mod_two_pow]
  by_cases hlt : b < i + 1
  · rcases Nat.lt_succ_iff_lt_or_eq.mp hlt with hb' | rfl
    · simp [hlt, testBit_of_mod_eq h hb']
    · simp [hb]
  · simp [hlt]

theorem mod_succ_of_testBit_ne {x y i : Nat} (h : x % 2 ^ i = y % 2 ^ i)
    (hb : y.testBit i ≠ x.testBit i) : x % 2 ^ (i + 1) = (y + 2 ^ i) % 2 ^ (i + 1) := by
  apply mod_succ_of_testBit_eq
  · rw [h, Nat.add_mod_right]
  · rw [Nat.add_comm, Nat.testBit_two_pow_add_eq]
    cases hx : x.testBit i <;> cases hy : y.testBit i <;> simp_all

/-- **Loop invariant of the bit-fixing walk** (the comments in the Python: "`s` is the smallest
integer `≥ a` whose `i` low bits agree with `r`"). Let `S` be a target with `S² − n` a perfect
square that agrees with `r` on its `j` low bits. If the walk is at index `i ≤ j` with
`s < S < s + 2^j`, `s ≡ S (mod 2^i)` and at least `j − i` iterations are left, it returns factors
(for every `middle_bits`). -/
theorem hlbeBits_reaches (n r mb S j : Nat)
    (hsq : isSquareI ((S : Int) * S - n) = true) (hr : S % 2 ^ j = r % 2 ^ j) :
    ∀ (fuel i s : Nat), i ≤ j → j ≤ i + fuel → s < S → S < s + 2 ^ j →
      S % 2 ^ i = s % 2 ^ i → ∃ fs, hlbeBits n r mb fuel i s = some fs := by
  intro fuel
  induction fuel with
  | zero =>
    intro i s hij hji hsS hSs hmod
    have hge := Nat.ModEq.add_le_of_lt hmod.symm hsS
    rw [show i = j by omega] at hge; omega
  | succ fuel ih =>
    intro i s hij hji hsS hSs hmod
    have hge := Nat.ModEq.add_le_of_lt hmod.symm hsS
    have hilt : i < j := by
      rcases Nat.lt_or_ge i j with h | h
      · exact h
      · rw [Nat.le_antisymm hij h] at hge; omega
    have hSr : S.testBit i = r.testBit i := testBit_of_mod_eq hr hilt
    unfold hlbeBits
    by_cases hbit : ((s ^^^ r) >>> i) % 2 = 1
    · -- bit `i` of `s` is wrong: the inner loop tests `s + 2^i` (among others) and moves there
      rw [if_pos hbit]
      rw [xor_bit_iff, ← hSr] at hbit
      have htot : 2 ^ (min mb i) * 2 ^ (i - min mb i) = 2 ^ i := by
        rw [← Nat.pow_add]; congr 1; omega
      rcases hlbeInner_cases n (2 ^ (i - min mb i)) (2 ^ (min mb i)) s with ⟨fs, _, _, h, _⟩ | ⟨h1, h2⟩
      · simp only [h]; exact ⟨fs, rfl⟩
      · simp only [h1, htot]
        rcases Nat.eq_or_lt_of_le hge with heq | hlt
        · have := h2 (2 ^ (min mb i)) Nat.one_le_two_pow (Nat.le_refl _)
          rw [htot, heq, hsq] at this
          cases this
        · exact ih (i + 1) (s + 2 ^ i) hilt (by omega) hlt
            (by have := Nat.two_pow_pos i; omega) (mod_succ_of_testBit_ne hmod hbit)
    · rw [if_neg hbit]
      rw [xor_bit_iff, ← hSr, not_not] at hbit
      exact ih (i + 1) s hilt (by omega) hsS hSs (mod_succ_of_testBit_eq hmod hbit.symm)

/-- square roots modulo `2^J` of an odd number agree up to sign modulo `2^(J-1)`. -/
theorem two_adic_split (x y : Int) (J : Nat) (hy : Odd y) (h : (2 : Int) ^ J ∣ x * x - y * y) :
    (2 : Int) ^ (J - 1) ∣ x - y ∨ (2 : Int) ^ (J - 1) ∣ x + y := by
  rcases Nat.lt_or_ge J 2 with hJ | hJ
  · rw [show J - 1 = 0 by omega]; left; simp
  · obtain ⟨k, rfl⟩ : ∃ k, J = k + 1 := ⟨J - 1, by omega⟩
    rw [← sub_neg_eq_add]
    exact (NT.sq_sub_sq_dvd_iff (by omega) x y (Int.odd_iff.1 hy)).1 h

/-- the two 2-adic helper calls of `FactorHighAndLowBitsEqual` succeed for `n ≡ 1 (mod 8)` and
give an odd square root `r0` of `n` modulo `2^K` (`K ≥ 3`). -/
theorem hlbe_root (n K : Nat) (hK : 3 ≤ K) (h8 : n % 8 = 1) :
    ∃ isq r0, inverseSqrt2exp n K = some isq ∧ inverse2exp isq K = some r0 ∧
      r0 * r0 ≡ n [MOD 2 ^ K] ∧ r0 % 2 = 1 := by
  obtain ⟨isq, hisq⟩ := Option.isSome_iff_exists.1 ((NT.inverseSqrt2exp_isSome_iff n K hK).2 h8)
  obtain ⟨r0, hr, hodd, _, hd⟩ := NT.root_of_invSqrt hK hisq
  exact ⟨isq, r0, hisq, hr, NT.modEq_iff_int_dvd.2 (by exact_mod_cast hd), hodd⟩

/-- control flow of `FactorHighAndLowBitsEqual` past the guards: both 2-adic helper calls answer
(`hlbe_root`), `r0` is an odd square root of `n` modulo `2^(k+1)`, and the result is the first
successful walk, towards `r0` or towards `−r0`. -/
theorem hlbe_eq (n mb : Nat) (h6 : ¬ bitLength n < 6) (h8 : n % 8 = 1) :
    ∃ r0, r0 * r0 ≡ n [MOD 2 ^ ((bitLength n + 1) / 2 + 1)] ∧ r0 % 2 = 1 ∧
      factorHighAndLowBitsEqual n mb = .ok
        ((hlbeBits n r0 mb ((bitLength n + 1) / 2) 0 (isqrt (n - 1) + 1)).or
          (hlbeBits n (fMod2exp ((2 : Int) ^ ((bitLength n + 1) / 2) - r0)
            (2 * ((bitLength n + 1) / 2) + 2)) mb ((bitLength n + 1) / 2) 0 (isqrt (n - 1) + 1))) := by
  obtain ⟨isq, r0, h1, h2, hroot, hodd⟩ := hlbe_root n ((bitLength n + 1) / 2 + 1) (by omega) h8
  refine ⟨r0, hroot, hodd, ?_⟩
  unfold factorHighAndLowBitsEqual
  rw [if_neg h6, if_neg (by omega : ¬ n % 8 ≠ 1)]
  simp only [h1, h2]
  cases hlbeBits n r0 mb ((bitLength n + 1) / 2) 0 (isqrt (n - 1) + 1) <;> rfl

theorem hlbe_eq_none (n mb : Nat) (h : bitLength n < 6 ∨ n % 8 ≠ 1) :
    factorHighAndLowBitsEqual n mb = .ok none := by
  unfold factorHighAndLowBitsEqual
  by_cases h6 : bitLength n < 6
  · rw [if_pos h6]
  · rw [if_neg h6, if_pos (h.resolve_left h6)]

/-- what FactorHighAndLowBitsEqual returns: the guards passed and the pair is `[S − b, S + b]`
with `S² − b² = n` and `S < ⌈√n⌉ + 2^k`, `k = (bitLength n + 1) / 2`. -/
theorem hlbe_shape (n mb : Nat) (fs : List Nat)
    (h : factorHighAndLowBitsEqual n mb = .ok (some fs)) :
    6 ≤ bitLength n ∧ n % 8 = 1 ∧
    ∃ S b, S < Nat.sqrt (n - 1) + 1 + 2 ^ ((bitLength n + 1) / 2) ∧ b * b + n = S * S ∧
      fs = [S - b, S + b] := by
  by_cases hg : bitLength n < 6 ∨ n % 8 ≠ 1
  · rw [hlbe_eq_none n mb hg] at h; cases h
  · rw [not_or, not_not] at hg
    obtain ⟨r0, -, -, he⟩ := hlbe_eq n mb hg.1 hg.2
    rw [he, Except.ok.injEq, Option.or_eq_some_iff] at h
    refine ⟨by omega, hg.2, ?_⟩
    rcases h with h | ⟨-, h⟩ <;>
    · obtain ⟨S, b, h1, h2, h3⟩ := hlbeBits_shape _ _ _ _ _ _ _ h
      simp only [Nat.pow_zero, Nat.zero_add, isqrt] at h1
      exact ⟨S, b, by omega, h2, h3⟩

theorem hlbe_sound (n mb : Nat) (fs : List Nat)
    (h : factorHighAndLowBitsEqual n mb = .ok (some fs)) : ∃ x y, fs = [x, y] ∧ x * y = n := by
  obtain ⟨_, _, S, b, _, hsq, rfl⟩ := hlbe_shape n mb fs h
  exact ⟨_, _, rfl, Nat.mul_comm _ _ ▸ sq_sub_sq_nat S b n hsq⟩

theorem hlbe_total (n mb : Nat) : ∃ r, factorHighAndLowBitsEqual n mb = .ok r := by
  by_cases hg : bitLength n < 6 ∨ n % 8 ≠ 1
  · exact ⟨_, hlbe_eq_none n mb hg⟩
  · rw [not_or, not_not] at hg
    obtain ⟨r0, -, -, he⟩ := hlbe_eq n mb hg.1 hg.2
    exact ⟨_, he⟩

theorem isSquareI_of_eq (S n D : Nat) (h : S * S = n + D * D) :
    isSquareI ((S : Int) * S - n) = true := by
  have e : (S : Int) * S - n = ((D * D : Nat) : Int) := by
    have : ((S * S : Nat) : Int) = ((n + D * D : Nat) : Int) := by rw [h]
    push_cast at this ⊢
    linarith
  rw [e, isSquareI_iff]
  refine ⟨Int.natCast_nonneg _, ?_⟩
  rw [Int.toNat_natCast, ← Nat.pow_two D, Nat.sqrt_eq']
  exact (Nat.pow_two D).symm

/-- `2^j ∣ S + r0` puts `S` on the residue class the second walk is started with. -/
theorem mod_fMod2exp_neg {S r0 k j : Nat} (hjk : j ≤ k) (h : (2 : Int) ^ j ∣ (S : Int) + r0) :
    S % 2 ^ j = fMod2exp ((2 : Int) ^ k - r0) (2 * k + 2) % 2 ^ j := by
  apply NT.modEq_iff_int_dvd.2
  push_cast
  unfold fMod2exp
  rw [Int.toNat_of_nonneg (Int.emod_nonneg _ (by positivity))]
  have hdm := Int.mul_ediv_add_emod ((2 : Int) ^ k - r0) ((2 : Int) ^ (2 * k + 2))
  have e : (S : Int) - ((2 : Int) ^ k - r0) % (2 : Int) ^ (2 * k + 2) =
      ((S : Int) + r0) - 2 ^ k + 2 ^ (2 * k + 2) * (((2 : Int) ^ k - r0) / 2 ^ (2 * k + 2)) := by
    linarith
  rw [e]
  exact dvd_add (dvd_sub h (pow_dvd_pow 2 hjk)) (Dvd.dvd.mul_right (pow_dvd_pow 2 (by omega)) _)

/-- **A representation `n = S² − D²` inside the window is found.** `S² ≡ r0² (mod 2^(j+1))` because
`2^(j+1)` divides both `D²` and `n − r0²`; so `S ≡ ±r0 (mod 2^j)` and one of the two walks, which
fix `j ≤ k` low bits while moving less than `2^j`, reaches `S`. -/
theorem hlbe_of_square {n S D m j : Nat} (mb : Nat) (h8 : n % 8 = 1) (h6 : ¬ bitLength n < 6)
    (hSS : S * S = n + D * D) (hD : 2 ^ m ∣ D) (hjm : j + 1 ≤ 2 * m)
    (hjk : j ≤ (bitLength n + 1) / 2)
    (ha : Nat.sqrt (n - 1) + 1 < S) (hSa : S < Nat.sqrt (n - 1) + 1 + 2 ^ j) :
    ∃ fs, factorHighAndLowBitsEqual n mb = .ok (some fs) := by
  obtain ⟨r0, hroot, hr0o, he⟩ := hlbe_eq n mb h6 h8
  rw [he]
  unfold isqrt
  generalize (bitLength n + 1) / 2 = k at hjk hroot ⊢
  have hsq := isSquareI_of_eq S n D hSS
  have hJ : (2 : Int) ^ (j + 1) ∣ (S : Int) * S - (r0 : Int) * r0 := by
    have hA : (2 : Int) ^ (k + 1) ∣ (n : Int) - (r0 : Int) * r0 := by
      exact_mod_cast (Nat.modEq_iff_dvd).mp hroot
    have hB : (2 : Int) ^ (2 * m) ∣ (D : Int) * D := by
      rw [two_mul, pow_add]; exact_mod_cast mul_dvd_mul hD hD
    have e : (S : Int) * S - (r0 : Int) * r0 = ((n : Int) - (r0 : Int) * r0) + (D : Int) * D := by
      have : ((S * S : Nat) : Int) = ((n + D * D : Nat) : Int) := by rw [hSS]
      push_cast at this; linarith
    rw [e]
    exact dvd_add (dvd_trans (pow_dvd_pow 2 (by omega)) hA) (dvd_trans (pow_dvd_pow 2 hjm) hB)
  have hsplit := two_adic_split (S : Int) (r0 : Int) _
    (by rw [Int.odd_coe_nat, Nat.odd_iff]; exact hr0o) hJ
  rw [Nat.add_sub_cancel] at hsplit
  have h0 : S % 2 ^ 0 = (Nat.sqrt (n - 1) + 1) % 2 ^ 0 := by
    rw [Nat.pow_zero, Nat.mod_one, Nat.mod_one]
  rcases hsplit with hminus | hplus
  · obtain ⟨fs, hfs⟩ := hlbeBits_reaches n r0 mb S j hsq (NT.modEq_iff_int_dvd.2 (by push_cast; exact hminus)) k 0 _
      (Nat.zero_le _) (by omega) ha hSa h0
    exact ⟨fs, by rw [hfs]; rfl⟩
  · obtain ⟨fs, hfs⟩ := hlbeBits_reaches n _ mb S j hsq (mod_fMod2exp_neg hjk hplus) k 0 _
      (Nat.zero_le _) (by omega) ha hSa h0
    rw [hfs]
    cases hlbeBits n r0 mb k 0 (Nat.sqrt (n - 1) + 1) <;> exact ⟨_, rfl⟩

theorem low_bits_odd {p q r : Nat} (hp : p.Prime) (hq : q.Prime) (hne : p ≠ q) (hr : 1 ≤ r)
    (hlow : p % 2 ^ r = q % 2 ^ r) : p % 2 = 1 ∧ q % 2 = 1 := by
  have h2 : p % 2 = q % 2 := by
    have h2r : 2 ∣ 2 ^ r := dvd_pow_self 2 (by omega)
    rw [← Nat.mod_mod_of_dvd p h2r, ← Nat.mod_mod_of_dvd q h2r, hlow]
  rcases hp.eq_two_or_odd with rfl | hpo <;> rcases hq.eq_two_or_odd with rfl | hqo <;> omega

theorem odd_mul_mod_eight {p q : Nat} (hpo : p % 2 = 1) (h : p % 8 = q % 8) : p * q % 8 = 1 := by
  have h1 : p % 8 = 1 ∨ p % 8 = 3 ∨ p % 8 = 5 ∨ p % 8 = 7 := by omega
  rw [Nat.mul_mod, ← h]
  rcases h1 with h | h | h | h <;> rw [h]

theorem half_diff_of_low_bits {p q r : Nat} (hlt : p < q) (hr : 1 ≤ r)
    (hlow : p % 2 ^ r = q % 2 ^ r) : ∃ D, q = p + 2 * D ∧ 2 ^ (r - 1) ∣ D := by
  obtain ⟨r, rfl⟩ : ∃ r', r = r' + 1 := ⟨r - 1, by omega⟩
  obtain ⟨t, ht⟩ := (Nat.modEq_iff_dvd' hlt.le).mp hlow
  refine ⟨2 ^ r * t, ?_, Dvd.intro _ rfl⟩
  rw [← Nat.mul_assoc, ← Nat.pow_succ', ← ht]
  omega

theorem half_diff_lt_of_high_bits {p D e : Nat} (h : p / 2 ^ e = (p + 2 * D) / 2 ^ e)
    (hD : p < p + 2 * D) : 1 ≤ e ∧ D < 2 ^ (e - 1) := by
  have e1 := Nat.div_add_mod p (2 ^ e)
  have e2 := Nat.div_add_mod (p + 2 * D) (2 ^ e)
  have h2 := Nat.mod_lt (p + 2 * D) (Nat.two_pow_pos e)
  rw [h] at e1
  rcases e with _ | e
  · omega
  · rw [Nat.pow_succ'] at e1 e2 h2
    exact ⟨by omega, by rw [Nat.add_sub_cancel]; omega⟩

/-- the window: `S² = n + D²`, `n ≤ a²` (`a = ⌈√n⌉`), `n ≥ 2^(L-1)·2^(L-1)`, `D < 2^E` with
`2E ≤ j + L` give `S < a + 2^j`, because `(a + 2^j)² ≥ n + 2^j·2^L ≥ n + 2^(2E) > n + D²`. -/
theorem target_in_window {n S D a L E j : Nat} (hSS : S * S = n + D * D) (han : n ≤ a * a)
    (hn : 2 ^ (L - 1) * 2 ^ (L - 1) ≤ n) (hL : 1 ≤ L) (hD : D < 2 ^ E) (hE : 2 * E ≤ j + L) :
    S < a + 2 ^ j := by
  by_contra hc
  have haL : 2 ^ (L - 1) ≤ a := by
    by_contra h
    exact absurd (Nat.mul_self_lt_mul_self (Nat.lt_of_not_le h)) (by omega)
  have h2a : 2 ^ j * 2 ^ L ≤ 2 ^ j * (2 * a) := by
    rw [← Nat.sub_add_cancel hL, Nat.pow_succ']; exact Nat.mul_le_mul_left _ (by omega)
  have hSS' : (a + 2 ^ j) * (a + 2 ^ j) ≤ S * S := Nat.mul_le_mul (by omega) (by omega)
  have e : (a + 2 ^ j) * (a + 2 ^ j) = a * a + 2 ^ j * (2 * a) + 2 ^ j * 2 ^ j := by ring
  have hDD : D * D < 2 ^ E * 2 ^ E := Nat.mul_self_lt_mul_self hD
  have hEE : 2 ^ E * 2 ^ E ≤ 2 ^ j * 2 ^ L := by
    rw [← Nat.pow_add, ← Nat.pow_add]
    exact Nat.pow_le_pow_right (by norm_num) (by omega)
  omega

/-- the walk may fix `j = min (2r−3) k` bits: with `n` of at least `2L − 1` bits and
`r + s ≥ bitLength n / 4 + 2`, that window still covers `D < 2^(L-s-1)`. -/
theorem window_exponent {B L r s : Nat} (hB : 2 * L - 1 ≤ B) (hrs : B / 4 + 2 ≤ r + s) :
    2 * (L - s - 1) ≤ min (2 * r - 3) ((B + 1) / 2) + L := by
  omega

/-- the factors `p` and `p + 2D` in terms of their half difference: `p ≥ 2^(L-1)` odd,
`2^(r-1) ∣ D` (the `r` low bits agree) and `0 < D < 2^(L-s-1)` (the `s` high bits agree). Then
`S = p + D`, `S² = n + D²`, and `S` lies in the window of `target_in_window`. -/
theorem hlbe_of_half_diff {p D r s L : Nat} (hpo : p % 2 = 1) (hr : 3 ≤ r) (hD0 : 0 < D)
    (hD : 2 ^ (r - 1) ∣ D) (hpl : 2 ^ (L - 1) ≤ p) (hLs : 1 ≤ L - s) (hDE : D < 2 ^ (L - s - 1))
    (hrs : bitLength (p * (p + 2 * D)) / 4 + 2 ≤ r + s) (mb : Nat)
    (ha : Nat.sqrt (p * (p + 2 * D) - 1) + 1 < p + D) :
    ∃ fs, factorHighAndLowBitsEqual (p * (p + 2 * D)) mb = .ok (some fs) := by
  have hD4 : 4 ∣ D := Nat.dvd_trans (pow_dvd_pow 2 (Nat.le_sub_one_of_lt hr)) hD
  have h8 : p * (p + 2 * D) % 8 = 1 := odd_mul_mod_eight hpo (by omega)
  have hql := Nat.le_trans hpl (Nat.le_add_right p (2 * D))
  have hB := bitLength_mul_ge hpl hql
  -- `4 ≤ D < 2^(L-s-1)` gives `L ≥ 4`, so `n` has at least 7 bits
  have hL4 : 2 < L - s - 1 :=
    (Nat.pow_lt_pow_iff_right (by omega)).1 (Nat.lt_of_le_of_lt (Nat.le_of_dvd hD0 hD4) hDE)
  have hp0 := Nat.lt_of_lt_of_le (Nat.two_pow_pos _) hpl
  have hn0 := Nat.mul_pos hp0 (Nat.add_pos_left hp0 (2 * D))
  have han := Nat.lt_succ_sqrt (p * (p + 2 * D) - 1)
  rw [Nat.succ_eq_add_one] at han
  refine hlbe_of_square (m := r - 1) (j := min (2 * r - 3) ((bitLength (p * (p + 2 * D)) + 1) / 2))
    mb h8 (by omega) (by ring) hD (by omega) (Nat.min_le_right ..) ha ?_
  exact target_in_window (L := L) (E := L - s - 1) (by ring) (by omega) (Nat.mul_le_mul hpl hql)
    (Nat.le_trans hLs (Nat.sub_le ..)) hDE (window_exponent hB hrs)

/-- **FactorHighAndLowBitsEqual alone**, for odd `p < q` (primality is only needed for oddness):
under the hypotheses of the property it returns factors for every `middle_bits`, provided
`(p+q)/2` is not already `⌈√n⌉` (`⌈√n⌉ = isqrt(n−1) + 1` is the start value `a` of the walk). -/
theorem hlbe_finds_of_odd {p q r s : Nat} (hpo : p % 2 = 1) (hlt : p < q) (hr : 3 ≤ r)
    (hlow : p % 2 ^ r = q % 2 ^ r) (hL : bitLength p = bitLength q)
    (hhigh : p / 2 ^ (bitLength p - s) = q / 2 ^ (bitLength q - s))
    (hrs : bitLength (p * q) / 4 + 2 ≤ r + s) (mb : Nat)
    (ha : Nat.sqrt (p * q - 1) + 1 < (p + q) / 2) :
    ∃ fs, factorHighAndLowBitsEqual (p * q) mb = .ok (some fs) := by
  -- `q = p + 2D` with `2^(r-1) ∣ D` from the low bits, `(p + q) / 2 = p + D`
  obtain ⟨D, rfl, hD⟩ := half_diff_of_low_bits hlt (Nat.le_trans (by norm_num) hr) hlow
  rw [← Nat.add_assoc, ← Nat.two_mul, ← Nat.mul_add, Nat.mul_div_cancel_left _ Nat.two_pos] at ha
  -- `D < 2^(L-s-1)` from the high bits
  rw [← hL] at hhigh
  obtain ⟨hLs, hDE⟩ := half_diff_lt_of_high_bits hhigh hlt
  exact hlbe_of_half_diff hpo hr (Nat.pos_of_mul_pos_left (Nat.lt_add_right_iff_pos.1 hlt)) hD
    (two_pow_le_of_bitLength p (by rintro rfl; exact absurd hpo (by decide))) hLs hDE hrs mb ha

end Paranoid
