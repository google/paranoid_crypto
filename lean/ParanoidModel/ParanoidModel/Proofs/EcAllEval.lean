/-
Proofs/EcAllEval.lean — the composed EC entry-point models in a form the kernel evaluates faster.

A kernel-evaluated run of `CheckAllEC` spends nearly all its time in the `Multiply(point, inverse)`
calls of `ExtendedBatchDL` (one Jacobian ladder per key and multiplier).  `multiply = multiplyF`
(Proofs/EcNat.lean: the ladder on natural numbers) cannot be used by the kernel while `multiply` is
hidden inside the recursive definitions, so
CheckWeakECPrivateKey is restated here through the generic per-curve loop with the multiplication as a
parameter; the runs of Props/C16EcAll.lean and Props/C16EcAllCert.lean rewrite with `ecRowsG_eq_fast` /
`sigStepsG_issuer_at` before they evaluate.
-/
import ParanoidModel.Proofs.EcAll
import ParanoidModel.Proofs.EcNat
namespace Paranoid.Bsgs
open Paranoid Paranoid.Ec

/-- `extAllPoints` with `Multiply` as a parameter. -/
def extAllPointsW (mul : Pt → Int → Except PyErr Pt) (points : List Pt) :
    List Nat → Except PyErr (List Pt)
  | [] => .ok []
  | inv :: invs =>
    match forE (fun P => mul P (inv : Int)) points with
    | .error e => .error e
    | .ok row =>
      match extAllPointsW mul points invs with
      | .error e => .error e
      | .ok rest => .ok (row ++ rest)

theorem extAllPoints_eq (c : Curve) (points : List Pt) : ∀ invs,
    extAllPoints c points invs = extAllPointsW (multiply c) points invs
  | [] => rfl
  | inv :: invs => by rw [extAllPoints, extAllPointsW, extAllPoints_eq c points invs]; rfl

/-- `weakStep` (the `ExtendedBatchDL` call of CheckWeakECPrivateKey for one curve object) with
`Multiply` as a parameter. -/
def weakStepW (mul : Curve → Pt → Int → Except PyErr Pt) (bound : Nat) (keys : List ECKey)
    (e : FEntry) (c : Curve) (st : EcState) (o : Nat × Nat) :
    Option (Except PyErr (List KV × EcState)) :=
  if (groupPoints e.id keys).isEmpty then none
  else some (
    match extInverses c with
    | .error e => .error e
    | .ok invs =>
      match extAllPointsW (mul c) (groupPoints e.id keys) invs with
      | .error e => .error e
      | .ok all =>
        match batchDLG listImpl c st all bound o.1 o.2 with
        | .error e => .error e
        | .ok (dls, st') =>
          match extCollect (groupPoints e.id keys).length (extMultipliers c) dls 0
              (List.replicate (groupPoints e.id keys).length none) with
          | .error e => .error e
          | .ok res => .ok (res.map dlogVerdict, st'))

theorem weakStep_eq (bound : Nat) (keys : List ECKey) :
    weakStep listImpl bound keys = weakStepW multiply bound keys := by
  funext e c st o
  unfold weakStep weakStepW extendedBatchDLB
  split
  · rfl
  · congr 1
    cases extInverses c with
    | error e => rfl
    | ok invs =>
      simp only [extAllPoints_eq]
      cases extAllPointsW (multiply c) (groupPoints e.id keys) invs with
      | error e => rfl
      | ok all =>
        simp only
        cases batchDLG listImpl c st all bound o.1 o.2 with
        | error e => rfl
        | ok r =>
          simp only
          cases extCollect (groupPoints e.id keys).length (extMultipliers c) r.1 0
              (List.replicate (groupPoints e.id keys).length none) with
          | error e => rfl
          | ok res => rfl

/-- CheckWeakECPrivateKey with every `Multiply` evaluated by `multiplyF`. -/
theorem checkWeakECPrivateKeyB_eq_fast (bound : Nat) (f : Factory) (sts : List EcState)
    (os : List (Nat × Nat)) (keys : List ECKey) :
    EcAll.checkWeakECPrivateKeyB listImpl bound f sts os keys =
      genLoop keys (weakStepW multiplyF bound keys) f sts os (List.replicate keys.length none) := by
  rw [EcAll.checkWeakECPrivateKeyB, weakKeyLoopB_eq_gen, weakStep_eq, multiply_eq_fast]

end Paranoid.Bsgs

namespace Paranoid.EcAll
open Paranoid Paranoid.Ec Paranoid.Bsgs

/-- `ecRowsG listImpl` (the four registered EC checks and the shape check), CheckWeakECPrivateKey
through `multiplyF`. -/
def ecRowsF (p : EcParams) (o : EcOracle) (sts : List EcState) (arts : List Artifact) :
    Except Err (List (List Bsgs.KeyVerdict) × List EcState) :=
  match checkValidECKey ecFactory (arts.map keyOf) with
  | .error e => .error (.py e)
  | .ok row1 =>
    match genLoop (arts.map keyOf) (weakStepW multiplyF p.bound (arts.map keyOf)) ecFactory sts o.wk
        (List.replicate (arts.map keyOf).length none) with
    | .error e => .error (.py e)
    | .ok (row3, sts3) =>
      match checkECKeySmallDifferenceG listImpl ecFactory sts3 o.sd (arts.map keyOf) p.maxDiff with
      | .error e => .error (.py e)
      | .ok (row4, sts4) =>
        if shapeOK ecAll arts [row1, checkWeakCurve ecFactory (arts.map keyOf), row3, row4] then
          .ok ([row1, checkWeakCurve ecFactory (arts.map keyOf), row3, row4], sts4)
        else .error .shape

theorem ecRowsG_eq_fast (p : EcParams) (o : EcOracle) (sts : List EcState) (arts : List Artifact) :
    ecRowsG listImpl p o sts arts = ecRowsF p o sts arts := by
  rw [ecRowsG, ecVerdictsG_ecAll, checkWeakECPrivateKeyB_eq_fast, ecRowsF]
  cases checkValidECKey ecFactory (arts.map keyOf) with
  | error e => rfl
  | ok row1 =>
    simp only
    cases genLoop (arts.map keyOf) (weakStepW multiplyF p.bound (arts.map keyOf)) ecFactory sts o.wk
        (List.replicate (arts.map keyOf).length none) with
    | error e => rfl
    | ok r3 =>
      simp only
      cases checkECKeySmallDifferenceG listImpl ecFactory r3.2 o.sd (arts.map keyOf) p.maxDiff with
      | error e => rfl
      | ok r4 => rfl

/-- the registered signature checks before position `n`, the check at position `n`, the checks
after it. -/
theorem sigStepsG_at {p : EcParams} {O : SigOracle} {arts : List Artifact}
    {sigs : List EcdsaChecks.Sig} : ∀ (l : List (CheckSpec × Nat)) (n : Nat) (cj : CheckSpec × Nat),
    l[n]? = some cj → ∀ st : SigState XTable, sigStepsG listImpl p O arts sigs l st =
      match sigStepsG listImpl p O arts sigs (l.take n) st with
      | .error e => .error e
      | .ok (outs1, st1) =>
        match runSigStepG listImpl p O arts sigs cj.1 cj.2 st1 with
        | .error e => .error e
        | .ok (out, st2) =>
          match sigStepsG listImpl p O arts sigs (l.drop (n + 1)) st2 with
          | .error e => .error e
          | .ok (outs2, st3) => .ok (outs1 ++ out :: outs2, st3)
  | [], _, _, h, _ => by simp at h
  | cj' :: l, 0, cj, h, st => by
    cases h
    simp only [List.take_zero, List.drop_succ_cons, List.drop_zero, sigStepsG, List.nil_append]
    cases runSigStepG listImpl p O arts sigs cj'.1 cj'.2 st with
    | error e => rfl
    | ok r =>
      simp only
      cases sigStepsG listImpl p O arts sigs l r.2 <;> rfl
  | cj' :: l, n + 1, cj, h, st => by
    rw [List.getElem?_cons_succ] at h
    simp only [List.take_succ_cons, List.drop_succ_cons, sigStepsG]
    cases runSigStepG listImpl p O arts sigs cj'.1 cj'.2 st with
    | error e => rfl
    | ok r =>
      simp only
      rw [sigStepsG_at l n cj h r.2]
      cases sigStepsG listImpl p O arts sigs (l.take n) r.2 with
      | error e => rfl
      | ok r1 =>
        simp only
        cases runSigStepG listImpl p O arts sigs cj.1 cj.2 r1.2 with
        | error e => rfl
        | ok r2 =>
          simp only
          cases sigStepsG listImpl p O arts sigs (l.drop (n + 1)) r2.2 with
          | error e => rfl
          | ok r3 => rfl

/-- … when the check at position `n` is CheckIssuerKey: its inner `CheckAllEC` through `ecRowsF`. -/
theorem sigStepsG_issuer_at {p : EcParams} {O : SigOracle} {arts : List Artifact}
    {sigs : List EcdsaChecks.Sig} (l : List (CheckSpec × Nat)) (n : Nat) (c : CheckSpec) (j : Nat)
    (h : l[n]? = some (c, j)) (hname : c.name = "CheckIssuerKey") (hiss : c.issuer = true)
    (st : SigState XTable) : sigStepsG listImpl p O arts sigs l st =
      match sigStepsG listImpl p O arts sigs (l.take n) st with
      | .error e => .error e
      | .ok (outs1, st1) =>
        match ecRowsF p (O.floats j) st1.tables (issuerKeys .repaired arts) with
        | .error e => .error e
        | .ok (rows, tables') =>
          match sigStepsG listImpl p O arts sigs (l.drop (n + 1)) ⟨tables', st1.factory⟩ with
          | .error e => .error e
          | .ok (outs2, st3) => .ok (outs1 ++ .inner rows :: outs2, st3) := by
  rw [sigStepsG_at l n (c, j) h st]
  cases sigStepsG listImpl p O arts sigs (l.take n) st with
  | error e => rfl
  | ok r1 =>
    simp only [runSigStepG, if_pos hname, if_pos hiss, ecRowsG_eq_fast]
    cases ecRowsF p (O.floats j) r1.2.tables (issuerKeys .repaired arts) with
    | error e => rfl
    | ok r => rfl

end Paranoid.EcAll
