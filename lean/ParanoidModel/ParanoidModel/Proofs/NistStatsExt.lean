/-
Proofs/NistStatsExt.lean — helper lemmas for Props/C12Stats.lean, extended_nist_suite:
`LargeBinaryMatrixRank` (which sub-matrix, which sizes) and `LinearComplexityScatter` (which interleaved
sequences, of which length).
-/
import ParanoidModel.Proofs.NistStatsLc
namespace Paranoid.NistStats
open Paranoid Paranoid.Nist

/-! ### LargeBinaryMatrixRank -/

/-- the matrix the model eliminates is `SplitSequence(bits & (2^(s²) − 1), s², s)`. -/
theorem largeRank_matrix (bits n s : Nat) (h : s * s ≤ n) :
    (chunks ((bitList bits n).take (s * s)) s).map natOfBits = largeRankMatrix bits s := by
  have ht : (bitList bits n).take (s * s) = bitList bits (s * s) := by
    rw [bitList_eq, bitList_eq, bitsSmall_take, Nat.min_eq_left h]
  rw [ht, chunks_bitList_int]
  unfold largeRankMatrix
  by_cases hs : s = 0
  · subst hs; simp
  · rw [Nat.mul_div_cancel _ (Nat.pos_of_ne_zero hs)]

theorem largeRankMatrix_length (bits s : Nat) : (largeRankMatrix bits s).length = s := by
  unfold largeRankMatrix; simp

theorem largeRankMatrix_entry (bits s i c : Nat) (hi : i < s) :
    ((largeRankMatrix bits s)[i]?.map (fun row => row.testBit c)) =
      some (decide (c < s) && bits.testBit (i * s + c)) := by
  unfold largeRankMatrix blockInt
  rw [List.getElem?_map, List.getElem?_range hi]
  simp only [Option.map_some, Nat.testBit_mod_two_pow, Nat.testBit_shiftRight]

theorem sq_le_sq_mul (size j : Nat) : size * size ≤ size * 2 ^ j * (size * 2 ^ j) := by
  have h1 : 1 ≤ 2 ^ j := Nat.one_le_two_pow
  have h2 : size ≤ size * 2 ^ j := Nat.le_mul_of_pos_right size h1
  exact Nat.mul_le_mul h2 h2

theorem largeRankLoop_get (l : List Bool) (n : Nat) :
    ∀ (f size j : Nat), n < size * size * 4 ^ f →
      (largeRankLoop l n f size)[j]? =
        if size * 2 ^ j * (size * 2 ^ j) ≤ n then
          some (size * 2 ^ j, binaryRank ((chunks (l.take (size * 2 ^ j * (size * 2 ^ j))) (size * 2 ^ j)).map natOfBits))
        else none
  | 0, size, j, h => by
    have := sq_le_sq_mul size j
    rw [if_neg (by simp at h; omega)]
    rfl
  | f + 1, size, j, h => by
    unfold largeRankLoop
    by_cases hs : size * size ≤ n
    · rw [if_pos hs]
      cases j with
      | zero => simp [hs]
      | succ j =>
        rw [List.getElem?_cons_succ, largeRankLoop_get l n f (2 * size) j (by
          rw [Nat.pow_succ] at h
          have : 2 * size * (2 * size) * 4 ^ f = size * size * (4 ^ f * 4) := by ring
          omega)]
        have e : 2 * size * 2 ^ j = size * 2 ^ (j + 1) := by rw [Nat.pow_succ]; ring
        rw [e]
    · rw [if_neg hs]
      have := sq_le_sq_mul size j
      rw [if_neg (by omega)]
      rfl

theorem lt_four_pow (n : Nat) : n < 64 * 64 * 4 ^ n := by
  have h1 : n < 2 ^ n := Nat.lt_two_pow_self
  have h2 : 2 ^ n ≤ 4 ^ n := Nat.pow_le_pow_left (by omega) n
  have h3 : 4 ^ n ≤ 64 * 64 * 4 ^ n := Nat.le_mul_of_pos_left _ (by omega)
  omega

theorem largeRank_get (bits n : Nat) (res : List (Nat × Nat)) (h : largeBinaryMatrixRank bits n = .ok res)
    (j : Nat) :
    res[j]? = if 64 * 2 ^ j * (64 * 2 ^ j) ≤ n
      then some (64 * 2 ^ j, binaryRank (largeRankMatrix bits (64 * 2 ^ j))) else none := by
  unfold largeBinaryMatrixRank at h
  by_cases h0 : n < 64 * 64
  · rw [if_pos h0] at h; cases h
  · rw [if_neg h0] at h
    simp only [Except.ok.injEq] at h
    rw [← h, largeRankLoop_get _ n n 64 j (lt_four_pow n)]
    by_cases hs : 64 * 2 ^ j * (64 * 2 ^ j) ≤ n
    · rw [if_pos hs, if_pos hs, largeRank_matrix bits n _ hs]
    · rw [if_neg hs, if_neg hs]

/-! ### LinearComplexityScatter -/

theorem scatterSeqInt_testBit (bits step i size t : Nat) :
    (scatterSeqInt bits step i size).testBit t = (decide (t < size) && bits.testBit (i + step * t)) := by
  unfold scatterSeqInt
  rw [natOfBits_testBit, List.getD_eq_getElem?_getD, List.getElem?_map]
  by_cases ht : t < size
  · rw [List.getElem?_range ht]; simp [ht]
  · rw [List.getElem?_eq_none (by simp; omega)]; simp [ht]

theorem scatterSeqInt_lt (bits step i size : Nat) : scatterSeqInt bits step i size < 2 ^ size := by
  unfold scatterSeqInt
  have := natOfBits_lt ((List.range size).map (fun t => bits.testBit (i + step * t)))
  simpa using this

/-- the bits of interleaved sequence i, in the order Berlekamp–Massey reads them. -/
theorem bitsOf_scatterSeqInt (bits step i size : Nat) :
    Lfsr.bitsOf (scatterSeqInt bits step i size) size =
      (List.range size).map (fun t => bits.testBit (i + step * t)) := by
  unfold Lfsr.bitsOf
  apply List.map_congr_left
  intro t ht
  rw [scatterSeqInt_testBit]
  simp [List.mem_range.mp ht]

theorem scatterComplexities_eq (bits n step : Nat) :
    scatterComplexities bits n step =
      (List.range step).map (fun i =>
        Lfsr.shortestLfsr ((List.range ((n + step - 1 - i) / step)).map (fun t => bits.testBit (i + step * t)))) := by
  unfold scatterComplexities
  apply List.map_congr_left
  intro i _
  rw [bmLength_eq_textbookL, Lfsr.textbookL_eq_shortestLfsr, bitsOf_scatterSeqInt]

/-- ceiling division: the positions i + step·t, t < ⌈(n − i)/step⌉, are exactly those below n. -/
theorem scatter_index (n step i t : Nat) (hs : 0 < step) :
    t < (n + step - 1 - i) / step ↔ i + step * t < n := by
  rw [Nat.lt_div_iff_mul_lt hs]
  constructor
  · intro h; rw [Nat.mul_comm] at h; omega
  · intro h; rw [Nat.mul_comm]; omega

/-- what `util.Scatter` returns (C15: `IsScatter`) for a well-formed n-bit string is, stream by stream,
the integer the model feeds to Berlekamp–Massey. -/
theorem isScatter_stream (b n step : Nat) (res : List Nat) (hb : b < 2 ^ n) (hs : 0 < step)
    (h : BitDefs.IsScatter b step res) (i : Nat) (hi : i < res.length) :
    res[i] = scatterSeqInt b step i ((n + step - 1 - i) / step) := by
  apply Nat.eq_of_testBit_eq
  intro t
  rw [h.2 i hi t, scatterSeqInt_testBit]
  by_cases ht : t < (n + step - 1 - i) / step
  · simp [ht]
  · have hge : ¬ i + step * t < n := fun hc => ht ((scatter_index n step i t hs).mpr hc)
    have : b.testBit (i + step * t) = false := by
      apply Nat.testBit_lt_two_pow
      exact Nat.lt_of_lt_of_le hb (Nat.pow_le_pow_right (by omega) (by omega))
    simp [ht, this]

theorem scatterSeqInt_congr (b bits n step i : Nat) (hs : 0 < step)
    (h : ∀ j < n, b.testBit j = bits.testBit j) :
    scatterSeqInt b step i ((n + step - 1 - i) / step) = scatterSeqInt bits step i ((n + step - 1 - i) / step) := by
  apply Nat.eq_of_testBit_eq
  intro t
  rw [scatterSeqInt_testBit, scatterSeqInt_testBit]
  by_cases ht : t < (n + step - 1 - i) / step
  · rw [h _ ((scatter_index n step i t hs).mp ht)]
  · simp [ht]

theorem scatterComplexities_length (bits n step : Nat) : (scatterComplexities bits n step).length = step := by
  unfold scatterComplexities; simp

theorem scatterSizes_length (n step : Nat) : (scatterSizes n step).length = step := by
  unfold scatterSizes; simp

end Paranoid.NistStats
