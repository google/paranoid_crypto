/-
Proofs/EcAllFast.lean — the native driver runs the composed entry-point models of Model/EcAll.lean
with the hash-map instance of the `_table` dict; the theorems of Props/C16EcAll.lean are about the
association-list instance.  Composition of Proofs/BsgsFast.lean: from `Sim`-related states both give
the same error, or the same annotated batch / return value / per-check outputs and related states.
-/
import ParanoidModel.Model.EcAll
import ParanoidModel.Proofs.BsgsFast
import ParanoidModel.Proofs.EcTotal
namespace Paranoid.EcAll
open Paranoid Paranoid.Ec Paranoid.Bsgs

/-- results of two runs of a composed model: same error, or `R`-related values. -/
def RelErr {α β} (R : α → β → Prop) : Except Err α → Except Err β → Prop
  | .ok a, .ok b => R a b
  | .error e, .error e' => e = e'
  | _, _ => False

theorem relErr_cases {α β} {R : α → β → Prop} {x : Except Err α} {y : Except Err β}
    (h : RelErr R x y) :
    (∃ e, x = .error e ∧ y = .error e) ∨ ∃ a b, x = .ok a ∧ y = .ok b ∧ R a b := by
  cases x <;> cases y
  · exact .inl ⟨_, rfl, congrArg _ (Eq.symm h)⟩
  · exact h.elim
  · exact h.elim
  · exact .inr ⟨_, _, rfl, rfl, h⟩

theorem relErr_liftPy {α β} {R : α → β → Prop} {x : Except PyErr α} {y : Except PyErr β}
    (h : RelE R x y) : RelErr R (liftPy x) (liftPy y) := by
  rcases RelE.cases h with ⟨e, rfl, rfl⟩ | ⟨a, b, rfl, rfl, hr⟩
  · rfl
  · exact hr

theorem weakKeyLoopB_sim (bound : Nat) (keys : List ECKey) (f : Factory)
    (ss : List (StateG XTable)) (ts : List (StateG HTable)) (os : List (Nat × Nat))
    (res : List Bsgs.KeyVerdict) (h : SimSts ss ts) :
    SimResL (weakKeyLoopB listImpl bound keys f ss os res) (weakKeyLoopB hashImpl bound keys f ts os res) := by
  rw [weakKeyLoopB_eq_gen, weakKeyLoopB_eq_gen]
  exact genLoop_sim keys (weakStep_sim bound keys) f os res h

/-- rows and states of one / all registered EC checks. -/
def RowsSim {α} : Except Err (α × List (StateG XTable)) → Except Err (α × List (StateG HTable)) → Prop :=
  RelErr fun a b => a.1 = b.1 ∧ SimSts a.2 b.2

theorem runEcCheckG_sim (p : EcParams) (o : EcOracle) (keys : List ECKey) (name : String)
    {ss : List (StateG XTable)} {ts : List (StateG HTable)} (h : SimSts ss ts) :
    RowsSim (runEcCheckG listImpl p o keys name ss) (runEcCheckG hashImpl p o keys name ts) := by
  unfold runEcCheckG
  split
  · cases checkValidECKey ecFactory keys with
    | error e => rfl
    | ok row => exact ⟨rfl, h⟩
  · split
    · exact ⟨rfl, h⟩
    · split
      · exact relErr_liftPy (weakKeyLoopB_sim p.bound keys ecFactory ss ts o.wk _ h)
      · split
        · exact relErr_liftPy ((driver_agrees_checks ecFactory h keys).2 o.sd p.maxDiff)
        · rfl

theorem ecVerdictsG_sim (p : EcParams) (o : EcOracle) (keys : List ECKey) :
    ∀ (names : List String) (ss : List (StateG XTable)) (ts : List (StateG HTable)), SimSts ss ts →
    RowsSim (ecVerdictsG listImpl p o keys names ss) (ecVerdictsG hashImpl p o keys names ts)
  | [], _, _, h => ⟨rfl, h⟩
  | name :: names, ss, ts, h => by
    rw [ecVerdictsG, ecVerdictsG]
    rcases relErr_cases (runEcCheckG_sim p o keys name h) with
      ⟨e, h1, h2⟩ | ⟨⟨row1, s1⟩, ⟨row2, s2⟩, h1, h2, hr, hs⟩
    · rw [h1, h2]; rfl
    · rw [h1, h2]
      simp only at hr hs ⊢
      subst hr
      rcases relErr_cases (ecVerdictsG_sim p o keys names s1 s2 hs) with
        ⟨e, h3, h4⟩ | ⟨q1, q2, h3, h4, hq, hs'⟩
      · rw [h3, h4]; rfl
      · rw [h3, h4]
        exact ⟨by simp only; rw [hq], hs'⟩

theorem ecRowsG_sim (p : EcParams) (o : EcOracle) (arts : List Artifact)
    {ss : List (StateG XTable)} {ts : List (StateG HTable)} (h : SimSts ss ts) :
    RowsSim (ecRowsG listImpl p o ss arts) (ecRowsG hashImpl p o ts arts) := by
  unfold ecRowsG
  rcases relErr_cases (ecVerdictsG_sim p o (arts.map keyOf) (ecAll.map (·.name)) ss ts h) with
    ⟨e, h1, h2⟩ | ⟨⟨rows1, s1⟩, ⟨rows2, s2⟩, h1, h2, hr, hs⟩
  · rw [h1, h2]; rfl
  · rw [h1, h2]
    simp only at hr hs ⊢
    subst hr
    split
    · exact ⟨rfl, hs⟩
    · rfl

/-- ★ `CheckAllEC`: the driver's instance and the instance of the theorems agree. -/
theorem checkAllECFullG_sim (p : EcParams) (o : EcOracle) (arts : List Artifact)
    {ss : List (StateG XTable)} {ts : List (StateG HTable)} (h : SimSts ss ts) :
    RowsSim (checkAllECFullG listImpl p o ss arts) (checkAllECFullG hashImpl p o ts arts) := by
  unfold checkAllECFullG
  rcases relErr_cases (ecRowsG_sim p o arts h) with
    ⟨e, h1, h2⟩ | ⟨⟨rows1, s1⟩, ⟨rows2, s2⟩, h1, h2, hr, hs⟩
  · rw [h1, h2]; rfl
  · rw [h1, h2]
    simp only at hr hs ⊢
    subst hr
    cases checkAllEC .repaired (verdictAt rows1) noInner arts with
    | error e => rfl
    | ok r => exact ⟨rfl, hs⟩

/-- the curve objects of the two instances: same `_cache`s, related `_table`s. -/
def SimSig (a : SigState XTable) (b : SigState HTable) : Prop :=
  SimSts a.tables b.tables ∧ a.factory = b.factory

def StepSim {α} : Except Err (α × SigState XTable) → Except Err (α × SigState HTable) → Prop :=
  RelErr fun a b => a.1 = b.1 ∧ SimSig a.2 b.2

theorem runSigStepG_sim (p : EcParams) (O : SigOracle) (arts : List Artifact)
    (sigs : List EcdsaChecks.Sig) (c : CheckSpec) (j : Nat) {a : SigState XTable}
    {b : SigState HTable} (h : SimSig a b) :
    StepSim (runSigStepG listImpl p O arts sigs c j a) (runSigStepG hashImpl p O arts sigs c j b) := by
  obtain ⟨ht, hf⟩ := h
  unfold runSigStepG
  split
  · split
    · rcases relErr_cases (ecRowsG_sim p (O.floats j) (issuerKeys .repaired arts) ht) with
        ⟨e, h1, h2⟩ | ⟨⟨rows1, s1⟩, ⟨rows2, s2⟩, h1, h2, hr, hs⟩
      · rw [h1, h2]; rfl
      · rw [h1, h2]
        simp only at hr hs
        subst hr
        exact ⟨rfl, hs, hf⟩
    · rfl
  · rw [hf]
    split
    · rfl
    · cases EcdsaChecks.check _ (O.solver j) b.factory sigs with
      | error e => rfl
      | ok res =>
        simp only
        split
        · exact ⟨rfl, ht, rfl⟩
        · rfl

theorem sigStepsG_sim (p : EcParams) (O : SigOracle) (arts : List Artifact)
    (sigs : List EcdsaChecks.Sig) : ∀ (l : List (CheckSpec × Nat)) (a : SigState XTable)
    (b : SigState HTable), SimSig a b →
    StepSim (sigStepsG listImpl p O arts sigs l a) (sigStepsG hashImpl p O arts sigs l b)
  | [], _, _, h => ⟨rfl, h⟩
  | cj :: rest, a, b, h => by
    rw [sigStepsG, sigStepsG]
    rcases relErr_cases (runSigStepG_sim p O arts sigs cj.1 cj.2 h) with
      ⟨e, h1, h2⟩ | ⟨⟨out1, s1⟩, ⟨out2, s2⟩, h1, h2, hr, hs⟩
    · rw [h1, h2]; rfl
    · rw [h1, h2]
      simp only at hr hs ⊢
      subst hr
      rcases relErr_cases (sigStepsG_sim p O arts sigs rest s1 s2 hs) with
        ⟨e, h3, h4⟩ | ⟨q1, q2, h3, h4, hq, hs'⟩
      · rw [h3, h4]; rfl
      · rw [h3, h4]
        exact ⟨by simp only; rw [hq], hs'⟩

/-- ★ `CheckAllECDSASigs`: the driver's instance and the instance of the theorems agree on the
annotated batch, the return value, what every registered check produced (verdicts, solver calls,
inner rows) and leave related curve objects. -/
theorem checkAllECDSASigsFullG_sim (p : EcParams) (O : SigOracle) (sarts : List SigArt)
    {a : SigState XTable} {b : SigState HTable} (h : SimSig a b) :
    RelErr (fun (x : SigRun XTable) (y : SigRun HTable) =>
        x.result = y.result ∧ x.outs = y.outs ∧ SimSig x.state y.state)
      (checkAllECDSASigsFullG listImpl p O a sarts) (checkAllECDSASigsFullG hashImpl p O b sarts) := by
  unfold checkAllECDSASigsFullG
  rcases relErr_cases (sigStepsG_sim p O (sarts.map SigArt.art) (sarts.map SigArt.sig) ecdsaAll.zipIdx a b h)
    with ⟨e, h1, h2⟩ | ⟨⟨outs1, s1⟩, ⟨outs2, s2⟩, h1, h2, hr, hs⟩
  · rw [h1, h2]; rfl
  · rw [h1, h2]
    simp only at hr hs ⊢
    subst hr
    cases checkAllECDSASigs .repaired (sigVerdictAt outs1) (sigInnerAt outs1) (sarts.map SigArt.art) with
    | error e => rfl
    | ok r => exact ⟨rfl, rfl, hs⟩

end Paranoid.EcAll
