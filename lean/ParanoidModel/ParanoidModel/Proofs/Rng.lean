/-
Proofs/Rng.lean — lemmas for Props/C20.lean (generators of randomness_tests/rng.py).
Byte strings as numbers (`fromLE`, `toLE`, `take`, the masked top byte = `% 2^n`); the finishing lemmas
every range theorem is an instance of (`finishLE_lt`, `finishWord_lt`, `finishShift_lt`, `maskLast_lt`:
they need the byte count only, never the generator's state or step); `JavaRandom` = `java.util.Random` +
`BigInteger(numBits, rnd)` (`javaRandom_eq_spec`); the repaired `TruncLcgRand` = low `n` bits of the LCG
stream (`truncLcgCore_repaired_eq`); no `to_bytes` of the model can overflow (`*_out_fits`).
-/
import ParanoidModel.Model.Rng
import ParanoidModel.Spec.JavaRandom
import ParanoidModel.Spec.TruncLcg
import Mathlib.Tactic.Ring
namespace Paranoid.Rng

theorem pow256 (k : Nat) : 256 ^ k = 2 ^ (8 * k) := by
  rw [Nat.pow_mul]

theorem fromLE_lt (l : List UInt8) : fromLE l < 256 ^ l.length := by
  induction l with
  | nil => simp [fromLE]
  | cons b bs ih =>
    have hb := UInt8.toNat_lt b
    simp only [fromLE, List.length_cons, Nat.pow_succ]
    omega

theorem fromLE_append (l1 l2 : List UInt8) :
    fromLE (l1 ++ l2) = fromLE l1 + 256 ^ l1.length * fromLE l2 := by
  induction l1 with
  | nil => simp [fromLE]
  | cons b bs ih =>
    simp only [List.cons_append, fromLE, ih, List.length_cons, Nat.pow_succ]
    ring

@[simp] theorem toLE_length (k x : Nat) : (toLE k x).length = k := by
  induction k generalizing x with
  | zero => rfl
  | succ k ih => simp [toLE, ih]

theorem toUInt8_toNat (x : Nat) : x.toUInt8.toNat = x % 256 := by
  rw [Nat.toUInt8_eq, UInt8.toNat_ofNat']

theorem fromLE_toLE (k x : Nat) : fromLE (toLE k x) = x % 256 ^ k := by
  induction k generalizing x with
  | zero => simp [toLE, fromLE, Nat.mod_one]
  | succ k ih =>
    simp only [toLE, fromLE, ih, toUInt8_toNat]
    rw [Nat.pow_succ, Nat.mul_comm (256 ^ k) 256, Nat.mod_mul]

theorem byte_mod (b F M : Nat) (hb : b < 256) : (b + 256 * F) % (256 * M) = b + 256 * (F % M) := by
  rw [Nat.add_comm, Nat.mod_mul, Nat.mul_add_mod, Nat.mod_eq_of_lt hb, Nat.mul_add_div (by decide),
    Nat.div_eq_of_lt hb, Nat.add_zero]

theorem fromLE_take (l : List UInt8) (k : Nat) : fromLE (l.take k) = fromLE l % 256 ^ k := by
  induction l generalizing k with
  | nil => simp [fromLE]
  | cons b bs ih =>
    cases k with
    | zero => simp [fromLE, Nat.mod_one]
    | succ k =>
      simp only [List.take_succ_cons, fromLE, ih]
      rw [Nat.pow_succ, Nat.mul_comm (256 ^ k) 256, byte_mod _ _ _ (UInt8.toNat_lt b)]


theorem byteMask_eq (n : Nat) : byteMask n = 2 ^ (n % 8) - 1 := by
  simp [byteMask, Nat.one_shiftLeft]

theorem byteMask_lt (n : Nat) : byteMask n < 256 := by
  rw [byteMask_eq]
  have : 2 ^ (n % 8) ≤ 2 ^ 8 := Nat.pow_le_pow_right (by decide) (by omega)
  omega

theorem and_mask_toNat (b : UInt8) (n : Nat) :
    (b &&& (byteMask n).toUInt8).toNat = b.toNat % 2 ^ (n % 8) := by
  rw [UInt8.toNat_and, toUInt8_toNat, Nat.mod_eq_of_lt (byteMask_lt n), byteMask_eq,
    Nat.and_two_pow_sub_one_eq_mod]

@[simp] theorem maskLast_length (m : Nat) (l : List UInt8) : (maskLast m l).length = l.length := by
  induction l with
  | nil => rfl
  | cons b bs ih =>
    cases bs with
    | nil => rfl
    | cons b' bs => simp only [maskLast, List.length_cons] at ih ⊢; omega

@[simp] theorem maskHead_length (m : Nat) (l : List UInt8) : (maskHead m l).length = l.length := by
  cases l <;> rfl

/-- masking the last (most significant) byte of a little-endian array with `2^j - 1`
is reduction modulo `2^j * 256^(len-1)`. -/
theorem fromLE_maskLast (n : Nat) (l : List UInt8) (hl : l ≠ []) :
    fromLE (maskLast (byteMask n) l) = fromLE l % (2 ^ (n % 8) * 256 ^ (l.length - 1)) := by
  induction l with
  | nil => exact absurd rfl hl
  | cons b bs ih =>
    cases bs with
    | nil =>
      simp only [maskLast, fromLE, and_mask_toNat, List.length_cons, List.length_nil]
      simp
    | cons b' bs =>
      have ih' := ih (by simp)
      simp only [maskLast, fromLE, List.length_cons] at ih' ⊢
      rw [ih']
      have : bs.length + 1 + 1 - 1 = (bs.length + 1 - 1) + 1 := by omega
      rw [this, Nat.pow_succ, ← Nat.mul_assoc, Nat.mul_comm _ 256, byte_mod _ _ _ (UInt8.toNat_lt b)]

theorem reverse_maskHead (m : Nat) (l : List UInt8) :
    (maskHead m l).reverse = maskLast m l.reverse := by
  cases l with
  | nil => rfl
  | cons b bs =>
    simp only [maskHead, List.reverse_cons]
    generalize bs.reverse = r
    induction r with
    | nil => rfl
    | cons c cs ih =>
      cases cs with
      | nil => rfl
      | cons c' cs => simp only [List.cons_append, maskLast] at ih ⊢; rw [ih]

/-- total number of bits when the partial byte exists. -/
theorem bits_split (n : Nat) (h : n % 8 ≠ 0) : n % 8 + 8 * ((n + 7) / 8 - 1) = n := by omega

/-- masking the partial top byte of a little-endian array of `⌈n/8⌉` bytes keeps exactly the low `n` bits. -/
theorem fromLE_maskLast_mod (n : Nat) (l : List UInt8) (hlen : l.length = (n + 7) / 8) (h : n % 8 ≠ 0) :
    fromLE (maskLast (byteMask n) l) = fromLE l % 2 ^ n := by
  have hl : l ≠ [] := by intro e; rw [e] at hlen; simp at hlen; omega
  rw [fromLE_maskLast n l hl, pow256, ← Nat.pow_add, hlen, bits_split n h]

theorem maskLast_lt (n : Nat) (l : List UInt8) (hlen : l.length = (n + 7) / 8) (h : n % 8 ≠ 0) :
    fromLE (maskLast (byteMask n) l) < 2 ^ n := by
  rw [fromLE_maskLast_mod n l hlen h]
  exact Nat.mod_lt _ (Nat.two_pow_pos n)

theorem fromLE_lt_of_len (n : Nat) (l : List UInt8) (hlen : 8 * l.length ≤ n) : fromLE l < 2 ^ n := by
  have := fromLE_lt l
  rw [pow256] at this
  exact Nat.lt_of_lt_of_le this (Nat.pow_le_pow_right (by decide) hlen)

theorem mask_lt (x n : Nat) : x &&& ((1 <<< n) - 1) < 2 ^ n := by
  rw [Nat.one_shiftLeft]
  exact Nat.and_lt_two_pow _ (Nat.sub_lt (Nat.two_pow_pos n) Nat.one_pos)

theorem finishLE_lt (ba : List UInt8) (n : Nat) : finishLE ba n < 2 ^ n := by
  unfold finishLE
  split
  · exact mask_lt _ _
  · rename_i h
    exact fromLE_lt_of_len n ba (by omega)

theorem finishWord_lt (w : Nat) (ba : List UInt8) (n : Nat) (h : n % w = 0 → 8 * ba.length ≤ n) :
    finishWord w ba n < 2 ^ n := by
  unfold finishWord
  split
  · exact mask_lt _ _
  · rename_i h'
    exact fromLE_lt_of_len n ba (h (by omega))

theorem finishShift_lt (ba : List UInt8) (n : Nat) (hlen : ba.length = (n + 7) / 8) :
    finishShift ba n < 2 ^ n := by
  unfold finishShift
  split
  · rename_i h
    rw [Nat.shiftRight_eq_div_pow, Nat.div_lt_iff_lt_mul (Nat.two_pow_pos _), ← Nat.pow_add]
    apply fromLE_lt_of_len
    omega
  · rename_i h
    exact fromLE_lt_of_len n ba (by omega)


/-! lengths of the generated byte strings -/

@[simp] theorem truncLcgBytes_length (p : TruncLcgParams) (j : Nat) (s : Int) :
    (truncLcgBytes p j s).length = j * ((p.outputSize + 7) / 8) := by
  induction j generalizing s with
  | zero => simp [truncLcgBytes]
  | succ j ih => simp only [truncLcgBytes, List.length_append, toLE_length, ih, Nat.succ_mul]; omega

@[simp] theorem xs128pBytes_length (y k : Nat) (x : Int) : (xs128pBytes y k x).length = 8 * k := by
  induction k generalizing x with
  | zero => rfl
  | succ k ih => simp only [xs128pBytes, List.length_append, toLE_length, ih]; omega

@[simp] theorem xsStarBytes_length (k x : Nat) : (xsStarBytes k x).length = 8 * k := by
  induction k generalizing x with
  | zero => rfl
  | succ k ih => simp only [xsStarBytes, List.length_append, toLE_length, ih]; omega

@[simp] theorem xorwowBytes_length (k s c : Nat) : (xorwowBytes k s c).length = 4 * k := by
  induction k generalizing s c with
  | zero => rfl
  | succ k ih => simp only [xorwowBytes, List.length_append, toLE_length, ih]; omega

@[simp] theorem javaBytes_length (j s : Nat) : (javaBytes j s).length = 4 * j := by
  induction j generalizing s with
  | zero => rfl
  | succ k ih => simp only [javaBytes, List.length_append, toLE_length, ih]; omega

@[simp] theorem lcgNistBytes_length (a i s : Nat) : (lcgNistBytes a i s).length = i := by
  induction i generalizing s with
  | zero => rfl
  | succ k ih => simp only [lcgNistBytes, List.length_cons, ih]

theorem truncTo_eq_take (k : Nat) (ba : List UInt8) : truncTo k ba = ba.take k := by
  unfold truncTo
  split
  · rfl
  · rename_i h
    have : ba.length = k := by omega
    rw [← this, List.take_length]

theorem truncTo_length (k : Nat) (ba : List UInt8) (h : k ≤ ba.length) : (truncTo k ba).length = k := by
  rw [truncTo_eq_take, List.length_take]; omega

/-- `⌈a/b⌉·b ≥ a`. -/
theorem ceil_mul_ge (a b : Nat) (hb : 0 < b) : a ≤ (a + b - 1) / b * b := by
  have h1 := Nat.div_add_mod (a + b - 1) b
  have h2 := Nat.mod_lt (a + b - 1) hb
  rw [Nat.mul_comm] at h1
  omega

/-! range -/

theorem javaTrunc_length (state n : Nat) :
    (truncTo ((n + 7) / 8) (javaBytes (((n + 7) / 8 + 3) / 4) state)).length = (n + 7) / 8 := by
  apply truncTo_length
  rw [javaBytes_length]; omega

theorem javaRandomCore_lt (state n : Nat) : javaRandomCore state n < 2 ^ n := by
  unfold javaRandomCore maskHeadIf fromBE
  split
  · rename_i h
    rw [reverse_maskHead]
    exact maskLast_lt n _ (by rw [List.length_reverse, javaTrunc_length]) h
  · rename_i h
    exact fromLE_lt_of_len n _ (by rw [List.length_reverse, javaTrunc_length]; omega)

theorem truncLcgTrunc_length (p : TruncLcgParams) (hp : 0 < (p.outputSize + 7) / 8) (n : Nat) (seed : Int) :
    (truncTo ((n + 7) / 8) (truncLcgBytes p
      (((n + 7) / 8 + (p.outputSize + 7) / 8 - 1) / ((p.outputSize + 7) / 8)) seed)).length
      = (n + 7) / 8 := by
  apply truncTo_length
  rw [truncLcgBytes_length]
  exact ceil_mul_ge _ _ hp

theorem truncLcgCore_pinned_lt (p : TruncLcgParams) (hp : 0 < p.outputSize) (n : Nat) (seed : Int) :
    truncLcgCore .pinned p n seed < 2 ^ (8 * ((n + 7) / 8)) ∧
    (n % 8 = 0 → truncLcgCore .pinned p n seed < 2 ^ n) := by
  have hp' : 0 < (p.outputSize + 7) / 8 := by omega
  unfold truncLcgCore truncLcgMask
  constructor
  · split
    · exact fromLE_lt_of_len _ _ (by rw [maskHead_length, truncLcgTrunc_length p hp' n seed])
    · exact fromLE_lt_of_len _ _ (by rw [truncLcgTrunc_length p hp' n seed])
  · intro h0
    rw [if_neg (by omega)]
    exact fromLE_lt_of_len n _ (by rw [truncLcgTrunc_length p hp' n seed]; omega)


section Java
open Paranoid.Spec.Java

/-! ### JavaRandom = java.util.Random + BigInteger(numBits, rnd) -/

/-- bitwise complement inside `k` bits commutes with xor. -/
theorem compl_xor (k x a : Nat) (hx : x < 2 ^ k) (ha : a < 2 ^ k) :
    (2 ^ k - 1 - x) ^^^ a = 2 ^ k - 1 - (x ^^^ a) := by
  have hxa : x ^^^ a < 2 ^ k := Nat.xor_lt_two_pow hx ha
  have e1 : 2 ^ k - 1 - x = 2 ^ k - (x + 1) := by omega
  have e2 : 2 ^ k - 1 - (x ^^^ a) = 2 ^ k - ((x ^^^ a) + 1) := by omega
  rw [e1, e2]
  apply Nat.eq_of_testBit_eq
  intro i
  rw [Nat.testBit_xor, Nat.testBit_two_pow_sub_succ hx, Nat.testBit_two_pow_sub_succ hxa,
    Nat.testBit_xor]
  by_cases hi : i < k
  · simp [hi]
  · have : a.testBit i = false :=
      Nat.testBit_lt_two_pow (Nat.lt_of_lt_of_le ha (Nat.pow_le_pow_right (by decide) (by omega)))
    simp [hi, this]

theorem javaMask_eq : javaMask = 2 ^ 48 - 1 := by decide +kernel
theorem javaA_lt : javaA < 2 ^ 48 := by decide +kernel

theorem javaScramble_eq (seed : Int) :
    javaScramble seed = (seed % (2 ^ 48 : Nat)).toNat ^^^ javaA := by
  unfold javaScramble
  cases seed with
  | ofNat m =>
    simp only [ixor, iand, javaMask_eq, Int.toNat_natCast, Int.ofNat_eq_natCast]
    rw [Nat.and_two_pow_sub_one_eq_mod, Nat.xor_mod_two_pow, Nat.mod_eq_of_lt javaA_lt]
    congr 1
  | negSucc m =>
    simp only [ixor, iand, javaMask_eq, Int.toNat_natCast, Int.ofNat_eq_natCast]
    rw [Nat.and_two_pow_sub_one_eq_mod, Nat.xor_mod_two_pow, Nat.mod_eq_of_lt javaA_lt]
    have h1 : (Int.negSucc m % ((2 ^ 48 : Nat) : Int)).toNat = 2 ^ 48 - 1 - m % 2 ^ 48 := by
      rw [Int.negSucc_eq]; omega
    rw [h1, compl_xor 48 _ _ (Nat.mod_lt _ (by decide)) javaA_lt]


theorem mask_toNat : Spec.Java.mask.toNat = 2 ^ 48 - 1 := by
  show _ = 281474976710655
  decide +kernel
theorem multiplier_toNat : multiplier.toNat = javaA := by decide +kernel
theorem addend_toNat : addend.toNat = javaC := by decide +kernel

/-- `new Random(seed)` holds the scrambled state of the emulation. -/
theorem new_seed (seed : Int) : (Random.new (toLong seed)).seed.toNat = javaScramble seed := by
  rw [javaScramble_eq]
  simp only [Random.new, initialScramble, toLong, BitVec.toNat_and, BitVec.toNat_xor,
    BitVec.toNat_ofInt, mask_toNat, multiplier_toNat]
  rw [Nat.and_two_pow_sub_one_eq_mod, Nat.xor_mod_two_pow, Nat.mod_eq_of_lt javaA_lt]
  congr 1
  omega

theorem javaNext_eq (s : Nat) : javaNext s = (s * javaA + javaC) % 2 ^ 48 := by
  unfold javaNext
  rw [javaMask_eq, Nat.and_two_pow_sub_one_eq_mod]

theorem advance_seed (r : Random) : r.advance.seed.toNat = javaNext r.seed.toNat := by
  rw [javaNext_eq]
  unfold Random.advance
  rw [BitVec.toNat_and, BitVec.toNat_add, BitVec.toNat_mul, mask_toNat, multiplier_toNat, addend_toNat,
    Nat.and_two_pow_sub_one_eq_mod]
  generalize r.seed.toNat * javaA = t
  have : javaC = 11 := rfl
  omega

theorem nextInt_toNat (r : Random) : r.nextInt.toNat = javaNext r.seed.toNat >>> 16 := by
  have h := advance_seed r
  have hlt : javaNext r.seed.toNat < 2 ^ 48 := by rw [javaNext_eq]; exact Nat.mod_lt _ (by decide)
  unfold Random.nextInt Random.nextValue
  rw [BitVec.toNat_setWidth, BitVec.toNat_ushiftRight, h, Nat.shiftRight_eq_div_pow]
  omega


/-- model bytes seen as Java bytes. -/
def toJ (l : List UInt8) : List JByte := l.map UInt8.toBitVec

theorem toUInt8_toBitVec_toNat (x : Nat) : x.toUInt8.toBitVec.toNat = x % 256 := by
  rw [UInt8.toNat_toBitVec, toUInt8_toNat]

/-- the `(byte)rnd; rnd >>= 8` loop emits the little-endian bytes of any `x` congruent to the
signed value of `rnd` modulo `256^k`. -/
theorem intBytes_eq (k : Nat) : ∀ (rnd : JInt) (x : Nat) (Q : Int),
    rnd.toInt = x + Q * 256 ^ k → intBytes k rnd = toJ (toLE k x) := by
  induction k with
  | zero => intro _ _ _ _; rfl
  | succ k ih =>
    intro rnd x Q h
    rw [Int.pow_succ, ← Int.mul_assoc] at h
    obtain ⟨Q', hQ'⟩ : ∃ Q', Q * 256 ^ k = Q' := ⟨_, rfl⟩
    rw [hQ'] at h
    simp only [intBytes, toLE, toJ, List.map_cons]
    congr 1
    · apply BitVec.eq_of_toNat_eq
      rw [BitVec.toNat_setWidth, toUInt8_toBitVec_toNat]
      have hc := BitVec.toInt_eq_toNat_cond rnd
      split at hc <;> omega
    · apply ih _ _ Q
      rw [BitVec.toInt_sshiftRight, Int.shiftRight_eq_div_pow, h, hQ']
      omega

/-- for at most four bytes the loop emits the little-endian bytes of the unsigned value. -/
theorem intBytes_le4 (k : Nat) (hk : k ≤ 4) (rnd : JInt) : intBytes k rnd = toJ (toLE k rnd.toNat) := by
  have hc := BitVec.toInt_eq_toNat_cond rnd
  have h4 : (256 : Int) ^ 4 = 256 ^ (4 - k) * 256 ^ k := by
    rw [← Int.pow_add]; congr 1; omega
  split at hc
  · exact intBytes_eq k rnd _ 0 (by omega)
  · apply intBytes_eq k rnd _ (-(256 ^ (4 - k)))
    rw [hc, Int.neg_mul, ← h4]
    norm_num
    omega

theorem take_toLE (j k x : Nat) : (toLE k x).take j = toLE (min j k) x := by
  induction k generalizing j x with
  | zero => simp [toLE]
  | succ k ih =>
    cases j with
    | zero => simp [toLE]
    | succ j =>
      rw [toLE, List.take_succ_cons, ih, Nat.succ_min_succ, toLE]

theorem nextBytes_zero (fuel : Nat) (r : Random) : Random.nextBytes fuel 0 r = [] := by
  cases fuel <;> simp [Random.nextBytes]

/-- `nextBytes` on an array of `len` bytes writes the first `len` bytes of the emulation's
word stream. -/
theorem nextBytes_eq (fuel : Nat) : ∀ (len : Nat) (r : Random), len ≤ fuel →
    Random.nextBytes fuel len r = toJ ((javaBytes ((len + 3) / 4) r.seed.toNat).take len) := by
  induction fuel with
  | zero => intro len r h; cases Nat.le_zero.1 h; rfl
  | succ fuel ih =>
    intro len r h
    by_cases h0 : len = 0
    · subst h0; rfl
    rw [Random.nextBytes, if_neg h0]
    rcases Nat.lt_or_ge 4 len with h4 | h4
    · -- a full word, then the rest
      obtain ⟨m, rfl⟩ : ∃ m, len = m + 4 := ⟨len - 4, by omega⟩
      rw [Nat.min_eq_right (Nat.le_add_left 4 m), Nat.add_sub_cancel, Nat.add_right_comm m 4 3,
        Nat.add_div_right _ (by decide), javaBytes, List.take_append, toLE_length,
        List.take_of_length_le (by rw [toLE_length]; omega), Nat.add_sub_cancel, toJ,
        List.map_append, ih m _ (by omega), advance_seed, intBytes_le4 4 (Nat.le_refl 4),
        nextInt_toNat]
      rfl
    · -- the last, partial word
      rw [Nat.min_eq_left h4, Nat.sub_self, nextBytes_zero, List.append_nil,
        show (len + 3) / 4 = 1 by omega, javaBytes, javaBytes, List.append_nil, take_toLE,
        Nat.min_eq_left h4, intBytes_le4 len h4, nextInt_toNat]

theorem magnitude_foldl (l : List UInt8) (acc : Nat) :
    (toJ l).foldl (fun acc b => acc * 256 + b.toNat) acc = acc * 256 ^ l.length + fromLE l.reverse := by
  induction l generalizing acc with
  | nil => simp [toJ, fromLE]
  | cons b bs ih =>
    simp only [toJ, List.map_cons, List.foldl_cons, List.reverse_cons, fromLE_append,
      List.length_reverse, List.length_cons, fromLE, UInt8.toNat_toBitVec] at ih ⊢
    rw [ih]; ring

theorem magnitude_eq (l : List UInt8) : magnitude (toJ l) = fromBE l := by
  rw [magnitude, magnitude_foldl, fromBE]; simp

/-- the first-byte mask of `BigInteger.randomBits`. -/
theorem andFirst_eq (n : Nat) (l : List UInt8) :
    andFirst (((1#32 <<< (8 - (8 * ((n + 7) / 8) - n))) - 1#32).setWidth 8) (toJ l)
      = toJ (maskHeadIf n l) := by
  have hr : n % 8 < 8 := Nat.mod_lt _ (by decide)
  by_cases h0 : n % 8 = 0
  · have e : 8 - (8 * ((n + 7) / 8) - n) = 8 := by omega
    rw [e, maskHeadIf, if_neg (by omega)]
    cases l with
    | nil => rfl
    | cons b bs =>
      simp only [toJ, List.map_cons, andFirst]
      congr 1
      have : ((1#32 <<< 8) - 1#32).setWidth 8 = BitVec.allOnes 8 := by decide +kernel
      rw [this, BitVec.and_allOnes]
  · have e : 8 - (8 * ((n + 7) / 8) - n) = n % 8 := by omega
    rw [e, maskHeadIf, if_pos h0]
    cases l with
    | nil => rfl
    | cons b bs =>
      simp only [toJ, List.map_cons, andFirst, maskHead, UInt8.toBitVec_and, byteMask]
      congr 2
      exact (by decide +kernel : ∀ r < 8,
        BitVec.setWidth 8 (1#32 <<< r - 1#32) = (1 <<< r - 1).toUInt8.toBitVec) _ hr

/-- **JavaRandom.RandomBits(n, seed) = new BigInteger(n, new Random(seed))**. -/
theorem javaRandom_eq_spec (n : Nat) (seed : Int) :
    javaRandom n seed = bigInteger n (Random.new (toLong seed)) := by
  unfold javaRandom javaRandomCore bigInteger randomBits
  by_cases h : (n + 7) / 8 > 0
  · rw [if_pos h, nextBytes_eq _ _ _ (Nat.le_refl _), andFirst_eq n, magnitude_eq, new_seed,
      truncTo_eq_take]
  · have : n = 0 := by omega
    subst this
    rfl

end Java

section TruncLcgSpec
open Paranoid.Spec

/-! ### TruncLcgRand = truncated LCG stream -/

theorem lcgNext_eq (p : TruncLcgParams) (x : Int) :
    lcgNext p x = TruncLcg.next p.a p.c p.outputSize x := by
  unfold lcgNext TruncLcg.next
  rw [Int.mul_comm, Nat.mul_comm]

theorem lcgNext_lt (p : TruncLcgParams) (x : Int) : lcgNext p x < 2 ^ (p.outputSize * 2) := by
  unfold lcgNext
  have hpos : (0 : Int) < ((2 ^ (p.outputSize * 2) : Nat) : Int) := by
    exact_mod_cast Nat.two_pow_pos _
  have h1 := Int.emod_lt_of_pos (x * p.a + p.c) hpos
  have h2 := Int.emod_nonneg (x * p.a + p.c) (Int.ne_of_gt hpos)
  omega

/-- `output.to_bytes(output_size_bytes, "little")` never overflows. -/
theorem truncLcg_out_fits (p : TruncLcgParams) (x : Int) :
    lcgNext p x >>> p.outputSize < 256 ^ ((p.outputSize + 7) / 8) := by
  rw [Nat.shiftRight_eq_div_pow, Nat.div_lt_iff_lt_mul (Nat.two_pow_pos _), pow256, ← Nat.pow_add]
  exact Nat.lt_of_lt_of_le (lcgNext_lt p x) (Nat.pow_le_pow_right (by decide) (by omega))

theorem fromLE_truncLcgBytes (p : TruncLcgParams) (j : Nat) (x : Int) :
    fromLE (truncLcgBytes p j x)
      = TruncLcg.stream p.a p.c p.outputSize (8 * ((p.outputSize + 7) / 8)) j x := by
  induction j generalizing x with
  | zero => rfl
  | succ j ih =>
    rw [truncLcgBytes, fromLE_append, fromLE_toLE, toLE_length, ih, TruncLcg.stream,
      Nat.mod_eq_of_lt (truncLcg_out_fits p x), pow256, TruncLcg.output, lcgNext_eq,
      Nat.shiftRight_eq_div_pow]

theorem mod_mod_pow (x n k : Nat) (h : n ≤ 8 * k) : x % 256 ^ k % 2 ^ n = x % 2 ^ n := by
  rw [pow256]
  exact Nat.mod_mod_of_dvd _ (Nat.pow_dvd_pow 2 h)

/-- the repaired `TruncLcgRand.RandomBits(n, seed)` is the low `n` bits of the stream. -/
theorem truncLcgCore_repaired_eq (p : TruncLcgParams) (hp : 0 < p.outputSize) (n : Nat) (seed : Int) :
    truncLcgCore .repaired p n seed
      = TruncLcg.urandomb p.a p.c p.outputSize (8 * ((p.outputSize + 7) / 8))
          (((n + 7) / 8 + (p.outputSize + 7) / 8 - 1) / ((p.outputSize + 7) / 8)) n seed := by
  have hp' : 0 < (p.outputSize + 7) / 8 := by omega
  have hlen := truncLcgTrunc_length p hp' n seed
  unfold truncLcgCore truncLcgMask TruncLcg.urandomb
  split
  · rename_i h
    rw [fromLE_maskLast_mod n _ hlen h, truncTo_eq_take, fromLE_take, mod_mod_pow _ _ _ (by omega),
      fromLE_truncLcgBytes]
  · rename_i h
    rw [truncTo_eq_take, fromLE_take, fromLE_truncLcgBytes]
    have : 256 ^ ((n + 7) / 8) = 2 ^ n := by rw [pow256]; congr 1; omega
    rw [this]

theorem truncLcgCore_repaired_lt (p : TruncLcgParams) (hp : 0 < p.outputSize) (n : Nat) (seed : Int) :
    truncLcgCore .repaired p n seed < 2 ^ n := by
  rw [truncLcgCore_repaired_eq p hp n seed]
  exact Nat.mod_lt _ (Nat.two_pow_pos n)

end TruncLcgSpec


/-! ### `to_bytes` never overflows (the model's `toLE` is exact at every call site) -/

theorem xs128p_out_fits (x : Int) (y : Nat) : (xs128pStep x y + y) % 2 ^ 64 < 256 ^ 8 :=
  Nat.mod_lt _ (by decide)

theorem xsStar_out_fits (x : Nat) : xsStarStep x * 0x2545F4914F6CDD1D % 2 ^ 64 < 256 ^ 8 :=
  Nat.mod_lt _ (by decide)

theorem xorwow_out_fits (s c : Nat) : (xorwowT s + c) % 2 ^ 32 < 256 ^ 4 :=
  Nat.mod_lt _ (by decide)

theorem lcgNistMod_eq : lcgNistMod = 2147483647 := by decide +kernel

theorem lcgNistByte_lt (a : Nat) (fuel : Nat) : ∀ (j seed b : Nat), b < 2 ^ j →
    (lcgNistByte a fuel j seed b).2 < 2 ^ (j + fuel) := by
  induction fuel with
  | zero => intro j seed b h; exact h
  | succ fuel ih =>
    intro j seed b h
    rw [lcgNistByte]
    have e : j + (fuel + 1) = (j + 1) + fuel := by omega
    rw [e]
    apply ih
    apply Nat.xor_lt_two_pow
    · exact Nat.lt_of_lt_of_le h (Nat.pow_le_pow_right (by decide) (by omega))
    · have hm : a * seed % lcgNistMod < 2147483647 := by
        rw [lcgNistMod_eq]; exact Nat.mod_lt _ (by decide)
      have h1 : (a * seed % lcgNistMod) >>> 30 ≤ 1 := by
        rw [Nat.shiftRight_eq_div_pow]; omega
      rw [Nat.shiftLeft_eq, Nat.pow_succ]
      have := Nat.two_pow_pos j
      calc (a * seed % lcgNistMod) >>> 30 * 2 ^ j ≤ 1 * 2 ^ j := Nat.mul_le_mul_right _ h1
        _ < 2 ^ j * 2 := by omega

/-- `Mwc.__init__` accepts only powers of 256 (incl. `b = 1`); converse: `mwcInit_pow256`. -/
theorem mwcInit_ok (a b : Nat) (p : MwcParams) (h : mwcInit a b = .ok p) :
    p.a = a ∧ p.b = b ∧ p.ab1 = (a : Int) * b - 1 ∧ b = 2 ^ p.outputBits ∧ p.outputBits % 8 = 0 := by
  unfold mwcInit at h
  split at h
  · simp at h
  · rename_i hc
    simp only [Except.ok.injEq] at h
    subst h
    simp only [not_or, Decidable.not_not] at hc
    refine ⟨rfl, rfl, rfl, ?_, ?_⟩
    · rw [← Nat.one_shiftLeft]; exact hc.1.symm
    · show (bitLength b - 1) % 8 = 0
      have hb : bitLength b ≠ 0 := by intro e; rw [e] at hc; simp at hc
      omega

theorem mwc_out_fits (p : MwcParams) (hb : p.b = 2 ^ p.outputBits) (h8 : p.outputBits % 8 = 0) (y : Int) :
    (y.fmod p.b).toNat < 256 ^ (p.outputBits / 8) := by
  have hpos : (0 : Int) < (p.b : Int) := by rw [hb]; exact_mod_cast Nat.two_pow_pos _
  rw [Int.fmod_eq_emod_of_nonneg _ (Int.le_of_lt hpos)]
  have h1 := Int.emod_lt_of_pos y hpos
  have h2 := Int.emod_nonneg y (Int.ne_of_gt hpos)
  have : 256 ^ (p.outputBits / 8) = p.b := by rw [pow256, hb]; congr 1; omega
  rw [this]
  omega

theorem lehmer_out_fits (p : LehmerParams) (hm : 0 < p.mod) (h8 : p.bits % 8 = 0) (x : Int) :
    ((x % (p.mod : Int)).toNat <<< p.bits) / p.mod < 256 ^ (p.bits / 8) := by
  have hpos : (0 : Int) < (p.mod : Int) := by exact_mod_cast hm
  have h1 := Int.emod_lt_of_pos x hpos
  have h2 := Int.emod_nonneg x (Int.ne_of_gt hpos)
  have hlt : (x % (p.mod : Int)).toNat < p.mod := by omega
  have : 256 ^ (p.bits / 8) = 2 ^ p.bits := by rw [pow256]; congr 1; omega
  rw [this, Nat.shiftLeft_eq, Nat.div_lt_iff_lt_mul hm, Nat.mul_comm]
  exact Nat.mul_lt_mul_of_pos_left hlt (Nat.two_pow_pos _)

theorem subsetSum_out_fits (bits s : Nat) (h8 : bits % 8 = 0) :
    s &&& ((1 <<< bits) - 1) < 256 ^ (bits / 8) := by
  have : 256 ^ (bits / 8) = 2 ^ bits := by rw [pow256]; congr 1; omega
  rw [this]; exact mask_lt s bits

theorem truncLcg_ok (v : Variant) (p : TruncLcgParams) (n : Nat) (seed : Int) (r : Nat)
    (h : truncLcg v p n seed = .ok r) : r = truncLcgCore v p n seed := by
  unfold truncLcg at h
  split at h
  · simp at h
  · simp only [Except.ok.injEq] at h; exact h.symm


theorem lt_two_pow_bitLength (m : Nat) : m < 2 ^ bitLength m := by
  unfold bitLength
  split
  · rename_i h; subst h; decide
  · exact Nat.lt_log2_self

end Paranoid.Rng
