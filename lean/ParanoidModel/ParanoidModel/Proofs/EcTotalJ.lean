/-
Proofs/EcTotalJ.lean — `EcCurve.Multiply(p, n)` on ARBITRARY integer coordinates (on the curve or
not, reduced or not), over an odd prime field: the exact set of inputs on which the Jacobian
ladder + `JacobianToAffine` raises.

    Multiply((x, y), k) raises  ⇔  k = 2,  y ≠ 0,  y ≡ 0 (mod p),  and the tangent slope numerator
                                   `m = 3x² + a·1⁴` (`3(x+1)(x-1)` for `a = -3`) is ≡ 0 (mod p);
                                   the exception is ValueError("All coordinates zero in Jacobian
                                   representation").

Mechanism (ec_util.py): `DoubleJacobian` tests `y == 0` on the UNREDUCED integer; for `y = p, 2p, …`
it goes on and returns `(m², -m³, 0)`, which is `(0, 0, 0)` when `m ≡ 0`. `AddJacobian` treats every
`z == 0` triple as the neutral element, so the triple survives only when the scalar is exactly `2`
(for every other scalar a later `AddJacobian(INF, (1,1,0))` or the odd first bit replaces it) and
`JacobianToAffine((0,0,0))` raises. Real code: `Multiply((1, p), 2)` on secp256r1 raises ValueError;
`Multiply((1, p), k)` for `k ≠ 2` returns `(1, 0)` (k odd; `(1, p)` itself for `k = 1`) or INFINITY
(k even).

No caller inside the checks passes a user point with the scalar `2` (`ExtendedBatchDL` multiplies by
`invert(mult, n)`, never `2`: Proofs/BsgsExt.lean `ext_inverse_ne_two`).
-/
import ParanoidModel.Proofs.EcMul
namespace Paranoid.Ec
open Paranoid

variable (c : Curve)

theorem doubleJM_red (x z : Int) : c.red (doubleJM c x z) = doubleJM c x z := by
  unfold doubleJM
  split <;> exact red_red c _

variable [hp : Fact (Nat.Prime c.p)]

/-- invariant of the Jacobian triples the ladder handles when it starts from a point whose `y` is
not a non-zero multiple of `p`: never `(0,0,0)`, `z` is `0` or a unit, `y` is `0` or a unit. -/
def JGood (P : JPt) : Prop :=
  (P.z = 0 → ¬(P.x = 0 ∧ P.y = 0)) ∧ (P.z ≠ 0 → c.red P.z ≠ 0) ∧ (c.red P.y = 0 → P.y = 0)

theorem jgood_infJ : JGood c infJ := by
  refine ⟨fun _ h => by simp [infJ] at h, fun h => by simp [infJ] at h, fun h => ?_⟩
  simp only [infJ] at h
  rw [red_one] at h
  cases h

theorem jgood_affineToJ (x y : Int) (hy : c.red y = 0 → y = 0) : JGood c (affineToJ (.aff x y)) := by
  refine ⟨fun h => by simp [affineToJ] at h, fun _ => ?_, hy⟩
  simp only [affineToJ]
  rw [red_one]
  decide

theorem doubleJ_good (h2 : c.p ≠ 2) {P : JPt} (h : JGood c P) : JGood c (doubleJ c P) := by
  unfold doubleJ
  by_cases hc : P.z = 0 ∨ P.y = 0
  · rw [if_pos hc]; exact jgood_infJ c
  · rw [if_neg hc]
    have hc := not_or.mp hc
    have hz : ((P.z : Int) : ZMod c.p) ≠ 0 :=
      fun h0 => h.2.1 hc.1 ((red_eq_zero_iff c _).mpr h0)
    have hy : ((P.y : Int) : ZMod c.p) ≠ 0 :=
      fun h0 => hc.2 (h.2.2 ((red_eq_zero_iff c _).mpr h0))
    have hz' : c.red (2 * P.y * P.z) ≠ 0 := by
      rw [Ne, red_eq_zero_iff]
      push_cast
      exact mul_ne_zero (mul_ne_zero (two_ne_zero_of_ne_two c h2) hy) hz
    refine ⟨fun h0 => absurd h0 hz', fun _ => ?_, fun h0 => ?_⟩
    · simp only [doubleJOut]; rw [red_red]; exact hz'
    · simp only [doubleJOut] at h0 ⊢; rwa [red_red] at h0

theorem addJ_good (h2 : c.p ≠ 2) {P Q : JPt} (hP : JGood c P) (hQ : JGood c Q) :
    JGood c (addJ c P Q) := by
  unfold addJ
  by_cases h1 : P.z = 0
  · rw [if_pos h1]; exact hQ
  · rw [if_neg h1]
    by_cases h2' : Q.z = 0
    · rw [if_pos h2']; exact hP
    · rw [if_neg h2']
      unfold addJCore
      split
      · split
        · exact jgood_infJ c
        · exact doubleJ_good c h2 hP
      · rename_i hne
        have hz1 : ((P.z : Int) : ZMod c.p) ≠ 0 :=
          fun h0 => hP.2.1 h1 ((red_eq_zero_iff c _).mpr h0)
        have hz2 : ((Q.z : Int) : ZMod c.p) ≠ 0 :=
          fun h0 => hQ.2.1 h2' ((red_eq_zero_iff c _).mpr h0)
        have hh : ((c.red (Q.x * c.red (P.z * P.z)) - c.red (c.red (P.x * c.red (Q.z * Q.z))) : Int) :
            ZMod c.p) ≠ 0 := by
          intro h0
          apply hne
          rw [red_red] at h0
          rw [Int.cast_sub, sub_eq_zero] at h0
          have := (red_eq_red_iff c _ _).mpr h0
          rw [red_red, red_red] at this
          exact this.symm
        have hz' : c.red ((c.red (Q.x * c.red (P.z * P.z)) -
            c.red (c.red (P.x * c.red (Q.z * Q.z)))) * P.z * Q.z) ≠ 0 := by
          rw [Ne, red_eq_zero_iff, Int.cast_mul, Int.cast_mul]
          exact mul_ne_zero (mul_ne_zero hh hz1) hz2
        refine ⟨fun h0 => absurd h0 hz', fun _ => ?_, fun h0 => ?_⟩
        · simp only [addJOut]; rw [red_red]; exact hz'
        · simp only [addJOut] at h0 ⊢; rwa [red_red] at h0

theorem mulJLoop_good (h2 : c.p ≠ 2) : ∀ (fuel n : Nat) (res pj : JPt), JGood c res → JGood c pj →
    JGood c (mulJLoop c fuel n res pj)
  | 0, _, _, _, hres, _ => by simpa [mulJLoop] using hres
  | fuel + 1, n, res, pj, hres, hpj => by
    unfold mulJLoop
    by_cases h0 : n = 0
    · rw [if_pos h0]; exact hres
    · rw [if_neg h0]
      apply mulJLoop_good h2 fuel
      · split
        · exact addJ_good c h2 hres hpj
        · exact hres
      · exact doubleJ_good c h2 hpj

theorem jToAffine_good {P : JPt} (h : JGood c P) : ∃ R, jToAffine c P = .ok R := by
  unfold jToAffine
  by_cases hz : P.z = 0
  · rw [if_pos hz, if_neg (h.1 hz)]; exact ⟨_, rfl⟩
  · rw [if_neg hz]
    obtain ⟨i, hi, _⟩ := inv_of_ne_zero c (mt (red_eq_zero_iff c _).mpr (h.2.1 hz))
    rw [hi]; exact ⟨_, rfl⟩

/-- `Multiply` never raises when `y` is not a non-zero multiple of `p` (every reduced `y`, in
particular): ANY `x`, ANY scalar, on the curve or not. -/
theorem multiplyNat_total_of_y (h2 : c.p ≠ 2) (x y : Int) (hy : c.red y = 0 → y = 0) (n : Nat) :
    ∃ R, multiplyNat c (.aff x y) n = .ok R := by
  unfold multiplyNat
  by_cases h1 : n = 1
  · rw [if_pos h1]; exact ⟨_, rfl⟩
  · rw [if_neg h1]
    exact jToAffine_good c (mulJLoop_good c h2 _ _ _ _ (jgood_infJ c) (jgood_affineToJ c x y hy))

/-! ### the remaining case: `y` a non-zero multiple of `p` -/

omit hp in
theorem addJ_left_inf (P Q : JPt) (h : P.z = 0) : addJ c P Q = Q := by
  unfold addJ; rw [if_pos h]

omit hp in
theorem addJ_right_inf (P Q : JPt) (h1 : P.z ≠ 0) (h : Q.z = 0) : addJ c P Q = P := by
  unfold addJ; rw [if_neg h1, if_pos h]

omit hp in
theorem doubleJ_of_z (P : JPt) (h : P.z = 0) : doubleJ c P = infJ := by
  unfold doubleJ; rw [if_pos (Or.inl h)]

omit hp in
/-- the ladder once the running multiple is a `z = 0` triple: a finite accumulator stays; a `z = 0`
accumulator is replaced by `pj` for the scalar `1` and by `(1,1,0)` for every larger one. -/
theorem mulJLoop_z0 : ∀ (fuel n : Nat) (res pj : JPt), pj.z = 0 → n < 2 ^ fuel →
    mulJLoop c fuel n res pj =
      if res.z ≠ 0 ∨ n = 0 then res else if n = 1 then pj else infJ
  | 0, n, res, pj, _, hlt => by
    obtain rfl : n = 0 := by simpa using hlt
    simp [mulJLoop]
  | fuel + 1, n, res, pj, hpj, hlt => by
    unfold mulJLoop
    by_cases h0 : n = 0
    · rw [if_pos h0, if_pos (Or.inr h0)]
    have hlt2 : n / 2 < 2 ^ fuel := by rw [pow_succ] at hlt; omega
    rw [if_neg h0, doubleJ_of_z c pj hpj]
    by_cases hres : res.z = 0
    · rw [addJ_left_inf c res pj hres, if_neg (not_or.mpr ⟨not_not.mpr hres, h0⟩)]
      by_cases hodd : n % 2 = 1
      · rw [if_pos hodd, mulJLoop_z0 fuel _ pj infJ rfl hlt2, ite_self]
        by_cases h1 : n = 1
        · rw [if_pos h1, if_pos (Or.inr (by omega))]
        · rw [if_neg h1, if_neg (not_or.mpr ⟨not_not.mpr hpj, by omega⟩)]
      · rw [if_neg hodd, mulJLoop_z0 fuel _ res infJ rfl hlt2, ite_self,
          if_neg (not_or.mpr ⟨not_not.mpr hres, by omega⟩), if_neg (by omega)]
    · rw [addJ_right_inf c res pj hres hpj, ite_self, mulJLoop_z0 fuel _ res infJ rfl hlt2,
        if_pos (Or.inl hres), if_pos (Or.inl hres)]

/-- the first doubling of `(x, y, 1)` with `y` a non-zero multiple of `p`. -/
theorem doubleJ_bad (x y : Int) (hy0 : y ≠ 0) (hy : c.red y = 0) :
    (doubleJ c ⟨x, y, 1⟩).z = 0 ∧
    (((doubleJ c ⟨x, y, 1⟩).x = 0 ∧ (doubleJ c ⟨x, y, 1⟩).y = 0) ↔ doubleJM c x 1 = 0) := by
  have hcond : ¬((⟨x, y, 1⟩ : JPt).z = 0 ∨ (⟨x, y, 1⟩ : JPt).y = 0) := by
    simp only [not_or]; exact ⟨by decide, hy0⟩
  have hyz : ((y : Int) : ZMod c.p) = 0 := (red_eq_zero_iff c y).mp hy
  have hysq : c.red (y * y) = 0 := by
    rw [red_eq_zero_iff]; push_cast; rw [hyz]; ring
  unfold doubleJ
  rw [if_neg hcond]
  simp only [doubleJOut, hysq, mul_one, red_one]
  have hs : c.red (4 * x * 0) = 0 := by simp [Curve.red]
  rw [hs]
  refine ⟨?_, ?_⟩
  · rw [red_eq_zero_iff]; push_cast; rw [hyz]; ring
  · constructor
    · rintro ⟨hx, _⟩
      have : ((doubleJM c x 1 : Int) : ZMod c.p) = 0 := by
        rw [red_eq_zero_iff] at hx
        push_cast at hx
        simpa using hx
      rw [← doubleJM_red, red_eq_zero_iff]
      exact this
    · intro hm
      rw [hm]
      simp [Curve.red]

/-- the ladder on `(x, y, 1)` with `y` a non-zero multiple of `p`: the point itself for an odd
scalar, the first doubling for the scalar `2`, `(1,1,0)` for every other even scalar. -/
theorem mulJLoop_bad (x y : Int) (hy0 : y ≠ 0) (hy : c.red y = 0) (fuel n : Nat) (hlt : n < 2 ^ fuel) :
    mulJLoop c fuel n infJ ⟨x, y, 1⟩ =
      if n % 2 = 1 then ⟨x, y, 1⟩ else if n = 2 then doubleJ c ⟨x, y, 1⟩ else infJ := by
  have hDz := (doubleJ_bad c x y hy0 hy).1
  cases fuel with
  | zero =>
    obtain rfl : n = 0 := by simpa using hlt
    simp [mulJLoop]
  | succ fuel =>
    unfold mulJLoop
    by_cases h0 : n = 0
    · subst h0; simp
    have hlt2 : n / 2 < 2 ^ fuel := by rw [pow_succ] at hlt; omega
    rw [if_neg h0, addJ_left_inf c infJ _ rfl]
    by_cases hodd : n % 2 = 1
    · rw [if_pos hodd, if_pos hodd, mulJLoop_z0 c fuel _ _ _ hDz hlt2, if_pos (Or.inl (show (1 : Int) ≠ 0 by decide))]
    · rw [if_neg hodd, if_neg hodd, mulJLoop_z0 c fuel _ _ _ hDz hlt2,
        if_neg (not_or.mpr ⟨not_not.mpr (show infJ.z = 0 from rfl), by omega⟩)]
      by_cases h2 : n = 2
      · rw [if_pos h2, if_pos (by omega)]
      · rw [if_neg h2, if_neg (by omega)]

/-- the inputs on which `Multiply` raises. -/
def MultiplyBad (x y k : Int) : Prop := k = 2 ∧ y ≠ 0 ∧ c.red y = 0 ∧ doubleJM c x 1 = 0

instance (x y k : Int) : Decidable (MultiplyBad c x y k) := by unfold MultiplyBad; infer_instance

/-- **`Multiply` on arbitrary integer coordinates** (odd prime field): it raises exactly on
`MultiplyBad`, and then `ValueError`. -/
theorem multiply_cases (h2 : c.p ≠ 2) (x y k : Int) :
    (MultiplyBad c x y k ∧ multiply c (.aff x y) k = .error .valueError) ∨
    (¬ MultiplyBad c x y k ∧ ∃ R, multiply c (.aff x y) k = .ok R) := by
  rw [multiply_aff]
  by_cases hk : k < 0
  · right
    refine ⟨fun h => by rw [h.1] at hk; omega, ?_⟩
    rw [if_pos hk]
    exact multiplyNat_total_of_y c h2 x (c.red (-y)) (fun h => by rwa [red_red] at h) _
  · rw [if_neg hk]
    by_cases hyok : c.red y = 0 → y = 0
    · right
      exact ⟨fun h => h.2.1 (hyok h.2.2.1), multiplyNat_total_of_y c h2 x y hyok _⟩
    · obtain ⟨hy, hy0⟩ := Classical.not_imp.mp hyok
      obtain ⟨hDz, hD⟩ := doubleJ_bad c x y hy0 hy
      unfold multiplyNat
      by_cases h1 : k.natAbs = 1
      · right
        rw [if_pos h1]
        exact ⟨fun h => by rw [h.1] at h1; simp at h1, _, rfl⟩
      · rw [if_neg h1]
        have hloop := mulJLoop_bad c x y hy0 hy (bitLength k.natAbs) k.natAbs
          (lt_two_pow_bitLength _)
        simp only [affineToJ]
        rw [hloop]
        by_cases hodd : k.natAbs % 2 = 1
        · right
          rw [if_pos hodd]
          refine ⟨fun h => by rw [h.1] at hodd; simp at hodd, ?_⟩
          unfold jToAffine
          simp only [if_neg (show (1 : Int) ≠ 0 by decide)]
          obtain ⟨i, hi, _⟩ := inv_of_ne_zero c (v := 1) (by rw [Int.cast_one]; exact one_ne_zero)
          rw [hi]; exact ⟨_, rfl⟩
        · rw [if_neg hodd]
          by_cases hk2 : k.natAbs = 2
          · have hk2' : k = 2 := by omega
            rw [if_pos hk2]
            unfold jToAffine
            rw [if_pos hDz]
            by_cases hm : doubleJM c x 1 = 0
            · left
              rw [if_pos (hD.mpr hm)]
              exact ⟨⟨hk2', hy0, hy, hm⟩, rfl⟩
            · right
              rw [if_neg (fun h => hm (hD.mp h))]
              exact ⟨fun h => hm h.2.2.2, _, rfl⟩
          · right
            rw [if_neg hk2]
            refine ⟨fun h => by rw [h.1] at hk2; simp at hk2, .inf, ?_⟩
            simp [jToAffine, infJ]

theorem multiply_total_of_ne_two (h2 : c.p ≠ 2) (P : Pt) (k : Int) (hk : k ≠ 2) :
    ∃ R, multiply c P k = .ok R := by
  cases P with
  | inf => exact ⟨.inf, rfl⟩
  | aff x y =>
    rcases multiply_cases c h2 x y k with ⟨hb, _⟩ | ⟨_, h⟩
    · exact absurd hb.1 hk
    · exact h

end Paranoid.Ec
