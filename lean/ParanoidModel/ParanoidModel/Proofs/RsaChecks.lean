/-
Proofs/RsaChecks.lean — per-key verdicts of the RSA single checks: factors are only ever
attached together with the weak verdict, and every attached factor divides the modulus.
-/
import ParanoidModel.Model.RsaChecks
import ParanoidModel.Proofs.Factoring
import ParanoidModel.Proofs.FractionPre

namespace Paranoid

/-- what C01 demands of a verdict for modulus `n`. -/
def KeyVerdict.Sound (n : Nat) (v : KeyVerdict) : Prop :=
  v.factors = [] ∨ (v.weak = true ∧ ∃ x y, v.factors = [x, y] ∧ x * y = n)

/-- the stronger form for gcd-derived factors: a proper split. -/
def KeyVerdict.SoundProper (n : Nat) (v : KeyVerdict) : Prop :=
  v.factors = [] ∨ (v.weak = true ∧ ProperSplit n v.factors)

theorem KeyVerdict.SoundProper.sound {n v} (h : KeyVerdict.SoundProper n v) : KeyVerdict.Sound n v := by
  rcases h with h | ⟨hw, hp⟩
  · exact Or.inl h
  · exact Or.inr ⟨hw, hp.prod⟩

theorem KeyVerdict.pass_sound (n : Nat) : KeyVerdict.SoundProper n KeyVerdict.pass := Or.inl rfl

theorem KeyVerdict.Sound.all_dvd {n v} (h : KeyVerdict.Sound n v) : ∀ f ∈ v.factors, f ∣ n := by
  rcases h with h | ⟨_, x, y, hf, rfl⟩
  · rw [h]; simp
  · rw [hf]
    exact List.forall_mem_cons.2 ⟨Dvd.intro _ rfl, List.forall_mem_singleton.2 (Dvd.intro_left _ rfl)⟩

/-- `CheckBitPatterns` and `CheckPermutedBitPatterns` are `tryDenominators` over their lists
(`vBitPatterns_eq`, `vPermuted_eq`). -/
theorem tryDenominators_sound (n : Nat) (red : Nat → List (List Int)) (ds : List Nat) (v : KeyVerdict)
    (h : tryDenominators n red ds = .ok v) : v.SoundProper n := by
  rcases tryDenominators_cases n red ds with ⟨_, hp⟩ | ⟨_, d, _, _, _, ⟨e, _, he⟩ | ⟨f, fs, hd, hr⟩⟩
  · rw [h] at hp; cases hp; exact KeyVerdict.pass_sound n
  · rw [h] at he; cases he
  · rw [h] at hr; cases hr
    exact Or.inr ⟨rfl, (checkFractionLoop_sound _ _ _ _ hd).resolve_left (List.cons_ne_nil _ _)⟩

theorem unseededLoop_sound (n cbrt : Nat) : ∀ (l : List Nat) (v : KeyVerdict),
    unseededLoop n cbrt l = .ok v → v.SoundProper n
  | [], v, h => by
    simp only [unseededLoop, Except.ok.injEq] at h
    subst h; exact Or.inl rfl
  | p1 :: rest, v, h => by
    unfold unseededLoop at h
    split at h
    · simp at h
    · rename_i f fs hh
      simp only [Except.ok.injEq] at h
      subst h
      exact Or.inr ⟨rfl, factorWithGuess_sound _ _ _ _ hh⟩
    · exact unseededLoop_sound n cbrt rest v h

end Paranoid
