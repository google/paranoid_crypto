/-
Proofs/EcTable.lean — reduced representatives (`RepR`: on the curve, coordinates in `[0, p)`; kept by
Negate / Add / Multiply, unique for a group element), BatchAddX on them, the Python dict model, and
the content of PointTable for every split `m ≥ 1`.
-/
import ParanoidModel.Proofs.EcSequence
import ParanoidModel.Proofs.EcBatch
import ParanoidModel.Proofs.EcMul
namespace Paranoid.Ec
open Paranoid WeierstrassCurve
variable (c : Curve) [hp : Fact (Nat.Prime c.p)]

/-- the dict key (`x`-coordinate as a reduced Python int, `None` for ∞) of a group element. -/
def xKey : (W c).Point → Option Int
  | .zero => none
  | .some x _ _ => some (x.val : Int)

def RepR (R : Pt) (A : (W c).Point) : Prop := onCurve c R = true ∧ toPoint c R = A ∧ Reduced c R

theorem x?_eq_xKey (hc : c.Good) {R : Pt} {A : (W c).Point} (h : RepR c R A) : R.x? = xKey c A := by
  obtain ⟨h1, h2, h3⟩ := h
  cases R with
  | inf => rw [toPoint_inf] at h2; rw [← h2]; rfl
  | aff x y =>
    have hns := nonsingular_of_onCurve c hc h1
    rw [toPoint_aff c hns] at h2
    rw [← h2]
    simp only [Pt.x?, xKey]
    have : NeZero c.p := ⟨hp.out.ne_zero⟩
    rw [ZMod.val_intCast, Int.emod_eq_of_lt h3.1 h3.2.1]

theorem double_reduced {P R : Pt} (h : double c P = .ok R) : Reduced c R := by
  cases P with
  | inf => cases h; trivial
  | aff x y =>
    rw [double_aff] at h
    split at h
    · cases h; trivial
    · split at h
      · cases h
      · cases h
        exact reduced_red c _ _

theorem add_reduced {P Q R : Pt} (hP : Reduced c P) (hQ : Reduced c Q) (h : add c P Q = .ok R) :
    Reduced c R := by
  cases P with
  | inf => cases Q <;> (cases h; assumption)
  | aff x1 y1 =>
  cases Q with
  | inf => cases h; exact hP
  | aff x2 y2 =>
    rw [add_aff] at h
    split at h
    · split at h
      · exact double_reduced c h
      · cases h; trivial
    · split at h
      · cases h
      · cases h
        exact reduced_red c _ _

theorem repR_add (hc : c.Good) {P Q : Pt} {A B : (W c).Point} (hP : RepR c P A) (hQ : RepR c Q B) :
    ∃ R, add c P Q = .ok R ∧ RepR c R (A + B) := by
  obtain ⟨R, h1, h2, h3⟩ := add_refines c hc P Q hP.1 hQ.1
  exact ⟨R, h1, h2, by rw [h3, hP.2.1, hQ.2.1], add_reduced c hP.2.2 hQ.2.2 h1⟩

omit hp in
theorem negate_reduced (hpos : 0 < c.p) {P : Pt} (h : Reduced c P) : Reduced c (negate c P) := by
  cases P with
  | inf => trivial
  | aff x y => exact ⟨h.1, h.2.1, red_nonneg c hpos _, red_lt c hpos _⟩

theorem multiply_reduced {P R : Pt} {k : Int} (hP : Reduced c P) (h : multiply c P k = .ok R) :
    Reduced c R := by
  have hpos : 0 < c.p := hp.out.pos
  cases P with
  | inf => cases h; trivial
  | aff x y =>
    rw [multiply_aff, multiplyNat] at h
    split at h
    · cases h
      split
      · exact negate_reduced c hpos hP
      · exact hP
    · exact jToAffine_reduced c h

theorem multiply_repR (hc : c.Good) {P : Pt} (hP : onCurve c P = true) (hr : Reduced c P) (k : Int) :
    ∃ R, multiply c P k = .ok R ∧ RepR c R (k • toPoint c P) := by
  obtain ⟨R, h1, h2, h3⟩ := multiply_zsmul c hc P k hP
  exact ⟨R, h1, h2, h3, multiply_reduced c hr h1⟩

theorem repR_negate (hc : c.Good) {P : Pt} {A : (W c).Point} (h : RepR c P A) :
    RepR c (negate c P) (-A) :=
  ⟨negate_onCurve c P h.1, by rw [negate_refines c hc P h.1, h.2.1],
    negate_reduced c hp.out.pos h.2.2⟩

/-- two reduced on-curve representations of the same group element are the same Python value. -/
theorem repR_inj (hc : c.Good) {R R' : Pt} {A : (W c).Point} (h : RepR c R A) (h' : RepR c R' A) :
    R = R' := by
  obtain ⟨h1, h2, h3⟩ := h
  obtain ⟨h1', h2', h3'⟩ := h'
  cases R with
  | inf => exact ((toPoint_eq_zero_iff c hc h1').1 (h2'.trans h2.symm)).symm
  | aff x y =>
    cases R' with
    | inf => exact (toPoint_eq_zero_iff c hc h1).1 (h2.trans h2'.symm)
    | aff x' y' =>
      rw [toPoint_aff c (nonsingular_of_onCurve c hc h1)] at h2
      rw [toPoint_aff c (nonsingular_of_onCurve c hc h1'), ← h2] at h2'
      injection h2' with hx hy
      have ex := eq_of_cast_eq c h3'.1 h3'.2.1 h3.1 h3.2.1 hx
      have ey := eq_of_cast_eq c h3'.2.2.1 h3'.2.2.2 h3.2.2.1 h3.2.2.2 hy
      rw [ex, ey]

omit hp in
theorem reduced_of_paramsOK (h : c.paramsOK = true) : Reduced c c.g ∧ 2 ≤ c.n := by
  simp only [Curve.paramsOK, Bool.and_eq_true, decide_eq_true_eq] at h
  obtain ⟨⟨⟨⟨⟨⟨⟨⟨⟨⟨⟨_, _⟩, hn1⟩, _⟩, _⟩, a6⟩, a7⟩, a8⟩, a9⟩, _⟩, _⟩, _⟩ := h
  exact ⟨⟨a6, a7, a8, a9⟩, by omega⟩

theorem batchAddX_repR (hc : c.Good) {α} {φ : α → (W c).Point} {P : Pt} {A : (W c).Point}
    (hP : RepR c P A) {low : List Pt} {js : List α}
    (h : List.Forall₂ (fun Q j => RepR c Q (φ j)) low js) :
    ∃ xs, batchAddX c P low = .ok xs ∧ List.Forall₂ (fun x j => x = xKey c (A + φ j)) xs js := by
  rw [batchAddX_eq_map]
  refine mapE_forall₂ h fun Q j hQ => ?_
  obtain ⟨R, hR1, hR2⟩ := repR_add c hc hP hQ
  exact ⟨R.x?, by rw [addX, hR1], x?_eq_xKey c hc hR2⟩

omit hp in
theorem XTable.get?_set (t : XTable) (k k' : Option Int) (v : Nat) :
    (t.set k v).get? k' = if k = k' then some v else t.get? k' := by
  induction t with
  | nil => simp [XTable.set, XTable.get?]
  | cons e rest ih =>
    obtain ⟨k0, v0⟩ := e
    unfold XTable.set
    by_cases h0 : k0 = k
    · rw [if_pos h0]
      subst h0
      unfold XTable.get?
      by_cases h1 : k0 = k' <;> simp [h1]
    · rw [if_neg h0]
      unfold XTable.get?
      by_cases h1 : k0 = k'
      · rw [if_pos h1, if_pos h1]
        have : ¬ k = k' := fun h => h0 (h1.trans h.symm)
        rw [if_neg this]
      · rw [if_neg h1, if_neg h1, ih]

/-- table invariant after the first `N` writes `t[K w] = w`, `w = 0 … N-1`. -/
def TableInv (K : Nat → Option Int) (t : XTable) (N : Nat) : Prop :=
  (∀ k v, t.get? k = some v → v < N ∧ K v = k) ∧ (∀ v, v < N → ∃ v', t.get? (K v) = some v')

omit hp in
theorem tableInv_set {K : Nat → Option Int} {t : XTable} {N : Nat} (h : TableInv K t N) :
    TableInv K (t.set (K N) N) (N + 1) := by
  constructor
  · intro k v hv
    rw [XTable.get?_set] at hv
    split at hv
    · rename_i hk; cases hv; exact ⟨by omega, hk⟩
    · obtain ⟨h1, h2⟩ := h.1 k v hv; exact ⟨by omega, h2⟩
  · intro v hv
    rw [XTable.get?_set]
    split
    · exact ⟨N, rfl⟩
    · have : v ≠ N := by rintro rfl; simp_all
      exact h.2 v (by omega)

omit hp in
theorem tableRow_inv {K : Nat → Option Int} : ∀ (xs : List (Option Int)) (t : XTable) (v0 : Nat),
    List.Forall₂ (fun x w => x = K w) xs (List.range' v0 xs.length) → TableInv K t v0 →
    TableInv K (tableRow t xs v0) (v0 + xs.length)
  | [], t, v0, _, h => by simpa [tableRow] using h
  | x :: xs, t, v0, hxs, h => by
    rw [List.length_cons, List.range'_succ] at hxs
    cases hxs with
    | cons hx hrest =>
      subst hx
      rw [tableRow, List.length_cons]
      have := tableRow_inv xs (t.set (K v0) v0) (v0 + 1) hrest (tableInv_set h)
      rwa [show v0 + 1 + xs.length = v0 + (xs.length + 1) by omega] at this

theorem tableRows_inv (hc : c.Good) {B : (W c).Point} {low : List Pt} {m : Nat}
    (hlow : List.Forall₂ (fun Q (j : Nat) => RepR c Q (j • B)) low (List.range m)) :
    ∀ (ps : List Pt) (i0 : Nat) (t : XTable),
    List.Forall₂ (fun P (i : Nat) => RepR c P (i • (m • B))) ps (List.range' i0 ps.length) →
    TableInv (fun w => xKey c (w • B)) t (i0 * m) →
    ∃ t', tableRows c low m ps i0 t = .ok t' ∧
      TableInv (fun w => xKey c (w • B)) t' ((i0 + ps.length) * m)
  | [], i0, t, _, h => ⟨t, rfl, by simpa using h⟩
  | P :: ps, i0, t, hps, h => by
    rw [List.length_cons, List.range'_succ] at hps
    cases hps with
    | cons hP hrest =>
      obtain ⟨xs, hxs1, hxs2⟩ := batchAddX_repR c hc hP hlow
      have hlen : xs.length = m := by rw [hxs2.length_eq, List.length_range]
      have hxs3 : List.Forall₂ (fun x w => x = (fun w => xKey c (w • B)) w) xs
          (List.range' (i0 * m) xs.length) := by
        rw [hlen, List.range'_eq_map_range, List.forall₂_map_right_iff]
        refine hxs2.imp ?_
        intro x j hx
        rw [hx]; show _ = xKey c ((i0 * m + j) • B)
        rw [add_nsmul, mul_nsmul']
      have hinv := tableRow_inv xs t (i0 * m) hxs3 h
      rw [hlen, show i0 * m + m = (i0 + 1) * m by ring] at hinv
      obtain ⟨t', ht1, ht2⟩ := tableRows_inv hc hlow ps (i0 + 1) _ hrest hinv
      refine ⟨t', ?_, ?_⟩
      · rw [tableRows, hxs1]; exact ht1
      · rwa [List.length_cons, show i0 + (ps.length + 1) = i0 + 1 + ps.length by omega]

/-- **PointTable**: for every split `m ≥ 1` (the float oracle `int(math.sqrt(n))`) and `n ≥ 1`, with
`r = ceil(n / m)`: the call succeeds; every entry `x ↦ v` of the table has `v < r·m` and `x` is the
reduced x-coordinate of `v • base` (`None` for ∞); every `v < r·m` (in particular every `v < n`)
finds an entry under the x-coordinate of `v • base`. -/
theorem pointTable_spec (hc : c.Good) (base : Pt) (hbase : onCurve c base = true) (n m : Nat)
    (hn : 0 < n) (hm : 0 < m) :
    ∃ t, pointTable c base n m = .ok t ∧ n ≤ (n + m - 1) / m * m ∧
      (∀ k v, t.get? k = some v → v < (n + m - 1) / m * m ∧ xKey c (v • toPoint c base) = k) ∧
      (∀ v, v < (n + m - 1) / m * m → ∃ v', t.get? (xKey c (v • toPoint c base)) = some v') := by
  have hr : 0 < (n + m - 1) / m := Nat.div_pos (by omega) hm
  unfold pointTable
  rw [if_neg (by omega)]
  obtain ⟨low, hlow1, hlow2⟩ := pointSequence_spec c hc base hbase m hm
  obtain ⟨bm, hbm1, hbm2, hbm3⟩ := multiply_zsmul c hc base (m : Int) hbase
  rw [natCast_zsmul] at hbm3
  obtain ⟨high, hhigh1, hhigh2⟩ := pointSequence_spec c hc bm hbm2 _ hr
  simp only [hlow1, hbm1, hhigh1]
  have hlen : high.length = (n + m - 1) / m := by rw [hhigh2.length_eq, List.length_range]
  have hhigh3 : List.Forall₂ (fun P (i : Nat) => RepR c P (i • (m • toPoint c base))) high
      (List.range' 0 high.length) := by
    rw [hlen, ← List.range_eq_range']
    refine hhigh2.imp ?_
    intro P i hP
    exact ⟨hP.1, by rw [hP.2.1, hbm3], hP.2.2⟩
  have hinit : TableInv (fun w => xKey c (w • toPoint c base)) [] (0 * m) := by
    constructor
    · intro k v h; simp [XTable.get?] at h
    · intro v hv; omega
  obtain ⟨t, ht1, ht2⟩ := tableRows_inv c hc hlow2 high 0 []
    hhigh3 hinit
  rw [zero_add, hlen] at ht2
  exact ⟨t, ht1, le_ceilDiv_mul n hm, ht2.1, ht2.2⟩

end Paranoid.Ec
