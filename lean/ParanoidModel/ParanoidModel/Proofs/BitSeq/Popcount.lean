/-
Proofs/BitSeq/Popcount.lean — `bitLength` against powers of two; `bitCount` (and `Paranoid.popcount`)
equal `Σ_{i<n} bit i`.
-/
import ParanoidModel.Model.BitSeq
import ParanoidModel.Spec.BitDefs
namespace Paranoid.BitSeq
open Paranoid Paranoid.BitDefs

/-! ### bit length -/

theorem lt_two_pow_bitLength (s : Nat) : s < 2 ^ bitLength s := by
  unfold bitLength
  split
  · subst_vars; decide
  · exact Nat.lt_log2_self

theorem lt_two_pow_iff_bitLength_le (s n : Nat) : s < 2 ^ n ↔ bitLength s ≤ n := by
  unfold bitLength
  split
  · subst_vars; simp [Nat.two_pow_pos]
  · rename_i h; rw [← Nat.log2_lt h]; omega

theorem testBit_of_bitLength_le (seq i : Nat) (h : bitLength seq ≤ i) : seq.testBit i = false :=
  Nat.testBit_lt_two_pow (Nat.lt_of_lt_of_le (lt_two_pow_bitLength seq)
    (Nat.pow_le_pow_right (by decide) h))

theorem lt_bitLength_of_two_pow_le {k n : Nat} (h : 2 ^ k ≤ n) : k < bitLength n :=
  Nat.lt_of_not_le fun hle => absurd ((lt_two_pow_iff_bitLength_le n k).2 hle) (Nat.not_lt.2 h)

/-! ### population count -/

/-- `Σ_{i<n} bit i` in recursive form. -/
def pc (s : Nat) : Nat → Nat
  | 0 => 0
  | n + 1 => pc s n + (s.testBit n).toNat

theorem countBelow_succ (n : Nat) (p : Nat → Bool) :
    countBelow (n + 1) p = countBelow n p + (p n).toNat := by
  unfold countBelow
  rw [List.range_succ, List.countP_append]
  cases h : p n <;> simp [h]

theorem popcountDef_eq_pc (s n : Nat) : popcountDef s n = pc s n := by
  induction n with
  | zero => rfl
  | succ n ih => unfold popcountDef at *; rw [countBelow_succ, ih]; rfl

theorem pc_zero (n : Nat) : pc 0 n = 0 := by
  induction n with
  | zero => rfl
  | succ n ih => simp [pc, ih]

theorem pc_succ_shift (s n : Nat) : pc s (n + 1) = s % 2 + pc (s / 2) n := by
  induction n with
  | zero =>
    simp only [pc, Nat.testBit_zero]
    rcases Nat.mod_two_eq_zero_or_one s with h | h <;> simp [h]
  | succ n ih =>
    rw [pc, ih, pc, Nat.testBit_succ]; omega

theorem pc_add (s a b : Nat) : pc s (a + b) = pc s a + pc (s >>> a) b := by
  induction b with
  | zero => rfl
  | succ b ih => rw [← Nat.add_assoc, pc, ih, pc, Nat.testBit_shiftRight]; omega

theorem pc_mod (s a : Nat) : ∀ n, n ≤ a → pc (s % 2 ^ a) n = pc s n := by
  intro n
  induction n with
  | zero => intro _; rfl
  | succ n ih =>
    intro h
    rw [pc, pc, ih (by omega), Nat.testBit_mod_two_pow]
    simp [show n < a by omega]

theorem pc_of_lt (s n : Nat) (h : s < 2 ^ n) (k : Nat) : pc s (n + k) = pc s n := by
  rw [pc_add]
  have : s >>> n = 0 := by rw [Nat.shiftRight_eq_div_pow]; exact Nat.div_eq_of_lt h
  rw [this, pc_zero]; rfl

theorem pc_congr_bound (s n n' : Nat) (h : s < 2 ^ n) (h' : s < 2 ^ n') : pc s n = pc s n' := by
  rcases Nat.le_total n n' with hle | hle
  · obtain ⟨k, rfl⟩ := Nat.exists_eq_add_of_le hle; exact (pc_of_lt s n h k).symm
  · obtain ⟨k, rfl⟩ := Nat.exists_eq_add_of_le hle; exact pc_of_lt s n' h' k

theorem popcountAux_eq (f : Nat) : ∀ s acc, s < 2 ^ f → popcountAux f s acc = acc + pc s f := by
  induction f with
  | zero => intro s acc h; simp [popcountAux, pc]
  | succ f ih =>
    intro s acc h
    unfold popcountAux
    split
    · subst_vars; rw [pc_zero]; rfl
    · rw [ih _ _ (by omega), pc_succ_shift]; omega

theorem popcount_eq_pc (s n : Nat) (h : s < 2 ^ n) : popcount s = pc s n := by
  unfold popcount
  rw [popcountAux_eq _ _ _ (lt_two_pow_bitLength s), Nat.zero_add]
  exact pc_congr_bound _ _ _ (lt_two_pow_bitLength s) h

theorem bitCountAux_eq (f : Nat) : ∀ s acc, s < 2 ^ (64 * f) →
    bitCountAux f s acc = acc + pc s (64 * f) := by
  induction f with
  | zero => intro s acc h; simp [bitCountAux, pc]
  | succ f ih =>
    intro s acc h
    unfold bitCountAux
    have h1 : s >>> 64 < 2 ^ (64 * f) := by
      rw [Nat.shiftRight_eq_div_pow, Nat.div_lt_iff_lt_mul (by decide)]
      rw [← Nat.pow_add]; simpa [Nat.mul_succ] using h
    rw [ih _ _ h1, popcount_eq_pc _ 64 (Nat.mod_lt _ (by decide)), pc_mod _ _ _ (Nat.le_refl _)]
    rw [show 64 * (f + 1) = 64 + 64 * f by omega, pc_add]; omega

theorem bitCount_eq_pc (s n : Nat) (h : s < 2 ^ n) : bitCount s = pc s n := by
  unfold bitCount
  have hb : s < 2 ^ (64 * ((bitLength s + 63) / 64)) :=
    Nat.lt_of_lt_of_le (lt_two_pow_bitLength s) (Nat.pow_le_pow_right (by decide) (by omega))
  rw [bitCountAux_eq _ _ _ hb, Nat.zero_add]
  exact pc_congr_bound _ _ _ hb h

end Paranoid.BitSeq
