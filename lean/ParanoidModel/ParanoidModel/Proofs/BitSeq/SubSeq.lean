/-
Proofs/BitSeq/SubSeq.lean — counting helpers, registers `(V >>> a) % 2^w` of a bit stream, the virtual
stream of cyclic windows, `subSequences`.
-/
import ParanoidModel.Proofs.BitSeq.Bytes
namespace Paranoid.BitSeq
open Paranoid Paranoid.BitDefs

/-! ### counting helpers -/

theorem countBelow_congr (n : Nat) (f g : Nat → Bool) (h : ∀ k, k < n → f k = g k) :
    countBelow n f = countBelow n g := by
  unfold countBelow
  apply List.countP_congr
  intro k hk
  rw [h k (by simpa using hk)]

theorem countBelow_add (a b : Nat) (g : Nat → Bool) :
    countBelow (a + b) g = countBelow a g + countBelow b (fun k => g (a + k)) := by
  induction b with
  | zero => simp [countBelow]
  | succ b ih => rw [← Nat.add_assoc, countBelow_succ, ih, countBelow_succ]; omega

theorem countBelow_succ_shift (n : Nat) (g : Nat → Bool) :
    countBelow (n + 1) g = (g 0).toNat + countBelow n (fun k => g (k + 1)) := by
  rw [Nat.add_comm n 1, countBelow_add]
  have h1 : countBelow 1 g = (g 0).toNat := by
    have := countBelow_succ 0 g; simpa [countBelow] using this
  rw [h1]; congr 1; apply countBelow_congr; intro k _; rw [Nat.add_comm]

theorem countBelow_rotate (n c : Nat) (g : Nat → Bool) (hc : c ≤ n) :
    countBelow n (fun k => g ((k + c) % n)) = countBelow n g := by
  obtain ⟨d, rfl⟩ := Nat.exists_eq_add_of_le hc
  have hL : countBelow (c + d) (fun k => g ((k + c) % (c + d))) =
      countBelow d (fun k => g ((k + c) % (c + d))) +
        countBelow c (fun k => g ((d + k + c) % (c + d))) := by
    rw [show c + d = d + c from Nat.add_comm c d]
    exact countBelow_add d c _
  have e1 : countBelow c (fun k => g ((d + k + c) % (c + d))) = countBelow c g := by
    apply countBelow_congr; intro k hk
    rw [show d + k + c = k + (c + d) by omega, Nat.add_mod_right, Nat.mod_eq_of_lt (by omega)]
  have e2 : countBelow d (fun k => g ((k + c) % (c + d))) = countBelow d (fun k => g (c + k)) := by
    apply countBelow_congr; intro k hk
    rw [Nat.mod_eq_of_lt (by omega), Nat.add_comm]
  rw [hL, countBelow_add c d g, e1, e2]; omega

/-! ### registers: `(V >>> a) % 2^w` holds the bits `a … a+w-1` of the stream `V` -/

theorem mod_two_pow_shiftRight (x w k : Nat) : (x % 2 ^ w) >>> k = (x >>> k) % 2 ^ (w - k) := by
  apply Nat.eq_of_testBit_eq
  intro i
  simp only [Nat.testBit_shiftRight, Nat.testBit_mod_two_pow]
  rw [decide_eq_decide.2 (show k + i < w ↔ i < w - k by omega)]

theorem mod_mod_two_pow (x : Nat) {m w : Nat} (h : m ≤ w) : x % 2 ^ w % 2 ^ m = x % 2 ^ m :=
  Nat.mod_mod_of_dvd _ (Nat.pow_dvd_pow 2 h)

theorem mod_xor_shiftLeft (x m k : Nat) :
    x % 2 ^ m ^^^ (((x >>> m) % 2 ^ k) <<< m) = x % 2 ^ (m + k) := by
  apply Nat.eq_of_testBit_eq
  intro i
  simp only [Nat.testBit_xor, Nat.testBit_mod_two_pow, Nat.testBit_shiftLeft, Nat.testBit_shiftRight]
  by_cases h : i < m
  · simp [h, show ¬ i ≥ m by omega, show i < m + k by omega]
  · simp [h, show i ≥ m by omega, show m + (i - m) = i by omega,
      decide_eq_decide.2 (show i - m < k ↔ i < m + k by omega)]

/-- loading byte `j` of `seq` above the `m`-bit register at position `8 j` of a stream `V` whose
bits from `m` on are those of `seq`. -/
theorem xor_byte_eq (seq m V j : Nat) (hV : V >>> m = seq) :
    ((V >>> (8 * j)) % 2 ^ m) ^^^ (byteAt seq j <<< m) = (V >>> (8 * j)) % 2 ^ (m + 8) := by
  rw [← mod_xor_shiftLeft, byteAt, ← hV, ← Nat.shiftRight_add, ← Nat.shiftRight_add, Nat.add_comm]

/-- an `m`-bit window read out of a wider register: what both `FrequencyCount` loops do with the
register they have just loaded a byte into. -/
theorem window_of_wide (V m w a k : Nat) (hw : k + m ≤ w) :
    (((V >>> a) % 2 ^ w) >>> k) % 2 ^ m = (V >>> (a + k)) % 2 ^ m := by
  rw [mod_two_pow_shiftRight, ← Nat.shiftRight_add, mod_mod_two_pow _ (by omega)]

/-! ### the virtual stream: top `m` bits of the string, then the whole string -/

/-- `vstream seq n m`: bits `0..m-1` are the last `m` bits of the `n`-bit string, bit `m + p` is
bit `p` of the string. `(vstream >>> k) % 2^m`, `k = 0..n`, are the cyclic windows. -/
def vstream (seq n m : Nat) : Nat := (seq >>> (n - m)) ||| (seq <<< m)

theorem testBit_vstream (seq n m p : Nat) (h : seq < 2 ^ n) (hm : m ≤ n) :
    (vstream seq n m).testBit p = if p < m then seq.testBit (n - m + p) else seq.testBit (p - m) := by
  unfold vstream
  rw [Nat.testBit_or, Nat.testBit_shiftRight, Nat.testBit_shiftLeft]
  split
  · rename_i hp; simp [show ¬ p ≥ m by omega]
  · rename_i hp
    have : seq.testBit (n - m + p) = false :=
      Nat.testBit_lt_two_pow (Nat.lt_of_lt_of_le h (Nat.pow_le_pow_right (by decide) (by omega)))
    simp [this, show p ≥ m by omega]

theorem vstream_shiftRight (seq n m : Nat) (h : seq < 2 ^ n) (hm : m ≤ n) :
    vstream seq n m >>> m = seq := by
  apply Nat.eq_of_testBit_eq
  intro p
  rw [Nat.testBit_shiftRight, testBit_vstream _ _ _ _ h hm, if_neg (by omega), Nat.add_sub_cancel_left]

theorem vstream_mod (seq n m : Nat) (h : seq < 2 ^ n) (hm : m ≤ n) :
    vstream seq n m % 2 ^ m = seq >>> (n - m) := by
  apply Nat.eq_of_testBit_eq
  intro j
  rw [Nat.testBit_mod_two_pow, testBit_vstream _ _ _ _ h hm, Nat.testBit_shiftRight]
  by_cases hj : j < m
  · simp [hj]
  · rw [decide_eq_false hj, Bool.false_and, Nat.testBit_lt_two_pow
      (Nat.lt_of_lt_of_le h (Nat.pow_le_pow_right (by decide) (by omega)))]

/-- `m`-bit windows of the virtual stream built for width `w ≥ m` are cyclic windows. -/
theorem vstream_window_cyclic (seq n m w k : Nat) (h : seq < 2 ^ n) (hw : w ≤ n) (hmw : m ≤ w)
    (hk : k ≤ n) :
    (vstream seq n w >>> k) % 2 ^ m = cyclicWindow seq n m ((k + (n - w)) % n) := by
  unfold cyclicWindow
  apply eq_ofBits
  intro j
  rw [Nat.testBit_mod_two_pow, Nat.testBit_shiftRight, testBit_vstream _ _ _ _ h hw]
  by_cases hj : j < m
  · simp only [hj, decide_true, Bool.true_and]
    rw [Nat.mod_add_mod]
    split
    · rename_i hlt
      rw [Nat.mod_eq_of_lt (by omega)]; congr 1; omega
    · rename_i hge
      rw [show k + (n - w) + j = (k + j - w) + n by omega, Nat.add_mod_right,
        Nat.mod_eq_of_lt (by omega)]
  · simp [hj]

/-- any `n` consecutive `m`-bit windows of the virtual stream (built for a register of width
`w ≥ m`), from position `a ≤ 1` on, are the `n` cyclic windows: their tallies are the cyclic
pattern frequencies. -/
theorem count_vstream_windows (seq n m w a p : Nat) (h : seq < 2 ^ n) (hw : w ≤ n) (hmw : m ≤ w)
    (ha : a ≤ 1) :
    countBelow n (fun k => (vstream seq n w >>> (k + a)) % 2 ^ m == p) = freqDef seq n m true p := by
  rcases Nat.eq_zero_or_pos n with rfl | hn
  · rfl
  rw [freqDef, if_pos rfl, ← countBelow_rotate n ((a + (n - w)) % n)
    (fun i => cyclicWindow seq n m i == p) (Nat.le_of_lt (Nat.mod_lt _ hn))]
  apply countBelow_congr
  intro k hk
  rw [vstream_window_cyclic _ _ _ _ _ h hw hmw (by omega), Nat.add_mod_mod, Nat.add_assoc]

def vwin (seq n m k : Nat) : Nat := (vstream seq n m >>> k) % 2 ^ m

theorem vwin_add (seq n m k : Nat) (h : seq < 2 ^ n) (hm : m ≤ n) :
    vwin seq n m (m + k) = window seq m k := by
  rw [vwin, Nat.shiftRight_add, vstream_shiftRight _ _ _ h hm, window_eq]

theorem vwin_zero (seq n m : Nat) (h : seq < 2 ^ n) (hm : m ≤ n) :
    vwin seq n m 0 = window seq m (n - m) := by
  rw [vwin, Nat.shiftRight_zero, window_eq, ← vstream_mod _ _ _ h hm, Nat.mod_mod]

/-! ### SubSequences -/

/-- one loop iteration keeps `s = (V >>> i) % 2^(m + p)`, `p < 8` the bits of the current byte not
yet consumed (`i + p` is a byte boundary); `V` is a stream that continues with `seq` from bit `m` on
(the virtual stream with wrap-around, `seq <<< m` without). -/
theorem subSeqStep_inv (seq m V i p : Nat) (hV : V >>> m = seq) (hp : (i + p) % 8 = 0) (hp8 : p < 8) :
    ∃ p', (i + 1 + p') % 8 = 0 ∧ p' < 8 ∧
      subSeqStep seq m ((V >>> i) % 2 ^ (m + p)) i = (V >>> (i + 1)) % 2 ^ (m + p') := by
  unfold subSeqStep
  split
  · rename_i h8
    obtain rfl : p = 0 := by omega
    obtain ⟨a, rfl⟩ : ∃ a, i = 8 * a := ⟨i / 8, by omega⟩
    refine ⟨7, by omega, by decide, ?_⟩
    rw [Nat.mul_div_cancel_left _ (by decide), Nat.add_zero, xor_byte_eq seq m V a hV,
      mod_two_pow_shiftRight, ← Nat.shiftRight_add]
    rfl
  · rename_i h8
    obtain ⟨p, rfl⟩ : ∃ p', p = p' + 1 := ⟨p - 1, by omega⟩
    exact ⟨p, by omega, by omega, by rw [mod_two_pow_shiftRight, ← Nat.shiftRight_add]; rfl⟩

theorem subSeqLoop_spec (seq m V : Nat) (hV : V >>> m = seq) : ∀ f i p acc, (i + p) % 8 = 0 → p < 8 →
    (subSeqLoop seq m (2 ^ m - 1) f i ((V >>> i) % 2 ^ (m + p)) acc).toList =
      acc.toList ++ (List.range f).map (fun t => (V >>> (i + 1 + t)) % 2 ^ m) := by
  intro f
  induction f with
  | zero => intro i p acc _ _; simp [subSeqLoop]
  | succ f ih =>
    intro i p acc hp hp8
    obtain ⟨p', h1, h2, h3⟩ := subSeqStep_inv seq m V i p hV hp hp8
    unfold subSeqLoop
    rw [h3, ih (i + 1) p' _ h1 h2, Array.toList_push, List.range_succ_eq_map, List.map_cons,
      List.map_map, List.append_assoc, List.singleton_append, Nat.and_two_pow_sub_one_eq_mod,
      mod_mod_two_pow _ (Nat.le_add_right m p')]
    congr 2
    apply List.map_congr_left
    intro t _
    simp only [Function.comp, Nat.succ_eq_add_one]
    rw [Nat.add_assoc (i + 1), Nat.add_comm 1 t]

/-- `SubSequences` with wrap-around yields, in this order, the windows `1 … n` of the virtual
stream. -/
theorem subSequences_wrap_vwin (seq n m : Nat) (h : seq < 2 ^ n) (hm1 : 1 ≤ m) (hm : m ≤ n) :
    subSequences seq n m true = .ok ((List.range n).map (fun t => vwin seq n m (t + 1))) := by
  unfold subSequences
  rw [if_neg (by omega), if_neg (by have := (lt_two_pow_iff_bitLength_le seq n).1 h; omega),
    if_neg (by omega), if_pos rfl, Nat.and_two_pow_sub_one_eq_mod, ← vstream_mod _ _ _ h hm, Nat.mod_mod]
  have := subSeqLoop_spec seq m (vstream seq n m) (vstream_shiftRight _ _ _ h hm) n 0 0 #[] rfl
    (by decide)
  rw [Nat.shiftRight_zero, Nat.add_zero] at this
  rw [this]
  simp only [List.nil_append, Nat.zero_add, Nat.add_comm 1, vwin]

theorem count_map_range (F : Nat → Nat) (n p : Nat) :
    ((List.range n).map F).count p = countBelow n (fun i => F i == p) := by
  unfold countBelow
  rw [List.count_eq_countP, List.countP_map]
  rfl

end Paranoid.BitSeq
