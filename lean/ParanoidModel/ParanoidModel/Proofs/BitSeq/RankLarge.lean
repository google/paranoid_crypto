/-
Proofs/BitSeq/RankLarge.lean — the loops of the table-driven elimination `_BinaryMatrixRankLarge` never
raise and end with `2^rank = |row span|` (`rankRounds_spec`).
-/
import ParanoidModel.Proofs.BitSeq.Rank
import Mathlib.Data.Nat.Bitwise
namespace Paranoid.BitSeq
open Paranoid Paranoid.BitDefs

/-! ### enumeration of the subsets of a mask: `t ↦ (t - 1) &&& mask` -/

/-- `x < y` is witnessed by a highest differing bit. -/
theorem exists_bit_of_lt {x y : Nat} (h : x < y) :
    ∃ i, x.testBit i = false ∧ y.testBit i = true ∧ ∀ j, i < j → x.testBit j = y.testBit j := by
  obtain ⟨i, hi, hi'⟩ := Nat.exists_most_significant_bit (n := x ^^^ y)
    (by rw [Ne, Nat.xor_eq_zero_iff]; omega)
  have hagree : ∀ j, i < j → x.testBit j = y.testBit j := fun j hj => by
    simpa using hi' j hj
  rw [Nat.testBit_xor] at hi
  cases hx : x.testBit i <;> cases hy : y.testBit i <;> simp [hx, hy] at hi
  · exact ⟨i, hx, hy, hagree⟩
  · exact absurd (Nat.lt_of_testBit i hy hx fun j hj => (hagree j hj).symm) (by omega)

/-- adding one does not change the bits above a zero bit: `u = 2^(k+1)·q + r` with `r < 2^k`. -/
theorem testBit_succ_above (u k j : Nat) (hk : u.testBit k = false) (hj : k < j) :
    (u + 1).testBit j = u.testBit j := by
  have hr : u % 2 ^ (k + 1) < 2 ^ k := by
    have h0 : u / 2 ^ k % 2 = 0 := by
      rw [Nat.testBit_eq_decide_div_mod_eq] at hk; simpa using hk
    rw [Nat.mod_pow_succ, h0]; exact Nat.mod_lt u (Nat.two_pow_pos k)
  have hp : 2 ^ (k + 1) = 2 * 2 ^ k := by rw [Nat.pow_succ]; omega
  rw [← Nat.div_add_mod u (2 ^ (k + 1)), Nat.add_assoc,
    Nat.testBit_two_pow_mul_add _ (by omega), Nat.testBit_two_pow_mul_add _ (by omega),
    if_neg (by omega), if_neg (by omega)]

theorem le_of_and_eq (j mask : Nat) (h : j &&& mask = j) : j ≤ mask := by
  rw [← h]; exact Nat.and_le_right

theorem testBit_of_sub (j mask i : Nat) (h : j &&& mask = j) (hi : j.testBit i = true) :
    mask.testBit i = true := by
  have := congrArg (·.testBit i) h
  simp only [Nat.testBit_and, hi, Bool.true_and] at this
  exact this

/-- `(t-1) &&& mask` is the next smaller subset of `mask`: nothing lies in between. At the highest
bit `k` where a subset `s` in between would exceed `(t-1) &&& mask`, `t - 1` has a zero, so `t - 1`
and `t ⊆ mask` agree above `k`, and `t - 1 < s` follows. -/
theorem subset_enum_next (mask t s : Nat) (ht : t &&& mask = t) (hs : s &&& mask = s)
    (hst : s < t) : s ≤ (t - 1) &&& mask := by
  by_contra hlt
  obtain ⟨k, hk1, hk2, hk3⟩ := exists_bit_of_lt (Nat.lt_of_not_le hlt)
  rw [Nat.testBit_and, testBit_of_sub s mask k hs hk2, Bool.and_true] at hk1
  have : t - 1 < s := Nat.lt_of_testBit k hk1 hk2 fun j hj => by
    have hut := testBit_succ_above (t - 1) k j hk1 hj
    rw [show t - 1 + 1 = t by omega] at hut
    rw [← hk3 j hj, Nat.testBit_and, ← hut]
    cases htj : t.testBit j
    · rfl
    · rw [testBit_of_sub t mask j ht htj]; rfl
  omega

/-! ### the subset table -/

/-- entry `j` of the table is a combination `v < 2^cU` of the pivots `Pv` whose bits at the pivot
columns of this round (`mask`, counted from `cL`) spell `j`. -/
def GoodEntry (tab : Array (Option Nat)) (cL mask cU : Nat) (Pv : List Nat) (j : Nat) : Prop :=
  ∃ v, tab[j]? = some (some v) ∧ v ∈ spanSet Pv ∧ (v >>> cL) &&& mask = j ∧ v < 2 ^ cU

/-- every index below `mask` holds a good entry; `zero` (the entry of the empty combination is `0`
itself) is what a row without a pivot bit reads. -/
structure TabInv (tab : Array (Option Nat)) (cL mask cU T : Nat) (Pv : List Nat) : Prop where
  size : tab.size = 2 ^ T
  zero : tab[0]? = some (some 0)
  good : ∀ j, j &&& mask = j → GoodEntry tab cL mask cU Pv j

theorem tabGet_of_some (tab : Array (Option Nat)) (j v : Nat) (h : tab[j]? = some (some v)) :
    tabGet tab j = .ok v := by
  unfold tabGet; rw [h]

theorem tabSet_ok (tab : Array (Option Nat)) (j v : Nat) (h : j < tab.size) :
    tabSet tab j v = .ok (tab.setIfInBounds j (some v)) := by
  unfold tabSet; rw [if_pos h]

/-! `mask ^^^ 2 ^ pp` with `pp` not in `mask` is the mask after the new pivot column `pp` has been
added (`new_mask` of the code); in lemma names it is written `mask'`. -/

section subsets
variable (cL mask cU T pp x' : Nat) (Pv : List Nat)
variable (hpp : pp < T) (hmT : mask < 2 ^ T) (hmp : mask.testBit pp = false)
variable (hx0 : (x' >>> cL) &&& mask = 0) (hxb : x'.testBit (cL + pp) = true) (hxU : x' < 2 ^ cU)

include hmp in
theorem testBit_mask_xor_bit (i : Nat) :
    (mask ^^^ 2 ^ pp).testBit i = (mask.testBit i || decide (i = pp)) := by
  rw [Nat.testBit_xor, Nat.testBit_two_pow]
  by_cases h : i = pp
  · subst h; simp [hmp]
  · have : ¬ pp = i := fun e => h e.symm
    simp [h, this]

include hmp in
theorem mask_xor_bit_and_mask : (mask ^^^ 2 ^ pp) &&& mask = mask := by
  apply Nat.eq_of_testBit_eq; intro i
  rw [Nat.testBit_and, testBit_mask_xor_bit mask pp hmp]
  cases mask.testBit i <;> simp

include hmp in
theorem or_bit_sub_mask' (s : Nat) (hs : s &&& mask = s) :
    (s ||| 2 ^ pp) &&& (mask ^^^ 2 ^ pp) = s ||| 2 ^ pp := by
  apply Nat.eq_of_testBit_eq; intro i
  have hsi := congrArg (·.testBit i) hs
  simp only [Nat.testBit_and] at hsi
  rw [Nat.testBit_and, Nat.testBit_or, Nat.testBit_two_pow, testBit_mask_xor_bit mask pp hmp]
  by_cases h : pp = i
  · subst h; simp
  · have : ¬ i = pp := fun e => h e.symm
    simp [h, this, hsi]

include hmp in
theorem sub_mask_sub_mask' (s : Nat) (hs : s &&& mask = s) : s &&& (mask ^^^ 2 ^ pp) = s := by
  apply Nat.eq_of_testBit_eq; intro i
  have hsi := congrArg (·.testBit i) hs
  simp only [Nat.testBit_and] at hsi
  rw [Nat.testBit_and, testBit_mask_xor_bit mask pp hmp]
  cases hb : s.testBit i
  · simp
  · rw [hb] at hsi; simp at hsi; simp [hsi]

theorem testBit_or_bit (s : Nat) : (s ||| 2 ^ pp).testBit pp = true := by
  rw [Nat.testBit_or, Nat.testBit_two_pow]; simp

theorem two_pow_and_mask_eq_zero (hmp : mask.testBit pp = false) : 2 ^ pp &&& mask = 0 := by
  apply Nat.eq_of_testBit_eq; intro i
  rw [Nat.testBit_and, Nat.testBit_two_pow]
  by_cases h : pp = i
  · subst h; simp [hmp]
  · simp [h]

/-- loop invariant of `rankSubsets` when the subsets `> t` of `mask` have been processed: the
entries at the subsets `≤ t` of the old mask are still those of the old table; the entries of the
new table whose part below the old mask is `> t`, and the entry of the new pivot, are in place. -/
structure SubInv (tab : Array (Option Nat)) (t : Nat) : Prop where
  size : tab.size = 2 ^ T
  zero : tab[0]? = some (some 0)
  tsub : t &&& mask = t
  todo : ∀ s, s &&& mask = s → s ≤ t → GoodEntry tab cL mask cU Pv s
  done : ∀ j, j &&& (mask ^^^ 2 ^ pp) = j → t < j &&& mask ∨ j = 2 ^ pp →
    GoodEntry tab cL (mask ^^^ 2 ^ pp) cU (Pv ++ [x']) j

variable {cL mask cU T pp x' Pv}

include hmp in
/-- an index below the new mask is determined by its part below the old mask and the new bit. -/
theorem eq_of_and_mask_eq (j k : Nat) (hj : j &&& (mask ^^^ 2 ^ pp) = j)
    (hk : k &&& (mask ^^^ 2 ^ pp) = k) (hm : j &&& mask = k &&& mask)
    (hb : j.testBit pp = k.testBit pp) : j = k := by
  apply Nat.eq_of_testBit_eq; intro i
  by_cases hi : i = pp
  · rw [hi]; exact hb
  · have hji := congrArg (·.testBit i) hj
    have hki := congrArg (·.testBit i) hk
    have hmi := congrArg (·.testBit i) hm
    simp only [Nat.testBit_and, testBit_mask_xor_bit mask pp hmp, hi, decide_false, Bool.or_false]
      at hji hki hmi
    rw [← hji, ← hki]; exact hmi

include hmp in
theorem idx_and_mask (y : Nat) : (y &&& (mask ^^^ 2 ^ pp)) &&& mask = y &&& mask := by
  rw [Nat.and_assoc, mask_xor_bit_and_mask mask pp hmp]

include hmp in
theorem testBit_idx (w : Nat) :
    ((w >>> cL) &&& (mask ^^^ 2 ^ pp)).testBit pp = w.testBit (cL + pp) := by
  rw [Nat.testBit_and, Nat.testBit_shiftRight, testBit_mask_xor_bit mask pp hmp]; simp

include hpp hmT hmp hx0 hxb hxU in
/-- one iteration reads `a = tab[t]` and writes `a` and `a ^^^ x'`: their indices are the two
indices of the new table that restrict to `t`, and no other entry is touched. -/
theorem rankSubsets_step (f : Nat) (tab : Array (Option Nat)) (t : Nat) (ht0 : t ≠ 0)
    (inv : SubInv cL mask cU T pp x' Pv tab t) :
    ∃ tab2, rankSubsets cL mask (mask ^^^ 2 ^ pp) x' (f + 1) t tab =
        rankSubsets cL mask (mask ^^^ 2 ^ pp) x' f ((t - 1) &&& mask) tab2 ∧
      SubInv cL mask cU T pp x' Pv tab2 ((t - 1) &&& mask) := by
  obtain ⟨a, ha1, ha2, ha3, ha4⟩ := inv.todo t inv.tsub (Nat.le_refl _)
  have hm'T : mask ^^^ 2 ^ pp < 2 ^ T :=
    Nat.xor_lt_two_pow hmT (Nat.pow_lt_pow_right (by decide) hpp)
  have hb3 : ((a ^^^ x') >>> cL) &&& mask = t := by
    rw [Nat.shiftRight_xor_distrib, Nat.and_xor_distrib_right, ha3, hx0, Nat.xor_zero]
  have ha2' : a ∈ spanSet (Pv ++ [x']) := spanSet_append_left Pv [x'] ha2
  have hb2 : a ^^^ x' ∈ spanSet (Pv ++ [x']) :=
    xor_mem_spanSet _ _ _ ha2' (mem_spanSet_of_mem _ _ (by simp))
  have hAp := testBit_idx (cL := cL) hmp a
  have hBp := testBit_idx (cL := cL) hmp (a ^^^ x')
  rw [Nat.testBit_xor, hxb, Bool.xor_true] at hBp
  have hAm := (idx_and_mask hmp (a >>> cL)).trans ha3
  have hBm := (idx_and_mask hmp ((a ^^^ x') >>> cL)).trans hb3
  have hAsub := Nat.and_self_right (a >>> cL) (mask ^^^ 2 ^ pp)
  have hBsub := Nat.and_self_right ((a ^^^ x') >>> cL) (mask ^^^ 2 ^ pp)
  rw [rankSubsets, if_neg ht0, tabGet_of_some _ _ _ ha1]
  dsimp only [bind, Except.bind]
  generalize hIA : (a >>> cL) &&& (mask ^^^ 2 ^ pp) = iA at *
  generalize hIB : ((a ^^^ x') >>> cL) &&& (mask ^^^ 2 ^ pp) = iB at *
  have hAlt : iA < tab.size := by
    rw [inv.size]; exact Nat.lt_of_le_of_lt (le_of_and_eq _ _ hAsub) hm'T
  have hBlt : iB < (tab.setIfInBounds iA (some a)).size := by
    rw [Array.size_setIfInBounds, inv.size]; exact Nat.lt_of_le_of_lt (le_of_and_eq _ _ hBsub) hm'T
  have hAB : iA ≠ iB := fun e => by
    rw [e, hBp] at hAp; cases h : a.testBit (cL + pp) <;> simp [h] at hAp
  rw [tabSet_ok _ _ _ hAlt]
  dsimp only
  rw [tabSet_ok _ _ _ hBlt]
  refine ⟨_, rfl, ?_⟩
  -- entries whose restriction to the old mask differs from `t` are untouched
  have hkeep : ∀ k, k &&& mask ≠ t →
      ((tab.setIfInBounds iA (some a)).setIfInBounds iB (some (a ^^^ x')))[k]? = tab[k]? := by
    intro k hk
    rw [Array.getElem?_setIfInBounds_ne (by intro e; subst e; exact hk hBm),
      Array.getElem?_setIfInBounds_ne (by intro e; subst e; exact hk hAm)]
  have hgetB : ((tab.setIfInBounds iA (some a)).setIfInBounds iB (some (a ^^^ x')))[iB]? =
      some (some (a ^^^ x')) := Array.getElem?_setIfInBounds_self_of_lt hBlt
  have hgetA : ((tab.setIfInBounds iA (some a)).setIfInBounds iB (some (a ^^^ x')))[iA]? =
      some (some a) := by
    rw [Array.getElem?_setIfInBounds_ne (fun e => hAB e.symm),
      Array.getElem?_setIfInBounds_self_of_lt hAlt]
  have hnext_lt : (t - 1) &&& mask < t :=
    Nat.lt_of_le_of_lt Nat.and_le_left (Nat.sub_lt (Nat.pos_of_ne_zero ht0) Nat.one_pos)
  constructor
  · rw [Array.size_setIfInBounds, Array.size_setIfInBounds]; exact inv.size
  · rw [hkeep 0 (by rw [Nat.zero_and]; exact fun e => ht0 e.symm)]; exact inv.zero
  · exact Nat.and_self_right _ _
  · intro s hs hle
    have hst : s < t := Nat.lt_of_le_of_lt hle hnext_lt
    obtain ⟨v, h1, h2, h3, h4⟩ := inv.todo s hs (Nat.le_of_lt hst)
    exact ⟨v, by rw [hkeep s (by rw [hs]; exact Nat.ne_of_lt hst)]; exact h1, h2, h3, h4⟩
  · intro j hj hc
    by_cases hjt : j &&& mask = t
    · by_cases hjp : j.testBit pp = a.testBit (cL + pp)
      · obtain rfl := eq_of_and_mask_eq hmp j iA hj hAsub (hjt.trans hAm.symm)
          (hjp.trans hAp.symm)
        exact ⟨a, hgetA, ha2', hIA, ha4⟩
      · obtain rfl := eq_of_and_mask_eq hmp j iB hj hBsub (hjt.trans hBm.symm)
          (by rw [hBp]; cases h : a.testBit (cL + pp) <;> simp [h] at hjp ⊢ <;> exact hjp)
        exact ⟨a ^^^ x', hgetB, hb2, hIB, Nat.xor_lt_two_pow ha4 hxU⟩
    · have hc' : t < j &&& mask ∨ j = 2 ^ pp := by
        refine hc.imp_left fun hc => ?_
        rcases Nat.lt_or_ge t (j &&& mask) with h | h
        · exact h
        · exact absurd hc (Nat.not_lt.2 (subset_enum_next mask t (j &&& mask) inv.tsub
            (Nat.and_self_right _ _) (Nat.lt_of_le_of_ne h hjt)))
      obtain ⟨v, h1, h2, h3, h4⟩ := inv.done j hj hc'
      exact ⟨v, by rw [hkeep j hjt]; exact h1, h2, h3, h4⟩

include hmp in
theorem subInv_finish (tab : Array (Option Nat)) (inv : SubInv cL mask cU T pp x' Pv tab 0) :
    TabInv tab cL (mask ^^^ 2 ^ pp) cU T (Pv ++ [x']) := by
  refine ⟨inv.size, inv.zero, fun j hj => ?_⟩
  by_cases h0 : j &&& mask = 0
  · by_cases hjp : j.testBit pp = true
    · exact inv.done j hj (Or.inr (eq_of_and_mask_eq hmp j (2 ^ pp) hj
        (by simpa using or_bit_sub_mask' mask pp hmp 0 (Nat.zero_and _))
        (h0.trans (two_pow_and_mask_eq_zero mask pp hmp).symm)
        (by rw [hjp, Nat.testBit_two_pow_self])))
    · obtain rfl := eq_of_and_mask_eq hmp j 0 hj (Nat.zero_and _)
        (by rw [h0, Nat.zero_and]) (by simpa using hjp)
      exact ⟨0, inv.zero, zero_mem_spanSet _, by simp, Nat.two_pow_pos _⟩
  · exact inv.done j hj (Or.inl (Nat.pos_of_ne_zero h0))

include hpp hmT hmp hx0 hxb hxU in
theorem rankSubsets_spec : ∀ f t (tab : Array (Option Nat)), t ≤ f →
    SubInv cL mask cU T pp x' Pv tab t →
    ∃ tab', rankSubsets cL mask (mask ^^^ 2 ^ pp) x' f t tab = .ok tab' ∧
      TabInv tab' cL (mask ^^^ 2 ^ pp) cU T (Pv ++ [x']) := by
  intro f
  induction f with
  | zero =>
    intro t tab ht inv
    obtain rfl : t = 0 := by omega
    exact ⟨tab, by simp [rankSubsets], subInv_finish hmp tab inv⟩
  | succ f ih =>
    intro t tab ht inv
    by_cases ht0 : t = 0
    · subst ht0
      exact ⟨tab, by simp [rankSubsets], subInv_finish hmp tab inv⟩
    · obtain ⟨tab2, he, inv'⟩ :=
        rankSubsets_step hpp hmT hmp hx0 hxb hxU f tab t ht0 inv
      rw [he]
      exact ih _ tab2 (Nat.le_trans Nat.and_le_left (by omega)) inv'

include hpp hmT hmp hx0 hxb hxU in
/-- the table update of one new pivot: `tab[bit] = row_i` followed by the subset loop. -/
theorem table_update (tab : Array (Option Nat)) (inv : TabInv tab cL mask cU T Pv) :
    ∃ tab1 tab2, tabSet tab (2 ^ pp) x' = .ok tab1 ∧
      rankSubsets cL mask (mask ^^^ 2 ^ pp) x' (mask + 1) mask tab1 = .ok tab2 ∧
      TabInv tab2 cL (mask ^^^ 2 ^ pp) cU T (Pv ++ [x']) := by
  have hbit_lt : 2 ^ pp < tab.size := by rw [inv.size]; exact Nat.pow_lt_pow_right (by decide) hpp
  have hbm := two_pow_and_mask_eq_zero mask pp hmp
  have hpos := Nat.two_pow_pos pp
  have hkeep : ∀ k, k ≠ 2 ^ pp → (tab.setIfInBounds (2 ^ pp) (some x'))[k]? = tab[k]? :=
    fun k hk => Array.getElem?_setIfInBounds_ne (fun e => hk e.symm)
  have inv1 : SubInv cL mask cU T pp x' Pv (tab.setIfInBounds (2 ^ pp) (some x')) mask := by
    refine ⟨by rw [Array.size_setIfInBounds]; exact inv.size, by rw [hkeep 0 (by omega)]; exact inv.zero,
      Nat.and_self _, fun s hs _ => ?_, fun j hj hc => ?_⟩
    · obtain ⟨v, h1, h2, h3, h4⟩ := inv.good s hs
      exact ⟨v, by rw [hkeep s (by rintro rfl; omega)]; exact h1, h2, h3, h4⟩
    · obtain rfl : j = 2 ^ pp := hc.resolve_left (Nat.not_lt.2 Nat.and_le_right)
      refine ⟨x', Array.getElem?_setIfInBounds_self_of_lt hbit_lt, mem_spanSet_of_mem _ _ (by simp), ?_, hxU⟩
      exact eq_of_and_mask_eq hmp _ _ (Nat.and_self_right _ _) hj
        ((idx_and_mask hmp _).trans (hx0.trans hbm.symm))
        (by rw [testBit_idx (cL := cL) hmp, hxb, Nat.testBit_two_pow_self])
  obtain ⟨tab2, r1, r2⟩ := rankSubsets_spec hpp hmT hmp hx0 hxb hxU
    (mask + 1) mask _ (by omega) inv1
  exact ⟨_, tab2, tabSet_ok _ _ _ hbit_lt, r1, r2⟩

end subsets

/-! ### echelon lists of pivots -/

/-- pivot `k` has a one in column `cs[k]`, every later pivot a zero. -/
def Echelon : List Nat → List Nat → Prop
  | [], [] => True
  | p :: ps, c :: cs => p.testBit c = true ∧ (∀ q ∈ ps, q.testBit c = false) ∧ Echelon ps cs
  | _, _ => False

theorem echelon_append : ∀ (ps cs : List Nat) (p c : Nat), Echelon ps cs →
    (∀ c' ∈ cs, p.testBit c' = false) → p.testBit c = true → Echelon (ps ++ [p]) (cs ++ [c]) := by
  intro ps
  induction ps with
  | nil =>
    intro cs p c h hz hc
    cases cs with
    | nil => exact ⟨hc, by simp, trivial⟩
    | cons c' cs => exact absurd h (by simp [Echelon])
  | cons q ps ih =>
    intro cs p c h hz hc
    cases cs with
    | nil => exact absurd h (by simp [Echelon])
    | cons c' cs =>
      obtain ⟨h1, h2, h3⟩ := h
      refine ⟨h1, ?_, ih cs p c h3 (fun c'' hc'' => hz c'' (List.mem_cons_of_mem _ hc'')) hc⟩
      intro r hr
      rcases List.mem_append.1 hr with hr | hr
      · exact h2 r hr
      · simp only [List.mem_singleton] at hr; subst hr; exact hz c' (List.mem_cons_self ..)

theorem card_span_echelon : ∀ (ps cs : List Nat), Echelon ps cs →
    (spanSet ps).card = 2 ^ ps.length := by
  intro ps
  induction ps with
  | nil => intro cs _; simp [spanSet_nil]
  | cons p ps ih =>
    intro cs h
    cases cs with
    | nil => exact absurd h (by simp [Echelon])
    | cons c cs =>
      obtain ⟨h1, h2, h3⟩ := h
      rw [card_spanSet_cons_of_not_mem _ _ (not_mem_spanSet_of_testBit h1 h2), ih cs h3,
        List.length_cons, Nat.pow_succ, Nat.mul_comm]

/-! ### list views of the array operations -/

theorem getElem?_mid (A B : List Nat) (x : Nat) : (A ++ x :: B)[A.length]? = some x := by
  rw [List.getElem?_append_right (Nat.le_refl _)]; simp

theorem set_mid (A B : List Nat) (x y : Nat) : (A ++ x :: B).set A.length y = A ++ y :: B := by
  rw [List.set_append, if_neg (by omega)]; simp

/-! ### shifts against powers of two -/

theorem shiftRight_lt (x a b : Nat) (h : x < 2 ^ b) (hab : a ≤ b) : x >>> a < 2 ^ (b - a) := by
  rw [Nat.shiftRight_eq_div_pow, Nat.div_lt_iff_lt_mul (Nat.two_pow_pos a), ← Nat.pow_add,
    show b - a + a = b by omega]
  exact h

theorem lt_of_shiftRight_eq_zero (x a : Nat) (h : x >>> a = 0) : x < 2 ^ a := by
  rw [Nat.shiftRight_eq_div_pow] at h
  exact (Nat.div_eq_zero_iff_lt (Nat.two_pow_pos a)).1 h

/-! ### one row of one elimination round -/

theorem rankPivot_ok (cL i x mr pp rank mask : Nat) (m : Array Nat) (tab tab1 tab2 : Array (Option Nat))
    (hx : x >>> cL ≠ 0) (hpp : (x >>> cL).log2 = pp) (hmr : m[rank]? = some mr)
    (h1 : tabSet tab (2 ^ pp) x = .ok tab1)
    (h2 : rankSubsets cL mask (mask ^^^ 2 ^ pp) x (mask + 1) mask tab1 = .ok tab2) :
    rankPivot cL i x ⟨m, rank, mask, tab⟩ = .ok
      ⟨if i ≠ rank then (m.setIfInBounds i mr).setIfInBounds rank x else m, rank + 1,
        mask ^^^ 2 ^ pp, tab2⟩ := by
  unfold rankPivot
  dsimp only
  rw [hmr]
  dsimp only
  rw [msb_eq _ hx, hpp, h1]
  dsimp only [bind, Except.bind]
  rw [h2]
  rfl

/-- invariant of `for i in range(rank, rows)` in the round eliminating columns `cL … cU-1`: the
matrix is `Pv ++ Z ++ R` with the pivots `Pv` (echelon, columns `cs`; `rank = |Pv|`), the rows `Z`
already reduced to below `2^cL`, the rows `R` still to visit (below `2^cU`; `i = |Pv| + |Z|`). -/
structure RowInv (S0 : Finset Nat) (cL cU mask : Nat) (tab : Array (Option Nat))
    (Pv Z R cs : List Nat) : Prop where
  zlt : ∀ z ∈ Z, z < 2 ^ cL
  rlt : ∀ r ∈ R, r < 2 ^ cU
  ech : Echelon Pv cs
  cols : ∀ c ∈ cs, cU ≤ c ∨ (cL ≤ c ∧ mask.testBit (c - cL) = true)
  tab : TabInv tab cL mask cU (cU - cL) Pv
  mlt : mask < 2 ^ (cU - cL)
  span : spanSet (Pv ++ Z ++ R) = S0

theorem rankRow_spec {S0 : Finset Nat} {cL cU : Nat} (hLU : cL ≤ cU) {mask : Nat}
    {tab : Array (Option Nat)} {Pv Z R' cs : List Nat} {x : Nat}
    (inv : RowInv S0 cL cU mask tab Pv Z (x :: R') cs) :
    ∃ mask' tab' Pv' Z' cs',
      rankRow cL (Pv.length + Z.length) ⟨(Pv ++ Z ++ x :: R').toArray, Pv.length, mask, tab⟩ =
        .ok ⟨(Pv' ++ Z' ++ R').toArray, Pv'.length, mask', tab'⟩ ∧
      Pv'.length + Z'.length = Pv.length + Z.length + 1 ∧
      RowInv S0 cL cU mask' tab' Pv' Z' R' cs' := by
  -- the table entry used to reduce the row
  obtain ⟨v, hv1, hv2, hv3, hv4⟩ := inv.tab.good _ (Nat.and_self_right (x >>> cL) mask)
  have hx'U : x ^^^ v < 2 ^ cU := Nat.xor_lt_two_pow (inv.rlt x (List.mem_cons_self ..)) hv4
  have hx0 : ((x ^^^ v) >>> cL) &&& mask = 0 := by
    rw [Nat.shiftRight_xor_distrib, Nat.and_xor_distrib_right, hv3, Nat.xor_self]
  have hspan1 : spanSet (Pv ++ Z ++ (x ^^^ v) :: R') = S0 := by
    rw [spanSet_replace _ _ _ _ (spanSet_append_left Pv Z hv2)]; exact inv.span
  have hrlt : ∀ r ∈ R', r < 2 ^ cU := fun r hr => inv.rlt r (List.mem_cons_of_mem _ hr)
  unfold rankRow
  dsimp only
  rw [List.getElem?_toArray, ← List.length_append, getElem?_mid]
  dsimp only
  rw [tabGet_of_some _ _ _ hv1]
  dsimp only [bind, Except.bind]
  rw [List.setIfInBounds_toArray, set_mid, List.length_append]
  split
  · -- a new pivot, at column `cL + pp`
    rename_i hmsb
    have hpp : ((x ^^^ v) >>> cL).log2 < cU - cL :=
      (Nat.log2_lt hmsb).2 (shiftRight_lt _ _ _ hx'U hLU)
    have hxb : (x ^^^ v).testBit (cL + ((x ^^^ v) >>> cL).log2) = true := by
      rw [← Nat.testBit_shiftRight]; exact Nat.testBit_log2 hmsb
    have hmp : mask.testBit ((x ^^^ v) >>> cL).log2 = false := by
      have := congrArg (·.testBit ((x ^^^ v) >>> cL).log2) hx0
      simpa only [Nat.testBit_and, Nat.testBit_log2 hmsb, Bool.true_and, Nat.zero_testBit] using this
    obtain ⟨tab1, tab2, ht1, ht2, ht3⟩ := table_update hpp inv.mlt hmp hx0 hxb hx'U tab inv.tab
    generalize hlog : ((x ^^^ v) >>> cL).log2 = pp at *
    generalize x ^^^ v = x' at *
    -- the new pivot has zeros in all earlier pivot columns
    have hzero : ∀ c' ∈ cs, x'.testBit c' = false := by
      intro c' hc'
      rcases inv.cols c' hc' with h | ⟨h1, h2⟩
      · exact Nat.testBit_lt_two_pow (Nat.lt_of_lt_of_le hx'U (Nat.pow_le_pow_right (by decide) h))
      · have := congrArg (·.testBit (c' - cL)) hx0
        simp only [Nat.testBit_and, h2, Bool.and_true, Nat.zero_testBit, Nat.testBit_shiftRight] at this
        rwa [Nat.add_sub_cancel' h1] at this
    have hcols : ∀ c ∈ cs ++ [cL + pp], cU ≤ c ∨
        (cL ≤ c ∧ (mask ^^^ 2 ^ pp).testBit (c - cL) = true) := by
      intro c hc
      rcases List.mem_append.1 hc with h | h
      · exact (inv.cols c h).imp_right fun ⟨h1, h2⟩ => ⟨h1, by rw [testBit_mask_xor_bit _ _ hmp, h2]; rfl⟩
      · obtain rfl := List.mem_singleton.1 h
        exact Or.inr ⟨Nat.le_add_right _ _, by rw [testBit_mask_xor_bit _ _ hmp, Nat.add_sub_cancel_left]; simp⟩
    -- what is common to both shapes of the result
    have hinv : ∀ Z', (∀ z ∈ Z', z < 2 ^ cL) → spanSet ((Pv ++ [x']) ++ Z' ++ R') = S0 →
        RowInv S0 cL cU (mask ^^^ 2 ^ pp) tab2 (Pv ++ [x']) Z' R' (cs ++ [cL + pp]) :=
      fun Z' hz hs => ⟨hz, hrlt, echelon_append Pv cs x' (cL + pp) inv.ech hzero hxb, hcols, ht3,
        Nat.xor_lt_two_pow inv.mlt (Nat.pow_lt_pow_right (by decide) hpp), hs⟩
    cases Z with
    | nil =>
      refine ⟨_, tab2, Pv ++ [x'], [], _, ?_, by simp, hinv [] (fun z hz => by cases hz)
        (by simpa using hspan1)⟩
      rw [rankPivot_ok cL _ x' x' pp _ _ _ _ tab1 tab2 hmsb hlog (by simp) ht1 ht2]
      simp
    | cons z Z =>
      have hlen : (Pv ++ [x']).length + (Z ++ [z]).length = Pv.length + (z :: Z).length + 1 := by
        simp only [List.length_append, List.length_cons, List.length_nil]; omega
      refine ⟨_, tab2, Pv ++ [x'], Z ++ [z], _, ?_, hlen,
        hinv (Z ++ [z]) (fun y hy => inv.zlt y (by simpa [or_comm] using hy))
          (by rw [spanSet_swap]; exact hspan1)⟩
      rw [rankPivot_ok cL _ x' z pp _ _ _ _ tab1 tab2 hmsb hlog
        (by rw [List.getElem?_toArray, List.append_assoc, List.cons_append]; exact getElem?_mid Pv _ z)
        ht1 ht2]
      rw [if_pos (by simp), List.setIfInBounds_toArray, List.setIfInBounds_toArray,
        ← List.length_append, set_mid, List.append_assoc, List.cons_append, set_mid]
      simp
  · -- no pivot: the row is reduced to below `2^cL`
    rename_i hz
    refine ⟨mask, tab, Pv, Z ++ [x ^^^ v], cs, by simp [pure, Except.pure],
      by rw [List.length_append, List.length_singleton, Nat.add_assoc], ?_, hrlt,
      inv.ech, inv.cols, inv.tab, inv.mlt, by simpa using hspan1⟩
    intro z hz'
    rcases List.mem_append.1 hz' with h | h
    · exact inv.zlt z h
    · obtain rfl := List.mem_singleton.1 h
      exact lt_of_shiftRight_eq_zero _ _ (by simpa using hz)

/-! ### the loops -/

theorem rankRows_spec (S0 : Finset Nat) (cL cU : Nat) (hLU : cL ≤ cU) : ∀ (R : List Nat)
    (mask : Nat) (tab : Array (Option Nat)) (Pv Z cs : List Nat),
    RowInv S0 cL cU mask tab Pv Z R cs →
    ∃ mask' tab' Pv' Z' cs',
      rankRows cL R.length (Pv.length + Z.length) ⟨(Pv ++ Z ++ R).toArray, Pv.length, mask, tab⟩ =
        .ok ⟨(Pv' ++ Z').toArray, Pv'.length, mask', tab'⟩ ∧
      Pv'.length + Z'.length = Pv.length + Z.length + R.length ∧
      RowInv S0 cL cU mask' tab' Pv' Z' [] cs' := by
  intro R
  induction R with
  | nil =>
    intro mask tab Pv Z cs inv
    exact ⟨mask, tab, Pv, Z, cs, by simp [rankRows], rfl, inv⟩
  | cons x R' ih =>
    intro mask tab Pv Z cs inv
    obtain ⟨mask1, tab1, Pv1, Z1, cs1, h1, hl1, inv1⟩ :=
      rankRow_spec hLU inv
    obtain ⟨mask2, tab2, Pv2, Z2, cs2, h2, hl2, inv2⟩ := ih mask1 tab1 Pv1 Z1 cs1 inv1
    refine ⟨mask2, tab2, Pv2, Z2, cs2, ?_, by rw [hl2, hl1, List.length_cons]; omega, inv2⟩
    rw [List.length_cons, rankRows, h1]
    dsimp only [bind, Except.bind]
    rw [← hl1]
    exact h2

/-- invariant of `while c_upper > 0`: the matrix is `Pv ++ Z`, `rank = |Pv|`. -/
structure RoundInv (S0 : Finset Nat) (rows cU : Nat) (Pv Z cs : List Nat) : Prop where
  size : rows = Pv.length + Z.length
  zlt : ∀ z ∈ Z, z < 2 ^ cU
  ech : Echelon Pv cs
  cols : ∀ c ∈ cs, cU ≤ c
  span : spanSet (Pv ++ Z) = S0

theorem RoundInv.card {S0 : Finset Nat} {rows : Nat} {Pv Z cs : List Nat}
    (inv : RoundInv S0 rows 0 Pv Z cs) : 2 ^ Pv.length = S0.card := by
  rw [← inv.span, spanSet_append_zeros Pv Z (fun z hz => by have := inv.zlt z hz; omega),
    card_span_echelon Pv cs inv.ech]

theorem rankRound_spec {S0 : Finset Nat} {rows cL cU : Nat} (hLU : cL ≤ cU) {Pv Z cs : List Nat}
    (inv : RoundInv S0 rows cU Pv Z cs) :
    ∃ mask' tab' Pv' Z' cs',
      rankRows cL Z.length Pv.length ⟨(Pv ++ Z).toArray, Pv.length, 0,
          (Array.replicate (2 ^ (cU - cL)) none).setIfInBounds 0 (some 0)⟩ =
        .ok ⟨(Pv' ++ Z').toArray, Pv'.length, mask', tab'⟩ ∧
      RoundInv S0 rows cL Pv' Z' cs' := by
  have hsz : 0 < (Array.replicate (2 ^ (cU - cL)) (none : Option Nat)).size := by
    rw [Array.size_replicate]; exact Nat.two_pow_pos _
  have inv0 : RowInv S0 cL cU 0 ((Array.replicate (2 ^ (cU - cL)) none).setIfInBounds 0 (some 0))
      Pv [] Z cs := by
    refine ⟨by simp, inv.zlt, inv.ech, fun c hc => Or.inl (inv.cols c hc), ?_, Nat.two_pow_pos _,
      by simpa using inv.span⟩
    refine ⟨by rw [Array.size_setIfInBounds, Array.size_replicate],
      Array.getElem?_setIfInBounds_self_of_lt hsz, fun j hj => ?_⟩
    obtain rfl : j = 0 := by rw [← hj]; exact Nat.and_zero _
    exact ⟨0, Array.getElem?_setIfInBounds_self_of_lt hsz, zero_mem_spanSet _, by simp,
      Nat.two_pow_pos _⟩
  obtain ⟨mask', tab', Pv', Z', cs', h1, hl, inv1⟩ := rankRows_spec S0 cL cU hLU Z _ _ Pv [] cs inv0
  simp only [List.append_nil, List.length_nil, Nat.add_zero] at h1 hl
  exact ⟨mask', tab', Pv', Z', cs', h1, by rw [hl]; exact inv.size, inv1.zlt, inv1.ech,
    fun c hc => (inv1.cols c hc).elim (Nat.le_trans hLU) And.left, by simpa using inv1.span⟩

theorem rankRounds_spec (S0 : Finset Nat) (rows step : Nat) (hstep : 1 ≤ step) :
    ∀ (f cU : Nat) (Pv Z cs : List Nat), cU ≤ f → RoundInv S0 rows cU Pv Z cs →
    ∃ r, rankRounds rows step f cU (Pv ++ Z).toArray Pv.length = .ok r ∧ 2 ^ r = S0.card := by
  intro f
  induction f with
  | zero =>
    intro cU Pv Z cs hf inv
    obtain rfl : cU = 0 := by omega
    exact ⟨_, by simp [rankRounds], inv.card⟩
  | succ f ih =>
    intro cU Pv Z cs hf inv
    by_cases h0 : cU = 0
    · subst h0
      exact ⟨_, by simp [rankRounds], inv.card⟩
    · obtain ⟨mask', tab', Pv', Z', cs', h1, inv1⟩ :=
        rankRound_spec (Nat.sub_le cU (min cU step)) inv
      rw [Nat.sub_sub_self (Nat.min_le_left _ _)] at h1
      obtain ⟨r, h2, h3⟩ := ih (cU - min cU step) Pv' Z' cs' (by omega) inv1
      refine ⟨r, ?_, h3⟩
      have hZ : rows - Pv.length = Z.length := by rw [inv.size, Nat.add_sub_cancel_left]
      rw [rankRounds, if_neg h0, hZ, h1]
      exact h2

theorem one_le_rankStep (rows : Nat) : 1 ≤ rankStep rows := by
  unfold rankStep
  split
  · exact Nat.le_max_left _ _
  · rename_i h32
    have h5 : 5 < bitLength rows := lt_bitLength_of_two_pow_le (Nat.le_of_not_lt h32)
    split
    · omega
    · rename_i h256
      have h8 : 8 < bitLength rows := lt_bitLength_of_two_pow_le (Nat.le_of_not_lt h256)
      split
      · omega
      · rename_i h8192
        have := lt_bitLength_of_two_pow_le (k := 13) (Nat.le_of_not_lt h8192)
        omega

theorem le_maxBitLength (l : List Nat) : ∀ r ∈ l, bitLength r ≤ maxBitLength l := by
  unfold maxBitLength
  have gen : ∀ (l : List Nat) (acc : Nat), acc ≤ l.foldl (fun acc r => max acc (bitLength r)) acc ∧
      ∀ r ∈ l, bitLength r ≤ l.foldl (fun acc r => max acc (bitLength r)) acc := by
    intro l
    induction l with
    | nil => intro acc; exact ⟨Nat.le_refl _, fun r hr => by cases hr⟩
    | cons x l ih =>
      intro acc
      obtain ⟨h1, h2⟩ := ih (max acc (bitLength x))
      refine ⟨by rw [List.foldl_cons]; omega, fun r hr => ?_⟩
      rw [List.foldl_cons]
      rcases List.mem_cons.1 hr with rfl | h
      · omega
      · exact h2 r h
  exact (gen l 0).2

end Paranoid.BitSeq
