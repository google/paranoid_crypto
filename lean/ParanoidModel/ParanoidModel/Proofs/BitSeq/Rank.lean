/-
Proofs/BitSeq/Rank.lean — `_BinaryMatrixRankSmall` characterises the size of the GF(2) row span.
-/
import ParanoidModel.Proofs.BitSeq.Popcount
import Mathlib.Data.Finset.Card
import Mathlib.Data.Finset.Image
namespace Paranoid.BitSeq
open Paranoid Paranoid.BitDefs

/-! ### GF(2) span of a list of rows -/

theorem distinctCount_eq_card (l : List Nat) : distinctCount l = l.toFinset.card := by
  induction l with
  | nil => rfl
  | cons a t ih =>
    rw [distinctCount, List.toFinset_cons, ih]
    by_cases h : a ∈ t
    · rw [if_pos h, Finset.card_insert_of_mem (by simpa using h)]; omega
    · rw [if_neg h, Finset.card_insert_of_notMem (by simpa using h)]; omega

def spanSet (rows : List Nat) : Finset Nat := (spanList rows).toFinset

theorem spanSize_eq_card (rows : List Nat) : spanSize rows = (spanSet rows).card :=
  distinctCount_eq_card _

theorem spanSet_nil : spanSet [] = {0} := rfl

theorem spanSet_cons (r : Nat) (R : List Nat) :
    spanSet (r :: R) = spanSet R ∪ (spanSet R).image (r ^^^ ·) := by
  unfold spanSet
  rw [spanList, List.toFinset_append]
  congr 1
  ext v
  simp only [List.mem_toFinset, List.mem_map, Finset.mem_image]

theorem mem_spanSet_cons (r : Nat) (R : List Nat) (v : Nat) :
    v ∈ spanSet (r :: R) ↔ v ∈ spanSet R ∨ ∃ y ∈ spanSet R, r ^^^ y = v := by
  rw [spanSet_cons, Finset.mem_union, Finset.mem_image]

theorem zero_mem_spanSet (R : List Nat) : 0 ∈ spanSet R := by
  induction R with
  | nil => simp [spanSet_nil]
  | cons r R ih => rw [mem_spanSet_cons]; exact Or.inl ih

theorem xor_mem_spanSet (R : List Nat) : ∀ x y, x ∈ spanSet R → y ∈ spanSet R →
    x ^^^ y ∈ spanSet R := by
  induction R with
  | nil =>
    intro x y hx hy
    simp only [spanSet_nil, Finset.mem_singleton] at hx hy ⊢
    subst hx hy; rfl
  | cons r R ih =>
    intro x y hx hy
    rw [mem_spanSet_cons] at hx hy ⊢
    rcases hx with hx | ⟨x', hx', rfl⟩ <;> rcases hy with hy | ⟨y', hy', rfl⟩
    · exact Or.inl (ih _ _ hx hy)
    · exact Or.inr ⟨x ^^^ y', ih _ _ hx hy', by
        rw [← Nat.xor_assoc, Nat.xor_comm r x, Nat.xor_assoc]⟩
    · exact Or.inr ⟨x' ^^^ y, ih _ _ hx' hy, by rw [Nat.xor_assoc]⟩
    · left
      have : r ^^^ x' ^^^ (r ^^^ y') = x' ^^^ y' := by
        rw [Nat.xor_assoc, ← Nat.xor_assoc x' r y', Nat.xor_comm x' r, Nat.xor_assoc r x' y',
          ← Nat.xor_assoc, Nat.xor_self, Nat.zero_xor]
      rw [this]; exact ih _ _ hx' hy'

theorem mem_spanSet_of_mem (R : List Nat) : ∀ x ∈ R, x ∈ spanSet R := by
  induction R with
  | nil => intro x hx; cases hx
  | cons r R ih =>
    intro x hx
    rw [mem_spanSet_cons]
    rcases List.mem_cons.1 hx with rfl | h
    · exact Or.inr ⟨0, zero_mem_spanSet R, Nat.xor_zero _⟩
    · exact Or.inl (ih x h)

/-- the span is the smallest xor-closed set containing 0 and the rows. -/
theorem spanSet_subset (R : List Nat) (C : Nat → Prop) (h0 : C 0)
    (hx : ∀ x y, C x → C y → C (x ^^^ y)) (hR : ∀ x ∈ R, C x) : ∀ v ∈ spanSet R, C v := by
  induction R with
  | nil => intro v hv; simp only [spanSet_nil, Finset.mem_singleton] at hv; subst hv; exact h0
  | cons r R ih =>
    intro v hv
    have ihR := ih (fun x hx' => hR x (List.mem_cons_of_mem _ hx'))
    rw [mem_spanSet_cons] at hv
    rcases hv with hv | ⟨y, hy, rfl⟩
    · exact ihR v hv
    · exact hx _ _ (hR r (List.mem_cons_self ..)) (ihR y hy)

/-- a row with a one in a column where all of `R` have zeros is not a combination of `R`. -/
theorem not_mem_spanSet_of_testBit {p c : Nat} {R : List Nat} (hp : p.testBit c = true)
    (hR : ∀ q ∈ R, q.testBit c = false) : p ∉ spanSet R := fun hmem => by
  have := spanSet_subset R (fun v => v.testBit c = false) (by simp)
    (fun x y hx hy => by simp [Nat.testBit_xor, hx, hy]) hR p hmem
  rw [hp] at this; cases this

theorem spanSet_mono (A B : List Nat) (h : ∀ a ∈ A, a ∈ spanSet B) : spanSet A ⊆ spanSet B :=
  fun v hv => spanSet_subset A (· ∈ spanSet B) (zero_mem_spanSet B) (xor_mem_spanSet B) h v hv

theorem spanSet_cons_of_mem (r : Nat) (R : List Nat) (h : r ∈ spanSet R) :
    spanSet (r :: R) = spanSet R := by
  apply Finset.Subset.antisymm
  · apply spanSet_mono
    intro a ha
    rcases List.mem_cons.1 ha with rfl | h'
    · exact h
    · exact mem_spanSet_of_mem R a h'
  · intro v hv; rw [mem_spanSet_cons]; exact Or.inl hv

theorem card_spanSet_cons_of_not_mem (r : Nat) (R : List Nat) (h : r ∉ spanSet R) :
    (spanSet (r :: R)).card = 2 * (spanSet R).card := by
  rw [spanSet_cons, Finset.card_union_of_disjoint, Finset.card_image_of_injective]
  · omega
  · intro a b hab
    have : r ^^^ (r ^^^ a) = r ^^^ (r ^^^ b) := congrArg (r ^^^ ·) hab
    simpa [← Nat.xor_assoc] using this
  · rw [Finset.disjoint_left]
    intro v hv hv'
    obtain ⟨y, hy, rfl⟩ := Finset.mem_image.1 hv'
    apply h
    have := xor_mem_spanSet R _ _ hv hy
    rwa [Nat.xor_assoc, Nat.xor_self, Nat.xor_zero] at this

theorem spanSet_append_left (A B : List Nat) : spanSet A ⊆ spanSet (A ++ B) :=
  spanSet_mono A (A ++ B) (fun a ha => mem_spanSet_of_mem _ a (List.mem_append_left _ ha))

theorem spanSet_congr (A B : List Nat) (h : ∀ a, a ∈ A ↔ a ∈ B) : spanSet A = spanSet B :=
  Finset.Subset.antisymm
    (spanSet_mono A B (fun a ha => mem_spanSet_of_mem _ a ((h a).1 ha)))
    (spanSet_mono B A (fun a ha => mem_spanSet_of_mem _ a ((h a).2 ha)))

theorem spanSet_append_zeros (ps zs : List Nat) (hz : ∀ z ∈ zs, z = 0) :
    spanSet (ps ++ zs) = spanSet ps := by
  apply Finset.Subset.antisymm
  · apply spanSet_mono
    intro a ha
    rcases List.mem_append.1 ha with h | h
    · exact mem_spanSet_of_mem _ a h
    · rw [hz a h]; exact zero_mem_spanSet _
  · exact spanSet_append_left ps zs

/-- replacing a row by its sum with a combination of the rows in front of it keeps the span. -/
theorem spanSet_replace (A B : List Nat) (x v : Nat) (hv : v ∈ spanSet A) :
    spanSet (A ++ (x ^^^ v) :: B) = spanSet (A ++ x :: B) := by
  have hvL : v ∈ spanSet (A ++ (x ^^^ v) :: B) := spanSet_append_left A _ hv
  have hvR : v ∈ spanSet (A ++ x :: B) := spanSet_append_left A _ hv
  apply Finset.Subset.antisymm
  · apply spanSet_mono
    intro a ha
    simp only [List.mem_append, List.mem_cons] at ha
    rcases ha with h | rfl | h
    · exact mem_spanSet_of_mem _ a (by simp [h])
    · exact xor_mem_spanSet _ _ _ (mem_spanSet_of_mem _ x (by simp)) hvR
    · exact mem_spanSet_of_mem _ a (by simp [h])
  · apply spanSet_mono
    intro a ha
    simp only [List.mem_append, List.mem_cons] at ha
    rcases ha with h | rfl | h
    · exact mem_spanSet_of_mem _ a (by simp [h])
    · have := xor_mem_spanSet _ _ _
        (mem_spanSet_of_mem (A ++ (a ^^^ v) :: B) (a ^^^ v) (by simp)) hvL
      rwa [Nat.xor_assoc, Nat.xor_self, Nat.xor_zero] at this
    · exact mem_spanSet_of_mem _ a (by simp [h])

/-- the span depends on the members only; here: two rows exchanged. -/
theorem spanSet_swap (A B C : List Nat) (x z : Nat) :
    spanSet ((A ++ [x]) ++ (B ++ [z]) ++ C) = spanSet (A ++ z :: B ++ x :: C) := by
  apply spanSet_congr
  intro a
  simp only [List.mem_append, List.mem_cons, List.not_mem_nil, false_or, or_assoc, or_comm,
    or_left_comm]

/-! ### `_BinaryMatrixRankSmall` -/

theorem elimRow_cases (msb r x : Nat) : elimRow msb r x = x ∨ elimRow msb r x = x ^^^ r := by
  unfold elimRow; split
  · exact Or.inr rfl
  · exact Or.inl rfl

theorem spanSet_elim (msb r : Nat) (R : List Nat) :
    spanSet (r :: R.map (elimRow msb r)) = spanSet (r :: R) := by
  have hr1 : r ∈ spanSet (r :: R) := mem_spanSet_of_mem _ _ (List.mem_cons_self ..)
  have hr2 : r ∈ spanSet (r :: R.map (elimRow msb r)) := mem_spanSet_of_mem _ _ (List.mem_cons_self ..)
  apply Finset.Subset.antisymm
  · apply spanSet_mono
    intro a ha
    rcases List.mem_cons.1 ha with rfl | h'
    · exact hr1
    · obtain ⟨x, hx, rfl⟩ := List.mem_map.1 h'
      have hx' : x ∈ spanSet (r :: R) := mem_spanSet_of_mem _ _ (List.mem_cons_of_mem _ hx)
      rcases elimRow_cases msb r x with e | e <;> rw [e]
      · exact hx'
      · exact xor_mem_spanSet _ _ _ hx' hr1
  · apply spanSet_mono
    intro a ha
    rcases List.mem_cons.1 ha with rfl | h'
    · exact hr2
    · have he : elimRow msb r a ∈ spanSet (r :: R.map (elimRow msb r)) :=
        mem_spanSet_of_mem _ _ (List.mem_cons_of_mem _ (List.mem_map.2 ⟨a, h', rfl⟩))
      rcases elimRow_cases msb r a with e | e
      · rwa [e] at he
      · rw [e] at he
        have := xor_mem_spanSet _ _ _ he hr2
        rwa [Nat.xor_assoc, Nat.xor_self, Nat.xor_zero] at this

theorem msb_eq (r : Nat) (h : r ≠ 0) : 1 <<< (bitLength r - 1) = 2 ^ r.log2 := by
  unfold bitLength; rw [if_neg h, Nat.one_shiftLeft]; rfl

theorem and_two_pow_ne_zero_iff (x t : Nat) : x &&& 2 ^ t ≠ 0 ↔ x.testBit t = true := by
  constructor
  · intro h
    obtain ⟨i, hi⟩ := Nat.exists_testBit_of_ne_zero h
    rw [Nat.testBit_and, Nat.testBit_two_pow] at hi
    simp only [Bool.and_eq_true, decide_eq_true_eq] at hi
    rw [hi.2]; exact hi.1
  · intro h h0
    have : (x &&& 2 ^ t).testBit t = true := by rw [Nat.testBit_and, Nat.testBit_two_pow, h]; simp
    rw [h0] at this; simp at this

theorem testBit_elimRow (r x : Nat) (h : r ≠ 0) :
    (elimRow (1 <<< (bitLength r - 1)) r x).testBit r.log2 = false := by
  rw [msb_eq r h]
  unfold elimRow
  have hr : r.testBit r.log2 = true := Nat.testBit_log2 h
  split
  · rename_i hc
    rw [Nat.testBit_xor, (and_two_pow_ne_zero_iff x r.log2).1 hc, hr]; rfl
  · rename_i hc
    cases hx : x.testBit r.log2
    · rfl
    · exact absurd ((and_two_pow_ne_zero_iff x r.log2).2 hx) hc

theorem rankSmallAux_spec : ∀ f rows rank, rows.length ≤ f →
    2 ^ rankSmallAux f rows rank = 2 ^ rank * (spanSet rows).card := by
  intro f
  induction f with
  | zero =>
    intro rows rank h
    have : rows = [] := List.eq_nil_of_length_eq_zero (by omega)
    subst this; simp [rankSmallAux, spanSet_nil]
  | succ f ih =>
    intro rows rank h
    cases rows with
    | nil => simp [rankSmallAux, spanSet_nil]
    | cons r rest =>
      unfold rankSmallAux
      split
      · rename_i h0; subst h0
        rw [ih rest rank (by simpa using h), spanSet_cons_of_mem 0 rest (zero_mem_spanSet rest)]
      · rename_i h0
        rw [ih _ (rank + 1) (by simpa using h), ← spanSet_elim (1 <<< (bitLength r - 1)) r rest,
          card_spanSet_cons_of_not_mem, Nat.pow_succ]
        · rw [Nat.mul_assoc]
        · exact not_mem_spanSet_of_testBit (Nat.testBit_log2 h0) fun x hx => by
            obtain ⟨y, _, rfl⟩ := List.mem_map.1 hx
            exact testBit_elimRow r y h0

/-- **`_BinaryMatrixRankSmall` characterises the size of the row span: `2^rank = |span|`.** -/
theorem rankSmall_spec (rows : List Nat) : 2 ^ rankSmall rows = spanSize rows := by
  unfold rankSmall
  rw [rankSmallAux_spec _ _ _ (Nat.le_refl _), spanSize_eq_card]; simp

end Paranoid.BitSeq
