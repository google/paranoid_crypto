/-
Proofs/BitSeq/RunsOfOnes.lean — `longestRunOfOnes` and `overlappingRunsOfOnes` through
`f_k s = s & s>>1 & … & s>>(k-1)`, whose bit `i` says that a run of `k` ones starts at `i`.
-/
import ParanoidModel.Proofs.BitSeq.Popcount
namespace Paranoid.BitSeq
open Paranoid Paranoid.BitDefs

/-! ### runs of ones -/

theorem hasRun_mono {s k k' : Nat} (h : HasRun s k) (hle : k' ≤ k) : HasRun s k' := by
  obtain ⟨i, hi⟩ := h
  exact ⟨i, fun j hj => hi j (Nat.lt_of_lt_of_le hj hle)⟩

theorem hasRun_le_of_lt (s k n : Nat) (h : s < 2 ^ n) (hr : HasRun s k) : k ≤ n := by
  obtain ⟨i, hi⟩ := hr
  refine Nat.le_of_not_lt fun hlt => ?_
  have h2 : s.testBit (i + n) = false :=
    Nat.testBit_lt_two_pow (Nat.lt_of_lt_of_le h (Nat.pow_le_pow_right (by decide) (Nat.le_add_left n i)))
  rw [hi n hlt] at h2; cases h2

theorem isLongestRun_of (s k : Nat) (h1 : HasRun s k) (h2 : ¬ HasRun s (k + 1)) :
    IsLongestRun s k :=
  ⟨h1, fun _ hk' => Nat.le_of_not_lt fun hlt => h2 (hasRun_mono hk' hlt)⟩

/-! ### `f_k s = s & s>>1 & … & s>>(k-1)` -/

/-- `x = f_k seq`: bit `i` of `x` is set exactly when `k` ones start at position `i` of `seq`. -/
def IsRunAnd (seq k x : Nat) : Prop :=
  ∀ i, x.testBit i = true ↔ ∀ j, j < k → seq.testBit (i + j) = true

theorem isRunAnd_one (seq : Nat) : IsRunAnd seq 1 seq := fun i =>
  ⟨fun h j hj => by obtain rfl := Nat.lt_one_iff.1 hj; exact h, fun h => h 0 Nat.one_pos⟩

/-- `f_a & (f_a >> t) = f_(a+t)` for `t ≤ a`. -/
theorem IsRunAnd.and_shift {seq a x : Nat} (h : IsRunAnd seq a x) (t : Nat) (ht : t ≤ a) :
    IsRunAnd seq (a + t) (x &&& (x >>> t)) := by
  intro i
  rw [Nat.testBit_and, Nat.testBit_shiftRight, Bool.and_eq_true, h i, h (t + i)]
  constructor
  · rintro ⟨h1, h2⟩ j hj
    rcases Nat.lt_or_ge j a with hlt | hge
    · exact h1 j hlt
    · have := h2 (j - t) (by omega)
      rwa [show t + i + (j - t) = i + j by omega] at this
  · intro hh
    refine ⟨fun j hj => hh j (Nat.lt_add_right t hj), fun j hj => ?_⟩
    have := hh (t + j) (by omega)
    rwa [← Nat.add_assoc, Nat.add_comm i t] at this

theorem IsRunAnd.ne_zero_iff {seq k x : Nat} (h : IsRunAnd seq k x) : x ≠ 0 ↔ HasRun seq k := by
  constructor
  · intro hx
    obtain ⟨i, hi⟩ := Nat.exists_testBit_of_ne_zero hx
    exact ⟨i, (h i).1 hi⟩
  · rintro ⟨i, hi⟩ h0
    have := (h i).2 hi
    rw [h0, Nat.zero_testBit] at this
    cases this

theorem IsRunAnd.lt_two_pow {seq k x n : Nat} (h : IsRunAnd seq k x) (hk : 1 ≤ k)
    (hs : seq < 2 ^ n) : x < 2 ^ n :=
  Nat.lt_pow_two_of_testBit _ fun i hi => by
    cases hx : x.testBit i
    · rfl
    · have := (h i).1 hx 0 hk
      rw [Nat.add_zero,
        Nat.testBit_lt_two_pow (Nat.lt_of_lt_of_le hs (Nat.pow_le_pow_right (by decide) hi))] at this
      cases this

theorem IsRunAnd.pc_eq {seq k x : Nat} (h : IsRunAnd seq k x) :
    ∀ n, pc x n = countBelow n (allOnes seq k) := by
  intro n
  induction n with
  | zero => rfl
  | succ n ih =>
    rw [pc, countBelow_succ, ih]
    congr 2
    rw [Bool.eq_iff_iff, h n]
    simp only [allOnes, List.all_eq_true, List.mem_range]

/-! ### LongestRunOfOnes -/

/-- invariant of the doubling loop: `lr = 2^e` and `s = f_lr seq ≠ 0`; `B ≤ lr + f` says that the
fuel `f` lasts until `lr` reaches the bit length `B`, where `s & (s >> lr)` must vanish. -/
theorem lrDouble_spec (seq B : Nat) (hB : seq < 2 ^ B) : ∀ f e s, B ≤ 2 ^ e + f →
    IsRunAnd seq (2 ^ e) s → s ≠ 0 →
    ∃ e', (lrDouble f s (2 ^ e)).2 = 2 ^ e' ∧ IsRunAnd seq (2 ^ e') (lrDouble f s (2 ^ e)).1 ∧
      (lrDouble f s (2 ^ e)).1 ≠ 0 ∧ ¬ HasRun seq (2 ^ (e' + 1)) := by
  intro f
  induction f with
  | zero =>
    intro e s hf hs hne
    refine ⟨e, rfl, hs, hne, fun hr => ?_⟩
    have := hasRun_le_of_lt seq _ B hB hr
    have := Nat.two_pow_pos e
    rw [Nat.pow_succ] at *
    omega
  | succ f ih =>
    intro e s hf hs hne
    have key := hs.and_shift (2 ^ e) (Nat.le_refl _)
    rw [← Nat.mul_two, ← Nat.pow_succ] at key
    unfold lrDouble
    split
    · rename_i h0
      exact ⟨e, rfl, hs, hne, fun hr => key.ne_zero_iff.2 hr h0⟩
    · rename_i h0
      rw [← Nat.pow_succ]
      refine ih (e + 1) _ ?_ key h0
      rw [Nat.pow_succ]
      have := Nat.two_pow_pos e
      omega

theorem lrRefine_zero (f s lr : Nat) : lrRefine f s lr 0 = lr := by
  cases f <;> simp [lrRefine]

/-- invariant of the refinement loop: `s = f_lr seq ≠ 0`, the step `n = 2^e` is at most `lr` (what
`and_shift` needs) and there is no run of `lr + 2n` ones; `e < f` is the fuel for the `e + 1` halvings. -/
theorem lrRefine_spec (seq : Nat) : ∀ e f s lr, e < f → IsRunAnd seq lr s → s ≠ 0 →
    2 ^ e ≤ lr → ¬ HasRun seq (lr + 2 ^ (e + 1)) →
    HasRun seq (lrRefine f s lr (2 ^ e)) ∧ ¬ HasRun seq (lrRefine f s lr (2 ^ e) + 1) := by
  intro e
  induction e with
  | zero =>
    intro f s lr hf hs hne hle hz
    obtain ⟨f, rfl⟩ : ∃ f', f = f' + 1 := ⟨f - 1, by omega⟩
    have key := hs.and_shift 1 hle
    unfold lrRefine
    rw [if_neg (by decide)]
    split
    · rename_i h1
      rw [lrRefine_zero]
      exact ⟨key.ne_zero_iff.1 h1, hz⟩
    · rename_i h1
      rw [lrRefine_zero]
      exact ⟨hs.ne_zero_iff.1 hne, fun hr => h1 (key.ne_zero_iff.2 hr)⟩
  | succ e ih =>
    intro f s lr hf hs hne hle hz
    obtain ⟨f, rfl⟩ : ∃ f', f = f' + 1 := ⟨f - 1, by omega⟩
    have key := hs.and_shift (2 ^ (e + 1)) hle
    have hhalf : 2 ^ (e + 1) / 2 = 2 ^ e := by rw [Nat.pow_succ, Nat.mul_div_cancel _ (by decide)]
    have hpos := Nat.two_pow_pos e
    have hp2 : 2 ^ (e + 1) = 2 * 2 ^ e := by rw [Nat.pow_succ, Nat.mul_comm]
    unfold lrRefine
    rw [if_neg (Nat.ne_of_gt (Nat.two_pow_pos _)), hhalf]
    split
    · rename_i h1
      refine ih f _ _ (by omega) key h1 (by omega) ?_
      rwa [Nat.add_assoc, ← Nat.two_mul, ← Nat.pow_succ']
    · rename_i h1
      exact ih f s lr (by omega) hs hne (by omega) fun hr => h1 (key.ne_zero_iff.2 hr)

/-! ### OverlappingRunsOfOnes -/

/-- invariant of `orLoop`: `cur = f_a s` with `m` ones still to be and-ed in, and `k ≤ a` as long as
`m ≠ 0` (what `and_shift` needs for the shift `min k m`). -/
theorem orLoop_spec (s : Nat) : ∀ f cur m k a,
    IsRunAnd s a cur → 1 ≤ k → (m = 0 ∨ k ≤ a) → m ≤ f → IsRunAnd s (a + m) (orLoop f cur m k) := by
  intro f
  induction f with
  | zero =>
    intro cur m k a hc hk hm hf
    obtain rfl : m = 0 := Nat.le_zero.1 hf
    exact hc
  | succ f ih =>
    intro cur m k a hc hk hm hf
    unfold orLoop
    split
    · rename_i h0; subst h0; exact hc
    · rename_i h0
      have hka : k ≤ a := hm.resolve_left h0
      have := ih _ (m - min k m) (k * 2) (a + min k m) (hc.and_shift (min k m) (by omega)) (by omega)
        (by omega) (by omega)
      rwa [show a + min k m + (m - min k m) = a + m by omega] at this

end Paranoid.BitSeq
