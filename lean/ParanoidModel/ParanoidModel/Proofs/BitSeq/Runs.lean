/-
Proofs/BitSeq/Runs.lean — `runs` = number of maximal constant blocks.
-/
import ParanoidModel.Proofs.BitSeq.Popcount
namespace Paranoid.BitSeq
open Paranoid Paranoid.BitDefs

/-- number of positions `i < n` with `bit i ≠ bit (i+1)`. -/
def trans (s : Nat) : Nat → Nat
  | 0 => 0
  | n + 1 => trans s n + (s.testBit n != s.testBit (n + 1)).toNat

theorem trans_succ_shift (s n : Nat) :
    trans s (n + 1) = (s.testBit 0 != s.testBit 1).toNat + trans (s / 2) n := by
  induction n with
  | zero => simp [trans]
  | succ n ih =>
    have e1 : s.testBit (n + 1) = (s / 2).testBit n := Nat.testBit_succ ..
    have e2 : s.testBit (n + 1 + 1) = (s / 2).testBit (n + 1) := Nat.testBit_succ ..
    rw [trans, ih, trans, e1, e2]; omega

theorem bitsOf_succ_shift (s n : Nat) : bitsOf s (n + 1) = s.testBit 0 :: bitsOf (s / 2) n := by
  unfold bitsOf
  rw [List.range_succ_eq_map, List.map_cons, List.map_map]
  congr 1
  apply List.map_congr_left
  intro i _
  simp [Nat.testBit_succ]

theorem blockCount_bitsOf (n : Nat) : ∀ s, blockCount (bitsOf s (n + 1)) = 1 + trans s n := by
  induction n with
  | zero => intro s; simp [bitsOf, blockCount, trans]
  | succ n ih =>
    intro s
    rw [bitsOf_succ_shift, bitsOf_succ_shift, blockCount, ← bitsOf_succ_shift, ih,
      trans_succ_shift, ← Nat.testBit_succ]
    cases s.testBit 0 <;> cases s.testBit (0 + 1) <;> simp

theorem pc_xor_shift (s : Nat) : ∀ n, pc (s ^^^ (s >>> 1)) n = trans s n := by
  intro n
  induction n with
  | zero => rfl
  | succ n ih =>
    rw [pc, trans, ih, Nat.testBit_xor, Nat.testBit_shiftRight, Nat.add_comm 1 n]

theorem splitBy_loop_length : ∀ (as : List Bool) (b : Bool) (g : List Bool) (gs : List (List Bool)),
    (List.splitBy.loop (· == ·) as b g gs).length = gs.length + blockCount (b :: as) := by
  intro as
  induction as with
  | nil => intro b g gs; simp [List.splitBy.loop, blockCount]
  | cons a as ih =>
    intro b g gs
    unfold List.splitBy.loop
    cases hba : (b == a)
    · simp only [ih, blockCount, List.length_cons]
      have : b ≠ a := by intro e; subst e; simp at hba
      rw [if_neg this]; omega
    · simp only [ih, blockCount]
      have : b = a := by simpa using hba
      rw [if_pos this]; omega

theorem blockCount_eq_splitBy (l : List Bool) : blockCount l = (l.splitBy (· == ·)).length := by
  cases l with
  | nil => rfl
  | cons a as => rw [List.splitBy, splitBy_loop_length]; simp

end Paranoid.BitSeq
