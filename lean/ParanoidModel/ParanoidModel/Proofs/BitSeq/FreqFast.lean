/-
Proofs/BitSeq/FreqFast.lean — the 4-bit-stride fast path of `frequencyCount` equals the definition,
hence the slow path.
-/
import ParanoidModel.Proofs.BitSeq.Freq
namespace Paranoid.BitSeq
open Paranoid Paranoid.BitDefs

/-- what one `(m+3)`-bit tally `v` at index `q` adds to entry `x` of the `m`-bit tallies: `v` for
each of the four `m`-bit windows of `q` that equal `x`. -/
def contrib (m x : Nat) (v : Int) (q : Nat) : Int :=
  v * (countBelow 4 (fun r => (q >>> r) % 2 ^ m == x) : Nat)

/-- `Σ_i contrib l[i] (start + i)`. -/
def wsum (m x : Nat) : List Int → Nat → Int
  | [], _ => 0
  | v :: t, start => contrib m x v start + wsum m x t (start + 1)

/-- `Σ_{t<T} g t`. -/
def isum : Nat → (Nat → Int) → Int
  | 0, _ => 0
  | T + 1, g => isum T g + g T

theorem ite_eq_mul_toNat (a x : Nat) (v : Int) :
    (if a = x then v else 0) = v * ((a == x).toNat : Nat) := by
  by_cases h : a = x
  · rw [if_pos h, beq_iff_eq.2 h]; exact (Int.mul_one v).symm
  · rw [if_neg h, beq_eq_false_iff_ne.2 h]; exact (Int.mul_zero v).symm

theorem fcSpread_spec (m x : Nat) (res : Array Int) (v : Int) (q : Nat) (hs : res.size = 2 ^ m) :
    (fcSpread (2 ^ m - 1) res (v, q)).size = 2 ^ m ∧
    cntOf (fcSpread (2 ^ m - 1) res (v, q)) x = cntOf res x + contrib m x v q := by
  unfold fcSpread contrib
  dsimp only
  refine ⟨by simp only [size_addAt, hs], ?_⟩
  rw [cntOf_addAt _ _ _ _ (by simp only [size_addAt, hs]; exact and_mask_lt _ m),
    cntOf_addAt _ _ _ _ (by simp only [size_addAt, hs]; exact and_mask_lt _ m),
    cntOf_addAt _ _ _ _ (by simp only [size_addAt, hs]; exact and_mask_lt _ m),
    cntOf_addAt _ _ _ _ (by simp only [hs]; exact and_mask_lt _ m),
    show (4 : Nat) = 0 + 1 + 1 + 1 + 1 by rfl, countBelow_succ, countBelow_succ, countBelow_succ,
    countBelow_succ]
  simp only [Nat.and_two_pow_sub_one_eq_mod, ite_eq_mul_toNat, countBelow, List.range_zero,
    List.countP_nil, Nat.shiftRight_zero, Nat.zero_add, Int.natCast_add, Int.mul_add, Int.add_assoc]

theorem foldl_fcSpread (m x : Nat) : ∀ (l : List Int) (start : Nat) (res : Array Int),
    res.size = 2 ^ m →
    ((l.zipIdx start).foldl (fcSpread (2 ^ m - 1)) res).size = 2 ^ m ∧
    cntOf ((l.zipIdx start).foldl (fcSpread (2 ^ m - 1)) res) x = cntOf res x + wsum m x l start := by
  intro l
  induction l with
  | nil => intro start res hs; exact ⟨hs, (Int.add_zero _).symm⟩
  | cons v t ih =>
    intro start res hs
    rw [List.zipIdx_cons, List.foldl_cons]
    obtain ⟨h1, h2⟩ := fcSpread_spec m x res v start hs
    obtain ⟨i1, i2⟩ := ih (start + 1) _ h1
    exact ⟨i1, by rw [i2, h2, wsum, Int.add_assoc]⟩

theorem wsum_modify (m x : Nat) : ∀ (l : List Int) (start q : Nat), q < l.length →
    wsum m x (l.modify q (· + 1)) start = wsum m x l start + contrib m x 1 (start + q) := by
  intro l
  induction l with
  | nil => intro start q h; cases h
  | cons v t ih =>
    intro start q h
    cases q with
    | zero =>
      rw [List.modify_zero_cons, wsum, wsum, contrib, contrib, contrib, Int.add_mul,
        Int.add_right_comm]
      rfl
    | succ q =>
      rw [List.modify_succ_cons, wsum, wsum, ih (start + 1) q (Nat.lt_of_succ_lt_succ h),
        Nat.add_assoc, Nat.add_comm 1 q, Int.add_assoc]

theorem wsum_replicate (m x : Nat) : ∀ k start, wsum m x (List.replicate k 0) start = 0 := by
  intro k
  induction k with
  | zero => intro start; rfl
  | succ k ih => intro start; rw [List.replicate_succ, wsum, ih, contrib, Int.zero_mul]; rfl

theorem wsum_incr (m x : Nat) (count : Array Int) (q : Nat) (hq : q < count.size) :
    wsum m x (incr count q).toList 0 = wsum m x count.toList 0 + contrib m x 1 q := by
  unfold incr
  rw [Array.toList_modify, wsum_modify _ _ _ _ _ (by simpa using hq), Nat.zero_add]

theorem fcFastLoop_spec (seq m3 V m x : Nat) (hV : V >>> m3 = seq) :
    ∀ f j (count : Array Int), count.size = 2 ^ m3 →
    wsum m x count.toList 0 = isum (2 * j) (fun t => contrib m x 1 ((V >>> (4 * t)) % 2 ^ m3)) →
    (fcFastLoop seq m3 (2 ^ m3 - 1) f j ((V >>> (8 * j)) % 2 ^ m3) count).1 =
      (V >>> (8 * (j + f))) % 2 ^ m3 ∧
    (fcFastLoop seq m3 (2 ^ m3 - 1) f j ((V >>> (8 * j)) % 2 ^ m3) count).2.size = 2 ^ m3 ∧
    wsum m x (fcFastLoop seq m3 (2 ^ m3 - 1) f j ((V >>> (8 * j)) % 2 ^ m3) count).2.toList 0 =
      isum (2 * (j + f)) (fun t => contrib m x 1 ((V >>> (4 * t)) % 2 ^ m3)) := by
  intro f
  induction f with
  | zero => intro j count hs hc; exact ⟨rfl, hs, hc⟩
  | succ f ih =>
    intro j count hs hc
    unfold fcFastLoop
    have hnext : ((V >>> (8 * j)) % 2 ^ (m3 + 8)) >>> 8 = (V >>> (8 * (j + 1))) % 2 ^ m3 := by
      rw [mod_two_pow_shiftRight, ← Nat.shiftRight_add, Nat.add_sub_cancel, ← Nat.mul_succ]
    have hi1 : ((V >>> (8 * j)) % 2 ^ (m3 + 8)) &&& (2 ^ m3 - 1) = (V >>> (4 * (2 * j))) % 2 ^ m3 := by
      rw [Nat.and_two_pow_sub_one_eq_mod, mod_mod_two_pow _ (Nat.le_add_right m3 8),
        show 4 * (2 * j) = 8 * j by omega]
    have hi2 : (((V >>> (8 * j)) % 2 ^ (m3 + 8)) >>> 4) &&& (2 ^ m3 - 1) =
        (V >>> (4 * (2 * j + 1))) % 2 ^ m3 := by
      rw [Nat.and_two_pow_sub_one_eq_mod, window_of_wide V m3 (m3 + 8) (8 * j) 4 (by omega),
        show 4 * (2 * j + 1) = 8 * j + 4 by omega]
    rw [xor_byte_eq seq m3 V j hV, hnext, hi1, hi2]
    have hlt : ∀ y, y % 2 ^ m3 < 2 ^ m3 := fun y => Nat.mod_lt _ (Nat.two_pow_pos m3)
    have hs1 : (incr count ((V >>> (4 * (2 * j))) % 2 ^ m3)).size = 2 ^ m3 := by
      rw [incr_eq_addAt, size_addAt, hs]
    have := ih (j + 1)
      (incr (incr count ((V >>> (4 * (2 * j))) % 2 ^ m3)) ((V >>> (4 * (2 * j + 1))) % 2 ^ m3))
      (by rw [incr_eq_addAt, size_addAt, hs1]) (by
      rw [wsum_incr _ _ _ _ (by rw [hs1]; exact hlt _), wsum_incr _ _ _ _ (by rw [hs]; exact hlt _), hc,
        show 2 * (j + 1) = 2 * j + 1 + 1 by omega, isum, isum])
    rwa [Nat.add_right_comm j 1 f] at this

theorem isum_count4 (G : Nat → Bool) : ∀ T,
    isum T (fun t => ((countBelow 4 (fun r => G (4 * t + r)) : Nat) : Int)) = (countBelow (4 * T) G : Nat) := by
  intro T
  induction T with
  | zero => rfl
  | succ T ih => rw [isum, ih, Nat.mul_succ, countBelow_add, Int.natCast_add]

theorem fcFastCore_spec (seq n m : Nat) (h : seq < 2 ^ n) (hm3 : m + 3 ≤ n) :
    ∃ res, fcFastCore seq n m = .ok res ∧ res.size = 2 ^ m ∧
    ∀ x, cntOf res x = (freqDef seq n m true x : Nat) := by
  have hV := vstream_shiftRight seq n (m + 3) h hm3
  unfold fcFastCore
  rw [if_neg (by omega)]
  refine ⟨_, rfl, ?_⟩
  rw [← vstream_mod seq n (m + 3) h hm3]
  -- size and the stream position do not depend on the entry `x`
  have hloop := fun x => fcFastLoop_spec seq (m + 3) (vstream seq n (m + 3)) m x hV (n / 8) 0
    (Array.replicate (2 ^ (m + 3)) 0) Array.size_replicate
    (by rw [Array.toList_replicate, wsum_replicate]; rfl)
  simp only [Nat.mul_zero, Nat.shiftRight_zero, Nat.zero_add] at hloop
  generalize fcFastLoop seq (m + 3) (2 ^ (m + 3) - 1) (n / 8) 0
    (vstream seq n (m + 3) % 2 ^ (m + 3)) (Array.replicate (2 ^ (m + 3)) 0) = st at *
  have hspread := fun x => foldl_fcSpread m x st.2.toList 0 (Array.replicate (2 ^ m) 0)
    Array.size_replicate
  -- entry `x` after the spreading step: each `(m+3)`-bit tally counts four `m`-bit windows
  have hcnt : ∀ x, cntOf (fcSpreadAll m st).2 x =
      (countBelow (8 * (n / 8)) (fun k => (vstream seq n (m + 3) >>> k) % 2 ^ m == x) : Nat) := by
    intro x
    rw [fcSpreadAll, (hspread x).2, cntOf_replicate, (hloop x).2.2, Int.zero_add,
      show 8 * (n / 8) = 4 * (2 * (n / 8)) by omega,
      ← isum_count4 (fun k => (vstream seq n (m + 3) >>> k) % 2 ^ m == x)]
    congr 1
    funext t
    rw [contrib, Int.one_mul]
    congr 1
    apply countBelow_congr
    intro r hr
    rw [window_of_wide _ _ _ _ _ (by omega)]
  obtain ⟨t1, t2⟩ := fcTail_spec seq n (m + 3) m _ (fcSpreadAll m st) hV (Nat.le_add_right m 3)
    (hloop 0).1 (hspread 0).1 hcnt
  exact ⟨t1, fun x => (t2 x).trans (congrArg _
    (count_vstream_windows seq n m (m + 3) 0 x h hm3 (Nat.le_add_right m 3) (Nat.zero_le 1)))⟩

theorem fast_guard_le (n m : Nat) (h : fcUseFast n m = true) : m + 3 ≤ n := by
  unfold fcUseFast at h
  have h' := (of_decide_eq_true h).1
  have : m < 2 ^ m := Nat.lt_two_pow_self
  omega

end Paranoid.BitSeq
