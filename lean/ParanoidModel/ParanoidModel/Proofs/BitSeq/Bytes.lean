/-
Proofs/BitSeq/Bytes.lean — `reverseBits`, `bits`, `splitSequence` (both paths), `scatter`.
-/
import ParanoidModel.Proofs.BitSeq.Popcount
namespace Paranoid.BitSeq
open Paranoid Paranoid.BitDefs

/-! ### `ofBits` -/

theorem ofBits_lt (f : Nat → Bool) (m : Nat) : ofBits f m < 2 ^ m := by
  induction m with
  | zero => simp [ofBits]
  | succ m ih =>
    rw [ofBits, Nat.pow_succ]
    cases f m <;> simp <;> omega

theorem testBit_ofBits (f : Nat → Bool) (m j : Nat) :
    (ofBits f m).testBit j = (decide (j < m) && f j) := by
  induction m with
  | zero => simp [ofBits]
  | succ m ih =>
    rw [ofBits, Nat.add_comm, Nat.mul_comm, Nat.testBit_two_pow_mul_add _ (ofBits_lt f m), ih]
    by_cases h : j < m
    · simp [h, show j < m + 1 by omega]
    · simp only [h, if_false]
      by_cases h2 : j = m
      · subst h2; cases f j <;> simp
      · have h3 : ¬ j < m + 1 := by omega
        have h4 : (f m).toNat < 2 ^ (j - m) := by
          have : 1 < 2 ^ (j - m) := Nat.one_lt_two_pow (by omega)
          cases f m <;> simp <;> omega
        rw [Nat.testBit_lt_two_pow h4]; simp [h3]

/-- a number below `2^m` is determined by its bits below `m`. -/
theorem eq_ofBits (x m : Nat) (f : Nat → Bool)
    (h : ∀ j, x.testBit j = (decide (j < m) && f j)) : x = ofBits f m := by
  apply Nat.eq_of_testBit_eq; intro j; rw [h, testBit_ofBits]

theorem window_eq (s m i : Nat) : window s m i = (s >>> i) % 2 ^ m := by
  symm; apply eq_ofBits; intro j
  rw [Nat.testBit_mod_two_pow, Nat.testBit_shiftRight]

/-! ### ReverseBits -/

/-- the table entry `revByte j` is the reversal of the low eight bits of `j`; with fuel `f` the
recurrence has placed the bits `0 … f-1` of `j` at the positions `7, 6, …, 8-f`. -/
theorem testBit_revByteAux : ∀ (f j i : Nat),
    (revByteAux f j).testBit i = (decide (i < 8 ∧ 7 - i < f) && j.testBit (7 - i))
  | 0, j, i => by simp [revByteAux]
  | f + 1, j, i => by
    unfold revByteAux
    split
    · rename_i h0; subst h0; simp
    · rw [Nat.testBit_xor, Nat.testBit_shiftRight, testBit_revByteAux f, Nat.testBit_shiftRight,
        Nat.testBit_shiftLeft, Nat.testBit_and]
      rcases Nat.lt_trichotomy i 7 with h | rfl | h
      · have e1 : 1 + (7 - (1 + i)) = 7 - i := by omega
        have e2 : (1 + i < 8 ∧ 7 - (1 + i) < f) ↔ (i < 8 ∧ 7 - i < f + 1) := by omega
        simp [e1, e2, show ¬ i ≥ 7 by omega]
      · simp
      · have e3 : Nat.testBit 1 (i - 7) = false := by
          rw [show i - 7 = (i - 8) + 1 by omega, Nat.testBit_succ]; simp
        simp [e3, show ¬ i < 8 by omega, show ¬ 1 + i < 8 by omega]

theorem testBit_revByte (j i : Nat) :
    (revByte j).testBit i = (decide (i < 8) && j.testBit (7 - i)) := by
  rw [revByte, testBit_revByteAux]
  by_cases h : i < 8
  · simp [h, show 7 - i < 8 by omega]
  · simp [h]

theorem revByte_lt (j : Nat) : revByte j < 2 ^ 8 :=
  Nat.lt_pow_two_of_testBit _ fun i hi => by rw [testBit_revByte, decide_eq_false (by omega)]; rfl

theorem byteAt_lt (seq j : Nat) : byteAt seq j < 256 := Nat.mod_lt _ (by decide)

theorem testBit_byteAt (seq j i : Nat) :
    (byteAt seq j).testBit i = (decide (i < 8) && seq.testBit (8 * j + i)) := by
  unfold byteAt
  rw [show (256 : Nat) = 2 ^ 8 by rfl, Nat.testBit_mod_two_pow, Nat.testBit_shiftRight]

theorem testBit_revBytesBE (seq nb p : Nat) :
    (revBytesBE seq nb).testBit p = (decide (p < 8 * nb) && seq.testBit (8 * nb - 1 - p)) := by
  unfold revBytesBE
  induction nb generalizing p with
  | zero => simp
  | succ nb ih =>
    rw [List.range_succ, List.foldl_append, List.foldl_cons, List.foldl_nil, Nat.mul_comm _ 256,
      show (256 : Nat) = 2 ^ 8 by rfl, Nat.testBit_two_pow_mul_add _ (revByte_lt _)]
    split
    · rename_i h8
      rw [testBit_revByte, testBit_byteAt, decide_eq_true h8, decide_eq_true (show 7 - p < 8 by omega),
        decide_eq_true (show p < 8 * (nb + 1) by omega),
        show 8 * (nb + 1) - 1 - p = 8 * nb + (7 - p) by omega]
      rfl
    · rename_i h8
      obtain ⟨p', rfl⟩ : ∃ p', p = 8 + p' := ⟨p - 8, by omega⟩
      rw [ih, Nat.add_sub_cancel_left, show 8 * (nb + 1) - 1 - (8 + p') = 8 * nb - 1 - p' by omega]
      simp only [Nat.mul_succ, Nat.add_comm (8 * nb) 8, Nat.add_lt_add_iff_left]

/-! ### lengths in whole bytes -/

theorem pad_add (n : Nat) : (8 - n % 8) % 8 + n = 8 * ((n + 7) / 8) := by omega

theorem exists_pad (n : Nat) : ∃ p, (n + p) % 8 = 0 ∧ p < 8 ∧ 8 * ((n + 7) / 8) = n + p :=
  ⟨(8 - n % 8) % 8, by rw [Nat.add_comm n, pad_add, Nat.mul_mod_right], Nat.mod_lt _ (by decide),
    (pad_add n).symm.trans (Nat.add_comm _ _)⟩

theorem last_byte_index (n : Nat) (h : n % 8 ≠ 0) : (n + 7) / 8 - 1 = n / 8 := by omega

theorem eight_mul_div (n : Nat) (h : ¬ n % 8 ≠ 0) : 8 * (n / 8) = n := by omega

/-! ### Bits -/

/-- `Bits` on the pinned tree, for every input: `max(length, 1, bit_length)` entries. The list
is the reversed digit string followed by the `-1` padding. -/
theorem bitsPinned_eq (seq n : Nat) :
    bitsPinned seq n = (List.range (max n (max 1 (bitLength seq)))).map
      (fun i => if seq.testBit i then (1 : Int) else -1) := by
  have hD : (binDigits seq).length = max 1 (bitLength seq) := by simp [binDigits]
  have hL1 : 1 ≤ max 1 (bitLength seq) ∧ bitLength seq ≤ max 1 (bitLength seq) := by omega
  unfold bitsPinned
  rw [List.reverse_append, List.reverse_replicate, hD]
  unfold binDigits
  generalize max 1 (bitLength seq) = D at hL1 ⊢
  apply List.ext_getElem
  · simp only [List.length_append, List.length_reverse, List.length_map, List.length_range,
      List.length_replicate]; omega
  · intro i h1 h2
    rw [List.getElem_map, List.getElem_range, List.getElem_append]
    split
    · rename_i hlt
      simp only [List.length_reverse, List.length_map, List.length_range] at hlt
      simp only [List.getElem_reverse, List.getElem_map, List.getElem_range, List.length_map,
        List.length_range]
      rw [show D - 1 - (D - 1 - i) = i by omega]
    · rename_i hge
      simp only [List.length_reverse, List.length_map, List.length_range, Nat.not_lt] at hge
      rw [List.getElem_replicate, testBit_of_bitLength_le _ _ (Nat.le_trans hL1.2 hge)]; rfl

/-! ### SplitSequence -/

theorem splitFast_eq (seq n m : Nat) (hm : m % 8 = 0) :
    splitFast seq n m = (List.range n).map (fun i => (seq >>> (i * m)) % 2 ^ m) := by
  obtain ⟨q, rfl⟩ : ∃ q, m = 8 * q := ⟨m / 8, by omega⟩
  unfold splitFast bytesSlice
  apply List.map_congr_left
  intro i _
  rw [Nat.mul_left_comm i 8 q, Nat.mul_left_comm (i + 1) 8 q, Nat.mul_div_cancel_left _ (by decide),
    Nat.mul_div_cancel_left _ (by decide), Nat.add_one_mul i q, Nat.add_sub_cancel_left]

theorem splitSlow_eq (seq n m : Nat) : splitSlow seq n m = (List.range n).map
    (fun i => (seq >>> (i * m)) % 2 ^ m) := by
  unfold splitSlow
  apply List.map_congr_left
  intro i _
  unfold bytesSlice
  rw [Nat.and_two_pow_sub_one_eq_mod]
  apply Nat.eq_of_testBit_eq
  intro j
  simp only [Nat.testBit_mod_two_pow, Nat.testBit_shiftRight]
  rw [show (i + 1) * m = i * m + m from Nat.add_one_mul i m]
  generalize i * m = X
  by_cases hj : j < m
  · have h1 : X % 8 + j < 8 * ((X + m) / 8 + 1 - X / 8) := by omega
    simp only [hj, h1, decide_true, Bool.true_and]
    rw [show 8 * (X / 8) + (X % 8 + j) = X + j by omega]
  · simp [hj]

/-! ### Scatter -/

theorem testBit_horner (g : Nat → Bool) (cnt : Nat) : ∀ u,
    ((List.range cnt).foldl (fun acc t => 2 * acc + (g t).toNat) 0).testBit u =
      (decide (u < cnt) && g (cnt - 1 - u)) := by
  induction cnt with
  | zero => intro u; simp
  | succ cnt ih =>
    intro u
    rw [List.range_succ, List.foldl_append, List.foldl_cons, List.foldl_nil]
    have hb : (g cnt).toNat < 2 ^ 1 := by cases g cnt <;> decide
    rw [show ∀ a, 2 * a + (g cnt).toNat = 2 ^ 1 * a + (g cnt).toNat from fun a => rfl,
      Nat.testBit_two_pow_mul_add _ hb]
    cases u with
    | zero => cases hg : g cnt <;> simp [hg]
    | succ u =>
      rw [if_neg (by omega), ih, show cnt + 1 - 1 - (u + 1) = cnt - 1 - u by omega]
      simp only [Nat.add_sub_cancel, Nat.add_lt_add_iff_right]

/-- where `Scatter` starts reading stream `i`: at a character whose bit index is `≡ i (mod m)`,
less than `m` characters from the top. -/
theorem scatterStart_spec (L m i : Nat) (hi : i < m) (hL : m ≤ L) :
    scatterStart L m i < m ∧ ∃ q, scatterStart L m i + (m * q + i) + 1 = L := by
  unfold scatterStart
  have hm : 0 < m := Nat.lt_of_le_of_lt (Nat.zero_le i) hi
  refine ⟨Nat.mod_lt _ hm, ?_⟩
  have hdm : m * ((L - 1) / m) + (L - 1) % m + 1 = L := by rw [Nat.div_add_mod]; omega
  have ho : (L - 1) % m < m := Nat.mod_lt _ hm
  generalize (L - 1) % m = o at *
  generalize (L - 1) / m = Q at *
  by_cases hio : i ≤ o
  · refine ⟨Q, ?_⟩
    rw [Nat.mod_eq_sub_mod (by omega), Nat.mod_eq_of_lt (by omega)]; omega
  · cases Q with
    | zero => omega
    | succ Q' =>
      refine ⟨Q', ?_⟩
      rw [Nat.mod_eq_of_lt (by omega)]
      rw [Nat.mul_succ] at hdm; omega

theorem testBit_scatterCol (seq m i : Nat) (hi : i < m) (hL : m ≤ bitLength seq) (u : Nat) :
    (scatterCol seq m (bitLength seq) i).testBit u = seq.testBit (i + m * u) := by
  obtain ⟨hst, q, hq⟩ := scatterStart_spec (bitLength seq) m i hi hL
  unfold scatterCol
  generalize scatterStart (bitLength seq) m i = st at *
  have hcnt : (bitLength seq - st + m - 1) / m = q + 1 := by
    rw [show bitLength seq - st + m - 1 = i + m * (q + 1) by rw [Nat.mul_succ]; omega,
      Nat.add_mul_div_left _ _ (by omega), Nat.div_eq_of_lt hi, Nat.zero_add]
  rw [testBit_horner (fun t => seq.testBit (bitLength seq - 1 - (st + m * t))), hcnt]
  by_cases hu : u < q + 1
  · obtain ⟨d, rfl⟩ : ∃ d, q = u + d := ⟨q - u, by omega⟩
    rw [decide_eq_true hu, Bool.true_and, show u + d + 1 - 1 - u = d by omega]
    congr 1
    rw [Nat.mul_add] at hq
    omega
  · rw [decide_eq_false hu, Bool.false_and]
    symm
    apply testBit_of_bitLength_le
    obtain ⟨d, rfl⟩ : ∃ d, u = q + 1 + d := ⟨u - (q + 1), by omega⟩
    rw [Nat.mul_add, Nat.mul_add, Nat.mul_one]
    omega

end Paranoid.BitSeq
