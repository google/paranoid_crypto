/-
Proofs/BitSeq/Freq.lean — the slow path of `frequencyCount` equals the pattern-frequency
definition (with and without wrap-around).
-/
import ParanoidModel.Proofs.BitSeq.SubSeq
namespace Paranoid.BitSeq
open Paranoid Paranoid.BitDefs

/-! ### tallies in an `Array Int` -/

def cntOf (res : Array Int) (p : Nat) : Int := (res[p]?).getD 0

theorem cntOf_addAt (res : Array Int) (x p : Nat) (v : Int) (hx : x < res.size) :
    cntOf (addAt res x v) p = cntOf res p + if x = p then v else 0 := by
  unfold cntOf addAt
  rw [Array.getElem?_modify]
  split
  · rename_i h; subst h
    rw [Array.getElem?_eq_getElem hx]; simp
  · simp

theorem size_addAt (res : Array Int) (x : Nat) (v : Int) : (addAt res x v).size = res.size := by
  unfold addAt; exact Array.size_modify

theorem incr_eq_addAt (res : Array Int) (x : Nat) : incr res x = addAt res x 1 := rfl

theorem cntOf_replicate (n p : Nat) : cntOf (Array.replicate n 0) p = 0 := by
  unfold cntOf; rw [Array.getElem?_replicate]; split <;> rfl

theorem and_mask_lt (x m : Nat) : x &&& (2 ^ m - 1) < 2 ^ m := by
  rw [Nat.and_two_pow_sub_one_eq_mod]; exact Nat.mod_lt _ (Nat.two_pow_pos m)

theorem countBits_spec (m : Nat) : ∀ c s (res : Array Int), res.size = 2 ^ m →
    (countBits (2 ^ m - 1) c s res).size = 2 ^ m ∧
    ∀ p, cntOf (countBits (2 ^ m - 1) c s res) p =
      cntOf res p + (countBelow c (fun k => (s >>> k) % 2 ^ m == p) : Nat) := by
  intro c
  induction c with
  | zero => intro s res hs; exact ⟨hs, fun p => by simp [countBits, countBelow]⟩
  | succ c ih =>
    intro s res hs
    unfold countBits
    have hs' : (incr res (s &&& (2 ^ m - 1))).size = 2 ^ m := by rw [incr_eq_addAt, size_addAt, hs]
    obtain ⟨h1, h2⟩ := ih (s >>> 1) _ hs'
    refine ⟨h1, fun p => ?_⟩
    rw [h2, incr_eq_addAt, cntOf_addAt _ _ _ _ (hs ▸ and_mask_lt s m), countBelow_succ_shift,
      Nat.and_two_pow_sub_one_eq_mod]
    have : countBelow c (fun k => (s >>> 1 >>> k) % 2 ^ m == p) =
        countBelow c (fun k => (s >>> (k + 1)) % 2 ^ m == p) := by
      apply countBelow_congr; intro k _; rw [Nat.add_comm, Nat.shiftRight_add]
    rw [this, Nat.shiftRight_zero]
    by_cases hp : s % 2 ^ m = p
    · simp [hp]; omega
    · have hb : (s % 2 ^ m == p) = false := by simp [hp]
      simp [hp, hb]

theorem fcSlowLoop_spec (seq m V : Nat) (hV : V >>> m = seq) :
    ∀ f j (res : Array Int), res.size = 2 ^ m →
    (∀ p, cntOf res p = (countBelow (8 * j) (fun k => (V >>> k) % 2 ^ m == p) : Nat)) →
    (fcSlowLoop seq m (2 ^ m - 1) f j ((V >>> (8 * j)) % 2 ^ m) res).1 = (V >>> (8 * (j + f))) % 2 ^ m ∧
    (fcSlowLoop seq m (2 ^ m - 1) f j ((V >>> (8 * j)) % 2 ^ m) res).2.size = 2 ^ m ∧
    ∀ p, cntOf (fcSlowLoop seq m (2 ^ m - 1) f j ((V >>> (8 * j)) % 2 ^ m) res).2 p =
      (countBelow (8 * (j + f)) (fun k => (V >>> k) % 2 ^ m == p) : Nat) := by
  intro f
  induction f with
  | zero => intro j res hs hc; exact ⟨rfl, hs, hc⟩
  | succ f ih =>
    intro j res hs hc
    unfold fcSlowLoop
    rw [xor_byte_eq seq m V j hV, mod_two_pow_shiftRight, ← Nat.shiftRight_add, Nat.add_sub_cancel,
      ← Nat.mul_succ]
    obtain ⟨c1, c2⟩ := countBits_spec m 8 ((V >>> (8 * j)) % 2 ^ (m + 8)) res hs
    have := ih (j + 1) _ c1 (fun p => by
      rw [c2, hc, Nat.mul_succ, countBelow_add]
      have : countBelow 8 (fun k => ((V >>> (8 * j)) % 2 ^ (m + 8)) >>> k % 2 ^ m == p) =
          countBelow 8 (fun k => (V >>> (8 * j + k)) % 2 ^ m == p) := by
        apply countBelow_congr; intro k hk; rw [window_of_wide _ _ _ _ _ (by omega)]
      rw [this]; omega)
    rwa [Nat.add_right_comm j 1 f] at this

/-- the last, partial byte (both paths; register width `w ≥ m`): after it the tallies count the
windows `0 … n-1` of the stream. -/
theorem fcTail_spec (seq n w m V : Nat) (st : Nat × Array Int) (hV : V >>> w = seq) (hmw : m ≤ w)
    (hs : st.1 = (V >>> (8 * (n / 8))) % 2 ^ w) (hsz : st.2.size = 2 ^ m)
    (hc : ∀ p, cntOf st.2 p = (countBelow (8 * (n / 8)) (fun k => (V >>> k) % 2 ^ m == p) : Nat)) :
    (fcTail seq n w (2 ^ m - 1) st).size = 2 ^ m ∧
    ∀ p, cntOf (fcTail seq n w (2 ^ m - 1) st) p =
      (countBelow n (fun k => (V >>> k) % 2 ^ m == p) : Nat) := by
  unfold fcTail
  split
  · rename_i h8
    rw [hs, last_byte_index n h8, xor_byte_eq seq w _ _ hV]
    obtain ⟨c1, c2⟩ := countBits_spec m (n % 8) ((V >>> (8 * (n / 8))) % 2 ^ (w + 8)) st.2 hsz
    refine ⟨c1, fun p => ?_⟩
    have e := countBelow_add (8 * (n / 8)) (n % 8) (fun k => (V >>> k) % 2 ^ m == p)
    rw [Nat.div_add_mod] at e
    rw [c2, hc, e, Int.natCast_add]
    congr 2
    apply countBelow_congr
    intro k hk
    rw [window_of_wide _ _ _ _ _ (Nat.add_comm w 8 ▸ Nat.add_le_add (Nat.le_of_lt
      (Nat.lt_trans hk (Nat.mod_lt n (by decide)))) hmw)]
  · rename_i h8
    refine ⟨hsz, fun p => ?_⟩
    rw [hc, eight_mul_div n h8]

theorem count_vwin_wrap (seq n m p : Nat) (h : seq < 2 ^ n) (hm : m ≤ n) :
    countBelow n (fun k => vwin seq n m k == p) = freqDef seq n m true p :=
  count_vstream_windows seq n m m 0 p h hm (Nat.le_refl m) (Nat.zero_le 1)

/-- the slow path counts the windows `0 … n-1` of the virtual stream. -/
theorem fcSlowCore_spec (seq n m : Nat) (h : seq < 2 ^ n) (hm : m ≤ n) :
    (fcSlowCore seq n m).size = 2 ^ m ∧
    ∀ p, cntOf (fcSlowCore seq n m) p = (freqDef seq n m true p : Nat) := by
  have hV := vstream_shiftRight seq n m h hm
  unfold fcSlowCore
  rw [← vstream_mod seq n m h hm]
  obtain ⟨l1, l2, l3⟩ := fcSlowLoop_spec seq m (vstream seq n m) hV (n / 8) 0
    (Array.replicate (2 ^ m) 0) Array.size_replicate
    (fun p => by rw [cntOf_replicate]; rfl)
  simp only [Nat.mul_zero, Nat.shiftRight_zero, Nat.zero_add] at l1 l2 l3
  obtain ⟨t1, t2⟩ := fcTail_spec seq n m m _ _ hV (Nat.le_refl m) l1 l2 l3
  exact ⟨t1, fun p => (t2 p).trans (congrArg _ (count_vwin_wrap seq n m p h hm))⟩

theorem foldl_addAt_neg (m : Nat) (idx : Nat → Nat) (hidx : ∀ i, idx i < 2 ^ m) :
    ∀ c (res : Array Int), res.size = 2 ^ m →
    ((List.range c).foldl (fun res i => addAt res (idx i) (-1)) res).size = 2 ^ m ∧
    ∀ p, cntOf ((List.range c).foldl (fun res i => addAt res (idx i) (-1)) res) p =
      cntOf res p - (countBelow c (fun i => idx i == p) : Nat) := by
  intro c
  induction c with
  | zero => intro res hs; exact ⟨hs, fun p => by simp [countBelow]⟩
  | succ c ih =>
    intro res hs
    rw [List.range_succ, List.foldl_append, List.foldl_cons, List.foldl_nil]
    obtain ⟨h1, h2⟩ := ih res hs
    refine ⟨by rw [size_addAt, h1], fun p => ?_⟩
    rw [cntOf_addAt _ _ _ _ (h1 ▸ hidx c), h2, countBelow_succ]
    by_cases hp : idx c = p
    · simp [hp]; omega
    · have hb : (idx c == p) = false := by simp [hp]
      simp [hp, hb]

/-- the windows removed for `wrap = False` are the windows `1 … m-1` of the virtual stream. -/
theorem unwrap_window (seq n m t : Nat) (h : seq < 2 ^ n) (hm : m ≤ n) (ht : t < m) :
    (((seq >>> (n - m)) ||| ((seq &&& (2 ^ m - 1)) <<< m)) >>> t) % 2 ^ m = vwin seq n m t := by
  unfold vwin
  apply Nat.eq_of_testBit_eq
  intro j
  simp only [Nat.testBit_mod_two_pow, Nat.testBit_shiftRight, Nat.testBit_or, Nat.testBit_shiftLeft,
    Nat.and_two_pow_sub_one_eq_mod, testBit_vstream _ _ _ _ h hm]
  by_cases hj : j < m
  · by_cases h2 : t + j < m
    · simp [hj, h2, show ¬ t + j ≥ m by omega]
    · have : seq.testBit (n - m + (t + j)) = false :=
        Nat.testBit_lt_two_pow (Nat.lt_of_lt_of_le h (Nat.pow_le_pow_right (by decide) (by omega)))
      simp [hj, h2, this, show t + j ≥ m by omega, show t + j - m < m by omega]
  · simp [hj]

theorem fcUnwrap_spec (seq n m : Nat) (res : Array Int) (h : seq < 2 ^ n) (hm : m ≤ n)
    (hs : res.size = 2 ^ m) :
    (fcUnwrap seq n m res).size = 2 ^ m ∧ ∀ p, cntOf (fcUnwrap seq n m res) p =
      cntOf res p - (countBelow (m - 1) (fun i => vwin seq n m (i + 1) == p) : Nat) := by
  unfold fcUnwrap
  obtain ⟨h1, h2⟩ := foldl_addAt_neg m
    (fun i => (((seq >>> (n - m)) ||| ((seq &&& (2 ^ m - 1)) <<< m)) >>> (i + 1)) &&& (2 ^ m - 1))
    (fun i => and_mask_lt _ m) (m - 1) res hs
  refine ⟨h1, fun p => ?_⟩
  rw [h2]
  congr 2
  apply countBelow_congr
  intro i hi
  rw [Nat.and_two_pow_sub_one_eq_mod, unwrap_window seq n m (i + 1) h hm (by omega)]

theorem fcGuard_none (seq n m : Nat) (h : seq < 2 ^ n) (hm : m ≤ n) : fcGuard seq n m = none := by
  unfold fcGuard
  have := (lt_two_pow_iff_bitLength_le seq n).1 h
  rw [if_neg (by omega), if_neg (by omega)]

theorem toList_eq_of_cntOf (res : Array Int) (k : Nat) (F : Nat → Int) (hs : res.size = k)
    (hc : ∀ p, p < k → cntOf res p = F p) : res.toList = (List.range k).map F := by
  apply List.ext_getElem
  · simp [hs]
  · intro p h1 h2
    have hp : p < k := by simpa using h2
    simp only [List.getElem_map, List.getElem_range, Array.getElem_toList]
    rw [← hc p hp]
    unfold cntOf
    rw [Array.getElem?_eq_getElem (by omega)]; rfl

theorem count_vwin_nowrap (seq n m p : Nat) (h : seq < 2 ^ n) (hm1 : 1 ≤ m) (hm : m ≤ n) :
    countBelow n (fun k => vwin seq n m k == p) =
      countBelow (m - 1) (fun i => vwin seq n m (i + 1) == p) + freqDef seq n m false p := by
  -- window 0 of the stream is the last fitting window, the windows `m …` are the others
  obtain ⟨d, rfl⟩ := Nat.exists_eq_add_of_le hm
  obtain ⟨m, rfl⟩ := Nat.exists_eq_add_of_le' hm1
  have e1 : countBelow d (fun k => vwin seq (m + 1 + d) (m + 1) (m + 1 + k) == p) =
      countBelow d (fun i => window seq (m + 1) i == p) :=
    countBelow_congr _ _ _ fun k _ => by rw [vwin_add _ _ _ _ h hm]
  have e2 := vwin_zero seq (m + 1 + d) (m + 1) h hm
  rw [Nat.add_sub_cancel_left] at e2
  rw [freqDef, if_neg Bool.false_ne_true, Nat.add_sub_cancel_left, countBelow_add, e1,
    countBelow_succ_shift, e2, countBelow_succ, Nat.add_sub_cancel]
  omega

/-- what both paths do with the finished wrap-around tallies. -/
theorem fcFinish_spec (seq n m : Nat) (wrap : Bool) (res : Array Int) (h : seq < 2 ^ n) (hm : m ≤ n)
    (hm1 : wrap = false → 1 ≤ m) (hs : res.size = 2 ^ m)
    (hc : ∀ p, cntOf res p = (freqDef seq n m true p : Nat)) :
    fcFinish seq n m wrap res = (List.range (2 ^ m)).map (fun p => (freqDef seq n m wrap p : Int)) := by
  unfold fcFinish
  cases wrap with
  | true => exact toList_eq_of_cntOf _ _ _ hs fun p _ => hc p
  | false =>
    obtain ⟨u1, u2⟩ := fcUnwrap_spec seq n m _ h hm hs
    refine toList_eq_of_cntOf _ _ _ u1 fun p _ => ?_
    rw [if_neg Bool.false_ne_true, u2, hc, ← count_vwin_wrap _ _ _ _ h hm,
      count_vwin_nowrap _ _ _ _ h (hm1 rfl) hm]
    omega

end Paranoid.BitSeq
