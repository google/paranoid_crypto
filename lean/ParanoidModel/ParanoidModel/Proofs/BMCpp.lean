/-
Proofs/BMCpp.lean — the word-level C++ model (Model/BMCpp.lean) SIMULATES the big-integer routine
`bmLength` of Model/BM.lean (whose correctness is Props/C14.lean).

* `eStep` / `eLoop`: the "eager" big-integer machine (`sc` shifted at every step, as the C++ code
  does, instead of the pending shift count `m` of `LinearComplexityNative`); `eLoop_L`: it
  computes `bmLength`.
* `val`: value of a vector of 64-bit words; `val_shr1`, `val_xorw`: the word loops are `/ 2` and
  `^^^` on values.
* packing: `val_wordsOfBytes`.
* portable variant: `PRel`, `pStep_sim`, `lfsrLengthImplPortable_eq`.
-/
import ParanoidModel.Model.BMCpp
import ParanoidModel.Proofs.BM
namespace Paranoid.BMCpp
open Paranoid

structure EState where
  P : Nat
  Q : Nat
  L : Nat

def eStep (i : Nat) (st : EState) : EState :=
  if st.Q.testBit 0 = true then
    if 2 * st.L ≤ i then { P := st.Q >>> 1, Q := st.P ^^^ (st.Q >>> 1), L := i + 1 - st.L }
    else { P := st.P, Q := (st.Q >>> 1) ^^^ st.P, L := st.L }
  else { P := st.P, Q := st.Q >>> 1, L := st.L }

def eLoop : Nat → Nat → EState → EState
  | 0, _, st => st
  | k + 1, i, st => eLoop k (i + 1) (eStep i st)

/-- relation between the lazy registers of `LinearComplexityNative` and the eager machine. -/
structure ERel (e : EState) (bm : BMState) : Prop where
  p : e.P = bm.sb
  q : e.Q = bm.sc >>> bm.m
  l : e.L = bm.degC

theorem eRel_step {e : EState} {bm : BMState} (h : ERel e bm) (i : Nat) :
    ERel (eStep i e) (bmStep i bm) := by
  have hbit : bm.sc.testBit bm.m = e.Q.testBit 0 := by
    rw [h.q, Nat.testBit_shiftRight]; rfl
  have hsh : e.Q >>> 1 = bm.sc >>> (bm.m + 1) := by
    rw [h.q, ← Nat.shiftRight_add]
  rw [bmStep, bmUpdate, ← h.l]
  fun_cases eStep i e
  case case1 hd hl =>
    rw [if_pos ((bmDisc_ne_zero_iff bm).2 (hbit.trans hd)), if_pos hl]
    exact ⟨hsh, by rw [hsh, h.p]; rfl, rfl⟩
  case case2 hd hl =>
    rw [if_pos ((bmDisc_ne_zero_iff bm).2 (hbit.trans hd)), if_neg hl]
    exact ⟨h.p, by rw [hsh, h.p]; rfl, rfl⟩
  case case3 hd =>
    rw [if_neg (mt (fun hh => hbit.symm.trans ((bmDisc_ne_zero_iff bm).1 hh)) hd)]
    exact ⟨h.p, hsh, rfl⟩

theorem eRel_loop (k : Nat) : ∀ (i : Nat) {e : EState} {bm : BMState}, ERel e bm →
    ERel (eLoop k i e) (bmLoop k i bm) := by
  induction k with
  | zero => intro i e bm h; exact h
  | succ k ih => intro i e bm h; exact ih (i + 1) (eRel_step h i)

theorem eLoop_L (s n : Nat) : (eLoop n 0 ⟨s, s, 0⟩).L = bmLength s n :=
  (eRel_loop n 0 (e := ⟨s, s, 0⟩) (bm := bmInit s) ⟨rfl, rfl, rfl⟩).l


def val : Words → Nat
  | [] => 0
  | w :: ws => w.toNat + 2 ^ 64 * val ws

@[simp] theorem val_nil : val [] = 0 := rfl
theorem val_cons (w : UInt64) (ws : Words) : val (w :: ws) = w.toNat + 2 ^ 64 * val ws := rfl

theorem val_lt (ws : Words) : val ws < 2 ^ (64 * ws.length) := by
  induction ws with
  | nil => exact Nat.one_pos
  | cons w ws ih =>
    rw [val_cons, List.length_cons, Nat.mul_succ, Nat.add_comm (64 * _), Nat.pow_add]
    exact Nat.add_mul_lt_mul_of_lt_of_lt w.toNat_lt ih

theorem xor_split {k x x' : Nat} (y y' : Nat) (hx : x < 2 ^ k) (hx' : x' < 2 ^ k) :
    (x + 2 ^ k * y) ^^^ (x' + 2 ^ k * y') = (x ^^^ x') + 2 ^ k * (y ^^^ y') := by
  apply Nat.eq_of_testBit_eq
  intro j
  rw [Nat.testBit_xor, Nat.add_comm x, Nat.add_comm x', Nat.add_comm (x ^^^ x'),
    Nat.testBit_two_pow_mul_add _ hx, Nat.testBit_two_pow_mul_add _ hx',
    Nat.testBit_two_pow_mul_add _ (Nat.xor_lt_two_pow hx hx')]
  by_cases h : j < k <;> simp [h]

/-- a word and the rest, as xor and shift: the form in which word-level xor loops are
associativity and commutativity of `^^^`. -/
theorem add_two_pow_mul {k a : Nat} (ha : a < 2 ^ k) (b : Nat) : a + 2 ^ k * b = a ^^^ b <<< k := by
  have := xor_split (k := k) (x := a) (x' := 0) 0 b ha (Nat.two_pow_pos k)
  rw [Nat.shiftLeft_eq, Nat.mul_comm b]
  simpa using this.symm

theorem val_cons_xor (w : UInt64) (ws : Words) : val (w :: ws) = w.toNat ^^^ val ws <<< 64 :=
  add_two_pow_mul w.toNat_lt _

theorem val_xorw : ∀ (a b : Words), a.length = b.length → val (xorw a b) = val a ^^^ val b
  | [], [], _ => by simp [xorw]
  | x :: a, y :: b, h => by
    have ih := val_xorw a b (by simpa using h)
    unfold xorw at ih ⊢
    rw [List.zipWith_cons_cons, val_cons, val_cons, val_cons, ih, UInt64.toNat_xor,
      xor_split _ _ x.toNat_lt y.toNat_lt]
  | [], _ :: _, h => by simp at h
  | _ :: _, [], h => by simp at h

theorem length_xorw (a b : Words) (h : a.length = b.length) : (xorw a b).length = a.length := by
  simp [xorw, h]

theorem length_shr1 : ∀ ws : Words, (shr1 ws).length = ws.length
  | [] => rfl
  | [_] => rfl
  | _ :: w' :: ws => by
    rw [shr1, List.length_cons, length_shr1 (w' :: ws)]
    rfl

theorem word_shr_or (w w' : UInt64) :
    ((w >>> 1) ||| (w' <<< 63)).toNat = w.toNat / 2 + (w'.toNat % 2) * 2 ^ 63 := by
  rw [UInt64.toNat_or, UInt64.toNat_shiftRight, UInt64.toNat_shiftLeft]
  have e1 : (1 : UInt64).toNat % 64 = 1 := by decide
  have e63 : (63 : UInt64).toNat % 64 = 63 := by decide
  rw [e1, e63, Nat.shiftRight_eq_div_pow, Nat.shiftLeft_eq, Nat.pow_one,
    show (2 : Nat) ^ 64 = 2 * 2 ^ 63 from rfl, Nat.mul_mod_mul_right, Nat.or_comm, Nat.mul_comm,
    ← Nat.two_pow_add_eq_or_of_lt (Nat.div_lt_of_lt_mul w.toNat_lt), Nat.add_comm]

theorem val_cons_mod_two (w : UInt64) (ws : Words) : val (w :: ws) % 2 = w.toNat % 2 := by
  rw [val_cons, show (2 : Nat) ^ 64 = 2 * 2 ^ 63 from rfl, Nat.mul_assoc, Nat.add_mul_mod_self_left]

theorem val_shr1 : ∀ ws : Words, val (shr1 ws) = val ws / 2
  | [] => rfl
  | [w] => by
    rw [shr1, val_cons, val_cons, val_nil, UInt64.toNat_shiftRight, Nat.shiftRight_eq_div_pow]
    rfl
  | w :: w' :: ws => by
    rw [shr1, val_cons, val_shr1 (w' :: ws), word_shr_or, ← val_cons_mod_two w' ws, val_cons w]
    generalize val (w' :: ws) = x
    omega

theorem word_and_one (w : UInt64) : (w &&& 1 = 1) ↔ w.toNat.testBit 0 = true := by
  rw [← UInt64.toNat_inj, UInt64.toNat_and]
  have e1 : (1 : UInt64).toNat = 1 := by decide
  rw [e1, Nat.and_one_is_mod, Nat.testBit_zero]
  simp

theorem val_testBit_zero (w : UInt64) (ws : Words) :
    (val (w :: ws)).testBit 0 = w.toNat.testBit 0 := by
  rw [Nat.testBit_zero, Nat.testBit_zero, val_cons_mod_two]


theorem toUInt64_toNat_mod {i : Nat} (h : i < 64) : i.toUInt64.toNat % 64 = i := by
  show i % 2 ^ 64 % 64 = i
  omega

theorem byte_shift (b : UInt8) (k : Nat) (hk : k < 8) :
    (b.toUInt64 <<< (8 * k).toUInt64).toNat = b.toNat <<< (8 * k) := by
  rw [UInt64.toNat_shiftLeft, UInt8.toNat_toUInt64, toUInt64_toNat_mod (by omega)]
  apply Nat.mod_eq_of_lt
  rw [Nat.shiftLeft_eq, Nat.mul_comm]
  have hb : b.toNat < 2 ^ 8 := b.toNat_lt
  calc 2 ^ (8 * k) * b.toNat < 2 ^ (8 * k) * 2 ^ 8 := Nat.mul_lt_mul_of_pos_left hb (Nat.two_pow_pos _)
    _ = 2 ^ (8 * k + 8) := (Nat.pow_add _ _ _).symm
    _ ≤ 2 ^ 64 := Nat.pow_le_pow_right (by omega) (by omega)

theorem val_packLoop : ∀ (bs : List UInt8) (i : Nat) (cur : UInt64),
    cur.toNat < 2 ^ (8 * (i % 8)) →
    val (packLoop bs i cur) = cur.toNat + 2 ^ (8 * (i % 8)) * natOfBytes bs
  | [], i, cur, h => by
    unfold packLoop
    by_cases h0 : i % 8 = 0
    · rw [if_pos h0]
      rw [h0] at h
      simp only [Nat.mul_zero, Nat.pow_zero] at h
      simp [natOfBytes]; omega
    · rw [if_neg h0]; simp [natOfBytes, val_cons]
  | b :: bs, i, cur, h => by
    have hk : i % 8 < 8 := Nat.mod_lt _ (by omega)
    have hx : (cur ^^^ (b.toUInt64 <<< (8 * (i % 8)).toUInt64)).toNat
        = cur.toNat + 2 ^ (8 * (i % 8)) * b.toNat := by
      rw [UInt64.toNat_xor, byte_shift b _ hk, add_two_pow_mul h]
    have hb : b.toNat < 2 ^ 8 := b.toNat_lt
    unfold packLoop
    by_cases h7 : i % 8 = 7
    · rw [if_pos h7, val_cons, hx]
      have h1 : (i + 1) % 8 = 0 := by rw [Nat.add_mod, h7]
      have ih := val_packLoop bs (i + 1) 0 (by rw [h1]; decide)
      rw [ih, h1, h7, natOfBytes]
      have : (0 : UInt64).toNat = 0 := rfl
      rw [this]
      generalize natOfBytes bs = N
      omega
    · rw [if_neg h7]
      have h1 : (i + 1) % 8 = i % 8 + 1 := by
        rw [Nat.add_mod, Nat.mod_eq_of_lt (show i % 8 + 1 % 8 < 8 by omega)]
      have hlt : (cur ^^^ (b.toUInt64 <<< (8 * (i % 8)).toUInt64)).toNat < 2 ^ (8 * ((i + 1) % 8)) := by
        rw [hx, h1, Nat.mul_succ, Nat.pow_add]
        exact Nat.add_mul_lt_mul_of_lt_of_lt h hb
      rw [val_packLoop bs (i + 1) _ hlt, hx, h1, natOfBytes, Nat.mul_succ, Nat.pow_add]
      generalize natOfBytes bs = N
      generalize 2 ^ (8 * (i % 8)) = T
      have e8 : (2 : Nat) ^ 8 = 256 := rfl
      rw [e8, Nat.mul_add, ← Nat.mul_assoc, Nat.add_assoc]

/-- **packing lemma**: the words built by `LfsrLength` carry the bit string of the bytes. -/
theorem val_wordsOfBytes (seq : List UInt8) : val (wordsOfBytes seq) = natOfBytes seq := by
  unfold wordsOfBytes
  rw [val_packLoop seq 0 0 (by decide)]
  simp

theorem length_packLoop : ∀ (bs : List UInt8) (i : Nat) (cur : UInt64),
    (packLoop bs i cur).length = (i % 8 + bs.length + 7) / 8
  | [], i, cur => by
    have := Nat.mod_lt i (show 0 < 8 by decide)
    rw [packLoop]
    split
    next h0 => rw [h0]; rfl
    next h0 => rw [List.length_singleton, List.length_nil]; omega
  | b :: bs, i, cur => by
    rw [packLoop, List.length_cons]
    split
    next h7 =>
      rw [List.length_cons, length_packLoop bs (i + 1) 0, Nat.add_mod, h7,
        ← Nat.add_div_right _ (by decide : 0 < 8)]
      congr 1
      omega
    next h7 =>
      have h8 := Nat.mod_lt i (show 0 < 8 by decide)
      rw [length_packLoop bs (i + 1) _, Nat.add_mod,
        Nat.mod_eq_of_lt (show i % 8 + 1 % 8 < 8 by omega)]
      congr 1
      omega

theorem length_wordsOfBytes (seq : List UInt8) : (wordsOfBytes seq).length = (seq.length + 7) / 8 := by
  unfold wordsOfBytes
  rw [length_packLoop]; simp


theorem natOfBytes_testBit : ∀ (bs : List UInt8) (k : Nat),
    (natOfBytes bs).testBit k = ((bs[k / 8]?).map (fun b => b.toNat.testBit (k % 8))).getD false
  | [], k => by simp [natOfBytes]
  | b :: bs, k => by
    rw [natOfBytes, Nat.add_comm, show (256 : Nat) = 2 ^ 8 from rfl,
      Nat.testBit_two_pow_mul_add _ b.toNat_lt]
    by_cases hk : k < 8
    · rw [if_pos hk, Nat.div_eq_of_lt hk, Nat.mod_eq_of_lt hk]
      rfl
    · obtain ⟨j, rfl⟩ := Nat.exists_eq_add_of_le (Nat.le_of_not_lt hk)
      rw [if_neg hk, Nat.add_sub_cancel_left, natOfBytes_testBit bs j,
        Nat.add_div_left _ (by decide), Nat.add_mod_left]
      rfl

theorem natOfBytes_lt (bs : List UInt8) : natOfBytes bs < 2 ^ (8 * bs.length) := by
  induction bs with
  | nil => exact Nat.one_pos
  | cons b bs ih =>
    rw [natOfBytes, List.length_cons, Nat.mul_succ, Nat.add_comm (8 * _), Nat.pow_add]
    exact Nat.add_mul_lt_mul_of_lt_of_lt (m := 2 ^ 8) b.toNat_lt ih

/-- simulation invariant of the portable variant: the word vectors (`W` words each) ARE the big
integers of the eager machine. -/
structure PRel (W : Nat) (p : PState) (e : EState) : Prop where
  sb : val p.sb = e.P
  sc : val p.sc = e.Q
  len : p.len = e.L
  lsb : p.sb.length = W
  lsc : p.sc.length = W

theorem pStep_sim {W : Nat} {p : PState} {e : EState} (h : PRel W p e) (hW : 0 < W) (i : Nat) :
    ∃ p', pStep i p = some p' ∧ PRel W p' (eStep i e) := by
  obtain ⟨w, ws, hsc⟩ := List.exists_cons_of_length_pos (h.lsc ▸ hW)
  have hbit : (w &&& 1 = 1) ↔ e.Q.testBit 0 = true := by
    rw [word_and_one, ← val_testBit_zero w ws, ← hsc, h.sc]
  have hshr : val (shr1 p.sc) = e.Q >>> 1 := by
    rw [val_shr1, h.sc, Nat.shiftRight_eq_div_pow, Nat.pow_one]
  have hl1 : (shr1 p.sc).length = W := by rw [length_shr1, h.lsc]
  have hl2 : p.sb.length = (shr1 p.sc).length := h.lsb.trans hl1.symm
  rw [pStep]
  split
  · next h0 => rw [h0] at hsc; cases hsc
  next w' ws' h0 =>
  obtain rfl : w' = w := by rw [h0] at hsc; exact (List.cons.inj hsc).1
  fun_cases eStep i e
  case case1 hd hl =>
    rw [if_pos (hbit.2 hd), pUpdate, h.len, if_pos hl]
    exact ⟨_, rfl, hshr, by rw [val_xorw _ _ hl2, hshr, h.sb], rfl, hl1,
      by rw [length_xorw _ _ hl2, h.lsb]⟩
  case case2 hd hl =>
    rw [if_pos (hbit.2 hd), pUpdate, h.len, if_neg hl]
    exact ⟨_, rfl, h.sb, by rw [val_xorw _ _ hl2.symm, hshr, h.sb], rfl, h.lsb,
      by rw [length_xorw _ _ hl2.symm, hl1]⟩
  case case3 hd =>
    rw [if_neg (mt hbit.1 hd)]
    exact ⟨_, rfl, h.sb, hshr, h.len, h.lsb, hl1⟩

theorem pLoop_sim {W : Nat} (k : Nat) : ∀ (i : Nat) {p : PState} {e : EState}, PRel W p e →
    (k = 0 ∨ 0 < W) → ∃ p', pLoop k i p = some p' ∧ PRel W p' (eLoop k i e) := by
  induction k with
  | zero => intro i p e h _; exact ⟨p, rfl, h⟩
  | succ k ih =>
    intro i p e h hW
    have hW : 0 < W := hW.resolve_left (Nat.succ_ne_zero k)
    obtain ⟨p1, h1, hr⟩ := pStep_sim h hW i
    obtain ⟨p2, h2, hr2⟩ := ih (i + 1) hr (Or.inr hW)
    exact ⟨p2, by rw [pLoop, h1]; exact h2, hr2⟩

/-- **portable simulation theorem** (word vectors): for every word vector and every `n` — with
`n = 0` if the vector is empty — the portable `LfsrLengthImpl` performs no out-of-bounds access
and returns `LinearComplexityNative(val seq, n)`. -/
theorem lfsrLengthImplPortable_eq (seq : Words) (n : Nat) (h : n = 0 ∨ seq ≠ []) :
    lfsrLengthImplPortable seq n = some (bmLength (val seq) n) := by
  obtain ⟨p', h1, hr⟩ := pLoop_sim (W := seq.length) n 0 (p := { sb := seq, sc := seq, len := 0 })
    (e := ⟨val seq, val seq, 0⟩) ⟨rfl, rfl, rfl, rfl, rfl⟩ (h.imp_right List.length_pos_of_ne_nil)
  rw [lfsrLengthImplPortable, h1, Option.map_some, hr.len, eLoop_L]

end Paranoid.BMCpp
