/-
Proofs/RsaAllEval.lean — the concrete runs of `checkAllRSAFull` that Props/C16RsaAll.lean and
Props/C01Proper.lean show as witnesses: their inputs, and ONE evaluation of all of them.  Most of
what the kernel does in such a run is comparing check names (the registry lookups of `rsaVerdict`,
the `GetTestResult` of every `SetTestResult`); evaluated together, each pair of names is compared
once and each per-key verdict that two runs share is computed once.
-/
import ParanoidModel.Proofs.RsaAll
namespace Paranoid.RsaAll
open Paranoid

/-- oracles for the examples: no LLL answers, no listed PRNG outputs, empty deny list and table,
small search budgets. -/
def orcEx : RsaOracles :=
  { pollardM := 2 ^ 10, denylist := [], keypairTable := [], fermatMaxSteps := 50, lhwCutoff := 20,
    lhwMaxSteps := 50,
    red := fun _ _ => [], cbrt := fun _ => 2642245, unseeded := fun _ => [],
    sha1hex := fun _ => [], keypairGen := fun _ _ _ => (0, 0) }

/-- two 65-bit moduli sharing the prime 4294967311, the second with exponent 3. -/
def keysEx : List RsaKey :=
  [⟨4294967311 * 4294968317, 65537⟩, ⟨4294967311 * 4295967341, 3⟩]

/-- what a run reports: per key the weak flag, the names of the positive entries, the attached
records; and the return value. -/
def view (r : Except PyErr (List Artifact × Bool)) :
    Except PyErr (List (Bool × List String × List (String × AttachedValue)) × Bool) :=
  r.map fun p => (p.1.map fun a =>
    (a.info.weak, (a.info.results.filter (·.result)).map (·.name), a.info.attached), p.2)

set_option synthInstance.maxSize 1024 in
/-- the runs, in the order: `orcEx` on `keysEx`; on the empty batch; on a 63-bit modulus; a table
hit with a generator that answers `(1, n)`; `keysEx` with a generator that answers `(2, 2)`. -/
theorem runs_eval :
    view (checkAllRSAFull orcEx keysEx) =
      .ok ([(true, ["CheckSizes", "CheckFermat", "CheckContinuedFractions", "CheckLowHammingWeight",
                    "CheckGCD"],
              [("N_FACTORS", .factors [4294967311, 4294968317])]),
            (true, ["CheckSizes", "CheckExponents", "CheckFermat", "CheckContinuedFractions",
                    "CheckGCD"],
              [("N_FACTORS", .factors [4294967311, 4295967341])])], true) ∧
    checkAllRSAFull orcEx [] = .ok ([], false) ∧
    checkAllRSAFull orcEx [⟨2 ^ 62 + 1, 65537⟩] = .error .valueError ∧
    view (checkAllRSAFull
        { orcEx with keypairTable := [((2 ^ 65 + 13) >>> 2, [0])],
                     keypairGen := fun _ _ _ => (1, 2 ^ 65 + 13) } [⟨2 ^ 65 + 13, 65537⟩]) =
      .ok ([(true, ["CheckSizes", "CheckContinuedFractions", "CheckKeypairDenylist"],
            [("N_FACTORS", .factors [1, ((2 ^ 65 + 13 : Nat) : Int)])])], true) ∧
    (checkAllRSAFull { orcEx with keypairGen := fun _ _ _ => (2, 2) } keysEx).toOption.map
        (fun p => p.1.map fun a => getAttachedFactors a.info nFactors) =
      some [.ok (some [4294967311, 4294968317]), .ok (some [4294967311, 4295967341])] := by
  decide +kernel

end Paranoid.RsaAll
