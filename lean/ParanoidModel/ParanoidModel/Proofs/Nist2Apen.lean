/-
Proofs/Nist2Apen.lean — range of the ApproximateEntropy statistic (NIST SP 800-22 2.12.4):
χ² = 2n(ln 2 − ApEn(m)) ≥ 0 over ℝ, for the exact count vectors of the model.

ApEn(m) = φ_m − φ_{m+1}, φ_m = Σ_w (ν_w/n)·ln(ν_w/n) over the m-bit patterns (0·ln 0 = 0, which is
Mathlib's `Real.log 0 = 0` and the code's `if c:`).  Since ν_w = ν_{0w} + ν_{1w} (the marginal identity
`pairSum_countsWrap`) and x·ln x is convex (`Real.convexOn_mul_log`),
  (a+b)·ln(a+b) ≤ a·ln a + b·ln b + (a+b)·ln 2,
so φ_m ≤ φ_{m+1} + ln 2 (Gibbs / log-sum inequality on the conditional distribution).
-/
import ParanoidModel.Proofs.Nist2Serial
import Mathlib.Analysis.SpecialFunctions.Log.NegMulLog
namespace Paranoid.Nist

/-- x·ln x (0 at 0). -/
noncomputable def xlogx (x : ℝ) : ℝ := x * Real.log x

theorem xlogx_zero : xlogx 0 = 0 := by simp [xlogx]

theorem xlogx_pair (x y : ℝ) (hx : 0 ≤ x) (hy : 0 ≤ y) :
    xlogx (x + y) ≤ xlogx x + xlogx y + (x + y) * Real.log 2 := by
  unfold xlogx
  by_cases h0 : x + y = 0
  · have hx0 : x = 0 := by linarith
    have hy0 : y = 0 := by linarith
    simp [hx0, hy0]
  · have hpos : 0 < x + y := lt_of_le_of_ne (by linarith) (Ne.symm h0)
    have hc := Real.convexOn_mul_log.2 (Set.mem_Ici.mpr hx) (Set.mem_Ici.mpr hy)
      (by norm_num : (0 : ℝ) ≤ 1 / 2) (by norm_num : (0 : ℝ) ≤ 1 / 2) (by norm_num)
    simp only [smul_eq_mul] at hc
    have e : (1 / 2 : ℝ) * x + 1 / 2 * y = (x + y) / 2 := by ring
    rw [e, Real.log_div (ne_of_gt hpos) (by norm_num)] at hc
    linarith

/-- φ = Σ_c (c/n)·ln(c/n) for a count vector (`ComputeApproximateEntropy`, as a real number). -/
noncomputable def phi (n : Nat) (cnt : List Nat) : ℝ :=
  (cnt.map (fun (c : Nat) => xlogx ((c : ℝ) / n))).sum

theorem phi_pairSum (n : Nat) : ∀ cnt : List Nat, cnt.length % 2 = 0 →
    phi n (pairSum cnt) ≤ phi n cnt + ((cnt.sum : Nat) : ℝ) / n * Real.log 2
  | [], _ => by simp [phi, pairSum]
  | [x], h => by simp at h
  | a :: b :: rest, h => by
    have h' : rest.length % 2 = 0 := by simp only [List.length_cons] at h; omega
    have ih := phi_pairSum n rest h'
    have hp := xlogx_pair ((a : ℝ) / n) ((b : ℝ) / n) (by positivity) (by positivity)
    simp only [phi, pairSum, List.map_cons, List.sum_cons, Nat.cast_add] at ih ⊢
    have e1 : ((a : ℝ) + b) / n = a / n + b / n := by ring
    have e2 : ((a : ℝ) + (b + (rest.sum : ℝ))) / n = a / n + b / n + (rest.sum : ℝ) / n := by ring
    rw [e1, e2]
    linarith

/-- φ of a level given as the multiset of its non-zero counts (`ApenOut.levels`). -/
noncomputable def phiLevel (n : Nat) (lv : List (Nat × Nat)) : ℝ :=
  (lv.map (fun (p : Nat × Nat) => (p.2 : ℝ) * xlogx ((p.1 : ℝ) / n))).sum

/-! `multiset` preserves weighted sums -/

noncomputable def wsum (g : Nat → ℝ) (acc : List (Nat × Nat)) : ℝ := (acc.map (fun (p : Nat × Nat) => (p.2 : ℝ) * g p.1)).sum

theorem wsum_rleStep (g : Nat → ℝ) (acc : List (Nat × Nat)) (v : Nat) :
    wsum g (rleStep acc v) = wsum g acc + g v := by
  unfold rleStep
  split
  · rename_i w c rest
    split
    · rename_i hw
      subst hw
      simp only [wsum, List.map_cons, List.sum_cons]
      push_cast
      ring
    · simp only [wsum, List.map_cons, List.sum_cons]
      push_cast
      ring
  · simp [wsum]

theorem wsum_fold (g : Nat → ℝ) : ∀ (l : List Nat) (acc : List (Nat × Nat)),
    wsum g (l.foldl rleStep acc) = wsum g acc + (l.map g).sum
  | [], acc => by simp
  | v :: l, acc => by
    rw [List.foldl_cons, wsum_fold g l, wsum_rleStep, List.map_cons, List.sum_cons]
    ring

theorem wsum_multiset (g : Nat → ℝ) (vals : List Nat) : wsum g (multiset vals) = (vals.map g).sum := by
  unfold multiset
  have h1 : wsum g ((vals.mergeSort (fun a b => decide (a ≤ b))).foldl rleStep []).reverse =
      wsum g ((vals.mergeSort (fun a b => decide (a ≤ b))).foldl rleStep []) := by
    simp [wsum, List.sum_reverse]
  rw [h1, wsum_fold]
  simp only [wsum, List.map_nil, List.sum_nil, zero_add]
  exact ((List.mergeSort_perm vals _).map g).sum_eq

theorem sum_filter_ne_zero (g : Nat → ℝ) (hg : g 0 = 0) : ∀ (l : List Nat),
    ((l.filter (· ≠ 0)).map g).sum = (l.map g).sum
  | [] => rfl
  | a :: l => by
    have ih := sum_filter_ne_zero g hg l
    by_cases h : a = 0
    · subst h
      rw [List.filter_cons_of_neg (by simp), ih, List.map_cons, List.sum_cons, hg, zero_add]
    · rw [List.filter_cons_of_pos (by simpa using h), List.map_cons, List.sum_cons, ih, List.map_cons,
        List.sum_cons]

/-- the multiset of non-zero counts carries exactly φ. -/
theorem phiLevel_multiset (n : Nat) (cnt : List Nat) :
    phiLevel n (multiset (cnt.filter (· ≠ 0))) = phi n cnt := by
  have h := wsum_multiset (fun (c : Nat) => xlogx ((c : ℝ) / n)) (cnt.filter (· ≠ 0))
  unfold wsum at h
  unfold phiLevel phi
  rw [h, sum_filter_ne_zero (fun c : Nat => xlogx ((c : ℝ) / n)) (by simp [xlogx_zero])]

/-- φ_m ≤ φ_{m+1} + ln 2 for the cyclic pattern counts (ApEn(m) ≤ ln 2). -/
theorem phi_countsWrap (l : List Bool) (m : Nat) (hm : 1 ≤ m) (hl : m + 1 ≤ l.length) :
    phi l.length (countsWrap l m).toList ≤ phi l.length (countsWrap l (m + 1)).toList + Real.log 2 := by
  have h := phi_pairSum l.length (countsWrap l (m + 1)).toList
    (by rw [countsWrap_length l (m + 1) (by omega) hl, Nat.pow_succ]; omega)
  rw [pairSum_countsWrap l (m + 1) (by omega) hl, countsWrap_sum l (m + 1) (by omega) hl,
    Nat.add_sub_cancel] at h
  have hn : ((l.length : Nat) : ℝ) ≠ 0 := by
    have : 0 < l.length := by omega
    exact_mod_cast this.ne'
  rwa [div_self hn, one_mul] at h

end Paranoid.Nist
