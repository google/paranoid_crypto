/-
Proofs/NistStatsBits.lean — helper lemmas for Props/C12Stats.lean: the bit list of an integer under
shifting, masking, reversal and rotation; the blocks of `chunks (bitList bits n) M` as integers.
-/
import ParanoidModel.Model.NistStats
import ParanoidModel.Proofs.NistBits
import ParanoidModel.Proofs.BitSeq
import Mathlib.Data.List.Rotate
namespace Paranoid.NistStats
open Paranoid Paranoid.Nist

theorem bitsSmall_congr (n x y : Nat) (h : ∀ i < n, x.testBit i = y.testBit i) :
    bitsSmall n x = bitsSmall n y := by
  rw [bitsSmall_testBit, bitsSmall_testBit]
  apply List.map_congr_left
  intro i hi
  exact h i (List.mem_range.mp hi)

theorem bitList_mod_two_pow (bits n : Nat) : bitList (bits % 2 ^ n) n = bitList bits n := by
  rw [bitList_eq, bitList_eq]
  exact bitsSmall_congr n _ _ fun i hi => by
    rw [Nat.testBit_mod_two_pow, decide_eq_true hi, Bool.true_and]

theorem natOfBits_range_testBit (x M : Nat) :
    natOfBits ((List.range M).map (fun j => x.testBit j)) = x % 2 ^ M := by
  rw [← bitsSmall_testBit, natOfBits_bitsSmall]

theorem chunks_bitList_shift (bits n M : Nat) :
    chunks (bitList bits n) M = (List.range (n / M)).map (fun i => bitsSmall M (bits >>> (i * M))) := by
  rw [chunks_spec, bitList_length]
  apply List.map_congr_left
  intro i hi
  rw [bitList_eq, bitsSmall_drop, bitsSmall_take, Nat.min_eq_left]
  have : (i + 1) * M ≤ n :=
    Nat.le_trans (Nat.mul_le_mul_right M (List.mem_range.mp hi)) (Nat.div_mul_le_self n M)
  rw [Nat.add_mul] at this
  omega

theorem chunks_bitList (bits n M : Nat) :
    chunks (bitList bits n) M =
      (List.range (n / M)).map (fun i => (List.range M).map (fun j => bits.testBit (i * M + j))) := by
  rw [chunks_bitList_shift]
  apply List.map_congr_left
  intro i _
  rw [bitsSmall_testBit]
  apply List.map_congr_left
  intro j _
  rw [Nat.testBit_shiftRight]

theorem chunks_bitList_int (bits n M : Nat) :
    (chunks (bitList bits n) M).map natOfBits = (List.range (n / M)).map (blockInt bits M) := by
  rw [chunks_bitList_shift, List.map_map]
  apply List.map_congr_left
  intro i _
  exact natOfBits_bitsSmall M _

/-! ### reversal -/

/-- the bit list of the reversed integer (`BitDefs.reverseDef`, the value of `util.ReverseBits`) is the
reversed bit list. -/
theorem bitList_reverseDef (bits n : Nat) :
    bitList (BitDefs.reverseDef bits n) n = (bitList bits n).reverse := by
  apply List.ext_getElem?
  intro i
  rw [bitList_getElem?]
  by_cases h : i < n
  · rw [if_pos h, List.getElem?_reverse (by rw [bitList_length]; exact h), bitList_length,
      bitList_getElem?, if_pos (by omega)]
    unfold BitDefs.reverseDef
    rw [BitSeq.testBit_ofBits]
    simp [h]
  · rw [if_neg h]
    symm
    apply List.getElem?_eq_none
    rw [List.length_reverse, bitList_length]; omega

/-! ### rotation -/

theorem rotateInt_testBit (bits n k i : Nat) (hb : bits < 2 ^ n) (hn : 0 < n) (hi : i < n) :
    (rotateInt bits n k).testBit i =
      if i < n - k % n then bits.testBit (k % n + i) else bits.testBit (i - (n - k % n)) := by
  unfold rotateInt
  rw [if_neg (by omega), Nat.testBit_or, Nat.testBit_shiftRight, Nat.testBit_shiftLeft,
    Nat.testBit_mod_two_pow]
  have hj : k % n < n := Nat.mod_lt _ hn
  by_cases h : i < n - k % n
  · rw [if_pos h]
    have : ¬ (i ≥ n - k % n) := by omega
    simp [this]
  · rw [if_neg h]
    have h1 : bits.testBit (k % n + i) = false := by
      apply Nat.testBit_lt_two_pow
      exact Nat.lt_of_lt_of_le hb (Nat.pow_le_pow_right (by omega) (by omega))
    have h2 : i - (n - k % n) < k % n := by omega
    have h3 : i ≥ n - k % n := by omega
    simp [h1, h2, h3]

theorem bitList_rotateInt (bits n k : Nat) (hb : bits < 2 ^ n) :
    bitList (rotateInt bits n k) n = (bitList bits n).rotate k := by
  by_cases hn : n = 0
  · subst hn
    simp [bitList_eq, bitsSmall]
  have hn' : 0 < n := Nat.pos_of_ne_zero hn
  have hj : k % n < n := Nat.mod_lt _ hn'
  have hrot : (bitList bits n).rotate k = (bitList bits n).rotate (k % n) := by
    have := List.rotate_mod (bitList bits n) k
    rw [bitList_length] at this
    exact this.symm
  rw [hrot, List.rotate_eq_drop_append_take (by rw [bitList_length]; omega)]
  apply List.ext_getElem?
  intro i
  rw [bitList_getElem?]
  by_cases hi : i < n
  · rw [if_pos hi, rotateInt_testBit bits n k i hb hn' hi]
    by_cases h : i < n - k % n
    · rw [if_pos h, List.getElem?_append_left (by rw [List.length_drop, bitList_length]; exact h),
        List.getElem?_drop, bitList_getElem?, if_pos (by omega)]
    · rw [if_neg h, List.getElem?_append_right (by rw [List.length_drop, bitList_length]; omega),
        List.length_drop, bitList_length, List.getElem?_take, if_pos (by omega), bitList_getElem?,
        if_pos (by omega)]
  · rw [if_neg hi]
    symm
    apply List.getElem?_eq_none
    rw [List.length_append, List.length_drop, List.length_take, bitList_length]; omega

end Paranoid.NistStats
