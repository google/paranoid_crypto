/-
Proofs/Nist.lean — helper lemmas for C12 (NIST SP 800-22 statistics), test by test (bit lists and blocks are in
Proofs/NistBits.lean): tallies; frequency (the walk S_k); block frequency; runs; longest run; pattern counts (templates, and
the cyclic windows that Serial and ApproximateEntropy share); universal; linear complexity; Serial and
ApproximateEntropy; cusum and random excursions (the loop state of `RandomWalk` as folds over the visited
states, the excursion distribution).  Per test: parameter ladder, what an `.ok` result implies, the statistic as
NIST's definition over `List Bool`, invariances, tables; the raise sets are in Proofs/NistErrors.lean.
-/
import ParanoidModel.Model.Nist
import ParanoidModel.Generated.Consts
import ParanoidModel.Proofs.NistTables
import ParanoidModel.Proofs.NistBits
import Mathlib.Algebra.BigOperators.Ring.List
import Mathlib.Data.List.Rotate
import Mathlib.Data.Rat.Defs
import Mathlib.Tactic.FieldSimp
import Mathlib.Tactic.Linarith
import Mathlib.Tactic.Positivity
import Mathlib.Tactic.Ring
namespace Paranoid.Nist

theorem ones_cons (b : Bool) (l : List Bool) : ones (b :: l) = ones l + (if b then 1 else 0) := by
  cases b <;> simp [ones]

theorem ones_le_length (l : List Bool) : ones l ≤ l.length := List.count_le_length

theorem ones_reverse (l : List Bool) : ones l.reverse = ones l := by simp [ones]

theorem ones_map_not (l : List Bool) : ones (l.map (!·)) + ones l = l.length := by
  induction l with
  | nil => simp [ones]
  | cons b l ih =>
    simp only [List.map_cons, ones_cons, List.length_cons]
    cases b <;> simp <;> omega

theorem absDiff_cast (a b : Nat) : ((absDiff a b : Nat) : Int) = |(a : Int) - b| := by
  unfold absDiff
  split
  · rename_i h
    rw [Nat.cast_sub h, abs_of_nonneg]; omega
  · rename_i h
    have h' : a ≤ b := by omega
    rw [Nat.cast_sub h', abs_of_nonpos] <;> omega

theorem bitLength_eq (n : Nat) (h : n ≠ 0) : bitLength n = Nat.log2 n + 1 := by simp [bitLength, h]

theorem tally_fold_size (vals : List Nat) : ∀ (a : Array Nat),
    (vals.foldl (fun a v => a.modify v (· + 1)) a).size = a.size := by
  induction vals with
  | nil => intro a; rfl
  | cons v vs ih => intro a; simp [List.foldl_cons, ih]

theorem tally_fold_get (vals : List Nat) : ∀ (a : Array Nat) (i : Nat),
    (vals.foldl (fun a v => a.modify v (· + 1)) a)[i]? = (a[i]?).map (· + vals.count i) := by
  induction vals with
  | nil => intro a i; simp
  | cons v vs ih =>
    intro a i
    rw [List.foldl_cons, ih, Array.getElem?_modify]
    by_cases h : v = i
    · subst h
      cases hq : a[v]? <;> simp
      omega
    · cases hq : a[i]? <;> simp [h]

theorem tally_spec (size : Nat) (vals : List Nat) :
    (tally size vals).toList = (List.range size).map (fun i => vals.count i) := by
  apply List.ext_getElem?
  intro i
  unfold tally
  rw [Array.getElem?_toList, tally_fold_get]
  by_cases h : i < size
  · simp [h]
  · simp [h]

theorem count_range_sum (N : Nat) (ws : List Nat) (h : ∀ w ∈ ws, w < N) :
    ((List.range N).map (fun w => ws.count w)).sum = ws.length := by
  have := Multiset.sum_count_eq_card (s := Finset.range N) (m := (ws : Multiset Nat))
    fun w hw => Finset.mem_range.2 (h w hw)
  simp only [Multiset.coe_count, Multiset.coe_card] at this
  exact this

/-- NIST: X_i = 2ε_i − 1. -/
def pm (b : Bool) : Int := if b then 1 else -1

/-- S_n = X_1 + … + X_n. -/
def walkSum (l : List Bool) : Int := (l.map pm).sum

theorem walkSum_cons (b : Bool) (l : List Bool) : walkSum (b :: l) = pm b + walkSum l := by
  simp [walkSum]

theorem walkSum_append (a b : List Bool) : walkSum (a ++ b) = walkSum a + walkSum b := by
  simp [walkSum]

theorem walkSum_eq (l : List Bool) : walkSum l = 2 * (ones l : Int) - l.length := by
  induction l with
  | nil => simp [walkSum, ones]
  | cons b l ih =>
    rw [walkSum_cons, ih, ones_cons]
    cases b <;> simp [pm] <;> ring

theorem walkSum_reverse (l : List Bool) : walkSum l.reverse = walkSum l := by
  rw [walkSum_eq, walkSum_eq, ones_reverse, List.length_reverse]

theorem walkSum_map_not (l : List Bool) : walkSum (l.map (!·)) = - walkSum l := by
  have h := ones_map_not l
  rw [walkSum_eq, walkSum_eq, List.length_map]
  have : ((ones (l.map (!·)) : Nat) : Int) + ones l = l.length := by exact_mod_cast h
  linarith

theorem walkSum_take_reverse (l : List Bool) (k : Nat) :
    walkSum (l.reverse.take k) = walkSum l - walkSum (l.take (l.length - k)) := by
  have h1 : l.reverse.take k = (l.drop (l.length - k)).reverse := List.take_reverse
  rw [h1, walkSum_reverse]
  have h2 := walkSum_append (l.take (l.length - k)) (l.drop (l.length - k))
  rw [List.take_append_drop] at h2
  linarith

/-- the states S_1, S_2, … visited by the walk that starts in `s`. -/
def walkFrom (s : Int) : List Bool → List Int
  | [] => []
  | b :: l => (s + pm b) :: walkFrom (s + pm b) l

/-- the frequency statistic of a bit list: |S_n|. -/
def freqStat (l : List Bool) : Nat := absDiff (2 * ones l) l.length

theorem freqStat_eq (l : List Bool) : (freqStat l : Int) = |walkSum l| := by
  rw [freqStat, absDiff_cast, walkSum_eq]; push_cast; rfl

theorem freqStat_map_not (l : List Bool) : freqStat (l.map (!·)) = freqStat l := by
  have := freqStat_eq (l.map (!·))
  rw [walkSum_map_not, abs_neg, ← freqStat_eq] at this
  exact_mod_cast this

theorem frequency_ok (bits n a m : Nat) (h : frequency bits n = .ok (a, m)) :
    m = n ∧ 0 < n ∧ a = freqStat (bitList bits n) := by
  unfold frequency at h
  split at h
  · cases h
  · rename_i hn
    simp only [Except.ok.injEq, Prod.mk.injEq] at h
    refine ⟨h.2.symm, by omega, ?_⟩
    rw [← h.1, freqStat, bitList_length]

theorem bfLoop_spec : ∀ (f n m : Nat), 0 < m → n < m * 100 * 2 ^ f →
    n / bfLoop f n m < 100 ∧ (∃ k, bfLoop f n m = m * 2 ^ k) ∧
      (bfLoop f n m = m ∨ 100 ≤ n / (bfLoop f n m / 2))
  | 0, n, m, hm, h => by
    simp only [Nat.pow_zero, Nat.mul_one] at h
    refine ⟨?_, ⟨0, by simp [bfLoop]⟩, Or.inl (by simp [bfLoop])⟩
    simp only [bfLoop]
    exact (Nat.div_lt_iff_lt_mul hm).mpr (by omega)
  | f + 1, n, m, hm, h => by
    unfold bfLoop
    split
    · rename_i hge
      have h2 : n < 2 * m * 100 * 2 ^ f := by
        have : m * 100 * 2 ^ (f + 1) = 2 * m * 100 * 2 ^ f := by rw [Nat.pow_succ]; ring
        omega
      obtain ⟨h1, ⟨k, hk⟩, h3⟩ := bfLoop_spec f n (2 * m) (by omega) h2
      refine ⟨h1, ⟨k + 1, by rw [hk, Nat.pow_succ]; ring⟩, Or.inr ?_⟩
      rcases h3 with h3 | h3
      · rw [h3]; simpa using hge
      · exact h3
    · rename_i hlt
      refine ⟨by omega, ⟨0, by simp⟩, Or.inl rfl⟩

/-- block size chosen by `BlockFrequency`: M ≥ 20, fewer than 100 blocks (so M > n/100), and M
is 20 or the smallest of 32, 64, … with that property. -/
theorem bfBlockSize_spec (n : Nat) :
    20 ≤ bfBlockSize n ∧ n / bfBlockSize n < 100 ∧
      (bfBlockSize n = 20 ∨ ((∃ k, bfBlockSize n = 16 * 2 ^ k) ∧ 100 ≤ n / (bfBlockSize n / 2))) := by
  have hlt : n < 16 * 100 * 2 ^ n := by
    have := Nat.lt_two_pow_self (n := n)
    omega
  obtain ⟨h1, ⟨k, hk⟩, h3⟩ := bfLoop_spec n n 16 (by omega) hlt
  unfold bfBlockSize
  refine ⟨Nat.le_max_left _ _, ?_, ?_⟩
  · calc n / max 20 (bfLoop n n 16) ≤ n / bfLoop n n 16 :=
          Nat.div_le_div_left (Nat.le_max_right _ _) (by rw [hk]; positivity)
      _ < 100 := h1
  · rcases Nat.lt_or_ge (bfLoop n n 16) 21 with hs | hs
    · left; omega
    · right
      have hmax : max 20 (bfLoop n n 16) = bfLoop n n 16 := by omega
      rw [hmax]
      refine ⟨⟨k, hk⟩, ?_⟩
      rcases h3 with h3 | h3
      · omega
      · exact h3

theorem sqDev_cast (m c : Nat) : ((sqDev m c : Nat) : Int) = (2 * (c : Int) - m) ^ 2 := by
  unfold sqDev
  push_cast
  rw [absDiff_cast]
  push_cast
  rw [abs_mul_abs_self]; ring

theorem sqDev_compl (m c : Nat) (h : c ≤ m) : sqDev m (m - c) = sqDev m c := by
  have h1 := sqDev_cast m (m - c)
  have h2 := sqDev_cast m c
  rw [Nat.cast_sub h] at h1
  have : (2 * ((m : Int) - c) - m) ^ 2 = (2 * (c : Int) - m) ^ 2 := by ring
  rw [this, ← h2] at h1
  exact_mod_cast h1

/-- NIST 2.2.4: χ²(obs) = 4M Σ (πᵢ − ½)², πᵢ = (ones in block i)/M. -/
theorem blockFrequency_chi (m : Nat) (hm : 0 < m) (counts : List Nat) :
    (((blockFrequencyImpl m counts).num : ℚ) / (blockFrequencyImpl m counts).den) =
      4 * m * (counts.map (fun (c : Nat) => ((c : ℚ) / m - 1 / 2) ^ 2)).sum := by
  simp only [blockFrequencyImpl]
  have hm' : (m : ℚ) ≠ 0 := by exact_mod_cast hm.ne'
  induction counts with
  | nil => simp
  | cons c cs ih =>
    simp only [List.map_cons, List.sum_cons, Nat.cast_add]
    rw [add_div, ih, mul_add]
    congr 1
    have h := sqDev_cast m c
    have h' : ((sqDev m c : Nat) : ℚ) = (2 * (c : ℚ) - m) ^ 2 := by exact_mod_cast h
    rw [h']
    field_simp
    ring

theorem blockFrequency_chi_nonneg (m : Nat) (counts : List Nat) :
    (0 : ℚ) ≤ ((blockFrequencyImpl m counts).num : ℚ) / (blockFrequencyImpl m counts).den := by
  positivity

theorem blockFrequency_num_compl (l : List Bool) (m : Nat) :
    (blockFrequencyImpl m ((chunks (l.map (!·)) m).map ones)).num =
      (blockFrequencyImpl m ((chunks l m).map ones)).num := by
  simp only [blockFrequencyImpl, chunks_map, List.map_map]
  congr 1
  apply List.map_congr_left
  intro b hb
  simp only [Function.comp_def]
  have hl := chunk_length l m b hb
  have h1 := ones_map_not b
  have h2 := ones_le_length b
  have : ones (b.map (!·)) = m - ones b := by omega
  rw [this, sqDev_compl m _ (by omega)]

theorem blockFrequency_ok (bits n : Nat) (o : BlockFreqOut) (h : blockFrequency bits n = .ok o) :
    100 ≤ n ∧ o.m = bfBlockSize n ∧ o.den = bfBlockSize n ∧
      o.counts = (chunks (bitList bits n) (bfBlockSize n)).map ones ∧
      o.num = (o.counts.map (sqDev o.m)).sum := by
  unfold blockFrequency at h
  split at h
  · cases h
  · simp only [Except.ok.injEq] at h
    subst h
    simp [blockFrequencyImpl]; omega

/-- number of blocks is positive: igamc is called with a = N/2 > 0. -/
theorem blockFrequency_blocks_pos (bits n : Nat) (o : BlockFreqOut) (h : blockFrequency bits n = .ok o) :
    0 < o.counts.length := by
  obtain ⟨hn, _, _, hc, _⟩ := blockFrequency_ok bits n o h
  rw [hc, List.length_map, chunks_length, bitList_length]
  obtain ⟨h20, hlt, hm⟩ := bfBlockSize_spec n
  apply Nat.div_pos _ (by omega)
  rcases hm with hm | ⟨⟨k, hk⟩, hge⟩
  · omega
  · by_contra hc'
    have hlt' : n < bfBlockSize n := by omega
    have : n / (bfBlockSize n / 2) ≤ 1 := by
      have h2 : bfBlockSize n / 2 > 0 := by omega
      apply Nat.le_of_lt_succ
      apply (Nat.div_lt_iff_lt_mul h2).mpr
      omega
    omega

theorem transitions_cons_cons (a b : Bool) (l : List Bool) :
    transitions (a :: b :: l) = (if a != b then 1 else 0) + transitions (b :: l) := by
  simp only [transitions, List.tail_cons, List.zip_cons_cons, List.countP_cons]
  omega

theorem transitions_single (a : Bool) : transitions [a] = 0 := by simp [transitions]

theorem transitions_map_not (l : List Bool) : transitions (l.map (!·)) = transitions l := by
  induction l with
  | nil => rfl
  | cons a l ih =>
    cases l with
    | nil => simp [transitions]
    | cons b l =>
      simp only [List.map_cons] at ih ⊢
      rw [transitions_cons_cons, transitions_cons_cons, ih]
      cases a <;> cases b <;> rfl

/-- NIST 2.3.4 (2): V_n(obs) = Σ_{k=1}^{n-1} r(k) + 1 with r(k) = [ε_k ≠ ε_{k+1}]. -/
theorem transitions_index (l : List Bool) :
    transitions l = (List.range (l.length - 1)).countP (fun k => l[k]? != l[k + 1]?) := by
  induction l with
  | nil => rfl
  | cons a l ih =>
    cases l with
    | nil => rfl
    | cons b l =>
      rw [transitions_cons_cons, ih]
      simp only [List.length_cons, Nat.add_sub_cancel]
      rw [List.range_succ_eq_map (n := l.length), List.countP_cons, List.countP_map]
      simp only [List.getElem?_cons_zero, List.getElem?_cons_succ, Function.comp_def]
      cases a <;> cases b <;> simp <;> omega

theorem reverse_range (n : Nat) : (List.range n).reverse = (List.range n).map (fun i => n - 1 - i) := by
  rw [List.range_eq_range', List.reverse_range', ← List.range_eq_range']
  exact List.map_congr_left fun i _ => by omega

/-- position `k` of the reversed list is position `n - 2 - k` of the list, read the other way. -/
theorem transitions_reverse (l : List Bool) : transitions l.reverse = transitions l := by
  rw [transitions_index, transitions_index l, List.length_reverse,
    ← List.countP_reverse (l := List.range (l.length - 1)), reverse_range, List.countP_map]
  refine List.countP_congr fun k hk => ?_
  have hk := List.mem_range.mp hk
  simp only [Function.comp_apply]
  rw [List.getElem?_reverse (by omega), List.getElem?_reverse (by omega), bne_comm,
    show l.length - 1 - (l.length - 1 - 1 - k + 1) = k by omega,
    show l.length - 1 - (l.length - 1 - 1 - k) = k + 1 by omega]

theorem runsCount_reverse (l : List Bool) : runsCount l.reverse = runsCount l := by
  simp [runsCount, transitions_reverse]

theorem runsCount_map_not (l : List Bool) : runsCount (l.map (!·)) = runsCount l := by
  simp [runsCount, transitions_map_not]

theorem runs_ok (bits n : Nat) (o : RunsOut) (h : runs bits n = .ok o) :
    0 < n ∧ o = runsOfCounts (ones (bitList bits n)) (runsCount (bitList bits n)) n := by
  unfold runs at h
  split at h
  · cases h
  · rename_i hn
    simp only [Except.ok.injEq] at h
    exact ⟨by omega, h.symm⟩

/-- in the non-degenerate case π(1−π) > 0: the erfc argument has a positive denominator. -/
theorem runsOfCounts_stat (pop v n p' v' n' : Nat) (h : runsOfCounts pop v n = .stat p' v' n')
    (hle : pop ≤ n) : p' = pop ∧ v' = v ∧ n' = n ∧ 0 < pop ∧ pop < n := by
  unfold runsOfCounts at h
  split at h
  · cases h
  · rename_i hne
    simp only [RunsOut.stat.injEq] at h
    refine ⟨h.1.symm, h.2.1.symm, h.2.2.symm, by omega, by omega⟩

theorem lrParams_spec (n : Nat) :
    (lrParams n = none ↔ n < 128) ∧
    (lrParams n = some (8, 1, 4) ↔ 128 ≤ n ∧ n < 6272) ∧
    (lrParams n = some (128, 4, 9) ↔ 6272 ≤ n ∧ n < 750000) ∧
    (lrParams n = some (10000, 10, 16) ↔ 750000 ≤ n) := by
  simp only [lrParams, ite_eq_iff, reduceCtorEq, Option.some.injEq, Prod.mk.injEq, and_false, false_or, or_false,
    and_true, Nat.reduceEqDiff, ge_iff_le, Nat.not_le, and_self]
  omega

def leadOnes : List Bool → Nat
  | true :: l => leadOnes l + 1
  | _ => 0

/-- NIST 2.4: the longest run of ones = max over all start positions of the number of ones
that start there. -/
def tailsMax : List Bool → Nat
  | [] => 0
  | a :: l => max (leadOnes (a :: l)) (tailsMax l)

theorem leadOnes_le_tailsMax : ∀ (l : List Bool), leadOnes l ≤ tailsMax l
  | [] => Nat.le_refl _
  | _ :: _ => Nat.le_max_left _ _

theorem lr_fold : ∀ (l : List Bool) (c b : Nat), c ≤ b →
    (l.foldl lrStep (c, b)).2 = max b (max (c + leadOnes l) (tailsMax l))
  | [], c, b, h => by
    simp only [List.foldl_nil, leadOnes, tailsMax]
    rw [Nat.add_zero, Nat.max_zero, max_eq_left h]
  | true :: l, c, b, _ => by
    rw [List.foldl_cons, show lrStep (c, b) true = (c + 1, max b (c + 1)) from rfl,
      lr_fold l (c + 1) (max b (c + 1)) (le_max_right _ _),
      show tailsMax (true :: l) = max (leadOnes l + 1) (tailsMax l) from rfl,
      show leadOnes (true :: l) = leadOnes l + 1 from rfl,
      -- the run through the new bit, c + 1 + leadOnes l, is above both c + 1 and leadOnes l + 1
      max_assoc, ← max_assoc (c + 1), max_eq_right (Nat.le_add_right _ _),
      ← max_assoc (c + _), max_eq_left (Nat.le_add_left _ _), Nat.add_assoc, Nat.add_comm 1]
  | false :: l, c, b, h => by
    rw [List.foldl_cons, show lrStep (c, b) false = (0, b) from rfl, lr_fold l 0 b (Nat.zero_le _),
      show tailsMax (false :: l) = max 0 (tailsMax l) from rfl, show leadOnes (false :: l) = 0 from rfl,
      Nat.zero_add, Nat.add_zero, Nat.zero_max, max_eq_right (leadOnes_le_tailsMax l),
      ← max_assoc, max_eq_left h]

theorem longestRun_eq_tailsMax (l : List Bool) : longestRun l = tailsMax l := by
  have := leadOnes_le_tailsMax l
  rw [longestRun, lr_fold l 0 0 (le_refl 0)]
  omega

theorem le_leadOnes_iff : ∀ (l : List Bool) (k : Nat), k ≤ leadOnes l ↔ ∀ j < k, l[j]? = some true
  | true :: l, k + 1 => by
    rw [leadOnes, Nat.succ_le_succ_iff, le_leadOnes_iff l k]
    exact ⟨fun h j hj => by cases j with
        | zero => rfl
        | succ j => exact h j (by omega),
      fun h j hj => h (j + 1) (by omega)⟩
  | _, 0 => by simp
  | [], k + 1 => iff_of_false (by simp [leadOnes]) (fun h => by simpa using h 0 (by omega))
  | false :: l, k + 1 => iff_of_false (by simp [leadOnes]) (fun h => by simpa using h 0 (by omega))

theorem le_tailsMax_iff : ∀ (l : List Bool) (k : Nat), 1 ≤ k →
    (k ≤ tailsMax l ↔ ∃ i, k ≤ leadOnes (l.drop i))
  | [], k, hk => by
    simp [tailsMax, leadOnes]
  | a :: l, k, hk => by
    simp only [tailsMax]
    rw [le_max_iff, le_tailsMax_iff l k hk]
    constructor
    · rintro (h | ⟨i, hi⟩)
      · exact ⟨0, by simpa using h⟩
      · exact ⟨i + 1, by simpa using hi⟩
    · rintro ⟨i, hi⟩
      cases i with
      | zero => left; simpa using hi
      | succ i => right; exact ⟨i, by simpa using hi⟩

/-- probability row `i` of `LongestRuns.params` in the current source. -/
def lrRow (i : Nat) : List (Nat × Nat) :=
  match Paranoid.Consts.Nist.longestRunsParams[i]? with
  | some p => p.2.2.2.2
  | none => []

/-- equality of two rows of fractions (as rational numbers). -/
def rowSame (a b : List (Nat × Nat)) : Bool :=
  a.length == b.length && (a.zip b).all (fun p => p.1.1 * p.2.2 == p.2.1 * p.1.2)

theorem notmM_spec (bs : Nat) :
    (notmM bs = none ↔ bs < 4) ∧
    (notmM bs = some 2 ↔ 4 ≤ bs ∧ bs < 64) ∧ (notmM bs = some 3 ↔ 64 ≤ bs ∧ bs < 256) ∧
    (notmM bs = some 4 ↔ 256 ≤ bs ∧ bs < 1024) ∧ (notmM bs = some 5 ↔ 1024 ≤ bs ∧ bs < 2048) ∧
    (notmM bs = some 6 ↔ 2048 ≤ bs ∧ bs < 4096) ∧ (notmM bs = some 7 ↔ 4096 ≤ bs ∧ bs < 8192) ∧
    (notmM bs = some 8 ↔ 8192 ≤ bs ∧ bs < 16384) ∧ (notmM bs = some 9 ↔ 16384 ≤ bs ∧ bs < 32768) ∧
    (notmM bs = some 10 ↔ 32768 ≤ bs) := by
  -- `ite_eq_iff` writes each rung as a disjunction (linear size; `split_ifs` walks every path through
  -- the ladder once per conjunct)
  simp only [notmM, ite_eq_iff, reduceCtorEq, Option.some.injEq, and_false, false_or, or_false, and_true,
    Nat.reduceEqDiff, Nat.not_lt, true_and]
  omega

theorem slide_window (m : Nat) (a b : Bool) (cur : List Bool) (hlen : (a :: cur).length = m) :
    natOfBits (a :: cur) / 2 + (if b then 2 ^ (m - 1) else 0) = natOfBits (cur ++ [b]) := by
  rw [natOfBits_cons_div, natOfBits_append_single]
  simp only [List.length_cons] at hlen
  have : m - 1 = cur.length := by omega
  rw [this]

/-- the loop of `windows` from the window `cur` (m bits) over the bits to come: the k-th new window
consists of the bits k+1 … k+m of `cur ++ rest`. -/
theorem slide_fold (m : Nat) (hm : 1 ≤ m) : ∀ (rest cur : List Bool) (acc : List Nat), cur.length = m →
    (rest.foldl (slide (2 ^ (m - 1))) (natOfBits cur, acc)).2 =
      ((List.range rest.length).map (fun k => natOfBits (((cur ++ rest).drop (k + 1)).take m))).reverse ++ acc
  | [], cur, acc, _ => rfl
  | b :: rest, [], acc, h => by simp at h; omega
  | b :: rest, a :: cur, acc, h => by
    have hl : (cur ++ [b]).length = m := by simpa using h
    rw [List.foldl_cons, slide, slide_window m a b cur h, slide_fold m hm rest (cur ++ [b]) _ hl,
      List.length_cons, List.range_succ_eq_map, List.map_cons, List.map_map, List.reverse_cons, List.append_assoc]
    simp only [Nat.zero_add, List.cons_append, List.drop_succ_cons, List.drop_zero,
      Function.comp_def, Nat.succ_eq_add_one, List.nil_append]
    rw [← h, List.length_cons, List.take_length_add_append, List.take_succ_cons, List.take_zero,
      List.append_assoc, List.singleton_append]

/-- `windows l m` lists, in reverse order, the values of the m-bit windows at all positions
p = 0 … length − m (window at p = bits p … p+m−1, bit p least significant). -/
theorem windows_spec (l : List Bool) (m : Nat) (hm : 1 ≤ m) (hl : m ≤ l.length) :
    (windows l m).reverse =
      (List.range (l.length - m + 1)).map (fun p => natOfBits ((l.drop p).take m)) := by
  rw [windows, if_neg (by omega), slide_fold m hm _ _ _ (by simp [hl]), List.take_append_drop, List.reverse_append,
    List.reverse_reverse, List.length_drop, List.range_succ_eq_map, List.map_cons, List.map_map]
  rfl

/-- `util.FrequencyCount(block, n, m, wrap=False)`: entry w = number of positions p ≤ n − m at which
the m-bit pattern w occurs (bit p least significant). -/
theorem countsNoWrap_spec (l : List Bool) (m : Nat) (hm : 1 ≤ m) (hl : m ≤ l.length) :
    (countsNoWrap l m).toList = (List.range (2 ^ m)).map (fun w =>
      ((List.range (l.length - m + 1)).map (fun p => natOfBits ((l.drop p).take m))).count w) := by
  unfold countsNoWrap
  rw [tally_spec, ← windows_spec l m hm hl]
  simp [List.count_reverse]

/-- `util.FrequencyCount(bits, n, m)` (NIST 2.11.4 (1): the sequence is extended by its first m − 1
bits): entry w = number of the n positions p at which w occurs in the extended sequence. -/
theorem countsWrap_spec (l : List Bool) (m : Nat) (hm : 1 ≤ m) (hl : m ≤ l.length) :
    (countsWrap l m).toList = (List.range (2 ^ m)).map (fun w =>
      ((List.range l.length).map (fun p => natOfBits (((l ++ l.take (m - 1)).drop p).take m))).count w) := by
  unfold countsWrap
  have hlen : (l ++ l.take (m - 1)).length = l.length + (m - 1) := by
    rw [List.length_append, List.length_take]; omega
  have h2 : m ≤ (l ++ l.take (m - 1)).length := by omega
  rw [tally_spec]
  have := windows_spec (l ++ l.take (m - 1)) m hm h2
  rw [hlen] at this
  have e : l.length + (m - 1) - m + 1 = l.length := by omega
  rw [e] at this
  rw [← this]
  simp [List.count_reverse]

theorem rotate_getD (L : List Bool) (k i : Nat) (hi : i < L.length) :
    (L.rotate k).getD i false = L.getD ((i + k) % L.length) false := by
  simp only [List.getD_eq_getElem?_getD]
  rw [List.getElem?_rotate hi]

/-- the m cyclically consecutive bits of `l` from position p. -/
def cycWin (l : List Bool) (m p : Nat) : List Bool :=
  (List.range m).map (fun j => l.getD ((p + j) % l.length) false)

theorem cyclic_window (L : List Bool) (m p : Nat) (hm : m ≤ L.length) (hp : p < L.length) :
    ((L ++ L.take (m - 1)).drop p).take m = cycWin L m p := by
  apply List.ext_getElem?
  intro i
  by_cases hi : i < m
  · rw [List.getElem?_take_of_lt hi, List.getElem?_drop, cycWin, List.getElem?_map, List.getElem?_range hi,
      Option.map_some, List.getD_eq_getElem?_getD]
    by_cases h : p + i < L.length
    · rw [List.getElem?_append_left h, Nat.mod_eq_of_lt h, List.getElem?_eq_getElem h]
      rfl
    · rw [List.getElem?_append_right (by omega), List.getElem?_take_of_lt (by omega), Nat.mod_eq_sub_mod (by omega),
        Nat.mod_eq_of_lt (by omega), List.getElem?_eq_getElem (by omega)]
      rfl
  · rw [List.getElem?_eq_none (by simp; omega), List.getElem?_eq_none (by simp [cycWin]; omega)]

theorem countsWrap_cyc (l : List Bool) (m : Nat) (hm : 1 ≤ m) (hl : m ≤ l.length) :
    (countsWrap l m).toList = (List.range (2 ^ m)).map (fun w =>
      ((List.range l.length).map (fun p => natOfBits (cycWin l m p))).count w) := by
  rw [countsWrap_spec l m hm hl]
  apply List.map_congr_left
  intro w _
  congr 1
  apply List.map_congr_left
  intro p hp
  rw [cyclic_window l m p hl (List.mem_range.mp hp)]

theorem cycWin_succ (l : List Bool) (m p : Nat) :
    cycWin l (m + 1) p = l.getD (p % l.length) false :: cycWin l m ((p + 1) % l.length) := by
  rw [cycWin, List.range_succ_eq_map, List.map_cons, List.map_map]
  congr 1
  apply List.map_congr_left
  intro j _
  show l.getD ((p + (j + 1)) % l.length) false = l.getD (((p + 1) % l.length + j) % l.length) false
  rw [Nat.mod_add_mod]
  congr 2
  omega

theorem cycWin_take (l : List Bool) (m p : Nat) : (cycWin l (m + 1) p).take m = cycWin l m p := by
  rw [cycWin, ← List.map_take, List.take_range, Nat.min_eq_left (Nat.le_succ m)]
  rfl

theorem cycWin_rotate (l : List Bool) (k m p : Nat) (hp : p < l.length) :
    cycWin (l.rotate k) m p = cycWin l m ((p + k) % l.length) := by
  unfold cycWin
  rw [List.length_rotate]
  apply List.map_congr_left
  intro j _
  rw [rotate_getD l k _ (Nat.mod_lt _ (by omega)), Nat.mod_add_mod, Nat.mod_add_mod]
  congr 2
  omega

theorem pairSum_range : ∀ (s : Nat) (f : Nat → Nat),
    pairSum ((List.range (2 * s)).map f) = (List.range s).map (fun v => f (2 * v) + f (2 * v + 1))
  | 0, f => by simp [pairSum]
  | s + 1, f => by
    have e : 2 * (s + 1) = (2 * s + 1) + 1 := by ring
    rw [e, List.range_succ_eq_map, List.range_succ_eq_map (n := 2 * s), List.range_succ_eq_map (n := s)]
    simp only [List.map_cons, List.map_map, pairSum]
    have ih := pairSum_range s (fun i => f (i + 2))
    simp only [Function.comp_def] at ih ⊢
    have e1 : (fun x : Nat => f x.succ.succ) = (fun i => f (i + 2)) := by funext x; rfl
    rw [e1, ih]
    simp only [Nat.mul_zero, Nat.zero_add, Nat.succ_eq_add_one, List.cons.injEq, true_and]
    apply List.map_congr_left
    intro v _
    have a1 : 2 * v + 2 = 2 * (v + 1) := by ring
    have a2 : 2 * v + 1 + 2 = 2 * (v + 1) + 1 := by ring
    rw [a1, a2]

theorem count_fibre {α β} [DecidableEq α] [DecidableEq β] (g : α → β) (v : β) {a b : α} (hab : a ≠ b)
    (ws : List α) (h : ∀ w ∈ ws, g w = v ↔ w = a ∨ w = b) :
    ws.count a + ws.count b = (ws.map g).count v := by
  induction ws with
  | nil => rfl
  | cons w ws ih =>
    have ih' := ih fun x hx => h x (List.mem_cons_of_mem _ hx)
    have hw := h w List.mem_cons_self
    simp only [List.map_cons, List.count_cons, beq_iff_eq]
    by_cases h1 : w = a
    · rw [if_pos h1, if_neg (h1 ▸ hab), if_pos (hw.2 (.inl h1))]; omega
    · by_cases h2 : w = b
      · rw [if_neg h1, if_pos h2, if_pos (hw.2 (.inr h2))]; omega
      · rw [if_neg h1, if_neg h2, if_neg fun hc => (hw.1 hc).elim h1 h2]; omega

theorem count_half (ws : List Nat) (v : Nat) :
    ws.count (2 * v) + ws.count (2 * v + 1) = (ws.map (· / 2)).count v :=
  count_fibre (· / 2) v (by omega) ws fun w _ => by omega

theorem shiftk_perm (n : Nat) {β} (g : Nat → β) (k : Nat) :
    ((List.range n).map (fun p => g ((p + k) % n))).Perm ((List.range n).map g) := by
  have e : (List.range n).map (fun p => g ((p + k) % n)) = ((List.range n).map g).rotate k := by
    apply List.ext_getElem (by simp)
    intro i h1 _
    simp [List.getElem_rotate]
  rw [e]
  exact List.rotate_perm _ _

theorem pairSum_countsWrap (l : List Bool) (m : Nat) (hm : 2 ≤ m) (hl : m ≤ l.length) :
    pairSum (countsWrap l m).toList = (countsWrap l (m - 1)).toList := by
  obtain ⟨k, rfl⟩ : ∃ k, m = k + 2 := ⟨m - 2, by omega⟩
  rw [show k + 2 - 1 = k + 1 from rfl, countsWrap_cyc l (k + 2) (by omega) hl,
    countsWrap_cyc l (k + 1) (by omega) (by omega), Nat.pow_succ 2 (k + 1), Nat.mul_comm, pairSum_range]
  apply List.map_congr_left
  intro v _
  rw [count_half, List.map_map]
  -- dropping the first bit of the window at p gives the window at p + 1
  refine ((List.Perm.of_eq ?_).trans
    (shiftk_perm l.length (fun q => natOfBits (cycWin l (k + 1) q)) 1)).count_eq v
  apply List.map_congr_left
  intro p _
  show natOfBits (cycWin l (k + 1 + 1) p) / 2 = _
  rw [cycWin_succ, natOfBits_cons_div]

theorem universalMinN_eq_consts : universalMinN = Paranoid.Consts.Nist.universalMinN := by decide

/-- NIST 2.9.7: L is the largest block size whose minimal length is reached. -/
theorem universalL_spec (n L : Nat) :
    universalL n = some L ↔
      (∃ b, (L, b) ∈ universalMinN ∧ b ≤ n) ∧ ∀ L' b', (L', b') ∈ universalMinN → b' ≤ n → L' ≤ L := by
  unfold universalL
  rw [List.max?_eq_some_iff]
  simp only [List.mem_map, List.mem_filter, decide_eq_true_eq, Prod.exists, exists_and_right,
    exists_eq_right, forall_exists_index, and_imp]

theorem universalL_none_iff (n : Nat) : universalL n = none ↔ n < 387840 := by
  unfold universalL
  rw [List.max?_eq_none_iff, List.map_eq_nil_iff, List.filter_eq_nil_iff]
  constructor
  · intro h
    have := h (6, 387840) (by decide)
    simpa using this
  · intro h p hp
    have hb : 387840 ≤ p.2 := by
      revert p
      decide
    simp; omega

theorem universal_ok_params (bits n : Nat) (o : UniversalOut) (h : universal bits n = .ok o) :
    universalL n = some o.blockSize ∧ o.q = 10 * 2 ^ o.blockSize ∧ o.k = n / o.blockSize - o.q := by
  unfold universal at h
  split at h
  · cases h
  · rename_i l hl
    unfold universalImpl at h
    split_ifs at h
    split at h
    · cases h
    · simp only [Except.ok.injEq] at h
      subst h
      exact ⟨hl, rfl, rfl⟩

/-- lower half of the complexity range: P(complexity = c) = 2^(2c − n − 1). -/
theorem lfsrNegLogProb_low (n c : Nat) (hc : 0 < c) (h : 2 * c ≤ n) :
    lfsrNegLogProb n c = .ok (n + 1 - 2 * c) := by
  rw [lfsrNegLogProb, if_neg (by omega), if_neg (by omega), if_neg (by omega), if_pos (by omega)]

/-- upper half: P(complexity = c) = 2^(n − 2c). -/
theorem lfsrNegLogProb_high (n c : Nat) (h : n < 2 * c) (hc : c ≤ n) :
    lfsrNegLogProb n c = .ok (2 * c - n) := by
  rw [lfsrNegLogProb, if_neg (by omega), if_neg (by omega), if_neg (by omega), if_neg (by omega)]

theorem lfsrCount_low (n c : Nat) (hc : 0 < c) (h : 2 * c ≤ n) : lfsrCount n c = 2 * 4 ^ (c - 1) := by
  rw [lfsrCount, if_neg (by omega), if_neg (by omega), if_pos (by omega)]

theorem lfsrCount_high (n c : Nat) (h : n < 2 * c) (hc : c ≤ n) : lfsrCount n c = 4 ^ (n - c) := by
  rw [lfsrCount, if_neg (by omega), if_neg (by omega), if_neg (by omega)]

/-- lower half with the length written as n = 2c + k: P(complexity = c) = 2^(−k−1). -/
theorem lfsrNegLogProb_low_add (c k : Nat) (hc : 0 < c) : lfsrNegLogProb (2 * c + k) c = .ok (k + 1) := by
  rw [lfsrNegLogProb_low _ _ hc (Nat.le_add_right _ _)]
  congr 1
  omega

/-- upper half, complexity a + k of n = 2a + k bits, k > 0: P = 2^(−k). -/
theorem lfsrNegLogProb_high_add (a k : Nat) (hk : 0 < k) : lfsrNegLogProb (2 * a + k) (a + k) = .ok k := by
  rw [lfsrNegLogProb_high _ _ (by omega) (by omega)]
  congr 1
  omega

/-- the five central classes of `LinearComplexityImpl.pi`: exact for every block size m ≥ 10.
`pi[3 + j]` is the probability of complexity `median + j`, j = −2 … 2. -/
theorem lincomp_pi_central (m : Nat) (hm : 10 ≤ m) :
    lfsrNegLogProb m ((m + 1) / 2 - 2) = .ok (if m % 2 = 0 then 5 else 4) ∧
    lfsrNegLogProb m ((m + 1) / 2 - 1) = .ok (if m % 2 = 0 then 3 else 2) ∧
    lfsrNegLogProb m ((m + 1) / 2) = .ok 1 ∧
    lfsrNegLogProb m ((m + 1) / 2 + 1) = .ok (if m % 2 = 0 then 2 else 3) ∧
    lfsrNegLogProb m ((m + 1) / 2 + 2) = .ok (if m % 2 = 0 then 4 else 5) := by
  obtain ⟨s, rfl | rfl⟩ : ∃ s, m = 2 * (s + 5) ∨ m = 2 * (s + 5) + 1 := ⟨(m - 10) / 2, by omega⟩
  · -- the median is s + 5; line by line, `2 * (s + 5)` is 2c + k resp. 2a + k by computation
    rw [show (2 * (s + 5) + 1) / 2 = s + 5 by omega]
    simp only [if_pos (Nat.mul_mod_right 2 (s + 5))]
    exact ⟨lfsrNegLogProb_low_add (s + 3) 4 (Nat.succ_pos _), lfsrNegLogProb_low_add (s + 4) 2 (Nat.succ_pos _),
      lfsrNegLogProb_low_add (s + 5) 0 (Nat.succ_pos _), lfsrNegLogProb_high_add (s + 4) 2 Nat.two_pos,
      lfsrNegLogProb_high_add (s + 3) 4 (Nat.succ_pos 3)⟩
  · -- the median is s + 6
    rw [show (2 * (s + 5) + 1 + 1) / 2 = s + 6 by omega]
    simp only [if_neg (show ¬ (2 * (s + 5) + 1) % 2 = 0 by omega)]
    exact ⟨lfsrNegLogProb_low_add (s + 4) 3 (Nat.succ_pos _), lfsrNegLogProb_low_add (s + 5) 1 (Nat.succ_pos _),
      lfsrNegLogProb_high_add (s + 5) 1 Nat.one_pos, lfsrNegLogProb_high_add (s + 4) 3 (Nat.succ_pos 2),
      lfsrNegLogProb_high_add (s + 3) 5 (Nat.succ_pos 4)⟩

theorem lincomp_pi_consts :
    Paranoid.Consts.Nist.linCompPiEven = [(1, 96), (1, 32), (1, 8), (1, 2), (1, 4), (1, 16), (1, 48)] ∧
    Paranoid.Consts.Nist.linCompPiOdd = [(1, 48), (1, 16), (1, 4), (1, 2), (1, 8), (1, 32), (1, 96)] := by
  decide

theorem geom4 (k : Nat) : 3 * ((List.range k).map (fun i => 4 ^ i)).sum + 1 = 4 ^ k := by
  induction k with
  | zero => simp
  | succ k ih =>
    rw [List.range_succ, List.map_append, List.sum_append]
    simp only [List.map_cons, List.map_nil, List.sum_cons, List.sum_nil, Nat.add_zero]
    rw [Nat.pow_succ]; omega

/-- upper tail (complexity ≥ median + 3): 3·#sequences + 1 = 4^(m − median − 2), i.e. the exact
probability is (4^(m−median−2) − 1)/(3·2^m) = 1/48 − 1/(3·2^m) for even m (1/96 − 1/(3·2^m) for odd m):
`pi[6]` is the limit m → ∞. -/
theorem lincomp_upper_tail (m : Nat) :
    3 * ((List.range (m - (m + 1) / 2 - 2)).map (fun i => lfsrCount m (m - i))).sum + 1
      = 4 ^ (m - (m + 1) / 2 - 2) := by
  rw [← geom4]
  congr 3
  apply List.map_congr_left
  intro i hi
  rw [List.mem_range] at hi
  rw [lfsrCount_high m (m - i) (by omega) (by omega)]
  congr 1
  omega

/-- lower tail (complexity ≤ median − 3): 3·#sequences = 2·4^(median−3) + 1, i.e. the exact
probability is 1/96 + 1/(3·2^m) for even m (1/48 + 1/(3·2^m) for odd m). -/
theorem lincomp_lower_tail (m : Nat) :
    3 * (lfsrCount m 0 + ((List.range ((m + 1) / 2 - 3)).map (fun i => lfsrCount m (i + 1))).sum)
      = 2 * 4 ^ ((m + 1) / 2 - 3) + 1 := by
  have hg := geom4 ((m + 1) / 2 - 3)
  have h0 : lfsrCount m 0 = 1 := by
    unfold lfsrCount; simp
  have hs : ((List.range ((m + 1) / 2 - 3)).map (fun i => lfsrCount m (i + 1))).sum
      = 2 * ((List.range ((m + 1) / 2 - 3)).map (fun i => 4 ^ i)).sum := by
    rw [← List.sum_map_mul_left]
    congr 1
    apply List.map_congr_left
    intro i hi
    rw [List.mem_range] at hi
    rw [lfsrCount_low m (i + 1) (by omega) (by omega), Nat.add_sub_cancel]
  rw [h0, hs]
  omega

/-- NIST 2.11.7: m < ⌊log₂ n⌋ − 2; the code takes the largest such m, capped at 22, at least 2. -/
theorem serialMMax_spec (n : Nat) :
    2 ≤ serialMMax n ∧ serialMMax n ≤ 22 ∧
      (32 ≤ n → serialMMax n + 3 ≤ Nat.log2 n ∧ (serialMMax n = 22 ∨ serialMMax n + 3 = Nat.log2 n)) := by
  unfold serialMMax
  refine ⟨by omega, by omega, fun hn => ?_⟩
  have h5 : 5 ≤ Nat.log2 n := by
    rw [Nat.le_log2 (by omega)]; omega
  rw [bitLength_eq n (by omega)]
  omega

theorem add_mul_self_le (a b : Nat) : (a + b) * (a + b) ≤ 2 * (a * a + b * b) := by
  have h := sq_nonneg ((a : Int) - b)
  have e : ((a : Int) - b) ^ 2 = 2 * (a * a + b * b) - (a + b) * (a + b) := by ring
  zify
  linarith

theorem sumSq_pairSum_le : ∀ (l : List Nat), sumSq (pairSum l) ≤ 2 * sumSq l
  | [] => by simp [pairSum, sumSq]
  | [a] => by simp [pairSum, sumSq]
  | a :: b :: rest => by
    have ih := sumSq_pairSum_le rest
    have := add_mul_self_le a b
    simp only [pairSum, sumSq, List.map_cons, List.sum_cons] at ih ⊢
    omega

theorem serial_ok (bits n : Nat) (mm : Option Nat) (o : SerialOut) (h : serial bits n mm = .ok o) :
    o.n = n ∧ o.mMax ≤ n ∧
      o.sq = (sumSqChain o.mMax (countsWrap (bitList bits n) o.mMax).toList).reverse := by
  unfold serial serialWith at h
  split_ifs at h with hle
  simp only [Except.ok.injEq] at h
  subst h
  exact ⟨rfl, by simpa using hle, rfl⟩

/-- the chain, in the order of the output: Σν² for 1-, 2-, …, j-bit patterns. -/
theorem sumSqChain_counts (l : List Bool) : ∀ (j : Nat), j ≤ l.length →
    (sumSqChain j (countsWrap l j).toList).reverse =
      (List.range j).map (fun i => sumSq (countsWrap l (i + 1)).toList)
  | 0, _ => rfl
  | 1, _ => rfl
  | j + 2, hj => by
    rw [sumSqChain, List.reverse_cons, pairSum_countsWrap l (j + 2) (by omega) hj,
      show j + 2 - 1 = j + 1 from rfl, sumSqChain_counts l (j + 1) (by omega), List.range_succ (n := j + 1), List.map_append]
    rfl

/-- NIST 2.11.4 (2)–(3): `sq[i]` = Σ_w ν_w² over all (i+1)-bit patterns w, ν_w = number of occurrences in
the sequence extended by its first i bits; ψ²_m = (2^m/n)·sq[m−1] − n. -/
theorem serial_sq (bits n : Nat) (mm : Option Nat) (o : SerialOut) (h : serial bits n mm = .ok o) :
    o.sq = (List.range o.mMax).map (fun i => sumSq (countsWrap (bitList bits n) (i + 1)).toList) := by
  obtain ⟨_, hle, hsq⟩ := serial_ok bits n mm o h
  rw [hsq, sumSqChain_counts _ _ (by rw [bitList_length]; exact hle)]

theorem serial_sq_get (bits n : Nat) (mm : Option Nat) (o : SerialOut) (h : serial bits n mm = .ok o)
    (i a : Nat) (ha : o.sq[i]? = some a) :
    i < o.mMax ∧ a = sumSq (countsWrap (bitList bits n) (i + 1)).toList := by
  rw [serial_sq bits n mm o h, List.getElem?_map] at ha
  by_cases hi : i < o.mMax
  · rw [List.getElem?_range hi] at ha
    exact ⟨hi, (Option.some.inj ha).symm⟩
  · rw [List.getElem?_eq_none (by simpa using hi)] at ha
    cases ha

/-- a linear relation between Σν² of neighbouring levels carries over to the numerators of ψ²: they share
the factor 2^m, and n² cancels. -/
theorem psiNum_first_diff (n m a b : Nat) (h : a ≤ 2 * b) : psiNum n m a ≤ psiNum n (m + 1) b := by
  have hk : ((2 ^ m * a : Nat) : Int) ≤ (2 ^ m * (2 * b) : Nat) := Int.ofNat_le.mpr (Nat.mul_le_mul_left _ h)
  unfold psiNum
  push_cast at hk ⊢
  rw [pow_succ]
  linarith

theorem psiNum_second_diff (n m a b c : Nat) (h : 4 * b ≤ 4 * c + a) :
    2 * psiNum n (m + 1) b ≤ psiNum n (m + 2) c + psiNum n m a := by
  have hk : ((2 ^ m * (4 * b) : Nat) : Int) ≤ (2 ^ m * (4 * c + a) : Nat) :=
    Int.ofNat_le.mpr (Nat.mul_le_mul_left _ h)
  unfold psiNum
  push_cast at hk ⊢
  rw [pow_succ, pow_succ, pow_succ]
  linarith

theorem apen_ok (bits n : Nat) (mm : Option Nat) (o : ApenOut) (h : approximateEntropy bits n mm = .ok o) :
    o.n = n ∧ o.mMax + 1 ≤ n ∧
      o.levels = (apenChain o.mMax (countsWrap (bitList bits n) (o.mMax + 1)).toList).reverse := by
  unfold approximateEntropy apenWith at h
  split_ifs at h with hle
  simp only [Except.ok.injEq] at h
  subst h
  exact ⟨rfl, by simpa using hle, rfl⟩

theorem apenChain_counts (l : List Bool) : ∀ (j : Nat), j + 1 ≤ l.length →
    (apenChain j (countsWrap l (j + 1)).toList).reverse =
      (List.range j).map (fun i => multiset ((countsWrap l (i + 2)).toList.filter (· ≠ 0)))
  | 0, _ => rfl
  | j + 1, hj => by
    rw [apenChain, List.reverse_cons, pairSum_countsWrap l (j + 2) (by omega) hj,
      show j + 2 - 1 = j + 1 from rfl, apenChain_counts l j (by omega), List.range_succ, List.map_append]
    rfl

/-- NIST 2.12.4: `levels[i]` = multiset of the non-zero counts of the (i+2)-bit patterns of the
sequence extended by its first i+1 bits; φ^(m) = Σ (ν/n)·ln(ν/n). -/
theorem apen_levels (bits n : Nat) (mm : Option Nat) (o : ApenOut)
    (h : approximateEntropy bits n mm = .ok o) :
    o.levels = (List.range o.mMax).map (fun i =>
      multiset ((countsWrap (bitList bits n) (i + 2)).toList.filter (· ≠ 0))) := by
  obtain ⟨_, hle, hlv⟩ := apen_ok bits n mm o h
  rw [hlv, apenChain_counts _ _ (by rw [bitList_length]; exact hle)]

def IsMaxOf {α} [LE α] (z : α) (vals : List α) : Prop := z ∈ vals ∧ ∀ v ∈ vals, v ≤ z

def IsMinOf {α} [LE α] (z : α) (vals : List α) : Prop := z ∈ vals ∧ ∀ v ∈ vals, z ≤ v

theorem IsMaxOf.unique {z z' : Nat} {a b : List Nat} (h : IsMaxOf z a) (h' : IsMaxOf z' b)
    (hab : ∀ x, x ∈ a ↔ x ∈ b) : z = z' := by
  have h1 := h'.2 z ((hab z).mp h.1)
  have h2 := h.2 z' ((hab z').mpr h'.1)
  omega

theorem IsMaxOf.congr {α} [LE α] {z : α} {a b : List α} (h : IsMaxOf z a) (hab : ∀ x, x ∈ a ↔ x ∈ b) :
    IsMaxOf z b := ⟨(hab z).mp h.1, fun v hv => h.2 v ((hab v).mpr hv)⟩

theorem IsMinOf.congr {α} [LE α] {z : α} {a b : List α} (h : IsMinOf z a) (hab : ∀ x, x ∈ a ↔ x ∈ b) :
    IsMinOf z b := ⟨(hab z).mp h.1, fun v hv => h.2 v ((hab v).mpr hv)⟩

theorem IsMaxOf.extend {α} [LE α] {z M : α} {a b : List α} (h : IsMaxOf M (z :: a)) (hab : ∀ x ∈ a, x ∈ b)
    (hb : ∀ x ∈ b, x ∈ a ∨ x ≤ M) : IsMaxOf M (z :: b) := by
  refine ⟨(List.mem_cons.mp h.1).elim (fun e => e ▸ List.mem_cons_self) (fun m => List.mem_cons_of_mem _ (hab _ m)),
    fun v hv => ?_⟩
  rcases List.mem_cons.mp hv with rfl | hv
  · exact h.2 _ List.mem_cons_self
  · exact (hb v hv).elim (fun m => h.2 v (List.mem_cons_of_mem _ m)) id

theorem IsMaxOf.of_max?_eq_some {α} [LinearOrder α] {z : α} {l : List α} (h : l.max? = some z) : IsMaxOf z l :=
  List.max?_eq_some_iff.mp h

theorem IsMinOf.of_min?_eq_some {α} [LinearOrder α] {z : α} {l : List α} (h : l.min? = some z) : IsMinOf z l :=
  List.min?_eq_some_iff.mp h

theorem IsMaxOf.of_max? {α} [LinearOrder α] (z : α) (l : List α) :
    IsMaxOf (match l.max? with | none => z | some m => max m z) (z :: l) := by
  apply IsMaxOf.of_max?_eq_some
  rw [List.max?_cons]
  cases l.max? <;> simp [max_comm]

theorem IsMinOf.extend {α} [LE α] {z M : α} {a b : List α} (h : IsMinOf M (z :: a)) (hab : ∀ x ∈ a, x ∈ b)
    (hb : ∀ x ∈ b, x ∈ a ∨ M ≤ x) : IsMinOf M (z :: b) := IsMaxOf.extend (α := αᵒᵈ) h hab hb

theorem IsMinOf.of_min? {α} [LinearOrder α] (z : α) (l : List α) :
    IsMinOf (match l.min? with | none => z | some m => min m z) (z :: l) := IsMaxOf.of_max? (α := αᵒᵈ) z l

theorem listMax_eq : ∀ l : List Int, listMax l = l.max?
  | [] => rfl
  | a :: l => by
    rw [listMax, listMax_eq l, List.max?_cons]
    cases l.max? <;> rfl

theorem listMin_eq : ∀ l : List Int, listMin l = l.min?
  | [] => rfl
  | a :: l => by
    rw [listMin, listMin_eq l, List.min?_cons]
    cases l.min? <;> rfl

theorem rwMove_s (m2 : Int) (st : RW) (s : Int) : (rwMove m2 st s).s = s := by
  unfold rwMove; split_ifs <;> rfl

theorem rwMove_maxOut (m2 : Int) (st : RW) (s : Int) :
    (rwMove m2 st s).maxOut = if m2 < s then max st.maxOut s else st.maxOut := by
  unfold rwMove; split_ifs <;> rfl

theorem rwMove_minOut (m2 : Int) (hm2 : 0 ≤ m2) (st : RW) (s : Int) :
    (rwMove m2 st s).minOut = if s < -m2 then min st.minOut s else st.minOut := by
  unfold rwMove; split_ifs <;> first | rfl | omega

theorem rwMoves_maxOut (m2 : Int) : ∀ (w : List Int) (st : RW),
    (w.foldl (rwMove m2) st).maxOut = (w.filter (m2 < ·)).foldl max st.maxOut
  | [], _ => rfl
  | s :: w, st => by
    rw [List.foldl_cons, rwMoves_maxOut m2 w, rwMove_maxOut]
    by_cases h : m2 < s
    · rw [if_pos h, List.filter_cons_of_pos (by simpa using h), List.foldl_cons]
    · rw [if_neg h, List.filter_cons_of_neg (by simpa using h)]

theorem rwMoves_minOut (m2 : Int) (hm2 : 0 ≤ m2) : ∀ (w : List Int) (st : RW),
    (w.foldl (rwMove m2) st).minOut = (w.filter (· < -m2)).foldl min st.minOut
  | [], _ => rfl
  | s :: w, st => by
    rw [List.foldl_cons, rwMoves_minOut m2 hm2 w, rwMove_minOut m2 hm2]
    by_cases h : s < -m2
    · rw [if_pos h, List.filter_cons_of_pos (by simpa using h), List.foldl_cons]
    · rw [if_neg h, List.filter_cons_of_neg (by simpa using h)]

theorem rwCycles_move (m2 : Int) (hm2 : 0 ≤ m2) (st : RW) (s : Int) :
    rwCycles (rwMove m2 st s) =
      if s = 0 then [] :: rwCycles st else if -m2 ≤ s ∧ s ≤ m2 then (s :: st.cur) :: st.done else rwCycles st := by
  unfold rwMove rwCycles
  split_ifs <;> first | rfl | omega

theorem rwMove_count (m2 : Int) (hm2 : 0 ≤ m2) (st : RW) (s x : Int) :
    (rwCycles (rwMove m2 st s)).flatten.count x =
      (rwCycles st).flatten.count x + if s = x ∧ x ≠ 0 ∧ -m2 ≤ x ∧ x ≤ m2 then 1 else 0 := by
  rw [rwCycles_move m2 hm2]
  by_cases h0 : s = 0
  · rw [if_pos h0, if_neg (by omega)]; rfl
  · rw [if_neg h0]
    by_cases hr : -m2 ≤ s ∧ s ≤ m2
    · rw [if_pos hr, List.flatten_cons, List.cons_append, List.count_cons]
      congr 1
      by_cases hsx : s = x
      · subst hsx; simp [h0, hr]
      · simp [hsx]
    · rw [if_neg hr, if_neg (by omega)]; rfl

theorem rwMove_cycles (m2 : Int) (hm2 : 0 ≤ m2) (st : RW) (s : Int) :
    (rwCycles (rwMove m2 st s)).length = (rwCycles st).length + if s = 0 then 1 else 0 := by
  rw [rwCycles_move m2 hm2]
  split_ifs <;> rfl

theorem rwMoves_count (m2 : Int) (hm2 : 0 ≤ m2) (x : Int) : ∀ (w : List Int) (st : RW),
    (rwCycles (w.foldl (rwMove m2) st)).flatten.count x =
      (rwCycles st).flatten.count x + if x ≠ 0 ∧ -m2 ≤ x ∧ x ≤ m2 then w.count x else 0
  | [], _ => by simp
  | s :: w, st => by
    rw [List.foldl_cons, rwMoves_count m2 hm2 x w, rwMove_count m2 hm2, List.count_cons]
    by_cases hC : x ≠ 0 ∧ -m2 ≤ x ∧ x ≤ m2 <;> by_cases hsx : s = x <;> simp [hC, hsx]; omega

theorem rwMoves_cycles (m2 : Int) (hm2 : 0 ≤ m2) : ∀ (w : List Int) (st : RW),
    (rwCycles (w.foldl (rwMove m2) st)).length = (rwCycles st).length + w.count 0
  | [], _ => rfl
  | s :: w, st => by
    rw [List.foldl_cons, rwMoves_cycles m2 hm2 w, rwMove_cycles m2 hm2, List.count_cons]
    by_cases h0 : s = 0 <;> simp [h0]; omega

theorem rwMoves_final (m2 : Int) (hm2 : 0 ≤ m2) (w : List Int) :
    IsMaxOf (w.foldl (rwMove m2) rwInit).maxOut (0 :: w.filter (m2 < ·)) ∧
    IsMinOf (w.foldl (rwMove m2) rwInit).minOut (0 :: w.filter (· < -m2)) ∧
    ∀ x, x ∈ (rwCycles (w.foldl (rwMove m2) rwInit)).flatten ↔ x ∈ w ∧ x ≠ 0 ∧ -m2 ≤ x ∧ x ≤ m2 := by
  refine ⟨?_, ?_, fun x => ?_⟩
  · exact .of_max?_eq_some (by rw [List.max?_cons', rwMoves_maxOut]; rfl)
  · exact .of_min?_eq_some (by rw [List.min?_cons', rwMoves_minOut m2 hm2]; rfl)
  · rw [← List.count_pos_iff, rwMoves_count m2 hm2]
    by_cases h : x ≠ 0 ∧ -m2 ≤ x ∧ x ≤ m2
    · rw [if_pos h]; simp [rwInit, rwCycles, List.count_pos_iff, h]
    · rw [if_neg h]; exact iff_of_false (by simp [rwInit, rwCycles]) (fun hx => h hx.2)

/-- repaired extremes: `maxs` is the maximum of S_0 = 0, S_1, …, S_n. -/
theorem rwMax_repaired (m2 : Int) (hm2 : 0 ≤ m2) (w : List Int) :
    ∃ M, rwMax .repaired (w.foldl (rwMove m2) rwInit) = .ok M ∧ IsMaxOf M (0 :: w) := by
  obtain ⟨hmax, -, hflat⟩ := rwMoves_final m2 hm2 w
  generalize w.foldl (rwMove m2) rwInit = st at *
  have hsub : ∀ x ∈ w.filter (m2 < ·), x ∈ w := fun x hx => (List.mem_filter.mp hx).1
  unfold rwMax
  split_ifs with h0
  · -- some state above m2: the largest of them, and the others are ≤ m2
    have hgt : m2 < st.maxOut := by
      rcases List.mem_cons.mp hmax.1 with h | h
      · exact absurd h h0
      · simpa using (List.mem_filter.mp h).2
    exact ⟨_, rfl, hmax.extend hsub fun x hx => (lt_or_ge m2 x).imp
      (fun h => List.mem_filter.mpr ⟨hx, by simpa using h⟩) (fun h => by omega)⟩
  · -- none: every state is ≤ m2, and those missing in `cnts` are ≤ 0
    have h0' : st.maxOut = 0 := by simpa using h0
    have hle : ∀ v ∈ w, v ≤ m2 := fun v hv => by
      by_contra hc
      have := hmax.2 v (List.mem_cons_of_mem _ (List.mem_filter.mpr ⟨hv, by simpa using hc⟩))
      omega
    have hM := IsMaxOf.of_max? (0 : Int) (rwCycles st).flatten
    rw [listMax_eq]
    refine ⟨_, by cases (rwCycles st).flatten.max? <;> rfl, hM.extend (fun x hx => ((hflat x).mp hx).1) fun x hx => ?_⟩
    have h0M := hM.2 0 List.mem_cons_self
    by_cases hx0 : 0 < x
    · exact Or.inl ((hflat x).mpr ⟨hx, by omega, by omega, hle x hx⟩)
    · exact Or.inr (by omega)

theorem rwMin_repaired (m2 : Int) (hm2 : 0 ≤ m2) (w : List Int) :
    ∃ M, rwMin .repaired (w.foldl (rwMove m2) rwInit) = .ok M ∧ IsMinOf M (0 :: w) := by
  obtain ⟨-, hmin, hflat⟩ := rwMoves_final m2 hm2 w
  generalize w.foldl (rwMove m2) rwInit = st at *
  have hsub : ∀ x ∈ w.filter (· < -m2), x ∈ w := fun x hx => (List.mem_filter.mp hx).1
  unfold rwMin
  split_ifs with h0
  · have hlt : st.minOut < -m2 := by
      rcases List.mem_cons.mp hmin.1 with h | h
      · exact absurd h h0
      · simpa using (List.mem_filter.mp h).2
    exact ⟨_, rfl, hmin.extend hsub fun x hx => (lt_or_ge x (-m2)).imp
      (fun h => List.mem_filter.mpr ⟨hx, by simpa using h⟩) (fun h => by omega)⟩
  · have h0' : st.minOut = 0 := by simpa using h0
    have hge : ∀ v ∈ w, -m2 ≤ v := fun v hv => by
      by_contra hc
      have := hmin.2 v (List.mem_cons_of_mem _ (List.mem_filter.mpr ⟨hv, by simpa using hc⟩))
      omega
    have hM := IsMinOf.of_min? (0 : Int) (rwCycles st).flatten
    rw [listMin_eq]
    refine ⟨_, by cases (rwCycles st).flatten.min? <;> rfl, hM.extend (fun x hx => ((hflat x).mp hx).1)
      fun x hx => ?_⟩
    have h0M := hM.2 0 List.mem_cons_self
    by_cases hx0 : x < 0
    · exact Or.inl ((hflat x).mpr ⟨hx, by omega, hge x hx, by omega⟩)
    · exact Or.inr (by omega)

/-- from the extremes to the two cusum statistics: max_k |sn − S_k| is attained at the maximum or at the
minimum of the walk (sn = 0: max_k |S_k|). -/
theorem cusum_of_extremes (vals : List Int) (sn M m : Int) (hM : IsMaxOf M vals) (hm : IsMinOf m vals) :
    IsMaxOf ((max (M - sn) (sn - m)).toNat) (vals.map (fun s => (sn - s).natAbs)) := by
  obtain ⟨hM1, hM2⟩ := hM
  obtain ⟨hm1, hm2⟩ := hm
  have hmM := hM2 m hm1
  constructor
  · rcases le_total (M - sn) (sn - m) with hle | hle
    · rw [max_eq_right hle]; exact List.mem_map.mpr ⟨m, hm1, by omega⟩
    · rw [max_eq_left hle]; exact List.mem_map.mpr ⟨M, hM1, by omega⟩
  · intro v hv
    obtain ⟨s, hs, rfl⟩ := List.mem_map.mp hv
    have a := hM2 s hs
    have b := hm2 s hs
    omega

theorem rwStep_eq_move (m2 : Int) (st : RW) (b : Bool) : rwStep m2 st b = rwMove m2 st (st.s + pm b) := rfl

/-- the loop of `RandomWalk` is a fold of `rwMove` over the visited states. -/
theorem rwRun_eq_moves (m2 : Int) : ∀ (l : List Bool) (st : RW),
    l.foldl (rwStep m2) st = (walkFrom st.s l).foldl (rwMove m2) st
  | [], st => rfl
  | b :: l, st => by
    simp only [List.foldl_cons, walkFrom]
    rw [rwRun_eq_moves m2 l, rwStep_eq_move, rwMove_s]

theorem rwRun_s (m2 : Int) : ∀ (l : List Bool) (st : RW), (l.foldl (rwStep m2) st).s = st.s + walkSum l
  | [], st => by simp [walkSum]
  | b :: l, st => by
    rw [List.foldl_cons, rwRun_s m2 l, rwStep, rwMove_s, add_assoc]
    rfl

/-- `k` more visits in the cycle in progress (the first entry of `visitCounts`). -/
def bump (k : Nat) : List Nat → List Nat
  | [] => [k]
  | c :: cs => (c + k) :: cs

/-- NIST 2.14.4: for the walk S₁ … Sₙ (then the final 0 of S′) the number of visits to `x` in
each cycle; a cycle ends at every return to 0. -/
def visitCounts (x : Int) : List Int → List Nat
  | [] => [0]
  | s :: w => if s = 0 then 0 :: visitCounts x w else bump (if s = x then 1 else 0) (visitCounts x w)

theorem visitCounts_ne_nil (x : Int) : ∀ w, visitCounts x w ≠ []
  | [] => by simp [visitCounts]
  | s :: w => by
    unfold visitCounts
    split
    · simp
    · have := visitCounts_ne_nil x w
      cases h : visitCounts x w <;> simp_all [bump]

theorem bump_zero (l : List Nat) (h : l ≠ []) : bump 0 l = l := by
  cases l <;> simp_all [bump]

theorem bump_bump (a b : Nat) (l : List Nat) (h : l ≠ []) : bump a (bump b l) = bump (b + a) l := by
  cases l with
  | nil => simp_all
  | cons c cs => simp only [bump, List.cons.injEq, and_true]; omega

theorem visitCounts_cons (x s : Int) (w : List Int) :
    visitCounts x (s :: w) =
      if s = 0 then 0 :: visitCounts x w else bump (if s = x then 1 else 0) (visitCounts x w) := rfl

theorem visits_fold (m2 : Int) (hm2 : 0 ≤ m2) (x : Int) (hx : x ≠ 0) (hl : -m2 ≤ x) (hu : x ≤ m2) :
    ∀ (w : List Int) (st : RW),
    ((rwCycles (w.foldl (rwMove m2) st)).map (List.count x)).reverse =
      (st.done.map (List.count x)).reverse ++ bump (st.cur.count x) (visitCounts x w)
  | [], st => by simp [rwCycles, visitCounts, bump]
  | s :: w, st => by
    rw [List.foldl_cons, visits_fold m2 hm2 x hx hl hu w, visitCounts_cons]
    have hne := visitCounts_ne_nil x w
    -- the cycle in progress and the finished ones after the move, read off `rwCycles_move`
    have hc : (rwMove m2 st s).cur :: (rwMove m2 st s).done = _ := rwCycles_move m2 hm2 st s
    split_ifs at hc with h0 hr
    · obtain ⟨hcur, hdone⟩ := List.cons.inj hc
      rw [hcur, hdone, if_pos h0, rwCycles, List.map_cons, List.reverse_cons, List.append_assoc, List.count_nil,
        bump_zero _ hne]
      simp [bump]
    · obtain ⟨hcur, hdone⟩ := List.cons.inj hc
      rw [hcur, hdone, if_neg h0, bump_bump _ _ _ hne, List.count_cons, Nat.add_comm]
      simp only [beq_iff_eq]
    · obtain ⟨hcur, hdone⟩ := List.cons.inj hc
      rw [hcur, hdone, if_neg h0, if_neg (by omega), bump_zero _ hne]

theorem mem_walkFrom (l : List Bool) : ∀ (s x : Int),
    x ∈ s :: walkFrom s l ↔ ∃ k, k ≤ l.length ∧ x = s + walkSum (l.take k) := by
  induction l with
  | nil =>
    intro s x
    simp [walkFrom, walkSum]
  | cons b l ih =>
    intro s x
    have ih' := ih (s + pm b) x
    simp only [walkFrom]
    rw [List.mem_cons, ih']
    constructor
    · rintro (rfl | ⟨k, hk, rfl⟩)
      · exact ⟨0, by simp, by simp [walkSum]⟩
      · refine ⟨k + 1, by simp [hk], ?_⟩
        simp [walkSum_cons]; ring
    · rintro ⟨k, hk, rfl⟩
      cases k with
      | zero => left; simp [walkSum]
      | succ k =>
        right
        refine ⟨k, by simpa using hk, ?_⟩
        simp [walkSum_cons]; ring

/-- the walk of the reversed string visits exactly the states S_n − S_k. -/
theorem mem_walk_reverse (l : List Bool) (x : Int) :
    x ∈ (0 : Int) :: walkFrom 0 l.reverse ↔ ∃ s ∈ (0 : Int) :: walkFrom 0 l, x = walkSum l - s := by
  rw [mem_walkFrom]
  constructor
  · rintro ⟨k, hk, rfl⟩
    rw [List.length_reverse] at hk
    refine ⟨walkSum (l.take (l.length - k)), ?_, ?_⟩
    · rw [mem_walkFrom]; exact ⟨l.length - k, by omega, by simp⟩
    · rw [walkSum_take_reverse l k]; ring
  · rintro ⟨s, hs, rfl⟩
    rw [mem_walkFrom] at hs
    obtain ⟨k, hk, rfl⟩ := hs
    refine ⟨l.length - k, by simp, ?_⟩
    rw [walkSum_take_reverse l _]
    have : l.length - (l.length - k) = k := by omega
    rw [this]; ring

theorem mem_stateRange (k : Nat) (x : Int) : x ∈ stateRange k ↔ (x ≠ 0 ∧ -(k : Int) ≤ x ∧ x ≤ k) := by
  unfold stateRange
  simp only [List.mem_append, List.mem_map, List.mem_range]
  constructor
  · rintro (⟨i, hi, rfl⟩ | ⟨i, hi, rfl⟩)
    · refine ⟨?_, ?_, ?_⟩ <;> omega
    · refine ⟨?_, ?_, ?_⟩ <;> omega
  · rintro ⟨h0, h1, h2⟩
    rcases lt_or_gt_of_ne h0 with hneg | hpos
    · left
      refine ⟨k - x.natAbs, by omega, by omega⟩
    · right
      refine ⟨x.natAbs - 1, by omega, by omega⟩

theorem excursionHist_spec (cycles : List (List Int)) (mc : Nat) (x : Int) :
    excursionHist cycles mc x = (List.range (mc + 1)).map (fun i =>
      (((cycles.map (List.count x)).reverse).map (min mc)).count i) := by
  show _ = (List.range (mc + 1)).map (fun i => (List.map (min mc) (List.map (List.count x) cycles).reverse).count i)
  unfold excursionHist
  rw [tally_spec]
  apply List.map_congr_left
  intro i _
  rw [List.map_reverse, List.count_reverse, List.map_map]
  rfl

/-- everything `RandomWalk` returns, in terms of the walk S₁ … Sₙ of the bit list:
NIST 2.13 (cusum forward / backward), 2.14 (cycles, visits per cycle), 2.15 (total visits). -/
theorem randomWalk_spec (bits n ms mc msv : Nat) (o : RandomWalkOut)
    (h : randomWalk .repaired bits n ms mc msv = .ok o) :
    o.n = n ∧
    IsMaxOf o.zFwd (((0 : Int) :: walkFrom 0 (bitList bits n)).map Int.natAbs) ∧
    IsMaxOf o.zBwd (((0 : Int) :: walkFrom 0 (bitList bits n)).map
      (fun s => (walkSum (bitList bits n) - s).natAbs)) ∧
    o.cycles = (walkFrom 0 (bitList bits n)).count 0 + 1 ∧
    (500 ≤ o.cycles →
      o.exHists = (stateRange ms).map (fun x => (List.range (mc + 1)).map (fun i =>
        ((visitCounts x (walkFrom 0 (bitList bits n))).map (min mc)).count i)) ∧
      o.totals = (stateRange msv).map (fun x => (walkFrom 0 (bitList bits n)).count x)) ∧
    (o.cycles < 500 → o.exHists = [] ∧ o.totals = []) := by
  unfold randomWalk at h
  split at h
  · cases h
  · have hm2 : (0 : Int) ≤ ((max ms msv : Nat) : Int) := Int.natCast_nonneg _
    have hrun : rwRun (max ms msv) (bitList bits n) = _ := rwRun_eq_moves _ (bitList bits n) rwInit
    have hs := rwRun_s ((max ms msv : Nat) : Int) (bitList bits n) rwInit
    rw [← rwRun, hrun] at hs
    rw [hrun, show rwInit.s = 0 from rfl] at h
    rw [show rwInit.s = 0 from rfl, zero_add] at hs
    obtain ⟨M, hM, hMax⟩ := rwMax_repaired _ hm2 (walkFrom 0 (bitList bits n))
    obtain ⟨m, hmn, hMin⟩ := rwMin_repaired _ hm2 (walkFrom 0 (bitList bits n))
    unfold randomWalkOf at h
    rw [hM, hmn] at h
    simp only [Except.ok.injEq] at h
    subst h
    refine ⟨rfl, ?_, ?_, ?_, fun hJ => ?_, fun hJ => ?_⟩
    · have := cusum_of_extremes _ 0 M m hMax hMin
      simp only [sub_zero, zero_sub, Int.natAbs_neg] at this
      exact this
    · simp only [rwOut, hs]
      exact cusum_of_extremes _ _ M m hMax hMin
    · exact (rwMoves_cycles _ hm2 _ rwInit).trans (Nat.add_comm _ _)
    · simp only [rwOut] at hJ ⊢
      rw [if_pos hJ, if_pos hJ]
      constructor
      · apply List.map_congr_left
        intro x hx
        rw [mem_stateRange] at hx
        rw [excursionHist_spec, visits_fold ((max ms msv : Nat) : Int) hm2 x hx.1 (by have := hx.2.1; omega)
          (by have := hx.2.2; omega)]
        simp [rwInit, bump_zero _ (visitCounts_ne_nil x _)]
      · apply List.map_congr_left
        intro x hx
        rw [mem_stateRange] at hx
        rw [rwMoves_count _ hm2, if_pos ⟨hx.1, by have := hx.2.1; omega, by have := hx.2.2; omega⟩]
        simp [rwInit, rwCycles]
    · simp only [rwOut] at hJ ⊢
      rw [if_neg (by omega), if_neg (by omega)]
      exact ⟨rfl, rfl⟩

def qOf (p : Nat × Nat) : ℚ := (p.1 : ℚ) / p.2

/-- every entry of `excursionPi` has the form t^i·(1 − t)^j with t = 1/(2x). -/
theorem qOf_excursion (x : Nat) (hx : 1 ≤ x) (j i : Nat) :
    qOf ((2 * x - 1) ^ j, (2 * x) ^ (j + i)) = (1 / (2 * (x : ℚ))) ^ i * (1 - 1 / (2 * (x : ℚ))) ^ j := by
  have hx' : (x : ℚ) ≠ 0 := by exact_mod_cast (by omega : x ≠ 0)
  have key : (1 : ℚ) - 1 / (2 * (x : ℚ)) = (2 * (x : ℚ) - 1) / (2 * (x : ℚ)) := by field_simp
  rw [qOf, key, div_pow, div_pow, one_pow, pow_add]
  push_cast [Nat.cast_sub (show 1 ≤ 2 * x by omega)]
  field_simp

/-- NIST 3.14: π₀(x) = 1 − 1/(2|x|), π_k(x) = (1/(4x²))(1 − 1/(2|x|))^(k−1), π_max = (1/(2|x|))(1 − 1/(2|x|))^(max−1). -/
theorem excursionPi_closed_form (x K : Nat) (hx : 1 ≤ x) (hK : 1 ≤ K) :
    (excursionPi x K).map qOf =
      ((1 - 1 / (2 * (x : ℚ))) ::
        (List.range (K - 1)).map (fun j => 1 / (4 * (x : ℚ) ^ 2) * (1 - 1 / (2 * (x : ℚ))) ^ j))
      ++ [1 / (2 * (x : ℚ)) * (1 - 1 / (2 * (x : ℚ))) ^ (K - 1)] := by
  have h4 : (1 : ℚ) / (4 * (x : ℚ) ^ 2) = (1 / (2 * (x : ℚ))) ^ 2 := by rw [div_pow, mul_pow]; norm_num
  have e0 := qOf_excursion x hx 1 0
  have eK := qOf_excursion x hx (K - 1) 1
  rw [pow_one, Nat.add_zero, pow_one, pow_zero, one_mul, pow_one] at e0
  rw [Nat.sub_add_cancel hK, pow_one] at eK
  rw [excursionPi, List.map_append, List.map_cons, List.map_cons, List.map_nil, List.map_map, e0, eK, h4]
  congr 2
  exact List.map_congr_left fun j _ => qOf_excursion x hx j 2

theorem excursion_geom (t : ℚ) : ∀ k : Nat,
    ((List.range k).map (fun j => t ^ 2 * (1 - t) ^ j)).sum + t * (1 - t) ^ k = t
  | 0 => by simp
  | k + 1 => by
    rw [List.range_succ, List.map_append, List.sum_append]
    simp only [List.map_cons, List.map_nil, List.sum_cons, List.sum_nil, add_zero]
    have ih := excursion_geom t k
    have : t ^ 2 * (1 - t) ^ k + t * (1 - t) ^ (k + 1) = t * (1 - t) ^ k := by ring
    linarith

/-- the probabilities of `RandomExcursionsDistribution` add up to 1 for every state and every
`max_cnt ≥ 1`. -/
theorem excursion_sum_one (x : ℚ) (hx : x ≠ 0) (K : Nat) :
    ((1 - 1 / (2 * x)) ::
        (List.range K).map (fun j => 1 / (4 * x ^ 2) * (1 - 1 / (2 * x)) ^ j)
      ++ [1 / (2 * x) * (1 - 1 / (2 * x)) ^ K]).sum = 1 := by
  have h4 : (1 : ℚ) / (4 * x ^ 2) = (1 / (2 * x)) ^ 2 := by field_simp; ring
  simp only [List.cons_append, List.sum_cons, List.sum_append, List.sum_nil, add_zero, h4]
  have := excursion_geom (1 / (2 * x)) K
  linarith

theorem excursionPi_sum_one (x K : Nat) (hx : 1 ≤ x) (hK : 1 ≤ K) :
    ((excursionPi x K).map qOf).sum = 1 := by
  rw [excursionPi_closed_form x K hx hK]
  have hx' : (x : ℚ) ≠ 0 := by exact_mod_cast (by omega : x ≠ 0)
  exact excursion_sum_one x hx' (K - 1)

theorem excursionPi_pos (x K : Nat) (hx : 1 ≤ x) : ∀ p ∈ excursionPi x K, 0 < p.1 ∧ 0 < p.2 := by
  intro p hp
  unfold excursionPi at hp
  have h1 : 0 < 2 * x - 1 := by omega
  have h2 : 0 < 2 * x := by omega
  simp only [List.cons_append, List.mem_cons, List.mem_append, List.mem_map, List.mem_range,
    List.not_mem_nil, or_false] at hp
  rcases hp with rfl | ⟨j, _, rfl⟩ | rfl
  · exact ⟨h1, h2⟩
  · exact ⟨Nat.pow_pos h1, Nat.pow_pos h2⟩
  · exact ⟨Nat.pow_pos h1, Nat.pow_pos h2⟩

/-- `ChiSquare`: Σ (cᵢ − N·pᵢ)² / (N·pᵢ). -/
def chiSq (v : List Nat) (pi : List ℚ) : ℚ :=
  ((v.zip pi).map (fun cp => ((cp.1 : ℚ) - (v.sum : ℚ) * cp.2) ^ 2 / ((v.sum : ℚ) * cp.2))).sum

end Paranoid.Nist
