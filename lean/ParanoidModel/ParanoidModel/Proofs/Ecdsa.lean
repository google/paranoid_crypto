/-
Proofs/Ecdsa.lean — lemmas for C09: `TransformOrderLen` = RFC 6979 `bits2int` followed by one
reduction, octet strings as bit strings (for `ECDSAValues`), `HiddenNumberParams` algebra, `Hex2Bytes`.
-/
import ParanoidModel.Model.Ecdsa
import ParanoidModel.Spec.Rfc6979
import ParanoidModel.Proofs.Basic
import Mathlib.Algebra.Field.ZMod
namespace Paranoid
open Rfc6979

theorem ofBits_foldl (l : List Bool) (acc : Nat) :
    l.foldl (fun a b => 2 * a + b.toNat) acc = acc * 2 ^ l.length + ofBits l := by
  simp only [ofBits, Nat.mul_comm 2]
  exact foldl_digits 2 Bool.toNat l acc

theorem ofBits_cons (x : Bool) (t : List Bool) :
    ofBits (x :: t) = x.toNat * 2 ^ t.length + ofBits t := by
  simp only [ofBits, List.foldl_cons]
  rw [ofBits_foldl]; simp [ofBits]

theorem toBits_length (h blen : Nat) : (toBits h blen).length = blen := by simp [toBits]

theorem toBits_succ (h blen : Nat) : toBits h (blen + 1) = h.testBit blen :: toBits h blen := by
  unfold toBits
  rw [List.range_succ_eq_map, List.map_cons, List.map_map]
  congr 1
  apply List.map_congr_left
  intro i hi
  rw [List.mem_range] at hi
  simp only [Function.comp]
  congr 1
  omega

theorem ofBits_toBits (blen : Nat) (h : Nat) : ofBits (toBits h blen) = h % 2 ^ blen := by
  induction blen with
  | zero => simp [toBits, ofBits, Nat.mod_one]
  | succ k ih =>
    rw [toBits_succ, ofBits_cons, toBits_length, ih, Nat.mod_pow_succ, Nat.toNat_testBit]
    ring

theorem ofBits_lt (l : List Bool) : ofBits l < 2 ^ l.length := by
  induction l with
  | nil => simp [ofBits]
  | cons x t ih =>
    rw [ofBits_cons, List.length_cons, Nat.pow_succ]
    have : x.toNat * 2 ^ t.length ≤ 1 * 2 ^ t.length :=
      Nat.mul_le_mul_right _ (by cases x <;> simp)
    omega

theorem ofBits_zeros_append (k : Nat) (b : List Bool) :
    ofBits (List.replicate k false ++ b) = ofBits b := by
  induction k with
  | zero => simp
  | succ k ih => rw [List.replicate_succ, List.cons_append, ofBits_cons, ih]; simp

theorem take_toBits (h blen q : Nat) (hq : q ≤ blen) :
    (toBits h blen).take q = toBits (h >>> (blen - q)) q := by
  unfold toBits
  rw [← List.map_take, List.take_range, Nat.min_eq_left hq]
  apply List.map_congr_left
  intro i hi
  rw [List.mem_range] at hi
  rw [Nat.testBit_shiftRight]
  congr 1
  omega

/-- `bits2int` of the `blen`-bit string of `h`: the `min(blen, qlen)` leftmost bits. -/
theorem bits2int_toBits (qlen h blen : Nat) (hh : h < 2 ^ blen) :
    bits2int qlen (toBits h blen) = if qlen < blen then h >>> (blen - qlen) else h := by
  unfold bits2int
  rw [toBits_length]
  split
  · rename_i hlt
    rw [take_toBits _ _ _ (Nat.le_of_lt hlt), ofBits_toBits]
    apply Nat.mod_eq_of_lt
    rw [Nat.shiftRight_eq_div_pow, Nat.div_lt_iff_lt_mul (Nat.two_pow_pos _), ← Nat.pow_add]
    rwa [show qlen + (blen - qlen) = blen by omega]
  · rw [ofBits_zeros_append, ofBits_toBits, Nat.mod_eq_of_lt hh]

theorem bits2int_lt (qlen : Nat) (b : List Bool) : bits2int qlen b < 2 ^ qlen := by
  unfold bits2int
  split
  · rename_i h
    have := ofBits_lt (b.take qlen)
    rwa [List.length_take, Nat.min_eq_left (Nat.le_of_lt h)] at this
  · rename_i h
    have := ofBits_lt (List.replicate (qlen - b.length) false ++ b)
    rwa [List.length_append, List.length_replicate, show qlen - b.length + b.length = qlen by omega] at this

/-- `% n` and the single conditional subtraction of RFC 6979 agree on everything `bits2int`
can return when `qlen = bitLength n`, because `2^qlen ≤ 2n`. -/
theorem mod_eq_reduceOnce (n z1 : Nat) (hn : n ≠ 0) (hz : z1 < 2 ^ bitLength n) :
    z1 % n = reduceOnce z1 n := by
  have h2 := two_pow_bitLength_le n (Nat.pos_of_ne_zero hn)
  unfold reduceOnce
  split
  · exact Nat.mod_eq_of_lt ‹_›
  · rename_i hge
    rw [Nat.mod_eq_sub_mod (by omega)]
    exact Nat.mod_eq_of_lt (by omega)

theorem orderShift_nat (n h hlen : Nat) :
    orderShift n (h : Int) (hlen : Int) =
      ((if bitLength n < hlen then h >>> (hlen - bitLength n) else h : Nat) : Int) := by
  unfold orderShift
  by_cases hc : bitLength n < hlen
  · have h1 : (hlen : Int) - (bitLength n : Int) > 0 := by omega
    have h2 : ((hlen : Int) - (bitLength n : Int)).toNat = hlen - bitLength n := by omega
    simp only [h1, hc, ↓reduceIte, h2]
    rfl
  · have h1 : ¬ (hlen : Int) - (bitLength n : Int) > 0 := by omega
    simp only [h1, hc, ↓reduceIte]

theorem transformOrderLen_nat (n h hlen : Nat) (hn : n ≠ 0) :
    transformOrderLen n (h : Int) (hlen : Int) =
      .ok ((if bitLength n < hlen then h >>> (hlen - bitLength n) else h) % n) := by
  unfold transformOrderLen
  rw [orderShift_nat]
  simp only [hn, ↓reduceIte]
  congr 1

/-- the `hlen`-bit string of `h`, cut by `bits2int` to the order length and reduced: this is
what `TransformOrderLen` returns (all `hlen`: shorter, equal, longer than `qlen`). -/
theorem transformOrderLen_bits (n h hlen : Nat) (hn : n ≠ 0) (hh : h < 2 ^ hlen) :
    transformOrderLen n (h : Int) (hlen : Int) =
      .ok (bits2int (bitLength n) (toBits h hlen) % n) := by
  rw [transformOrderLen_nat n h hlen hn, bits2int_toBits _ _ _ hh]

/-! ### octet strings -/

theorem toBits_append (a x m k : Nat) (hx : x < 2 ^ k) :
    toBits (a * 2 ^ k + x) (m + k) = toBits a m ++ toBits x k := by
  apply List.ext_getElem
  · simp [toBits_length]
  · intro i h1 h2
    simp only [toBits, List.getElem_map, List.getElem_range, List.getElem_append, List.length_map,
      List.length_range]
    rw [Nat.mul_comm, Nat.testBit_two_pow_mul_add a hx]
    simp only [toBits_length] at h1
    by_cases hi : i < m
    · have : ¬ (m + k - 1 - i < k) := by omega
      rw [if_neg this, dif_pos hi]
      congr 1; omega
    · have : m + k - 1 - i < k := by omega
      rw [if_pos this, dif_neg hi]
      congr 1; omega

theorem octetsToBits_append_singleton (l : List Nat) (x : Nat) :
    octetsToBits (l ++ [x]) = octetsToBits l ++ toBits x 8 := by
  simp [octetsToBits]

/-- the integer `Bytes2Int` reads from an octet string, written as `8·len` bits, is the octet
string's own bit sequence. -/
theorem toBits_bytes2int (o : List Nat) (h : ∀ x ∈ o, x < 256) :
    toBits (bytes2int o) (o.length * 8) = octetsToBits o := by
  induction o using List.reverseRecOn with
  | nil => simp [toBits, octetsToBits]
  | append_singleton l x ih =>
    have hx : x < 2 ^ 8 := h x (by simp)
    rw [bytes2int_append_singleton, octetsToBits_append_singleton, List.length_append,
      List.length_singleton, Nat.add_mul, Nat.one_mul,
      show bytes2int l * 256 + x = bytes2int l * 2 ^ 8 + x from rfl,
      toBits_append _ _ _ _ hx, ih (fun y hy => h y (by simp [hy]))]

theorem bytes2int_lt_two_pow (o : List Nat) (h : ∀ x ∈ o, x < 256) :
    bytes2int o < 2 ^ (o.length * 8) := by
  have := bytes2int_lt o h
  rwa [show (256 : Nat) = 2 ^ 8 from rfl, ← Nat.pow_mul, Nat.mul_comm] at this

/-! ### HiddenNumberParams -/

theorem mulMod_spec (x : Int) (si n : Nat) (hn : n ≠ 0) :
    mulMod x si n < n ∧ (mulMod x si n : Int) ≡ x * si [ZMOD (n : Int)] := by
  unfold mulMod
  refine ⟨emod_toNat_lt _ n hn, ?_⟩
  rw [Int.toNat_of_nonneg (Int.emod_nonneg _ (by omega))]
  exact Int.mod_modEq _ _

/-- with `si = gmpy.invert(s, n)`: `mulMod x si n` is the reduced `x / s`. -/
theorem mulMod_inv {n si : Nat} {s : Int} (hn : 2 ≤ n) (hsi : invMod s n = .ok si) (x : Int) :
    mulMod x si n < n ∧ (mulMod x si n : Int) * s ≡ x [ZMOD (n : Int)] := by
  obtain ⟨hlt, hc⟩ := mulMod_spec x si n (by omega)
  refine ⟨hlt, ?_⟩
  have hinv : (si : Int) * s ≡ 1 [ZMOD (n : Int)] := by
    rw [Int.ModEq, Int.mul_comm, (invMod_ok s n si hn hsi).1, Int.emod_eq_of_lt (by omega) (by omega)]
  calc (mulMod x si n : Int) * s ≡ x * si * s [ZMOD (n : Int)] := hc.mul_right s
    _ = x * (si * s) := by ring
    _ ≡ x * 1 [ZMOD (n : Int)] := hinv.mul_left _
    _ = x := by ring

theorem modEq_cancel_right {n : Nat} {s x y : Int} (hn : 0 < n) (hs : Int.gcd s n = 1)
    (h : x * s ≡ y * s [ZMOD (n : Int)]) : x ≡ y [ZMOD (n : Int)] := by
  have := Int.ModEq.cancel_right_div_gcd (show (0 : Int) < n by omega) h
  rwa [Int.gcd_comm, hs, Nat.cast_one, Int.ediv_one] at this

/-- the values `HiddenNumberParams(r, s, z)` returns: `a ≡ z/s`, `b ≡ r/s`, reduced. -/
theorem hiddenNumberParams_values (n : Nat) (hn : 2 ≤ n) (r s z : Int) (a b : Nat)
    (h : hiddenNumberParams n r s z = .ok (a, b)) :
    a < n ∧ b < n ∧ (a : Int) * s ≡ z [ZMOD (n : Int)] ∧ (b : Int) * s ≡ r [ZMOD (n : Int)] := by
  unfold hiddenNumberParams at h
  cases hsi : invMod s n with
  | error e => rw [hsi] at h; cases h
  | ok si =>
    rw [hsi] at h
    cases h
    exact ⟨(mulMod_inv hn hsi z).1, (mulMod_inv hn hsi r).1, (mulMod_inv hn hsi z).2,
      (mulMod_inv hn hsi r).2⟩

/-- `HiddenNumberParams` for any modulus `n ≥ 2` and any `s` invertible modulo `n`:
if `s·k ≡ z + r·d`, the returned pair satisfies `k ≡ a + b·d (mod n)`, `a, b < n`. -/
theorem hiddenNumberParams_spec (n : Nat) (hn : 2 ≤ n) (r s z d k : Int)
    (hs : Int.gcd s n = 1) (hsig : s * k ≡ z + r * d [ZMOD (n : Int)]) :
    ∃ a b : Nat, hiddenNumberParams n r s z = .ok (a, b) ∧ a < n ∧ b < n ∧
      (a : Int) + b * d ≡ k [ZMOD (n : Int)] := by
  rcases invMod_cases s n hn with ⟨_, si, hsi, _⟩ | ⟨hg, _⟩
  · have h : hiddenNumberParams n r s z = .ok (mulMod z si n, mulMod r si n) := by
      simp [hiddenNumberParams, hsi]
    obtain ⟨ha, hb, hz, hr⟩ := hiddenNumberParams_values n hn r s z _ _ h
    refine ⟨_, _, h, ha, hb, modEq_cancel_right (by omega) hs ?_⟩
    calc ((mulMod z si n : Int) + mulMod r si n * d) * s
        = mulMod z si n * s + mulMod r si n * s * d := by ring
      _ ≡ z + r * d [ZMOD (n : Int)] := hz.add (hr.mul_right d)
      _ ≡ s * k [ZMOD (n : Int)] := hsig.symm
      _ = k * s := Int.mul_comm s k
  · exact absurd hs hg

/-- when `HiddenNumberParams` raises: exactly `ZeroDivisionError`, exactly for `s` not
invertible modulo `n` (`n ≥ 2`). -/
theorem hiddenNumberParams_error_iff (n : Nat) (hn : 2 ≤ n) (r s z : Int) (e : PyErr) :
    hiddenNumberParams n r s z = .error e ↔ (e = .zeroDivision ∧ Int.gcd s n ≠ 1) := by
  rcases invMod_cases s n hn with ⟨hg, si, hsi, _, _⟩ | ⟨hg, herr⟩
  · simp [hiddenNumberParams, hsi, hg]
  · simp only [hiddenNumberParams, herr, Except.error.injEq, hg, ne_eq, not_false_eq_true, and_true]
    exact eq_comm

/-- a returned pair `(a, b)`: `s` was invertible, `a, b < n`, and the pair satisfies the nonce
relation of every `(d, k)` with `s·k ≡ z + r·d`. -/
theorem hiddenNumberParams_ok_rel (n : Nat) (hn : 2 ≤ n) (r s z : Int) (p : Nat × Nat)
    (h : hiddenNumberParams n r s z = .ok p) :
    Int.gcd s n = 1 ∧ ∀ d k : Int, s * k ≡ z + r * d [ZMOD (n : Int)] →
      p.1 < n ∧ p.2 < n ∧ (p.1 : Int) + p.2 * d ≡ k [ZMOD (n : Int)] := by
  have hgcd : Int.gcd s n = 1 := by
    by_contra hne
    have := (hiddenNumberParams_error_iff n hn r s z .zeroDivision).mpr ⟨rfl, hne⟩
    rw [h] at this; cases this
  refine ⟨hgcd, fun d k hsig => ?_⟩
  obtain ⟨a, b, h1, h2, h3, h4⟩ := hiddenNumberParams_spec n hn r s z d k hgcd hsig
  cases h.symm.trans h1
  exact ⟨h2, h3, h4⟩

theorem gcd_eq_one_of_emod_ne_zero (n : Nat) (hp : n.Prime) (s : Int) (hs : s % (n : Int) ≠ 0) :
    Int.gcd s n = 1 :=
  gcd_eq_one_of_not_dvd n hp s fun h => hs (Int.emod_eq_zero_of_dvd h)

/-! ### Hex2Bytes -/

/-- value of a hex digit character (0 for a non-digit). -/
def hexDigitVal (c : Char) : Nat := match hexVal? c with | some v => v | none => 0

/-- big-endian base-16 value of a string of hex digits. -/
def hexNum (s : List Char) : Nat := s.foldl (fun a c => a * 16 + hexDigitVal c) 0

/-- every character is a hex digit `0-9a-fA-F`. -/
def AllHex (s : List Char) : Prop := ∀ c ∈ s, hexVal? c ≠ none

theorem hexVal?_some {c : Char} {v : Nat} (h : hexVal? c = some v) :
    v < 16 ∧ isPySpace c = false := by
  unfold hexVal? at h
  unfold isPySpace
  split_ifs at h <;> simp only [Option.some.injEq] at h <;>
    exact ⟨by omega, by simp; omega⟩

theorem hexNum_foldl (l : List Char) (acc : Nat) :
    l.foldl (fun a c => a * 16 + hexDigitVal c) acc = acc * 16 ^ l.length + hexNum l :=
  foldl_digits 16 hexDigitVal l acc

theorem hexNum_cons (c : Char) (t : List Char) :
    hexNum (c :: t) = hexDigitVal c * 16 ^ t.length + hexNum t := by
  simp only [hexNum, List.foldl_cons]
  rw [hexNum_foldl]; simp [hexNum]

theorem fromHex_even : ∀ (k : Nat) (s : List Char), s.length = 2 * k → AllHex s →
    ∃ bs, fromHex s = .ok bs ∧ bs.length = k ∧ (∀ x ∈ bs, x < 256) ∧ bytes2int bs = hexNum s
  | 0, s, hl, _ => by
    have : s = [] := List.eq_nil_of_length_eq_zero (by omega)
    subst this
    exact ⟨[], by simp [fromHex], rfl, by simp, by simp [bytes2int, hexNum]⟩
  | k + 1, s, hl, hh => by
    match s, hl, hh with
    | c :: d :: rest, hl, hh =>
      have hc : hexVal? c ≠ none := hh c (by simp)
      have hd : hexVal? d ≠ none := hh d (by simp)
      have hrest : AllHex rest := fun x hx => hh x (by simp [hx])
      have hlr : rest.length = 2 * k := by simp only [List.length_cons] at hl; omega
      obtain ⟨bs, h1, h2, h3, h4⟩ := fromHex_even k rest hlr hrest
      obtain ⟨vc, hvc⟩ := Option.ne_none_iff_exists'.1 hc
      obtain ⟨vd, hvd⟩ := Option.ne_none_iff_exists'.1 hd
      obtain ⟨lc, hsp⟩ := hexVal?_some hvc
      have ld := (hexVal?_some hvd).1
      refine ⟨(vc * 16 + vd) :: bs, ?_, by simp [h2], ?_, ?_⟩
      · rw [fromHex]
        simp [hsp, hexPair?, hvc, hvd, h1]
      · intro x hx
        simp only [List.mem_cons] at hx
        rcases hx with rfl | hx
        · omega
        · exact h3 x hx
      · rw [bytes2int_cons, h4, hexNum_cons, hexNum_cons, h2, List.length_cons, hlr]
        simp only [hexDigitVal, hvc, hvd]
        rw [show (256 : Nat) = 16 ^ 2 from rfl, ← Nat.pow_mul, Nat.pow_succ]
        ring

end Paranoid
