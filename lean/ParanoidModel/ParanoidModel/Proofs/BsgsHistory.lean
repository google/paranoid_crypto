/-
Proofs/BsgsHistory.lean — the mutable attributes `_table` / `_table_size` over every history of
BatchDL / ExtendedBatchDL / BatchDLOfDifferences calls on one curve object.
-/
import ParanoidModel.Proofs.BsgsMain
namespace Paranoid.Bsgs
open Paranoid Paranoid.Ec WeierstrassCurve

/-- one call on the curve object (arguments incl. the values the float oracles took). -/
inductive Op where
  | dl (points : List Pt) (n ts m : Nat)
  | ext (points : List Pt) (ts m : Nat)
  | diff (points other : List Pt) (maxDiff m : Nat)

/-- state after the call (its result is dropped). -/
def runOp (c : Curve) (st : EcState) : Op → Except PyErr EcState
  | .dl points n ts m => (batchDL c st points n ts m).map Prod.snd
  | .ext points ts m => (extendedBatchDL c st points ts m).map Prod.snd
  | .diff points other maxDiff m => (batchDLOfDifferences c st points other maxDiff m).map Prod.snd

/-- state after a history of calls; the error of the first call that raises. -/
def runOps (c : Curve) : EcState → List Op → Except PyErr EcState
  | st, [] => .ok st
  | st, op :: ops =>
    match runOp c st op with
    | .error e => .error e
    | .ok st' => runOps c st' ops

/-- `_table` is `{}` with `_table_size = 0`, or it is exactly `PointTable(g, _table_size)` (for the
split `m ≥ 1` the float square root produced when it was built). -/
def TableIs (c : Curve) (st : EcState) : Prop :=
  (st.tableSize = 0 ∧ st.table = []) ∨
  ∃ m, 1 ≤ m ∧ 1 ≤ st.tableSize ∧ pointTable c c.g st.tableSize m = .ok st.table

theorem tableIs_init (c : Curve) : TableIs c (StateG.init listImpl) := .inl ⟨rfl, rfl⟩

theorem ensureTable_tableIs (c : Curve) {st st' : EcState} (h : TableIs c st) {size m : Nat}
    (he : ensureTableG listImpl c st size m = .ok st') :
    TableIs c st' ∧ st.tableSize ≤ st'.tableSize := by
  unfold ensureTableG at he
  split at he
  · rename_i hgt
    rw [pointTableG_list] at he
    split at he
    · cases he
    · rename_i t ht
      cases he
      refine ⟨.inr ⟨m, ?_, by simp only; omega, ht⟩, by simp only; omega⟩
      by_contra hm
      have : m = 0 := by omega
      subst this
      simp [pointTable] at ht
  · cases he; exact ⟨h, le_refl _⟩

theorem runOp_state (c : Curve) {st st' : EcState} (op : Op) (he : runOp c st op = .ok st') :
    st' = st ∨ ∃ size m, ensureTableG listImpl c st size m = .ok st' := by
  cases op with
  | dl points n ts m =>
    cases h : batchDL c st points n ts m with
    | error e => rw [runOp, h] at he; cases he
    | ok r =>
      rw [runOp, h] at he; cases he
      exact .inr ⟨ts, m, (batchDLG_ok.mp h).1⟩
  | ext points ts m =>
    cases h : extendedBatchDL c st points ts m with
    | error e => rw [runOp, h] at he; cases he
    | ok r =>
      rw [runOp, h] at he; cases he
      obtain ⟨_, _, _, _, _, h3, _⟩ := extendedBatchDLB_ok.mp h
      exact .inr ⟨ts, m, (batchDLG_ok.mp h3).1⟩
  | diff points other maxDiff m =>
    cases h : batchDLOfDifferences c st points other maxDiff m with
    | error e => rw [runOp, h] at he; cases he
    | ok r =>
      rw [runOp, h] at he; cases he
      have := batchDLOfDifferencesG_ok.mp h
      split at this
      · exact .inl this.2
      · exact .inr ⟨maxDiff, m, this.1⟩

theorem runOp_tableIs (c : Curve) {st st' : EcState} (h : TableIs c st) (op : Op)
    (he : runOp c st op = .ok st') : TableIs c st' ∧ st.tableSize ≤ st'.tableSize := by
  obtain rfl | ⟨size, m, h1⟩ := runOp_state c op he
  · exact ⟨h, le_refl _⟩
  · exact ensureTable_tableIs c h h1

/-- `ExtendedBatchDL` with any bound leaves a reachable `_table` state behind. -/
theorem extendedBatchDLB_tableIs (c : Curve) (bound : Nat) {st st' : EcState} (h : TableIs c st)
    {points : List Pt} {ts m : Nat} {dls : List (Option Int)}
    (he : extendedBatchDLB listImpl c bound st points ts m = .ok (dls, st')) :
    TableIs c st' ∧ st.tableSize ≤ st'.tableSize :=
  let ⟨_, _, _, _, _, h3, _⟩ := extendedBatchDLB_ok.mp he
  ensureTable_tableIs c h (batchDLG_ok.mp h3).1

theorem runOps_tableIs (c : Curve) : ∀ (ops : List Op) {st st' : EcState}, TableIs c st →
    runOps c st ops = .ok st' → TableIs c st' ∧ st.tableSize ≤ st'.tableSize
  | [], st, st', h, he => by cases he; exact ⟨h, le_refl _⟩
  | op :: ops, st, st', h, he => by
    rw [runOps] at he
    split at he
    · cases he
    · rename_i st1 h1
      obtain ⟨a, b⟩ := runOp_tableIs c h op h1
      obtain ⟨a', b'⟩ := runOps_tableIs c ops a he
      exact ⟨a', by omega⟩

section group
variable (c : Curve) [hp : Fact (Nat.Prime c.p)]

/-- a reachable `_table` state answers like an EXACT table of the multiples `0 … V-1` of `G`. -/
theorem tableOK_exact_of_tableIs (hc : c.Good) (hG : onCurve c c.g = true) {st : EcState}
    (h : TableIs c st) : ∃ V, st.tableSize ≤ V ∧ TableOK c st.table.get? V V := by
  rcases h with ⟨h1, h2⟩ | ⟨m, hm, hs, ht⟩
  · refine ⟨0, by omega, ⟨fun k v hv => ?_, fun v hv => by omega⟩⟩
    rw [h2] at hv; simp [XTable.get?] at hv
  · obtain ⟨t, ht1, hle, ht2, ht3⟩ := pointTable_spec c hc c.g hG st.tableSize m (by omega) hm
    rw [ht] at ht1; cases ht1
    exact ⟨_, hle, ht2, ht3⟩

theorem stateOK_of_tableIs (hc : c.Good) (hG : onCurve c c.g = true) {st : EcState}
    (h : TableIs c st) : ∃ V, StateOK c st V :=
  let ⟨V, hle, hV⟩ := tableOK_exact_of_tableIs c hc hG h
  ⟨V, hV.mono c hle⟩

end group
end Paranoid.Bsgs
