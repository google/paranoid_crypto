/-
Proofs/NistErrors.lean — for every test of Model/Nist.lean (and its float-oracle extension Model/NistFloat.lean)
WHICH exception is raised, as a function of the integer arguments and the oracle flags (for Props/C12Errors.lean),
and for the loops that can raise what an `.ok` result is (`*_ok_iff`, `lookupAll_ok`; for Proofs/NistStats*.lean).

The model functions are guards (`if … then .error k else …`) in front of a value or of a loop that can raise;
the loops (`sumNegLogProb`, `scatterSum`, `lookupAll`, `notmBlocks`) are all `List.mapM` in `Except`, whose
ok- and error-behaviour is characterised in Proofs/ExceptList.lean.
-/
import ParanoidModel.Model.NistFloat
import ParanoidModel.Proofs.Basic
import ParanoidModel.Proofs.Nist
import ParanoidModel.Proofs.Nist2Blocks
import ParanoidModel.Proofs.ExceptList
namespace Paranoid.Nist
open Paranoid

theorem forall₂_sum_ge {α} {R : α → Nat → Prop} (hR : ∀ a x, R a x → 1 ≤ x) :
    ∀ {l : List α} {xs : List Nat}, List.Forall₂ R l xs → l.length ≤ xs.sum
  | _, _, .nil => Nat.le_refl 0
  | _, _, .cons h t => by
    have := hR _ _ h
    have := forall₂_sum_ge hR t
    simp only [List.length_cons, List.sum_cons]; omega

/-! ## the oracle wrapper -/

theorem thenChi_error_iff {α} (o : ChiOracle) (x : Except PyErr α) (e : PyErr) :
    thenChi o x = .error e ↔
      x = .error e ∨ ((∃ a, x = .ok a) ∧ o.rejects = true ∧ e = .valueError) := by
  unfold thenChi chiValidate ChiOracle.rejects
  cases x <;> cases o.badProb <;> cases o.badSum <;> simp [eq_comm]

theorem thenChi_ok_iff {α} (o : ChiOracle) (x : Except PyErr α) (a : α) :
    thenChi o x = .ok a ↔ x = .ok a ∧ o.rejects = false := by
  unfold thenChi chiValidate ChiOracle.rejects
  cases x <;> cases o.badProb <;> cases o.badSum <;> simp

theorem thenChi_clean {α} (x : Except PyErr α) : thenChi ChiOracle.clean x = x := by
  unfold thenChi chiValidate ChiOracle.clean
  cases x <;> simp

/-! ## Serial, ApproximateEntropy -/

theorem serialWith_error_iff (bits n mm : Nat) (e : PyErr) :
    serialWith bits n mm = .error e ↔ n < mm ∧ e = .valueError := guard_error_iff

theorem apenWith_error_iff (bits n mm : Nat) (e : PyErr) :
    apenWith bits n mm = .error e ↔ n < mm + 1 ∧ e = .valueError := guard_error_iff

theorem bitLength_le_succ (n : Nat) : bitLength n ≤ n + 1 := by
  rw [bitLength_le_iff]
  exact Nat.lt_of_lt_of_le Nat.lt_two_pow_self (Nat.pow_le_pow_right (by omega) (by omega))

theorem serialMMax_le (n : Nat) (hn : 2 ≤ n) : serialMMax n ≤ n := by
  have := bitLength_le_succ n
  unfold serialMMax
  omega

theorem apenMMax_lt (n : Nat) (hn : 3 ≤ n) : apenMMax n + 1 ≤ n := by
  have := bitLength_le_succ n
  unfold apenMMax
  split_ifs <;> omega

/-! ## linear complexity (oracle: the complexities) -/

theorem lfsrNegLogProb_error_iff (m c : Nat) (e : PyErr) :
    lfsrNegLogProb m c = .error e ↔ (m = 0 ∨ m < c) ∧ e = .valueError := by
  unfold lfsrNegLogProb
  split_ifs <;> simp_all [eq_comm]

theorem lfsrNegLogProb_pos (n c x : Nat) (h : lfsrNegLogProb n c = .ok x) : 1 ≤ x := by
  simp only [lfsrNegLogProb, ite_eq_iff, reduceCtorEq, and_false, false_or, Except.ok.injEq] at h
  omega

theorem sumNegLogProb_eq_mapM (m : Nat) : ∀ cs : List Nat,
    sumNegLogProb m cs = (cs.mapM (lfsrNegLogProb m)).map List.sum
  | [] => rfl
  | c :: cs => by
    rw [sumNegLogProb, List.mapM_cons, sumNegLogProb_eq_mapM m cs]
    cases lfsrNegLogProb m c <;> cases cs.mapM (lfsrNegLogProb m) <;> rfl

theorem sumNegLogProb_error_iff (m : Nat) (cs : List Nat) (e : PyErr) :
    sumNegLogProb m cs = .error e ↔ (∃ c ∈ cs, m = 0 ∨ m < c) ∧ e = .valueError := by
  rw [sumNegLogProb_eq_mapM, map_error_iff]
  exact mapM_error_iff _ _ _ (lfsrNegLogProb_error_iff m) cs e

theorem sumNegLogProb_ok_iff (m : Nat) (cs : List Nat) (q : Nat) :
    sumNegLogProb m cs = .ok q ↔
      ∃ xs : List Nat, List.Forall₂ (fun c x => lfsrNegLogProb m c = .ok x) cs xs ∧ xs.sum = q := by
  simp only [sumNegLogProb_eq_mapM, map_ok_iff, mapM_ok_iff]

theorem linearComplexityImpl_eq (m : Nat) (cs : List Nat) :
    linearComplexityImpl m cs =
      if cs = [] then .error .zeroDivision
      else (sumNegLogProb m cs).map fun q =>
        { blockSize := m, hist := (tally 7 (cs.map (lcClass ((m + 1) / 2)))).toList, q := q,
          nblocks := cs.length } := by
  unfold linearComplexityImpl
  simp only [List.isEmpty_iff]
  cases sumNegLogProb m cs <;> rfl

theorem linearComplexityImpl_error_iff (m : Nat) (cs : List Nat) (e : PyErr) :
    linearComplexityImpl m cs = .error e ↔
      (cs = [] ∧ e = .zeroDivision) ∨ (cs ≠ [] ∧ (∃ c ∈ cs, m = 0 ∨ m < c) ∧ e = .valueError) := by
  rw [linearComplexityImpl_eq, ite_error_iff, map_error_iff, sumNegLogProb_error_iff]

/-! ## scatter -/

theorem scatterSum_eq_mapM : ∀ ss cs : List Nat,
    scatterSum ss cs = ((ss.zip cs).mapM (fun p => lfsrNegLogProb p.1 p.2)).map List.sum
  | [], _ => rfl
  | _ :: _, [] => rfl
  | s :: ss, c :: cs => by
    rw [scatterSum, List.zip_cons_cons, List.mapM_cons, scatterSum_eq_mapM ss cs]
    cases lfsrNegLogProb s c <;> cases (ss.zip cs).mapM (fun p => lfsrNegLogProb p.1 p.2) <;> rfl

theorem scatterSum_error_iff (ss cs : List Nat) (e : PyErr) :
    scatterSum ss cs = .error e ↔ (∃ p ∈ ss.zip cs, p.1 = 0 ∨ p.1 < p.2) ∧ e = .valueError := by
  rw [scatterSum_eq_mapM, map_error_iff]
  exact mapM_error_iff _ _ _ (fun (p : Nat × Nat) => lfsrNegLogProb_error_iff p.1 p.2) _ e

theorem scatterSum_ok_iff (ss cs : List Nat) (q : Nat) :
    scatterSum ss cs = .ok q ↔
      ∃ xs : List Nat,
        List.Forall₂ (fun (sc : Nat × Nat) x => lfsrNegLogProb sc.1 sc.2 = .ok x) (ss.zip cs) xs ∧
        xs.sum = q := by
  simp only [scatterSum_eq_mapM, map_ok_iff, mapM_ok_iff]

/-! ## universal -/

theorem universalMinN_facts : ∀ p ∈ universalMinN, p.1 ≠ 0 ∧ p.1 ≤ 16 ∧ 10 * 2 ^ p.1 < p.2 / p.1 := by
  decide

/-! ## overlapping -/

theorem overlappingWith_error_iff (bits n m bs : Nat) (e : PyErr) :
    overlappingWith bits n m bs = .error e ↔
      (bs = 0 ∧ e = .zeroDivision) ∨ (bs ≠ 0 ∧ n < bs ∧ e = .insufficientData) ∨
      (bs ≠ 0 ∧ bs ≤ n ∧ bs < m + 4 ∧ e = .valueError) := by
  unfold overlappingWith
  rw [ite_error_iff, ite_error_iff, guard_error_iff]
  by_cases h1 : bs = 0
  · simp [h1]
  · have h2 : n / bs = 0 ↔ n < bs := by rw [Nat.div_eq_zero_iff]; simp [h1]
    simp only [h1, h2, Nat.not_lt, ne_eq, not_false_eq_true, true_and, false_and, false_or]

/-! ## rank -/

theorem binaryMatrixRankImpl_error_iff (rows : List Nat) (r c k : Nat) (e : PyErr) :
    binaryMatrixRankImpl rows r c k = .error e ↔
      (r = 0 ∧ e = .zeroDivision) ∨
      (r ≠ 0 ∧ rows.length < r ∧ e = .insufficientData) ∨
      (r ≠ 0 ∧ r ≤ rows.length ∧ ¬ (r = c ∧ r ≥ 31 ∧ k ≤ 5) ∧ (k = 0 ∨ c < r) ∧ e = .valueError) := by
  unfold binaryMatrixRankImpl
  rw [ite_error_iff, ite_error_iff]
  by_cases h1 : r = 0
  · simp [h1]
  have h2 : rows.length / r < 1 ↔ rows.length < r := by
    rw [Nat.lt_one_iff, Nat.div_eq_zero_iff]; simp [h1]
  by_cases h3 : r = c ∧ r ≥ 31 ∧ k ≤ 5
  · simp only [h1, h2, eq_true h3, if_true, reduceCtorEq, and_false, or_false, not_true_eq_false, false_and,
      ne_eq, not_false_eq_true, true_and, false_or]
  · simp only [h1, h2, eq_false h3, if_false, guard_error_iff, Nat.not_lt, ne_eq, not_false_eq_true, true_and,
      false_and, false_or]

theorem binaryMatrixRank_error_iff (bits n r c k : Nat) (cs : Bool) (e : PyErr) :
    binaryMatrixRank bits n r c k cs = .error e ↔
      (min r c < k ∧ e = .valueError) ∨
      (k ≤ min r c ∧ cs = true ∧ n < 38 * r * c ∧ e = .insufficientData) ∨
      (k ≤ min r c ∧ ¬ (cs = true ∧ n < 38 * r * c) ∧ (c = 0 ∨ r = 0) ∧ e = .zeroDivision) ∨
      (k ≤ min r c ∧ ¬ (cs = true ∧ n < 38 * r * c) ∧ c ≠ 0 ∧ r ≠ 0 ∧ n / c < r ∧ e = .insufficientData) ∨
      (k ≤ min r c ∧ ¬ (cs = true ∧ n < 38 * r * c) ∧ c ≠ 0 ∧ r ≠ 0 ∧ r ≤ n / c ∧
        ¬ (r = c ∧ r ≥ 31 ∧ k ≤ 5) ∧ (k = 0 ∨ c < r) ∧ e = .valueError) := by
  unfold binaryMatrixRank
  rw [ite_error_iff, ite_error_iff, ite_error_iff, binaryMatrixRankImpl_error_iff]
  simp only [List.length_map, chunks_length, bitList_length]
  by_cases h1 : min r c < k
  · simp [h1, Nat.not_le.mpr h1]
  by_cases h2 : cs = true ∧ n < 38 * r * c
  · simp [h1, Nat.not_lt.mp h1, h2]
  have h2' : ¬ (cs = true ∧ n < 38 * r * c ∧ e = .insufficientData) := fun h => h2 ⟨h.1, h.2.1⟩
  by_cases h3 : c = 0
  · simp [h3]
  · simp only [h1, Nat.not_lt.mp h1, eq_false h2, eq_false h2', h3, ne_eq, not_false_eq_true, true_and, false_and,
      false_or]

/-- with `check_size` the NIST minimum 38·r·c decides, for every k and every oracle answer: once it is met
there are 38·r ≥ r rows, so the "no complete matrix" branch cannot fire. -/
theorem rank_insufficient_any (o : ChiOracle) (bits n r c k : Nat) :
    binaryMatrixRankF o bits n r c k true = .error .insufficientData ↔ k ≤ min r c ∧ n < 38 * r * c := by
  unfold binaryMatrixRankF
  rw [thenChi_error_iff, binaryMatrixRank_error_iff]
  simp only [reduceCtorEq, and_false, false_or, or_false, true_and, and_true, ne_eq]
  constructor
  · rintro (h | ⟨hk, h1, hc, hr, h2⟩)
    · exact h
    · refine ⟨hk, ?_⟩
      by_contra hge
      have h3 : 38 * r ≤ n / c := (Nat.le_div_iff_mul_le (Nat.pos_of_ne_zero hc)).mpr (by omega)
      omega
  · exact Or.inl

/-! ## random walk -/

theorem randomWalk_repaired_error_iff (bits n ms mc msv : Nat) (e : PyErr) :
    randomWalk .repaired bits n ms mc msv = .error e ↔ n = 0 ∧ e = .zeroDivision := by
  unfold randomWalk
  split
  · rename_i h; simp [h, eq_comm]
  · rename_i h
    have hm2 : (0 : Int) ≤ ((max ms msv : Nat) : Int) := Int.natCast_nonneg _
    obtain ⟨a, ha, -⟩ := rwMax_repaired _ hm2 (walkFrom 0 (bitList bits n))
    obtain ⟨b, hb, -⟩ := rwMin_repaired _ hm2 (walkFrom 0 (bitList bits n))
    unfold randomWalkOf
    rw [rwRun, rwRun_eq_moves, show rwInit.s = 0 from rfl, ha, hb]
    simp [h]

theorem randomWalkF_error_iff (ez : Bool) (bits n ms mc msv : Nat) (e : PyErr) :
    randomWalkF ez .repaired bits n ms mc msv = .error e ↔
      (n = 0 ∧ e = .zeroDivision) ∨
      (∃ o, randomWalk .repaired bits n ms mc msv = .ok o ∧ 500 ≤ o.cycles ∧ 1 ≤ ms ∧ ez = true ∧
        e = .zeroDivision) := by
  unfold randomWalkF excursionsEvaluated
  cases h : randomWalk .repaired bits n ms mc msv with
  | error e' =>
    have := (randomWalk_repaired_error_iff bits n ms mc msv e').mp h
    simp [this.1, this.2, eq_comm]
  | ok o =>
    have hn : n ≠ 0 := fun hn => by
      rw [(randomWalk_repaired_error_iff bits n ms mc msv .zeroDivision).mpr ⟨hn, rfl⟩] at h; cases h
    simp only [guard_error_iff, Bool.and_eq_true, decide_eq_true_eq, hn, false_and, false_or,
      Except.ok.injEq, exists_eq_left', and_assoc]

/-! ## non-overlapping template matching -/

theorem countsNoWrap_size (l : List Bool) (m : Nat) : (countsNoWrap l m).size = 2 ^ m := by
  unfold countsNoWrap tally
  rw [tally_fold_size]; simp

theorem lookupAll_eq_mapM (cnt : Array Nat) : ∀ ts : List Nat,
    lookupAll cnt ts =
      ts.mapM (fun t => match cnt[t]? with | none => .error .indexError | some v => .ok v)
  | [] => rfl
  | t :: ts => by
    rw [lookupAll, List.mapM_cons, ← lookupAll_eq_mapM cnt ts]
    cases cnt[t]? with
    | none => rfl
    | some v => cases lookupAll cnt ts <;> rfl

theorem lookupAll_error_iff (cnt : Array Nat) (ts : List Nat) (e : PyErr) :
    lookupAll cnt ts = .error e ↔ (∃ t ∈ ts, cnt.size ≤ t) ∧ e = .indexError := by
  rw [lookupAll_eq_mapM]
  refine mapM_error_iff _ _ _ (fun t e => ?_) ts e
  by_cases ht : t < cnt.size
  · simp [ht]
  · simp [ht, Nat.not_lt.mp ht, eq_comm]

theorem lookupAll_ok (cnt : Array Nat) (ts vs : List Nat) (h : lookupAll cnt ts = .ok vs) :
    vs = ts.map (fun t => cnt[t]?.getD 0) := by
  rw [lookupAll_eq_mapM, mapM_ok_iff] at h
  refine forall₂_eq_map h (fun t _ v hv => ?_)
  cases hc : cnt[t]? with
  | none => rw [hc] at hv; cases hv
  | some w => rw [hc] at hv; cases hv; rfl

theorem notmBlocks_error_iff (N : Nat) (ts : List Nat) (cnts : List (Array Nat))
    (hs : ∀ c ∈ cnts, c.size = N) (e : PyErr) :
    notmBlocks cnts ts = .error e ↔ cnts ≠ [] ∧ (∃ t ∈ ts, N ≤ t) ∧ e = .indexError := by
  unfold notmBlocks
  rw [mapM_error_iff _ _ _ (fun c => lookupAll_error_iff c ts) cnts e, ← and_assoc]
  refine and_congr_left' ⟨?_, ?_⟩
  · rintro ⟨c, hc, t, ht, hle⟩
    exact ⟨List.ne_nil_of_mem hc, t, ht, hs c hc ▸ hle⟩
  · rintro ⟨hne, t, ht, hle⟩
    obtain ⟨c, hc⟩ := List.exists_mem_of_ne_nil _ hne
    exact ⟨c, hc, t, ht, (hs c hc).symm ▸ hle⟩

theorem notmImpl_eq (blocks : List (List Bool)) (bs m : Nat) (ts : List Nat) :
    notmImpl blocks bs m ts =
      if ∃ t ∈ ts, isNonOverlapping t m = false then .error .valueError
      else if bs < m ∧ blocks ≠ [] then .error .valueError
      else (notmBlocks (blocks.map fun b => countsNoWrap b m) ts).map fun counts =>
        { m := m, blockSize := bs, templates := ts, counts := counts } := by
  unfold notmImpl
  simp only [List.any_eq_true, Bool.not_eq_eq_eq_not, Bool.not_true, gt_iff_lt,
    List.isEmpty_eq_false_iff]
  cases notmBlocks (blocks.map fun b => countsNoWrap b m) ts <;> rfl

theorem notmImpl_error_iff (blocks : List (List Bool)) (bs m : Nat) (ts : List Nat) (e : PyErr) :
    notmImpl blocks bs m ts = .error e ↔
      ((∃ t ∈ ts, isNonOverlapping t m = false) ∧ e = .valueError) ∨
      ((∀ t ∈ ts, isNonOverlapping t m = true) ∧
        ((bs < m ∧ blocks ≠ [] ∧ e = .valueError) ∨
         (¬ (bs < m ∧ blocks ≠ []) ∧ blocks ≠ [] ∧ (∃ t ∈ ts, 2 ^ m ≤ t) ∧ e = .indexError))) := by
  have hsz : ∀ c ∈ blocks.map (fun b => countsNoWrap b m), c.size = 2 ^ m := by
    intro c hc
    obtain ⟨b, _, rfl⟩ := List.mem_map.mp hc
    exact countsNoWrap_size b m
  rw [notmImpl_eq, ite_error_iff, ite_error_iff, map_error_iff, notmBlocks_error_iff _ _ _ hsz]
  simp only [not_exists, not_and, Bool.not_eq_false, ne_eq, List.map_eq_nil_iff, and_assoc]

theorem notmImpl_ok_iff (blocks : List (List Bool)) (bs m : Nat) (ts : List Nat) (o : NotmOut) :
    notmImpl blocks bs m ts = .ok o ↔
      (∀ t ∈ ts, isNonOverlapping t m = true) ∧ (blocks ≠ [] → m ≤ bs) ∧
      ∃ counts, notmBlocks (blocks.map fun b => countsNoWrap b m) ts = .ok counts ∧
        { m := m, blockSize := bs, templates := ts, counts := counts } = o := by
  rw [notmImpl_eq, ite_ok_iff, ite_ok_iff, map_ok_iff, not_and', Nat.not_lt]
  simp only [not_exists, not_and, Bool.not_eq_false]

theorem defaultTemplates_mem (m t : Nat) (h : t ∈ defaultTemplates m) :
    isNonOverlapping t m = true ∧ t < 2 ^ m := by
  unfold defaultTemplates at h
  rw [List.mem_filter, List.mem_range] at h
  exact ⟨h.2, h.1⟩

theorem notmM_le (bs m : Nat) (h : notmM bs = some m) : 4 ≤ bs ∧ m ≤ bs ∧ 2 ≤ m ∧ m ≤ 10 := by
  -- `split_ifs` is exponential in the depth of the ladder
  simp only [notmM, ite_eq_iff, reduceCtorEq, and_false, false_or, Option.some.injEq] at h
  omega

theorem notm_blocks_ne_nil (bits n nb : Nat) (h1 : nb ≠ 0) (h2 : n / nb ≠ 0) :
    chunks (bitList bits n) (n / nb) ≠ [] := by
  intro h
  have hl := chunks_length (bitList bits n) (n / nb)
  rw [h, bitList_length] at hl
  have : nb ≤ n / (n / nb) := by
    rw [Nat.le_div_iff_mul_le (Nat.pos_of_ne_zero h2)]
    rw [Nat.mul_comm]
    exact Nat.div_mul_le_self n nb
  simp at hl
  omega

def notmTemplates (m : Nat) (ts : Option (List Nat)) : List Nat :=
  match ts with | some t => t | none => defaultTemplates m

theorem nonOverlapping_default_eq (bits n nb : Nat) (h : nb ≠ 0) :
    nonOverlapping bits n nb none none =
      match notmM (n / nb) with
      | none => .error .insufficientData
      | some m => notmImpl (chunks (bitList bits n) (n / nb)) (n / nb) m (defaultTemplates m) := by
  unfold nonOverlapping
  rw [if_neg h]
  rfl

theorem nonOverlapping_given_eq (bits n nb m : Nat) (ts : Option (List Nat)) (h1 : nb ≠ 0)
    (h2 : n / nb ≠ 0) :
    nonOverlapping bits n nb (some m) ts =
      notmImpl (chunks (bitList bits n) (n / nb)) (n / nb) m (notmTemplates m ts) := by
  unfold nonOverlapping notmTemplates
  rw [if_neg h1]
  dsimp only
  rw [if_neg h2]
  cases ts <;> rfl

theorem notmImpl_top_error_iff (bits n nb m : Nat) (T : List Nat) (h1 : nb ≠ 0) (h2 : n / nb ≠ 0) (e : PyErr) :
    notmImpl (chunks (bitList bits n) (n / nb)) (n / nb) m T = .error e ↔
      ((∃ t ∈ T, isNonOverlapping t m = false) ∧ e = .valueError) ∨
      ((∀ t ∈ T, isNonOverlapping t m = true) ∧ n / nb < m ∧ e = .valueError) ∨
      ((∀ t ∈ T, isNonOverlapping t m = true) ∧ m ≤ n / nb ∧ (∃ t ∈ T, 2 ^ m ≤ t) ∧ e = .indexError) := by
  have hb := notm_blocks_ne_nil bits n nb h1 h2
  rw [notmImpl_error_iff, and_or_left]
  simp only [hb, ne_eq, not_false_eq_true, and_true, true_and, Nat.not_lt]

end Paranoid.Nist
