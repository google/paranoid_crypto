/-
Proofs/EcPrivKey.lean — the hypothesis `c.n • toPoint c P = 0` of the ExtendedBatchDL /
CheckWeakECPrivateKey soundness theorems, discharged for keys THAT HAVE A PRIVATE KEY.

For the nine named curves (cofactor 1) `IsValidPublicKey` tests "on the curve and in range" only, so
"valid point ⇒ `n • P = ∞`" needs `#E(F_p) = n`, which is a fact of the standards that is NOT proved
here (no point counting in Mathlib).  The property quantifies over "valid points with arbitrary
private keys": for `P = d • G` the hypothesis follows from `n • G = ∞`, which IS proved
(C11 `generator_of_paramsOK`, evaluated `paramsOK`).

The file continues Proofs/BsgsCheckLoop.lean (hence `namespace Paranoid.Bsgs`) and serves C02 / C10 /
C17, not C11. Its second half is unrelated bookkeeping: how the per-entry hypotheses `WKHyp` / `SDHyp`
of the two EC key checks are obtained for a whole factory.
-/
import ParanoidModel.Proofs.BsgsCheckLoop
namespace Paranoid.Bsgs
open Paranoid Paranoid.Ec WeierstrassCurve

section
variable (c : Curve) [Fact (Nat.Prime c.p)]

/-- a point with a private key is in the subgroup generated by `G`. -/
theorem order_smul_of_privateKey (hNG : c.n • Gp c = 0) {P : Pt} {d : Int}
    (h : toPoint c P = d • Gp c) : c.n • toPoint c P = 0 := by
  rw [h, ← natCast_zsmul, ← mul_zsmul, mul_comm, mul_zsmul, natCast_zsmul, hNG, zsmul_zero]

/-- `ExtendedBatchDL` (any bound, state, oracle values, neighbours): the value recorded for an
on-curve point `P = d • G` is a discrete log of `P`. -/
theorem extendedBatchDLB_sound_priv (hc : c.Good) (hG : onCurve c c.g = true) (hn : 2 ≤ c.n)
    (hNG : c.n • Gp c = 0) (bound : Nat) (st : EcState) (points : List Pt) (ts m : Nat)
    (res : List (Option Int)) (st' : EcState)
    (h : extendedBatchDLB listImpl c bound st points ts m = .ok (res, st'))
    (i : Nat) (P : Pt) (v d : Int) (hP : points[i]? = some P) (hon : onCurve c P = true)
    (hd : toPoint c P = d • Gp c) (hres : res[i]? = some (some v)) : v • Gp c = toPoint c P :=
  extendedBatchDLB_sound c hc hG hn bound st points ts m res st' h i P v hP hon
    (order_smul_of_privateKey c hNG hd) hres

/-- a value that is a discrete log of `P` as soon as `n • P = ∞` is one of `P = d • G`, and is
congruent to `d` modulo the prime order `n`. -/
theorem dlog_of_privateKey (hpar : c.paramsOK = true) (hn : Nat.Prime c.n) {P : Pt} {v d : Int}
    (hd : toPoint c P = d • Gp c) (hs : c.n • toPoint c P = 0 → v • Gp c = toPoint c P) :
    v • Gp c = toPoint c P ∧ (v - d) % (c.n : Int) = 0 := by
  obtain ⟨_, _, _, h4, _, h6⟩ := generator_of_paramsOK c hpar
  have hv := hs (order_smul_of_privateKey c h4 hd)
  exact ⟨hv, dlog_emod c (h6 hn) (hv.trans hd)⟩

end

/-- the soundness clause of `WeakKeyOK` for a key with a private key `d` (any integer): the
attached `DISCRETE_LOG` `v` satisfies `v • G = P`, and `v ≡ d (mod n)`. -/
def WeakKeyOKPriv (c : Curve) (hp : Nat.Prime c.p) (k : ECKey) (kv : KV) : Prop :=
  haveI : Fact (Nat.Prime c.p) := ⟨hp⟩
  ∀ v d : Int, kv.info = some (.dlog v) → toPoint c k.pt = d • Gp c →
    v • Gp c = toPoint c k.pt ∧ (v - d) % (c.n : Int) = 0

/-- `WeakKeyOK` on a curve object with `paramsOK` and prime group order gives `WeakKeyOKPriv`: the
hypothesis `n • P = ∞` is not needed for keys that have a private key. -/
theorem weakKeyOK_priv {c : Curve} (hp : Nat.Prime c.p) (hpar : c.paramsOK = true)
    (hn : Nat.Prime c.n) {k : ECKey} {kv : KV} (h : WeakKeyOK c hp k kv) :
    WeakKeyOKPriv c hp k kv := by
  haveI : Fact (Nat.Prime c.p) := ⟨hp⟩
  intro v d hv hd
  exact dlog_of_privateKey c hpar hn hd (h.2.1 v hv)

theorem wkHyp_curveHyp {keys : List ECKey} {f : Factory} {sts : List EcState} {os : List (Nat × Nat)}
    (h : WKHyp keys f sts os) (e : FEntry) (he : e ∈ f) (c : Curve) (hc : e.curve = some c) :
    CurveHyp c :=
  let ⟨_, _, _, h'⟩ := (wkHyp_iff.mp h).exists_of_mem e he
  (h' c hc).1

/-- `WKHyp` / `SDHyp` for states and float values given per entry. -/
theorem wkHyp_map (keys : List ECKey) (g : FEntry → EcState) (o : Nat × Nat) (ho : 1 ≤ o.1 ∧ 1 ≤ o.2)
    (f : Factory) (h : ∀ e ∈ f, ∀ c, e.curve = some c → CurveHyp c ∧ TableIs c (g e) ∧
      (∀ P ∈ groupPoints e.id keys, onCurve c P = true)) :
    WKHyp keys f (f.map g) (f.map (fun _ => o)) :=
  wkHyp_iff.mpr (Forall₃.map g _ f fun e he c hc =>
    ⟨(h e he c hc).1, (h e he c hc).2.1, (h e he c hc).2.2, fun _ => ho⟩)

theorem sdHyp_map (keys : List ECKey) (maxDiff : Nat) (g : FEntry → EcState) (m : Nat) (hm : 1 ≤ m)
    (f : Factory) (h : ∀ e ∈ f, ∀ c, e.curve = some c → CurveHyp c ∧ TableIs c (g e) ∧
      (∀ P ∈ groupPoints e.id keys, onCurve c P = true ∧ Reduced c P)) :
    SDHyp keys maxDiff f (f.map g) (f.map (fun _ => m)) :=
  sdHyp_iff.mpr (Forall₃.map g _ f fun e he c hc =>
    ⟨(h e he c hc).1, (h e he c hc).2.1, (h e he c hc).2.2, fun _ => hm⟩)

end Paranoid.Bsgs
