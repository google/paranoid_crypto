/-
Proofs/EcComb.lean — BatchMultiplyG computes `(s mod n) • G` for every cache content satisfying the
cache invariant (comb method, Horner evaluation over BatchDouble / BatchAddList). The induction over
the comb is made once, for any relation between points and scalars that `Multiply(g, ·)`, `Add` and
`Double` respect (`CombRel`, `batchMultiplyG_rel`); "is `k • G`" is one such relation.
-/
import ParanoidModel.Proofs.EcCombArith
import ParanoidModel.Proofs.EcBatch
import ParanoidModel.Proofs.EcMul
namespace Paranoid.Ec
open Paranoid WeierstrassCurve
variable (c : Curve) [hp : Fact (Nat.Prime c.p)]

def RepG (P : Pt) (k : Nat) : Prop := onCurve c P = true ∧ toPoint c P = k • toPoint c c.g

/-- cache invariant of BatchMultiplyG: `self._cache[k] = k • G`. -/
def CacheOK (cache : Cache) : Prop := ∀ e ∈ cache, RepG c e.2 e.1

omit hp in
theorem cache_get?_mem : ∀ (cache : Cache) (k : Nat) (P : Pt), cache.get? k = some P → (k, P) ∈ cache
  | [], _, _, h => by simp [Cache.get?] at h
  | (k', P') :: rest, k, P, h => by
    unfold Cache.get? at h
    split at h
    · rename_i hk
      cases h; subst hk; exact List.mem_cons_self
    · exact List.mem_cons_of_mem _ (cache_get?_mem rest k P h)

/-- what BatchMultiplyG needs of a relation `Q P k` ("the point `P` stands for the scalar `k`") to
carry it through the comb: `Multiply(g, ·)`, `Add` and `Double` return and respect it. -/
structure CombRel (Q : Pt → Nat → Prop) : Prop where
  mul : ∀ k : Nat, ∃ P, multiply c c.g (k : Int) = .ok P ∧ Q P k
  add : ∀ {P P' a b}, Q P a → Q P' b → ∃ R, add c P P' = .ok R ∧ Q R (a + b)
  double : ∀ {P a}, Q P a → ∃ R, double c P = .ok R ∧ Q R (2 * a)

theorem combRel_repG (hc : c.Good) (hG : onCurve c c.g = true) : CombRel c (RepG c) where
  mul k := by
    obtain ⟨P, h1, h2, h3⟩ := multiply_zsmul c hc c.g k hG
    exact ⟨P, h1, h2, by rw [h3, natCast_zsmul]⟩
  add hP hQ := by
    obtain ⟨R, h1, h2, h3⟩ := add_refines c hc _ _ hP.1 hQ.1
    exact ⟨R, h1, h2, by rw [h3, hP.2, hQ.2, add_nsmul]⟩
  double hP := by
    obtain ⟨R, h1, h2, h3⟩ := double_refines c hc _ hP.1
    exact ⟨R, h1, h2, by rw [h3, hP.2, ← two_nsmul, ← mul_nsmul']⟩

variable {c} {Q : Pt → Nat → Prop} (hQ : CombRel c Q)
include hQ

theorem batchDouble_rel {f : Nat → Nat} {ps : List Pt} {ss : List Nat}
    (h : List.Forall₂ (fun P x => Q P (f x)) ps ss) :
    ∃ rs, batchDouble c ps = .ok rs ∧ List.Forall₂ (fun P x => Q P (2 * f x)) rs ss := by
  rw [batchDouble_eq_map]
  exact mapE_forall₂ h fun _ _ hP => hQ.double hP

theorem batchAddList_rel {f g : Nat → Nat} {ps qs : List Pt} {ss : List Nat}
    (h1 : List.Forall₂ (fun P x => Q P (f x)) ps ss)
    (h2 : List.Forall₂ (fun P x => Q P (g x)) qs ss) :
    ∃ rs, batchAddList c ps qs = .ok rs ∧ List.Forall₂ (fun P x => Q P (f x + g x)) rs ss := by
  rw [batchAddList_eq_map, if_neg (by rw [h1.length_eq, h2.length_eq]; simp)]
  induction h1 generalizing qs with
  | nil => cases h2; exact ⟨[], rfl, .nil⟩
  | cons hP _ ih =>
    cases h2 with
    | cons hQ' hqs =>
      obtain ⟨R, hR1, hR2⟩ := hQ.add hP hQ'
      obtain ⟨rs, hrs1, hrs2⟩ := ih hqs
      exact ⟨R :: rs, by simp [mapE, hR1, hrs1], .cons hR2 hrs2⟩

omit hp in
theorem bmgPoints_spec (i mask : Nat) :
    ∀ (ss : List Nat) (cache : Cache), (∀ e ∈ cache, Q e.2 e.1) →
    ∃ ps cache', bmgPoints c i mask ss cache = .ok (ps, cache') ∧ (∀ e ∈ cache', Q e.2 e.1) ∧
      cache <:+ cache' ∧ List.Forall₂ (fun P x => Q P (combWindow mask x i)) ps ss
  | [], cache, hcache => ⟨[], cache, rfl, hcache, List.suffix_refl _, .nil⟩
  | s :: ss, cache, hcache => by
    unfold bmgPoints
    cases hget : cache.get? ((s >>> i) &&& mask) with
    | some P =>
      obtain ⟨ps, cache', h1, h2, h3, h4⟩ := bmgPoints_spec i mask ss cache hcache
      simp only [h1]
      exact ⟨P :: ps, cache', rfl, h2, h3, .cons (hcache _ (cache_get?_mem _ _ _ hget)) h4⟩
    | none =>
      obtain ⟨P, hP1, hrep⟩ := hQ.mul ((s >>> i) &&& mask)
      have hcache1 : ∀ e ∈ (((s >>> i) &&& mask), P) :: cache, Q e.2 e.1 := by
        intro e he
        rcases List.mem_cons.mp he with rfl | he
        · exact hrep
        · exact hcache e he
      obtain ⟨ps, cache', h1, h2, h3, h4⟩ := bmgPoints_spec i mask ss _ hcache1
      simp only [hP1, h1]
      exact ⟨P :: ps, cache', rfl, h2, (List.suffix_cons _ _).trans h3, .cons hrep h4⟩

theorem bmgLoop_spec (mask : Nat) (ss : List Nat) :
    ∀ (i : Nat) (f : Nat → Nat) (res : List Pt) (cache : Cache), (∀ e ∈ cache, Q e.2 e.1) →
    List.Forall₂ (fun P x => Q P (f x)) res ss →
    ∃ rs cache', bmgLoop c mask ss i res cache = .ok (rs, cache') ∧ (∀ e ∈ cache', Q e.2 e.1) ∧
      cache <:+ cache' ∧ List.Forall₂ (fun P x => Q P (hloop mask x i (f x))) rs ss
  | 0, f, res, cache, hcache, hres => ⟨res, cache, rfl, hcache, List.suffix_refl _, hres⟩
  | i + 1, f, res, cache, hcache, hres => by
    unfold bmgLoop
    obtain ⟨pts, cache1, h1, h2, h3, h4⟩ := bmgPoints_spec hQ i mask ss cache hcache
    obtain ⟨r1, hr1, hr1'⟩ := batchDouble_rel hQ hres
    obtain ⟨r2, hr2, hr2'⟩ := batchAddList_rel hQ hr1' h4
    obtain ⟨rs, cache', h5, h6, h7, h8⟩ :=
      bmgLoop_spec mask ss i (fun x => 2 * f x + combWindow mask x i) r2 cache1 h2 hr2'
    simp only [h1, hr1, hr2, h5]
    exact ⟨rs, cache', rfl, h6, h3.trans h7, h8⟩

/-- BatchMultiplyG carries any relation that `Multiply(g, ·)`, `Add` and `Double` respect: entry `j`
stands for `scalars[j] mod n`, from every cache whose entries stand for their keys, and the new
cache is such a cache again. -/
theorem batchMultiplyG_rel (hn : 0 < c.n) (cache : Cache) (hcache : ∀ e ∈ cache, Q e.2 e.1)
    (scalars : List Int) :
    ∃ rs cache', batchMultiplyG c cache scalars = .ok (rs, cache') ∧ (∀ e ∈ cache', Q e.2 e.1) ∧
      cache <:+ cache' ∧
      List.Forall₂ (fun P (s : Int) => Q P (s % (c.n : Int)).toNat) rs scalars := by
  unfold batchMultiplyG
  have hL := bitLength_ne_zero hn.ne'
  cases hst : combSteps c with
  | zero => unfold combSteps at hst; omega
  | succ st =>
    simp only
    obtain ⟨pts, cache1, h1, h2, h3, h4⟩ := bmgPoints_spec hQ st (combMask c)
      (scalars.map fun x => (x % (c.n : Int)).toNat) cache hcache
    obtain ⟨rs, cache', h5, h6, h7, h8⟩ := bmgLoop_spec hQ (combMask c)
      (scalars.map fun x => (x % (c.n : Int)).toNat) st _ pts cache1 h2 h4
    simp only [h1, h5]
    refine ⟨rs, cache', rfl, h6, h3.trans h7, ?_⟩
    rw [List.forall₂_map_right_iff] at h8
    refine h8.imp ?_
    intro P s hP
    rwa [comb_scalar c hn _ (emod_toNat_lt s c.n hn.ne') st hst] at hP

omit hQ
variable (c)

/-- **BatchMultiplyG**: for every cache content satisfying the cache invariant and every list of
Python ints, the call succeeds, entry `j` is `(scalars[j] mod n) • G`, the new cache extends the
old one and satisfies the invariant again. -/
theorem batchMultiplyG_spec (hc : c.Good) (hG : onCurve c c.g = true) (hn : 0 < c.n)
    (cache : Cache) (hcache : CacheOK c cache) (scalars : List Int) :
    ∃ rs cache', batchMultiplyG c cache scalars = .ok (rs, cache') ∧ CacheOK c cache' ∧
      cache <:+ cache' ∧
      List.Forall₂ (fun P (s : Int) => RepG c P (s % (c.n : Int)).toNat) rs scalars :=
  batchMultiplyG_rel (combRel_repG c hc hG) hn cache hcache scalars

end Paranoid.Ec
