/-
Proofs/NistTables.lean — the exact distributions behind the LongestRuns probability tables: brute-force
class counts, the recurrence on a packed sliding window, rounding to the printed precision.
Independent of Generated/Consts.lean and of Mathlib.
-/
import ParanoidModel.Model.Nist
namespace Paranoid.Nist

/-- exact class counts of the longest run of ones over ALL 2^M blocks of M bits (brute force). -/
def lrExactCounts (M vl vu : Nat) : List Nat :=
  (List.range (vu - vl + 1)).map (fun i =>
    ((List.range (2 ^ M)).map (fun x => lrClass vl vu (longestRun (bitsSmall M x)))).count i)

/-- one step of the recurrence for a_i = number of strings of length i without a run of more than
k ones; the last k+2 values are packed into one number with `w`-bit digits (newest lowest):
a_i = 2·a_{i−1} for i ≤ k, 2·a_{i−1} − 1 for i = k+1, 2·a_{i−1} − a_{i−k−2} for i > k+1. -/
def leStep (k w i win : Nat) : Nat :=
  ((win % 2 ^ (w * (k + 1))) <<< w) +
    (if i ≤ k then 2 * (win % 2 ^ w)
     else if i = k + 1 then 2 * (win % 2 ^ w) - 1
     else 2 * (win % 2 ^ w) - (win >>> (w * (k + 1))) % 2 ^ w)

/-- strict iteration (the `match` makes the kernel evaluate each window to a numeral). -/
def leRun (k w : Nat) : Nat → Nat → Nat → Nat
  | 0, _, win => win % 2 ^ w
  | f + 1, i, win =>
    match leStep k w i win with
    | 0 => 0
    | x + 1 => leRun k w f (i + 1) (x + 1)

/-- number of M-bit strings whose longest run of ones is ≤ k. -/
def leCount (k M : Nat) : Nat := leRun k (M + 1) M 1 1

def diffs : Nat → List Nat → List Nat
  | _, [] => []
  | prev, c :: cs => (c - prev) :: diffs c cs

/-- `f x`, written so that the kernel evaluates `x` to a numeral before it is used. -/
def forceNat {α} (x : Nat) (f : Nat → α) : α :=
  match x with
  | 0 => f 0
  | n + 1 => f (n + 1)

theorem forceNat_eq {α} (x : Nat) (f : Nat → α) : forceNat x f = f x := by cases x <;> rfl

/-- cumulative counts `leCount k M` for k = vl, vl+1, … (`cnt` of them), each evaluated once. -/
def cums (M : Nat) : Nat → Nat → List Nat
  | _, 0 => []
  | k, cnt + 1 => forceNat (leCount k M) (fun c => c :: cums M (k + 1) cnt)

/-- class counts from the recurrence: longest run ≤ vl, = vl+1, …, ≥ vu. -/
def lrDPCounts (M vl vu : Nat) : List Nat := diffs 0 (cums M vl (vu - vl) ++ [2 ^ M])

/-- for every class count c: (c/total rounded to a multiple of 1/prec, c/total truncated), as
numerators over `prec`. -/
def exactRows (counts : List Nat) (total prec : Nat) : List (Nat × Nat) :=
  counts.map (fun c => ((2 * c * prec + total) / (2 * total), c * prec / total))

/-- M = 128, classes ≤4, 5, …, ≥9, through the recurrence `leCount`: (rounded, truncated) 4-digit numerators. -/
theorem lr128_rows : exactRows (lrDPCounts 128 4 9) (2 ^ 128) 10000 =
    [(1174, 1174), (2430, 2429), (2494, 2493), (1752, 1751), (1027, 1027), (1124, 1123)] := by
  decide +kernel

/-- (rounded, truncated) numerators over `prec` of (hi − lo)/total. -/
def classEntry (lo hi total prec : Nat) : Nat × Nat :=
  forceNat lo (fun lo => forceNat hi (fun hi =>
    ((2 * (hi - lo) * prec + total) / (2 * total), (hi - lo) * prec / total)))

/-- every table entry a/b equals the rounded (or, if allowed, the truncated) exact value. -/
def rowMatches (pi rows : List (Nat × Nat)) (prec : Nat) (allowTrunc : Bool) : Bool :=
  pi.length == rows.length &&
    (pi.zip rows).all (fun pr => pr.1.1 * prec == pr.2.1 * pr.1.2 ||
      (allowTrunc && pr.1.1 * prec == pr.2.2 * pr.1.2))

/-- the values printed in NIST SP 800-22 (section 3.4) for M = 10000, K = 6. -/
def nistPrinted10000 : List (Nat × Nat) :=
  [(882, 10000), (2092, 10000), (2483, 10000), (1933, 10000), (1208, 10000), (675, 10000), (727, 10000)]

/-- the exact distribution for M = 10000 rounded to 4 digits (values of the repair D20; computed with
exact rational arithmetic by harness/corr/c12.py `table_clauses`; all seven entries proved in
Proofs/Nist2Runs.lean: `lr10000_rows_exact`, `repaired10000_matches_rows`). -/
def repaired10000 : List (Nat × Nat) :=
  [(866, 10000), (2082, 10000), (2484, 10000), (1939, 10000), (1215, 10000), (680, 10000), (734, 10000)]

end Paranoid.Nist
