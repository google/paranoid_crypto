/-
Proofs/Proper.lean — the proper-divisor clause of C01 for the three factoring checks whose result
is not guarded by `1 < g < n`: FermatFactor, FactorHighAndLowBitsEqual, CheckLowHammingWeight.

 * `proper_of_sq`: a split `n = (S − b)(S + b)` is the trivial one only for `S = (n + 1) / 2`;
 * `fermatFactor_proper`: the loop tests `S ∈ [⌈√n⌉, ⌈√n⌉ + steps)`, below `(n + 1) / 2` when
   `steps + ⌊√n⌋ < (n + 1) / 2` (that the bound is sharp: `C01Proper.fermat_trivial_for_huge_bound`);
 * `hlbe_proper`: the bit-fixing walk stays below `⌈√n⌉ + 2^k ≤ (n + 1) / 2` (no hypothesis);
 * `lhw_proper`: from `lhw_cases` (Proofs/Factoring.lean: heap invariant `p, q ≥ 1`, a reported pair is
   `(2p + dp, 2q + dq)`; no hypothesis);
 * `vFermat_proper`, `vHlbe_proper`, `vLhw_proper`: the per-key verdicts.
-/
import ParanoidModel.Proofs.Factoring
import ParanoidModel.Proofs.HlbeComplete
import ParanoidModel.Proofs.RsaChecks
import ParanoidModel.Proofs.Fermat
import ParanoidModel.Proofs.Basic

namespace Paranoid

theorem proper_of_mul {x y n : Nat} (h : y * x = n) (hx : 2 ≤ x) (hxy : x ≤ y) :
    1 < x ∧ x < n ∧ 1 < y ∧ y < n := by
  have h1 : y * 2 ≤ y * x := Nat.mul_le_mul_left y hx
  omega

/-- a difference-of-squares split `n = (S − b)(S + b)` with `2S < n + 1` is proper: the trivial
split `1 · n` is the one with `S = (n + 1) / 2`. -/
theorem proper_of_sq (S b n : Nat) (h : b * b + n = S * S) (hn : 2 ≤ n) (hS : 2 * S < n + 1) :
    1 < S - b ∧ S - b < n ∧ 1 < S + b ∧ S + b < n := by
  have hfac := sq_sub_sq_nat S b n h
  have hbS : b ≤ S := Nat.mul_self_le_mul_self_iff.mp (show b * b ≤ S * S by omega)
  refine proper_of_mul hfac ?_ (by omega)
  by_contra hc
  have : S - b = 0 ∨ S - b = 1 := by omega
  rcases this with h0 | h1
  · rw [h0, Nat.mul_zero] at hfac; omega
  · rw [h1, Nat.mul_one] at hfac; omega

/-! ### FermatFactor -/

/-- ★ FermatFactor on an odd non-square `n`: with `steps + ⌊√n⌋ < (n + 1) / 2` the loop never
reaches `a = (n + 1) / 2`, the only `a` whose split is `n · 1`. -/
theorem fermatFactor_proper_odd (n steps p q : Nat) (hodd : n % 2 = 1)
    (hb : steps + Nat.sqrt n < (n + 1) / 2) (hns : Nat.sqrt n * Nat.sqrt n ≠ n)
    (h : fermatFactor n steps = some (p, q)) : 1 < q ∧ q < n ∧ 1 < p ∧ p < n := by
  rw [fermatFactor_odd n steps hodd hns] at h
  obtain ⟨S, b, _, hS, hsq, rfl, rfl⟩ := fermatLoop_shape n _ _ _ p q (fermat_inv_start n) h
  have hn2 : 2 ≤ n := by
    by_contra hc
    have : n = 1 := by omega
    subst this
    exact hns (by decide)
  exact proper_of_sq S b n hsq hn2 (by omega)

/-- ★ FermatFactor, every branch: even `n ≥ 4` gives `(2, n/2)`, a square `n = a²` gives
`(a, a)`, and an odd non-square `n` gives a proper pair when the step bound stays below
`(n + 1) / 2 − ⌊√n⌋`. -/
theorem fermatFactor_proper (n steps p q : Nat) (hn : 4 ≤ n)
    (hb : n % 2 = 1 → steps + Nat.sqrt n < (n + 1) / 2)
    (h : fermatFactor n steps = some (p, q)) : 1 < q ∧ q < n ∧ 1 < p ∧ p < n := by
  by_cases heven : n % 2 = 0
  · unfold fermatFactor at h
    rw [if_pos heven] at h
    simp only [Option.some.injEq, Prod.mk.injEq] at h
    obtain ⟨rfl, rfl⟩ := h
    omega
  · by_cases hsq : Nat.sqrt n * Nat.sqrt n = n
    · unfold fermatFactor isqrt at h
      rw [if_neg heven, if_pos hsq] at h
      simp only [Option.some.injEq, Prod.mk.injEq] at h
      obtain ⟨rfl, rfl⟩ := h
      refine proper_of_mul hsq ?_ (Nat.le_refl _)
      by_contra hc
      have : Nat.sqrt n * Nat.sqrt n ≤ 1 * 1 := Nat.mul_le_mul (by omega) (by omega)
      omega
    · exact fermatFactor_proper_odd n steps p q (by omega) (hb (by omega)) hsq h

/-! ### FactorHighAndLowBitsEqual -/

theorem two_pow_half_sq_le (L : Nat) (hL : 1 ≤ L) :
    2 ^ ((L + 1) / 2) * 2 ^ ((L + 1) / 2) ≤ 4 * 2 ^ (L - 1) := by
  rw [← Nat.pow_add, show 4 * 2 ^ (L - 1) = 2 ^ (L - 1 + 2) by rw [Nat.pow_add]; ring]
  exact Nat.pow_le_pow_right (by norm_num) (by omega)

/-- the arithmetic of the window, `s = ⌊√n⌋`: from `t² ≤ 4n` follows `t ≤ 2s + 1`, and
`6s + 3 ≤ n` for `n ≥ 32`, `n ≡ 1 (mod 8)`. -/
theorem hlbe_window_arith {n s t : Nat} (h2 : s * s ≤ n) (h1 : n < (s + 1) * (s + 1))
    (htt : t * t ≤ 4 * n) (h32 : 32 ≤ n) (h8 : n % 8 = 1) : 2 * (s + 1 + t) ≤ n + 1 := by
  have hts : t < 2 * s + 2 := by
    by_contra hc
    have := Nat.mul_le_mul (Nat.le_of_not_lt hc) (Nat.le_of_not_lt hc)
    have e : (2 * s + 2) * (2 * s + 2) = 4 * ((s + 1) * (s + 1)) := by ring
    omega
  have hkey : 6 * s + 3 ≤ n := by
    rcases Nat.lt_or_ge s 6 with h5 | h6
    · omega
    · rcases Nat.eq_or_lt_of_le h6 with rfl | h7
      · omega
      · have := Nat.mul_le_mul_right s h7
        omega
  omega

/-- the window of the walk ends below `(n + 1) / 2` for every `n` that passes the guards:
`2·(⌈√n⌉ + 2^k) ≤ n + 1`. -/
theorem hlbe_window (n : Nat) (h6 : 6 ≤ bitLength n) (h8 : n % 8 = 1) :
    2 * (Nat.sqrt (n - 1) + 1 + 2 ^ ((bitLength n + 1) / 2)) ≤ n + 1 := by
  have hlo := two_pow_le_of_bitLength n (by omega)
  have h32 : 2 ^ 5 ≤ 2 ^ (bitLength n - 1) := Nat.pow_le_pow_right (by norm_num) (by omega)
  have ha : Nat.sqrt (n - 1) ≤ Nat.sqrt n := Nat.sqrt_le_sqrt (Nat.sub_le n 1)
  have := hlbe_window_arith (Nat.sqrt_le n) (Nat.lt_succ_sqrt n)
    ((two_pow_half_sq_le _ (by omega)).trans (Nat.mul_le_mul_left 4 hlo)) (by omega) h8
  omega

/-- ★ FactorHighAndLowBitsEqual never returns the trivial split: for EVERY `n` (the guards
`bitLength n ≥ 6`, `n ≡ 1 (mod 8)` are part of the function) and every `middle_bits`. -/
theorem hlbe_proper (n mb x y : Nat) (h : factorHighAndLowBitsEqual n mb = .ok (some [x, y])) :
    1 < x ∧ x < n ∧ 1 < y ∧ y < n := by
  obtain ⟨h6, h8, S, b, hS, hsq, hfs⟩ := hlbe_shape n mb _ h
  have hw := hlbe_window n h6 h8
  have hpos := Nat.two_pow_pos ((bitLength n + 1) / 2)
  simp only [List.cons.injEq, and_true] at hfs
  obtain ⟨rfl, rfl⟩ := hfs
  exact proper_of_sq S b n hsq (by omega) (by omega)

/-! ### CheckLowHammingWeight -/

/-- ★ CheckLowHammingWeight never reports the trivial split — for every `n`, cutoff and step
budget: the search starts from `p = q = 1` and doubles both before it can report. -/
theorem lhw_proper (n cutoff maxsteps : Nat) (w : Bool) (p0 q0 : Nat)
    (h : checkLowHammingWeight n cutoff maxsteps = (w, [p0, q0])) :
    1 < p0 ∧ p0 < n ∧ 1 < q0 ∧ q0 < n := by
  rcases lhw_cases n cutoff maxsteps with h0 | ⟨a, b, h1, hab, h2, h3⟩
  · rw [h] at h0; cases h0
  · rw [h] at h1; cases h1
    have h3' : p0 * 2 ≤ p0 * q0 := Nat.mul_le_mul_left p0 h3
    have h4 : 2 * q0 ≤ p0 * q0 := Nat.mul_le_mul_right q0 h2
    omega

/-! ### the per-key verdicts -/

def KeyVerdict.Proper (n : Nat) (v : KeyVerdict) : Prop := ∀ f ∈ v.factors, 1 < f ∧ f < n

theorem KeyVerdict.pass_proper (n : Nat) : KeyVerdict.Proper n KeyVerdict.pass := by
  intro f hf; cases hf

theorem KeyVerdict.pair_proper {n x y : Nat} (w e : Bool) (hx : 1 < x ∧ x < n)
    (hy : 1 < y ∧ y < n) : KeyVerdict.Proper n ⟨w, [x, y], e⟩ :=
  List.forall_mem_cons.2 ⟨hx, List.forall_mem_singleton.2 hy⟩

theorem vFermat_proper (n maxSteps : Nat) (hn : 4 ≤ n)
    (hb : n % 2 = 1 → maxSteps + Nat.sqrt n < (n + 1) / 2) : (vFermat n maxSteps).Proper n := by
  unfold vFermat
  split
  · rename_i p q h
    obtain ⟨h1, h2, h3, h4⟩ := fermatFactor_proper n maxSteps p q hn hb h
    exact KeyVerdict.pair_proper _ _ ⟨h3, h4⟩ ⟨h1, h2⟩
  · exact KeyVerdict.pass_proper n

theorem vHlbe_proper (n mb : Nat) (v : KeyVerdict) (h : vHlbe n mb = .ok v) : v.Proper n := by
  unfold vHlbe at h
  split at h
  · cases h
  · rename_i f fs hh
    cases h
    obtain ⟨x, y, hxy, _⟩ := hlbe_sound n mb _ hh
    rw [hxy] at hh ⊢
    obtain ⟨h1, h2, h3, h4⟩ := hlbe_proper n mb x y hh
    exact KeyVerdict.pair_proper _ _ ⟨h1, h2⟩ ⟨h3, h4⟩
  · cases h
    exact KeyVerdict.pass_proper n

theorem vLhw_proper (n cutoff maxsteps : Nat) : (vLhw n cutoff maxsteps).Proper n := by
  unfold vLhw
  simp only
  split
  · rcases lhw_cases n cutoff maxsteps with h | ⟨p0, q0, h, _⟩
    · rw [h]; intro f hf; cases hf
    · obtain ⟨h1, h2, h3, h4⟩ := lhw_proper n cutoff maxsteps _ p0 q0 h
      rw [h]
      exact KeyVerdict.pair_proper _ _ ⟨h1, h2⟩ ⟨h3, h4⟩
  · exact KeyVerdict.pass_proper n

end Paranoid
