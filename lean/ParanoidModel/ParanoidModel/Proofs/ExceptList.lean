/-
Proofs/ExceptList.lean — loops of the model that may raise, read as `List.mapM` in `Except`.

A Python comprehension `[f(a) for a in l]` whose body can raise is modelled several times over
(`Ec.mapE`, `RsaAll.mapE`, `Bsgs.forE`, and a dozen recursive definitions specialised to one `f`).
All of them are `List.mapM f` (one induction each, over `mapM_cons_eq`); `mapM_ok_iff` and
`mapM_error_iff_first` say when the loop returns and where it raises.  Lengths, positions, membership
and totality are then facts about `List.Forall₂` (Proofs/Forall2.lean).
-/
import ParanoidModel.Proofs.Forall2
namespace Paranoid
universe u v w
variable {ε : Type u} {β γ : Type v} {α : Type w}

/-! ### guards and `Except.map` -/

theorem ite_error_iff {c : Prop} [Decidable c] {k e : ε} {x : Except ε α} :
    (if c then .error k else x) = .error e ↔ (c ∧ e = k) ∨ (¬ c ∧ x = .error e) := by
  by_cases h : c <;> simp [h, eq_comm]

theorem guard_error_iff {c : Prop} [Decidable c] {k e : ε} {a : α} :
    (if c then Except.error k else Except.ok a) = Except.error e ↔ c ∧ e = k := by
  by_cases h : c <;> simp [h, eq_comm]

theorem ite_ok_iff {c : Prop} [Decidable c] {k : ε} {x : Except ε α} {b : α} :
    (if c then .error k else x) = .ok b ↔ ¬ c ∧ x = .ok b := by
  by_cases h : c <;> simp [h]

theorem exists_ok_iff (x : Except ε α) : (∃ a, x = .ok a) ↔ ∀ e, x ≠ .error e := by
  cases x <;> simp

theorem map_ok_iff (g : α → β) (x : Except ε α) (b : β) :
    x.map g = .ok b ↔ ∃ a, x = .ok a ∧ g a = b := by
  cases x <;> simp [Except.map]

theorem map_error_iff (g : α → β) (x : Except ε α) (e : ε) :
    x.map g = .error e ↔ x = .error e := by
  cases x <;> simp [Except.map]

/-! ### `List.mapM` in `Except` -/

/-- the unfolding the model's loops are written in. -/
theorem mapM_cons_eq (f : α → Except ε β) (a : α) (l : List α) :
    (a :: l).mapM f =
      match f a with
      | .error e => .error e
      | .ok b =>
        match l.mapM f with
        | .error e => .error e
        | .ok bs => .ok (b :: bs) := by
  rw [List.mapM_cons]
  cases f a with
  | error e => rfl
  | ok b => cases l.mapM f <;> rfl

theorem mapM_ok_iff (f : α → Except ε β) : ∀ {l : List α} {r : List β},
    l.mapM f = .ok r ↔ List.Forall₂ (fun a b => f a = .ok b) l r
  | [], r => by simp [pure, Except.pure, eq_comm]
  | a :: l, r => by
    rw [mapM_cons_eq]
    cases h : f a with
    | error e => exact ⟨nofun, fun hc => by cases hc with | cons h1 _ => rw [h] at h1; cases h1⟩
    | ok b =>
      cases h2 : l.mapM f with
      | error e =>
        exact ⟨nofun, fun hc => by
          cases hc with | cons _ h3 => rw [← mapM_ok_iff f, h2] at h3; cases h3⟩
      | ok bs =>
        refine ⟨fun hr => ?_, fun hc => ?_⟩
        · cases hr; exact .cons h (mapM_ok_iff f |>.mp h2)
        · cases hc with
          | cons h1 h3 =>
            rw [h] at h1; rw [← mapM_ok_iff f, h2] at h3
            cases h1; cases h3; rfl

theorem mapM_error_iff_first (f : α → Except ε β) : ∀ {l : List α} {e : ε},
    l.mapM f = .error e ↔ ∃ pre a post, l = pre ++ a :: post ∧ f a = .error e ∧
      ∀ u ∈ pre, ∃ b, f u = .ok b
  | [], e => by simp [pure, Except.pure]
  | a :: l, e => by
    have ih := mapM_error_iff_first f (l := l) (e := e)
    rw [mapM_cons_eq]
    constructor
    · intro he
      cases h : f a with
      | error e' => rw [h] at he; cases he; exact ⟨[], a, l, rfl, h, nofun⟩
      | ok b =>
        rw [h] at he
        cases h2 : l.mapM f with
        | ok bs => rw [h2] at he; cases he
        | error e' =>
          rw [h2] at he ih; cases he
          obtain ⟨pre, u, post, rfl, hu, hpre⟩ := ih.mp rfl
          exact ⟨a :: pre, u, post, rfl, hu, List.forall_mem_cons.2 ⟨⟨b, h⟩, hpre⟩⟩
    · rintro ⟨pre, u, post, hl, hu, hpre⟩
      cases pre with
      | nil => cases hl; rw [hu]
      | cons p pre =>
        cases hl
        obtain ⟨b, hb⟩ := hpre a List.mem_cons_self
        rw [hb, ih.mpr ⟨pre, u, post, rfl, hu, fun v hv => hpre v (List.mem_cons_of_mem _ hv)⟩]

theorem mapM_error_mem {f : α → Except ε β} {l : List α} {e : ε} (h : l.mapM f = .error e) :
    ∃ a ∈ l, f a = .error e := by
  obtain ⟨pre, a, post, rfl, ha, _⟩ := (mapM_error_iff_first f).mp h
  exact ⟨a, by simp, ha⟩

/-- every element raises the same `k`, on the condition `P`: the loop raises `k` iff some element
satisfies `P`. -/
theorem mapM_error_iff (f : α → Except ε β) (P : α → Prop) (k : ε)
    (hf : ∀ a e, f a = .error e ↔ P a ∧ e = k) (l : List α) (e : ε) :
    l.mapM f = .error e ↔ (∃ a ∈ l, P a) ∧ e = k := by
  refine ⟨fun h => ?_, ?_⟩
  · obtain ⟨a, ha, hae⟩ := mapM_error_mem h
    exact ⟨⟨a, ha, ((hf a e).mp hae).1⟩, ((hf a e).mp hae).2⟩
  · rintro ⟨hex, rfl⟩
    cases h : l.mapM f with
    | error e' =>
      obtain ⟨a, _, hae⟩ := mapM_error_mem h
      rw [((hf a e').mp hae).2]
    | ok r =>
      obtain ⟨a, ha, hPa⟩ := hex
      obtain ⟨b, _, hb⟩ := forall₂_mem_left ((mapM_ok_iff f).mp h) ha
      rw [(hf a e).mpr ⟨hPa, rfl⟩] at hb; cases hb

theorem mapM_total {f : α → Except ε β} : ∀ {l : List α}, (∀ a ∈ l, ∃ b, f a = .ok b) →
    ∃ r, l.mapM f = .ok r
  | [], _ => ⟨[], rfl⟩
  | a :: l, h => by
    obtain ⟨b, hb⟩ := h a List.mem_cons_self
    obtain ⟨bs, hbs⟩ := mapM_total (l := l) fun x hx => h x (List.mem_cons_of_mem _ hx)
    exact ⟨b :: bs, by rw [mapM_cons_eq, hb, hbs]⟩

/-- the loop over related inputs: `f` maps `R`-related arguments to `S`-related results. -/
theorem mapM_forall₂ {ι} {f : α → Except ε β} {R : α → ι → Prop} {S : β → ι → Prop} {as : List α}
    {is : List ι} (h : List.Forall₂ R as is) (hf : ∀ a i, R a i → ∃ b, f a = .ok b ∧ S b i) :
    ∃ bs, as.mapM f = .ok bs ∧ List.Forall₂ S bs is := by
  induction h with
  | nil => exact ⟨[], rfl, .nil⟩
  | cons hai _ ih =>
    obtain ⟨b, hb, hS⟩ := hf _ _ hai
    obtain ⟨bs, hbs, hSs⟩ := ih
    exact ⟨b :: bs, by rw [mapM_cons_eq, hb, hbs], .cons hS hSs⟩

theorem mapM_eq_map {f : α → Except ε β} {g : α → β} {l : List α} (h : ∀ a ∈ l, f a = .ok (g a)) :
    l.mapM f = .ok (l.map g) :=
  (mapM_ok_iff f).mpr (List.forall₂_map_right_iff.mpr (List.forall₂_same.mpr h))

end Paranoid
