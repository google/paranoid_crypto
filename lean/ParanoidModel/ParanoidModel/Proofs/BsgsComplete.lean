/-
Proofs/BsgsComplete.lean — BatchDL point by point. `DlAns` says what the answer for ONE point can be,
whatever the point, its neighbours and the dict are (`dlPoint_spec`); soundness is a field of it,
completeness (`DlAns.found`: every log in `[0, n)` for `ts ≥ 1` and a dict covering `ts` multiples) and
the exact value (`DlAns.exact`) are arithmetic on top. The search after the table update returns for
every list of points when `ts ≥ 1` (`batchDLCore_total`), with one `DlAns` per point (`batchDLCore_ok`).
-/
import ParanoidModel.Proofs.Bsgs
namespace Paranoid.Bsgs
open Paranoid Paranoid.Ec WeierstrassCurve

/-! ### arithmetic of the giant steps -/

/-- the log `x = j0·t + δ` with `δ = ±a`, and a table value `v'` with `v' • G = ±(a • G)` (same
x-coordinate): one of the two candidates `j0·t ± v'` of giant step `j0` is a log of `x • G`
(`j0t` stands for the product). -/
theorem hit_arith {α} [AddCommGroup α] (G : α) (x j0t δ : Int) (a v' : Nat) (hx : x = j0t + δ)
    (ha : δ = a ∨ δ = -a) (hv : v' • G = a • G ∨ v' • G = -(a • G)) :
    (j0t + v') • G = x • G ∨ (j0t - v') • G = x • G := by
  subst hx
  rcases ha with rfl | rfl <;> rcases hv with hv | hv
  · left; simp only [add_zsmul, natCast_zsmul, hv]
  · right; simp only [add_zsmul, sub_zsmul, natCast_zsmul, hv, neg_neg]
  · right; simp only [add_zsmul, neg_zsmul, natCast_zsmul, hv, sub_eq_add_neg]
  · left; simp only [add_zsmul, neg_zsmul, natCast_zsmul, hv]

/-- `t = 2·ts - 1`, `j = (x + ts - 1)/t`: `j < 2 + n/t` and `|x - j·t| ≤ ts - 1`. -/
theorem giant_arith (x n ts : Nat) (hts : 1 ≤ ts) (hx : x < n) :
    (x + ts - 1) / (2 * ts - 1) < 2 + n / (2 * ts - 1) ∧
    -((ts : Int) - 1) ≤ (x : Int) - ((x + ts - 1) / (2 * ts - 1) : Nat) * (2 * (ts : Int) - 1) ∧
    (x : Int) - ((x + ts - 1) / (2 * ts - 1) : Nat) * (2 * (ts : Int) - 1) ≤ (ts : Int) - 1 := by
  have ht : 0 < 2 * ts - 1 := by omega
  generalize htt : 2 * ts - 1 = t at ht
  have e : (2 * (ts : Int) - 1) = (t : Int) := by omega
  rw [e]
  have h1 := Nat.div_add_mod (x + ts - 1) t
  have h2 := Nat.mod_lt (x + ts - 1) ht
  have h3 := Nat.lt_mul_div_succ n ht
  generalize (x + ts - 1) / t = j at *
  generalize (x + ts - 1) % t = r at *
  generalize n / t = q at *
  have h4 : (t : Int) * j + r + 1 = x + ts := by exact_mod_cast (by omega : t * j + r + 1 = x + ts)
  have e4 : (j : Int) * t = t * j := Int.mul_comm _ _
  refine ⟨?_, by omega, by omega⟩
  by_contra hc
  have : (q + 2) * t ≤ j * t := Nat.mul_le_mul_right t (by omega)
  have e2 : (q + 2) * t = t * (q + 1) + t := by ring
  have e3 : t * j = j * t := Nat.mul_comm _ _
  omega

/-- `giant_steps = 2 + n // t` as a natural number. -/
theorem giantSteps_eq (n ts : Nat) (hts : 1 ≤ ts) :
    2 + Int.fdiv (n : Int) (2 * (ts : Int) - 1) = ((2 + n / (2 * ts - 1) : Nat) : Int) := by
  have e : (2 * (ts : Int) - 1) = ((2 * ts - 1 : Nat) : Int) := by omega
  rw [e, Int.fdiv_eq_ediv_of_nonneg _ (Int.natCast_nonneg _), ← Int.natCast_ediv]
  push_cast
  rfl

section group
variable (c : Curve) [hp : Fact (Nat.Prime c.p)]

/-! ### one point -/

/-- the giant-step list: `list_c[j] = j • (-t • G)`, reduced, for `j < gs`. -/
def ListCOK (t : Int) (gs : Nat) (listC : List Pt) : Prop :=
  List.Forall₂ (fun Q (j : Nat) => RepR c Q (j • ((-t) • Gp c))) listC (List.range gs)

theorem listC_spec (hc : c.Good) (hG : onCurve c c.g = true) (hGr : Reduced c c.g) (t : Int)
    (gs : Nat) (hgs : 0 < gs) :
    ∃ b listC, multiply c c.g (-t) = .ok b ∧ pointSequence c b gs = .ok listC ∧
      ListCOK c t gs listC := by
  obtain ⟨b, hb1, hb2, hb3, _⟩ := multiply_repR c hc hG hGr (-t)
  obtain ⟨listC, hl1, hl2⟩ := pointSequence_spec c hc b hb2 gs hgs
  refine ⟨b, listC, hb1, hl1, hl2.imp ?_⟩
  intro Q j hQ
  exact ⟨hQ.1, by rw [hQ.2.1, hb3], hQ.2.2⟩

/-- x-coordinates seen at the giant steps: `xs[j] = x(P - j·t·G)`. -/
theorem batchAddX_listC (hc : c.Good) {t : Int} {gs : Nat} {listC : List Pt} (hl : ListCOK c t gs listC)
    {P : Pt} {A : (W c).Point} (hP : RepR c P A) :
    ∃ xs, batchAddX c P listC = .ok xs ∧ xs.length = gs ∧
      ∀ k, k < gs → xs[k]? = some (xKey c (A - ((k : Int) * t) • Gp c)) := by
  obtain ⟨xs, h1, h2⟩ := batchAddX_repR c hc (φ := fun j : Nat => j • ((-t) • Gp c)) hP hl
  refine ⟨xs, h1, by rw [h2.length_eq, List.length_range], ?_⟩
  intro k hk
  obtain ⟨a, ha, hr⟩ := forall₂_getElem? h2 k k (by simp [hk])
  rw [ha, hr]
  congr 2
  rw [← natCast_zsmul, ← mul_zsmul, mul_neg, neg_zsmul, sub_eq_add_neg, mul_comm]

/-- what `BatchDL` can answer for ONE point `P`, whatever `P` and the dict are (`r` is `res[i]` after the
scan of the giant steps `list_c`): a recorded value is a log of `P`, and it is `0` (for ∞) or one of the
candidates `±(j·t ± table[x])`; if `P` is a reduced point of the curve, the dict key of giant step `j` is
the x-coordinate of `P - j·t·G`, and a candidate under it that is a log leaves a value. -/
structure DlAns (look : Lookup) (t : Int) (listC : List Pt) (P : Pt) (r : Option Int) : Prop where
  sound : ∀ v, r = some v → v • Gp c = toPoint c P
  cand : ∀ v, r = some v → P = .inf ∧ v = 0 ∨ ∃ j x, j < listC.length ∧ Cand t look j x v
  hit : Reduced c c.g → ∀ gs, ListCOK c t gs listC → onCurve c P = true → Reduced c P → ∀ j, j < gs →
    HitAt c look t (toPoint c P) j (xKey c (toPoint c P - ((j : Int) * t) • Gp c)) → r.isSome

theorem dlPoint_spec (hc : c.Good) (hG : onCurve c c.g = true) (look : Lookup) (t : Int)
    (listC : List Pt) (P : Pt) : ∃ r, dlPoint c look t listC P = .ok r ∧ DlAns c look t listC P r := by
  cases P with
  | inf =>
    refine ⟨some 0, rfl, fun v hv => ?_, fun v hv => ?_, fun _ _ _ _ _ _ _ _ => rfl⟩
    · cases hv; simp
    · cases hv; exact .inl ⟨rfl, rfl⟩
  | aff px py =>
    obtain ⟨xs, hxs, hlen⟩ := batchAddX_total_any c hc.two (.aff px py) listC
    obtain ⟨r, hr, _, s, hit⟩ := dlScan_spec c hc hG look t px py xs 0 none
    refine ⟨r, by rw [dlPoint, hxs]; exact hr, fun v hv => ?_, fun v hv => ?_, ?_⟩
    · rcases s v hv with e | ⟨hs, _⟩
      · cases e
      · exact hs
    · rcases s v hv with e | ⟨_, k, x, hk, hcand⟩
      · cases e
      · exact .inr ⟨k, x, hlen ▸ (List.getElem?_eq_some_iff.mp hk).1, by rwa [zero_add] at hcand⟩
    · intro hGr gs hl hP hPr j hj hh
      have hR : RepR c (.aff px py) (toPoint c (.aff px py)) := ⟨hP, rfl, hPr⟩
      obtain ⟨xs', hxs', _, hkeys⟩ := batchAddX_listC c hc hl hR
      rw [hxs] at hxs'; cases hxs'
      exact hit hGr hR j _ (hkeys j hj) (by rwa [zero_add])

theorem dlPoint_total_any (hc : c.Good) (hG : onCurve c c.g = true) (look : Lookup) (t : Int)
    (listC : List Pt) (P : Pt) : ∃ r, dlPoint c look t listC P = .ok r :=
  let ⟨r, hr, _⟩ := dlPoint_spec c hc hG look t listC P
  ⟨r, hr⟩

variable {c}

/-- **completeness**, one point: a reduced point `x • G` of the curve with `x < n` is answered when the
dict covers `ts` multiples of `G`. -/
theorem DlAns.found (hGr : Reduced c c.g) {look : Lookup} {size V : Nat} (htab : TableOK c look size V)
    {n ts : Nat} (hts : 1 ≤ ts) (hsize : ts ≤ size) {listC : List Pt}
    (hl : ListCOK c (2 * (ts : Int) - 1) (2 + n / (2 * ts - 1)) listC) {P : Pt} {r : Option Int}
    (h : DlAns c look (2 * (ts : Int) - 1) listC P r) (hP : onCurve c P = true) (hPr : Reduced c P)
    {x : Nat} (hx : x < n) (hPx : toPoint c P = x • Gp c) : r.isSome := by
  obtain ⟨hj, hlo, hhi⟩ := giant_arith x n ts hts hx
  generalize (x + ts - 1) / (2 * ts - 1) = j0 at hj hlo hhi
  generalize hδ : (x : Int) - (j0 : Nat) * (2 * (ts : Int) - 1) = δ at hlo hhi
  -- the key at step j0 is the x-coordinate of δ • G = ±|δ| • G
  have hA : toPoint c P - ((j0 : Int) * (2 * (ts : Int) - 1)) • Gp c = δ • Gp c := by
    rw [hPx, ← natCast_zsmul, ← hδ, sub_zsmul, sub_eq_add_neg]
  obtain ⟨a, ha, hlt⟩ : ∃ a : Nat, (δ = (a : Int) ∨ δ = -(a : Int)) ∧ a < size :=
    ⟨δ.natAbs, by omega, by omega⟩
  obtain ⟨v', hv'⟩ := htab.2 a hlt
  have hkeyeq : xKey c (δ • Gp c) = xKey c (a • Gp c) := by
    rcases ha with h | h
    · rw [h, natCast_zsmul]
    · rw [h, neg_zsmul, xKey_neg, natCast_zsmul]
  have hv := eq_or_neg_of_xKey c (htab.1 _ _ hv').2
  have hit := hit_arith (Gp c) (x : Int) ((j0 : Int) * (2 * (ts : Int) - 1)) δ a v' (by omega) ha hv
  rw [natCast_zsmul, ← hPx] at hit
  exact h.hit hGr _ hl hP hPr j0 hj ⟨v', by rw [hA, hkeyeq]; exact hv', hit⟩

variable (c)

theorem cand_bound {look : Lookup} {size V : Nat} (htab : TableOK c look size V) {t : Int}
    (ht : 0 ≤ t) {j : Nat} {x : Option Int} {v : Int} (h : Cand t look j x v) :
    |v| ≤ (j : Int) * t + V - 1 := by
  obtain ⟨v', dl, hl, hdl, hv⟩ := h
  have hb := (htab.1 _ _ hl).1
  have hjt : 0 ≤ (j : Int) * t := Int.mul_nonneg (Int.natCast_nonneg _) ht
  rcases hdl with rfl | rfl <;> rcases hv with rfl | rfl <;> rw [abs_le] <;> constructor <;> omega


/-- the exact-value part: a value returned by the scan that is congruent to `x` equals `x` when
`2n + t + V ≤ N`. -/
theorem exact_of_bound (hord : addOrderOf (Gp c) = c.n) (n ts V x : Nat) (hx : x < n) (hts : 1 ≤ ts)
    (hwrap : 2 * n + (2 * ts - 1) + V ≤ c.n) (k : Nat) (hk : k < 2 + n / (2 * ts - 1)) (v : Int)
    (hv : |v| ≤ (k : Int) * (2 * (ts : Int) - 1) + V - 1) (hvx : v • Gp c = x • Gp c) : v = x := by
  have hdvd := Int.dvd_of_emod_eq_zero (dlog_emod c hord (d := x) (by rw [hvx, natCast_zsmul]))
  have ht : (2 * (ts : Int) - 1) = ((2 * ts - 1 : Nat) : Int) := by omega
  have hq := Nat.div_mul_le_self n (2 * ts - 1)
  have hkt : k * (2 * ts - 1) ≤ (1 + n / (2 * ts - 1)) * (2 * ts - 1) :=
    Nat.mul_le_mul_right _ (by omega)
  have e : (1 + n / (2 * ts - 1)) * (2 * ts - 1) = (2 * ts - 1) + n / (2 * ts - 1) * (2 * ts - 1) := by ring
  have hkt' : (k : Int) * (2 * (ts : Int) - 1) ≤ (2 * ts - 1 : Nat) + n := by
    rw [ht]; exact_mod_cast (by omega : k * (2 * ts - 1) ≤ (2 * ts - 1) + n)
  rw [abs_le] at hv
  have : |v - x| < (c.n : Int) := by rw [abs_lt]; constructor <;> omega
  have := Int.eq_zero_of_abs_lt_dvd hdvd this
  omega

variable {c}

/-- **the exact value**, one point (any point, on the curve or not): when nothing can wrap around the
group order, the recorded log of `x • G` is `x`. -/
theorem DlAns.exact (hord : addOrderOf (Gp c) = c.n) {look : Lookup} {size V : Nat}
    (htab : TableOK c look size V) {n ts : Nat} (hts : 1 ≤ ts) {listC : List Pt}
    (hlen : listC.length = 2 + n / (2 * ts - 1)) {P : Pt} {r : Option Int}
    (h : DlAns c look (2 * (ts : Int) - 1) listC P r) {x : Nat} (hx : x < n)
    (hPx : toPoint c P = x • Gp c) (hwrap : 2 * n + (2 * ts - 1) + V ≤ c.n) {v : Int}
    (hv : r = some v) : v = x := by
  have hvx : v • Gp c = x • Gp c := by rw [h.sound v hv, hPx]
  rcases h.cand v hv with ⟨_, rfl⟩ | ⟨j, x', hj, hcand⟩
  · -- x • G = 0 with x < n ≤ N
    have hdvd := Int.dvd_of_emod_eq_zero
      (dlog_emod c hord (v := 0) (d := x) (by rw [natCast_zsmul]; exact hvx))
    have := Int.eq_zero_of_abs_lt_dvd hdvd (by rw [abs_lt]; constructor <;> omega)
    omega
  · exact exact_of_bound c hord n ts V x hx hts hwrap j (hlen ▸ hj) v
      (cand_bound c htab (by omega) hcand) hvx

variable (c)

/-! ### the whole call -/

omit hp in
theorem giantList_eq (b : Pt) (n ts : Nat) (hts : 1 ≤ ts) :
    pointSequenceI c b (2 + Int.fdiv (n : Int) (2 * (ts : Int) - 1)) =
      pointSequence c b (2 + n / (2 * ts - 1)) := by
  have hgs : 0 < 2 + n / (2 * ts - 1) := Nat.add_pos_left (by decide) _
  rw [giantSteps_eq n ts hts, pointSequenceI, if_neg (by exact_mod_cast Nat.not_le.mpr hgs),
    Int.toNat_natCast]

/-- a BatchDL search (after the table update) that returned, ANY points, any `ts`: one `DlAns` per point,
for the giant-step list it used, which is the right one when `ts ≥ 1`. -/
theorem batchDLCore_ok (hc : c.Good) (hG : onCurve c c.g = true) {look : Lookup} {points : List Pt}
    {n ts : Nat} {res : List (Option Int)} (h : batchDLCore c look points n ts = .ok res) :
    ∃ listC, (Reduced c c.g → 1 ≤ ts → ListCOK c (2 * (ts : Int) - 1) (2 + n / (2 * ts - 1)) listC) ∧
      List.Forall₂ (DlAns c look (2 * (ts : Int) - 1) listC) points res := by
  unfold batchDLCore at h
  split at h
  · cases h
  · rename_i b hb
    split at h
    · cases h
    · rename_i listC hseq
      refine ⟨listC, fun hGr hts => ?_, (forE_ok h).imp fun P r hr => ?_⟩
      · obtain ⟨b', listC', hb', hl1, hl2⟩ := listC_spec c hc hG hGr (2 * (ts : Int) - 1)
          (2 + n / (2 * ts - 1)) (Nat.add_pos_left (by decide) _)
        rw [hb] at hb'; cases hb'
        rw [giantList_eq c b n ts hts, hl1] at hseq
        cases hseq; exact hl2
      · obtain ⟨r', hr', h'⟩ := dlPoint_spec c hc hG look (2 * (ts : Int) - 1) listC P
        rw [hr] at hr'; cases hr'; exact h'

theorem batchDLCore_total (hc : c.Good) (hG : onCurve c c.g = true) (hGr : Reduced c c.g)
    (look : Lookup) (points : List Pt) (n ts : Nat) (hts : 1 ≤ ts) :
    ∃ res, batchDLCore c look points n ts = .ok res := by
  obtain ⟨b, listC, hb, hl1, _⟩ := listC_spec c hc hG hGr (2 * (ts : Int) - 1)
    (2 + n / (2 * ts - 1)) (Nat.add_pos_left (by decide) _)
  obtain ⟨res, hres⟩ := forE_total (f := dlPoint c look (2 * (ts : Int) - 1) listC) (l := points)
    (fun P _ => dlPoint_total_any c hc hG look _ listC P)
  refine ⟨res, ?_⟩
  unfold batchDLCore
  rw [hb]
  simp only
  rw [giantList_eq c b n ts hts, hl1]
  exact hres

end group
end Paranoid.Bsgs
