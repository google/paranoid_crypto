/-
Proofs/Fermat.lean — exact characterisation of FermatFactor (C04).
-/
import ParanoidModel.Proofs.Factoring
import Mathlib.Data.Nat.Prime.Basic
import Mathlib.Tactic.Ring

namespace Paranoid

/-- `SqAt n a` : `a*a - n` is a perfect square (what the loop tests at `a`). The subtraction is
truncated, so this also holds whenever `a*a < n`; the lemmas below assume `n ≤ a*a`. -/
def SqAt (n a : Nat) : Prop := isSquare (a * a - n) = true

instance (n a : Nat) : Decidable (SqAt n a) := by unfold SqAt; infer_instance

theorem dvd_prime_mul_prime {p q d : Nat} (hp : p.Prime) (hq : q.Prime) (h : d ∣ p * q) :
    d = 1 ∨ d = p ∨ d = q ∨ d = p * q := by
  rcases (Nat.dvd_mul.mp h) with ⟨d1, d2, h1, h2, rfl⟩
  rcases (Nat.dvd_prime hp).mp h1 with rfl | rfl <;>
  rcases (Nat.dvd_prime hq).mp h2 with rfl | rfl <;> simp

theorem FwgC.properSplit_primes {p q : Nat} (hp : p.Prime) (hq : q.Prime) {fs : List Nat}
    (h : ProperSplit (p * q) fs) : fs = [p, q] ∨ fs = [q, p] := by
  obtain ⟨g, rfl, hd, h1, h2⟩ := h
  rcases dvd_prime_mul_prime hp hq hd with rfl | rfl | rfl | rfl
  · omega
  · exact Or.inl (by rw [Nat.mul_div_cancel_left _ hp.pos])
  · exact Or.inr (by rw [Nat.mul_div_cancel _ hq.pos])
  · omega

theorem sqAt_iff {n a : Nat} (ha : n ≤ a * a) :
    SqAt n a ↔ ∃ x y, x * y = n ∧ x ≤ y ∧ x + y = 2 * a := by
  unfold SqAt
  rw [isSquare_iff]
  constructor
  · intro h
    generalize Nat.sqrt (a * a - n) = b at h
    have hba : b * b + n = a * a := by omega
    have hble : b ≤ a := by
      by_contra hc
      have := Nat.mul_self_lt_mul_self (Nat.lt_of_not_le hc)
      omega
    exact ⟨a - b, a + b, by rw [Nat.mul_comm]; exact sq_sub_sq_nat a b n hba, by omega, by omega⟩
  · rintro ⟨x, y, rfl, hxy, hs⟩
    obtain ⟨m, rfl⟩ : ∃ m, y = x + 2 * m := ⟨(y - x) / 2, by omega⟩
    obtain rfl : a = x + m := by omega
    have : (x + m) * (x + m) = x * (x + 2 * m) + m * m := by ring
    rw [show (x + m) * (x + m) - x * (x + 2 * m) = m * m by omega, Nat.sqrt_eq]

theorem sqAt_prime_product {p q : Nat} (hp : p.Prime) (hq : q.Prime) (hpq : p < q)
    (hpo : p % 2 = 1) (hqo : q % 2 = 1) (a : Nat) (ha : p * q ≤ a * a) :
    SqAt (p * q) a ↔ a = (p + q) / 2 ∨ a = (p * q + 1) / 2 := by
  have hp0 := hp.pos
  have hq0 := hq.pos
  rw [sqAt_iff ha]
  constructor
  · -- the cofactor pairs `x ≤ y` of `p*q` are `(1, p*q)` and `(p, q)`
    rintro ⟨x, y, hxy, hle, hs⟩
    rcases dvd_prime_mul_prime hp hq (Dvd.intro _ hxy) with h | h | h | h <;> rw [h] at hxy hle hs
    · rw [Nat.one_mul] at hxy; omega
    · have := Nat.eq_of_mul_eq_mul_left hp0 hxy; omega
    · rw [Nat.mul_comm p q] at hxy
      have := Nat.eq_of_mul_eq_mul_left hq0 hxy; omega
    · have := Nat.eq_of_mul_eq_mul_left (Nat.mul_pos hp0 hq0) (hxy.trans (Nat.mul_one _).symm)
      have := Nat.mul_le_mul hp.two_le hq.two_le
      omega
  · have hodd : p * q % 2 = 1 := by rw [Nat.mul_mod, hpo, hqo]
    have := Nat.mul_pos hp0 hq0
    rintro (h | h)
    · exact ⟨p, q, rfl, hpq.le, by omega⟩
    · exact ⟨1, p * q, Nat.one_mul _, by omega, by omega⟩

/-- on an odd non-square `n` FermatFactor is its loop, started at `⌈√n⌉`. -/
theorem fermatFactor_odd (n steps : Nat) (hodd : n % 2 = 1) (hns : Nat.sqrt n * Nat.sqrt n ≠ n) :
    fermatFactor n steps =
      fermatLoop steps (Nat.sqrt n + 1) ((Nat.sqrt n + 1) * (Nat.sqrt n + 1) - n) := by
  unfold fermatFactor isqrt
  rw [if_neg (by omega), if_neg hns]

/-- the loop invariant `b2 + n = a²` at the start value `a = ⌈√n⌉`. -/
theorem fermat_inv_start (n : Nat) :
    (Nat.sqrt n + 1) * (Nat.sqrt n + 1) - n + n = (Nat.sqrt n + 1) * (Nat.sqrt n + 1) :=
  Nat.sub_add_cancel (Nat.lt_succ_sqrt n).le

theorem fermatFactor_of_first (n steps A : Nat) (hodd : n % 2 = 1)
    (hnsq : Nat.sqrt n * Nat.sqrt n ≠ n) (hA : Nat.sqrt n < A) (hsq : SqAt n A)
    (hfirst : ∀ a, Nat.sqrt n < a → a < A → ¬ SqAt n a) :
    fermatFactor n steps =
      if A - (Nat.sqrt n + 1) < steps then
        some (A + Nat.sqrt (A * A - n), A - Nat.sqrt (A * A - n))
      else none := by
  rw [fermatFactor_odd n steps hodd hnsq, fermatLoop_eq_find n _ _ _ (fermat_inv_start n)]
  split
  · rw [(List.find?_range'_eq_some (p := fun A => isSquare (A * A - n))).2
      ⟨hsq, List.mem_range'_1.2 ⟨hA, by omega⟩, fun j h1 h2 => by simpa [SqAt] using hfirst j h1 h2⟩]
    rfl
  · rw [(List.find?_range'_eq_none (p := fun A => isSquare (A * A - n))).2
      fun j h1 h2 => by simpa [SqAt] using hfirst j h1 (by omega)]
    rfl

/-- `n` is not a square when every `a` with `a² − n` a square (and `n ≤ a²`) lies above `√n`:
`√n` itself would be such an `a`. -/
theorem not_square_of_sqAt {n : Nat} (h : ∀ a, n ≤ a * a → SqAt n a → Nat.sqrt n < a) :
    Nat.sqrt n * Nat.sqrt n ≠ n := fun e =>
  absurd (h _ e.ge (by unfold SqAt; rw [e, Nat.sub_self]; rfl)) (Nat.lt_irrefl _)

theorem sqAt_prime {n a : Nat} (hp : n.Prime) (hodd : n % 2 = 1) (ha : n ≤ a * a) :
    SqAt n a ↔ a = (n + 1) / 2 := by
  rw [sqAt_iff ha]
  constructor
  · rintro ⟨x, y, hxy, hle, hs⟩
    rcases (Nat.dvd_prime hp).mp (Dvd.intro _ hxy) with h | h <;> rw [h] at hxy hle hs
    · rw [Nat.one_mul] at hxy; omega
    · have := Nat.eq_of_mul_eq_mul_left hp.pos (hxy.trans (Nat.mul_one n).symm)
      have := hp.two_le
      omega
  · rintro rfl
    exact ⟨1, n, Nat.one_mul n, hp.pos, by omega⟩

end Paranoid
