/-
Proofs/Bsgs.lean — BatchDL: the table predicate `TableOK` of the search and the scan of the giant
steps for one point (`dlScan_spec`: total, sound, and a candidate that is a log is kept), over
Mathlib's group through `toPoint` (Proofs/Ec*.lean).
-/
import ParanoidModel.Model.Bsgs
import ParanoidModel.Proofs.EcTable
import ParanoidModel.Proofs.EcOrder
import ParanoidModel.Proofs.BsgsGroup
import ParanoidModel.Proofs.ExceptList
namespace Paranoid.Bsgs
open Paranoid Paranoid.Ec WeierstrassCurve

/-! ### list plumbing -/

theorem forE_eq_mapM {α β} (f : α → Except PyErr β) : ∀ l : List α, forE f l = l.mapM f
  | [] => rfl
  | a :: l => by
    rw [forE, forE_eq_mapM f l, mapM_cons_eq]
    cases f a with
    | error e => rfl
    | ok b => cases l.mapM f <;> rfl

theorem forE_ok {α β} {f : α → Except PyErr β} {l : List α} {rs : List β} (h : forE f l = .ok rs) :
    List.Forall₂ (fun a b => f a = .ok b) l rs := (mapM_ok_iff f).mp (forE_eq_mapM f l ▸ h)

theorem forE_total {α β} {f : α → Except PyErr β} {l : List α} (h : ∀ a ∈ l, ∃ b, f a = .ok b) :
    ∃ rs, forE f l = .ok rs := forE_eq_mapM f l ▸ mapM_total h

/-! ### when the three operations return -/

section ops
variable {τ : Type} {I : TableImpl τ} {c : Curve} {st st' : StateG τ}

theorem batchDLG_ok {points : List Pt} {n ts m : Nat} {res : List (Option Int)} :
    batchDLG I c st points n ts m = .ok (res, st') ↔
      ensureTableG I c st ts m = .ok st' ∧ batchDLCore c (I.get? st'.table) points n ts = .ok res := by
  unfold batchDLG
  cases ensureTableG I c st ts m with
  | error e => simp
  | ok st1 =>
    simp only [Except.ok.injEq]
    constructor
    · intro h
      split at h
      · cases h
      · cases h; exact ⟨rfl, ‹_›⟩
    · rintro ⟨rfl, h⟩; rw [h]

theorem extendedBatchDLB_ok {bound : Nat} {points : List Pt} {ts m : Nat} {res : List (Option Int)} :
    extendedBatchDLB I c bound st points ts m = .ok (res, st') ↔
      ∃ invs all dls, extInverses c = .ok invs ∧ extAllPoints c points invs = .ok all ∧
        batchDLG I c st all bound ts m = .ok (dls, st') ∧
        extCollect points.length (extMultipliers c) dls 0 (List.replicate points.length none) = .ok res := by
  unfold extendedBatchDLB
  constructor
  · intro h
    split at h
    · cases h
    · split at h
      · cases h
      · split at h
        · cases h
        · split at h
          · cases h
          · cases h; exact ⟨_, _, _, ‹_›, ‹_›, ‹_›, ‹_›⟩
  · rintro ⟨invs, all, dls, h1, h2, h3, h4⟩
    rw [h1]; simp only; rw [h2]; simp only; rw [h3]; simp only; rw [h4]

theorem batchDLOfDifferencesG_ok {points other : List Pt} {maxDiff m : Nat} {res : List (Option Rel)} :
    batchDLOfDifferencesG I c st points other maxDiff m = .ok (res, st') ↔
      if points.isEmpty ∨ points.length + other.length < 2 then
        res = List.replicate points.length none ∧ st' = st
      else ensureTableG I c st maxDiff m = .ok st' ∧
        diffOuter c (I.get? st'.table) other.length points 0 (other.map (negate c))
          (List.replicate points.length none) = .ok res := by
  unfold batchDLOfDifferencesG
  split
  · simp only [Except.ok.injEq, Prod.mk.injEq]; constructor <;> rintro ⟨rfl, rfl⟩ <;> exact ⟨rfl, rfl⟩
  · cases ensureTableG I c st maxDiff m with
    | error e => simp
    | ok st1 =>
      simp only [Except.ok.injEq]
      constructor
      · intro h
        split at h
        · cases h
        · cases h; exact ⟨rfl, ‹_›⟩
      · rintro ⟨rfl, h⟩; rw [h]
end ops

/-- the generic PointTable on the association-list dict is `Ec.pointTable`. -/
theorem tableRowG_list (t : XTable) (xs : List (Option Int)) (v : Nat) :
    tableRowG listImpl t xs v = tableRow t xs v := by
  induction xs generalizing t v with
  | nil => rfl
  | cons x xs ih => rw [tableRowG, tableRow]; exact ih _ _

theorem tableRowsG_list (c : Curve) (low : List Pt) (m : Nat) (ps : List Pt) (i : Nat) (t : XTable) :
    tableRowsG listImpl c low m ps i t = tableRows c low m ps i t := by
  induction ps generalizing i t with
  | nil => rfl
  | cons p ps ih =>
    rw [tableRowsG, tableRows]
    cases batchAddX c p low with
    | error e => rfl
    | ok xs => simp only; rw [tableRowG_list]; exact ih _ _

theorem pointTableG_list (c : Curve) (base : Pt) (n m : Nat) :
    pointTableG listImpl c base n m = pointTable c base n m := by
  unfold pointTableG pointTable
  by_cases hm : m = 0
  · rw [if_pos hm, if_pos hm]
  · rw [if_neg hm, if_neg hm]
    cases pointSequence c base m with
    | error e => rfl
    | ok low =>
      simp only
      cases multiply c base m with
      | error e => rfl
      | ok bm =>
        simp only
        cases pointSequence c bm ((n + m - 1) / m) with
        | error e => rfl
        | ok high => exact tableRowsG_list ..

section group
variable (c : Curve) [hp : Fact (Nat.Prime c.p)]

noncomputable abbrev Gp : (W c).Point := toPoint c c.g

/-! ### representation lemmas -/

/-- `BatchAddX(p, list)` never raises, whatever the points are: it is `[Add(p, q)[0] for q in list]`
and `Add` is total on all integer pairs. -/
theorem batchAddX_total_any (h2 : c.p ≠ 2) (P : Pt) (qs : List Pt) :
    ∃ xs, batchAddX c P qs = .ok xs ∧ xs.length = qs.length := by
  rw [batchAddX_eq_map, mapE_eq_mapM]
  obtain ⟨xs, hxs⟩ := mapM_total (f := addX c P) (l := qs) fun Q _ =>
    let ⟨R, hR⟩ := add_total c h2 P Q
    ⟨R.x?, by rw [addX, hR]⟩
  exact ⟨xs, hxs, ((mapM_ok_iff _).mp hxs).length_eq.symm⟩

theorem xKey_neg (A : (W c).Point) : xKey c (-A) = xKey c A := by
  cases A with
  | zero => rfl
  | some x y h => rfl

theorem eq_or_neg_of_xKey {A B : (W c).Point} (h : xKey c A = xKey c B) : A = B ∨ A = -B := by
  have : NeZero c.p := ⟨hp.out.ne_zero⟩
  cases A with
  | zero =>
    cases B with
    | zero => exact .inl rfl
    | some x y hB => simp [xKey] at h
  | some x y hA =>
    cases B with
    | zero => simp [xKey] at h
    | some x' y' hB =>
      simp only [xKey, Option.some.injEq, Int.natCast_inj] at h
      have hx : x = x' := ZMod.val_injective _ h
      subst hx
      rcases Affine.Y_eq_of_X_eq hA.1 hB.1 rfl with hy | hy
      · left; subst hy; rfl
      · right
        rw [Affine.Point.neg_some]
        exact some_congr c hA rfl hy _

theorem dlog_emod (hord : addOrderOf (Gp c) = c.n) {v d : Int} (h : v • Gp c = d • Gp c) :
    (v - d) % (c.n : Int) = 0 := by
  have := addOrderOf_dvd_iff_zsmul_eq_zero.mpr (show (v - d) • Gp c = 0 by rw [sub_zsmul, h, add_neg_cancel])
  rw [hord] at this
  exact Int.emod_eq_zero_of_dvd this

/-! ### the table as seen by the search -/

/-- what the search needs from `x in table` / `table[x]`: every stored value `v` is `< V` and is
stored under the x-coordinate of `v • G`; every `v < size` finds an entry under the x-coordinate of
`v • G`. (`PointTable(g, size)` satisfies this with `V = ceil(size/m)·m`, `C11.pointTable_spec`.) -/
def TableOK (look : Lookup) (size V : Nat) : Prop :=
  (∀ k v, look k = some v → v < V ∧ xKey c (v • Gp c) = k) ∧
  (∀ v, v < size → ∃ v', look (xKey c (v • Gp c)) = some v')

theorem TableOK.mono {look : Lookup} {size size' V : Nat} (h : TableOK c look size V)
    (hs : size' ≤ size) : TableOK c look size' V :=
  ⟨h.1, fun v hv => h.2 v (by omega)⟩

/-! ### soundness -/

theorem onCurve_of_negY {px py yy : Int} (hy : yy = c.red (-py))
    (h : onCurve c (.aff px yy) = true) : onCurve c (.aff px py) = true := by
  subst hy
  rw [onCurve_aff_iff, equation_iff_cast] at h ⊢
  rw [← h]
  push_cast
  rw [cast_red]
  push_cast
  ring

theorem dlVerify_spec (hc : c.Good) (hG : onCurve c c.g = true) (px py : Int) (cur : Option Int)
    (dl : Int) :
    ∃ r, dlVerify c px py cur dl = .ok r ∧
      (r = cur ∨ ∃ v, r = some v ∧ (v = dl ∨ v = -dl) ∧ v • Gp c = toPoint c (.aff px py)) := by
  obtain ⟨R, h1, h2, h3⟩ := multiply_zsmul c hc c.g dl hG
  unfold dlVerify
  rw [h1]
  cases R with
  | inf => exact ⟨cur, rfl, .inl rfl⟩
  | aff yx yy =>
    simp only
    by_cases hx : yx = px
    · rw [if_pos hx]
      subst hx
      by_cases hy : yy = py
      · rw [if_pos hy]
        subst hy
        exact ⟨some dl, rfl, .inr ⟨dl, rfl, .inl rfl, h3.symm⟩⟩
      · rw [if_neg hy]
        by_cases hy' : yy = c.red (-py)
        · rw [if_pos hy']
          refine ⟨some (-dl), rfl, .inr ⟨-dl, rfl, .inr rfl, ?_⟩⟩
          have hP := onCurve_of_negY c hy' h2
          have hn := negate_refines c hc (.aff yx py) hP
          rw [negate, ← hy', h3] at hn
          rw [neg_smul, hn, neg_neg]
        · rw [if_neg hy']; exact ⟨cur, rfl, .inl rfl⟩
    · rw [if_neg hx]; exact ⟨cur, rfl, .inl rfl⟩

/-- `v` is, up to sign, one of the two candidates `j·t ± table[x]` of giant step `j`. -/
def Cand (t : Int) (look : Lookup) (j : Nat) (x : Option Int) (v : Int) : Prop :=
  ∃ (v' : Nat) (dl : Int), look x = some v' ∧ (dl = (j : Int) * t + v' ∨ dl = (j : Int) * t - v') ∧
    (v = dl ∨ v = -dl)

theorem dlVerify_hit (hc : c.Good) (hG : onCurve c c.g = true) (hGr : Reduced c c.g) {px py : Int}
    (hP : RepR c (.aff px py) (toPoint c (.aff px py))) (cur : Option Int) (dl : Int)
    (hdl : dl • Gp c = toPoint c (.aff px py)) :
    dlVerify c px py cur dl = .ok (some dl) := by
  obtain ⟨R, h1, h2⟩ := multiply_repR c hc hG hGr dl
  rw [hdl] at h2
  have := repR_inj c hc h2 hP
  subst this
  unfold dlVerify
  rw [h1]
  simp

/-- one of the two candidates `j·t ± table[x]` of giant step `j` is a log of `A`. -/
def HitAt (look : Lookup) (t : Int) (A : (W c).Point) (j : Nat) (x : Option Int) : Prop :=
  ∃ v' : Nat, look x = some v' ∧ (((j : Int) * t + v') • Gp c = A ∨ ((j : Int) * t - v') • Gp c = A)

theorem dlStep_spec (hc : c.Good) (hG : onCurve c c.g = true) (look : Lookup) (t px py : Int)
    (cur : Option Int) (j : Nat) (x : Option Int) :
    ∃ r, dlStep c look t px py cur j x = .ok r ∧ (cur.isSome → r.isSome) ∧
      (∀ v, r = some v → cur = some v ∨
        (v • Gp c = toPoint c (.aff px py) ∧ Cand t look j x v)) ∧
      (Reduced c c.g → RepR c (.aff px py) (toPoint c (.aff px py)) → HitAt c look t (toPoint c (.aff px py)) j x →
        r.isSome) := by
  unfold dlStep
  cases hl : look x with
  | none => exact ⟨cur, rfl, id, fun v hv => .inl hv, fun _ _ ⟨_, h, _⟩ => by rw [hl] at h; cases h⟩
  | some v' =>
    simp only
    obtain ⟨r1, h1, c1⟩ := dlVerify_spec c hc hG px py cur ((j : Int) * t + v')
    obtain ⟨r2, h2, c2⟩ := dlVerify_spec c hc hG px py r1 ((j : Int) * t - v')
    rw [h1]; simp only; rw [h2]
    have m1 : cur.isSome → r1.isSome := fun hcur => by
      rcases c1 with rfl | ⟨v, rfl, _⟩
      · exact hcur
      · rfl
    have m2 : r1.isSome → r2.isSome := fun hr1 => by
      rcases c2 with rfl | ⟨v, rfl, _⟩
      · exact hr1
      · rfl
    refine ⟨r2, rfl, fun hcur => m2 (m1 hcur), fun v hv => ?_, fun hGr hP ⟨w, hw, hh⟩ => ?_⟩
    · rcases c2 with rfl | ⟨w, rfl, hw, hs⟩
      · rcases c1 with rfl | ⟨w, rfl, hw, hs⟩
        · exact .inl hv
        · cases hv; exact .inr ⟨hs, v', _, hl, .inl rfl, hw⟩
      · cases hv; exact .inr ⟨hs, v', _, hl, .inr rfl, hw⟩
    · rw [hl] at hw; cases hw
      rcases hh with hh | hh
      · rw [dlVerify_hit c hc hG hGr hP cur _ hh] at h1
        cases h1; exact m2 rfl
      · rw [dlVerify_hit c hc hG hGr hP r1 _ hh] at h2
        cases h2; rfl

/-- the whole scan: total; keeps a found value found; every value it returns is the initial one or a
true log that is a candidate of one of the steps; and, for a reduced point of the curve, a step with a
candidate that is a log leaves a value (possibly overwritten by a later hit). -/
theorem dlScan_spec (hc : c.Good) (hG : onCurve c c.g = true) (look : Lookup) (t px py : Int) :
    ∀ (xs : List (Option Int)) (j : Nat) (cur : Option Int),
    ∃ r, dlScan c look t px py xs j cur = .ok r ∧ (cur.isSome → r.isSome) ∧
      (∀ v, r = some v → cur = some v ∨
        (v • Gp c = toPoint c (.aff px py) ∧
          ∃ k x, xs[k]? = some x ∧ Cand t look (j + k) x v)) ∧
      (Reduced c c.g → RepR c (.aff px py) (toPoint c (.aff px py)) →
        ∀ k x, xs[k]? = some x → HitAt c look t (toPoint c (.aff px py)) (j + k) x → r.isSome)
  | [], j, cur => ⟨cur, rfl, id, fun v hv => .inl hv, fun _ _ k x hk => by cases hk⟩
  | x :: xs, j, cur => by
    obtain ⟨r1, h1, m1, s1, t1⟩ := dlStep_spec c hc hG look t px py cur j x
    obtain ⟨r2, h2, m2, s2, t2⟩ := dlScan_spec hc hG look t px py xs (j + 1) r1
    rw [dlScan, h1]; simp only
    refine ⟨r2, h2, fun h => m2 (m1 h), fun v hv => ?_, fun hGr hP k x' hk hh => ?_⟩
    · rcases s2 v hv with e | ⟨hs, k, x', hk, hc'⟩
      · rcases s1 v e with e' | ⟨hs, hc'⟩
        · exact .inl e'
        · exact .inr ⟨hs, 0, x, rfl, by simpa using hc'⟩
      · refine .inr ⟨hs, k + 1, x', by simpa using hk, ?_⟩
        rwa [show j + (k + 1) = j + 1 + k by omega]
    · cases k with
      | zero => cases hk; exact m2 (t1 hGr hP hh)
      | succ k => exact t2 hGr hP k x' hk (by rwa [Nat.add_right_comm, Nat.add_assoc])

end group
end Paranoid.Bsgs
