/-
Proofs/Nist2Serial.lean — the second difference ∇²ψ²_m of the Serial test is non-negative
(NIST SP 800-22 2.11.4 (4)), for the wrap-around pattern counts of every bit string.

With ν_{xuy} the cyclic count of the m-bit pattern (x, u, y) (x = first bit, y = last bit) and the
two marginals ν_{xu} = ν_{xu0} + ν_{xu1}, ν_{uy} = ν_{0uy} + ν_{1uy} (the counts are cyclic, so both
are the counts of the (m−1)-bit patterns):
  4·Σν_m² − 4·Σν_{m−1}² + Σν_{m−2}² = Σ_u (ν_{0u0} − ν_{0u1} − ν_{1u0} + ν_{1u1})² ≥ 0.
-/
import ParanoidModel.Proofs.Nist
namespace Paranoid.Nist

theorem sumSq_append (a b : List Nat) : sumSq (a ++ b) = sumSq a + sumSq b := by
  simp [sumSq]

theorem pairSum_append_even : ∀ (a b : List Nat), a.length % 2 = 0 →
    pairSum (a ++ b) = pairSum a ++ pairSum b
  | [], b, _ => by simp [pairSum]
  | [x], b, h => by simp at h
  | x :: y :: a, b, h => by
    have h' : a.length % 2 = 0 := by simp only [List.length_cons] at h; omega
    simp only [List.cons_append, pairSum, pairSum_append_even a b h']

theorem pairSum_zipWith_add : ∀ (a b : List Nat),
    pairSum (List.zipWith (· + ·) a b) = List.zipWith (· + ·) (pairSum a) (pairSum b)
  | [], _ => by simp [pairSum]
  | [x], [] => by simp [pairSum]
  | [x], [y] => by simp [pairSum]
  | [x], y :: z :: b => by simp [pairSum]
  | x :: x' :: a, [] => by simp [pairSum]
  | x :: x' :: a, [y] => by simp [pairSum]
  | x :: x' :: a, y :: y' :: b => by
    simp only [List.zipWith_cons_cons, pairSum, pairSum_zipWith_add a b]
    congr 1
    omega

/-- the 2×2-table inequality: 4(p²+q²+r²+s²) − 2((p+q)²+(r+s)²) − 2((p+r)²+(q+s)²) + (p+q+r+s)² =
(p − q − r + s)² ≥ 0. -/
theorem table_ineq (p q r s : Nat) :
    2 * ((p + q) * (p + q) + (r + s) * (r + s)) + 2 * ((p + r) * (p + r) + (q + s) * (q + s)) ≤
      4 * (p * p + q * q + r * r + s * s) + (p + q + (r + s)) * (p + q + (r + s)) := by
  have h := sq_nonneg ((p : Int) - q - r + s)
  have e : ((p : Int) - q - r + s) ^ 2 =
      4 * (p * p + q * q + r * r + s * s) + (p + q + (r + s)) * (p + q + (r + s)) -
        (2 * ((p + q) * (p + q) + (r + s) * (r + s)) + 2 * ((p + r) * (p + r) + (q + s) * (q + s))) := by ring
  zify
  linarith

/-- Σ over u of the 2×2-table inequality, in list form: `A0`, `A1` are the halves of the count vector
with last pattern bit 0 / 1; `pairSum` sums over the first pattern bit, `zipWith (+)` over the last. -/
theorem sumSq_second_diff : ∀ (A0 A1 : List Nat), A0.length = A1.length →
    2 * (sumSq (pairSum A0) + sumSq (pairSum A1)) + 2 * sumSq (List.zipWith (· + ·) A0 A1) ≤
      4 * (sumSq A0 + sumSq A1) + sumSq (List.zipWith (· + ·) (pairSum A0) (pairSum A1))
  | [], [], _ => by simp [pairSum, sumSq]
  | [], _ :: _, h => by simp at h
  | _ :: _, [], h => by simp at h
  | [p], [r], _ => by
    simp only [pairSum, sumSq, List.zipWith_cons_cons, List.zipWith_nil_left, List.map_cons,
      List.map_nil, List.sum_cons, List.sum_nil]
    have := add_mul_self_le p r
    omega
  | [p], _ :: _ :: _, h => by simp at h
  | _ :: _ :: _, [r], h => by simp at h
  | p :: q :: A0, r :: s :: A1, h => by
    have ih := sumSq_second_diff A0 A1 (by simpa using h)
    have ht := table_ineq p q r s
    simp only [pairSum, sumSq, List.zipWith_cons_cons, List.map_cons, List.sum_cons] at ih ⊢
    omega

/-! ## the second marginal of the cyclic counts -/

theorem halves_range (H : Nat) (f : Nat → Nat) :
    List.zipWith (· + ·) (((List.range (2 * H)).map f).take H) (((List.range (2 * H)).map f).drop H) =
      (List.range H).map (fun v => f v + f (v + H)) := by
  rw [Nat.two_mul, List.range_add, List.map_append, List.take_left' (by simp), List.drop_left' (by simp),
    List.map_map, List.zipWith_map, List.zipWith_self]
  apply List.map_congr_left
  intro v _
  simp [Nat.add_comm]

theorem count_mod_half (ws : List Nat) (v H : Nat) (hv : v < H) (hws : ∀ w ∈ ws, w < 2 * H) :
    ws.count v + ws.count (v + H) = (ws.map (· % H)).count v :=
  count_fibre (· % H) v (by omega) ws fun w hw => by
    rcases Nat.lt_or_ge w H with hlt | hge
    · rw [Nat.mod_eq_of_lt hlt]; omega
    · rw [Nat.mod_eq_sub_mod hge, Nat.mod_eq_of_lt (by have := hws w hw; omega)]; omega

/-- summing the m-bit cyclic counts over the LAST pattern bit gives the (m−1)-bit cyclic counts. -/
theorem halves_countsWrap (l : List Bool) (m : Nat) (hm : 2 ≤ m) (hl : m ≤ l.length) :
    List.zipWith (· + ·) ((countsWrap l m).toList.take (2 ^ (m - 1)))
        ((countsWrap l m).toList.drop (2 ^ (m - 1))) = (countsWrap l (m - 1)).toList := by
  obtain ⟨k, rfl⟩ : ∃ k, m = k + 2 := ⟨m - 2, by omega⟩
  rw [show k + 2 - 1 = k + 1 from rfl, countsWrap_cyc l (k + 2) (by omega) hl,
    countsWrap_cyc l (k + 1) (by omega) (by omega), Nat.pow_succ 2 (k + 1), Nat.mul_comm, halves_range]
  apply List.map_congr_left
  intro v hv
  rw [count_mod_half _ v _ (List.mem_range.mp hv), List.map_map]
  · -- dropping the last bit of the window at p gives the shorter window at p
    congr 1
    apply List.map_congr_left
    intro p _
    show natOfBits (cycWin l (k + 1 + 1) p) % 2 ^ (k + 1) = _
    rw [← natOfBits_take_mod, cycWin_take]
  · intro w hw
    obtain ⟨p, _, rfl⟩ := List.mem_map.mp hw
    refine Nat.lt_of_lt_of_le (natOfBits_lt _) (Nat.le_of_eq ?_)
    rw [cycWin, List.length_map, List.length_range, Nat.pow_succ, Nat.mul_comm]

theorem countsWrap_length (l : List Bool) (m : Nat) (hm : 1 ≤ m) (hl : m ≤ l.length) :
    (countsWrap l m).toList.length = 2 ^ m := by
  rw [countsWrap_spec l m hm hl]; simp

theorem countsWrap_sum (l : List Bool) (m : Nat) (hm : 1 ≤ m) (hl : m ≤ l.length) :
    (countsWrap l m).toList.sum = l.length := by
  rw [countsWrap_spec l m hm hl, count_range_sum]
  · simp
  · intro w hw
    rw [List.mem_map] at hw
    obtain ⟨p, _, rfl⟩ := hw
    refine Nat.lt_of_lt_of_le (natOfBits_lt _) ?_
    exact Nat.pow_le_pow_right (by omega) (by simp)

/-! ## convexity of m ↦ Σ ν² -/

/-- 4·Σν_{m−1}² ≤ 4·Σν_m² + Σν_{m−2}² in list form: `A` the level-m counts, `B` both of its marginals,
`C` the marginal of `B`. -/
theorem sumSq_convex_lists (A B C : List Nat) (H : Nat) (hlen : A.length = 2 * H) (hH : H % 2 = 0)
    (hB1 : pairSum A = B) (hB2 : List.zipWith (· + ·) (A.take H) (A.drop H) = B) (hC : pairSum B = C) :
    4 * sumSq B ≤ 4 * sumSq A + sumSq C := by
  have hA : A = A.take H ++ A.drop H := (List.take_append_drop H A).symm
  have hl0 : (A.take H).length = H := by rw [List.length_take]; omega
  have hl1 : (A.drop H).length = H := by rw [List.length_drop]; omega
  have h1 : sumSq B = sumSq (pairSum (A.take H)) + sumSq (pairSum (A.drop H)) := by
    rw [← hB1]
    conv_lhs => rw [hA]
    rw [pairSum_append_even _ _ (by rw [hl0]; exact hH), sumSq_append]
  have h2 : sumSq B = sumSq (List.zipWith (· + ·) (A.take H) (A.drop H)) := by rw [hB2]
  have h3 : sumSq C = sumSq (List.zipWith (· + ·) (pairSum (A.take H)) (pairSum (A.drop H))) := by
    rw [← hC, ← hB2, pairSum_zipWith_add]
  have h4 : sumSq A = sumSq (A.take H) + sumSq (A.drop H) := by
    conv_lhs => rw [hA]
    rw [sumSq_append]
  have := sumSq_second_diff (A.take H) (A.drop H) (by rw [hl0, hl1])
  omega

/-- for every pattern length m ≥ 3: 4·Σν_{m−1}² ≤ 4·Σν_m² + Σν_{m−2}². -/
theorem sumSq_countsWrap_convex (l : List Bool) (k : Nat) (hl : k + 3 ≤ l.length) :
    4 * sumSq (countsWrap l (k + 2)).toList ≤
      4 * sumSq (countsWrap l (k + 3)).toList + sumSq (countsWrap l (k + 1)).toList := by
  refine sumSq_convex_lists _ _ _ (2 ^ (k + 2)) ?_ ?_ ?_ ?_ ?_
  · rw [countsWrap_length l (k + 3) (by omega) hl, Nat.pow_succ]; ring
  · rw [Nat.pow_succ]; omega
  · exact pairSum_countsWrap l (k + 3) (by omega) hl
  · exact halves_countsWrap l (k + 3) (by omega) hl
  · exact pairSum_countsWrap l (k + 2) (by omega) (by omega)

/-- m = 2 (ψ²_0 = 0): 4·Σν_1² ≤ 4·Σν_2² + n². -/
theorem sumSq_countsWrap_convex_m2 (l : List Bool) (hl : 2 ≤ l.length) :
    4 * sumSq (countsWrap l 1).toList ≤ 4 * sumSq (countsWrap l 2).toList + l.length * l.length := by
  have hlen := countsWrap_length l 1 (by omega) (by omega)
  have hsum := countsWrap_sum l 1 (by omega) (by omega)
  have h := sumSq_convex_lists (countsWrap l 2).toList (countsWrap l 1).toList
    (pairSum (countsWrap l 1).toList) 2 (countsWrap_length l 2 (by omega) hl) (by omega)
    (pairSum_countsWrap l 2 (by omega) hl) (halves_countsWrap l 2 (by omega) hl) rfl
  match hc : (countsWrap l 1).toList, hlen with
  | [x, y], _ =>
    rw [hc] at h hsum
    simp only [pairSum, sumSq, List.map_cons, List.map_nil, List.sum_cons, List.sum_nil] at h hsum ⊢
    rw [← hsum]
    simpa using h

/-- ∇²ψ²_m ≥ 0 for the Serial test output, m = j + 3 ≥ 3. -/
theorem serial_d2psi_nonneg (bits n : Nat) (mm : Option Nat) (o : SerialOut)
    (h : serial bits n mm = .ok o) (j a b c : Nat) (ha : o.sq[j]? = some a) (hb : o.sq[j + 1]? = some b)
    (hc : o.sq[j + 2]? = some c) :
    2 * psiNum n (j + 2) b ≤ psiNum n (j + 3) c + psiNum n (j + 1) a := by
  obtain ⟨_, hle, _⟩ := serial_ok bits n mm o h
  obtain ⟨_, rfl⟩ := serial_sq_get bits n mm o h j a ha
  obtain ⟨_, rfl⟩ := serial_sq_get bits n mm o h (j + 1) b hb
  obtain ⟨hj, rfl⟩ := serial_sq_get bits n mm o h (j + 2) c hc
  exact psiNum_second_diff n (j + 1) _ _ _ (sumSq_countsWrap_convex _ j (by rw [bitList_length]; omega))

end Paranoid.Nist
