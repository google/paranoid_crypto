/-
Proofs/Hnp.lean — lemmas for property C08 (integer-lattice half) about Model/Hnp.lean:
 * integer combinations of matrix rows (`lincomb`) and the two shapes of the HNP lattice;
 * the planted vector of every `Bias` is such a combination (pre-condition of the LLL oracle);
 * the post-processing loop: exact characterisation of the guess list, and `x` is reported
   whenever the basis contains a row `(u, u·x, …)` with `u` a unit modulo `n`;
 * decision table of `_HiddenNumberProblemSubsets`.
-/
import ParanoidModel.Model.Hnp
import ParanoidModel.Proofs.Pollard
import ParanoidModel.Proofs.Basic
import Mathlib.Data.Int.ModEq
import Mathlib.Tactic.Ring

namespace Paranoid.Hnp

/-! ### `invMod` (model of `gmpy2.invert`) in the form the signature checks use it: congruence of the
result, completeness on units, the only exception; from `invMod_cases` (Proofs/Basic.lean) -/

theorem invMod_unfold (a : Int) (m : Nat) :
    invMod a m =
      if m = 0 then .error .zeroDivision
      else if (egcdAux (2 * bitLength m + 2) (a % (m : Int)) m 1 0).1 = 1 then
        .ok ((egcdAux (2 * bitLength m + 2) (a % (m : Int)) m 1 0).2 % (m : Int)).toNat
      else if m = 1 then .ok 0 else .error .zeroDivision := rfl

theorem invMod_one_ok (a : Int) (x : Nat) (h : invMod a 1 = .ok x) : x = 0 := by
  rw [invMod_one] at h
  exact (Except.ok.inj h).symm

/-- `invMod` returns a value `< m` (for `m > 0`) whose product with `a` is `1` modulo `m`. -/
theorem invMod_ok_modEq (a : Int) (m x : Nat) (h : invMod a m = .ok x) :
    a * x ≡ 1 [ZMOD m] ∧ (0 < m) ∧ x < m := by
  obtain rfl | rfl | hm : m = 0 ∨ m = 1 ∨ 2 ≤ m := by omega
  · cases h
  · rw [invMod_one_ok a x h]
    exact ⟨Int.modEq_one, by omega, by omega⟩
  · obtain ⟨hmul, hlt, _⟩ := invMod_ok a m x hm h
    exact ⟨by rw [Int.ModEq, hmul, Int.emod_eq_of_lt (by omega) (by omega)], by omega, hlt⟩

/-- completeness: a unit modulo `m` is inverted. -/
theorem invMod_of_coprime (a : Int) (m : Nat) (hm : 0 < m) (hg : Int.gcd a m = 1) :
    ∃ x, invMod a m = .ok x := by
  obtain rfl | hm : m = 1 ∨ 2 ≤ m := by omega
  · rw [invMod_unfold]
    split
    · omega
    · split <;> exact ⟨_, rfl⟩
  · rcases invMod_cases a m hm with ⟨_, y, hy, _⟩ | ⟨hne, _⟩
    · exact ⟨y, hy⟩
    · exact absurd hg hne

/-- the error case: `ZeroDivisionError` is the only exception. -/
theorem invMod_error (a : Int) (m : Nat) (e : PyErr) (h : invMod a m = .error e) :
    e = .zeroDivision := by
  rw [invMod_unfold] at h
  repeat' split at h
  all_goals first | cases h; rfl | cases h

/-! ### integer combinations of rows -/

def vadd (u v : List Int) : List Int := List.zipWith (· + ·) u v
def smul (c : Int) (v : List Int) : List Int := v.map (c * ·)

/-- `Σ_j coeffs_j • rows_j` in `ℤ^dim`. -/
def lincomb (dim : Nat) : List Int → List (List Int) → List Int
  | c :: cs, r :: rs => vadd (smul c r) (lincomb dim cs rs)
  | _, _ => List.replicate dim 0

/-- entry `j` of a vector, `0` outside. -/
def ent (v : List Int) (j : Nat) : Int := v[j]?.getD 0

theorem ent_of_lt (v : List Int) (j : Nat) (h : j < v.length) : ent v j = v[j] := by
  simp [ent, List.getElem?_eq_getElem h]

theorem ent_of_ge (v : List Int) (j : Nat) (h : v.length ≤ j) : ent v j = 0 := by
  simp [ent, List.getElem?_eq_none h]

@[simp] theorem ent_cons_zero (a : Int) (v : List Int) : ent (a :: v) 0 = a := by simp [ent]
@[simp] theorem ent_cons_succ (a : Int) (v : List Int) (j : Nat) : ent (a :: v) (j + 1) = ent v j := by
  simp [ent]
@[simp] theorem ent_nil (j : Nat) : ent [] j = 0 := by simp [ent]

/-- column `j` of the combination. -/
def colSum (j : Nat) : List Int → List (List Int) → Int
  | c :: cs, r :: rs => c * ent r j + colSum j cs rs
  | _, _ => 0

theorem lincomb_length (dim : Nat) : ∀ (cs : List Int) (rs : List (List Int)),
    (∀ r ∈ rs, r.length = dim) → (lincomb dim cs rs).length = dim
  | [], _, _ => by simp [lincomb]
  | _ :: _, [], _ => by simp [lincomb]
  | c :: cs, r :: rs, h => by
    have h1 := h r (List.mem_cons_self ..)
    have h2 := lincomb_length dim cs rs (fun r hr => h r (List.mem_cons_of_mem _ hr))
    simp [lincomb, vadd, smul, h1, h2]

theorem ent_replicate_zero (dim j : Nat) : ent (List.replicate dim (0 : Int)) j = 0 := by
  by_cases h : j < dim
  · rw [ent_of_lt _ _ (by simpa using h)]; simp
  · rw [ent_of_ge _ _ (by simp; omega)]

theorem lincomb_ent (dim j : Nat) : ∀ (cs : List Int) (rs : List (List Int)),
    (∀ r ∈ rs, r.length = dim) → ent (lincomb dim cs rs) j = colSum j cs rs
  | [], _, _ => ent_replicate_zero dim j
  | _ :: _, [], _ => ent_replicate_zero dim j
  | c :: cs, r :: rs, h => by
    have h1 := h r (List.mem_cons_self ..)
    have hrs : ∀ r ∈ rs, r.length = dim := fun r hr => h r (List.mem_cons_of_mem _ hr)
    have h2 := lincomb_length dim cs rs hrs
    have ih := lincomb_ent dim j cs rs hrs
    simp only [lincomb, colSum, vadd, smul]
    rw [← ih]
    by_cases hj : j < dim
    · rw [ent_of_lt _ _ (by simp [h1, h2, hj]), ent_of_lt _ _ (h1.symm ▸ hj), ent_of_lt _ _ (h2.symm ▸ hj)]
      simp
    · rw [ent_of_ge _ _ (by simp [h1, h2]; omega), ent_of_ge _ _ (h1.symm ▸ Nat.le_of_not_lt hj),
        ent_of_ge _ _ (h2.symm ▸ Nat.le_of_not_lt hj)]
      simp

theorem ext_ent (l1 l2 : List Int) (hl : l1.length = l2.length)
    (h : ∀ j, j < l1.length → ent l1 j = ent l2 j) : l1 = l2 := by
  apply List.ext_getElem hl
  intro j h1 h2
  have := h j h1
  rwa [ent_of_lt _ _ h1, ent_of_lt _ _ h2] at this

/-! ### entries of the HNP lattice -/

theorem ent_map_range (m : Nat) (f : Nat → Int) (c : Nat) :
    ent ((List.range m).map f) c = if c < m then f c else 0 := by
  split
  · rename_i h
    rw [ent_of_lt _ _ (by simpa using h)]; simp
  · rename_i h
    rw [ent_of_ge _ _ (by simp; omega)]

theorem ent_map (l : List Int) (f : Int → Int) (hf : f 0 = 0) (c : Nat) :
    ent (l.map f) c = f (ent l c) := by
  by_cases h : c < l.length
  · rw [ent_of_lt _ _ (by simpa using h), ent_of_lt _ _ h]; simp
  · rw [ent_of_ge _ _ (by simp; omega), ent_of_ge _ _ (by omega), hf]

theorem ent_map_getElem {α} (l : List α) (f : α → Int) (i : Nat) (hi : i < l.length) :
    ent (l.map f) i = f l[i] := by
  rw [ent_of_lt _ _ (by simpa using hi)]; simp

theorem ent_map_of_lt (l : List Int) (g : Int → Int) (i : Nat) (hi : i < l.length) :
    ent (l.map g) i = g (ent l i) := by
  rw [ent_map_getElem l g i hi, ent_of_lt l i hi]

theorem ent_tailRow (m : Nat) (n w : Int) (pfx : Bool) (i c : Nat) :
    ent (hnpTailRow m n w pfx i) (c + 2) =
      if c < m then (if pfx = true ∧ i = 0 then w else if c = i then n * w else 0) else 0 := by
  unfold hnpTailRow
  rw [ent_cons_succ, ent_cons_succ, ent_map_range]

/-- column `c + 2` of a combination of the diagonal rows `s, s+1, …, s+k-1` (for the prefix
shapes row 0 is the all-`w` row, so `s` starts at 1). -/
theorem colSum_tail_diag (m : Nat) (n w : Int) (pfx : Bool) (c : Nat) (hc : c < m) (d : Nat → Int) :
    ∀ (k s : Nat), (pfx = true → 0 < s) →
    colSum (c + 2) ((List.range' s k).map d) ((List.range' s k).map (hnpTailRow m n w pfx)) =
      if s ≤ c ∧ c < s + k then d c * (n * w) else 0
  | 0, s, _ => by rw [if_neg (by omega)]; rfl
  | k + 1, s, hs => by
    rw [List.range'_succ, List.map_cons, List.map_cons, colSum,
      colSum_tail_diag m n w pfx c hc d k (s + 1) (fun _ => Nat.succ_pos s),
      ent_tailRow, if_pos hc, if_neg (fun h => Nat.ne_of_gt (hs h.1) h.2)]
    by_cases h1 : c = s
    · subst h1
      rw [if_pos rfl, if_neg (by omega), if_pos (by omega)]; ring
    · rw [if_neg h1]
      by_cases h2 : s + 1 ≤ c ∧ c < s + 1 + k
      · rw [if_pos h2, if_pos (by omega)]; ring
      · rw [if_neg h2, if_neg (by omega)]; ring

/-- column `c + 2` of a combination of all the tail rows: the diagonal entry `n·w` of row `c`, and
for the prefix shapes the all-`w` row 0 instead of its diagonal row. -/
theorem colSum_tail (m : Nat) (n w : Int) (pfx : Bool) (c : Nat) (hc : c < m) (d : Nat → Int) :
    colSum (c + 2) ((List.range m).map d) ((List.range m).map (hnpTailRow m n w pfx)) =
      if pfx = true then d 0 * w + (if c = 0 then 0 else d c * (n * w)) else d c * (n * w) := by
  cases pfx with
  | false =>
    rw [List.range_eq_range', colSum_tail_diag m n w false c hc d m 0 nofun,
      if_pos ⟨Nat.zero_le c, by omega⟩, if_neg Bool.false_ne_true]
  | true =>
    obtain ⟨k, rfl⟩ : ∃ k, m = k + 1 := ⟨m - 1, by omega⟩
    rw [List.range_eq_range', List.range'_succ, List.map_cons, List.map_cons, colSum, ent_tailRow,
      if_pos hc, if_pos ⟨rfl, rfl⟩, colSum_tail_diag (k + 1) n w true c hc d k 1 fun _ => Nat.one_pos,
      if_pos rfl]
    by_cases h0 : c = 0
    · rw [if_pos h0, if_neg (by omega)]
    · rw [if_neg h0, if_pos (by omega)]

/-- columns 0 and 1 of the tail rows vanish. -/
theorem colSum_tail_low (m : Nat) (n w : Int) (pfx : Bool) (j : Nat) (hj : j < 2) :
    ∀ (cs : List Int) (is : List Nat), colSum j cs (is.map (hnpTailRow m n w pfx)) = 0
  | [], _ => rfl
  | _ :: _, [] => rfl
  | c :: cs, i :: is => by
    rw [List.map_cons, colSum, colSum_tail_low m n w pfx j hj cs is]
    have : ent (hnpTailRow m n w pfx i) j = 0 := by
      unfold hnpTailRow
      match j, hj with
      | 0, _ => simp
      | 1, _ => simp
    rw [this]; ring

theorem list_eq_map_range (l : List Int) : l = (List.range l.length).map (ent l) := by
  apply List.ext_getElem (by simp)
  intro j h1 h2
  simp [ent_of_lt l j h1]


theorem map_eq_map_range (l : List Int) (f : Int → Int) :
    l.map f = (List.range l.length).map (fun i => f (ent l i)) := by
  conv_lhs => rw [list_eq_map_range l]
  rw [List.map_map]; rfl

theorem hnpRows_length (a b : List Int) (w n u : Int) (pfx : Bool) (hb : b.length = a.length) :
    ∀ r ∈ hnpRows a b w n u pfx, r.length = a.length + 2 := by
  intro r hr
  unfold hnpRows at hr
  simp only [List.mem_cons, List.mem_map, List.mem_range] at hr
  rcases hr with rfl | rfl | ⟨i, _, rfl⟩
  · simp
  · simp [hb]
  · simp [hnpTailRow]

/-- `α·row₀ + β·row₁ + Σ dᵢ·row_{i+2}` of the HNP matrix, both shapes. -/
theorem lincomb_hnpRows (a b : List Int) (hb : b.length = a.length) (w n u α β : Int)
    (d : Nat → Int) (pfx : Bool) :
    lincomb (a.length + 2) (α :: β :: (List.range a.length).map d) (hnpRows a b w n u pfx) =
      α * u :: β :: (List.range a.length).map (fun c => (α * ent a c + β * ent b c) * w +
        if pfx = true then d 0 * w + (if c = 0 then 0 else d c * (n * w)) else d c * (n * w)) := by
  have hlen := hnpRows_length a b w n u pfx hb
  apply ext_ent
  · rw [lincomb_length _ _ _ hlen]; simp
  · intro j hj
    rw [lincomb_length _ _ _ hlen] at hj
    rw [lincomb_ent _ _ _ _ hlen]
    unfold hnpRows
    rw [colSum, colSum]
    match j with
    | 0 => rw [colSum_tail_low _ _ _ _ 0 (by omega)]; simp
    | 1 => rw [colSum_tail_low _ _ _ _ 1 (by omega)]; simp
    | c + 2 =>
      have hc : c < a.length := by omega
      rw [colSum_tail a.length n w pfx c hc d]
      simp only [ent_cons_succ]
      rw [ent_map _ _ (by simp), ent_map _ _ (by simp), ent_map_range, if_pos hc]
      ring
/-! ### the guess loop -/

theorem mem_hnpSetAdd (acc : List Nat) (g h : Nat) : h ∈ hnpSetAdd acc g ↔ h ∈ acc ∨ h = g := by
  unfold hnpSetAdd
  split
  · rename_i hg
    constructor
    · exact Or.inl
    · rintro (h1 | rfl)
      · exact h1
      · exact hg
  · simp

/-- if no row raises, the loop returns exactly `acc ∪ {g | some row yields g}`. -/
theorem hnpGuessLoop_ok (step : List Int → Except PyErr (Option Nat)) :
    ∀ (basis : List (List Int)) (acc : List Nat),
    (∀ r ∈ basis, ∃ o, step r = .ok o) →
    ∃ gs, hnpGuessLoop step basis acc = .ok gs ∧
      ∀ g, g ∈ gs ↔ g ∈ acc ∨ ∃ r ∈ basis, step r = .ok (some g)
  | [], acc, _ => ⟨acc, rfl, by simp⟩
  | row :: rest, acc, h => by
    obtain ⟨o, ho⟩ := h row (List.mem_cons_self ..)
    have hrest : ∀ r ∈ rest, ∃ o, step r = .ok o := fun r hr => h r (List.mem_cons_of_mem _ hr)
    unfold hnpGuessLoop
    rw [ho]
    cases o with
    | none =>
      obtain ⟨gs, hgs, hmem⟩ := hnpGuessLoop_ok step rest acc hrest
      exact ⟨gs, hgs, fun g => by simp [hmem g, ho]⟩
    | some g0 =>
      obtain ⟨gs, hgs, hmem⟩ := hnpGuessLoop_ok step rest (hnpSetAdd acc g0) hrest
      exact ⟨gs, hgs, fun g => by simp [hmem g, mem_hnpSetAdd, ho, or_assoc, eq_comm]⟩

/-- an exception of the loop is an exception of some row. -/
theorem hnpGuessLoop_error (step : List Int → Except PyErr (Option Nat)) (e : PyErr) :
    ∀ (basis : List (List Int)) (acc : List Nat), hnpGuessLoop step basis acc = .error e →
    ∃ r ∈ basis, step r = .error e
  | [], acc, h => by simp [hnpGuessLoop] at h
  | row :: rest, acc, h => by
    unfold hnpGuessLoop at h
    split at h
    · rename_i e' he
      injection h with h; subst h
      exact ⟨row, List.mem_cons_self .., he⟩
    · obtain ⟨r, hr, hs⟩ := hnpGuessLoop_error step e rest acc h
      exact ⟨r, List.mem_cons_of_mem _ hr, hs⟩
    · obtain ⟨r, hr, hs⟩ := hnpGuessLoop_error step e rest _ h
      exact ⟨r, List.mem_cons_of_mem _ hr, hs⟩

theorem hnpGuessLoop_rows_ok (step : List Int → Except PyErr (Option Nat)) :
    ∀ (basis : List (List Int)) (acc gs : List Nat), hnpGuessLoop step basis acc = .ok gs →
    ∀ r ∈ basis, ∃ o, step r = .ok o
  | [], _, _, _, r, hr => by cases hr
  | row :: rest, acc, gs, h, r, hr => by
    unfold hnpGuessLoop at h
    split at h
    · cases h
    all_goals
      rcases List.mem_cons.mp hr with rfl | hr
      · exact ⟨_, ‹_›⟩
      · exact hnpGuessLoop_rows_ok step rest _ gs h r hr

theorem mem_of_hnpGuessLoop {step : List Int → Except PyErr (Option Nat)} {basis : List (List Int)}
    {acc gs : List Nat} (h : hnpGuessLoop step basis acc = .ok gs) {g : Nat} (hg : g ∈ gs) :
    g ∈ acc ∨ ∃ r ∈ basis, step r = .ok (some g) := by
  obtain ⟨gs', hgs', hmem⟩ := hnpGuessLoop_ok step basis acc (hnpGuessLoop_rows_ok step basis acc gs h)
  rw [h] at hgs'
  cases hgs'
  exact (hmem g).mp hg

/-! ### one row -/

/-- a row is *harmless* for modulus `n`: at least two entries and a first entry that is either
a multiple of `n` or a unit modulo `n` (always true for prime `n`). -/
def RowOk (n : Nat) (row : List Int) : Prop :=
  ∃ v0 v1 rest, row = v0 :: v1 :: rest ∧ ((n : Int) ∣ v0 ∨ Int.gcd v0 n = 1)

/-- `HiddenNumberProblemWithPrecomputation` evaluates `v[1]` before `gmpy.invert(v[0], n)`: on a row
with one entry the two bodies raise different exceptions, and that is the only difference. -/
theorem hnpRowGuessPre_ok_iff (n : Nat) (row : List Int) (o : Option Nat) :
    hnpRowGuessPre n row = .ok o ↔ hnpRowGuess n row = .ok o := by
  match row with
  | [] => exact Iff.rfl
  | [v0] =>
    simp only [hnpRowGuessPre, hnpRowGuess]
    split_ifs
    · exact Iff.rfl
    · exact Iff.rfl
    · cases invMod v0 n <;> simp
  | v0 :: v1 :: rest => simp only [hnpRowGuessPre, hnpRowGuess]

theorem hnpRowGuess_total (n : Nat) (hn : 0 < n) (row : List Int) (h : RowOk n row) :
    ∃ o, hnpRowGuess n row = .ok o := by
  obtain ⟨v0, v1, rest, rfl, hv⟩ := h
  unfold hnpRowGuess
  simp only [hn.ne', if_false]
  by_cases hd : v0 % (n : Int) = 0
  · simp [hd]
  · rw [if_neg hd]
    rcases hv with hv | hv
    · exact absurd (Int.emod_eq_zero_of_dvd hv) hd
    · obtain ⟨inv, hinv⟩ := invMod_of_coprime v0 n hn hv
      rw [hinv]
      exact ⟨_, rfl⟩

theorem hnpRowGuessPre_total (n : Nat) (hn : 0 < n) (row : List Int) (h : RowOk n row) :
    ∃ o, hnpRowGuessPre n row = .ok o :=
  (hnpRowGuess_total n hn row h).imp fun o ho => (hnpRowGuessPre_ok_iff n row o).mpr ho

theorem hnpRowGuess_good (n : Nat) (hn : 1 < n) (u v x : Int) (rest : List Int)
    (hu : Int.gcd u n = 1) (hv : v ≡ u * x [ZMOD n]) :
    hnpRowGuess n (u :: v :: rest) = .ok (some (x % (n : Int)).toNat) := by
  have hnd : ¬ u % (n : Int) = 0 := fun h0 =>
    not_dvd_of_gcd_eq_one hn hu (Int.dvd_of_emod_eq_zero h0)
  obtain ⟨inv, hinv⟩ := invMod_of_coprime u n (by omega) hu
  have hspec := (invMod_ok_modEq u n inv hinv).1
  unfold hnpRowGuess
  simp only [show n ≠ 0 by omega, if_false, if_neg hnd, hinv]
  have : v * inv ≡ x [ZMOD n] := by
    calc v * inv ≡ u * x * inv [ZMOD n] := hv.mul_right _
      _ = x * (u * inv) := by ring
      _ ≡ x * 1 [ZMOD n] := hspec.mul_left _
      _ = x := by ring
  rw [show v * (inv : Int) % (n : Int) = x % (n : Int) from this]

/-- for a prime modulus every row with two entries is harmless. -/
theorem rowOk_of_prime (p : Nat) (hp : p.Prime) (row : List Int) (h : 2 ≤ row.length) :
    RowOk p row := by
  match row, h with
  | v0 :: v1 :: rest, _ =>
    exact ⟨v0, v1, rest, rfl, or_iff_not_imp_left.mpr (gcd_eq_one_of_not_dvd p hp v0)⟩

/-- a guess produced by a row really comes from that row's first two entries: soundness of the
arithmetic (`g·v₀ ≡ v₁ (mod n)`), for every row. -/
theorem hnpRowGuess_sound (n : Nat) (row : List Int) (g : Nat)
    (h : hnpRowGuess n row = .ok (some g)) :
    ∃ v0 v1 rest, row = v0 :: v1 :: rest ∧ (g : Int) * v0 ≡ v1 [ZMOD n] ∧ g < n := by
  unfold hnpRowGuess at h
  split at h
  · cases h
  rename_i v0 rest
  split at h
  · cases h
  rename_i hn0
  split at h
  · cases h
  split at h
  · cases h
  rename_i inv hinv
  split at h
  · cases h
  rename_i v1 rest'
  injection h with h; injection h with h
  obtain ⟨hspec, hnpos, _⟩ := invMod_ok_modEq v0 n inv hinv
  have hnz : (n : Int) ≠ 0 := by exact_mod_cast hn0
  have hg : (g : Int) = v1 * inv % (n : Int) := by
    rw [← h, Int.toNat_of_nonneg (Int.emod_nonneg _ hnz)]
  refine ⟨v0, v1, rest', rfl, ?_, ?_⟩
  · rw [hg]
    calc v1 * inv % (n : Int) * v0 ≡ v1 * inv * v0 [ZMOD n] := (Int.mod_modEq _ _).mul_right _
      _ = v1 * (v0 * inv) := by ring
      _ ≡ v1 * 1 [ZMOD n] := hspec.mul_left _
      _ = v1 := by ring
  · have := Int.emod_lt_of_pos (v1 * inv) (by exact_mod_cast hnpos : (0 : Int) < n)
    rw [← hg] at this
    exact_mod_cast this


/-- the hidden-number relation, entrywise: `mult·(a_i + b_i·x) = s + e_i + c_i·n`.
MSB: `mult = 1, s = 0, e = k`; common prefix: `mult = 1`, `s` the common part, `e_i` the
differing low parts; generalized: `mult` the secret multiplier. -/
def HnpRel (a b : List Int) (x : Int) (n : Int) (mult s : Int) (es cs : List Int) : Prop :=
  b.length = a.length ∧ es.length = a.length ∧ cs.length = a.length ∧
  ∀ i, i < a.length → mult * (ent a i + ent b i * x) = s + ent es i + ent cs i * n

/-- coefficients of rows `2, 3, …` for the prefix shapes: `-(s + c₀n)` for the all-`w` row,
`-(c_i - c₀)` for the diagonal rows. -/
def prefixCoeffs (s n : Int) (cs : List Int) : List Int :=
  (List.range cs.length).map (fun i => if i = 0 then -(s + ent cs 0 * n) else -(ent cs i - ent cs 0))

theorem map_range_congr {m : Nat} {f g : Nat → Int} (h : ∀ i, i < m → f i = g i) :
    (List.range m).map f = (List.range m).map g :=
  List.map_congr_left (fun i hi => h i (List.mem_range.mp hi))

/-- `HnpRel` with ANY integer `y` where `HnpRel` has `mult·x`: `mult·a_i + b_i·y = s + e_i + c_i·n`
(LLL returns the key coordinate reduced modulo `n`, not the integer product). -/
def GenRel (a b : List Int) (n mult y s : Int) (es cs : List Int) : Prop :=
  b.length = a.length ∧ es.length = a.length ∧ cs.length = a.length ∧
  ∀ i, i < a.length → mult * ent a i + ent b i * y = s + ent es i + ent cs i * n

theorem HnpRel.genRel {a b : List Int} {x n mult s : Int} {es cs : List Int}
    (h : HnpRel a b x n mult s es cs) : GenRel a b n mult (mult * x) s es cs :=
  ⟨h.1, h.2.1, h.2.2.1, fun i hi => by linear_combination h.2.2.2 i hi⟩

theorem hnp_pre_msb_rows (a b ks cs : List Int) (x w n : Int) (h : HnpRel a b x n 1 0 ks cs) :
    lincomb (a.length + 2) (1 :: x :: cs.map (fun c => -c)) (hnpRows a b w n (n * w + 1) false) =
      (n * w + 1) :: x :: ks.map (· * w) := by
  obtain ⟨hb, hk, hc, hrel⟩ := h
  rw [map_eq_map_range cs, hc, lincomb_hnpRows a b hb, map_eq_map_range ks, hk, one_mul]
  congr 2
  apply map_range_congr
  intro i hi
  simp only [Bool.false_eq_true, if_false]
  linear_combination w * hrel i hi

/-- **pre, prefix shapes** (`u = n·w+1`, `mult = 1` for COMMON_PREFIX; `u = 1` for GENERALIZED), any
representative `y` in the key position. -/
theorem gen_pre_rows (a b es cs : List Int) (w n u mult y s : Int)
    (h : GenRel a b n mult y s es cs) :
    lincomb (a.length + 2) (mult :: y :: prefixCoeffs s n cs) (hnpRows a b w n u true) =
      mult * u :: y :: es.map (· * w) := by
  obtain ⟨hb, hk, hc, hrel⟩ := h
  unfold prefixCoeffs
  rw [hc, lincomb_hnpRows a b hb, map_eq_map_range es, hk]
  congr 2
  apply map_range_congr
  intro i hi
  simp only [if_true]
  by_cases hi0 : i = 0
  · subst hi0; rw [if_pos rfl]; linear_combination w * hrel 0 hi
  · rw [if_neg hi0, if_neg hi0]; linear_combination w * hrel i hi


/-! ### COMMON_POSTFIX → COMMON_PREFIX -/

theorem ent_scaleMod (wi : Int) (n : Nat) (l : List Int) (i : Nat) :
    ent (scaleMod wi n l) i = ent l i * wi % (n : Int) := by
  unfold scaleMod
  rw [ent_map l (fun v => v * wi % (n : Int)) (by simp)]

/-- the `c`-list of the reduced problem: `t·h_i + wi·c_i − ⌊a_i·wi/n⌋ − ⌊b_i·wi/n⌋·x` with
`t = (wi·w − 1)/n`. -/
def postfixCs (a b hs cs : List Int) (x w wi : Int) (n : Nat) : List Int :=
  (List.range a.length).map (fun i =>
    (wi * w - 1) / (n : Int) * ent hs i + wi * ent cs i - ent a i * wi / (n : Int) -
      ent b i * wi / (n : Int) * x)

/-- **postfix reduction.** If `k_i = a_i + b_i x − c_i n` and all `k_i = low + w·h_i` share the
suffix `low`, then after multiplying `a`, `b` by `wi = w⁻¹ mod n` (what `GetLattice` does) the
values are `wi·low + h_i` modulo `n`: a common-prefix instance with common part `wi·low` and
small parts `h_i`. -/
theorem postfix_reduction_rel (a b ks cs hs : List Int) (x w low : Int) (n wi : Nat)
    (h : HnpRel a b x n 1 0 ks cs) (hh : hs.length = a.length)
    (hsuf : ∀ i, i < a.length → ent ks i = low + w * ent hs i)
    (hwi : w * wi ≡ 1 [ZMOD n]) :
    HnpRel (scaleMod wi n a) (scaleMod wi n b) x n 1 ((wi : Int) * low) hs
      (postfixCs a b hs cs x w wi n) := by
  obtain ⟨hb, hk, hc, hrel⟩ := h
  have hla : (scaleMod wi n a).length = a.length := by simp [scaleMod]
  refine ⟨by simp [scaleMod, hb], by rw [hla, hh], by simp [postfixCs, scaleMod], ?_⟩
  intro i hi
  rw [hla] at hi
  have hpc : ent (postfixCs a b hs cs x w wi n) i =
      ((wi : Int) * w - 1) / (n : Int) * ent hs i + wi * ent cs i - ent a i * wi / (n : Int) -
        ent b i * wi / (n : Int) * x := by
    unfold postfixCs
    rw [ent_map_range, if_pos hi]
  have ht := Int.ediv_mul_cancel (show (n : Int) ∣ (wi : Int) * w - 1 from mul_comm w wi ▸ hwi.symm.dvd)
  rw [ent_scaleMod, ent_scaleMod, hpc, Int.emod_def, Int.emod_def]
  -- `wi·(a_i + b_i·x) = wi·low + (t·n + 1)·h_i + wi·c_i·n` with `t·n = wi·w − 1`
  linear_combination (wi : Int) * hrel i hi + (wi : Int) * hsuf i hi - ent hs i * ht

/-- entry bound of the planted vector: small parts `|e_i| < B` give entries `|e_i·w| < B·w`. -/
theorem target_bound (es : List Int) (w B : Int) (hw : 0 < w) (hB : ∀ e ∈ es, |e| < B) :
    ∀ v ∈ es.map (· * w), |v| < B * w := by
  intro v hv
  obtain ⟨e, he, rfl⟩ := List.mem_map.mp hv
  rw [abs_mul, abs_of_pos hw]
  exact mul_lt_mul_of_pos_right (hB e he) hw


/-! ### the statements at the level of `getLattice` / `hiddenNumberProblem` -/

theorem getLattice_some (a b : List Int) (w : Int) (n : Nat) (bias : Bias) (fb : Nat)
    (hb : b.length = a.length) :
    getLattice a b (some w) n bias fb = getLatticeW a b w n bias := by
  unfold getLattice
  rw [if_neg (by omega)]
  rfl

theorem hnp_pre_msb (a b ks cs : List Int) (x w : Int) (n fb : Nat)
    (h : HnpRel a b x n 1 0 ks cs) :
    ∃ rows, getLattice a b (some w) n .msb fb = .ok rows ∧
      lincomb (a.length + 2) (1 :: x :: cs.map (fun c => -c)) rows =
        ((n : Int) * w + 1) :: x :: ks.map (· * w) :=
  ⟨_, getLattice_some a b w n .msb fb h.1, hnp_pre_msb_rows a b ks cs x w n h⟩

/-- **post.** Whatever else the reduced basis contains (as long as no row makes `gmpy.invert`
raise — automatic for prime `n`, see `rowOk_of_prime`), a row `(u, v, …)` with `u` a unit and
`v ≡ u·x (mod n)` makes `HiddenNumberProblem` report `x mod n`. -/
theorem hnp_post_general (a b : List Int) (w : Option Int) (n : Nat) (bias : Bias) (fb : Nat)
    (basis lat : List (List Int)) (x : Int) (hn : 1 < n)
    (hlat : getLattice a b w n bias fb = .ok lat)
    (hrows : ∀ r ∈ basis, RowOk n r)
    (hgood : ∃ u v rest, (u :: v :: rest) ∈ basis ∧ Int.gcd u n = 1 ∧ v ≡ u * x [ZMOD n]) :
    ∃ gs, hiddenNumberProblem a b w n bias fb basis = .ok gs ∧ (x % (n : Int)).toNat ∈ gs := by
  unfold hiddenNumberProblem
  rw [hlat]
  obtain ⟨gs, hgs, hmem⟩ := hnpGuessLoop_ok (hnpRowGuess n) basis []
    (fun r hr => hnpRowGuess_total n (by omega) r (hrows r hr))
  refine ⟨gs, hgs, ?_⟩
  obtain ⟨u, v, rest, hin, hu, hv⟩ := hgood
  exact (hmem _).mpr (Or.inr ⟨_, hin, hnpRowGuess_good n hn u v x rest hu hv⟩)

/-- every reported guess is `v₁·v₀⁻¹ mod n` of some basis row (nothing else is ever reported). -/
theorem hnp_guess_origin (a b : List Int) (w : Option Int) (n : Nat) (bias : Bias) (fb : Nat)
    (basis : List (List Int)) (gs : List Nat)
    (h : hiddenNumberProblem a b w n bias fb basis = .ok gs) :
    ∀ g ∈ gs, ∃ v0 v1 rest, (v0 :: v1 :: rest) ∈ basis ∧ (g : Int) * v0 ≡ v1 [ZMOD n] ∧ g < n := by
  unfold hiddenNumberProblem at h
  split at h
  · cases h
  intro g hg
  rcases mem_of_hnpGuessLoop h hg with h0 | ⟨r, hr, hs⟩
  · cases h0
  · obtain ⟨v0, v1, rest, rfl, hc, hlt⟩ := hnpRowGuess_sound n r g hs
    exact ⟨v0, v1, rest, hr, hc, hlt⟩


/-! ### decision table of `_HiddenNumberProblemSubsets` -/

theorem numConst_pos (ss k : Nat) (hss : 0 < ss) (hk : 0 < k) :
    numConst ss k = .ok ((ss - 1) / k + 1) := by
  unfold numConst; rw [if_neg (by omega), if_neg (by omega)]

/-- **decision table** for one `CONSTANT_FACTORY` entry with positive `sample_size` and
`sliding_window_size`, every length and every flag set. -/
theorem entryShapes_table (ss ms sw len : Nat) (f : SearchFlags) (hss : 0 < ss) (hsw : 0 < sw) :
    entryShapes ss ms sw len f =
      if sw < len then
        ⟨(if f.sliding then (List.range (len - sw + 1)).map
              (fun i => (⟨i, sw, false, (ss - 1) / sw + 1⟩ : HnpShape)) else []) ++
          (if f.single ∨ ¬ f.sliding then
              [(⟨0, min len (2 * ss), false, (ss - 1) / min len (2 * ss) + 1⟩ : HnpShape)] else []),
          none⟩
      else if ms ≤ len then
        (if len = 0 then ⟨[], some .zeroDivision⟩
         else ⟨[⟨0, len, false, (ss - 1) / len + 1⟩], none⟩)
      else if len + 1 = ms ∧ f.includeKey then ⟨[⟨0, len, true, (ss - 1) / (len + 1) + 1⟩], none⟩
      else ⟨[], none⟩ := by
  unfold entryShapes
  by_cases h1 : sw < len
  · have hmin : 0 < min len (2 * ss) := lt_min (Nat.zero_lt_of_lt h1) (Nat.mul_pos Nat.two_pos hss)
    rw [if_pos h1, if_pos h1]
    unfold slidingShapes oneShape PyGen.andThen
    simp only [Bool.false_eq_true, if_false]
    rw [numConst_pos ss sw hss hsw, numConst_pos ss _ hss hmin]
    cases f.sliding
    · cases f.single <;> rfl
    · cases f.single
      · exact congrArg (PyGen.mk · none) (List.append_nil _).symm
      · rfl
  · rw [if_neg (by omega), if_neg h1]
    by_cases h2 : ms ≤ len
    · rw [if_pos h2, if_pos h2]
      unfold oneShape
      simp only [Bool.false_eq_true, if_false]
      by_cases h0 : len = 0
      · subst h0; simp [numConst]
      · rw [numConst_pos ss len hss (by omega), if_neg h0]
    · rw [if_neg (by omega), if_neg h2]
      by_cases h3 : len + 1 = ms
      · rw [if_pos h3]
        cases hk : f.includeKey
        · simp
        · unfold oneShape
          simp only [if_true]
          rw [numConst_pos ss (len + 1) hss (by omega)]
          simp [h3]
      · rw [if_neg h3, if_neg (by simp [h3])]

/-- no exception for metadata with positive fields (true of every shipped entry). -/
theorem entryShapes_err_none (ss ms sw len : Nat) (f : SearchFlags) (hss : 0 < ss) (hsw : 0 < sw)
    (hms : 0 < ms) : (entryShapes ss ms sw len f).err = none := by
  rw [entryShapes_table ss ms sw len f hss hsw]
  by_cases h1 : sw < len
  · rw [if_pos h1]
  · rw [if_neg h1]
    by_cases h2 : ms ≤ len
    · rw [if_pos h2, if_neg (by omega)]
    · rw [if_neg h2]
      split <;> rfl

theorem entryShapes_mem (ss ms sw len : Nat) (f : SearchFlags) (hss : 0 < ss) (hsw : 0 < sw) :
    ∀ s ∈ (entryShapes ss ms sw len f).yields, s.start + s.size ≤ len ∧
      ∃ k, s.numConstants = (ss - 1) / k + 1 ∧
        (sw < len ∧ (k = sw ∨ k = min len (2 * ss)) ∨ ms ≤ len ∧ k = len ∨ k = ms ∧ k = len + 1) := by
  rw [entryShapes_table ss ms sw len f hss hsw]
  intro s hs
  by_cases hlen : sw < len
  · rw [if_pos hlen] at hs
    rcases List.mem_append.mp hs with h | h
    · split at h
      · obtain ⟨i, hi, rfl⟩ := List.mem_map.mp h
        have := List.mem_range.mp hi
        exact ⟨by simp only; omega, sw, rfl, Or.inl ⟨hlen, Or.inl rfl⟩⟩
      · cases h
    · split at h
      · simp only [List.mem_singleton] at h
        subst h; exact ⟨by simp only; omega, _, rfl, Or.inl ⟨hlen, Or.inr rfl⟩⟩
      · cases h
  · rw [if_neg hlen] at hs
    by_cases hms : ms ≤ len
    · rw [if_pos hms] at hs
      split at hs
      · cases hs
      · simp only [List.mem_singleton] at hs
        subst hs; exact ⟨by simp only; omega, _, rfl, Or.inr (Or.inl ⟨hms, rfl⟩)⟩
    · rw [if_neg hms] at hs
      split at hs
      · rename_i hk
        simp only [List.mem_singleton] at hs
        subst hs; exact ⟨by simp only; omega, _, rfl, Or.inr (Or.inr ⟨hk.1, rfl⟩)⟩
      · cases hs

/-- every yield asks for at most `⌊(ss−1)/ms⌋ + 1` constants when `ms ≤ sw` and `ms ≤ 2·ss`
(so the slice `constant_list[:num_constants]` is not cut short if that many are shipped). -/
theorem entryShapes_numConstants_le (ss ms sw len : Nat) (f : SearchFlags) (hss : 0 < ss)
    (hms : 0 < ms) (hsw : ms ≤ sw) (h2 : ms ≤ 2 * ss) :
    ∀ s ∈ (entryShapes ss ms sw len f).yields, s.numConstants ≤ (ss - 1) / ms + 1 := by
  intro s hs
  obtain ⟨_, k, hk, hcase⟩ := entryShapes_mem ss ms sw len f hss (by omega) s hs
  rw [hk]
  exact Nat.succ_le_succ (Nat.div_le_div_left (by omega) hms)


/-! ### HiddenNumberProblemWithPrecomputation -/

/-- flattened first-row entries `(a_i·c_j − d_j) mod n`, index `t = i·len(constants) + j`. -/
def precompAs (a : List Int) (n : Nat) (consts : List (Int × Int)) : List Int :=
  a.flatMap (precompA n consts)

/-- flattened second-row entries `(b_i·c_j) mod n`. -/
def precompBs (a b : List Int) (n : Nat) (consts : List (Int × Int)) : List Int :=
  (b.take a.length).flatMap (precompB n consts)

theorem flatMap_nil_fun (l : List Int) : l.flatMap (fun _ => ([] : List Int)) = [] := by
  induction l with
  | nil => rfl
  | cons _ _ ih => simp [List.flatMap_cons]

/-- the precomputation lattice is the MSB-shaped lattice of the flattened lists. -/
theorem precompLattice_eq (a b : List Int) (n : Nat) (consts : List (Int × Int)) (w : Int)
    (hn : 0 < n) (hb : a.length ≤ b.length) :
    precompLattice a b n consts w =
      .ok (hnpRows (precompAs a n consts) (precompBs a b n consts) w n ((n : Int) * w + 1) false) := by
  unfold precompLattice precompAs precompBs
  by_cases h0 : a.length = 0 ∨ consts.length = 0
  · rw [if_pos h0]
    rcases h0 with h0 | h0
    · have : a = [] := List.length_eq_zero_iff.mp h0
      subst this
      simp [hnpRows]
    · have : consts = [] := List.length_eq_zero_iff.mp h0
      subst this
      simp [precompA, precompB, hnpRows]
  · rw [if_neg h0, if_neg (by omega), if_neg (by omega)]

theorem precompAs_length (a : List Int) (n : Nat) (consts : List (Int × Int)) :
    (precompAs a n consts).length = a.length * consts.length := by
  unfold precompAs
  induction a with
  | nil => simp
  | cons x xs ih => simp [List.flatMap_cons, precompA, ih]; ring

theorem precompBs_length (a b : List Int) (n : Nat) (consts : List (Int × Int))
    (hb : a.length ≤ b.length) :
    (precompBs a b n consts).length = a.length * consts.length := by
  unfold precompBs
  have : (b.take a.length).length = a.length := by simp; omega
  generalize b.take a.length = b' at this
  rw [← this]
  induction b' with
  | nil => simp
  | cons x xs ih => simp [List.flatMap_cons, precompB]; ring

/-- the quantity whose smallness the constants encode: entry `t = (i, j)` of the two rows
combines to `c_j·(a_i + b_i·x) − d_j` modulo `n`. -/
theorem precomp_entry_modEq (n : Nat) (ai bi c d x : Int) :
    (ai * c - d) % (n : Int) + bi * c % (n : Int) * x ≡ c * (ai + bi * x) - d [ZMOD n] := by
  have h1 : (ai * c - d) % (n : Int) ≡ ai * c - d [ZMOD n] := Int.mod_modEq _ _
  have h2 : bi * c % (n : Int) ≡ bi * c [ZMOD n] := Int.mod_modEq _ _
  calc (ai * c - d) % (n : Int) + bi * c % (n : Int) * x
      ≡ (ai * c - d) + bi * c * x [ZMOD n] := h1.add (h2.mul_right x)
    _ = c * (ai + bi * x) - d := by ring

theorem zip_flatMap_aligned (L : Nat) (f g : Int → List Int)
    (hf : ∀ v, (f v).length = L) (hg : ∀ v, (g v).length = L) :
    ∀ (a b : List Int), a.length = b.length →
      (a.flatMap f).zip (b.flatMap g) = (a.zip b).flatMap (fun p => (f p.1).zip (g p.2))
  | [], [], _ => rfl
  | x :: xs, y :: ys, h => by
    simp only [List.flatMap_cons, List.zip_cons_cons]
    rw [List.zip_append (by rw [hf, hg]),
      zip_flatMap_aligned L f g hf hg xs ys (by simpa using h)]
  | [], _ :: _, h => by simp at h
  | _ :: _, [], h => by simp at h

theorem zip_take_left : ∀ (a b : List Int), a.zip (b.take a.length) = a.zip b
  | [], _ => by simp
  | _ :: _, [] => by simp
  | x :: xs, y :: ys => by simp [zip_take_left xs ys]

/-- result of one precomputation call when nothing raises. -/
theorem precomp_ok (a b : List Int) (n : Nat) (consts : List (Int × Int)) (w : Int)
    (basis : List (List Int)) (hn : 0 < n) (hb : a.length ≤ b.length)
    (hrows : ∀ r ∈ basis, RowOk n r) :
    ∃ gs, hiddenNumberProblemWithPrecomputation a b n consts w basis = .ok gs ∧
      ∀ g, g ∈ gs ↔ ∃ r ∈ basis, hnpRowGuessPre n r = .ok (some g) := by
  unfold hiddenNumberProblemWithPrecomputation
  rw [precompLattice_eq a b n consts w hn hb]
  obtain ⟨gs, hgs, hmem⟩ := hnpGuessLoop_ok (hnpRowGuessPre n) basis []
    (fun r hr => hnpRowGuessPre_total n hn r (hrows r hr))
  refine ⟨gs, hgs, fun g => ?_⟩
  rw [hmem g]; simp

/-! ### HiddenNumberProblemForCurve -/

/-- metadata with positive fields (every shipped entry; see `Props/C08.lean`). -/
def MetaOk (m : LcgMeta) : Prop := 0 < m.sampleSize ∧ 0 < m.slidingWindowSize ∧ 0 < m.minSignatures

theorem applyShape_lengths (a b : List Int) (m : LcgMeta) (s : HnpShape) (h : a.length = b.length) :
    (applyShape a b m s).a.length = (applyShape a b m s).b.length := by
  unfold applyShape
  simp only [List.length_append, List.length_take, List.length_drop, h]
  cases s.withKey <;> simp

theorem subsetsLoop_ok (a b : List Int) (curve : Nat) (lcg : Option Nat) (f : SearchFlags)
    (h : a.length = b.length) : ∀ (factory : List LcgMeta),
    (∀ m ∈ factory, entrySelected m curve lcg = true → MetaOk m) →
    (subsetsLoop a b curve lcg f factory).err = none ∧
      ∀ s ∈ (subsetsLoop a b curve lcg f factory).yields, s.a.length = s.b.length
  | [], _ => by simp [subsetsLoop]
  | m :: rest, hm => by
    have ih := subsetsLoop_ok a b curve lcg f h rest (fun m' hm' => hm m' (List.mem_cons_of_mem _ hm'))
    unfold subsetsLoop
    by_cases hs : entrySelected m curve lcg = true
    · rw [if_pos hs]
      obtain ⟨h1, h2, h3⟩ := hm m (List.mem_cons_self ..) hs
      have he := entryShapes_err_none m.sampleSize m.minSignatures m.slidingWindowSize a.length f h1 h2 h3
      unfold PyGen.andThen PyGen.map
      simp only [he]
      refine ⟨ih.1, ?_⟩
      intro s hs'
      rcases List.mem_append.mp hs' with h' | h'
      · obtain ⟨sh, _, rfl⟩ := List.mem_map.mp h'
        exact applyShape_lengths a b m sh h
      · exact ih.2 s h'
    · rw [if_neg hs]; exact ih

theorem forCurveLoop_ok (n : Nat) (oracle : Nat → List (List Int)) (hn : 0 < n) :
    ∀ (subs : List HnpSubset) (i : Nat) (acc : List Nat),
    (∀ s ∈ subs, s.a.length ≤ s.b.length) →
    (∀ k, k < subs.length → ∀ r ∈ oracle (i + k), RowOk n r) →
    ∃ gs, forCurveLoop n oracle subs i acc = .ok gs ∧
      ∀ g, g ∈ gs ↔ g ∈ acc ∨ ∃ k, k < subs.length ∧ ∃ r ∈ oracle (i + k),
        hnpRowGuessPre n r = .ok (some g)
  | [], i, acc, _, _ => ⟨acc, rfl, by simp⟩
  | s :: rest, i, acc, hl, hr => by
    obtain ⟨g0, hg0, hm0⟩ := precomp_ok s.a s.b n s.constants s.w (oracle i) hn
      (hl s (List.mem_cons_self ..)) (hr 0 (Nat.succ_pos _))
    have e : ∀ k, i + (k + 1) = i + 1 + k := fun k => Nat.add_right_comm i k 1
    obtain ⟨gs, hgs, hmem⟩ := forCurveLoop_ok n oracle hn rest (i + 1) (acc ++ g0)
      (fun s' hs' => hl s' (List.mem_cons_of_mem _ hs'))
      (fun k hk r hrr => hr (k + 1) (Nat.succ_lt_succ hk) r (by rwa [e k]))
    unfold forCurveLoop
    rw [hg0]
    refine ⟨gs, hgs, fun g => ?_⟩
    rw [hmem g, List.mem_append, hm0 g]
    constructor
    · rintro ((h1 | ⟨r, hr1, hr2⟩) | ⟨k, hk, r, hr1, hr2⟩)
      · exact Or.inl h1
      · exact Or.inr ⟨0, Nat.succ_pos _, r, hr1, hr2⟩
      · exact Or.inr ⟨k + 1, Nat.succ_lt_succ hk, r, by rwa [e k], hr2⟩
    · rintro (h1 | ⟨k, hk, r, hr1, hr2⟩)
      · exact Or.inl (Or.inl h1)
      · cases k with
        | zero => exact Or.inl (Or.inr ⟨r, hr1, hr2⟩)
        | succ k =>
          exact Or.inr ⟨k, Nat.lt_of_succ_lt_succ hk, r, by rwa [← e k], hr2⟩

end Paranoid.Hnp
