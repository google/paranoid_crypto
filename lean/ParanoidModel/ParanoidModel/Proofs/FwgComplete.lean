/-
Proofs/FwgComplete.lean — completeness (reachability) of `FactorWithGuess` for a guess that is
close to a factor: the loop over the convergents of `p0/q0` (code after fix bc0d52f) reaches a
convergent whose single Fermat step on `4uvn` succeeds, and no earlier convergent ends the
search.  Pure arithmetic part (no model function): this file.  Loop: FwgCompleteLoop.lean.

Notation (all of it is about `n = P·Q`, the guess `A = p0`, `B = q0 = n / A`):
  `Δ = u·Q − v·P`   what the Fermat step on `4uvn = (2uQ)(2vP)` sees,
  `R = u·B − v·A`   what the code tests against `bound` (`|R|` is the Euclid remainder),
  `S = u·Q + v·P`.
-/
import ParanoidModel.Proofs.Lehman
import Mathlib.Tactic.Ring
import Mathlib.Tactic.Linarith
import Mathlib.Tactic.LinearCombination
import Mathlib.Algebra.Order.Ring.Abs

namespace Paranoid.FwgC

/-- `A·(Δ − R) = e·(vA + uQ) + u·(n mod A)` with `e = A − P`, hence
`A·|Δ − R| ≤ (2E + 4)·S` when `|A − P| ≤ E`, `A ≤ 2P`, `A ≤ 4Q`. -/
theorem delta_bound (P Q A u v E : Nat)
    (hE1 : (A : Int) - P ≤ E) (hE2 : (P : Int) - A ≤ E) (hA2 : A ≤ 2 * P) (hA4 : A ≤ 4 * Q) (hA : 0 < A) :
    |(A : Int) * (((u : Int) * Q - v * P) - ((u : Int) * ((P * Q / A : Nat) : Int) - v * A))|
      ≤ (2 * (E : Int) + 4) * ((u : Int) * Q + v * P) := by
  have hdm : (A : Int) * ((P * Q / A : Nat) : Int) + ((P * Q % A : Nat) : Int) = (P : Int) * Q := by
    exact_mod_cast Nat.div_add_mod (P * Q) A
  have hmlt : ((P * Q % A : Nat) : Int) < A := by exact_mod_cast Nat.mod_lt (P * Q) hA
  generalize ((P * Q / A : Nat) : Int) = B at hdm
  have hm0 : (0 : Int) ≤ ((P * Q % A : Nat) : Int) := Int.natCast_nonneg _
  generalize ((P * Q % A : Nat) : Int) = m at hdm hmlt hm0
  have hA2' : (A : Int) ≤ 2 * P := by exact_mod_cast hA2
  have hA4' : (A : Int) ≤ 4 * Q := by exact_mod_cast hA4
  have hid : (A : Int) * (((u : Int) * Q - v * P) - (u * B - v * A))
      = ((A : Int) - P) * (v * A + u * Q) + u * m := by
    linear_combination (-(u : Int)) * hdm
  rw [hid, abs_le]
  have hu : (0 : Int) ≤ u := Int.natCast_nonneg u
  have hv : (0 : Int) ≤ v := Int.natCast_nonneg v
  have hE : (0 : Int) ≤ E := Int.natCast_nonneg E
  have hQ : (0 : Int) ≤ Q := Int.natCast_nonneg Q
  have hW : (0 : Int) ≤ v * A + u * Q :=
    add_nonneg (mul_nonneg hv (Int.natCast_nonneg A)) (mul_nonneg hu hQ)
  have h1 := mul_le_mul_of_nonneg_right hE1 hW
  have h2 := mul_le_mul_of_nonneg_right hE2 hW
  have h3 : (u : Int) * m ≤ u * A := mul_le_mul_of_nonneg_left hmlt.le hu
  have h4 : (0 : Int) ≤ u * m := mul_nonneg hu hm0
  have h5 : (E : Int) * (v * A) ≤ E * (v * (2 * P)) :=
    mul_le_mul_of_nonneg_left (mul_le_mul_of_nonneg_left hA2' hv) hE
  have h6 : (u : Int) * A ≤ u * (4 * Q) := mul_le_mul_of_nonneg_left hA4' hu
  have h7 : (0 : Int) ≤ E * (u * Q) := mul_nonneg hE (mul_nonneg hu hQ)
  have h8 : (0 : Int) ≤ v * P := mul_nonneg hv (Int.natCast_nonneg P)
  constructor <;> linarith

/-- **Core.** If the Fermat step fails (`Δ² ≥ 2S − 1`) although `A·|Δ − R| ≤ c·S` with
`16c²S ≤ A²` (`c = 2E + 4` from `delta_bound`), then the Euclid remainder is still large:
`16R² ≥ 9(2S − 1)`. -/
theorem core_fail (A Δ R S c : Int) (hA : 0 < A) (hS : 1 ≤ S)
    (hb : |A * (Δ - R)| ≤ c * S) (hsmall : 16 * c ^ 2 * S ≤ A ^ 2) (hfail : 2 * S - 1 ≤ Δ ^ 2) :
    9 * (2 * S - 1) ≤ 16 * R ^ 2 := by
  by_contra hcon
  rw [not_le] at hcon
  -- with `x = A·R`, `t = A·(Δ − R)`: `3(x + t)² ≤ 4x² + 12t²`, `16t² ≤ A²S`, `16x² < 9A²(2S − 1)`,
  -- against `A²(2S − 1) ≤ (x + t)²`
  generalize ht : A * (Δ - R) = t at hb
  have ht2 : t ^ 2 ≤ (c * S) ^ 2 := sq_le_sq' (by linarith [(abs_le.mp hb).1]) (abs_le.mp hb).2
  have hA2 : 0 < A ^ 2 := by positivity
  have h2 : 16 * c ^ 2 * S * S ≤ A ^ 2 * S := mul_le_mul_of_nonneg_right hsmall (by linarith)
  have h3 : A ^ 2 * (16 * R ^ 2) < A ^ 2 * (9 * (2 * S - 1)) := mul_lt_mul_of_pos_left hcon hA2
  have h5 : A ^ 2 * (2 * S - 1) ≤ A ^ 2 * Δ ^ 2 := mul_le_mul_of_nonneg_left hfail hA2.le
  have h6 : A ^ 2 * S ≤ A ^ 2 * (2 * S - 1) := mul_le_mul_of_nonneg_left (by linarith) hA2.le
  have h7 : A * Δ = A * R + t := by rw [← ht]; ring
  have h8 : (A * Δ) ^ 2 = A ^ 2 * Δ ^ 2 := by ring
  rw [h7] at h8
  linarith [sq_nonneg (A * R - 3 * t)]

/-- what a failing admissible convergent implies for the loop: `u·v ≤ bound` (the search goes
on) and the remainder is at least `T` (the next convergent is still small). -/
theorem fail_consequences (P Q u v rho bound T : Nat) (hu : 1 ≤ u) (hv : 1 ≤ v)
    (hadm : rho < bound)
    (h : 9 * (2 * ((u : Int) * Q + v * P) - 1) ≤ 16 * (rho : Int) ^ 2)
    (hT : 16 * T ^ 2 + 9 ≤ 18 * (P + Q))
    (hcb : 16 * bound ^ 3 ≤ 81 * (P * Q)) :
    u * v ≤ bound ∧ T ≤ rho := by
  have hS : (P : Int) + Q ≤ u * Q + v * P := by
    rw [add_comm]
    exact_mod_cast Nat.add_le_add (Nat.le_mul_of_pos_left Q hu) (Nat.le_mul_of_pos_left P hv)
  have hrho : (0 : Int) ≤ rho := Int.natCast_nonneg rho
  zify at hT hcb hadm
  constructor
  · -- `9S ≤ 8·bound²` and `4·uv·PQ ≤ S²` give `81·uv·PQ ≤ 16·bound⁴ ≤ 81·PQ·bound`
    by_contra hc
    have hc' : (bound : Int) + 1 ≤ u * v := by exact_mod_cast not_le.1 hc
    have hb0 : (0 : Int) < bound := lt_of_le_of_lt hrho hadm
    have hb2 : ((rho : Int) + 1) ^ 2 ≤ bound ^ 2 :=
      pow_le_pow_left₀ (add_nonneg hrho zero_le_one) (Int.add_one_le_iff.2 hadm) 2
    have h9S : 9 * ((u : Int) * Q + v * P) ≤ 8 * bound ^ 2 := by linarith
    have hPQ : (0 : Int) ≤ P * Q := mul_nonneg (Int.natCast_nonneg P) (Int.natCast_nonneg Q)
    have h81 := pow_le_pow_left₀ (by linarith) h9S 2
    have hmul : ((bound : Int) + 1) * (P * Q) ≤ u * v * (P * Q) :=
      mul_le_mul_of_nonneg_right hc' hPQ
    have hcb' : 16 * (bound : Int) ^ 3 * bound ≤ 81 * (P * Q) * bound :=
      mul_le_mul_of_nonneg_right hcb hb0.le
    have hb3 : 0 < (bound : Int) ^ 3 := pow_pos hb0 3
    linarith [sq_nonneg ((u : Int) * Q - v * P)]
  · by_contra hc
    have hc' : (rho : Int) + 1 ≤ T := by exact_mod_cast not_le.1 hc
    have := pow_le_pow_left₀ (add_nonneg hrho zero_le_one) hc' 2
    linarith

end Paranoid.FwgC
