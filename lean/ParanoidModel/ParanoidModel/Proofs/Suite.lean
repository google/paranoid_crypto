/-
Proofs/Suite.lean — lemmas about Model/Suite.lean (random_test_suite decision structure): Python dicts, the
three-way decision, and for each model routine (`runItem`, `runItems`, `run`, `runRound`, `sourceLoop`,
`testSource`, `runAll`, `testBitString`) what an `.ok` result says one level down; each routine is unfolded
here only.  What follows from these about structures after whole histories of runs: Proofs/SuiteHistory.lean.
Core Lean only; everything is parametric in the number type `α` and in `N : Num α`
(comparison, zero test, float-tail oracle), so no property of `<` is used anywhere.
-/
import ParanoidModel.Model.Suite
namespace Paranoid.Suite

variable {α : Type}

/-- results of the model can be compared by `decide` (used by the concrete examples). -/
instance instDecidableEqExceptSuite {ε β : Type} [DecidableEq ε] [DecidableEq β] :
    DecidableEq (Except ε β)
  | .ok a, .ok b =>
    if h : a = b then isTrue (by rw [h]) else isFalse (by intro h'; cases h'; exact h rfl)
  | .error a, .error b =>
    if h : a = b then isTrue (by rw [h]) else isFalse (by intro h'; cases h'; exact h rfl)
  | .ok _, .error _ => isFalse (by intro h; cases h)
  | .error _, .ok _ => isFalse (by intro h; cases h)

/-! ### Python dicts -/

theorem dictGet_dictSet {β : Type} (k k' : String) (v : β) (d : List (String × β)) :
    dictGet k' (dictSet k v d) = if k' = k then some v else dictGet k' d := by
  induction d with
  | nil => simp only [dictSet, dictGet, eq_comm]
  | cons x xs ih =>
    simp only [dictSet]
    by_cases hx : x.1 = k
    · by_cases h : k' = k
      · simp [dictGet, hx, h]
      · simp [dictGet, hx, h, Ne.symm h]
    · by_cases hk : x.1 = k'
      · simp [dictGet, hk, hk ▸ hx]
      · simp [dictGet, hx, hk, ih]

theorem mem_keys_dictSet {β : Type} (k x : String) (v : β) (d : List (String × β)) :
    x ∈ (dictSet k v d).map (·.1) ↔ x = k ∨ x ∈ d.map (·.1) := by
  induction d with
  | nil => simp [dictSet]
  | cons y ys ih =>
    by_cases hy : y.1 = k
    · simp [dictSet, hy]
    · simp only [dictSet, if_neg hy, List.map_cons, List.mem_cons, ih]
      exact or_left_comm

theorem dictSet_keys_nodup {β : Type} (k : String) (v : β) (d : List (String × β))
    (h : (d.map (·.1)).Nodup) : ((dictSet k v d).map (·.1)).Nodup := by
  induction d with
  | nil => simp [dictSet]
  | cons y ys ih =>
    rw [List.map_cons, List.nodup_cons] at h
    by_cases hy : y.1 = k
    · simpa [dictSet, hy] using h
    · simp only [dictSet, if_neg hy, List.map_cons, List.nodup_cons, mem_keys_dictSet, not_or]
      exact ⟨⟨hy, h.1⟩, ih h.2⟩

theorem dictGet_of_mem {β : Type} (d : List (String × β)) (h : (d.map (·.1)).Nodup)
    (p : String × β) (hp : p ∈ d) : dictGet p.1 d = some p.2 := by
  induction d with
  | nil => cases hp
  | cons y ys ih =>
    obtain ⟨ky, vy⟩ := y
    simp only [List.map_cons, List.nodup_cons] at h
    simp only [dictGet]
    rcases List.mem_cons.1 hp with rfl | hp
    · simp
    · have : ¬ ky = p.1 := fun h' => h.1 (List.mem_map.2 ⟨p, hp, h'.symm⟩)
      simp only [this, if_false]
      exact ih h.2 hp

theorem mem_of_dictGet {β : Type} (d : List (String × β)) (k : String) (v : β)
    (h : dictGet k d = some v) : (k, v) ∈ d := by
  induction d with
  | nil => simp [dictGet] at h
  | cons y ys ih =>
    obtain ⟨ky, vy⟩ := y
    simp only [dictGet] at h
    by_cases hk : ky = k
    · simp only [hk, if_true, Option.some.injEq] at h
      subst hk; subst h; exact List.mem_cons_self
    · simp only [hk, if_false] at h
      exact List.mem_cons_of_mem _ (ih h)

/-! ### CombinedPValue and the three-way decision -/

theorem stateOf_spec (N : Num α) (fail rep : α) (pv : List α) (c : α) (st : TState)
    (h : stateOf N fail rep pv = .ok (c, st)) :
    combinedPValue N pv = .ok c ∧
    (st = .failed ↔ N.lt c fail = true) ∧
    (st = .passed ↔ N.lt c fail = false ∧
      ∃ rp, combinedPValue N (List.replicate pv.length rep) = .ok rp ∧ N.lt rp c = true) ∧
    (st = .undecided ↔ N.lt c fail = false ∧
      ∃ rp, combinedPValue N (List.replicate pv.length rep) = .ok rp ∧ N.lt rp c = false) := by
  unfold stateOf at h
  cases hc : combinedPValue N pv with
  | error e => rw [hc] at h; cases h
  | ok pval =>
    rw [hc] at h
    dsimp only at h
    cases hlt : N.lt pval fail with
    | true =>
      rw [hlt, if_pos rfl] at h
      cases h
      simp [hlt]
    | false =>
      rw [hlt, if_neg (by simp)] at h
      cases hr : combinedPValue N (List.replicate pv.length rep) with
      | error e => rw [hr] at h; cases h
      | ok rp =>
        rw [hr] at h
        cases h
        cases hl2 : N.lt rp c <;> simp [hlt, hl2]

/-! ### the invariant of a TestStructure -/

/-- every recorded state is the decision for the recorded p-values of that name, the recorded
combination is CombinedPValue of them, every name with p-values has a state, names are unique. -/
structure Inv (N : Num α) (ts : TS α) : Prop where
  decided : ∀ name st, dictGet name ts.state = some st →
    ∃ pv c, dictGet name ts.pvalues = some pv ∧ dictGet name ts.combined = some c ∧
      stateOf N ts.fail ts.rep pv = .ok (c, st)
  hasState : ∀ name pv, dictGet name ts.pvalues = some pv → ∃ st, dictGet name ts.state = some st
  keys : (ts.state.map (·.1)).Nodup

theorem inv_init (N : Num α) (fail rep : α) (minRep : Nat) : Inv N (TS.init fail rep minRep) :=
  ⟨by simp [TS.init, dictGet], by simp [TS.init, dictGet], by simp [TS.init]⟩

/-! ### one item, one result list, one `Run` -/

/-- what merging one item does to the accumulator; `c`, `st` are the combined value and the decision for
the item's name. -/
structure ItemStep (N : Num α) (acc acc' : TS α × Nat) (item : String × α) (c : α) (st : TState) :
    Prop where
  fail : acc'.1.fail = acc.1.fail
  rep : acc'.1.rep = acc.1.rep
  minRep : acc'.1.minRep = acc.1.minRep
  runs : acc'.1.runs = acc.1.runs
  decision : stateOf N acc.1.fail acc.1.rep (pvalsOf acc.1 item.1 ++ [item.2]) = .ok (c, st)
  pvalues : acc'.1.pvalues = dictSet item.1 (pvalsOf acc.1 item.1 ++ [item.2]) acc.1.pvalues
  combined : acc'.1.combined = dictSet item.1 c acc.1.combined
  state : acc'.1.state = dictSet item.1 st acc.1.state
  counter : acc'.2 = (if st = .undecided then acc.2 + 1 else acc.2)

theorem runItem_spec (N : Num α) (acc acc' : TS α × Nat) (item : String × α)
    (h : runItem N acc item = .ok acc') : ∃ c st, ItemStep N acc acc' item c st := by
  unfold runItem at h
  split at h
  · cases h
  · rename_i pval st hst
    cases h
    exact ⟨pval, st, rfl, rfl, rfl, rfl, hst, rfl, rfl, rfl, rfl⟩

theorem ItemStep.at_name {N : Num α} {acc acc' : TS α × Nat} {item : String × α} {c : α} {st : TState}
    (hs : ItemStep N acc acc' item c st) :
    dictGet item.1 acc'.1.pvalues = some (pvalsOf acc.1 item.1 ++ [item.2]) ∧
    dictGet item.1 acc'.1.combined = some c ∧ dictGet item.1 acc'.1.state = some st := by
  rw [hs.pvalues, hs.combined, hs.state, dictGet_dictSet, dictGet_dictSet, dictGet_dictSet]
  exact ⟨if_pos rfl, if_pos rfl, if_pos rfl⟩

theorem ItemStep.at_other {N : Num α} {acc acc' : TS α × Nat} {item : String × α} {c : α} {st : TState}
    (hs : ItemStep N acc acc' item c st) {name : String} (hn : name ≠ item.1) :
    dictGet name acc'.1.pvalues = dictGet name acc.1.pvalues ∧
    dictGet name acc'.1.combined = dictGet name acc.1.combined ∧
    dictGet name acc'.1.state = dictGet name acc.1.state := by
  rw [hs.pvalues, hs.combined, hs.state, dictGet_dictSet, dictGet_dictSet, dictGet_dictSet]
  exact ⟨if_neg hn, if_neg hn, if_neg hn⟩

theorem runItems_cons_ok (N : Num α) (acc acc' : TS α × Nat) (it : String × α)
    (its : List (String × α)) :
    runItems N acc (it :: its) = .ok acc' ↔
      ∃ acc1, runItem N acc it = .ok acc1 ∧ runItems N acc1 its = .ok acc' := by
  rw [runItems]
  cases runItem N acc it <;> simp

theorem runItems_state_of_not_mem (N : Num α) (acc acc' : TS α × Nat) (items : List (String × α))
    (h : runItems N acc items = .ok acc') (name : String) (hn : name ∉ items.map (·.1)) :
    dictGet name acc'.1.state = dictGet name acc.1.state := by
  induction items generalizing acc with
  | nil => cases h; rfl
  | cons it its ih =>
    obtain ⟨acc1, h1, h⟩ := (runItems_cons_ok N acc acc' it its).mp h
    obtain ⟨c, st, hs⟩ := runItem_spec N acc acc1 it h1
    simp only [List.map_cons, List.mem_cons, not_or] at hn
    rw [ih acc1 h hn.2, (hs.at_other hn.1).2.2]

theorem runItems_undecided (N : Num α) (acc acc' : TS α × Nat) (items : List (String × α))
    (hnd : (items.map (·.1)).Nodup) (h : runItems N acc items = .ok acc') :
    acc'.2 = 0 ↔ acc.2 = 0 ∧
      ∀ name ∈ items.map (·.1), dictGet name acc'.1.state ≠ some TState.undecided := by
  induction items generalizing acc with
  | nil => cases h; simp
  | cons it its ih =>
    simp only [List.map_cons, List.nodup_cons] at hnd
    obtain ⟨acc1, h1, h⟩ := (runItems_cons_ok N acc acc' it its).mp h
    obtain ⟨c, st, hs⟩ := runItem_spec N acc acc1 it h1
    have hfinal : dictGet it.1 acc'.1.state = some st := by
      rw [runItems_state_of_not_mem N acc1 acc' its h it.1 hnd.1, hs.at_name.2.2]
    rw [ih acc1 hnd.2 h, hs.counter]
    simp only [List.map_cons, List.mem_cons, forall_eq_or_imp, hfinal]
    by_cases hst : st = .undecided
    · simp [hst]
    · simp only [hst, if_false]
      constructor
      · rintro ⟨a, b⟩; exact ⟨a, by simpa using hst, b⟩
      · rintro ⟨a, _, b⟩; exact ⟨a, b⟩

theorem run_named_ok (N : Num α) (ts ts' : TS α) (o : Outcome α) (items : List (String × α)) (fin : Bool)
    (ho : asNamed o = some items) :
    run N ts o = .ok (ts', fin) ↔
      ∃ ts1 u, runItems N ({ ts with runs := ts.runs + 1 }, 0) items = .ok (ts1, u) ∧
        { ts1 with finished := (u == 0) && decide (ts1.minRep ≤ ts1.runs) } = ts' ∧
        ((u == 0) && decide (ts1.minRep ≤ ts1.runs)) = fin := by
  rw [run, ho]
  dsimp only
  rcases runItems N ({ ts with runs := ts.runs + 1 }, 0) items with e | ⟨ts1, u⟩ <;> simp [and_assoc]

theorem run_none (N : Num α) (ts : TS α) (o : Outcome α) (ho : asNamed o = none) :
    run N ts o = .ok ({ ts with runs := ts.runs + 1, finished := true }, true) := by
  rw [run, ho]

theorem run_insufficient (N : Num α) (ts : TS α) :
    run N ts .insufficient = .ok ({ ts with runs := ts.runs + 1, finished := true }, true) := rfl

theorem run_flag (N : Num α) (ts ts' : TS α) (o : Outcome α) (fin : Bool)
    (h : run N ts o = .ok (ts', fin)) : fin = ts'.finished := by
  cases ho : asNamed o with
  | none => rw [run_none N ts o ho] at h; cases h; rfl
  | some items =>
    obtain ⟨ts1, u, -, rfl, rfl⟩ := (run_named_ok N ts ts' o items fin ho).mp h
    rfl

theorem run_finished_distinct_names (N : Num α) (ts ts' : TS α) (o : Outcome α) (items : List (String × α))
    (fin : Bool) (ho : asNamed o = some items) (hnd : (items.map (·.1)).Nodup)
    (h : run N ts o = .ok (ts', fin)) :
    ts'.finished = true ↔
      (∀ name ∈ items.map (·.1), dictGet name ts'.state ≠ some TState.undecided) ∧
      ts'.minRep ≤ ts'.runs := by
  obtain ⟨ts1, u, h1, rfl, rfl⟩ := (run_named_ok N ts ts' o items fin ho).mp h
  have := runItems_undecided N _ (ts1, u) items hnd h1
  simp only [true_and] at this
  simp only [Bool.and_eq_true, beq_iff_eq, decide_eq_true_eq]
  rw [this]

/-! ### Failed() -/

theorem failed_iff (N : Num α) (ts : TS α) (hi : Inv N ts) :
    failed ts = true ↔ ∃ name, dictGet name ts.state = some TState.failed := by
  unfold failed
  rw [List.any_eq_true]
  constructor
  · rintro ⟨p, hp, hf⟩
    refine ⟨p.1, ?_⟩
    have := dictGet_of_mem ts.state hi.keys p hp
    rw [this]; simpa using hf
  · rintro ⟨name, hget⟩
    exact ⟨(name, .failed), mem_of_dictGet _ _ _ hget, by simp⟩

theorem failed_iff_comb (N : Num α) (ts : TS α) (hi : Inv N ts) :
    failed ts = true ↔ ∃ name pv c, dictGet name ts.pvalues = some pv ∧
      combinedPValue N pv = .ok c ∧ N.lt c ts.fail = true := by
  rw [failed_iff N ts hi]
  constructor
  · rintro ⟨name, hget⟩
    obtain ⟨pv, c, h1, _, h3⟩ := hi.decided name _ hget
    obtain ⟨s1, s2, _, _⟩ := stateOf_spec N _ _ pv c _ h3
    exact ⟨name, pv, c, h1, s1, s2.1 rfl⟩
  · rintro ⟨name, pv, c, h1, h2, h3⟩
    obtain ⟨st, hst⟩ := hi.hasState name pv h1
    obtain ⟨pv', c', h1', _, h3'⟩ := hi.decided name st hst
    rw [h1] at h1'; cases h1'
    obtain ⟨s1, s2, _, _⟩ := stateOf_spec N _ _ pv c' st h3'
    rw [h2] at s1; cases s1
    exact ⟨name, by rw [hst, s2.2 h3]⟩

/-! ### lists of structures -/

/-- position-wise relation between two lists of structures, with the position. -/
def PW (R : Nat → TS α → TS α → Prop) : Nat → List (TS α) → List (TS α) → Prop
  | _, [], [] => True
  | i, a :: as, b :: bs => R i a b ∧ PW R (i + 1) as bs
  | _, [], _ :: _ => False
  | _, _ :: _, [] => False

theorem PW.mem_right {R : Nat → TS α → TS α → Prop} {i : Nat} {l l' : List (TS α)}
    (h : PW R i l l') (b : TS α) (hb : b ∈ l') : ∃ j a, a ∈ l ∧ R j a b := by
  induction l generalizing i l' with
  | nil => cases l' with
    | nil => cases hb
    | cons c cs => exact h.elim
  | cons a as ih => cases l' with
    | nil => exact h.elim
    | cons c cs =>
      rcases List.mem_cons.1 hb with rfl | hb
      · exact ⟨i, a, List.mem_cons_self, h.1⟩
      · obtain ⟨j, a', ha', hr⟩ := ih h.2 hb
        exact ⟨j, a', List.mem_cons_of_mem _ ha', hr⟩

theorem PW.length_eq {R : Nat → TS α → TS α → Prop} {i : Nat} {l l' : List (TS α)}
    (h : PW R i l l') : l'.length = l.length := by
  induction l generalizing i l' with
  | nil => cases l' with
    | nil => rfl
    | cons b bs => exact h.elim
  | cons a as ih => cases l' with
    | nil => exact h.elim
    | cons b bs => simp only [List.length_cons, ih h.2]

def unfinished (l : List (TS α)) : Nat := l.countP (fun ts => !ts.finished)

theorem unfinished_zero_iff (l : List (TS α)) :
    unfinished l = 0 ↔ ∀ ts ∈ l, ts.finished = true := by
  unfold unfinished
  rw [List.countP_eq_zero]
  simp

/-- what one round of TestSource does to one structure. -/
def RoundStep (N : Num α) (outcome : Nat → Outcome α) (i : Nat) (ts ts' : TS α) : Prop :=
  (ts.finished = true ∧ ts' = ts) ∨
  (ts.finished = false ∧ ∃ fin, run N ts (outcome i) = .ok (ts', fin))

theorem runRound_spec (N : Num α) (outcome : Nat → Outcome α) (i : Nat) (tests tests' : List (TS α))
    (u : Nat) (h : runRound N outcome i tests = .ok (tests', u)) :
    PW (RoundStep N outcome) i tests tests' ∧ u = unfinished tests' := by
  induction tests generalizing i tests' u with
  | nil => cases h; exact ⟨trivial, rfl⟩
  | cons ts rest ih =>
    unfold runRound at h
    split at h
    · rename_i hfin
      split at h
      · cases h
      · rename_i rest' u' hr
        obtain ⟨p, q⟩ := ih (i + 1) rest' u' hr
        cases h
        refine ⟨⟨Or.inl ⟨hfin, rfl⟩, p⟩, ?_⟩
        simp only [unfinished, List.countP_cons, hfin] at q ⊢
        rw [q]; simp
    · rename_i hfin
      have hfin' : ts.finished = false := by simpa using hfin
      split at h
      · cases h
      · rename_i ts1 fin hrun
        split at h
        · cases h
        · rename_i rest' u' hr
          obtain ⟨p, q⟩ := ih (i + 1) rest' u' hr
          cases h
          refine ⟨⟨Or.inr ⟨hfin', fin, hrun⟩, p⟩, ?_⟩
          have hf := run_flag N ts ts1 _ fin hrun
          simp only [unfinished, List.countP_cons] at q ⊢
          rw [q, ← hf]
          cases fin <;> simp

/-- the `while undecided:` loop keeps every invariant `P round tests counter` of its rounds; it exits with
counter 0. -/
theorem sourceLoop_invariant (N : Num α) (outcomes : Nat → Nat → Outcome α)
    (P : Nat → List (TS α) → Nat → Prop)
    (hstep : ∀ r tests u tests1 u1, P r tests u →
      runRound N (outcomes r) 0 tests = .ok (tests1, u1) → P (r + 1) tests1 u1)
    (fuel r : Nat) (tests tests' : List (TS α)) (u : Nat) (hP : P r tests u)
    (h : sourceLoop N outcomes fuel r tests u = .ok (some tests')) : ∃ r', P r' tests' 0 := by
  induction fuel generalizing r tests u with
  | zero =>
    cases u with
    | zero => simp only [sourceLoop] at h; cases h; exact ⟨r, hP⟩
    | succ n => simp [sourceLoop] at h
  | succ fuel ih =>
    cases u with
    | zero => simp only [sourceLoop] at h; cases h; exact ⟨r, hP⟩
    | succ n =>
      simp only [sourceLoop] at h
      split at h
      · cases h
      · rename_i tests1 u1 hr
        exact ih (r + 1) tests1 u1 (hstep r tests _ tests1 u1 hP hr) h

theorem sourceLoop_step (N : Num α) (outcomes : Nat → Nat → Outcome α) (fuel r : Nat)
    (tests : List (TS α)) :
    (unfinished tests = 0 →
      sourceLoop N outcomes fuel r tests (unfinished tests) = .ok (some tests)) ∧
    (unfinished tests ≠ 0 →
      sourceLoop N outcomes (fuel + 1) r tests (unfinished tests) =
        match runRound N (outcomes r) 0 tests with
        | .error e => .error e
        | .ok (tests', u) => sourceLoop N outcomes fuel (r + 1) tests' u) := by
  constructor
  · intro h0
    rw [h0]
    cases fuel <;> rfl
  · intro hne
    obtain ⟨n, hn⟩ := Nat.exists_eq_succ_of_ne_zero hne
    rw [hn]
    rfl

theorem unfinished_replicate (fail rep : α) (minRep n : Nat) :
    unfinished (List.replicate n (TS.init fail rep minRep)) = n := by
  induction n with
  | zero => rfl
  | succ n ih =>
    simp only [List.replicate_succ, unfinished, List.countP_cons] at ih ⊢
    rw [ih]; simp [TS.init]

theorem any_failed_iff (N : Num α) (tests : List (TS α)) (hg : ∀ ts ∈ tests, Inv N ts) :
    tests.any failed = true ↔
      ∃ ts ∈ tests, ∃ name, dictGet name ts.state = some TState.failed := by
  rw [List.any_eq_true]
  constructor
  · rintro ⟨ts, hts, hf⟩
    exact ⟨ts, hts, (failed_iff N ts (hg ts hts)).1 hf⟩
  · rintro ⟨ts, hts, hf⟩
    exact ⟨ts, hts, (failed_iff N ts (hg ts hts)).2 hf⟩

theorem runAll_spec (N : Num α) (outcome : Nat → Outcome α) (i : Nat) (tests tests' : List (TS α))
    (h : runAll N outcome i tests = .ok tests') :
    PW (fun j ts ts' => ∃ fin, run N ts (outcome j) = .ok (ts', fin)) i tests tests' := by
  induction tests generalizing i tests' with
  | nil => cases h; trivial
  | cons ts rest ih =>
    unfold runAll at h
    split at h
    · cases h
    · rename_i ts1 fin hrun
      split at h
      · cases h
      · rename_i rest' hr
        cases h
        exact ⟨⟨fin, hrun⟩, ih (i + 1) rest' hr⟩

theorem testSource_ok (N : Num α) (nTests : Nat) (fail rep : α) (minRep : Nat)
    (outcomes : Nat → Nat → Outcome α) (fuel : Nat) (tests : List (TS α)) (ret : Option Bool)
    (h : testSource N nTests fail rep minRep outcomes fuel = .ok (some (tests, ret))) :
    (nTests = 0 ∧ tests = [] ∧ ret = none) ∨
    (nTests ≠ 0 ∧ ret = some (tests.any failed) ∧
      sourceLoop N outcomes fuel 0 (List.replicate nTests (TS.init fail rep minRep)) nTests =
        .ok (some tests)) := by
  unfold testSource at h
  by_cases hn : nTests = 0
  · rw [if_pos hn] at h
    cases h
    exact Or.inl ⟨hn, rfl, rfl⟩
  · rw [if_neg hn] at h
    split at h
    · cases h
    · cases h
    · rename_i tests' hloop
      cases h
      exact Or.inr ⟨hn, rfl, hloop⟩

theorem testBitString_ok (N : Num α) (nTests : Nat) (level : α) (outcome : Nat → Outcome α)
    (tests : List (TS α)) (b : Bool) (h : testBitString N nTests level outcome = .ok (tests, b)) :
    b = tests.any failed ∧
      runAll N outcome 0 (List.replicate nTests (TS.init level level 1)) = .ok tests := by
  unfold testBitString at h
  split at h
  · cases h
  · rename_i tests' hall
    cases h
    exact ⟨rfl, hall⟩

/-! ### histories of runs of one structure -/

/-- any sequence of `Run` calls on one structure (aborted by the first exception). -/
def runHistory (N : Num α) : TS α → List (Outcome α) → Except PyErr (TS α)
  | ts, [] => .ok ts
  | ts, o :: os =>
    match run N ts o with
    | .error e => .error e
    | .ok (ts', _) => runHistory N ts' os

theorem runHistory_cons_ok (N : Num α) (ts ts' : TS α) (o : Outcome α) (os : List (Outcome α)) :
    runHistory N ts (o :: os) = .ok ts' ↔
      ∃ ts1 fin, run N ts o = .ok (ts1, fin) ∧ runHistory N ts1 os = .ok ts' := by
  rw [runHistory]
  rcases run N ts o with e | ⟨ts1, fin⟩ <;> simp

end Paranoid.Suite
