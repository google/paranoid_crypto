/-
Proofs/KeypairGen.lean — arithmetic of `keypair_generator.Generator.generate_prime`:
the candidate the prime search starts from, and its size.  Helper definitions and lemmas for
Props/C06Gen.lean.  No model of AES / SHA-1: the random bytes are a universally quantified argument.
-/
import ParanoidModel.Proofs.Basic
namespace Paranoid.KeypairGen
open Paranoid

/-- `int.from_bytes(bs, 'big')`. -/
def beNat (bs : List UInt8) : Nat := bs.foldl (fun acc b => 256 * acc + b.toNat) 0

theorem beNat_lt (bs : List UInt8) : beNat bs < 2 ^ (8 * bs.length) := by
  have h : beNat bs = bytes2int (bs.map (·.toNat)) := by
    simp only [beNat, bytes2int, List.foldl_map, Nat.mul_comm 256]
  have := bytes2int_lt (bs.map (·.toNat)) fun x hx => by
    obtain ⟨b, _, rfl⟩ := List.mem_map.1 hx
    exact UInt8.toNat_lt b
  rwa [← h, List.length_map, show 256 = 2 ^ 8 from rfl, ← Nat.pow_mul] at this

/-- the statements of `generate_prime(k)` between the byte slice and the prime search:
`p = x; p |= 1 << (k - 1); p += 31 - p % 30`, `x = int.from_bytes(prime_bytes[1 : k // 8 + 1], 'big')`. -/
def primeStart (k x : Nat) : Nat := (x ||| 1 <<< (k - 1)) + (31 - (x ||| 1 <<< (k - 1)) % 30)

/-- setting bit `k − 1` of an integer of `k // 8` bytes: below `2^(k−1) + 2^(8(k//8))`, at least `2^(k−1)`. -/
theorem setMsb_bounds (k x : Nat) (hx : x < 2 ^ (8 * (k / 8))) :
    2 ^ (k - 1) ≤ x ||| 1 <<< (k - 1) ∧ x ||| 1 <<< (k - 1) < 2 ^ (k - 1) + 2 ^ (8 * (k / 8)) := by
  rw [Nat.one_shiftLeft]
  refine ⟨Nat.right_le_or, ?_⟩
  by_cases h : x < 2 ^ (k - 1)
  · rw [Nat.or_two_pow_eq_add_of_lt h]; omega
  · have h1 : 2 ^ (k - 1) < 2 ^ (8 * (k / 8)) := by omega
    have := Nat.or_lt_two_pow hx h1
    have hp : 0 < 2 ^ (k - 1) := Nat.two_pow_pos _
    omega

theorem primeStart_bounds (k x : Nat) (hx : x < 2 ^ (8 * (k / 8))) :
    2 ^ (k - 1) ≤ primeStart k x ∧ primeStart k x < 2 ^ (k - 1) + 2 ^ (8 * (k / 8)) + 31 ∧
      primeStart k x % 30 = 1 := by
  obtain ⟨h1, h2⟩ := setMsb_bounds k x hx
  unfold primeStart
  generalize x ||| 1 <<< (k - 1) = p0 at h1 h2 ⊢
  refine ⟨by omega, by omega, by omega⟩

end Paranoid.KeypairGen
