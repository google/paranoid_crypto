/-
Proofs/EcAllBound.lean — totality of the composed EC / ECDSA entry-point models for EVERY value of
the parameter `EcParams.bound` (the literal `2**32` that `ExtendedBatchDL` hands to `BatchDL`; the
quick tier of harness/corr/ecall.py runs the real code and the model with `2**16`), and without the
primality hypothesis (`fieldPrimes`).

The only place the bound enters the control flow of the real code is through the two float values
`table_size = int(math.sqrt(bound * len(all_points)))` and `int(math.sqrt(table_size))`, which are
oracle arguments of the model; `ECWF.wk` asks them to be `≥ 1` for every curve that has keys.  With
the real `math.sqrt` that is the case exactly when `bound ≥ 1` (`len(all_points) ≥ 1` for a
non-empty group), so: the code returns for every bound `≥ 1`; for `bound = 0` the float is `0`,
outside `ECWF` (the real `BatchDL` then runs with `t = -1` on whatever table is cached).
-/
import ParanoidModel.Proofs.EcAllPrimes
namespace Paranoid.EcAll
open Paranoid Paranoid.Ec Paranoid.Bsgs WeierstrassCurve

/-- `ecRowsG_total` without the hypothesis `FieldPrimes`. -/
theorem ecRowsG_total_certified (p : EcParams) (o : EcOracle) (sts : List EcState) (arts : List Artifact)
    (hwf : ECWF p o sts arts) :
    ∃ rows sts', ecRowsG listImpl p o sts arts = .ok (rows, sts') ∧ StatesOK ecFactory sts' :=
  ecRowsG_total fieldPrimes p o sts arts hwf

/-- the registered signature checks one after another return on a well-formed call: no primality
hypothesis, every `p.bound`. -/
theorem sigStepsG_total_certified {p : EcParams} {O : SigOracle}
    {st0 : SigState XTable} {sarts : List SigArt} (hwf : SigWF p O st0 sarts)
    (l : List (CheckSpec × Nat)) (hl : ∀ cj ∈ l, ecdsaAll[cj.2]? = some cj.1)
    (st : SigState XTable) (hi : TotInv st) :
    ∃ outs st', sigStepsG listImpl p O (sarts.map SigArt.art) (sarts.map SigArt.sig) l st =
      .ok (outs, st') ∧ TotInv st' := by
  obtain ⟨outs, st', h, hi', _⟩ := sigStepsG_of_step (R := fun _ _ _ => True) l
    (fun cj hcj sti hsti => by
      obtain ⟨out, st', h, hi'⟩ := runSigStepG_total fieldPrimes hwf cj.2 cj.1 (hl cj hcj) sti hsti
      exact ⟨out, st', h, hi', trivial⟩) st hi
  exact ⟨outs, st', h, hi'⟩

/-- neither `hp` nor `hb` is used. -/
theorem sigStepsG_total (hp : FieldPrimes) {p : EcParams} (hb : p.bound = 2 ^ 32) {O : SigOracle}
    {st0 : SigState XTable} {sarts : List SigArt} (hwf : SigWF p O st0 sarts) :
    ∀ (l : List (CheckSpec × Nat)), (∀ cj ∈ l, ecdsaAll[cj.2]? = some cj.1) →
    ∀ (st : SigState XTable), TotInv st →
    ∃ outs st', sigStepsG listImpl p O (sarts.map SigArt.art) (sarts.map SigArt.sig) l st =
      .ok (outs, st') ∧ TotInv st' :=
  sigStepsG_total_certified hwf

end Paranoid.EcAll
