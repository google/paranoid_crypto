/-
Proofs/Bookkeeping.lean — lemmas about Model/Bookkeeping.lean (util.py bookkeeping):
monotonicity of every mutating call, uniqueness of entry names, the weak-flag invariant,
version recording, attached factor sets as growing unions.  Core Lean only.
-/
import ParanoidModel.Model.Bookkeeping
namespace Paranoid

/-- results of the model can be compared by `decide` (used by the concrete examples). -/
instance instDecidableEqExcept {ε α : Type} [DecidableEq ε] [DecidableEq α] :
    DecidableEq (Except ε α)
  | .ok a, .ok b =>
    if h : a = b then isTrue (by rw [h]) else isFalse (by intro h'; cases h'; exact h rfl)
  | .error a, .error b =>
    if h : a = b then isTrue (by rw [h]) else isFalse (by intro h'; cases h'; exact h rfl)
  | .ok _, .error _ => isFalse (by intro h; cases h)
  | .error _, .ok _ => isFalse (by intro h; cases h)

/-! ### integer sets -/

theorem mem_insertS (a x : Int) (l : List Int) : a ∈ insertS x l ↔ a = x ∨ a ∈ l := by
  induction l with
  | nil => simp [insertS]
  | cons y ys ih =>
    unfold insertS
    split
    · simp
    · split
      · rename_i _ h; subst h; simp
      · simp only [List.mem_cons, ih]
        exact or_left_comm

theorem mem_unionS (a : Int) (xs l : List Int) : a ∈ unionS xs l ↔ a ∈ xs ∨ a ∈ l := by
  induction xs with
  | nil => simp [unionS]
  | cons x xs ih =>
    have : unionS (x :: xs) l = insertS x (unionS xs l) := rfl
    rw [this, mem_insertS, ih, List.mem_cons, or_assoc]

theorem mem_toSetS (a : Int) (xs : List Int) : a ∈ toSetS xs ↔ a ∈ xs := by
  simp [toSetS, mem_unionS]

/-- membership in an optional set (`None` has no members). -/
def MemO (x : Int) (o : Option (List Int)) : Prop := ∃ s, o = some s ∧ x ∈ s

theorem mem_mergeFactors (a : Int) (fs : List Int) (old : Option (List Int)) :
    a ∈ mergeFactors fs old ↔ a ∈ fs ∨ MemO a old := by
  unfold mergeFactors MemO
  cases old with
  | none => simp [mem_toSetS]
  | some o =>
    simp only [Option.some.injEq, exists_eq_left']
    split
    · rename_i h; subst h; simp [mem_toSetS]
    · exact mem_unionS a fs o

/-! ### entries only grow -/

/-- `y` is `x` after later runs: same name, result and severity not lowered. -/
def EntryLe (x y : Entry) : Prop :=
  x.name = y.name ∧ (x.result = true → y.result = true) ∧ x.severity ≤ y.severity

/-- position by position the old entries are still there (same names, results and severities
not lowered); new entries are only appended. -/
def EntriesLe : List Entry → List Entry → Prop
  | [], _ => True
  | _ :: _, [] => False
  | x :: xs, y :: ys => EntryLe x y ∧ EntriesLe xs ys

theorem EntryLe.refl (x : Entry) : EntryLe x x := ⟨rfl, id, Nat.le_refl _⟩

theorem EntryLe.trans {x y z : Entry} (h1 : EntryLe x y) (h2 : EntryLe y z) : EntryLe x z :=
  ⟨h1.1.trans h2.1, fun h => h2.2.1 (h1.2.1 h), Nat.le_trans h1.2.2 h2.2.2⟩

theorem EntriesLe.refl (l : List Entry) : EntriesLe l l := by
  induction l with
  | nil => trivial
  | cons x xs ih => exact ⟨EntryLe.refl x, ih⟩

theorem EntriesLe.trans {a b c : List Entry} (h1 : EntriesLe a b) (h2 : EntriesLe b c) :
    EntriesLe a c := by
  induction a generalizing b c with
  | nil => trivial
  | cons x xs ih =>
    cases b with
    | nil => exact h1.elim
    | cons y ys =>
      cases c with
      | nil => exact h2.elim
      | cons z zs => exact ⟨h1.1.trans h2.1, ih h1.2 h2.2⟩

theorem EntriesLe.append (l s : List Entry) : EntriesLe l (l ++ s) := by
  induction l with
  | nil => trivial
  | cons x xs ih => exact ⟨EntryLe.refl x, ih⟩

theorem EntriesLe.updateFirst (e : Entry) (l : List Entry) : EntriesLe l (updateFirst e l) := by
  induction l with
  | nil => trivial
  | cons x xs ih =>
    unfold Paranoid.updateFirst
    split
    · refine ⟨⟨rfl, ?_, Nat.le_max_left _ _⟩, EntriesLe.refl xs⟩
      intro h; simp [h]
    · exact ⟨EntryLe.refl x, ih⟩

theorem EntriesLe.length {a b : List Entry} (h : EntriesLe a b) : a.length ≤ b.length := by
  induction a generalizing b with
  | nil => simp
  | cons x xs ih =>
    cases b with
    | nil => exact h.elim
    | cons y ys => simp only [List.length_cons]; exact Nat.succ_le_succ (ih h.2)

theorem EntriesLe.find {a b : List Entry} (h : EntriesLe a b) (n : String) (e : Entry)
    (he : a.find? (fun x => x.name = n) = some e) :
    ∃ e', b.find? (fun x => x.name = n) = some e' ∧ EntryLe e e' := by
  induction a generalizing b with
  | nil => simp at he
  | cons x xs ih =>
    cases b with
    | nil => exact h.elim
    | cons y ys =>
      obtain ⟨hxy, hrest⟩ := h
      rw [List.find?_cons] at he ⊢
      by_cases hx : x.name = n
      · have hy : y.name = n := hxy.1 ▸ hx
        simp only [hx, decide_true] at he
        simp only [hy, decide_true]
        cases he
        exact ⟨y, rfl, hxy⟩
      · have hy : ¬ y.name = n := fun h' => hx (hxy.1.trans h')
        simp only [hx, decide_false] at he
        simp only [hy, decide_false]
        exact ih hrest he

theorem EntriesLe.mem {a b : List Entry} (h : EntriesLe a b) (e : Entry) (he : e ∈ a) :
    ∃ e' ∈ b, EntryLe e e' := by
  induction a generalizing b with
  | nil => simp at he
  | cons x xs ih =>
    cases b with
    | nil => exact h.elim
    | cons y ys =>
      rcases List.mem_cons.1 he with rfl | he'
      · exact ⟨y, List.mem_cons_self, h.1⟩
      · obtain ⟨e', h1, h2⟩ := ih h.2 he'
        exact ⟨e', List.mem_cons_of_mem _ h1, h2⟩

/-! ### one TestInfo is a later state of another -/

structure Mono (a b : TestInfo) : Prop where
  weak : a.weak = true → b.weak = true
  entries : EntriesLe a.results b.results
  version : a.version ≠ "" → b.version = a.version

theorem Mono.refl (a : TestInfo) : Mono a a := ⟨id, EntriesLe.refl _, fun _ => rfl⟩

theorem Mono.trans {a b c : TestInfo} (h1 : Mono a b) (h2 : Mono b c) : Mono a c :=
  ⟨fun h => h2.weak (h1.weak h), h1.entries.trans h2.entries, fun h => by
    have hb := h1.version h
    rw [← hb]; exact h2.version (hb ▸ h)⟩

theorem setTestResult_results_le (ver : String) (ti : TestInfo) (e : Entry) :
    EntriesLe ti.results (setTestResult ver ti e).results := by
  unfold setTestResult
  dsimp only
  split
  · exact EntriesLe.updateFirst e _
  · exact EntriesLe.append _ _

theorem setTestResult_mono (ver : String) (ti : TestInfo) (e : Entry) :
    Mono ti (setTestResult ver ti e) := by
  refine ⟨?_, setTestResult_results_le ver ti e, ?_⟩
  · intro h; simp [setTestResult, h]
  · intro h; simp [setTestResult, h]

theorem attachFactors_ok {ti t : TestInfo} {k : String} {fs : List Int}
    (h : attachFactors ti k fs = .ok t) :
    ∃ old, getAttachedFactors ti k = .ok old ∧
      t = attachInfo ti k (.factors (mergeFactors fs old)) := by
  unfold attachFactors at h
  split at h
  · cases h
  · rename_i old hold
    cases h
    exact ⟨old, hold, rfl⟩

/-- a history in which no call raised is the same for the aborting and the skipping caller. -/
theorem applyOps_eq_runOps {ver : String} {ti t : TestInfo} {ops : List Op}
    (h : applyOps ver ti ops = .ok t) : runOps ver ti ops = t := by
  induction ops generalizing ti with
  | nil => cases h; rfl
  | cons op ops ih =>
    unfold applyOps at h
    split at h
    · rename_i t' h'
      have : runOps ver ti (op :: ops) = runOps ver t' ops := by
        simp [runOps, stepSkip, h']
      rw [this]; exact ih h
    · cases h

theorem applyOps_append (ver : String) (ti : TestInfo) (o1 o2 : List Op) :
    applyOps ver ti (o1 ++ o2) =
      match applyOps ver ti o1 with
      | .ok t => applyOps ver t o2
      | .error e => .error e := by
  induction o1 generalizing ti with
  | nil => rfl
  | cons op ops ih =>
    simp only [List.cons_append, applyOps]
    cases applyOp ver ti op with
    | ok t => exact ih t
    | error e => rfl

theorem runOps_append (ver : String) (ti : TestInfo) (o1 o2 : List Op) :
    runOps ver ti (o1 ++ o2) = runOps ver (runOps ver ti o1) o2 := by
  simp [runOps, List.foldl_append]

/-! ### a history acts on weak flag, results and version by its SetTestResult calls alone -/

/-- the entries a history passes to SetTestResult. -/
def entriesOf : List Op → List Entry
  | [] => []
  | .setTestResult e :: ops => e :: entriesOf ops
  | _ :: ops => entriesOf ops

theorem entriesOf_append (o1 o2 : List Op) : entriesOf (o1 ++ o2) = entriesOf o1 ++ entriesOf o2 := by
  induction o1 with
  | nil => rfl
  | cons op ops ih => cases op <;> simp [entriesOf, ih]

/-- AttachInfo and AttachFactors, raising or not, touch the attached records only. -/
theorem stepSkip_attach (ver : String) (ti : TestInfo) {op : Op} (h : entriesOf [op] = []) :
    ∃ att, stepSkip ver ti op = { ti with attached := att } := by
  cases op with
  | setTestResult e => cases h
  | attachInfo k v => exact ⟨_, rfl⟩
  | attachFactors k fs =>
    unfold stepSkip
    split
    · next t ht => obtain ⟨old, _, rfl⟩ := attachFactors_ok ht; exact ⟨_, rfl⟩
    · exact ⟨ti.attached, rfl⟩

theorem foldl_set_attached (ver : String) (a : List (String × AttachedValue)) :
    ∀ (es : List Entry) (t : TestInfo), es.foldl (setTestResult ver) { t with attached := a } =
      { es.foldl (setTestResult ver) t with attached := a }
  | [], _ => rfl
  | e :: es, t => foldl_set_attached ver a es (setTestResult ver t e)

/-- so every statement about these three fields after a history is a statement about a fold of
`setTestResult` over the entries of the history. -/
theorem runOps_eq_sets (ver : String) (ops : List Op) (ti : TestInfo) :
    ∃ att, runOps ver ti ops =
      { (entriesOf ops).foldl (setTestResult ver) ti with attached := att } := by
  induction ops generalizing ti with
  | nil => exact ⟨ti.attached, rfl⟩
  | cons op ops ih =>
    by_cases h : entriesOf [op] = []
    · obtain ⟨a, ha⟩ := stepSkip_attach ver ti h
      obtain ⟨att, hr⟩ := ih { ti with attached := a }
      refine ⟨att, ?_⟩
      rw [show runOps ver ti (op :: ops) = runOps ver (stepSkip ver ti op) ops from rfl, ha, hr,
        foldl_set_attached, show entriesOf (op :: ops) = entriesOf [op] ++ entriesOf ops from
          entriesOf_append [op] ops, h]
      rfl
    · cases op with
      | setTestResult e => exact ih (setTestResult ver ti e)
      | attachInfo k v => exact absurd rfl h
      | attachFactors k fs => exact absurd rfl h

theorem foldl_set_rel {P : TestInfo → TestInfo → Prop} (ver : String) (refl : ∀ t, P t t)
    (trans : ∀ {a b c}, P a b → P b c → P a c) (step : ∀ t e, P t (setTestResult ver t e)) :
    ∀ (es : List Entry) (ti : TestInfo), P ti (es.foldl (setTestResult ver) ti)
  | [], ti => refl ti
  | e :: es, ti => trans (step ti e) (foldl_set_rel ver refl trans step es _)

theorem runOps_mono (ver : String) (ti : TestInfo) (ops : List Op) :
    Mono ti (runOps ver ti ops) := by
  obtain ⟨att, h⟩ := runOps_eq_sets ver ops ti
  have m := foldl_set_rel ver Mono.refl Mono.trans (setTestResult_mono ver) (entriesOf ops) ti
  rw [h]
  exact ⟨m.weak, m.entries, m.version⟩

/-! ### names: never duplicated -/

theorem updateFirst_names (e : Entry) (l : List Entry) :
    (updateFirst e l).map (·.name) = l.map (·.name) := by
  induction l with
  | nil => rfl
  | cons x xs ih =>
    unfold updateFirst
    split
    · rfl
    · simp only [List.map_cons, ih]

theorem getTestResult_none_iff (ti : TestInfo) (n : String) :
    getTestResult ti n = none ↔ n ∉ ti.results.map (·.name) := by
  unfold getTestResult
  rw [List.find?_eq_none]
  simp only [decide_eq_true_eq, List.mem_map, not_exists, not_and]

def nameCount (n : String) (l : List Entry) : Nat := l.countP (fun e => e.name = n)

theorem nameCount_eq_map (n : String) (l : List Entry) :
    nameCount n l = (l.map (·.name)).countP (fun m => m = n) := by
  unfold nameCount
  induction l with
  | nil => rfl
  | cons x xs ih => simp only [List.map_cons, List.countP_cons, ih]

theorem nameCount_zero_iff (n : String) (l : List Entry) :
    nameCount n l = 0 ↔ n ∉ l.map (·.name) := by
  unfold nameCount
  rw [List.countP_eq_zero]
  simp only [decide_eq_true_eq, List.mem_map, not_exists, not_and]

theorem setTestResult_names (ver : String) (ti : TestInfo) (e : Entry) :
    (setTestResult ver ti e).results.map (·.name) =
      if e.name ∈ ti.results.map (·.name) then ti.results.map (·.name)
      else ti.results.map (·.name) ++ [e.name] := by
  unfold setTestResult
  dsimp only
  split
  · rename_i x hx
    rw [updateFirst_names, if_pos (Classical.not_not.1 fun h => by
      rw [← getTestResult_none_iff, hx] at h; cases h)]
  · rename_i hx
    rw [if_neg ((getTestResult_none_iff _ _).1 hx), List.map_append]
    rfl

theorem nameCount_setTestResult (ver : String) (ti : TestInfo) (e : Entry) (n : String) :
    nameCount n (setTestResult ver ti e).results =
      if e.name = n ∧ nameCount n ti.results = 0 then 1 else nameCount n ti.results := by
  rw [nameCount_eq_map n (setTestResult ver ti e).results, setTestResult_names]
  split
  · next hm =>
    rw [← nameCount_eq_map, if_neg fun ⟨hn, h0⟩ => (nameCount_zero_iff n _).1 h0 (hn ▸ hm)]
  · next hm =>
    rw [List.countP_append, ← nameCount_eq_map]
    by_cases hn : e.name = n
    · subst hn
      rw [if_pos ⟨rfl, (nameCount_zero_iff _ _).2 hm⟩, (nameCount_zero_iff _ _).2 hm]
      simp
    · simp [hn]

theorem nameCount_runOps (ver : String) (ti : TestInfo) (ops : List Op) (n : String) :
    nameCount n (runOps ver ti ops).results ≤ max 1 (nameCount n ti.results) := by
  obtain ⟨att, h⟩ := runOps_eq_sets ver ops ti
  rw [h]
  exact foldl_set_rel (P := fun a b => nameCount n b.results ≤ max 1 (nameCount n a.results)) ver
    (fun _ => Nat.le_max_right _ _) (fun h1 h2 => by omega)
    (fun t e => by rw [nameCount_setTestResult]; split <;> omega) _ ti

theorem runOps_names_nodup (ver : String) (ti : TestInfo) (ops : List Op)
    (h : (ti.results.map (·.name)).Nodup) :
    ((runOps ver ti ops).results.map (·.name)).Nodup := by
  obtain ⟨att, hr⟩ := runOps_eq_sets ver ops ti
  rw [hr]
  refine foldl_set_rel (P := fun a b => (a.results.map Entry.name).Nodup →
    (b.results.map Entry.name).Nodup) ver (fun _ => id) (fun f g => g ∘ f) (fun t e hnd => ?_) _ ti h
  rw [setTestResult_names]
  split
  · exact hnd
  · next hm =>
    exact List.nodup_append.2 ⟨hnd, by simp, fun a ha b hb => by
      cases List.mem_singleton.1 hb; exact fun h => hm (h ▸ ha)⟩

/-! ### the weak flag equals "some entry is positive" -/

def Consistent (ti : TestInfo) : Prop := ti.weak = true ↔ ∃ e ∈ ti.results, e.result = true

theorem exists_pos_updateFirst (e : Entry) (l : List Entry) (h : e.name ∈ l.map (·.name)) :
    (∃ y ∈ updateFirst e l, y.result = true) ↔ (∃ y ∈ l, y.result = true) ∨ e.result = true := by
  induction l with
  | nil => simp at h
  | cons x xs ih =>
    unfold updateFirst
    split
    · simp only [List.mem_cons, exists_eq_or_imp, Bool.or_eq_true]
      exact or_right_comm
    · rename_i hx
      have h' : e.name ∈ xs.map (·.name) := by
        simp only [List.map_cons, List.mem_cons] at h
        rcases h with h | h
        · exact (hx h.symm).elim
        · exact h
      simp only [List.mem_cons, exists_eq_or_imp, ih h', or_assoc]

theorem exists_pos_setTestResult (ver : String) (ti : TestInfo) (e : Entry) :
    (∃ y ∈ (setTestResult ver ti e).results, y.result = true) ↔
      (∃ y ∈ ti.results, y.result = true) ∨ e.result = true := by
  unfold setTestResult
  dsimp only
  split
  · rename_i x hx
    have hne : getTestResult ti e.name ≠ none := by rw [hx]; simp
    rw [Ne, getTestResult_none_iff, Classical.not_not] at hne
    exact exists_pos_updateFirst e _ hne
  · simp only [List.mem_append, List.mem_singleton, or_and_right, exists_or, exists_eq_left]

theorem setTestResult_consistent (ver : String) (ti : TestInfo) (e : Entry)
    (h : Consistent ti) : Consistent (setTestResult ver ti e) := by
  unfold Consistent at *
  rw [exists_pos_setTestResult, ← h]
  simp [setTestResult]

theorem runOps_consistent (ver : String) (ti : TestInfo) (ops : List Op) (hc : Consistent ti) :
    Consistent (runOps ver ti ops) := by
  obtain ⟨att, h⟩ := runOps_eq_sets ver ops ti
  rw [h]
  exact foldl_set_rel (P := fun a b => Consistent a → Consistent b) ver (fun _ => id)
    (fun f g => g ∘ f) (setTestResult_consistent ver) _ ti hc

theorem consistent_empty : Consistent TestInfo.empty := by
  simp [Consistent, TestInfo.empty]

/-! ### weak flag and results of a history, exactly -/

theorem foldl_set_weak (ver : String) : ∀ (es : List Entry) (ti : TestInfo),
    (es.foldl (setTestResult ver) ti).weak = (ti.weak || es.any (·.result))
  | [], ti => by simp
  | e :: es, ti => by
    rw [List.foldl_cons, foldl_set_weak ver es, List.any_cons, ← Bool.or_assoc]; rfl

theorem applyOps_weak {ver : String} {ti t : TestInfo} {ops : List Op}
    (h : applyOps ver ti ops = .ok t) : t.weak = (ti.weak || (entriesOf ops).any (·.result)) := by
  obtain ⟨att, hr⟩ := runOps_eq_sets ver ops ti
  rw [← applyOps_eq_runOps h, hr]
  exact foldl_set_weak ver _ ti

theorem foldl_set_results_fresh (ver : String) : ∀ (es : List Entry) (ti : TestInfo),
    (ti.results.map (·.name) ++ es.map (·.name)).Nodup →
    (es.foldl (setTestResult ver) ti).results = ti.results ++ es
  | [], ti, _ => by simp
  | e :: es, ti, hnd => by
    have hnone : getTestResult ti e.name = none := by
      rw [getTestResult_none_iff]
      exact fun hmem => (List.nodup_append.1 hnd).2.2 _ hmem _ List.mem_cons_self rfl
    have hres : (setTestResult ver ti e).results = ti.results ++ [e] := by
      simp [setTestResult, hnone]
    rw [List.foldl_cons, foldl_set_results_fresh ver es _ (by
      rw [hres]; simpa [List.map_append, List.append_assoc] using hnd), hres, List.append_assoc]
    rfl

/-- with fresh names every SetTestResult appends: the result list is exactly the entries
passed, in call order. -/
theorem applyOps_results_fresh {ver : String} {ti t : TestInfo} {ops : List Op}
    (h : applyOps ver ti ops = .ok t)
    (hnd : (ti.results.map (·.name) ++ (entriesOf ops).map (·.name)).Nodup) :
    t.results = ti.results ++ entriesOf ops := by
  obtain ⟨att, hr⟩ := runOps_eq_sets ver ops ti
  rw [← applyOps_eq_runOps h, hr]
  exact foldl_set_results_fresh ver _ ti hnd

/-! ### the library version -/

def isSet : Op → Bool
  | .setTestResult _ => true
  | _ => false

/-- the version is written by the first SetTestResult on a `TestInfo` without one and never
changed afterwards. -/
theorem foldl_set_version (ver : String) : ∀ (es : List Entry) (ti : TestInfo),
    (es.foldl (setTestResult ver) ti).version =
      if ti.version = "" ∧ es.isEmpty = false then ver else ti.version
  | [], ti => by simp
  | e :: es, ti => by
    rw [List.foldl_cons, foldl_set_version ver es]
    by_cases h : ti.version = "" <;> simp [setTestResult, h]

theorem applyOps_version {ver : String} {ti t : TestInfo} {ops : List Op}
    (h : applyOps ver ti ops = .ok t) :
    t.version = if ti.version = "" ∧ (entriesOf ops).isEmpty = false then ver else ti.version := by
  obtain ⟨att, hr⟩ := runOps_eq_sets ver ops ti
  rw [← applyOps_eq_runOps h, hr]
  exact foldl_set_version ver _ ti

/-! ### attached info behaves like a finite map; factor sets are growing unions -/

theorem find_updateFirstInfo (k k' : String) (v : AttachedValue) (l : List (String × AttachedValue))
    (h : k ∈ l.map (·.1)) :
    ((updateFirstInfo k v l).find? (fun p => p.1 = k')).map (·.2) =
      if k' = k then some v else (l.find? (fun p => p.1 = k')).map (·.2) := by
  induction l with
  | nil => simp at h
  | cons x xs ih =>
    unfold updateFirstInfo
    split
    · rename_i hx
      rw [List.find?_cons, List.find?_cons]
      by_cases hk : k' = k
      · subst hk; simp [hx]
      · have : ¬ x.1 = k' := fun h' => hk (h' ▸ hx)
        simp [hk, this]
    · rename_i hx
      have h' : k ∈ xs.map (·.1) := by
        simp only [List.map_cons, List.mem_cons] at h
        rcases h with h | h
        · exact (hx h.symm).elim
        · exact h
      rw [List.find?_cons, List.find?_cons]
      by_cases hxk : x.1 = k'
      · have : ¬ k' = k := fun h'' => hx (hxk.trans h'')
        simp [hxk, this]
      · simp only [hxk, decide_false]
        exact ih h'

theorem getAttachedInfo_none_iff (ti : TestInfo) (k : String) :
    getAttachedInfo ti k = none ↔ k ∉ ti.attached.map (·.1) := by
  unfold getAttachedInfo
  rw [Option.map_eq_none_iff, List.find?_eq_none]
  simp only [decide_eq_true_eq, List.mem_map, not_exists, not_and]

theorem getAttachedInfo_attachInfo (ti : TestInfo) (k k' : String) (v : AttachedValue) :
    getAttachedInfo (attachInfo ti k v) k' =
      if k' = k then some v else getAttachedInfo ti k' := by
  unfold attachInfo
  split
  · rename_i x hx
    have hne : getAttachedInfo ti k ≠ none := by rw [hx]; simp
    rw [Ne, getAttachedInfo_none_iff, Classical.not_not] at hne
    exact find_updateFirstInfo k k' v _ hne
  · rename_i hx
    unfold getAttachedInfo at hx ⊢
    dsimp only
    rw [List.find?_append]
    by_cases hk : k' = k
    · subst hk
      rw [Option.map_eq_none_iff] at hx
      simp [hx]
    · have : ¬ k = k' := fun h => hk h.symm
      simp [hk, this]

theorem getAttachedFactors_attachInfo_ne (ti : TestInfo) (k k' : String) (v : AttachedValue)
    (h : k' ≠ k) : getAttachedFactors (attachInfo ti k v) k' = getAttachedFactors ti k' := by
  unfold getAttachedFactors
  rw [getAttachedInfo_attachInfo, if_neg h]

theorem getAttachedFactors_attachInfo_self (ti : TestInfo) (k : String) (s : List Int) :
    getAttachedFactors (attachInfo ti k (.factors s)) k = .ok (some s) := by
  unfold getAttachedFactors
  rw [getAttachedInfo_attachInfo, if_pos rfl]

theorem getAttachedFactors_setTestResult (ver : String) (ti : TestInfo) (e : Entry) (k : String) :
    getAttachedFactors (setTestResult ver ti e) k = getAttachedFactors ti k := rfl

/-- the factor lists a history attaches under the name `k`. -/
def attachedUnder (k : String) : List Op → List (List Int)
  | [] => []
  | .attachFactors k' fs :: ops => if k' = k then fs :: attachedUnder k ops else attachedUnder k ops
  | _ :: ops => attachedUnder k ops

/-- does the call overwrite the attached entry `k` through a plain AttachInfo? -/
def overwrites (k : String) : Op → Bool
  | .attachInfo k' _ => k' = k
  | _ => false

/-- effect of one (non-raising or skipped) call on the factor set stored under `k`. -/
theorem stepSkip_factors (ver : String) (ti : TestInfo) (op : Op) (k : String)
    (o : Option (List Int)) (h : getAttachedFactors ti k = .ok o) (hno : overwrites k op = false) :
    ∃ o', getAttachedFactors (stepSkip ver ti op) k = .ok o' ∧
      (∀ x, MemO x o' ↔ MemO x o ∨ ∃ fs ∈ attachedUnder k [op], x ∈ fs) ∧
      (o' = none ↔ o = none ∧ attachedUnder k [op] = []) := by
  cases op with
  | setTestResult e =>
    refine ⟨o, ?_, ?_, ?_⟩
    · simpa [stepSkip, applyOp, getAttachedFactors_setTestResult] using h
    · intro x; simp [attachedUnder]
    · simp [attachedUnder]
  | attachInfo k' v =>
    have hk : k ≠ k' := by
      intro hk; subst hk; simp [overwrites] at hno
    refine ⟨o, ?_, ?_, ?_⟩
    · simp only [stepSkip, applyOp]
      rw [getAttachedFactors_attachInfo_ne _ _ _ _ hk]; exact h
    · intro x; simp [attachedUnder]
    · simp [attachedUnder]
  | attachFactors k' fs =>
    by_cases hk : k' = k
    · subst hk
      have hstep : stepSkip ver ti (.attachFactors k' fs) =
          attachInfo ti k' (.factors (mergeFactors fs o)) := by
        simp [stepSkip, applyOp, attachFactors, h]
      refine ⟨some (mergeFactors fs o), ?_, ?_, ?_⟩
      · rw [hstep]; exact getAttachedFactors_attachInfo_self _ _ _
      · intro x
        simp only [attachedUnder, if_pos, List.mem_singleton, exists_eq_left]
        have : MemO x (some (mergeFactors fs o)) ↔ x ∈ mergeFactors fs o := by
          simp [MemO]
        rw [this, mem_mergeFactors]
        exact Or.comm
      · simp [attachedUnder]
    · have hk' : k ≠ k' := fun h' => hk h'.symm
      refine ⟨o, ?_, ?_, ?_⟩
      · unfold stepSkip
        split
        · rename_i t ht
          obtain ⟨old, _, rfl⟩ := attachFactors_ok ht
          rw [getAttachedFactors_attachInfo_ne _ _ _ _ hk']; exact h
        · exact h
      · intro x; simp [attachedUnder, hk]
      · simp [attachedUnder, hk]

theorem attachedUnder_cons (k : String) (op : Op) (ops : List Op) :
    attachedUnder k (op :: ops) = attachedUnder k [op] ++ attachedUnder k ops := by
  cases op with
  | setTestResult e => rfl
  | attachInfo k' v => rfl
  | attachFactors k' fs =>
    simp only [attachedUnder]
    split <;> rfl

theorem mem_attachedUnder_iff (k : String) (fs : List Int) (ops : List Op) :
    fs ∈ attachedUnder k ops ↔ Op.attachFactors k fs ∈ ops := by
  induction ops with
  | nil => simp [attachedUnder]
  | cons op ops ih =>
    rw [attachedUnder_cons, List.mem_append, ih, List.mem_cons]
    cases op with
    | setTestResult e => simp [attachedUnder]
    | attachInfo k' v => simp [attachedUnder]
    | attachFactors k' fs' =>
      by_cases hk : k' = k
      · subst hk; simp [attachedUnder]
      · simp [attachedUnder, hk, Ne.symm hk]

/-- `attach_union`: after any history that does not overwrite the entry `k` through a plain
AttachInfo, the set stored under `k` is the union of the initial set with every factor list
attached under `k`; it is `None` only if it was `None` and nothing was attached. -/
theorem runOps_factors (ver : String) (ti : TestInfo) (ops : List Op) (k : String)
    (o : Option (List Int)) (h : getAttachedFactors ti k = .ok o)
    (hno : ∀ op ∈ ops, overwrites k op = false) :
    ∃ o', getAttachedFactors (runOps ver ti ops) k = .ok o' ∧
      (∀ x, MemO x o' ↔ MemO x o ∨ ∃ fs ∈ attachedUnder k ops, x ∈ fs) ∧
      (o' = none ↔ o = none ∧ attachedUnder k ops = []) := by
  induction ops generalizing ti o with
  | nil =>
    refine ⟨o, h, ?_, ?_⟩
    · intro x; simp [attachedUnder]
    · simp [attachedUnder]
  | cons op ops ih =>
    obtain ⟨o1, h1, hm1, hn1⟩ :=
      stepSkip_factors ver ti op k o h (hno op List.mem_cons_self)
    obtain ⟨o2, h2, hm2, hn2⟩ := ih (stepSkip ver ti op) o1 h1
      (fun op' hop' => hno op' (List.mem_cons_of_mem _ hop'))
    refine ⟨o2, h2, ?_, ?_⟩
    · intro x
      rw [hm2, hm1, attachedUnder_cons k op ops]
      simp only [List.mem_append, or_and_right, exists_or, or_assoc]
    · rw [hn2, hn1, attachedUnder_cons k op ops, List.append_eq_nil_iff, and_assoc]

/-- a stored set that is described as "the old set `s` and more" exists and contains `s`. -/
theorem exists_superset_of_memO {o' : Option (List Int)} {s : List Int} {P : Int → Prop} {Q : Prop}
    (hm : ∀ x, MemO x o' ↔ MemO x (some s) ∨ P x) (hn : o' = none ↔ some s = none ∧ Q) :
    ∃ s', o' = some s' ∧ ∀ x ∈ s, x ∈ s' := by
  cases o' with
  | none => exact absurd (hn.1 rfl).1 (by simp)
  | some s' =>
    refine ⟨s', rfl, fun x hx => ?_⟩
    obtain ⟨t, ht, hxt⟩ := (hm x).2 (Or.inl ⟨s, rfl, hx⟩)
    cases ht; exact hxt

/-! ### GetHighestSeverity -/

theorem highestStep_neg {e : Entry} (he : e.result = false) (h : Option Nat) :
    highestStep h e = h := by simp [highestStep, he]

theorem highestStep_none {e : Entry} (he : e.result = true) :
    highestStep none e = some e.severity := by simp [highestStep, he]

theorem highestStep_some {e : Entry} (he : e.result = true) (s : Nat) :
    highestStep (some s) e = some (max s e.severity) := by
  simp only [highestStep, he, if_true, Nat.max_def]
  split <;> split <;> first | rfl | (congr 1; omega)

/-- the loop of `GetHighestSeverity` read from the last entry: no start value to generalise over. -/
theorem highest_foldr (r : List Entry) :
    (r.foldr (fun e h => highestStep h e) none = none ↔ ∀ e ∈ r, e.result = false) ∧
    ∀ s, r.foldr (fun e h => highestStep h e) none = some s →
      (∃ e ∈ r, e.result = true ∧ e.severity = s) ∧ ∀ e ∈ r, e.result = true → e.severity ≤ s := by
  induction r with
  | nil => simp
  | cons x xs ih =>
    obtain ⟨ih1, ih2⟩ := ih
    rw [List.foldr_cons]
    cases hx : x.result
    · rw [highestStep_neg hx, ih1]
      refine ⟨⟨fun h e he => (List.mem_cons.1 he).elim (· ▸ hx) (h e),
        fun h e he => h e (List.mem_cons_of_mem _ he)⟩, fun s hs => ?_⟩
      obtain ⟨⟨e, he, hp⟩, hub⟩ := ih2 s hs
      exact ⟨⟨e, List.mem_cons_of_mem _ he, hp⟩, fun e he hpos => (List.mem_cons.1 he).elim
        (fun h => by rw [h, hx] at hpos; cases hpos) fun h => hub e h hpos⟩
    · have hnot : ¬ ∀ e ∈ x :: xs, e.result = false := fun h => by
        rw [h x List.mem_cons_self] at hx; cases hx
      cases hh : xs.foldr (fun e h => highestStep h e) none with
      | none =>
        rw [highestStep_none hx]
        refine ⟨iff_of_false (by simp) hnot, fun s hs => ?_⟩
        cases hs
        exact ⟨⟨x, List.mem_cons_self, hx, rfl⟩, fun e he hp => (List.mem_cons.1 he).elim
          (fun h => h ▸ Nat.le_refl _) fun h => by rw [ih1.1 hh e h] at hp; cases hp⟩
      | some s0 =>
        obtain ⟨⟨e0, he0, hp0, hs0⟩, hub⟩ := ih2 s0 hh
        rw [highestStep_some hx]
        refine ⟨iff_of_false (by simp) hnot, fun s hs => ?_⟩
        cases hs
        refine ⟨?_, fun e he hp => (List.mem_cons.1 he).elim (fun h => h ▸ Nat.le_max_right _ _)
          fun h => Nat.le_trans (hub e h hp) (Nat.le_max_left _ _)⟩
        rcases Nat.le_total s0 x.severity with h | h
        · exact ⟨x, List.mem_cons_self, hx, (Nat.max_eq_right h).symm⟩
        · exact ⟨e0, List.mem_cons_of_mem _ he0, hp0, hs0.trans (Nat.max_eq_left h).symm⟩
/-- `GetHighestSeverity` is `None` exactly when no entry is positive, else the maximum
severity among the positive entries. -/
theorem getHighestSeverity_none (ti : TestInfo) :
    getHighestSeverity ti = none ↔ ∀ e ∈ ti.results, e.result = false := by
  rw [getHighestSeverity, List.foldl_eq_foldr_reverse, (highest_foldr _).1]
  simp only [List.mem_reverse]

theorem getHighestSeverity_some (ti : TestInfo) (s : Nat) (h : getHighestSeverity ti = some s) :
    (∃ e ∈ ti.results, e.result = true ∧ e.severity = s) ∧
    (∀ e ∈ ti.results, e.result = true → e.severity ≤ s) := by
  rw [getHighestSeverity, List.foldl_eq_foldr_reverse] at h
  simpa only [List.mem_reverse] using (highest_foldr _).2 s h

/-! ### the attached records: where a record comes from, when a call can raise -/

theorem mem_updateFirstInfo {k : String} {v : AttachedValue} {l : List (String × AttachedValue)}
    {p : String × AttachedValue} (hp : p ∈ updateFirstInfo k v l) : p ∈ l ∨ p = (k, v) := by
  induction l with
  | nil => cases hp
  | cons x xs ih =>
    unfold updateFirstInfo at hp
    split at hp
    · rename_i hx
      rcases List.mem_cons.1 hp with rfl | hp
      · exact Or.inr (by rw [hx])
      · exact Or.inl (List.mem_cons_of_mem _ hp)
    · rcases List.mem_cons.1 hp with rfl | hp
      · exact Or.inl List.mem_cons_self
      · exact (ih hp).imp_left (List.mem_cons_of_mem _)

theorem mem_attachInfo {ti : TestInfo} {k : String} {v : AttachedValue}
    {p : String × AttachedValue} (hp : p ∈ (attachInfo ti k v).attached) :
    p ∈ ti.attached ∨ p = (k, v) := by
  unfold attachInfo at hp
  dsimp only at hp
  split at hp
  · exact mem_updateFirstInfo hp
  · simpa using hp

/-- an attached record after a call was there before or is the one the call writes. -/
theorem mem_attached_applyOp {ver : String} {ti t : TestInfo} {op : Op}
    (h : applyOp ver ti op = .ok t) {p : String × AttachedValue} (hp : p ∈ t.attached) :
    p ∈ ti.attached ∨ op = .attachInfo p.1 p.2 ∨
      ∃ fs s, op = .attachFactors p.1 fs ∧ p.2 = .factors s := by
  cases op with
  | setTestResult e => cases h; exact .inl hp
  | attachInfo k v =>
    cases h
    exact (mem_attachInfo hp).imp_right fun e => .inl (by rw [e])
  | attachFactors k fs =>
    obtain ⟨old, _, rfl⟩ := attachFactors_ok h
    exact (mem_attachInfo hp).imp_right fun e => .inr ⟨fs, _, by rw [e], by rw [e]⟩

theorem mem_attached_applyOps {ver : String} {ti t : TestInfo} {ops : List Op}
    (h : applyOps ver ti ops = .ok t) {p : String × AttachedValue} (hp : p ∈ t.attached) :
    p ∈ ti.attached ∨ ∃ op ∈ ops, op = .attachInfo p.1 p.2 ∨
      ∃ fs s, op = .attachFactors p.1 fs ∧ p.2 = .factors s := by
  induction ops generalizing ti with
  | nil => cases h; exact .inl hp
  | cons op ops ih =>
    unfold applyOps at h
    split at h
    · next t' h' =>
      rcases ih h with h1 | ⟨o, ho, h2⟩
      · exact (mem_attached_applyOp h' h1).imp_right fun e => ⟨op, List.mem_cons_self, e⟩
      · exact .inr ⟨o, List.mem_cons_of_mem _ ho, h2⟩
    · cases h

/-- The only exception of the bookkeeping is the one of `GetAttachedFactors` on a stored string
that is not a factor set.  `Readable K`: no value stored under a name in `K` is such a string. -/
def Readable (K : String → Prop) (ti : TestInfo) : Prop :=
  ∀ p ∈ ti.attached, K p.1 → ∃ s, p.2 = AttachedValue.factors s

/-- calls that keep it so: factor lists go under names in `K` only, and a plain value written
under such a name is a factor set. -/
def OpsKeep (K : String → Prop) (ops : List Op) : Prop :=
  ∀ op ∈ ops, match op with
    | .setTestResult _ => True
    | .attachInfo k v => K k → ∃ s, v = AttachedValue.factors s
    | .attachFactors k _ => K k

theorem readable_empty (K : String → Prop) : Readable K TestInfo.empty := fun _ hp => nomatch hp

theorem getAttachedFactors_readable {K : String → Prop} {ti : TestInfo} (h : Readable K ti)
    {k : String} (hk : K k) : ∃ o, getAttachedFactors ti k = .ok o := by
  unfold getAttachedFactors getAttachedInfo
  cases hf : ti.attached.find? (fun p => p.1 = k) with
  | none => exact ⟨none, rfl⟩
  | some p =>
    have hpk : p.1 = k := by simpa using List.find?_some hf
    obtain ⟨s, hs⟩ := h p (List.mem_of_find?_eq_some hf) (hpk ▸ hk)
    simp only [Option.map_some, hs]
    exact ⟨some s, rfl⟩

/-- such a history does not raise, and keeps the records readable. -/
theorem applyOps_readable {K : String → Prop} (ver : String) {ti : TestInfo} {ops : List Op}
    (h : Readable K ti) (hops : OpsKeep K ops) :
    ∃ t, applyOps ver ti ops = .ok t ∧ Readable K t := by
  induction ops generalizing ti with
  | nil => exact ⟨ti, rfl, h⟩
  | cons op ops ih =>
    have hop := hops op List.mem_cons_self
    obtain ⟨t', ht'⟩ : ∃ t', applyOp ver ti op = .ok t' := by
      cases op with
      | setTestResult e => exact ⟨_, rfl⟩
      | attachInfo k v => exact ⟨_, rfl⟩
      | attachFactors k fs =>
        obtain ⟨o, ho⟩ := getAttachedFactors_readable h hop
        exact ⟨attachInfo ti k (.factors (mergeFactors fs o)), by
          simp only [applyOp, attachFactors, ho]⟩
    have hr : Readable K t' := fun p hp hk => by
      rcases mem_attached_applyOp ht' hp with h1 | rfl | ⟨_, s, _, hs⟩
      · exact h p h1 hk
      · exact hop hk
      · exact ⟨s, hs⟩
    unfold applyOps
    rw [ht']
    exact ih hr fun op' h' => hops op' (List.mem_cons_of_mem _ h')

end Paranoid
