/-
Proofs/EcAll.lean — glue lemmas for Props/C16EcAll.lean: how the composed entry-point models of
Model/EcAll.lean decompose into the pieces the existing theorems (C02S, C06, C10, C16, C18) are
about.  Nothing about the pieces themselves is re-proved here.
-/
import ParanoidModel.Model.EcAll
import ParanoidModel.Props.C16
import ParanoidModel.Props.C02S
import ParanoidModel.Proofs.BsgsDiffExactCheck
import ParanoidModel.Props.C06
import ParanoidModel.Proofs.EcTotal
namespace Paranoid.EcAll
open Paranoid Paranoid.Ec Paranoid.Bsgs

/-- the factory of Model/EcAll is the factory Props/C10, C06 talk about. -/
theorem ecFactory_eq : ecFactory = regenFactory := rfl

theorem ecAll_eq : ecAll =
    [⟨"CheckValidECKey", 2, false, false, false⟩, ⟨"CheckWeakCurve", 2, true, false, false⟩,
     ⟨"CheckWeakECPrivateKey", 4, true, false, false⟩,
     ⟨"CheckECKeySmallDifference", 3, true, false, false⟩] := by decide +kernel

theorem ecdsaAll_eq : ecdsaAll =
    [⟨"CheckLCGNonceGMP", 4, true, false, false⟩,
     ⟨"CheckLCGNonceJavaUtilRandom", 4, true, false, false⟩,
     ⟨"CheckNonceMSB", 4, true, false, false⟩, ⟨"CheckNonceCommonPrefix", 4, true, false, false⟩,
     ⟨"CheckNonceCommonPostfix", 4, true, false, false⟩,
     ⟨"CheckNonceGeneralized", 4, true, false, false⟩, ⟨"CheckIssuerKey", 0, false, false, true⟩,
     ⟨"CheckCr50U2f", 4, true, false, false⟩] := by decide +kernel

theorem ecFactory_nodup : (ecFactory.map (·.id)).Nodup := regenFactory_nodup

/-- `Checks.known` (from `Consts.knownCurves`) and `CURVE_FACTORY.get(...) is not None` (from
`Consts.ecCurveFactory`) are the same predicate on curve ids. -/
theorem factoryGet_isSome (id : Nat) :
    (factoryGet ecFactory id).isSome = Consts.knownCurves.contains id := by
  have hk : Consts.knownCurves = (ecFactory.filter (·.curve.isSome)).map (·.id) := by
    decide +kernel
  have hnd : (ecFactory.map (·.id)).Nodup := regenFactory_nodup
  apply Bool.eq_iff_iff.mpr
  rw [List.contains_iff_mem, hk, List.mem_map]
  constructor
  · intro h
    obtain ⟨c, hc⟩ := Option.isSome_iff_exists.mp h
    obtain ⟨e, he, hid, hcur⟩ := factoryGet_mem hc
    exact ⟨e, List.mem_filter.mpr ⟨he, by rw [hcur]; rfl⟩, hid⟩
  · rintro ⟨e, he, hid⟩
    obtain ⟨he1, he2⟩ := List.mem_filter.mp he
    rw [← hid, factoryGet_eq_of_mem hnd he1]
    exact he2

theorem known_keyOf (a : Artifact) : known a = (factoryGet ecFactory (keyOf a).curveType).isSome := by
  rw [factoryGet_isSome]; rfl

/-! ### the bookkeeping layer when no check attaches a factor list -/

/-- `_CheckArtifacts` never raises when no check attaches a factor list (the EC and ECDSA checks
attach DISCRETE_LOG* through `AttachInfo` only). -/
theorem checkArtifacts_ok (var : Variant) (ver : String) (ec : List CheckSpec) (steps : List Step)
    (hv : ∀ s ∈ steps, (∀ i, (s.verdict i).factors = none) ∧ ∀ j k, (s.inner j k).factors = none)
    (arts : List Artifact) : ∃ r, checkArtifacts var ver ec steps arts = .ok r := by
  obtain ⟨arts', r, h, _⟩ := checkArtifacts_total (K := fun _ => False) var ver ec
    (fun s hs => ⟨fun i => .of_factors_none ((hv s hs).1 i),
      fun _ j k => .of_factors_none ((hv s hs).2 j k)⟩)
    (arts := arts) fun _ _ _ _ h => h.elim
  exact ⟨_, h⟩

/-- FRESH artefact: a value found under `k` after `_CheckArtifacts` was attached by a check that
applies to the artefact and flagged it. -/
theorem fresh_attached {var : Variant} {ver : String} {ec : List CheckSpec} {steps : List Step}
    {arts arts' : List Artifact} {r : Bool}
    (h : checkArtifacts var ver ec steps arts = .ok (arts', r))
    (hv : ∀ s ∈ steps, ∀ i, (s.verdict i).factors = none)
    {n : Nat} {a a' : Artifact} (ha : arts[n]? = some a) (ha' : arts'[n]? = some a')
    (hfresh : a.info = TestInfo.empty) (k : String) (x : AttachedValue)
    (hx : getAttachedInfo a'.info k = some x) :
    ∃ s ∈ steps, s.spec.issuer = false ∧ applicable s.spec a = true ∧
      (s.verdict n).positive = true ∧ (s.verdict n).info = some (k, x) := by
  obtain ⟨p, hp, rfl⟩ := Option.map_eq_some_iff.1 hx
  have hk : p.1 = k := by simpa using List.find?_some hp
  rcases checkArtifacts_attached h ha ha' (List.mem_of_find?_eq_some hp) with h0 | ⟨s, hs, h1, h2, h3, hq⟩
  · rw [hfresh] at h0; cases h0
  · rcases hq with hq | ⟨fs, _, hq, _⟩
    · exact ⟨s, hs, h1, h2, h3, by rw [hq, ← hk]⟩
    · rw [hv s hs n] at hq; cases hq

theorem mem_mkSteps {specs : List CheckSpec} {O : Nat → Nat → Verdict}
    {I : Nat → Nat → Nat → Verdict} {s : Step} (h : s ∈ mkSteps specs O I) :
    ∃ j c, specs[j]? = some c ∧ s = ⟨c, O j, I j⟩ :=
  Paranoid.mem_mkSteps.1 h

/-! ### decomposition of the EC entry point into the four check models -/

theorem liftPy_ok {α} {x : Except PyErr α} {a : α} (h : liftPy x = .ok a) : x = .ok a := by
  cases x with
  | error e => cases h
  | ok b => simp only [liftPy, Except.ok.injEq] at h; rw [h]

/-- the four registered EC checks, run one after another on the same curve objects. -/
theorem ecVerdictsG_ecAll (p : EcParams) (o : EcOracle) (keys : List ECKey) (sts : List EcState) :
    ecVerdictsG listImpl p o keys (ecAll.map (·.name)) sts =
      match checkValidECKey ecFactory keys with
      | .error e => .error (.py e)
      | .ok row1 =>
        match checkWeakECPrivateKeyB listImpl p.bound ecFactory sts o.wk keys with
        | .error e => .error (.py e)
        | .ok (row3, sts3) =>
          match checkECKeySmallDifferenceG listImpl ecFactory sts3 o.sd keys p.maxDiff with
          | .error e => .error (.py e)
          | .ok (row4, sts4) => .ok ([row1, checkWeakCurve ecFactory keys, row3, row4], sts4) := by
  rw [ecAll_eq]
  simp only [List.map_cons, List.map_nil, ecVerdictsG, runEcCheckG, String.reduceEq, if_true,
    if_false]
  cases checkValidECKey ecFactory keys with
  | error e => rfl
  | ok row1 =>
    simp only
    cases checkWeakECPrivateKeyB listImpl p.bound ecFactory sts o.wk keys with
    | error e => rfl
    | ok r3 =>
      obtain ⟨row3, sts3⟩ := r3
      simp only [liftPy]
      cases checkECKeySmallDifferenceG listImpl ecFactory sts3 o.sd keys p.maxDiff with
      | error e => rfl
      | ok r4 => obtain ⟨row4, sts4⟩ := r4; rfl

/-- what a successful run of the composed EC model consists of. -/
def EcRun (p : EcParams) (o : EcOracle) (sts : List EcState) (arts : List Artifact)
    (rows : List (List Bsgs.KeyVerdict)) (sts' : List EcState) : Prop :=
  ∃ (row1 row3 row4 : List Bsgs.KeyVerdict) (sts3 : List EcState),
    rows = [row1, checkWeakCurve ecFactory (arts.map keyOf), row3, row4] ∧
    checkValidECKey ecFactory (arts.map keyOf) = .ok row1 ∧
    checkWeakECPrivateKeyB listImpl p.bound ecFactory sts o.wk (arts.map keyOf) = .ok (row3, sts3) ∧
    checkECKeySmallDifferenceG listImpl ecFactory sts3 o.sd (arts.map keyOf) p.maxDiff =
      .ok (row4, sts') ∧
    shapeOK ecAll arts rows = true

theorem ecRowsG_ok {p : EcParams} {o : EcOracle} {sts : List EcState} {arts : List Artifact}
    {rows : List (List Bsgs.KeyVerdict)} {sts' : List EcState}
    (h : ecRowsG listImpl p o sts arts = .ok (rows, sts')) : EcRun p o sts arts rows sts' := by
  unfold ecRowsG at h
  rw [ecVerdictsG_ecAll] at h
  cases h1 : checkValidECKey ecFactory (arts.map keyOf) with
  | error e => rw [h1] at h; cases h
  | ok row1 =>
    rw [h1] at h
    simp only at h
    cases h3 : checkWeakECPrivateKeyB listImpl p.bound ecFactory sts o.wk (arts.map keyOf) with
    | error e => rw [h3] at h; cases h
    | ok r3 =>
      obtain ⟨row3, sts3⟩ := r3
      rw [h3] at h
      simp only at h
      cases h4 : checkECKeySmallDifferenceG listImpl ecFactory sts3 o.sd (arts.map keyOf) p.maxDiff with
      | error e => rw [h4] at h; cases h
      | ok r4 =>
        obtain ⟨row4, sts4⟩ := r4
        rw [h4] at h
        simp only at h
        split at h
        · rename_i hshape
          simp only [Except.ok.injEq, Prod.mk.injEq] at h
          obtain ⟨rfl, rfl⟩ := h
          exact ⟨row1, row3, row4, sts3, rfl, h1, h3, h4, hshape⟩
        · cases h

theorem checkAllECFull_ok {p : EcParams} {o : EcOracle} {sts : List EcState} {arts : List Artifact}
    {arts' : List Artifact} {r : Bool} {sts' : List EcState}
    (h : checkAllECFull p o sts arts = .ok ((arts', r), sts')) :
    ∃ rows, ecRowsG listImpl p o sts arts = .ok (rows, sts') ∧
      checkAllEC .repaired (verdictAt rows) noInner arts = .ok (arts', r) := by
  unfold checkAllECFull checkAllECFullG at h
  cases h1 : ecRowsG listImpl p o sts arts with
  | error e => rw [h1] at h; cases h
  | ok x =>
    obtain ⟨rows, sts1⟩ := x
    rw [h1] at h
    simp only at h
    cases h2 : checkAllEC .repaired (verdictAt rows) noInner arts with
    | error e => rw [h2] at h; cases h
    | ok y =>
      rw [h2] at h
      simp only [Except.ok.injEq, Prod.mk.injEq] at h
      exact ⟨rows, by rw [← h.2], by rw [← h.1]; exact h2⟩

/-! ### the shape check -/

theorem rowOK_spec {c : CheckSpec} {arts : List Artifact} {row : List Bsgs.KeyVerdict}
    (h : rowOK c arts row = true) :
    row.length = arts.length ∧
    ∀ (n : Nat) (a : Artifact), arts[n]? = some a →
      ∃ kvo, row[n]? = some kvo ∧ kvo.isSome = applicable c a := by
  unfold rowOK at h
  rw [Bool.and_eq_true, beq_iff_eq, List.all_eq_true] at h
  refine ⟨h.1, fun n a ha => ?_⟩
  have hn : n < arts.length := (List.getElem?_eq_some_iff.mp ha).1
  have hn' : n < row.length := by omega
  refine ⟨row[n], List.getElem?_eq_getElem hn', ?_⟩
  have hm : (a, row[n]) ∈ arts.zip row := by
    rw [List.mem_iff_getElem?]
    refine ⟨n, ?_⟩
    rw [List.getElem?_zip_eq_some]
    exact ⟨ha, List.getElem?_eq_getElem hn'⟩
  have := h.2 _ hm
  simpa using this

theorem rowOK_of {c : CheckSpec} {arts : List Artifact} {row : List Bsgs.KeyVerdict}
    (hl : row.length = arts.length)
    (h : ∀ (n : Nat) (a : Artifact) (kvo : Bsgs.KeyVerdict), arts[n]? = some a → row[n]? = some kvo →
      kvo.isSome = applicable c a) : rowOK c arts row = true := by
  unfold rowOK
  rw [Bool.and_eq_true, beq_iff_eq, List.all_eq_true]
  refine ⟨hl, ?_⟩
  rintro ⟨a, kvo⟩ hm
  obtain ⟨n, hn⟩ := List.mem_iff_getElem?.mp hm
  rw [List.getElem?_zip_eq_some] at hn
  simpa using h n a kvo hn.1 hn.2

/-- `applicable` of the four registered EC checks in terms of the factory. -/
theorem applicable_ec (a : Artifact) :
    applicable ⟨"CheckValidECKey", 2, false, false, false⟩ a = true ∧
    applicable ⟨"CheckWeakCurve", 2, true, false, false⟩ a =
      (factoryGet ecFactory a.curve).isSome ∧
    applicable ⟨"CheckWeakECPrivateKey", 4, true, false, false⟩ a =
      (factoryGet ecFactory a.curve).isSome ∧
    applicable ⟨"CheckECKeySmallDifference", 3, true, false, false⟩ a =
      (factoryGet ecFactory a.curve).isSome := by
  have := known_keyOf a
  simp only [keyOf] at this
  simp [applicable, this]

/-! ### what the rows of the EC checks say (C02), for EVERY batch -/

open WeierstrassCurve in
/-- premise of every group-level lemma of this file: the field moduli of the nine curves of
`CURVE_FACTORY` are prime.  It is PROVED: `fieldPrimes` (Proofs/EcAllPrimes.lean, from the
kernel-checked Pratt certificates of Proofs/PrattCurves.lean); the property theorems of
Props/C16EcAll.lean do not carry it. -/
def FieldPrimes : Prop := ∀ e ∈ ecFactory, ∀ c, e.curve = some c → Nat.Prime c.p

theorem curveHyp_of_factoryGet (hp : FieldPrimes) {id : Nat} {c : Curve}
    (h : factoryGet ecFactory id = some c) : CurveHyp c := by
  obtain ⟨e, he, _, hcur⟩ := factoryGet_mem h
  exact regenFactory_curveHyp hp e he c hcur

theorem keys_getElem? {arts : List Artifact} {n : Nat} {a : Artifact} (ha : arts[n]? = some a) :
    (arts.map keyOf)[n]? = some (keyOf a) := by
  rw [List.getElem?_map, ha]; rfl

theorem validKeyOne_info {f : Factory} {k : ECKey} {kv : KV}
    (h : validKeyOne f k = .ok (some kv)) : kv.info = none := by
  unfold validKeyOne at h
  split at h
  · cases h; rfl
  · split at h
    · cases h
    · cases h; rfl

theorem checkValidECKey_info {f : Factory} {keys : List ECKey} {row : List Bsgs.KeyVerdict}
    (h : checkValidECKey f keys = .ok row) (n : Nat) (kv : KV) (hkv : row[n]? = some (some kv)) :
    kv.info = none := by
  obtain ⟨k, _, hk⟩ := forall₂_getElem? (forE_ok h) n (some kv) hkv
  exact validKeyOne_info hk

theorem checkWeakCurve_info {f : Factory} {keys : List ECKey} (n : Nat) (kv : KV)
    (hkv : (checkWeakCurve f keys)[n]? = some (some kv)) : kv.info = none := by
  unfold checkWeakCurve at hkv
  rw [List.getElem?_map] at hkv
  cases hk : keys[n]? with
  | none => rw [hk] at hkv; cases hkv
  | some k =>
    rw [hk] at hkv
    simp only [Option.map_some, Option.some.injEq, weakCurveOne] at hkv
    split at hkv
    · cases hkv
    · cases hkv; rfl

/-- of the four registered EC checks only CheckWeakECPrivateKey (registry position 2) and
CheckECKeySmallDifference (position 3) attach anything to a key. -/
theorem verdictAt_info {keys : List ECKey} {row1 row3 row4 : List Bsgs.KeyVerdict}
    (hv : checkValidECKey ecFactory keys = .ok row1) {j n : Nat} {kx : String × AttachedValue}
    (h : (verdictAt [row1, checkWeakCurve ecFactory keys, row3, row4] j n).info = some kx) :
    ∃ kv : KV, kv.info.map infoOf = some kx ∧
      (j = 2 ∧ row3[n]? = some (some kv) ∨ j = 3 ∧ row4[n]? = some (some kv)) := by
  simp only [verdictAt] at h
  split at h
  · rename_i row hrow
    split at h
    · rename_i kv hkv
      refine ⟨kv, h, ?_⟩
      rcases j with _ | _ | _ | _ | j
      · cases hrow
        rw [toVerdict, checkValidECKey_info hv n kv hkv] at h
        cases h
      · cases hrow
        rw [toVerdict, checkWeakCurve_info n kv hkv] at h
        cases h
      · cases hrow
        exact .inl ⟨rfl, hkv⟩
      · cases hrow
        exact .inr ⟨rfl, hkv⟩
      · simp at hrow
    · cases h
  · cases h

section sound
open WeierstrassCurve

/-- CheckWeakECPrivateKey, any batch (other keys of the curve group may be off the curve, unreduced,
duplicates), any bound, any state, any float-oracle values: a written verdict is negative without
info or positive with a DISCRETE_LOG `v`, and for a key that is a valid point (on the curve,
`n • P = ∞`) `v • G = P`. -/
theorem row3_sound (hp : FieldPrimes) {bound : Nat} {keys : List ECKey} {sts : List EcState}
    {os : List (Nat × Nat)} {row3 : List Bsgs.KeyVerdict} {sts3 : List EcState}
    (h : checkWeakECPrivateKeyB listImpl bound ecFactory sts os keys = .ok (row3, sts3))
    {n : Nat} {k : ECKey} {kv : KV} (hk : keys[n]? = some k) (hkv : row3[n]? = some (some kv))
    {c : Curve} (hc : factoryGet ecFactory k.curveType = some c) :
    (kv = ⟨false, none⟩ ∨ ∃ v, kv = ⟨true, some (.dlog v)⟩) ∧
    ∀ v, kv.info = some (.dlog v) → ∀ hpc : Nat.Prime c.p,
      haveI : Fact (Nat.Prime c.p) := ⟨hpc⟩
      onCurve c k.pt = true → c.n • toPoint c k.pt = 0 → v • Gp c = toPoint c k.pt := by
  rw [checkWeakECPrivateKeyB, weakKeyLoopB_eq_gen] at h
  obtain ⟨e, st, o, vs, st1, r, _, hstep, _, hP, hvs⟩ := genLoop_written ecFactory_nodup h hk hkv hc
  obtain ⟨dls, hext, rfl⟩ := weakStep_ok hstep
  rw [List.getElem?_map, Option.map_eq_some_iff] at hvs
  obtain ⟨x, hx, rfl⟩ := hvs
  rcases dlogVerdict_cases x with ⟨h', _⟩ | ⟨v', h', rfl⟩
  · exact ⟨.inl h', fun v hv => by rw [h'] at hv; cases hv⟩
  · refine ⟨.inr ⟨v', h'⟩, fun v hv hpc hon hN => ?_⟩
    rw [h'] at hv
    cases hv
    haveI : Fact (Nat.Prime c.p) := ⟨hpc⟩
    have hch := curveHyp_of_factoryGet hp hc
    obtain ⟨g1, g2, _, _, _, _⟩ := generator_of_paramsOK c hch.params
    exact extendedBatchDLB_sound c g1 g2 (reduced_of_paramsOK c hch.params).2 bound st _ o.1 o.2 dls
      st1 hext r k.pt v' hP hon hN hx

/-- CheckECKeySmallDifference, any batch, any `max_diff`, any state, any float-oracle value: a
written verdict is negative without info or positive with a relation; when every key of the curve
group is on the curve, the relation `(Q, d)` names ANOTHER key of the batch on the same curve,
different from this one as a group element, with `P - Q = d • G`. -/
theorem row4_sound (hp : FieldPrimes) {maxDiff : Nat} {keys : List ECKey} {sts : List EcState}
    {ms : List Nat} {row4 : List Bsgs.KeyVerdict} {sts4 : List EcState}
    (h : checkECKeySmallDifferenceG listImpl ecFactory sts ms keys maxDiff = .ok (row4, sts4))
    {n : Nat} {k : ECKey} {kv : KV} (hk : keys[n]? = some k) (hkv : row4[n]? = some (some kv))
    {c : Curve} (hc : factoryGet ecFactory k.curveType = some c) :
    (kv = ⟨false, none⟩ ∨ ∃ rel, kv = ⟨true, some (.diff rel)⟩) ∧
    ∀ rel, kv.info = some (.diff rel) → ∀ hpc : Nat.Prime c.p,
      haveI : Fact (Nat.Prime c.p) := ⟨hpc⟩
      (∀ (n' : Nat) (k' : ECKey), keys[n']? = some k' → k'.curveType = k.curveType →
        onCurve c k'.pt = true) →
      ∃ (n' : Nat) (k' : ECKey), n' ≠ n ∧ keys[n']? = some k' ∧ k'.curveType = k.curveType ∧
        onCurve c (.aff rel.qx rel.qy) = true ∧
        toPoint c (.aff rel.qx rel.qy) = toPoint c k'.pt ∧
        toPoint c k.pt - toPoint c k'.pt = rel.dl • Gp c ∧ toPoint c k.pt ≠ toPoint c k'.pt := by
  rw [checkECKeySmallDifferenceG, smallDiffLoop_eq_gen] at h
  obtain ⟨e, st, m, vs, st1, r, hid, hstep, hr, hP, hvs⟩ :=
    genLoop_written ecFactory_nodup h hk hkv hc
  obtain ⟨rels, hdiff, rfl⟩ := diffStepE_ok hstep
  rw [List.getElem?_map, Option.map_eq_some_iff] at hvs
  obtain ⟨x, hx, rfl⟩ := hvs
  rcases diffVerdict_cases x with ⟨h', _⟩ | ⟨rel', h', rfl⟩
  · exact ⟨.inl h', fun rel hrel => by rw [h'] at hrel; cases hrel⟩
  · refine ⟨.inr ⟨rel', h'⟩, fun rel hrel hpc hon => ?_⟩
    rw [h'] at hrel
    cases hrel
    haveI : Fact (Nat.Prime c.p) := ⟨hpc⟩
    have hch := curveHyp_of_factoryGet hp hc
    obtain ⟨g1, g2, _, _, _, _⟩ := generator_of_paramsOK c hch.params
    -- position in the batch of the point at a rank of the curve group
    have hpar := (group_parallel e.id keys).flip
    have hL : ∀ Q ∈ ([] : List Pt) ++ groupPoints e.id keys, onCurve c Q = true := by
      intro Q hQ
      obtain ⟨j, hj⟩ := List.getElem?_of_mem hQ
      obtain ⟨idx, _, k', hk', hid', rfl⟩ := forall₂_idx hpar j Q hj
      exact hon idx k' hk' (hid'.trans hid)
    obtain ⟨P', j, Q, hP', hQ, hj, a1, a2, a3, a4⟩ := batchDLOfDifferences_sound c g1 g2 st
      (groupPoints e.id keys) [] hL maxDiff m rels st1 hdiff r rel' hx
    rw [hP] at hP'
    cases hP'
    obtain ⟨n', hn', k', hk', hid', rfl⟩ := forall₂_idx hpar j Q hQ
    exact ⟨n', k', fun hnn => hj (by subst hnn; simpa using keyIdxs_inj e.id keys hn' hr), hk',
      hid'.trans hid, a1, a2, a3, a4⟩

end sound

/-! ### well-formedness of a `CheckAllEC` call, and the hypotheses of C10's check-level theorems -/

/-- Well-formed `CheckAllEC` call (C18): the `_table` state of every curve object is one that
earlier calls can leave behind; every key whose curve id is in `CURVE_FACTORY` is a point of that
curve with coordinates in `[0, p)`; the float oracles are `≥ 1` where a table is (re)built
(`int(math.sqrt(bound * len(points)))` for a non-empty group, `int(math.sqrt(max_diff))` for
`max_diff ≥ 1`).  No condition on keys with unknown / binary-field curve ids, on duplicates, on the
batch size. -/
structure ECWF (p : EcParams) (o : EcOracle) (sts : List EcState) (arts : List Artifact) : Prop where
  states : StatesOK ecFactory sts
  points : ∀ a ∈ arts, ∀ c, factoryGet ecFactory a.curve = some c →
    onCurve c (keyOf a).pt = true ∧ Reduced c (keyOf a).pt
  wk : List.Forall₂ (fun (e : FEntry) (x : Nat × Nat) =>
    groupPoints e.id (arts.map keyOf) ≠ [] → 1 ≤ x.1 ∧ 1 ≤ x.2) ecFactory o.wk
  sd : List.Forall₂ (fun (_ : FEntry) (m : Nat) => 0 < p.maxDiff → 1 ≤ m) ecFactory o.sd

theorem wkHyp_of (keys : List ECKey) : ∀ (f : Factory) (sts : List EcState) (os : List (Nat × Nat)),
    (∀ e ∈ f, ∀ c, e.curve = some c →
      CurveHyp c ∧ ∀ P ∈ groupPoints e.id keys, onCurve c P = true) →
    StatesOK f sts →
    List.Forall₂ (fun (e : FEntry) (x : Nat × Nat) =>
      groupPoints e.id keys ≠ [] → 1 ≤ x.1 ∧ 1 ≤ x.2) f os →
    WKHyp keys f sts os :=
  fun f _ _ hf hst hos => wkHyp_iff.mpr
    ((Forall₃.of_forall₂ (statesOK_iff.mp hst) hos).imp_of_mem fun e _ _ he h c hc =>
      ⟨(hf e he c hc).1, h.1 c hc, (hf e he c hc).2, h.2⟩)

theorem sdHyp_of (keys : List ECKey) (maxDiff : Nat) :
    ∀ (f : Factory) (sts : List EcState) (ms : List Nat),
    (∀ e ∈ f, ∀ c, e.curve = some c →
      CurveHyp c ∧ ∀ P ∈ groupPoints e.id keys, onCurve c P = true ∧ Reduced c P) →
    StatesOK f sts →
    List.Forall₂ (fun (_ : FEntry) (m : Nat) => 0 < maxDiff → 1 ≤ m) f ms →
    SDHyp keys maxDiff f sts ms :=
  fun f _ _ hf hst hms => sdHyp_iff.mpr
    ((Forall₃.of_forall₂ (statesOK_iff.mp hst) hms).imp_of_mem fun e _ _ he h c hc =>
      ⟨(hf e he c hc).1, h.1 c hc, (hf e he c hc).2, fun hlt => h.2 (by omega)⟩)

theorem ecwf_factory (hp : FieldPrimes) {p : EcParams} {o : EcOracle} {sts : List EcState}
    {arts : List Artifact} (hwf : ECWF p o sts arts) :
    ∀ e ∈ ecFactory, ∀ c, e.curve = some c →
      CurveHyp c ∧ ∀ P ∈ groupPoints e.id (arts.map keyOf), onCurve c P = true ∧ Reduced c P := by
  intro e he c hc
  refine ⟨regenFactory_curveHyp hp e he c hc, ?_⟩
  intro P hP
  obtain ⟨k, hk, hid, rfl⟩ := mem_groupPoints_iff.mp hP
  obtain ⟨a, ha, rfl⟩ := List.mem_map.mp hk
  have hget : factoryGet ecFactory a.curve = some c := by
    have := factoryGet_eq_of_mem ecFactory_nodup he
    rw [hc] at this
    rw [← this]
    exact congrArg _ hid
  exact hwf.points a ha c hget

theorem verdictAt_factors (rows : List (List Bsgs.KeyVerdict)) (j i : Nat) :
    (verdictAt rows j i).factors = none := by
  unfold verdictAt
  split
  · split <;> rfl
  · rfl

theorem getElem?_of_length_eq {α β} {l : List α} {l' : List β} (h : l.length = l'.length) {n : Nat}
    {b : β} (hb : l'[n]? = some b) : ∃ a, l[n]? = some a := by
  have : n < l'.length := (List.getElem?_eq_some_iff.mp hb).1
  exact ⟨l[n]'(by omega), List.getElem?_eq_getElem (by omega)⟩

/-! ### the inner `CheckAllEC` of CheckIssuerKey IS `CheckAllEC` -/

theorem foldChecks_noIssuer (var : Variant) (ver : String) (ec : List CheckSpec)
    (O : Nat → Nat → Verdict) (I : Nat → Nat → Nat → Verdict) :
    ∀ (l : List CheckSpec) (i : Nat) (keys : List Artifact), (∀ c ∈ l, c.issuer = false) →
      foldChecks (fun (s : CheckSpec × Nat) => runCheck ver s.1 (O s.2)) (l.zipIdx i) keys =
      foldChecks (runStep var ver ec)
        ((l.zipIdx i).map fun (s : CheckSpec × Nat) => (⟨s.1, O s.2, I s.2⟩ : Step)) keys := by
  intro l
  induction l with
  | nil => intro i keys _; rfl
  | cons c cs ih =>
    intro i keys hni
    simp only [List.zipIdx_cons, List.map_cons, foldChecks, runStep, hni c List.mem_cons_self,
      Bool.false_eq_true, if_false]
    cases runCheck ver c (O i) keys with
    | error e => rfl
    | ok x =>
      simp only
      rw [ih (i + 1) x.1 (fun c' hc' => hni c' (List.mem_cons_of_mem _ hc'))]

theorem ecAll_noIssuer : ∀ c ∈ ecAll, c.issuer = false := by decide +kernel

/-- `paranoid.CheckAllEC(pks_pb)` inside CheckIssuerKey is the entry point `CheckAllEC`. -/
theorem innerCheckAllEC_eq (O : Nat → Nat → Verdict) (I : Nat → Nat → Nat → Verdict)
    (keys : List Artifact) :
    innerCheckAllEC Consts.libVersion ecAll O keys = checkAllEC .repaired O I keys := by
  unfold innerCheckAllEC checkAllEC checkArtifacts mkSteps
  exact foldChecks_noIssuer .repaired Consts.libVersion ecAll O I ecAll 0 keys ecAll_noIssuer

/-! ### decomposition of the ECDSA entry point -/

theorem checkAllECDSASigsFull_ok {p : EcParams} {O : SigOracle} {st : SigState XTable}
    {sarts : List SigArt} {run : SigRun XTable}
    (h : checkAllECDSASigsFull p O st sarts = .ok run) :
    sigStepsG listImpl p O (sarts.map SigArt.art) (sarts.map SigArt.sig) ecdsaAll.zipIdx st =
      .ok (run.outs, run.state) ∧
    checkAllECDSASigs .repaired (sigVerdictAt run.outs) (sigInnerAt run.outs)
      (sarts.map SigArt.art) = .ok run.result := by
  unfold checkAllECDSASigsFull checkAllECDSASigsFullG at h
  cases h1 : sigStepsG listImpl p O (sarts.map SigArt.art) (sarts.map SigArt.sig) ecdsaAll.zipIdx st with
  | error e => rw [h1] at h; cases h
  | ok x =>
    obtain ⟨outs, st1⟩ := x
    rw [h1] at h
    simp only at h
    cases h2 : checkAllECDSASigs .repaired (sigVerdictAt outs) (sigInnerAt outs)
        (sarts.map SigArt.art) with
    | error e => rw [h2] at h; cases h
    | ok y =>
      rw [h2] at h
      simp only [Except.ok.injEq] at h
      subst h
      exact ⟨rfl, h2⟩

/-- the registered checks ran one after another, each from the state the previous one left;
`Inv` is any invariant of the curve objects that every check preserves. -/
theorem sigStepsG_spec {p : EcParams} {O : SigOracle} {arts : List Artifact}
    {sigs : List EcdsaChecks.Sig} (Inv : SigState XTable → Prop)
    (hInv : ∀ c j st out st', Inv st →
      runSigStepG listImpl p O arts sigs c j st = .ok (out, st') → Inv st') :
    ∀ (l : List (CheckSpec × Nat)) (st : SigState XTable) (outs : List StepOut)
      (st' : SigState XTable), Inv st →
      sigStepsG listImpl p O arts sigs l st = .ok (outs, st') →
      Inv st' ∧ List.Forall₂ (fun (cj : CheckSpec × Nat) out => ∃ sti sti', Inv sti ∧
        runSigStepG listImpl p O arts sigs cj.1 cj.2 sti = .ok (out, sti')) l outs := by
  intro l
  induction l with
  | nil =>
    intro st outs st' hi h
    simp only [sigStepsG, Except.ok.injEq, Prod.mk.injEq] at h
    obtain ⟨rfl, rfl⟩ := h
    exact ⟨hi, .nil⟩
  | cons cj rest ih =>
    intro st outs st' hi h
    rw [sigStepsG] at h
    cases h1 : runSigStepG listImpl p O arts sigs cj.1 cj.2 st with
    | error e => rw [h1] at h; cases h
    | ok x =>
      obtain ⟨out, st1⟩ := x
      rw [h1] at h
      simp only at h
      cases h2 : sigStepsG listImpl p O arts sigs rest st1 with
      | error e => rw [h2] at h; cases h
      | ok y =>
        obtain ⟨outs1, st2⟩ := y
        rw [h2] at h
        simp only [Except.ok.injEq, Prod.mk.injEq] at h
        obtain ⟨rfl, rfl⟩ := h
        have hi1 := hInv _ _ _ _ _ hi h1
        obtain ⟨hi2, hf⟩ := ih st1 outs1 st2 hi1 h2
        exact ⟨hi2, .cons ⟨st, st1, hi, h1⟩ hf⟩

theorem runSigStepG_cases {p : EcParams} {O : SigOracle} {arts : List Artifact}
    {sigs : List EcdsaChecks.Sig} {c : CheckSpec} {j : Nat} {st st' : SigState XTable}
    {out : StepOut} (h : runSigStepG listImpl p O arts sigs c j st = .ok (out, st')) :
    (c.issuer = true ∧ c.name = "CheckIssuerKey" ∧ st'.factory = st.factory ∧ ∃ rows, out = .inner rows ∧
      ecRowsG listImpl p (O.floats j) st.tables (issuerKeys .repaired arts) = .ok (rows, st'.tables)) ∨
    (c.issuer = false ∧ st'.tables = st.tables ∧ ∃ k res, kindOfName c.name = some k ∧
      EcdsaChecks.check k (O.solver j) st.factory sigs = .ok res ∧
      out = .direct res.writes res.calls ∧ st'.factory = res.factory ∧
      writesOK c arts res.writes = true) := by
  unfold runSigStepG at h
  split at h
  · rename_i hname
    split at h
    · rename_i hiss
      cases h1 : ecRowsG listImpl p (O.floats j) st.tables (issuerKeys .repaired arts) with
      | error e => rw [h1] at h; cases h
      | ok x =>
        obtain ⟨rows, tables'⟩ := x
        rw [h1] at h
        simp only [Except.ok.injEq, Prod.mk.injEq] at h
        obtain ⟨rfl, rfl⟩ := h
        exact .inl ⟨hiss, hname, rfl, rows, rfl, rfl⟩
    · cases h
  · split at h
    · cases h
    · rename_i k hk
      cases h1 : EcdsaChecks.check k (O.solver j) st.factory sigs with
      | error e => rw [h1] at h; cases h
      | ok res =>
        rw [h1] at h
        simp only at h
        split at h
        · rename_i hw
          simp only [Except.ok.injEq, Prod.mk.injEq] at h
          obtain ⟨rfl, rfl⟩ := h
          have hiss : c.issuer = false := by
            unfold writesOK at hw
            rw [Bool.and_eq_true] at hw
            simpa using hw.1
          exact .inr ⟨hiss, rfl, k, res, hk, h1, rfl, rfl, hw⟩
        · cases h

/-- invariant of the curve objects used by the soundness theorems: every object is valid
(`C02S.FactoryOK`: valid curve, sound `_cache`), ids are unique, and every object has the curve of an
object of the initial factory `f0`. -/
def SigInv (f0 : EcdsaChecks.Factory) (st : SigState XTable) : Prop :=
  EcdsaChecks.FactoryOK st.factory ∧ (st.factory.map Prod.fst).Nodup ∧
  ∀ cid obj', (cid, some obj') ∈ st.factory → ∃ obj, (cid, some obj) ∈ f0 ∧ obj'.curve = obj.curve

theorem sigInv_step {p : EcParams} {O : SigOracle} {arts : List Artifact}
    {sigs : List EcdsaChecks.Sig} (f0 : EcdsaChecks.Factory) :
    ∀ c j st out st', SigInv f0 st →
      runSigStepG listImpl p O arts sigs c j st = .ok (out, st') → SigInv f0 st' := by
  intro c j st out st' hi h
  rcases runSigStepG_cases h with ⟨_, _, hf, _⟩ | ⟨_, _, k, res, _, hchk, _, hf, _⟩
  · unfold SigInv; rw [hf]; exact hi
  · obtain ⟨h1, h2, h3⟩ := hi
    obtain ⟨p1, p2, _⟩ := EcdsaChecks.check_preserves k (O.solver j) st.factory sigs res h1 hchk
    obtain ⟨_, q2⟩ := EcdsaChecks.checkLoop_factory k (O.solver j) sigs st.factory res hchk
    unfold SigInv
    rw [hf]
    refine ⟨p2, by rw [p1]; exact h2, ?_⟩
    intro cid obj' hm
    obtain ⟨obj, g1, g2, _⟩ := q2 cid obj' hm
    obtain ⟨obj0, g3, g4⟩ := h3 cid obj g1
    exact ⟨obj0, g3, g2.trans g4⟩

theorem checkAllECFull_of {p : EcParams} {o : EcOracle} {sts sts' : List EcState}
    {arts : List Artifact} {rows : List (List Bsgs.KeyVerdict)} {r : List Artifact × Bool}
    (h1 : ecRowsG listImpl p o sts arts = .ok (rows, sts'))
    (h2 : checkAllEC .repaired (verdictAt rows) noInner arts = .ok r) :
    checkAllECFull p o sts arts = .ok (r, sts') := by
  unfold checkAllECFull checkAllECFullG
  rw [h1]
  simp only
  rw [h2]

theorem zipIdx_getElem? {α} (l : List α) (j : Nat) (c : α) (h : l[j]? = some c) :
    (l.zipIdx)[j]? = some (c, j) := by
  simp [List.getElem?_zipIdx, h]

/-- the `j`-th registered signature check of a run that returned. -/
theorem sig_step_at {p : EcParams} {O : SigOracle} {arts : List Artifact}
    {sigs : List EcdsaChecks.Sig} {f0 : EcdsaChecks.Factory} {st st' : SigState XTable}
    {outs : List StepOut} (hi : SigInv f0 st)
    (h : sigStepsG listImpl p O arts sigs ecdsaAll.zipIdx st = .ok (outs, st'))
    (j : Nat) (c : CheckSpec) (hj : ecdsaAll[j]? = some c) :
    ∃ out sti sti', outs[j]? = some out ∧ SigInv f0 sti ∧
      runSigStepG listImpl p O arts sigs c j sti = .ok (out, sti') := by
  obtain ⟨_, hf⟩ := sigStepsG_spec (SigInv f0) (sigInv_step f0) _ st outs st' hi h
  obtain ⟨out, hout, sti, sti', h1, h2⟩ := forall₂_idx hf j (c, j) (zipIdx_getElem? _ j c hj)
  exact ⟨out, sti, sti', hout, h1, h2⟩

theorem ecdsaAll_flags : ∀ c ∈ ecdsaAll, c.unknownIfUnfactored = false ∧
    (c.issuer = true → c.name = "CheckIssuerKey" ∧ c.severity = 0) := by
  decide +kernel

theorem ecdsaAll_nodup : (ecdsaAll.map (·.name)).Nodup := C16.registry_names_nodup.2.2.1

theorem mkSteps_nodup (specs : List CheckSpec) (O : Nat → Nat → Verdict)
    (I : Nat → Nat → Nat → Verdict) (h : (specs.map (·.name)).Nodup) :
    ((mkSteps specs O I).map (·.spec.name)).Nodup :=
  mkSteps_names_nodup specs O I h

theorem mkSteps_mem {specs : List CheckSpec} {O : Nat → Nat → Verdict}
    {I : Nat → Nat → Nat → Verdict} {j : Nat} {c : CheckSpec} (h : specs[j]? = some c) :
    (⟨c, O j, I j⟩ : Step) ∈ mkSteps specs O I :=
  Paranoid.mem_mkSteps.2 ⟨j, c, h, rfl⟩

theorem sigArts_getElem? {sarts : List SigArt} {n : Nat} {sa : SigArt} (h : sarts[n]? = some sa) :
    (sarts.map SigArt.art)[n]? = some sa.art ∧ (sarts.map SigArt.sig)[n]? = some sa.sig := by
  simp [List.getElem?_map, h]

theorem sigArts_fresh {sarts : List SigArt} (h : ∀ sa ∈ sarts, sa.info = TestInfo.empty) :
    ∀ a ∈ sarts.map SigArt.art, a.info = TestInfo.empty := by
  intro a hm
  obtain ⟨sa, hs, rfl⟩ := List.mem_map.mp hm
  exact h sa hs

/-- no registered signature check attaches a factor list. -/
theorem sigVerdictAt_factors {p : EcParams} {O : SigOracle} {arts : List Artifact}
    {sigs : List EcdsaChecks.Sig} {f0 : EcdsaChecks.Factory} {st st' : SigState XTable}
    {outs : List StepOut} (hi : SigInv f0 st)
    (h : sigStepsG listImpl p O arts sigs ecdsaAll.zipIdx st = .ok (outs, st')) (j i : Nat) :
    (sigVerdictAt outs j i).factors = none := by
  obtain ⟨_, hf⟩ := sigStepsG_spec (SigInv f0) (sigInv_step f0) _ st outs st' hi h
  unfold sigVerdictAt
  cases hout : outs[j]? with
  | none => rfl
  | some out =>
    cases out with
    | inner rows => rfl
    | direct w calls =>
      simp only
      cases hv : EcdsaChecks.verdictOf w i with
      | none => rfl
      | some v =>
        simp only
        obtain ⟨cj, _, sti, sti', hinv, hstep⟩ := forall₂_getElem? hf j _ hout
        rcases runSigStepG_cases hstep with ⟨_, _, _, rows, hr, _⟩ | ⟨_, _, k, res, _, hchk, hr, _, _⟩
        · cases hr
        · cases hr
          obtain ⟨_, _, _, _, hcase⟩ := EcdsaChecks.check_sound k (O.solver cj.2) sti.factory sigs res
            hinv.1 hinv.2.1 hchk i v hv
          rcases hcase with rfl | ⟨d, rfl, _⟩ <;> rfl

theorem sigInnerAt_factors (outs : List StepOut) (j jj k : Nat) :
    (sigInnerAt outs j jj k).factors = none := by
  unfold sigInnerAt
  split
  · exact verdictAt_factors _ _ _
  · rfl

/-! ### totality of the row computation (the body of `checkAllECFull_total`) -/

theorem rowOK_of_rowShape {c : CheckSpec} {arts : List Artifact} {row : List Bsgs.KeyVerdict}
    (happ : ∀ a, applicable c a = (factoryGet ecFactory a.curve).isSome)
    (h : RowShape ecFactory (arts.map keyOf) row) : rowOK c arts row = true := by
  obtain ⟨hl, hn, hs⟩ := h
  apply rowOK_of (by rw [hl, List.length_map])
  intro n a kvo ha hkvo
  rw [happ a]
  cases hg : factoryGet ecFactory a.curve with
  | none =>
    rw [hn n (keyOf a) (keys_getElem? ha) hg] at hkvo
    cases hkvo; rfl
  | some c' =>
    obtain ⟨kv, hkv⟩ := hs n (keyOf a) c' (keys_getElem? ha) hg
    rw [hkv] at hkvo
    cases hkvo; rfl

/-- when the two batched checks return rows of the right shape, the four registered checks return
and pass the shape check of the bookkeeping layer (CheckValidECKey and CheckWeakCurve always do). -/
theorem ecRowsG_of_shape {p : EcParams} {o : EcOracle} {sts sts3 sts4 : List EcState}
    {arts : List Artifact} {row3 row4 : List Bsgs.KeyVerdict}
    (h3 : checkWeakECPrivateKeyB listImpl p.bound ecFactory sts o.wk (arts.map keyOf) =
      .ok (row3, sts3)) (s3 : RowShape ecFactory (arts.map keyOf) row3)
    (h4 : checkECKeySmallDifferenceG listImpl ecFactory sts3 o.sd (arts.map keyOf) p.maxDiff =
      .ok (row4, sts4)) (s4 : RowShape ecFactory (arts.map keyOf) row4) :
    ecRowsG listImpl p o sts arts =
      .ok ([(arts.map keyOf).map fun k => some ⟨invalidKeySpec regenFactory k, none⟩,
        checkWeakCurve ecFactory (arts.map keyOf), row3, row4], sts4) := by
  unfold ecRowsG
  rw [ecVerdictsG_ecAll, show checkValidECKey ecFactory (arts.map keyOf) = _ from
    C06.checkValidECKey_factory _]
  simp only
  rw [h3]
  simp only
  rw [h4]
  simp only
  rw [if_pos]
  rw [ecAll_eq]
  simp only [shapeOK, Bool.not_false, Bool.true_and, Bool.and_true, Bool.and_eq_true]
  refine ⟨?_, ?_, rowOK_of_rowShape (fun a => (applicable_ec a).2.2.1) s3,
    rowOK_of_rowShape (fun a => (applicable_ec a).2.2.2) s4⟩
  · apply rowOK_of (by simp)
    intro n a kvo ha hkvo
    rw [(applicable_ec a).1]
    simp only [List.getElem?_map, ha, Option.map_some, Option.some.injEq] at hkvo
    rw [← hkvo]; rfl
  · apply rowOK_of (by simp [checkWeakCurve])
    intro n a kvo ha hkvo
    rw [(applicable_ec a).2.1]
    simp only [checkWeakCurve, List.getElem?_map, ha, Option.map_some, Option.some.injEq,
      weakCurveOne] at hkvo
    rw [← hkvo]
    simp only [keyOf]
    cases factoryGet ecFactory a.curve <;> rfl

/-- the four registered EC checks on a well-formed call, for every `p.bound`: they return, agree
with the bookkeeping layer about which keys get an entry, and leave reachable `_table` states. -/
theorem ecRowsG_total (hp : FieldPrimes) (p : EcParams) (o : EcOracle) (sts : List EcState)
    (arts : List Artifact) (hwf : ECWF p o sts arts) :
    ∃ rows sts', ecRowsG listImpl p o sts arts = .ok (rows, sts') ∧ StatesOK ecFactory sts' := by
  have hfac := ecwf_factory hp hwf
  have hnd := ecFactory_nodup
  obtain ⟨row3, sts3, h3, st3, s3, _⟩ := checkWeakECPrivateKeyB_spec_any p.bound ecFactory sts o.wk
    (arts.map keyOf) hnd (wkHyp'_of _ _ _ _ (regenFactory_curveHyp hp) hwf.states hwf.wk)
  obtain ⟨row4, sts4, h4, st4, s4, _⟩ := smallDiffCheck_spec ecFactory sts3 o.sd
    (arts.map keyOf) p.maxDiff hnd (sdHyp_of _ _ _ _ _ hfac st3 hwf.sd)
  exact ⟨_, sts4, ecRowsG_of_shape h3 s3 h4 s4, st4⟩

/-- `CheckAllEC` returns when its four checks do: the bookkeeping layer never raises on their
verdicts (no factor list is attached). -/
theorem checkAllECFull_of_rows {p : EcParams} {o : EcOracle} {sts sts' : List EcState}
    {arts : List Artifact} {rows : List (List Bsgs.KeyVerdict)}
    (h : ecRowsG listImpl p o sts arts = .ok (rows, sts')) :
    ∃ arts' r, checkAllECFull p o sts arts = .ok ((arts', r), sts') := by
  obtain ⟨⟨arts', r⟩, hbk⟩ := checkArtifacts_ok .repaired Consts.libVersion ecAll
    (mkSteps ecAll (verdictAt rows) noInner)
    (fun s hs => by
      obtain ⟨j, c, _, rfl⟩ := mem_mkSteps hs
      exact ⟨fun i => verdictAt_factors _ j i, fun _ _ => rfl⟩) arts
  exact ⟨arts', r, checkAllECFull_of h hbk⟩

/-! ### totality of the signature checks -/

/-- ids and curve parameters of the objects of a factory (everything but `_cache`). -/
def curvesOf (f : EcdsaChecks.Factory) : List (Nat × Option Curve) :=
  f.map fun e => (e.1, e.2.map (·.curve))

theorem checkLoop_curves (k : EcdsaChecks.Kind) (O : Nat → EcdsaChecks.GroupOracle)
    (arts : List EcdsaChecks.Sig) : ∀ (f : EcdsaChecks.Factory) (res : EcdsaChecks.CheckResult),
    EcdsaChecks.checkLoop k O arts f = .ok res → curvesOf res.factory = curvesOf f
  | [], res, h => by
    simp only [EcdsaChecks.checkLoop, Except.ok.injEq] at h
    subst h; rfl
  | (cid, o) :: rest, res, h => by
    rcases EcdsaChecks.checkLoop_cons_ok h with ⟨_, r, hr, rfl⟩ | ⟨obj, gr, r, rfl, _, _, hr, rfl⟩
    · have := checkLoop_curves k O arts rest r hr
      simp only [curvesOf, EcdsaChecks.CheckResult.cons, List.map_cons] at this ⊢
      rw [this]
    · have := checkLoop_curves k O arts rest r hr
      simp only [curvesOf, EcdsaChecks.CheckResult.consGroup, List.map_cons, Option.map_some] at this ⊢
      rw [this]

theorem curvesOf_mem {f g : EcdsaChecks.Factory} (h : curvesOf f = curvesOf g) {cid : Nat}
    {obj : EcdsaChecks.CurveObj} (hm : (cid, some obj) ∈ f) :
    ∃ obj', (cid, some obj') ∈ g ∧ obj'.curve = obj.curve := by
  have : (cid, some obj.curve) ∈ curvesOf f := List.mem_map.mpr ⟨(cid, some obj), hm, rfl⟩
  rw [h] at this
  obtain ⟨e, he, heq⟩ := List.mem_map.mp this
  obtain ⟨cid', o'⟩ := e
  simp only [Prod.mk.injEq] at heq
  obtain ⟨rfl, ho⟩ := heq
  cases o' with
  | none => cases ho
  | some obj' => exact ⟨obj', he, by simpa using ho⟩

theorem curvesOf_ids {f g : EcdsaChecks.Factory} (h : curvesOf f = curvesOf g) :
    f.map Prod.fst = g.map Prod.fst := by
  have : ∀ f' : EcdsaChecks.Factory, f'.map Prod.fst = (curvesOf f').map Prod.fst := by
    intro f'; simp [curvesOf, List.map_map, Function.comp_def]
  rw [this f, this g, h]

/-- a curve id has an object in `namedFactory` iff it is in `Consts.knownCurves`. -/
theorem named_known (cid : Nat) :
    (∃ obj, (cid, some obj) ∈ EcdsaChecks.namedFactory) ↔ Consts.knownCurves.contains cid = true := by
  rw [List.contains_iff_mem, ← C02S.namedFactory_ids.2, List.mem_filterMap]
  constructor
  · rintro ⟨obj, hm⟩
    exact ⟨(cid, some obj), hm, rfl⟩
  · rintro ⟨⟨cid', o⟩, hm, hx⟩
    cases o with
    | none => cases hx
    | some obj =>
      simp only [Option.map_some, Option.some.injEq] at hx
      subst hx
      exact ⟨obj, hm⟩

/-- Well-formed `CheckAllECDSASigs` call (C18): valid curve objects (C02S) that are those of
`CURVE_FACTORY` up to the content of `_cache`; reachable `_table` states; for every registered nonce
check the `list(set)` order oracle is an enumeration of the right sets; `s` of every signature with
a known curve is invertible modulo the curve order (`r, s ∈ [1, n-1]`: `C02S.wf_of_range`); and the
inner `CheckAllEC` call of CheckIssuerKey on the distinct issuer keys is well-formed (`ECWF`: every
issuer key with a known curve id is a reduced point of its curve, float oracles `≥ 1`). -/
structure SigWF (p : EcParams) (O : SigOracle) (st : SigState XTable) (sarts : List SigArt) : Prop where
  factory : EcdsaChecks.FactoryOK st.factory
  curves : curvesOf st.factory = curvesOf EcdsaChecks.namedFactory
  tables : StatesOK ecFactory st.tables
  uniq : ∀ j c k, ecdsaAll[j]? = some c → kindOfName c.name = some k →
    EcdsaChecks.UniqConsistent (O.solver j) (sarts.map SigArt.sig) EcdsaChecks.namedFactory
  sInv : ∀ sa ∈ sarts, ∀ obj, (sa.sig.curve, some obj) ∈ EcdsaChecks.namedFactory →
    Int.gcd (bytes2int sa.sig.s : Int) obj.curve.n = 1
  inner : ∀ j c, ecdsaAll[j]? = some c → c.issuer = true → ∀ sts, StatesOK ecFactory sts →
    ECWF p (O.floats j) sts (issuerKeys .repaired (sarts.map SigArt.art))

/-- the part of `SigWF` that is an invariant of the curve objects. -/
def TotInv (st : SigState XTable) : Prop :=
  EcdsaChecks.FactoryOK st.factory ∧ curvesOf st.factory = curvesOf EcdsaChecks.namedFactory ∧
  StatesOK ecFactory st.tables

theorem ecdsaAll_kinds : ∀ c ∈ ecdsaAll, c.issuer = false →
    c.name ≠ "CheckIssuerKey" ∧ c.needsCurve = true ∧ ∃ k, kindOfName c.name = some k := by
  have h : ∀ c ∈ ecdsaAll, c.issuer = false →
      c.name ≠ "CheckIssuerKey" ∧ c.needsCurve = true ∧ (kindOfName c.name).isSome = true := by
    decide +kernel
  intro c hc hiss
  obtain ⟨h1, h2, h3⟩ := h c hc hiss
  exact ⟨h1, h2, Option.isSome_iff_exists.mp h3⟩

/-- the `set`-order oracle is an enumeration for the current curve objects as well: they differ from
those of `namedFactory` in `_cache` only. -/
theorem uniqConsistent_of_curves {O : Nat → EcdsaChecks.GroupOracle} {sigs : List EcdsaChecks.Sig}
    {f : EcdsaChecks.Factory} (hcur : curvesOf f = curvesOf EcdsaChecks.namedFactory)
    (h : EcdsaChecks.UniqConsistent O sigs EcdsaChecks.namedFactory) :
    EcdsaChecks.UniqConsistent O sigs f := by
  intro cid obj hm hne
  obtain ⟨obj0, hm0, hc0⟩ := curvesOf_mem hcur hm
  have := h cid obj0 hm0 hne
  rw [hc0] at this
  exact this

/-- a registered nonce check on curve objects that are valid and those of `CURVE_FACTORY` up to
`_cache`: it IS a run of the check model that returns, it writes an entry exactly for the signatures
the bookkeeping layer expects, and it leaves such curve objects behind. -/
theorem nonceStep_total {p : EcParams} {O : SigOracle} {sarts : List SigArt} {j : Nat}
    {c : CheckSpec} (hj : ecdsaAll[j]? = some c) (hiss : c.issuer = false) {st : SigState XTable}
    (hF : EcdsaChecks.FactoryOK st.factory)
    (hcur : curvesOf st.factory = curvesOf EcdsaChecks.namedFactory)
    (huniq : ∀ k, kindOfName c.name = some k →
      EcdsaChecks.UniqConsistent (O.solver j) (sarts.map SigArt.sig) EcdsaChecks.namedFactory)
    (hsInv : ∀ sa ∈ sarts, ∀ obj, (sa.sig.curve, some obj) ∈ EcdsaChecks.namedFactory →
      Int.gcd (bytes2int sa.sig.s : Int) obj.curve.n = 1) :
    ∃ k res, kindOfName c.name = some k ∧
      EcdsaChecks.check k (O.solver j) st.factory (sarts.map SigArt.sig) = .ok res ∧
      runSigStepG listImpl p O (sarts.map SigArt.art) (sarts.map SigArt.sig) c j st =
        .ok (.direct res.writes res.calls, ⟨st.tables, res.factory⟩) ∧
      EcdsaChecks.FactoryOK res.factory ∧
      curvesOf res.factory = curvesOf EcdsaChecks.namedFactory := by
  obtain ⟨hname, hneeds, k, hk⟩ := ecdsaAll_kinds c (List.mem_of_getElem? hj) hiss
  have hnd : (st.factory.map Prod.fst).Nodup := by
    rw [curvesOf_ids hcur]; exact C02S.namedFactory_ids.1
  have hs : k ≠ .cr50 → ∀ s ∈ sarts.map SigArt.sig, ∀ obj, (s.curve, some obj) ∈ st.factory →
      Int.gcd (bytes2int s.s : Int) obj.curve.n = 1 := by
    intro _ s hs obj hm
    obtain ⟨sa, hsa, rfl⟩ := List.mem_map.mp hs
    obtain ⟨obj0, hm0, hc0⟩ := curvesOf_mem hcur hm
    rw [← hc0]
    exact hsInv sa hsa obj0 hm0
  obtain ⟨res, hres⟩ := C02S.check_total k (O.solver j) st.factory _ hF
    (uniqConsistent_of_curves hcur (huniq k hk)) hs
  obtain ⟨_, p2, _⟩ := C02S.check_preserves k (O.solver j) st.factory _ res hF hres
  -- a signature gets a verdict iff its curve id has an object, i.e. iff the check applies to it
  have hw : writesOK c (sarts.map SigArt.art) res.writes = true := by
    unfold writesOK
    rw [hiss, Bool.not_false, Bool.true_and, List.all_eq_true]
    rintro ⟨a, i⟩ hm
    have hai := List.mem_zipIdx_iff_getElem?.1 hm
    rw [List.getElem?_map, Option.map_eq_some_iff] at hai
    obtain ⟨sa, hsa, rfl⟩ := hai
    have happ : applicable c sa.art = Consts.knownCurves.contains sa.sig.curve := by
      simp [applicable, hneeds, known, SigArt.art]
    obtain ⟨_, hidx⟩ := C02S.writes_by_index k (O.solver j) st.factory _ res hnd hres
    rw [beq_iff_eq, happ]
    apply Bool.eq_iff_iff.mpr
    rw [Option.isSome_iff_ne_none, Ne, EcdsaChecks.verdictOf_none, Classical.not_not, hidx,
      ← named_known]
    constructor
    · rintro ⟨s, obj, hs', hm'⟩
      rw [List.getElem?_map, hsa, Option.map_some, Option.some.injEq] at hs'
      subst hs'
      obtain ⟨obj0, hm0, _⟩ := curvesOf_mem hcur hm'
      exact ⟨obj0, hm0⟩
    · rintro ⟨obj0, hm0⟩
      obtain ⟨obj, hm', _⟩ := curvesOf_mem hcur.symm hm0
      exact ⟨sa.sig, obj, by rw [List.getElem?_map, hsa]; rfl, hm'⟩
  refine ⟨k, res, hk, hres, ?_, p2, by rw [checkLoop_curves k (O.solver j) _ st.factory res hres, hcur]⟩
  unfold runSigStepG
  rw [if_neg hname, hk]
  simp only
  rw [hres]
  simp only
  rw [if_pos hw]

theorem runSigStepG_total (hp : FieldPrimes) {p : EcParams} {O : SigOracle}
    {st0 : SigState XTable} {sarts : List SigArt} (hwf : SigWF p O st0 sarts)
    (j : Nat) (c : CheckSpec) (hj : ecdsaAll[j]? = some c) (st : SigState XTable) (hi : TotInv st) :
    ∃ out st', runSigStepG listImpl p O (sarts.map SigArt.art) (sarts.map SigArt.sig) c j st =
      .ok (out, st') ∧ TotInv st' := by
  obtain ⟨hF, hcur, htab⟩ := hi
  cases hiss : c.issuer with
  | true =>
    obtain ⟨hname, _⟩ := (ecdsaAll_flags c (List.mem_of_getElem? hj)).2 hiss
    obtain ⟨rows, sts', hrows, hst'⟩ := ecRowsG_total hp p (O.floats j) st.tables _
      (hwf.inner j c hj hiss st.tables htab)
    refine ⟨.inner rows, ⟨sts', st.factory⟩, ?_, hF, hcur, hst'⟩
    unfold runSigStepG
    rw [if_pos hname, if_pos hiss, hrows]
  | false =>
    obtain ⟨k, res, _, _, hrun, hF', hcur'⟩ := nonceStep_total (p := p) hj hiss hF hcur
      (fun k hk => hwf.uniq j c k hj hk) hwf.sInv
    exact ⟨_, _, hrun, hF', hcur', htab⟩

/-- the registered checks one after another: what every step preserves (`Inv`) holds at the end, and
what every step establishes about its output (`R`) holds of every output. -/
theorem sigStepsG_of_step {p : EcParams} {O : SigOracle} {arts : List Artifact}
    {sigs : List EcdsaChecks.Sig} {Inv : SigState XTable → Prop}
    {R : CheckSpec × Nat → SigState XTable → StepOut → Prop} :
    ∀ (l : List (CheckSpec × Nat)),
    (∀ cj ∈ l, ∀ st, Inv st → ∃ out st',
      runSigStepG listImpl p O arts sigs cj.1 cj.2 st = .ok (out, st') ∧ Inv st' ∧ R cj st out) →
    ∀ st, Inv st → ∃ outs st', sigStepsG listImpl p O arts sigs l st = .ok (outs, st') ∧ Inv st' ∧
      List.Forall₂ (fun cj out => ∃ sti, Inv sti ∧ R cj sti out) l outs
  | [], _, st, hi => ⟨[], st, rfl, hi, .nil⟩
  | cj :: rest, hl, st, hi => by
    obtain ⟨out, st1, h1, hi1, hr1⟩ := hl cj List.mem_cons_self st hi
    obtain ⟨outs, st2, h2, hi2, hf⟩ := sigStepsG_of_step rest
      (fun x hx => hl x (List.mem_cons_of_mem _ hx)) st1 hi1
    refine ⟨out :: outs, st2, ?_, hi2, .cons ⟨st, hi, hr1⟩ hf⟩
    rw [sigStepsG, h1]
    simp only
    rw [h2]

/-- `CheckAllECDSASigs` returns when its eight checks do, from valid curve objects: the bookkeeping
layer never raises on their verdicts (no factor list is attached). -/
theorem checkAllECDSASigsFull_of_steps {p : EcParams} {O : SigOracle} {st st' : SigState XTable}
    {sarts : List SigArt} {outs : List StepOut} (hF : EcdsaChecks.FactoryOK st.factory)
    (hcur : curvesOf st.factory = curvesOf EcdsaChecks.namedFactory)
    (h : sigStepsG listImpl p O (sarts.map SigArt.art) (sarts.map SigArt.sig) ecdsaAll.zipIdx st =
      .ok (outs, st')) :
    ∃ r, checkAllECDSASigsFull p O st sarts = .ok ⟨r, outs, st'⟩ := by
  have hinv : SigInv st.factory st := ⟨hF, by
    rw [curvesOf_ids hcur]; exact C02S.namedFactory_ids.1, fun cid obj hm => ⟨obj, hm, rfl⟩⟩
  obtain ⟨r, hbk⟩ := checkArtifacts_ok .repaired Consts.libVersion ecAll
    (mkSteps ecdsaAll (sigVerdictAt outs) (sigInnerAt outs))
    (fun s hs => by
      obtain ⟨j, c, _, rfl⟩ := mem_mkSteps hs
      exact ⟨fun i => sigVerdictAt_factors hinv h j i, fun jj k => sigInnerAt_factors outs j jj k⟩)
    (sarts.map SigArt.art)
  refine ⟨r, ?_⟩
  unfold checkAllECDSASigsFull checkAllECDSASigsFullG
  rw [h]
  simp only
  rw [show checkAllECDSASigs .repaired (sigVerdictAt outs) (sigInnerAt outs) (sarts.map SigArt.art) =
    .ok r from hbk]

/-! ### the state of a fresh process -/

theorem statesOK_init : ∀ (f : Factory), StatesOK f (f.map fun _ => StateG.init listImpl)
  | [] => trivial
  | _ :: es => ⟨fun c _ => tableIs_init c, statesOK_init es⟩

theorem forall₂_const {α β} {R : α → β → Prop} (g : α → β) (l : List α) (h : ∀ a ∈ l, R a (g a)) :
    List.Forall₂ R l (l.map g) :=
  List.forall₂_map_right_iff.mpr (List.forall₂_same.mpr h)

/-- `ECWF` with the same float values `(ts, m)` / `sd`, all `≥ 1`, for every curve object; the
condition on the keys in the form a bounded `decide` proves. -/
theorem ecwf_const {p : EcParams} {sts : List EcState} {arts : List Artifact} (ts m sd : Nat)
    (hts : 1 ≤ ts) (hm : 1 ≤ m) (hsd : 1 ≤ sd) (hst : StatesOK ecFactory sts)
    (hpts : ∀ a ∈ arts, ∀ c ∈ factoryGet ecFactory a.curve,
      onCurve c (keyOf a).pt = true ∧ Reduced c (keyOf a).pt) :
    ECWF p ⟨ecFactory.map fun _ => (ts, m), ecFactory.map fun _ => sd⟩ sts arts :=
  ⟨hst, hpts, forall₂_const (fun _ => (ts, m)) ecFactory fun _ _ _ => ⟨hts, hm⟩,
    forall₂_const (fun _ => sd) ecFactory fun _ _ _ => hsd⟩

end Paranoid.EcAll
