/-
Proofs/RngTotal.lean — lemmas for Props/C20Total.lean: which constructor parameters make
`RandomBits` return, raise, or loop for ever (Model/RngTotal.lean).
-/
import ParanoidModel.Model.RngTotal
import ParanoidModel.Proofs.Rng
namespace Paranoid.Rng
open Paranoid

/-! ### TruncLcgRand -/

theorem truncLcg_pos (v : Variant) (k : Nat) (hk : 0 < k) (n : Nat) (seed : Int) :
    truncLcg v (truncLcgInit k) n seed = .ok (truncLcgCore v (truncLcgInit k) n seed) := by
  unfold truncLcg
  rw [if_neg]
  show ¬ (k + 7) / 8 = 0
  omega

theorem truncLcg_zero (v : Variant) (n : Nat) (seed : Int) :
    truncLcg v (truncLcgInit 0) n seed = .error .zeroDivision := by
  unfold truncLcg
  rw [if_pos]
  rfl

/-! ### Mwc -/

theorem bitLength_two_pow (k : Nat) : bitLength (2 ^ k) = k + 1 := by
  unfold bitLength
  rw [if_neg (Nat.ne_of_gt (Nat.two_pow_pos k)), Nat.log2_two_pow]

theorem mwcInit_pow256 (a j : Nat) :
    mwcInit a (256 ^ j) = .ok ⟨a, 256 ^ j, (a : Int) * (256 ^ j : Nat) - 1, 8 * j⟩ := by
  unfold mwcInit
  rw [pow256, bitLength_two_pow]
  rw [if_neg]
  · simp
  · simp only [Nat.add_sub_cancel, Nat.one_shiftLeft, not_or, Decidable.not_not]
    exact ⟨trivial, by omega⟩

/-- the condition of `Mwc.__init__` holds exactly of the powers of 256. -/
theorem mwcCond_iff (b : Nat) :
    (1 <<< (bitLength b - 1) = b ∧ bitLength b % 8 = 1) ↔ ∃ j, b = 256 ^ j := by
  constructor
  · rintro ⟨h1, h2⟩
    have e : 8 * ((bitLength b - 1) / 8) = bitLength b - 1 := by omega
    exact ⟨(bitLength b - 1) / 8, by rw [pow256, e, ← Nat.one_shiftLeft]; exact h1.symm⟩
  · rintro ⟨j, rfl⟩
    rw [pow256, bitLength_two_pow]
    exact ⟨by simp [Nat.one_shiftLeft], by omega⟩

theorem mwcInit_error (a b : Nat) (h : ¬ ∃ j, b = 256 ^ j) : mwcInit a b = .error .valueError := by
  rw [← mwcCond_iff] at h
  rw [mwcInit, if_pos (Decidable.not_and_iff_not_or_not.1 h)]

theorem mwcInit_isOk_iff (a b : Nat) : (∃ p, mwcInit a b = .ok p) ↔ ∃ j, b = 256 ^ j := by
  constructor
  · rintro ⟨p, hp⟩
    by_contra h
    rw [mwcInit_error a b h] at hp
    cases hp
  · rintro ⟨j, rfl⟩
    exact ⟨_, mwcInit_pow256 a j⟩

/-- the boolean the model `entryOk` computes for `Mwc(a, b)`. -/
theorem mwc_entryOk_iff (b : Nat) :
    (decide (1 <<< (bitLength b - 1) = b) && decide (bitLength b % 8 = 1) && decide (b ≠ 1)) = true ↔
      ∃ j, 1 ≤ j ∧ b = 256 ^ j := by
  simp only [Bool.and_eq_true, decide_eq_true_eq, mwcCond_iff]
  constructor
  · rintro ⟨⟨j, rfl⟩, h1⟩
    exact ⟨j, Nat.pos_of_ne_zero fun h0 => h1 (by rw [h0]; rfl), rfl⟩
  · rintro ⟨j, hj, rfl⟩
    exact ⟨⟨j, rfl⟩, Nat.ne_of_gt (Nat.one_lt_pow (by omega) (by decide))⟩

theorem mwc_one (a n : Nat) (seed : Int) :
    ∃ p, mwcInit a 1 = .ok p ∧ mwc p n seed = .error .zeroDivision :=
  ⟨_, mwcInit_pow256 a 0, by unfold mwc; rw [if_pos]; rfl⟩

/-! ### constructor + `RandomBits` on parameters `entryOk` rejects: the raising cases, every `n` -/

theorem run_truncLcg_not_ok (v : Variant) (k n : Nat) (seed : Int) (o : Oracle)
    (hnot : entryOk (.truncLcg k) = false) : run v (.truncLcg k) n seed o = .raises .zeroDivision := by
  have hk : k = 0 := by simpa [entryOk] using hnot
  subst hk
  simp [run, truncLcg_zero, Outcome.ofExcept]

theorem run_mwc_not_ok (v : Variant) (a b n : Nat) (seed : Int) (o : Oracle)
    (hnot : entryOk (.mwc a b) = false) :
    run v (.mwc a b) n seed o =
      if 1 <<< (bitLength b - 1) ≠ b ∨ bitLength b % 8 ≠ 1 then .raises .valueError
      else .raises .zeroDivision := by
  by_cases hc : 1 <<< (bitLength b - 1) ≠ b ∨ bitLength b % 8 ≠ 1
  · rw [if_pos hc]
    have : mwcInit a b = .error .valueError := by unfold mwcInit; rw [if_pos hc]
    simp [run, this]
  · rw [if_neg hc]
    have hb1 : b = 1 := by
      simp only [not_or, Decidable.not_not] at hc
      simp only [entryOk, hc.1, hc.2, decide_true, Bool.true_and, decide_eq_false_iff_not,
        Decidable.not_not] at hnot
      exact hnot
    subst hb1
    obtain ⟨p, hp, hr⟩ := mwc_one a n seed
    simp [run, hp, hr, Outcome.ofExcept]

/-! ### Lehmer: the `while` loop is the `for` loop of the model -/

/-- taking `b` off a positive `m` takes one off `⌈m / b⌉`. -/
theorem ceil_step (m b : Nat) (hm : 0 < m) (hb : 0 < b) :
    (m + b - 1) / b = (m - b + b - 1) / b + 1 := by
  by_cases h : b ≤ m
  · rw [Nat.sub_add_cancel h, ← Nat.add_div_right _ hb, Nat.sub_add_comm hm]
  · rw [Nat.sub_eq_zero_of_le (Nat.le_of_not_le h), Nat.zero_add,
      Nat.div_eq_of_lt (Nat.sub_one_lt (Nat.ne_of_gt hb)), Nat.sub_add_comm hm, Nat.add_div_right _ hb,
      Nat.div_eq_of_lt (by omega)]

/-- the `while` loop of `Lehmer.RandomBits` in closed form: from `ba` it needs `⌈(n - 8·len(ba)) / bits⌉` more
iterations, and appends that many chunks of the model's `for` loop. -/
theorem lehmerWhile_closed (p : LehmerParams) (h8 : p.bits % 8 = 0) (hb : 0 < p.bits) (n : Nat) :
    ∀ (fuel : Nat) (state : Int) (ba : List UInt8),
      lehmerWhile p n fuel state ba =
        if (n - 8 * ba.length + p.bits - 1) / p.bits ≤ fuel then
          some (ba ++ lehmerBytes p ((n - 8 * ba.length + p.bits - 1) / p.bits) state)
        else none
  | 0, state, ba => by
    rw [lehmerWhile]
    by_cases hg : 8 * ba.length < n
    · have : 0 < (n - 8 * ba.length + p.bits - 1) / p.bits := Nat.div_pos (by omega) hb
      rw [if_pos hg, if_neg (Nat.not_le.2 this)]
    · have h0 : n - 8 * ba.length = 0 := by omega
      rw [if_neg hg, h0, Nat.zero_add, Nat.div_eq_of_lt (Nat.sub_one_lt (Nat.ne_of_gt hb)),
        if_pos (Nat.le_refl 0), lehmerBytes, List.append_nil]
  | fuel + 1, state, ba => by
    rw [lehmerWhile]
    by_cases hg : 8 * ba.length < n
    · have e : n - 8 * (ba.length + p.bits / 8) = n - 8 * ba.length - p.bits := by omega
      rw [if_pos hg, lehmerWhile_closed p h8 hb n fuel, List.length_append, toLE_length, e,
        ceil_step (n - 8 * ba.length) p.bits (by omega) hb, lehmerBytes, List.append_assoc]
      by_cases hf : (n - 8 * ba.length - p.bits + p.bits - 1) / p.bits ≤ fuel
      · rw [if_pos hf, if_pos (Nat.succ_le_succ hf)]
      · rw [if_neg hf, if_neg fun h => hf (Nat.le_of_succ_le_succ h)]
    · have h0 : n - 8 * ba.length = 0 := by omega
      rw [if_neg hg, h0, Nat.zero_add, Nat.div_eq_of_lt (Nat.sub_one_lt (Nat.ne_of_gt hb)),
        if_pos (Nat.zero_le _), lehmerBytes, List.append_nil]

/-- for accepted `bits > 0` the `while` loop of `Lehmer.RandomBits` ends after exactly
`⌈n / bits⌉` iterations with the byte string of the model's `for` loop. -/
theorem lehmerWhile_eq_bytes (p : LehmerParams) (h8 : p.bits % 8 = 0) (hb : 0 < p.bits) (n : Nat)
    (state : Int) (fuel : Nat) (hf : (n + p.bits - 1) / p.bits ≤ fuel) :
    lehmerWhile p n fuel state [] = some (lehmerBytes p ((n + p.bits - 1) / p.bits) state) := by
  rw [lehmerWhile_closed p h8 hb n fuel state [], List.length_nil, Nat.mul_zero, Nat.sub_zero, if_pos hf,
    List.nil_append]

/-- `bits = 0`: the loop body appends `b""`, the guard `8 * len(ba) < n` stays true for ever. -/
theorem lehmerWhile_bits_zero (p : LehmerParams) (hb : p.bits = 0) (n : Nat) (hn : 0 < n) :
    ∀ (fuel : Nat) (state : Int), lehmerWhile p n fuel state [] = none
  | 0, state => by
    unfold lehmerWhile
    rw [if_pos (by simpa using hn)]
  | fuel + 1, state => by
    unfold lehmerWhile
    rw [if_pos (by simpa using hn)]
    have : toLE (p.bits / 8) ((((state * p.a) % (p.mod : Int)).toNat <<< p.bits) / p.mod) = [] := by
      rw [hb]; rfl
    rw [this]
    exact lehmerWhile_bits_zero p hb n hn fuel _

/-! ### SubsetSum -/

theorem selBit_some (sel : List UInt8) (i : Nat) (h : i / 8 < sel.length) :
    ∃ b, selBit sel i = some b ∧ ((∀ x ∈ sel, x = 0) → b = false) := by
  unfold selBit
  have hget : sel[i / 8]? = some sel[i / 8] := List.getElem?_eq_getElem h
  rw [hget]
  refine ⟨_, rfl, fun hz => ?_⟩
  have : sel[i / 8] = 0 := hz _ (List.getElem_mem h)
  rw [this]
  simp

theorem subsetSumOf_some (sel : List UInt8) : ∀ (gens : List Nat) (i acc : Nat),
    (gens = [] ∨ (i + gens.length + 7) / 8 ≤ sel.length) →
    ∃ s, subsetSumOf sel gens i acc = some s ∧ acc ≤ s ∧
      ((∀ g ∈ gens, g = 0) → s = acc) ∧ ((∀ x ∈ sel, x = 0) → s = acc)
  | [], i, acc, _ => ⟨acc, rfl, Nat.le_refl _, fun _ => rfl, fun _ => rfl⟩
  | g :: gs, i, acc, h => by
    have hlen : (i + (g :: gs).length + 7) / 8 ≤ sel.length := by
      rcases h with h | h
      · cases h
      · exact h
    simp only [List.length_cons] at hlen
    obtain ⟨b, hb, hbz⟩ := selBit_some sel i (by omega)
    have hrec : gs = [] ∨ (i + 1 + gs.length + 7) / 8 ≤ sel.length := by
      right; have : i + 1 + gs.length = i + (gs.length + 1) := by omega
      rw [this]; exact hlen
    unfold subsetSumOf
    rw [hb]
    cases b with
    | true =>
      obtain ⟨s, hs, hle, hz1, hz2⟩ := subsetSumOf_some sel gs (i + 1) (acc + g) hrec
      refine ⟨s, hs, by omega, fun hg => ?_, fun hx => ?_⟩
      · have hg0 : g = 0 := hg g (List.mem_cons_self)
        rw [hz1 (fun x hx => hg x (List.mem_cons_of_mem _ hx)), hg0]; rfl
      · exact absurd (hbz hx) (by simp)
    | false =>
      obtain ⟨s, hs, hle, hz1, hz2⟩ := subsetSumOf_some sel gs (i + 1) acc hrec
      exact ⟨s, hs, hle, fun hg => hz1 (fun x hx => hg x (List.mem_cons_of_mem _ hx)), hz2⟩

theorem nonzeroSels_cons (gens : List Nat) (sel : List UInt8) (rest : List (List UInt8)) :
    nonzeroSels gens (sel :: rest) =
      (if subsetSumOf sel gens 0 0 = some 0 then 0 else 1) + nonzeroSels gens rest := by
  unfold nonzeroSels
  rw [List.filter_cons]
  by_cases h : subsetSumOf sel gens 0 0 = some 0
  · simp [h]
  · simp [h]; omega

/-- the `while` loop of `SubsetSum.RandomBits` ends within the supplied oracle answers iff they
contain enough non-zero subset sums. -/
theorem subsetSumLoop_isSome_iff (bits : Nat) (h8 : bits % 8 = 0) (n : Nat) (gens : List Nat) :
    ∀ (sels : List (List UInt8)) (ba : List UInt8),
      (∀ sel ∈ sels, (gens.length + 7) / 8 ≤ sel.length) →
      ((subsetSumLoop bits n gens sels ba).isSome ↔ n ≤ 8 * ba.length + bits * nonzeroSels gens sels)
  | [], ba, _ => by
    unfold subsetSumLoop nonzeroSels
    by_cases hg : ba.length * 8 < n
    · rw [if_pos hg]; simp; omega
    · rw [if_neg hg]; simp; omega
  | sel :: rest, ba, hs => by
    have hrest : ∀ s ∈ rest, (gens.length + 7) / 8 ≤ s.length :=
      fun s h => hs s (List.mem_cons_of_mem _ h)
    obtain ⟨s, hsum, -, -, -⟩ := subsetSumOf_some sel gens 0 0
      (Or.inr (by simpa using hs sel List.mem_cons_self))
    unfold subsetSumLoop
    rw [nonzeroSels_cons, hsum]
    by_cases hg : ba.length * 8 < n
    · rw [if_pos hg]
      simp only
      by_cases h0 : s = 0
      · rw [if_pos h0, subsetSumLoop_isSome_iff bits h8 n gens rest ba hrest, h0]
        simp
      · rw [if_neg h0, subsetSumLoop_isSome_iff bits h8 n gens rest _ hrest,
          List.length_append, toLE_length, if_neg (by simpa using h0)]
        have hm : bits * (1 + nonzeroSels gens rest) = bits + bits * nonzeroSels gens rest := by
          rw [Nat.mul_add, Nat.mul_one]
        rw [hm]
        constructor <;> intro h <;> omega
    · rw [if_neg hg]
      simp
      omega

theorem subsetSum_isSome_iff (bits : Nat) (h8 : bits % 8 = 0) (n : Nat) (gens : List Nat)
    (sels : List (List UInt8)) (hs : ∀ sel ∈ sels, (gens.length + 7) / 8 ≤ sel.length) :
    (subsetSum bits n gens sels).isSome ↔ n ≤ bits * nonzeroSels gens sels := by
  have := subsetSumLoop_isSome_iff bits h8 n gens sels [] hs
  unfold subsetSum
  cases hl : subsetSumLoop bits n gens sels [] with
  | none => rw [hl] at this; simpa using this
  | some ba => rw [hl] at this; simpa using this

theorem nonzeroSels_zero_of (gens : List Nat) (sels : List (List UInt8))
    (hs : ∀ sel ∈ sels, (gens.length + 7) / 8 ≤ sel.length)
    (h : (∀ g ∈ gens, g = 0) ∨ ∀ sel ∈ sels, ∀ x ∈ sel, x = 0) : nonzeroSels gens sels = 0 := by
  unfold nonzeroSels
  rw [List.length_eq_zero_iff, List.filter_eq_nil_iff]
  intro sel hsel
  obtain ⟨s, hsum, -, hz1, hz2⟩ := subsetSumOf_some sel gens 0 0
    (Or.inr (by simpa using hs sel hsel))
  rcases h with h | h
  · rw [hsum, hz1 h]; simp
  · rw [hsum, hz2 (h sel hsel)]; simp

end Paranoid.Rng
