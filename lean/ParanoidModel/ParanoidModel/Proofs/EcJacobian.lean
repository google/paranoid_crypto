/-
Proofs/EcJacobian.lean — DoubleJacobian / AddJacobian / JacobianToAffine / AffineToJacobian refine the
group law: `JRep c P A` ("the triple P represents the group element A") is preserved.
-/
import ParanoidModel.Proofs.Ec
namespace Paranoid.Ec
open Paranoid WeierstrassCurve
variable (c : Curve) [hp : Fact (Nat.Prime c.p)]

/-- `JRep c P A`: the Jacobian triple `P` (unreduced Python ints) represents the group element `A`:
either `z == 0` as an integer (and not all coordinates are zero) and `A = 0`, or `z ≢ 0 (mod p)`
and `A` is the nonsingular affine point `(x/z², y/z³)`. -/
def JRep (P : JPt) (A : (W c).Point) : Prop :=
  (P.z = 0 ∧ ¬(P.x = 0 ∧ P.y = 0) ∧ A = 0) ∨
  ((P.z : ZMod c.p) ≠ 0 ∧
    ∃ h : (W c).Nonsingular ((P.x : ZMod c.p) / (P.z : ZMod c.p) ^ 2)
      ((P.y : ZMod c.p) / (P.z : ZMod c.p) ^ 3), A = Affine.Point.some _ _ h)

theorem JRep.z_ne {P : JPt} {A : (W c).Point} (h : JRep c P A) (hz : P.z ≠ 0) :
    (P.z : ZMod c.p) ≠ 0 := by
  rcases h with ⟨h0, _⟩ | ⟨h1, _⟩
  · exact absurd h0 hz
  · exact h1

theorem jrep_infJ : JRep c infJ 0 := Or.inl ⟨rfl, by simp [infJ], rfl⟩

theorem jrep_affineToJ (hc : c.Good) (P : Pt) (hP : onCurve c P = true) :
    JRep c (affineToJ P) (toPoint c P) := by
  cases P with
  | inf => exact jrep_infJ c
  | aff x y =>
    have h := nonsingular_of_onCurve c hc hP
    right
    simp only [affineToJ, Int.cast_one, one_pow, div_one]
    exact ⟨one_ne_zero, h, toPoint_aff c h⟩

/-- the two kinds of representation, the second in terms of the affine coordinates `X = x/z²`,
`Y = y/z³` without division: the form in which the Jacobian formulas are polynomial identities. -/
theorem JRep.cases {P : JPt} {A : (W c).Point} (h : JRep c P A) :
    (P.z = 0 ∧ ¬(P.x = 0 ∧ P.y = 0) ∧ A = 0) ∨
    (P.z ≠ 0 ∧ ∃ (X Y : ZMod c.p) (hns : (W c).Nonsingular X Y), (P.z : ZMod c.p) ≠ 0 ∧
      (P.x : ZMod c.p) = X * (P.z : ZMod c.p) ^ 2 ∧ (P.y : ZMod c.p) = Y * (P.z : ZMod c.p) ^ 3 ∧
      A = Affine.Point.some X Y hns) := by
  rcases h with h | ⟨hzF, hns, rfl⟩
  · exact Or.inl h
  · exact Or.inr ⟨fun h0 => hzF (by rw [h0, Int.cast_zero]), _, _, hns, hzF,
      (div_mul_cancel₀ _ (pow_ne_zero 2 hzF)).symm, (div_mul_cancel₀ _ (pow_ne_zero 3 hzF)).symm, rfl⟩

theorem jrep_of_scaled {P : JPt} {X Y : ZMod c.p} (hz : (P.z : ZMod c.p) ≠ 0)
    (hx : (P.x : ZMod c.p) = X * (P.z : ZMod c.p) ^ 2)
    (hy : (P.y : ZMod c.p) = Y * (P.z : ZMod c.p) ^ 3) (h : (W c).Nonsingular X Y) :
    JRep c P (Affine.Point.some X Y h) := by
  obtain rfl : (P.x : ZMod c.p) / (P.z : ZMod c.p) ^ 2 = X := by
    rw [hx, mul_div_cancel_right₀ _ (pow_ne_zero 2 hz)]
  obtain rfl : (P.y : ZMod c.p) / (P.z : ZMod c.p) ^ 3 = Y := by
    rw [hy, mul_div_cancel_right₀ _ (pow_ne_zero 3 hz)]
  exact Or.inr ⟨hz, h, rfl⟩

theorem jScale_spec {x y z w : Int} {X Y : ZMod c.p} (hw : (z : ZMod c.p) * w = 1)
    (hx : (x : ZMod c.p) = X * (z : ZMod c.p) ^ 2) (hy : (y : ZMod c.p) = Y * (z : ZMod c.p) ^ 3)
    (h : (W c).Nonsingular X Y) :
    onCurve c (jScale c x y w) = true ∧ toPoint c (jScale c x y w) = Affine.Point.some X Y h := by
  refine aff_spec c ?_ ?_ h
  · simp only [cast_red, Int.cast_mul, hx]
    linear_combination (X * ((z : ZMod c.p) * w + 1)) * hw
  · simp only [cast_red, Int.cast_mul, hy]
    linear_combination (Y * (((z : ZMod c.p) * w) ^ 2 + (z : ZMod c.p) * w + 1)) * hw

theorem jToAffine_refines {P : JPt} {A : (W c).Point} (h : JRep c P A) :
    ∃ R, jToAffine c P = .ok R ∧ onCurve c R = true ∧ toPoint c R = A := by
  unfold jToAffine
  obtain ⟨hz, hxy, rfl⟩ | ⟨hz, X, Y, hns, hzF, hx, hy, rfl⟩ := h.cases c
  · rw [if_pos hz, if_neg hxy]; exact ⟨.inf, rfl, rfl, rfl⟩
  · obtain ⟨w, hw, _, _, hwv⟩ := inv_of_ne_zero c hzF
    rw [if_neg hz, hw]
    exact ⟨_, rfl, jScale_spec c (by rw [hwv, mul_inv_cancel₀ hzF]) hx hy hns⟩

/-- a triple that JacobianToAffine converts to an on-curve point is a valid representation of it
(in particular `z == 0` or `z ≢ 0 (mod p)`). -/
theorem jrep_of_jToAffine (hc : c.Good) {P : JPt} {P' : Pt} (h : jToAffine c P = .ok P')
    (hon : onCurve c P' = true) : JRep c P (toPoint c P') := by
  unfold jToAffine at h
  by_cases hz : P.z = 0
  · rw [if_pos hz] at h
    by_cases hxy : P.x = 0 ∧ P.y = 0
    · rw [if_pos hxy] at h; cases h
    · rw [if_neg hxy] at h; cases h
      exact Or.inl ⟨hz, hxy, rfl⟩
  · rw [if_neg hz] at h
    rcases inv_cases c P.z with ⟨hzF, w, hw, _, _, hwv⟩ | ⟨_, he⟩
    · rw [hw] at h
      cases h
      have hzw : (P.z : ZMod c.p) * w = 1 := by rw [hwv, mul_inv_cancel₀ hzF]
      have hns := nonsingular_of_onCurve c hc hon
      rw [jScale, toPoint_aff c hns]
      refine jrep_of_scaled c hzF ?_ ?_ hns
      · simp only [cast_red, Int.cast_mul]
        linear_combination (-(P.x : ZMod c.p) * ((P.z : ZMod c.p) * w + 1)) * hzw
      · simp only [cast_red, Int.cast_mul]
        linear_combination
          (-(P.y : ZMod c.p) * (((P.z : ZMod c.p) * w) ^ 2 + (P.z : ZMod c.p) * w + 1)) * hzw
    · rw [he] at h; cases h

theorem doubleJM_cast (x zsqr : Int) : ((doubleJM c x zsqr : Int) : ZMod c.p) =
    3 * (x : ZMod c.p) ^ 2 + (c.a : ZMod c.p) * (zsqr : ZMod c.p) ^ 2 := by
  unfold doubleJM
  split
  · rename_i ha
    rw [cast_red, ha]; push_cast; ring
  · rw [cast_red]; push_cast; ring

omit hp in
theorem doubleJ_eq (P : JPt) (h : ¬(P.z = 0 ∨ P.y = 0)) : doubleJ c P =
    doubleJOut c P.y P.z (c.red (P.y * P.y)) (c.red (4 * P.x * c.red (P.y * P.y)))
      (doubleJM c P.x (c.red (P.z * P.z))) := by
  unfold doubleJ; rw [if_neg h]

theorem some_add_self_of_Y_eq_zero {X Y : ZMod c.p} (h : (W c).Nonsingular X Y) (hY : Y = 0) :
    Affine.Point.some X Y h + Affine.Point.some X Y h = 0 :=
  Affine.Point.add_self_of_Y_eq (by simp [hY, Affine.negY])

theorem doubleJ_refines (hc : c.Good) {P : JPt} {A : (W c).Point} (h : JRep c P A) :
    JRep c (doubleJ c P) (A + A) := by
  have h2 := two_ne_zero_of_ne_two c hc.two
  obtain ⟨hz, _, rfl⟩ | ⟨hz, X, Y, hns, hzF, hx, hy, rfl⟩ := h.cases c
  · unfold doubleJ; rw [if_pos (Or.inl hz), add_zero]; exact jrep_infJ c
  have hY : (P.y : ZMod c.p) = 0 ↔ Y = 0 := by
    rw [hy, mul_eq_zero, or_iff_left (pow_ne_zero 3 hzF)]
  by_cases hy0 : P.y = 0
  · unfold doubleJ; rw [if_pos (Or.inr hy0)]
    rw [some_add_self_of_Y_eq_zero c hns (hY.mp (by rw [hy0, Int.cast_zero]))]
    exact jrep_infJ c
  rw [doubleJ_eq c P (not_or.mpr ⟨hz, hy0⟩)]
  by_cases hyF : (P.y : ZMod c.p) = 0
  · -- y ≡ 0 (mod p) but y ≠ 0: the formulas give z₃ = 0 and x₃ = m² ≢ 0, since m ≡ 0 would make
    -- the point singular
    rw [some_add_self_of_Y_eq_zero c hns (hY.mp hyF)]
    refine Or.inl ⟨?_, fun hxy => ?_, rfl⟩
    · simp only [doubleJOut]
      rw [red_eq_zero_iff]; push_cast; rw [hyF]; ring
    · have hx2 := hxy.1
      simp only [doubleJOut] at hx2
      rw [red_eq_zero_iff] at hx2
      simp only [Int.cast_sub, Int.cast_mul, doubleJM_cast, cast_red, hyF, hx, Int.cast_ofNat] at hx2
      have hm : (3 * X ^ 2 + (c.a : ZMod c.p)) * (P.z : ZMod c.p) ^ 4 = 0 :=
        pow_eq_zero_iff two_ne_zero |>.mp (by linear_combination hx2)
      have hsing := hns.2
      rw [Affine.evalEval_polynomialX, Affine.evalEval_polynomialY] at hsing
      simp only [W_a₁, W_a₂, W_a₃, W_a₄, hY.mp hyF, mul_zero, zero_mul, add_zero,
        zero_sub, ne_eq, not_true_eq_false, or_false, neg_eq_zero] at hsing
      exact hsing ((mul_eq_zero.mp hm).resolve_right (pow_ne_zero 4 hzF))
  · -- generic tangent with slope `l`, `l · 2Y = 3X² + a`
    have hY0 : Y ≠ 0 := fun h0 => hyF (hY.mpr h0)
    have hne : Y ≠ (W c).negY X Y := by
      simp only [Affine.negY, W_a₁, W_a₃, zero_mul, sub_zero]
      intro he
      exact (mul_ne_zero h2 hY0) (by linear_combination he)
    obtain ⟨l, hl, hsl⟩ : ∃ l, (c.a : ZMod c.p) = l * (2 * Y) - 3 * X ^ 2 ∧ (W c).slope X X Y Y = l := by
      refine ⟨_, ?_, rfl⟩
      have hd : Y - (W c).negY X Y = 2 * Y := by simp only [Affine.negY, W_a₁, W_a₃]; ring
      rw [Affine.slope_of_Y_ne rfl hne, hd, div_mul_cancel₀ _ (mul_ne_zero h2 hY0)]
      simp only [W_a₁, W_a₂, W_a₄]
      ring
    rw [Affine.Point.add_self_of_Y_ne hne]
    apply jrep_of_scaled c
    · simp only [doubleJOut, cast_red]; push_cast
      exact mul_ne_zero (mul_ne_zero h2 hyF) hzF
    · simp only [doubleJOut, cast_red, Int.cast_sub, Int.cast_mul, doubleJM_cast, Int.cast_ofNat,
        Affine.addX, W_a₁, W_a₂, hsl, hx, hy, hl]
      ring
    · simp only [doubleJOut, cast_red, Int.cast_sub, Int.cast_mul, doubleJM_cast, Int.cast_ofNat,
        Affine.addY, Affine.negAddY, Affine.negY, Affine.addX, W_a₁, W_a₂, W_a₃, hsl, hx, hy, hl]
      ring

omit hp in
theorem addJ_eq (P Q : JPt) (h1 : P.z ≠ 0) (h2 : Q.z ≠ 0) : addJ c P Q =
    addJCore c P P.z Q.z
    (c.red (P.x * c.red (Q.z * Q.z))) (c.red (Q.x * c.red (P.z * P.z)))
    (c.red (P.y * Q.z * c.red (Q.z * Q.z))) (c.red (Q.y * P.z * c.red (P.z * P.z))) := by
  unfold addJ; rw [if_neg h1, if_neg h2]

theorem addJ_refines (hc : c.Good) {P Q : JPt} {A B : (W c).Point} (hP : JRep c P A)
    (hQ : JRep c Q B) : JRep c (addJ c P Q) (A + B) := by
  obtain ⟨hz1, _, rfl⟩ | ⟨hz1, X1, Y1, hns1, hzF1, hx1, hy1, rfl⟩ := hP.cases c
  · unfold addJ; rw [if_pos hz1, zero_add]; exact hQ
  obtain ⟨hz2, _, rfl⟩ | ⟨hz2, X2, Y2, hns2, hzF2, hx2, hy2, rfl⟩ := hQ.cases c
  · unfold addJ; rw [if_neg hz1, if_pos hz2, add_zero]; exact hP
  rw [addJ_eq c P Q hz1 hz2]
  -- the cross-multiplied coordinates `u = x·z'²`, `s = y·z'³` are `X`, `Y` scaled by powers of `z1 z2`
  have hZ : (P.z : ZMod c.p) * Q.z ≠ 0 := mul_ne_zero hzF1 hzF2
  have hu1 : ((c.red (P.x * c.red (Q.z * Q.z)) : Int) : ZMod c.p) = X1 * ((P.z : ZMod c.p) * Q.z) ^ 2 := by
    simp only [cast_red, Int.cast_mul, hx1]; ring
  have hu2 : ((c.red (Q.x * c.red (P.z * P.z)) : Int) : ZMod c.p) = X2 * ((P.z : ZMod c.p) * Q.z) ^ 2 := by
    simp only [cast_red, Int.cast_mul, hx2]; ring
  have hs1 : ((c.red (P.y * Q.z * c.red (Q.z * Q.z)) : Int) : ZMod c.p) =
      Y1 * ((P.z : ZMod c.p) * Q.z) ^ 3 := by
    simp only [cast_red, Int.cast_mul, hy1]; ring
  have hs2 : ((c.red (Q.y * P.z * c.red (P.z * P.z)) : Int) : ZMod c.p) =
      Y2 * ((P.z : ZMod c.p) * Q.z) ^ 3 := by
    simp only [cast_red, Int.cast_mul, hy2]; ring
  have hXiff : c.red (P.x * c.red (Q.z * Q.z)) = c.red (Q.x * c.red (P.z * P.z)) ↔ X1 = X2 := by
    rw [← red_cast_inj, hu1, hu2, mul_left_inj' (pow_ne_zero 2 hZ)]
  have hYiff : c.red (P.y * Q.z * c.red (Q.z * Q.z)) = c.red (Q.y * P.z * c.red (P.z * P.z)) ↔
      Y1 = Y2 := by
    rw [← red_cast_inj, hs1, hs2, mul_left_inj' (pow_ne_zero 3 hZ)]
  generalize c.red (P.x * c.red (Q.z * Q.z)) = u1 at hu1 hXiff ⊢
  generalize c.red (Q.x * c.red (P.z * P.z)) = u2 at hu2 hXiff ⊢
  generalize c.red (P.y * Q.z * c.red (Q.z * Q.z)) = s1 at hs1 hYiff ⊢
  generalize c.red (Q.y * P.z * c.red (P.z * P.z)) = s2 at hs2 hYiff ⊢
  unfold addJCore
  by_cases hu : u1 = u2
  · rw [if_pos hu]
    have hX := hXiff.mp hu
    by_cases hs : s1 = s2
    · rw [if_neg (not_not.mpr hs)]
      have := doubleJ_refines c hc hP
      rwa [some_congr c hns1 hX (hYiff.mp hs) hns2] at this ⊢
    · rw [if_pos hs]
      have hY : ¬ Y1 = Y2 := fun h => hs (hYiff.mpr h)
      rw [Affine.Point.add_of_Y_eq hX ((Affine.Y_eq_of_X_eq hns1.1 hns2.1 hX).resolve_left hY)]
      exact jrep_infJ c
  · rw [if_neg hu]
    have hX : ¬ X1 = X2 := fun h => hu (hXiff.mpr h)
    -- chord with slope `l`, `l · (X1 - X2) = Y1 - Y2`
    obtain ⟨l, hl, hsl⟩ : ∃ l, Y2 = Y1 - l * (X1 - X2) ∧ (W c).slope X1 X2 Y1 Y2 = l := by
      refine ⟨_, ?_, rfl⟩
      rw [Affine.slope_of_X_ne hX, div_mul_cancel₀ _ (sub_ne_zero.mpr hX)]; ring
    rw [Affine.Point.add_of_X_ne hX]
    apply jrep_of_scaled c
    · simp only [addJOut, cast_red, Int.cast_sub, Int.cast_mul, hu1, hu2, ← sub_mul]
      exact mul_ne_zero (mul_ne_zero (mul_ne_zero (sub_ne_zero.mpr (Ne.symm hX))
        (pow_ne_zero 2 hZ)) hzF1) hzF2
    · simp only [addJOut, cast_red, Int.cast_sub, Int.cast_mul, Int.cast_ofNat,
        Affine.addX, W_a₁, W_a₂, hsl]
      simp only [hu1, hu2, hs1, hs2, hl]
      ring
    · simp only [addJOut, cast_red, Int.cast_sub, Int.cast_mul, Int.cast_ofNat,
        Affine.addY, Affine.negAddY, Affine.negY, Affine.addX, W_a₁, W_a₂, W_a₃, hsl]
      simp only [hu1, hu2, hs1, hs2, hl]
      ring

end Paranoid.Ec
