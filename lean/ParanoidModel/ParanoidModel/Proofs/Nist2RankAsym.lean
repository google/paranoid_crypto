/-
Proofs/Nist2RankAsym.lean — `RankDistribution.precomputed` is used for EVERY square shape n×n with n ≥ 31
(and k ≤ 5).  For every such n the exact probability P_n(rank = n − i), i = 0 … 5, lies in
[(pre_i − ½)·10⁻⁸, (pre_i + 1)·10⁻⁸): the printed 8-digit value is the exact one rounded or truncated.

p_n(i) = P_n(rank = n − i) satisfies p_{n+1}(i)·(1 − y) = p_n(i)·(1 − x)² with x = 2^−(n+1) ≤ y = 2^(i−n−1), so
per step it changes by a factor between 1 − y and 1/(1 − y), and ∏_{k>31} (1 − 2^i·2^−k) ≥ 1 − 2^i·2^−31
bounds the total change in both directions.
-/
import ParanoidModel.Proofs.Nist2Rank
import Mathlib.Tactic.Positivity
import Mathlib.Algebra.Order.BigOperators.Ring.Finset
namespace Paranoid.Nist

/-- the factor by which the bound `1 − a + d` shrinks per step: 1 − a + d/2 ≤ (1 − a + d)(1 − d/2). -/
theorem drift_factor (a d : ℚ) (hd : 0 ≤ d) (hda : d ≤ a) : 1 - a + d / 2 ≤ (1 - a + d) * (1 - d / 2) := by
  have h : (1 - a + d) * (1 - d / 2) = 1 - a + d / 2 + d * (a - d) / 2 := by ring
  have := mul_nonneg hd (sub_nonneg.mpr hda)
  rw [h]; linarith

/-- with δ_n = D/2^(n+1) and c_n = 1 − D/2^N + D/2^n (so c_N = 1, c_n ≥ 1 − D/2^N and c_{n+1} ≤ c_n·(1 − δ_n)):
a nonnegative sequence that changes per step by a factor between 1 − δ_n and 1/(1 − δ_n) stays between
g(N)·c_n and g(N)/c_n. -/
theorem seq_drift (g : Nat → ℚ) (D : ℚ) (N : Nat) (hD : 0 ≤ D) (hDN : D / 2 ^ N ≤ 1) (hg : ∀ n, 0 ≤ g n)
    (hstep : ∀ n, N ≤ n → g n * (1 - D / 2 ^ (n + 1)) ≤ g (n + 1) ∧ g (n + 1) * (1 - D / 2 ^ (n + 1)) ≤ g n) :
    ∀ n, N ≤ n → g N * (1 - D / 2 ^ N + D / 2 ^ n) ≤ g n ∧ g n * (1 - D / 2 ^ N + D / 2 ^ n) ≤ g N := by
  intro n hn
  induction n, hn using Nat.le_induction with
  | base => simp
  | succ n hn ih =>
    have hd : 0 ≤ D / 2 ^ n := by positivity
    have hle : D / 2 ^ n ≤ D / 2 ^ N :=
      div_le_div_of_nonneg_left hD (by positivity) (pow_le_pow_right₀ (by norm_num) hn)
    have hf := drift_factor _ _ hd hle
    obtain ⟨hs1, hs2⟩ := hstep n hn
    rw [show D / 2 ^ (n + 1) = D / 2 ^ n / 2 by rw [pow_succ, div_div]] at hs1 hs2 ⊢
    constructor
    · calc g N * (1 - D / 2 ^ N + D / 2 ^ n / 2)
          ≤ g N * ((1 - D / 2 ^ N + D / 2 ^ n) * (1 - D / 2 ^ n / 2)) := mul_le_mul_of_nonneg_left hf (hg N)
        _ = g N * (1 - D / 2 ^ N + D / 2 ^ n) * (1 - D / 2 ^ n / 2) := (mul_assoc _ _ _).symm
        _ ≤ g n * (1 - D / 2 ^ n / 2) := mul_le_mul_of_nonneg_right ih.1 (by linarith)
        _ ≤ g (n + 1) := hs1
    · calc g (n + 1) * (1 - D / 2 ^ N + D / 2 ^ n / 2)
          ≤ g (n + 1) * ((1 - D / 2 ^ N + D / 2 ^ n) * (1 - D / 2 ^ n / 2)) :=
            mul_le_mul_of_nonneg_left hf (hg _)
        _ = g (n + 1) * (1 - D / 2 ^ n / 2) * (1 - D / 2 ^ N + D / 2 ^ n) := by ring
        _ ≤ g n * (1 - D / 2 ^ N + D / 2 ^ n) := mul_le_mul_of_nonneg_right hs2 (by linarith)
        _ ≤ g N := ih.2

theorem hprod_pos (n j : Nat) (h : j ≤ n) : 0 < hprod n j := by
  unfold hprod
  apply Finset.prod_pos
  intro i hi
  rw [Finset.mem_range] at hi
  have : (2 : ℚ) ^ i < 2 ^ n := pow_lt_pow_right₀ (by norm_num) (by omega)
  linarith

/-- p_n(i) = P(rank = n − i) for n×n matrices (closed form). -/
def sqP (i n : Nat) : ℚ := hprod n (n - i) ^ 2 / (hprod (n - i) (n - i) * 2 ^ (n * n))

theorem sqP_pos (i n : Nat) : 0 < sqP i n := by
  unfold sqP
  have h1 := hprod_pos n (n - i) (by omega)
  have h2 := hprod_pos (n - i) (n - i) (le_refl _)
  positivity

theorem sqP_succ (i n : Nat) (h : i ≤ n) :
    sqP i (n + 1) * (1 - 2 ^ i / 2 ^ (n + 1)) = sqP i n * (1 - 1 / 2 ^ (n + 1)) ^ 2 := by
  unfold sqP
  have hA := (hprod_pos n (n - i) (by omega)).ne'
  have hB := (hprod_pos (n - i) (n - i) (le_refl _)).ne'
  -- everything in terms of v = 2^i, u = 2^(n−i), N = 2^(n·n)
  have e0 : (2 : ℚ) ^ n = 2 ^ i * 2 ^ (n - i) := by rw [← pow_add, Nat.add_sub_cancel' h]
  have e2 : (2 : ℚ) ^ ((n + 1) * (n + 1)) = 2 ^ (n * n) * (2 * (2 ^ n) ^ 2) := by
    rw [← pow_mul, ← pow_succ', ← pow_add]; congr 1; ring
  have hu1 : (1 : ℚ) ≤ 2 ^ (n - i) := one_le_pow₀ (by norm_num)
  have hv : (2 : ℚ) ^ i ≠ 0 := by positivity
  have hN : (2 : ℚ) ^ (n * n) ≠ 0 := by positivity
  rw [show n + 1 - i = (n - i) + 1 by omega, hprod_shift n (n - i), hprod_shift (n - i) (n - i), e2,
    pow_succ' (2 : ℚ) n, e0, pow_succ' (2 : ℚ) (n - i)]
  generalize hprod n (n - i) = A at *
  generalize hprod (n - i) (n - i) = B at *
  generalize (2 : ℚ) ^ (n - i) = u at *
  generalize (2 : ℚ) ^ i = v at *
  generalize (2 : ℚ) ^ (n * n) = N at *
  have hu : u ≠ 0 := by linarith
  have h2u : 2 * u - 1 ≠ 0 := by linarith
  field_simp

theorem sqP_step (i n : Nat) (h : i ≤ n) :
    sqP i n * (1 - 2 ^ i / 2 ^ (n + 1)) ≤ sqP i (n + 1) ∧ sqP i (n + 1) * (1 - 2 ^ i / 2 ^ (n + 1)) ≤ sqP i n := by
  have hs := sqP_succ i n h
  have hp := sqP_pos i n
  have hx0 : (0 : ℚ) < 1 / 2 ^ (n + 1) := by positivity
  have hxy : (1 : ℚ) / 2 ^ (n + 1) ≤ 2 ^ i / 2 ^ (n + 1) :=
    div_le_div_of_nonneg_right (one_le_pow₀ (by norm_num)) (by positivity)
  have hy : (2 : ℚ) ^ i / 2 ^ (n + 1) ≤ 1 / 2 := by
    rw [div_le_iff₀ (by positivity), pow_succ]
    have : (2 : ℚ) ^ i ≤ 2 ^ n := pow_le_pow_right₀ (by norm_num) h
    linarith
  generalize (2 : ℚ) ^ i / 2 ^ (n + 1) = y at *
  generalize (1 : ℚ) / 2 ^ (n + 1) = x at *
  generalize sqP i (n + 1) = q at *
  generalize sqP i n = p at *
  constructor
  · -- (1 − y)² ≤ (1 − x)²
    have : p * (1 - y) * (1 - y) ≤ q * (1 - y) := by
      rw [hs, mul_assoc, ← pow_two]
      exact mul_le_mul_of_nonneg_left (pow_le_pow_left₀ (by linarith) (by linarith) 2) hp.le
    exact le_of_mul_le_mul_right this (by linarith)
  · rw [hs]
    calc p * (1 - x) ^ 2 ≤ p * 1 := mul_le_mul_of_nonneg_left (pow_le_one₀ (by linarith) (by linarith)) hp.le
      _ = p := mul_one p

/-- both directions of the drift from n = 31 to any n ≥ 31, uniformly in i ≤ 31. -/
theorem sqP_drift (i n : Nat) (hi31 : i ≤ 31) (hn : 31 ≤ n) :
    sqP i 31 * (1 - 2 ^ i / 2 ^ 31) ≤ sqP i n ∧ sqP i n * (1 - 2 ^ i / 2 ^ 31) ≤ sqP i 31 := by
  have hD : (2 : ℚ) ^ i / 2 ^ 31 ≤ 1 := by
    rw [div_le_one (by positivity)]; exact pow_le_pow_right₀ (by norm_num) hi31
  have h0 : (0 : ℚ) ≤ 2 ^ i / 2 ^ n := by positivity
  obtain ⟨hlo, hup⟩ := seq_drift (sqP i) (2 ^ i) 31 (by positivity) hD (fun m => (sqP_pos i m).le)
    (fun m hm => sqP_step i m (by omega)) n hn
  constructor
  · exact le_trans (mul_le_mul_of_nonneg_left (by linarith) (sqP_pos i 31).le) hlo
  · exact le_trans (mul_le_mul_of_nonneg_left (by linarith) (sqP_pos i n).le) hup

/-- `res[n − i]` of `RankDistribution(n, n)` is p_n(i). -/
theorem rankRes_square (n i : Nat) (hi : i ≤ n) : (rankRes n n)[n - i]? = some (sqP i n) := by
  rw [rankRes_formula n n (n - i) (by omega)]
  unfold sqP
  congr 2
  ring

theorem sqP_eq_frac (i n : Nat) (hi : i ≤ n) :
    sqP i n = (rankProbNum n n (n - i) : ℚ) / (rankProbDen n n (n - i) : ℚ) := by
  have h1 := rankRes_square n i hi
  rw [rankRes_frac n n (n - i) (by omega) (by omega)] at h1
  exact (Option.some.inj h1).symm

/-- the 8-digit numerators of `RankDistribution.precomputed` in the current source. -/
theorem rankPrecomputed_digits :
    Paranoid.Consts.Nist.rankPrecomputed.map (fun p => (p.1 * 10 ^ 8 / p.2, p.1 * 10 ^ 8 % p.2)) =
      [(28878809, 0), (57757619, 0), (12835026, 0), (523879, 0), (4657, 0), (10, 0)] := by decide

def preDigits : List Nat := [28878809, 57757619, 12835026, 523879, 4657, 10]

def preDigit (i : Nat) : Nat := preDigits.getD i 0

/-- numeric facts at n = 31 (kernel arithmetic on the exact fraction p = num/den), for i = 0 … 5:
(pre − ½)·10⁻⁸ ≤ p·(1 − 2^i/2^31) and p < (pre + 1)·10⁻⁸·(1 − 2^i/2^31), cleared of denominators. -/
theorem numeric_31 : ∀ i, i < 6 →
    0 < rankProbDen 31 31 (31 - i) ∧
    2 * preDigit i * rankProbDen 31 31 (31 - i) * 2 ^ 31 + 2 * 10 ^ 8 * rankProbNum 31 31 (31 - i) * 2 ^ i ≤
      2 * 10 ^ 8 * rankProbNum 31 31 (31 - i) * 2 ^ 31 + rankProbDen 31 31 (31 - i) * 2 ^ 31 ∧
    10 ^ 8 * rankProbNum 31 31 (31 - i) * 2 ^ 31 + (preDigit i + 1) * rankProbDen 31 31 (31 - i) * 2 ^ i <
      (preDigit i + 1) * rankProbDen 31 31 (31 - i) * 2 ^ 31 := by
  decide +kernel

/-- from the integer comparisons of `numeric_31` to the rational bounds: with p = N/Dn and t = S/T,
(pre − ½)/E ≤ p·(1 − t) and p < (pre + 1)/E·(1 − t). -/
theorem frac_bounds (N Dn pre S T E : ℚ) (hDn : 0 < Dn) (hT : 0 < T) (hE : 0 < E)
    (F1 : 2 * pre * Dn * T + 2 * E * N * S ≤ 2 * E * N * T + Dn * T)
    (F2 : E * N * T + (pre + 1) * Dn * S < (pre + 1) * Dn * T) :
    (pre - 1 / 2) / E ≤ N / Dn * (1 - S / T) ∧ N / Dn < (pre + 1) / E * (1 - S / T) := by
  have e1 : N / Dn * (1 - S / T) = N * (T - S) / (Dn * T) := by field_simp
  have e2 : (pre + 1) / E * (1 - S / T) = (pre + 1) * (T - S) / (E * T) := by field_simp
  rw [e1, e2, div_le_div_iff₀ hE (by positivity), div_lt_div_iff₀ hDn (by positivity)]
  constructor <;> linarith

/-- ★ for EVERY n ≥ 31 and i = 0 … 5: (pre_i − ½)·10⁻⁸ ≤ P_n(rank = n − i) < (pre_i + 1)·10⁻⁸ — the entry
of `precomputed` is the exact probability rounded or truncated to the 8 printed digits. -/
theorem precomputed_all_sizes (n i : Nat) (hn : 31 ≤ n) (hi : i < 6) :
    ((preDigit i : ℚ) - 1 / 2) / 10 ^ 8 ≤ sqP i n ∧ sqP i n < ((preDigit i : ℚ) + 1) / 10 ^ 8 := by
  obtain ⟨hden, hF1, hF2⟩ := numeric_31 i hi
  obtain ⟨hA, hB⟩ := sqP_drift i n (by omega) hn
  have hb := frac_bounds (rankProbNum 31 31 (31 - i)) (rankProbDen 31 31 (31 - i)) (preDigit i) (2 ^ i) (2 ^ 31)
    (10 ^ 8) (by exact_mod_cast hden) (by positivity) (by positivity) (by exact_mod_cast hF1)
    (by exact_mod_cast hF2)
  rw [← sqP_eq_frac i 31 (by omega)] at hb
  have hone : (0 : ℚ) < 1 - 2 ^ i / 2 ^ 31 := by
    rw [sub_pos, div_lt_one (by positivity)]; exact pow_lt_pow_right₀ (by norm_num) (by omega)
  exact ⟨hb.1.trans hA, lt_of_mul_lt_mul_right (lt_of_le_of_lt hB hb.2) hone.le⟩

end Paranoid.Nist
