/-
Proofs/BsgsChecks.lean — the EC validity / weak-curve checks (closed-form criteria, EC half of C06)
and the factory regenerated from `ec_util.CURVE_FACTORY`.
-/
import ParanoidModel.Proofs.Bsgs
import ParanoidModel.Proofs.EcCurves
namespace Paranoid.Bsgs
open Paranoid Paranoid.Ec WeierstrassCurve

/-- `CURVE_FACTORY.items()` as regenerated from /repo (dict order, `None` entries included). -/
def regenFactory : Factory :=
  Consts.ecCurveFactory.map fun e => ⟨e.1, e.2.map Curve.ofTuple⟩

/-- its non-`None` entries are the nine named curves of Proofs/EcCurves.lean under these ids, the
`None` entries are the ten binary-field `CurveType`s. -/
theorem regenFactory_eq : regenFactory =
    [⟨2, some secp256r1⟩, ⟨4, some secp384r1⟩, ⟨1, some secp192r1⟩, ⟨3, some secp224r1⟩,
     ⟨5, some secp521r1⟩, ⟨6, some secp256k1⟩,
     ⟨17, some brainpoolP256r1⟩, ⟨18, some brainpoolP384r1⟩, ⟨19, some brainpoolP512r1⟩,
     ⟨7, none⟩, ⟨8, none⟩, ⟨9, none⟩, ⟨10, none⟩,
     ⟨11, none⟩, ⟨12, none⟩, ⟨13, none⟩, ⟨14, none⟩, ⟨15, none⟩, ⟨16, none⟩] := by
  decide +kernel

theorem regenFactory_nodup : (regenFactory.map (·.id)).Nodup := by
  rw [regenFactory_eq]; decide +kernel

theorem regenFactory_curves : regenFactory.filterMap (·.curve) = namedCurveList := by
  rw [regenFactory_eq]; rfl

theorem regenFactory_named {e : FEntry} {c : Curve} (he : e ∈ regenFactory) (hc : e.curve = some c) :
    c ∈ namedCurveList := regenFactory_curves ▸ List.mem_filterMap.2 ⟨e, he, hc⟩

/-- `0 ≤ x, y < p` and `y² ≡ x³ + a·x + b (mod p)`. -/
def InRangeOnCurve (c : Curve) (x y : Int) : Prop :=
  0 ≤ x ∧ x < c.p ∧ 0 ≤ y ∧ y < c.p ∧ (y * y) % (c.p : Int) = (x * x * x + c.a * x + c.b) % (c.p : Int)

theorem onCurve_iff_congr (c : Curve) (x y : Int) :
    onCurve c (.aff x y) = true ↔ (y * y) % (c.p : Int) = (x * x * x + c.a * x + c.b) % (c.p : Int) := by
  simp only [onCurve, Curve.red, beq_iff_eq]
  rw [show (x * x + c.a) * x + c.b - y * y = (x * x * x + c.a * x + c.b) - y * y by ring]
  rw [← Int.emod_eq_emod_iff_emod_sub_eq_zero]
  exact eq_comm

instance (c : Curve) (x y : Int) : Decidable (InRangeOnCurve c x y) := by
  unfold InRangeOnCurve; infer_instance

/-- cofactor `≤ 1` (all curves of `CURVE_FACTORY`): IsValidPublicKey never raises and is exactly
"coordinates in range and on the curve" — no hypothesis on the curve. -/
theorem isValidPublicKey_cofactor_one (c : Curve) (hh : c.h ≤ 1) (x y : Int) :
    isValidPublicKey c (.aff x y) = .ok (decide (InRangeOnCurve c x y)) := by
  unfold isValidPublicKey
  by_cases hon : onCurve c (.aff x y) = true
  · rw [if_neg (by simpa using hon)]
    simp only
    rw [if_neg (by omega)]
    congr 1
    have := (onCurve_iff_congr c x y).mp hon
    simp only [InRangeOnCurve, this, and_true, decide_eq_decide]
    constructor <;> intro h <;> omega
  · rw [if_pos (by simpa using hon)]
    congr 1
    have : ¬ InRangeOnCurve c x y := fun h => hon ((onCurve_iff_congr c x y).mpr h.2.2.2.2)
    simp [this]

/-- the criterion of CheckValidECKey for one key. -/
def invalidKeySpec (f : Factory) (k : ECKey) : Bool :=
  match factoryGet f k.curveType with
  | none => true
  | some c => !decide (InRangeOnCurve c (k.x : Int) (k.y : Int))

theorem validKeyOne_cofactor_one (f : Factory)
    (hf : ∀ id c, factoryGet f id = some c → c.h ≤ 1) (k : ECKey) :
    validKeyOne f k = .ok (some ⟨invalidKeySpec f k, none⟩) := by
  unfold validKeyOne invalidKeySpec
  cases hg : factoryGet f k.curveType with
  | none => rfl
  | some c =>
    simp only
    rw [ECKey.pt, isValidPublicKey_cofactor_one c (hf _ c hg)]

theorem checkValidECKey_cofactor_one (f : Factory)
    (hf : ∀ id c, factoryGet f id = some c → c.h ≤ 1) (keys : List ECKey) :
    checkValidECKey f keys = .ok (keys.map fun k => some ⟨invalidKeySpec f k, none⟩) := by
  rw [checkValidECKey, forE_eq_mapM]
  exact mapM_eq_map fun k _ => validKeyOne_cofactor_one f hf k

/-- ids of the factory whose curve order has fewer than 224 bits. -/
def weakCurveIds (f : Factory) : List Nat :=
  (f.filter fun e => match e.curve with
    | some c => decide (bitLength c.n < 224)
    | none => false).map (·.id)

theorem regenFactory_bits :
    (regenFactory.filterMap fun e => e.curve.map fun c => (e.id, bitLength c.n)) =
      [(2, 256), (4, 384), (1, 192), (3, 224), (5, 521), (6, 256), (17, 256), (18, 384), (19, 512)] := by
  rw [regenFactory_eq]; decide +kernel

end Paranoid.Bsgs
