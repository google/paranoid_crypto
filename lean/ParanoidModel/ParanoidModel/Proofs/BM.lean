/-
Proofs/BM.lean — lemmas about the executable model Model/BM.lean:

* closed forms: `lfsrCount` / `lfsrCountRepaired` = `Lfsr.cnt`, total `2^n`;
* the simulation invariant `Sim` relating the big-integer registers `sb`, `sc` to the
  carry-less products `[X^k] (C·S)`, `[X^k] (B·S)` of the textbook state, giving
  `bmLength s len = textbookL (bitsOf s len)` for ALL inputs.
-/
import ParanoidModel.Model.BM
import ParanoidModel.Proofs.Lfsr
import ParanoidModel.Proofs.BMBounded
import Mathlib.Algebra.BigOperators.Group.Finset.Basic
import Mathlib.Algebra.BigOperators.Ring.Finset
namespace Paranoid
open Paranoid.Lfsr

theorem lfsrCountRepaired_eq_cnt (n m : Nat) : lfsrCountRepaired n m = cnt n m := by
  have e : ((m : Int) ≤ Int.fdiv n 2) ↔ 2 * m ≤ n := by
    rw [Int.fdiv_eq_ediv_of_nonneg _ (by omega)]; omega
  unfold lfsrCountRepaired
  by_cases hmn : m ≤ n
  · rw [if_neg (by omega)]
    by_cases h0 : m = 0
    · rw [h0, cnt_zero]; rfl
    rw [if_neg (by omega)]
    by_cases h2 : 2 * m ≤ n
    · rw [if_pos (e.2 h2), cnt_low h0 h2, show ((m : Int) - 1).toNat = m - 1 by omega]
    · rw [if_neg (mt e.1 h2), cnt_high (by omega) hmn, show ((n : Int) - m).toNat = n - m by omega]
  · rw [if_pos (by omega), cnt_big (by omega)]

theorem lfsrCount_eq_repaired (n m : Int) (hn : n ≠ 0) : lfsrCount n m = lfsrCountRepaired n m := by
  unfold lfsrCount lfsrCountRepaired
  have : (m < 0 ∨ n ≤ 0 ∨ m > n) ↔ (m < 0 ∨ n < 0 ∨ m > n) := by omega
  simp only [this]

theorem lfsrCount_eq_cnt (n m : Nat) (hn : 1 ≤ n) : lfsrCount n m = cnt n m := by
  rw [lfsrCount_eq_repaired _ _ (by omega), lfsrCountRepaired_eq_cnt]

theorem textbookL_le (s : List Bool) : textbookL s ≤ s.length := (tbInv_run _ _).hL

theorem sum_countP_eq_length {α : Type} (f : α → Nat) (N : Nat) (l : List α)
    (h : ∀ a ∈ l, f a < N) :
    (∑ m ∈ Finset.range N, l.countP fun a => decide (f a = m)) = l.length := by
  induction l with
  | nil => simp
  | cons a l ih =>
    simp only [List.countP_cons, decide_eq_true_eq, Finset.sum_add_distrib, Finset.sum_ite_eq,
      Finset.mem_range, h a List.mem_cons_self, if_true, List.length_cons]
    rw [ih fun b hb => h b (List.mem_cons_of_mem a hb)]

/-- the counts add up to `2^n` because they count all `2^n` sequences, each with `L ≤ n`. -/
theorem cnt_total (n : Nat) : (∑ m ∈ Finset.range (n + 1), cnt n m) = 2 ^ n := by
  simp only [← countL_eq_cnt, countL]
  rw [sum_countP_eq_length textbookL (n + 1) (allSeqs n), length_allSeqs]
  intro s hs
  have := textbookL_le s
  rw [(mem_allSeqs n s).1 hs] at this
  omega

theorem bmDisc_ne_zero_iff (st : BMState) : bmDisc st ≠ 0 ↔ st.sc.testBit st.m = true := by
  unfold bmDisc
  rw [Nat.one_shiftLeft]
  constructor
  · intro h
    by_contra hc
    apply h
    apply Nat.eq_of_testBit_eq
    intro i
    rw [Nat.testBit_and, Nat.testBit_two_pow, Nat.zero_testBit]
    by_cases e : st.m = i
    · subst e; simp at hc; simp [hc]
    · simp [e]
  · intro h h0
    have : (st.sc &&& 2 ^ st.m).testBit st.m = true := by
      rw [Nat.testBit_and, Nat.testBit_two_pow_self, h]; rfl
    rw [h0, Nat.zero_testBit] at this
    exact Bool.noConfusion this

theorem bmLoop_succ (k n : Nat) (st : BMState) :
    bmLoop (k + 1) n st = bmStep (n + k) (bmLoop k n st) := by
  induction k generalizing n st with
  | zero => rfl
  | succ k ih =>
    show bmLoop (k + 1) (n + 1) (bmStep n st) = _
    rw [ih]
    have : n + 1 + k = n + (k + 1) := by omega
    rw [this]
    rfl

theorem conv_one (σ : Nat → Bool) (k : Nat) : conv [true] σ k = σ k := by
  rw [conv_eq_disc (L := 0) rfl (fun i h => coef_one i h) (Nat.zero_le k)]
  simp

/-- Simulation invariant after `n` steps on the sequence `σ`: `sc >> m = (C·S) >> n` and
`sb = (B·S) >> (n + 1 - x)` (bit `j` of a register is the coefficient of `X^(shift + j)` in the
carry-less product; the low `m` bits of `sc` are dead), `deg_c = L`. -/
structure Sim (σ : Nat → Bool) (n : Nat) (bm : BMState) (tb : TB) : Prop where
  deg : bm.degC = tb.L
  sc : ∀ j, bm.sc.testBit (bm.m + j) = conv tb.C σ (n + j)
  sb : ∀ j, bm.sb.testBit j = conv tb.B σ (n + 1 - tb.x + j)

theorem sim_step {σ : Nat → Bool} {n : Nat} {bm : BMState} {tb : TB} (h : Sim σ n bm tb)
    (hi : TBInv σ n tb) : Sim σ (n + 1) (bmStep n bm) (tbStep σ n tb) := by
  have hx := hi.hxL
  have hbit : bm.sc.testBit bm.m = conv tb.C σ n := h.sc 0
  have hsc1 : ∀ j, bm.sc.testBit (bm.m + 1 + j) = conv tb.C σ (n + 1 + j) := fun j => by
    rw [Nat.add_assoc, h.sc, Nat.add_assoc]
  have hsb1 : ∀ j, bm.sb.testBit j = conv tb.B σ (n + 1 + 1 - (tb.x + 1) + j) := fun j => by
    rw [h.sb, Nat.add_sub_add_right]
  have hnew : ∀ j, ((bm.sc >>> (bm.m + 1)).testBit j ^^ bm.sb.testBit j)
      = conv (polyAdd tb.C (polyShift tb.x tb.B)) σ (n + 1 + j) := fun j => by
    rw [Nat.testBit_shiftRight, hsc1, h.sb, conv_update,
      decide_eq_true (show tb.x ≤ n + 1 + j by omega), Bool.true_and,
      show n + 1 + j - tb.x = n + 1 - tb.x + j by omega]
  unfold bmStep tbStep
  rw [disc_eq_conv hi]
  by_cases hd : conv tb.C σ n = true
  · rw [if_pos ((bmDisc_ne_zero_iff bm).2 (hbit.trans hd)), if_pos hd, bmUpdate, h.deg]
    by_cases hl : 2 * tb.L ≤ n
    · rw [if_pos hl, if_pos hl]
      refine ⟨rfl, fun j => ?_, fun j => ?_⟩
      · show (bm.sb ^^^ bm.sc >>> (bm.m + 1)).testBit (0 + j) = _
        rw [Nat.zero_add, Nat.testBit_xor, Bool.xor_comm]
        exact hnew j
      · show (bm.sc >>> (bm.m + 1)).testBit j = conv tb.C σ (n + 1 + j)
        rw [Nat.testBit_shiftRight]
        exact hsc1 j
    · rw [if_neg hl, if_neg hl]
      refine ⟨rfl, fun j => ?_, hsb1⟩
      show (bm.sc >>> (bm.m + 1) ^^^ bm.sb).testBit (0 + j) = _
      rw [Nat.zero_add, Nat.testBit_xor]
      exact hnew j
  · rw [if_neg (fun hne => hd (hbit.symm.trans ((bmDisc_ne_zero_iff bm).1 hne))), if_neg hd]
    exact ⟨h.deg, hsc1, hsb1⟩

theorem sim_run (s n : Nat) : Sim s.testBit n (bmLoop n 0 (bmInit s)) (tbRun s.testBit n) := by
  induction n with
  | zero =>
    show Sim _ 0 (bmInit s) tbInit
    exact ⟨rfl, fun j => by simp [bmInit, tbInit, conv_one],
      fun j => by simp [bmInit, tbInit, conv_one]⟩
  | succ n ih =>
    rw [bmLoop_succ, Nat.zero_add]
    exact sim_step ih (tbInv_run _ n)

theorem bitsOf_length (s len : Nat) : (bitsOf s len).length = len := by simp [bitsOf]

theorem sbit_bitsOf (s len k : Nat) (h : k < len) : sbit (bitsOf s len) k = s.testBit k := by
  simp [sbit, bitsOf, h]

/-- **The native `sb`/`sc` loop computes the textbook Berlekamp–Massey length** — for every
`s` and every `len`, no size bound. -/
theorem bmLength_eq_textbookL (s len : Nat) : bmLength s len = textbookL (bitsOf s len) := by
  unfold bmLength textbookL
  rw [bitsOf_length, (sim_run s len).deg]
  congr 1
  exact (tbRun_congr (fun k hk => sbit_bitsOf s len k hk)).symm

theorem bitsOf_succ (s n : Nat) : bitsOf s (n + 1) = bitsOf s n ++ [s.testBit n] := by
  simp [bitsOf, List.range_succ]

theorem bitsOf_congr {a b n : Nat} (h : ∀ j, j < n → a.testBit j = b.testBit j) :
    bitsOf a n = bitsOf b n := by
  unfold bitsOf
  apply List.map_congr_left
  intro j hj
  exact h j (List.mem_range.1 hj)

theorem bitsOf_low (s n : Nat) (h : s < 2 ^ n) : bitsOf s (n + 1) = bitsOf s n ++ [false] := by
  rw [bitsOf_succ, Nat.testBit_lt_two_pow h]

theorem bitsOf_high (s n : Nat) (h : s < 2 ^ n) :
    bitsOf (2 ^ n + s) (n + 1) = bitsOf s n ++ [true] := by
  rw [bitsOf_succ, Nat.testBit_two_pow_add_eq, Nat.testBit_lt_two_pow h,
    bitsOf_congr (fun j hj => Nat.testBit_two_pow_add_gt hj s)]
  rfl

theorem flatMap_pair_perm {α β : Type} (f g : α → β) (l : List α) :
    (l.flatMap fun a => [f a, g a]).Perm (l.map f ++ l.map g) := by
  induction l with
  | nil => exact List.Perm.refl _
  | cons a l ih =>
    simp only [List.flatMap_cons, List.map_cons, List.cons_append, List.nil_append]
    refine List.Perm.cons _ ?_
    refine (List.Perm.cons _ ih).trans ?_
    exact (List.perm_middle).symm

theorem bitsOf_range_perm (n : Nat) :
    ((List.range (2 ^ n)).map fun s => bitsOf s n).Perm (allSeqs n) := by
  induction n with
  | zero => simp [allSeqs, bitsOf]
  | succ n ih =>
    have e : 2 ^ (n + 1) = 2 ^ n + 2 ^ n := by rw [Nat.pow_succ]; omega
    rw [e, List.range_add, List.map_append, List.map_map, allSeqs]
    refine List.Perm.trans ?_ (flatMap_pair_perm (· ++ [false]) (· ++ [true]) (allSeqs n)).symm
    have h1 : (List.range (2 ^ n)).map (fun s => bitsOf s (n + 1))
        = ((List.range (2 ^ n)).map fun s => bitsOf s n).map (· ++ [false]) := by
      rw [List.map_map]
      apply List.map_congr_left
      intro s hs
      exact bitsOf_low s n (List.mem_range.1 hs)
    have h2 : (List.range (2 ^ n)).map ((fun s => bitsOf s (n + 1)) ∘ fun x => 2 ^ n + x)
        = ((List.range (2 ^ n)).map fun s => bitsOf s n).map (· ++ [true]) := by
      rw [List.map_map]
      apply List.map_congr_left
      intro s hs
      exact bitsOf_high s n (List.mem_range.1 hs)
    rw [h1, h2]
    exact List.Perm.append (ih.map _) (ih.map _)

/-- count theorem for the MODEL: among the `2^n` values `s < 2^n`, exactly `cnt n m` have
`bmLength s n = m`. -/
theorem bmLength_count (n m : Nat) :
    (List.range (2 ^ n)).countP (fun s => decide (bmLength s n = m)) = cnt n m := by
  rw [← countL_eq_cnt, countL, ← (bitsOf_range_perm n).countP_eq, List.countP_map]
  apply List.countP_congr
  intro s _
  simp [bmLength_eq_textbookL]

theorem bmLength_congr {a b len : Nat} (h : ∀ j, j < len → a.testBit j = b.testBit j) :
    bmLength a len = bmLength b len := by
  rw [bmLength_eq_textbookL, bmLength_eq_textbookL, bitsOf_congr h]

theorem bmLength_mod_two_pow {len k : Nat} (h : len ≤ k) (s : Nat) :
    bmLength (s % 2 ^ k) len = bmLength s len :=
  bmLength_congr fun j hj => by
    rw [Nat.testBit_mod_two_pow, decide_eq_true (Nat.lt_of_lt_of_le hj h), Bool.true_and]

theorem lcSize_natCast (len : Nat) : lcSize (len : Int) = ((len + 7) / 8 : Nat) := by
  unfold lcSize
  rw [Int.fdiv_eq_ediv_of_nonneg _ (by omega)]
  omega

theorem linearComplexity_of_fits {s len : Nat} (hlen : len < 2 ^ 31)
    (hs : s < 2 ^ (8 * ((len + 7) / 8))) : linearComplexity s len = .ok (bmLength s len) := by
  unfold linearComplexity
  rw [lcSize_natCast, Int.toNat_natCast, if_neg (by omega), if_neg (by omega), if_neg (by omega),
    if_neg (by omega), Int.toNat_natCast]

theorem bmLength_le (s len : Nat) : bmLength s len ≤ len := by
  have := textbookL_le (bitsOf s len)
  rwa [← bmLength_eq_textbookL, bitsOf_length] at this

/-! ### the Boolean checks of Proofs/BMBounded.lean hold for every bound -/

theorem agreeUpTo_iff (N : Nat) : agreeUpTo N = true ↔ ∀ len s, len ≤ N → s < 2 ^ len →
    bmLength s len = textbookL (bitsOf s len) ∧
      textbookL (bitsOf s len) = shortestLfsr (bitsOf s len) := by
  simp only [agreeUpTo, List.all_eq_true, List.mem_range, Bool.and_eq_true, beq_iff_eq,
    Nat.lt_succ_iff]
  exact ⟨fun h len s hl hs => h len hl s hs, fun h len hl s hs => h len s hl hs⟩

theorem agreeUpTo_eq_true (N : Nat) : agreeUpTo N = true :=
  (agreeUpTo_iff N).2 fun len s _ _ => ⟨bmLength_eq_textbookL s len, textbookL_eq_shortestLfsr _⟩

theorem agreeNativeTextbookUpTo_eq_true (N : Nat) : agreeNativeTextbookUpTo N = true := by
  simp only [agreeNativeTextbookUpTo, List.all_eq_true, beq_iff_eq]
  exact fun len _ s _ => bmLength_eq_textbookL s len

end Paranoid
