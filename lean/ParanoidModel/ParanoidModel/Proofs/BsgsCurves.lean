/-
Proofs/BsgsCurves.lean — what the evaluated parameter check `paramsOK` gives the discrete-log
theorems, the shape of the ExtendedBatchDL multipliers, and their invertibility on the nine named
curves (kernel-evaluated on the constants regenerated from `CURVE_FACTORY`).
-/
import ParanoidModel.Model.Bsgs
import ParanoidModel.Proofs.EcSequence
import ParanoidModel.Proofs.EcCurves
namespace Paranoid.Bsgs
open Paranoid Paranoid.Ec WeierstrassCurve

-- lets `decide +kernel` evaluate `Reduced` (Props/C10Cert.lean, `keysNV_onCurve`)
instance (c : Curve) (P : Pt) : Decidable (Reduced c P) := by
  cases P <;> unfold Reduced <;> infer_instance

/-- hypotheses on the curve object shared by the discrete-log theorems: `p ≠ 2`, non-zero
discriminant, generator on the curve with reduced coordinates. -/
structure ValidCurve (c : Curve) : Prop where
  good : c.Good
  gOn : onCurve c c.g = true
  gRed : Reduced c c.g

def multipliersOKb (c : Curve) : Bool := (extMultipliers c).all fun mu => Int.gcd (mu : Int) c.n == 1

theorem named_multipliersOK : ∀ c ∈ namedCurveList, multipliersOKb c = true := by decide +kernel

end Paranoid.Bsgs
