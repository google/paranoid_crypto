/-
Proofs/BitSeq.lean — helper lemmas for C15 (bit-sequence primitives), split by topic:
  BitSeq/Popcount    bitLength; bitCount = Σ bit i
  BitSeq/Runs        runs = number of maximal constant blocks
  BitSeq/RunsOfOnes  IsRunAnd (`s & s>>1 & … & s>>(k-1)`), longestRunOfOnes, overlappingRunsOfOnes
  BitSeq/Bytes       reverseBits, bits, splitSequence (both paths), scatter
  BitSeq/SubSeq      counting helpers, registers of a bit stream, virtual stream of cyclic windows, subSequences
  BitSeq/Freq        frequencyCount slow path = definition
  BitSeq/FreqFast    frequencyCount fast path = definition (= slow path)
  BitSeq/Rank        GF(2) span of a list of rows; rankSmall: 2^rank = |row span|
  BitSeq/RankLarge   rankLarge never raises, 2^rank = |row span| (= rankSmall)
-/
import ParanoidModel.Proofs.BitSeq.Popcount
import ParanoidModel.Proofs.BitSeq.Runs
import ParanoidModel.Proofs.BitSeq.RunsOfOnes
import ParanoidModel.Proofs.BitSeq.Bytes
import ParanoidModel.Proofs.BitSeq.SubSeq
import ParanoidModel.Proofs.BitSeq.Freq
import ParanoidModel.Proofs.BitSeq.FreqFast
import ParanoidModel.Proofs.BitSeq.Rank
import ParanoidModel.Proofs.BitSeq.RankLarge
