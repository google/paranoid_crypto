/-
Proofs/EcOrder.lean — meaning of the evaluated parameter check `Curve.paramsOK` in the group
(generator of order `n`), and the exact answer of IsValidPublicKey.
-/
import ParanoidModel.Proofs.EcMul
import Mathlib.GroupTheory.OrderOfElement
namespace Paranoid.Ec
open Paranoid WeierstrassCurve
variable (c : Curve) [hp : Fact (Nat.Prime c.p)]

omit hp in
theorem isOkInf_iff (r : Except PyErr Pt) : isOkInf r = true ↔ r = .ok .inf := by
  cases r with
  | error e => simp [isOkInf]
  | ok P => cases P <;> simp [isOkInf]

omit hp in
/-- the evaluated parameter check implies the hypotheses `Curve.Good` of the refinement theorems. -/
theorem good_of_paramsOK (h : c.paramsOK = true) : c.Good := by
  simp only [Curve.paramsOK, Bool.and_eq_true, decide_eq_true_eq] at h
  exact ⟨by omega, h.1.1.1.1.1.1.1.2⟩

/-- what `paramsOK` (evaluated by the kernel on the regenerated constants) means in the group:
the generator is a non-zero point of the nonsingular curve with `n • G = 0`; if `n` is prime its
order is exactly `n`. -/
theorem generator_of_paramsOK (h : c.paramsOK = true) :
    c.Good ∧ onCurve c c.g = true ∧ toPoint c c.g ≠ 0 ∧ c.n • toPoint c c.g = 0 ∧ 0 < c.n ∧
      (Nat.Prime c.n → addOrderOf (toPoint c c.g) = c.n) := by
  have hc := good_of_paramsOK c h
  have h' := h
  simp only [Curve.paramsOK, Bool.and_eq_true, decide_eq_true_eq, isOkInf_iff] at h'
  obtain ⟨⟨⟨⟨⟨⟨⟨⟨⟨⟨⟨_, _⟩, hn1⟩, _⟩, _⟩, _⟩, _⟩, _⟩, _⟩, hG⟩, _⟩, hmul⟩ := h'
  have hne : toPoint c c.g ≠ 0 := fun h => by cases (toPoint_eq_zero_iff c hc hG).mp h
  obtain ⟨R, hR1, _, hR3⟩ := multiply_zsmul c hc c.g c.n hG
  rw [hmul] at hR1
  cases hR1
  rw [toPoint_inf, natCast_zsmul] at hR3
  refine ⟨hc, hG, hne, hR3.symm, by omega, ?_⟩
  intro hn
  have : Fact (Nat.Prime c.n) := ⟨hn⟩
  exact addOrderOf_eq_prime hR3.symm hne

/-- `IsValidPublicKey`: never raises on a valid curve and answers exactly "on the curve, not ∞,
killed by `n` when the cofactor is `> 1`, coordinates in `[0, p-1]`". -/
theorem isValidPublicKey_spec (hc : c.Good) (P : Pt) :
    ∃ b, isValidPublicKey c P = .ok b ∧
      (b = true ↔ onCurve c P = true ∧ P ≠ .inf ∧ (1 < c.h → c.n • toPoint c P = 0) ∧
        ∃ x y, P = .aff x y ∧ 0 ≤ x ∧ x ≤ (c.p : Int) - 1 ∧ 0 ≤ y ∧ y ≤ (c.p : Int) - 1) := by
  unfold isValidPublicKey
  by_cases hon : onCurve c P = true
  · rw [if_neg (by simpa using hon)]
    cases P with
    | inf => exact ⟨false, rfl, by simp⟩
    | aff x y =>
      simp only
      by_cases hh : c.h > 1
      · rw [if_pos hh]
        obtain ⟨R, hR1, hR2, hR3⟩ := multiply_zsmul c hc (.aff x y) c.n hon
        rw [natCast_zsmul] at hR3
        rw [hR1]
        simp only
        by_cases hR : R = .inf
        · subst hR
          rw [toPoint_inf] at hR3
          simp only [ne_eq, not_true_eq_false, ↓reduceIte]
          refine ⟨_, rfl, ?_⟩
          simp only [decide_eq_true_eq, hon, true_and, reduceCtorEq, not_false_eq_true]
          constructor
          · intro h; exact ⟨fun _ => hR3.symm, x, y, rfl, by omega, by omega, by omega, by omega⟩
          · rintro ⟨_, x', y', he, h1, h2, h3, h4⟩; cases he; omega
        · rw [if_pos hR]
          refine ⟨false, rfl, ?_⟩
          simp only [Bool.false_eq_true, false_iff, not_and]
          intro _ _ hord
          exact absurd ((toPoint_eq_zero_iff c hc hR2).mp (hR3.trans (hord hh))) hR
      · rw [if_neg hh]
        refine ⟨_, rfl, ?_⟩
        simp only [decide_eq_true_eq, hon, true_and, reduceCtorEq, not_false_eq_true, ne_eq]
        constructor
        · intro h; exact ⟨fun h' => absurd h' hh, x, y, rfl, by omega, by omega, by omega, by omega⟩
        · rintro ⟨_, x', y', he, h1, h2, h3, h4⟩; cases he; omega
  · rw [if_pos (by simpa using hon)]
    exact ⟨false, rfl, by simp [hon]⟩

end Paranoid.Ec
