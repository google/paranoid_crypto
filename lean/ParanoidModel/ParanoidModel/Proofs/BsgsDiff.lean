/-
Proofs/BsgsDiff.lean — BatchDLOfDifferences: where a recorded relation comes from, and soundness
(C02): every recorded relation `(Q, k)` of key `P` names another key `Q` of the call, `P ≠ Q`, and
`P - Q = k • G`.
-/
import ParanoidModel.Proofs.Bsgs
namespace Paranoid.Bsgs
open Paranoid Paranoid.Ec WeierstrassCurve

/-! ### what the loops may write

The result list is only ever changed by `diffTry`, which writes `(q, dl)` at `i` and `(p, -dl)` at
`j - nOther`, and only when `Multiply(g, dl)` is the difference point. So a property `Inv` of
(position, relation) that holds of these writes holds of every recorded relation; soundness and the
bound on the recorded `k` (Proofs/BsgsDiffExact.lean) are two instances. No curve facts are used
(primality of `p` only to read `BatchAddX` as a map of `Add`). -/

def AllRel (Inv : Nat → Rel → Prop) (res : List (Option Rel)) : Prop :=
  ∀ (k : Nat) (r : Rel), res[k]? = some (some r) → Inv k r

theorem AllRel.set {Inv : Nat → Rel → Prop} {res : List (Option Rel)} (h : AllRel Inv res) {i : Nat}
    {r0 : Rel} (h0 : Inv i r0) : AllRel Inv (res.set i (some r0)) := by
  intro k r hk
  rw [List.getElem?_set] at hk
  split at hk
  · rename_i hik
    split at hk
    · cases hk; exact hik ▸ h0
    · cases hk
  · exact h k r hk

theorem allRel_replicate (Inv : Nat → Rel → Prop) (n : Nat) : AllRel Inv (List.replicate n none) := by
  intro k r hk
  rw [List.getElem?_replicate] at hk
  split at hk <;> cases hk

theorem fmtRel_ok {q : Pt} {dl : Int} {r : Rel} (h : fmtRel q dl = .ok r) :
    q = .aff r.qx r.qy ∧ r.dl = dl := by
  cases q with
  | inf => cases h
  | aff x y => cases h; exact ⟨rfl, rfl⟩

section writes
variable (c : Curve) {Inv : Nat → Rel → Prop}

theorem diffTry_inv {p q diff : Pt} {nOther i j : Nat} {res res' : List (Option Rel)} {dl : Int}
    (h : diffTry c p q diff nOther i j res dl = .ok res') (hres : AllRel Inv res)
    (hw : multiply c c.g dl = .ok diff → (∀ r, fmtRel q dl = .ok r → Inv i r) ∧
      (nOther ≤ j → ∀ r, fmtRel p (-dl) = .ok r → Inv (j - nOther) r)) : AllRel Inv res' := by
  unfold diffTry at h
  split at h
  · cases h
  · rename_i diff2 hm
    split at h
    · rename_i heq
      obtain ⟨w1, w2⟩ := hw (heq ▸ hm)
      split at h
      · cases h
      · rename_i r hr
        split at h
        · rename_i hjn
          split at h
          · cases h
          · rename_i r2 hr2
            cases h
            exact (hres.set (w1 r hr)).set (w2 hjn r2 hr2)
        · cases h; exact hres.set (w1 r hr)
    · cases h; exact hres

/-- the writes of the comparison of `p` with `negate nq` (position `j` of the list compared
against): both candidates `dl = ±table[x]`. -/
def StepWrites (look : Lookup) (p nq : Pt) (nOther i j : Nat) (x : Option Int)
    (Inv : Nat → Rel → Prop) : Prop :=
  ∀ (xv : Int) (v : Nat) (dl : Int) (diff : Pt), x = some xv → look (some xv) = some v →
    (dl = v ∨ dl = -v) → subtract c p (negate c nq) = .ok diff → multiply c c.g dl = .ok diff →
    (∀ r, fmtRel (negate c nq) dl = .ok r → Inv i r) ∧
    (nOther ≤ j → ∀ r, fmtRel p (-dl) = .ok r → Inv (j - nOther) r)

theorem diffStep_inv (look : Lookup) {p nq : Pt} {nOther i j : Nat} {x : Option Int}
    {res res' : List (Option Rel)} (h : diffStep c look p nOther i res j nq x = .ok res')
    (hres : AllRel Inv res) (hw : StepWrites c look p nq nOther i j x Inv) : AllRel Inv res' := by
  unfold diffStep at h
  split at h
  · cases h; exact hres
  · rename_i xv
    split at h
    · cases h; exact hres
    · rename_i v hv
      split at h
      · cases h
      · rename_i diff hd
        split at h
        · cases h
        · rename_i res1 h1
          exact diffTry_inv c h (diffTry_inv c h1 hres (hw xv v _ diff rfl hv (.inl rfl) hd))
            (hw xv v _ diff rfl hv (.inr rfl) hd)

theorem diffScan_inv (look : Lookup) (p : Pt) (nOther i : Nat) :
    ∀ (nqs : List Pt) (xs : List (Option Int)) (j : Nat) (res res' : List (Option Rel)),
    diffScan c look p nOther i nqs xs j res = .ok res' → AllRel Inv res →
    (∀ (k : Nat) (nq : Pt) (x : Option Int), nqs[k]? = some nq → xs[k]? = some x →
      StepWrites c look p nq nOther i (j + k) x Inv) → AllRel Inv res'
  | [], _, _, res, res', h, hres, _ => by simp only [diffScan] at h; cases h; exact hres
  | _ :: _, [], _, res, res', h, hres, _ => by simp only [diffScan] at h; cases h; exact hres
  | nq :: nqs, x :: xs, j, res, res', h, hres, hw => by
    rw [diffScan] at h
    split at h
    · cases h
    · rename_i res1 h1
      refine diffScan_inv look p nOther i nqs xs (j + 1) res1 res' h
        (diffStep_inv c look h1 hres (hw 0 nq x rfl rfl)) fun k nq' x' hk hx => ?_
      rw [Nat.add_right_comm, Nat.add_assoc]
      exact hw (k + 1) nq' x' hk hx

end writes

/-! ### positions: `ps = points[i:]`, `negated = [Negate(q) for q in (other_points + points)[:nOther+i]]` -/

theorem drop_eq_cons {α} {l : List α} {i : Nat} {p : α} {ps : List α} (h : p :: ps = l.drop i) :
    l[i]? = some p ∧ ps = l.drop (i + 1) := by
  have h1 := congrArg List.head? h
  have h2 := congrArg List.tail h
  rw [List.head?_drop] at h1
  rw [List.tail_drop] at h2
  exact ⟨h1.symm, h2⟩

theorem getElem?_take_map {α β} {f : α → β} {L : List α} {n k : Nat} {b : β}
    (h : ((L.take n).map f)[k]? = some b) : ∃ a, L[k]? = some a ∧ b = f a ∧ k < n := by
  rw [List.getElem?_map, List.getElem?_take] at h
  split at h
  · cases hL : L[k]? with
    | none => rw [hL] at h; cases h
    | some a => rw [hL] at h; exact ⟨a, rfl, (Option.some.inj h).symm, ‹_›⟩
  · cases h

theorem take_succ_map {α β} (f : α → β) {L : List α} {n : Nat} {a : α} (h : L[n]? = some a) :
    (L.take (n + 1)).map f = (L.take n).map f ++ [f a] := by
  rw [List.take_add_one, h]; simp

variable {nOther : Nat} {points other : List Pt}

theorem getElem?_L_right (hno : other.length = nOther) (j : Nat) (hj : nOther ≤ j) :
    (other ++ points)[j]? = points[j - nOther]? := by
  rw [List.getElem?_append_right (by omega), hno]

/-- the writes of the whole double loop: every key `p = points[i]` is compared with every key
`Q = L[j]` before it (`L = other_points ++ points`). -/
def PairWrites (c : Curve) (look : Lookup) (nOther : Nat) (points L : List Pt)
    (Inv : Nat → Rel → Prop) : Prop :=
  ∀ (i j : Nat) (p Q : Pt), points[i]? = some p → L[j]? = some Q → j < nOther + i →
    ∀ x, addX c p (negate c Q) = .ok x → StepWrites c look p (negate c Q) nOther i j x Inv

theorem diffOuter_inv (c : Curve) [Fact (Nat.Prime c.p)] {Inv : Nat → Rel → Prop}
    (hno : other.length = nOther) (look : Lookup)
    (hw : PairWrites c look nOther points (other ++ points) Inv) :
    ∀ (ps : List Pt) (i : Nat) (negated : List Pt) (res res' : List (Option Rel)),
    ps = points.drop i →
    negated = ((other ++ points).take (nOther + i)).map (negate c) →
    AllRel Inv res → diffOuter c look nOther ps i negated res = .ok res' → AllRel Inv res'
  | [], _, _, res, res', _, _, hres, h => by cases h; exact hres
  | p :: ps, i, negated, res, res', hps, hneg, hres, h => by
    obtain ⟨hpi, hps'⟩ := drop_eq_cons hps
    rw [diffOuter] at h
    split at h
    · cases h
    · rename_i xs hxs
      split at h
      · cases h
      · rename_i res1 h1
        rw [batchAddX_eq_map] at hxs
        have hx := mapE_ok_iff.mp hxs
        have hLp : (other ++ points)[nOther + i]? = some p := by
          rw [getElem?_L_right hno _ (by omega)]; simpa using hpi
        refine diffOuter_inv c hno look hw ps (i + 1) _ res1 res' hps'
          (by rw [hneg, ← Nat.add_assoc, take_succ_map _ hLp]) ?_ h
        refine diffScan_inv c look p nOther i negated xs 0 res res1 h1 hres fun k nq x hk hxk => ?_
        obtain ⟨nq', hnq', hax⟩ := forall₂_getElem? hx k x hxk
        rw [hk] at hnq'; cases hnq'
        rw [hneg] at hk
        obtain ⟨Q, hQ, rfl, hlt⟩ := getElem?_take_map hk
        rw [Nat.zero_add]
        exact hw i k p Q hpi hQ hlt x hax

/-- a property of the writes (with the dict in use after the table update) holds of every relation a
`BatchDLOfDifferences` call records. -/
theorem batchDLOfDifferencesG_inv {τ} (I : TableImpl τ) (c : Curve) [Fact (Nat.Prime c.p)]
    {Inv : Nat → Rel → Prop}
    {st st' : StateG τ} {points other : List Pt} {maxDiff m : Nat} {res : List (Option Rel)}
    (h : batchDLOfDifferencesG I c st points other maxDiff m = .ok (res, st'))
    (hw : ∀ st1, ensureTableG I c st maxDiff m = .ok st1 →
      PairWrites c (I.get? st1.table) other.length points (other ++ points) Inv) :
    AllRel Inv res := by
  have h' := batchDLOfDifferencesG_ok.mp h
  split at h'
  · rw [h'.1]; exact allRel_replicate _ _
  · exact diffOuter_inv c rfl _ (hw _ h'.1) points 0 _ _ res (by simp) (by simp)
      (allRel_replicate _ _) h'.2

/-! ### soundness -/

section group
variable (c : Curve) [hp : Fact (Nat.Prime c.p)]

/-- key `k` of the call carries relation `r`: `r` names (a representative of) another key `Q` of the
call (`L = other_points ++ points`, position `≠ nOther + k`), `P ≠ Q`, `P - Q = r.dl • G`. -/
def RelOK (nOther : Nat) (points L : List Pt) (k : Nat) (r : Rel) : Prop :=
  ∃ P j Q, points[k]? = some P ∧ L[j]? = some Q ∧ j ≠ nOther + k ∧
    onCurve c (.aff r.qx r.qy) = true ∧ toPoint c (.aff r.qx r.qy) = toPoint c Q ∧
    toPoint c P - toPoint c Q = r.dl • Gp c ∧ toPoint c P ≠ toPoint c Q

/-- `Add(p, nq)[0]` is not `None`: the sum is not the neutral element. -/
theorem addX_some_ne (hc : c.Good) {p nq : Pt} (hp' : onCurve c p = true) (hq : onCurve c nq = true)
    {xv : Int} (h : addX c p nq = .ok (some xv)) : toPoint c p + toPoint c nq ≠ 0 := by
  obtain ⟨R, h1, h2, h3⟩ := add_refines c hc p nq hp' hq
  rw [addX, h1] at h
  simp only at h
  cases R with
  | inf => cases h
  | aff x y =>
    rw [← h3, toPoint_aff c (nonsingular_of_onCurve c hc h2)]
    exact Affine.Point.some_ne_zero _

/-- the writes of one comparison are true relations: `diff` denotes `P - Q`, a candidate is only
recorded when `dl • G` is `diff`, and a non-`None` x-coordinate of `P + (-Q)` means `P ≠ Q`. -/
theorem pairWrites_relOK (hc : c.Good) (hG : onCurve c c.g = true) (hno : other.length = nOther)
    (look : Lookup) (hL : ∀ Q ∈ other ++ points, onCurve c Q = true) :
    PairWrites c look nOther points (other ++ points) (RelOK c nOther points (other ++ points)) := by
  intro i j p Q hpi hQ hj x hx xv v dl diff hxv _ _ hsub hmul
  subst hxv
  have hp' : onCurve c p = true := hL p (List.mem_append_right _ (List.mem_of_getElem? hpi))
  have hQon : onCurve c Q = true := hL Q (List.mem_of_getElem? hQ)
  have hnq := negate_onCurve c Q hQon
  have hq1 := negate_onCurve c _ hnq
  have hq2 : toPoint c (negate c (negate c Q)) = toPoint c Q := by
    rw [negate_refines c hc _ hnq, negate_refines c hc Q hQon, neg_neg]
  have hne : toPoint c p ≠ toPoint c Q := by
    have := addX_some_ne c hc hp' hnq hx
    rw [negate_refines c hc Q hQon] at this
    intro he; apply this; rw [he]; simp
  obtain ⟨D, hD1, _, hD3⟩ := subtract_refines c hc p _ hp' hq1
  rw [hsub] at hD1; cases hD1
  obtain ⟨d2, hd1, _, hd3⟩ := multiply_zsmul c hc c.g dl hG
  rw [hmul] at hd1; cases hd1
  have hrel : toPoint c p - toPoint c Q = dl • Gp c := by rw [← hq2, ← hD3, hd3]
  refine ⟨fun r hr => ?_, fun hjn r hr => ?_⟩
  · obtain ⟨hqr, hrdl⟩ := fmtRel_ok hr
    exact ⟨p, j, Q, hpi, hQ, by omega, hqr ▸ hq1, hqr ▸ hq2, hrdl ▸ hrel, hne⟩
  · obtain ⟨hpr, hrdl⟩ := fmtRel_ok hr
    refine ⟨Q, nOther + i, p, by rw [← getElem?_L_right hno j hjn]; exact hQ,
      by rw [getElem?_L_right hno _ (by omega)]; simpa using hpi, by omega, hpr ▸ hp', by rw [← hpr],
      ?_, fun h => hne h.symm⟩
    rw [hrdl, neg_zsmul, ← hrel, neg_sub]

/-- **BatchDLOfDifferences soundness** (C02), for every state, every `max_diff`, every oracle value:
if all points of the call are on the curve, every recorded relation `(Q, k)` of key `P` names
(a representative of) another key `Q` of the call, `P ≠ Q`, and `P - Q = k • G` — in particular
the mirrored entry `Q - P = (-k) • G` recorded for `Q`, and identical keys never accuse each other. -/
theorem batchDLOfDifferences_sound (hc : c.Good) (hG : onCurve c c.g = true) (st : EcState)
    (points other : List Pt) (hL : ∀ Q ∈ other ++ points, onCurve c Q = true) (maxDiff m : Nat)
    (res : List (Option Rel)) (st' : EcState)
    (h : batchDLOfDifferences c st points other maxDiff m = .ok (res, st')) :
    AllRel (RelOK c other.length points (other ++ points)) res :=
  batchDLOfDifferencesG_inv listImpl c h fun _ _ => pairWrites_relOK c hc hG rfl _ hL

end group
end Paranoid.Bsgs
