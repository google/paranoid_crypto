/-
Proofs/Pollard.lean — powMod correctness and the Pollard p-1 flagging theorem (C05).
-/
import ParanoidModel.Proofs.Factoring
import ParanoidModel.Proofs.Basic
import Mathlib.Data.Nat.Totient
import Mathlib.FieldTheory.Finite.Basic
import Mathlib.Tactic.Ring

namespace Paranoid

theorem powModAux_spec (m : Nat) : ∀ (fuel b e acc : Nat), e < 2 ^ fuel →
    powModAux m fuel b e acc % m = acc * b ^ e % m
  | 0, b, e, acc, h => by
    have : e = 0 := by simpa using h
    subst this
    simp [powModAux]
  | fuel + 1, b, e, acc, h => by
    unfold powModAux
    split
    · rename_i he; subst he; simp
    · rename_i he
      have hlt : e / 2 < 2 ^ fuel := by
        rw [Nat.pow_succ] at h; omega
      rw [powModAux_spec m fuel _ _ _ hlt]
      have hb : (b * b % m) ^ (e / 2) % m = (b * b) ^ (e / 2) % m := by
        rw [Nat.pow_mod, Nat.mod_mod, ← Nat.pow_mod]
      have hdecomp : b ^ e = (b * b) ^ (e / 2) * b ^ (e % 2) := by
        conv_lhs => rw [← Nat.div_add_mod e 2]
        rw [Nat.pow_add, Nat.pow_mul, Nat.pow_two]
      split
      · rename_i h1
        rw [hdecomp, h1, Nat.pow_one]
        rw [Nat.mul_mod, Nat.mod_mod, hb, ← Nat.mul_mod]
        rw [Nat.mul_mod (acc * b), ← Nat.mul_mod]
        congr 1; ring
      · rename_i h1
        have h0 : e % 2 = 0 := by omega
        rw [hdecomp, h0, Nat.pow_zero, Nat.mul_one]
        rw [Nat.mul_mod, hb, ← Nat.mul_mod]

theorem powModAux_lt (m : Nat) (hm : 0 < m) : ∀ (fuel b e acc : Nat), acc < m →
    powModAux m fuel b e acc < m
  | 0, _, _, _, h => by simpa [powModAux] using h
  | fuel + 1, b, e, acc, h => by
    unfold powModAux
    split
    · exact h
    · apply powModAux_lt m hm
      split
      · exact Nat.mod_lt _ hm
      · exact h

theorem powMod_eq (b e m : Nat) (hm : 0 < m) : powMod b e m = b ^ e % m := by
  unfold powMod
  have h1 := powModAux_spec m (bitLength e) (b % m) e (1 % m) (lt_two_pow_bitLength e)
  have h2 := powModAux_lt m hm (bitLength e) (b % m) e (1 % m) (Nat.mod_lt _ hm)
  rw [Nat.mod_eq_of_lt h2] at h1
  rw [h1, Nat.mul_mod, Nat.mod_mod, ← Nat.pow_mod, ← Nat.mul_mod, Nat.one_mul]

/-- Fermat's little theorem in the form used. -/
theorem two_pow_mod_prime {p k : Nat} (hp : p.Prime) (hodd : p % 2 = 1) (hk : (p - 1) ∣ k) :
    2 ^ k % p = 1 := by
  have hcop : Nat.Coprime 2 p := by
    rw [Nat.coprime_comm, Nat.Prime.coprime_iff_not_dvd hp]
    intro h
    have := Nat.le_of_dvd (by omega) h
    have := hp.two_le
    omega
  have h := Nat.ModEq.pow_totient hcop
  rw [Nat.totient_prime hp] at h
  obtain ⟨c, rfl⟩ := hk
  have : 2 ^ ((p - 1) * c) ≡ 1 [MOD p] := by
    rw [Nat.pow_mul]
    have := h.pow c
    simpa using this
  have hp2 := hp.two_le
  unfold Nat.ModEq at this
  rw [this, Nat.mod_eq_of_lt (by omega)]

/-! ### `Pollardpm1` on a semiprime -/

theorem pollardPm1_of_gate {n m gb : Nat} (hn : 0 < n) (h : gb ≤ Nat.gcd (n - 1) m) :
    pollardPm1 n m gb =
      pm1Decide (Int.gcd (((2 ^ ((n - 1) * m) % n : Nat) : Int) - 1) (n : Int)) n := by
  unfold pollardPm1
  rw [if_pos h, powMod_eq _ _ _ hn, powMod_eq _ _ _ hn, ← Nat.pow_mod, ← Nat.pow_mul]

/-- `pq − 1 = (p−1)(q−1) + (p−1) + (q−1)`: a common divisor of `p − 1` and `q − 1` divides it. -/
theorem dvd_mul_sub_one {g p q : Nat} (hp : 1 ≤ p) (hq : 1 ≤ q) (hgp : g ∣ p - 1)
    (hgq : g ∣ q - 1) : g ∣ p * q - 1 := by
  obtain ⟨p', rfl⟩ := Nat.exists_eq_add_of_le' hp
  obtain ⟨q', rfl⟩ := Nat.exists_eq_add_of_le' hq
  rw [Nat.add_sub_cancel] at hgp hgq
  have : (p' + 1) * (q' + 1) - 1 = p' * q' + p' + q' := by
    rw [Nat.sub_eq_iff_eq_add (Nat.mul_pos (by omega) (by omega))]; ring
  rw [this]
  exact Dvd.dvd.add (Dvd.dvd.add (Dvd.dvd.mul_right hgp _) hgp) hgq

theorem mod_eq_one_iff_dvd {b k : Nat} (hk : 1 < k) (hb : 1 ≤ b) : b % k = 1 ↔ k ∣ b - 1 := by
  rw [← Nat.modEq_iff_dvd' hb, Nat.ModEq, Nat.mod_eq_of_lt hk, eq_comm]

theorem gcd_sub_one_prime_mul {p q b : Nat} (hp : p.Prime) (hq : q.Prime) (hpq : p ≠ q)
    (hbp : b % p = 1) :
    Int.gcd ((b : Int) - 1) ((p * q : Nat) : Int) = if b % q = 1 then p * q else p := by
  have hb1 : 1 ≤ b := Nat.pos_of_ne_zero fun h => by rw [h] at hbp; simp at hbp
  obtain ⟨c, hc⟩ := (mod_eq_one_iff_dvd hp.one_lt hb1).mp hbp
  have hq1 : b % q = 1 ↔ q ∣ c := by
    rw [mod_eq_one_iff_dvd hq.one_lt hb1, hc,
      ((Nat.coprime_primes hq hp).mpr hpq.symm).dvd_mul_left]
  rw [← Nat.cast_one, ← Nat.cast_sub hb1, Int.gcd_natCast_natCast, hc, Nat.gcd_mul_left]
  split
  · rw [Nat.gcd_eq_right (hq1.mp ‹_›)]
  · rw [Nat.coprime_comm.mp ((Nat.Prime.coprime_iff_not_dvd hq).mpr (mt hq1.mpr ‹_›)),
      Nat.mul_one]

theorem pm1Decide_mul {p q : Nat} (hp : 2 ≤ p) (hq : 2 ≤ q) :
    pm1Decide p (p * q) = (true, [p, q]) ∧ pm1Decide (p * q) (p * q) = (true, []) := by
  have hlt : p < p * q := (Nat.lt_mul_iff_one_lt_right (by omega)).mpr hq
  constructor
  · unfold pm1Decide splitBy
    rw [if_pos ⟨hp, hlt⟩, Nat.mul_div_cancel_left _ (by omega)]
  · unfold pm1Decide splitBy
    rw [if_neg (fun h => Nat.lt_irrefl _ h.2), if_pos rfl]

/-- `Pollardpm1` on `n = p·q` when `p − 1` and `q − 1` share a factor `g ≥ gcd_bound` of `m` and
`(p − 1) ∣ (n − 1)·m`: Fermat's little theorem makes `p` divide the gcd, which is `n` exactly when
`2^((n−1)m) ≡ 1 (mod q)` too. -/
theorem pollardPm1_semiprime {p q : Nat} (hp : p.Prime) (hq : q.Prime) (hpq : p ≠ q)
    (hpo : p % 2 = 1) {m g gb : Nat} (hgp : g ∣ p - 1) (hgq : g ∣ q - 1) (hgm : g ∣ m)
    (hg : gb ≤ g) (hsm : (p - 1) ∣ (p * q - 1) * m) :
    pollardPm1 (p * q) m gb =
      if 2 ^ ((p * q - 1) * m) % q = 1 then (true, []) else (true, [p, q]) := by
  have hn1 : 0 < p * q - 1 := by
    have := Nat.mul_le_mul hp.two_le hq.two_le
    omega
  have hgate : gb ≤ Nat.gcd (p * q - 1) m :=
    hg.trans (Nat.le_of_dvd (Nat.gcd_pos_of_pos_left _ hn1)
      (Nat.dvd_gcd (dvd_mul_sub_one hp.one_le hq.one_le hgp hgq) hgm))
  have hbp : 2 ^ ((p * q - 1) * m) % (p * q) % p = 1 := by
    rw [Nat.mod_mul_right_mod]; exact two_pow_mod_prime hp hpo hsm
  rw [pollardPm1_of_gate (Nat.mul_pos hp.pos hq.pos) hgate, gcd_sub_one_prime_mul hp hq hpq hbp,
    Nat.mod_mul_left_mod]
  split
  · exact (pm1Decide_mul hp.two_le hq.two_le).2
  · exact (pm1Decide_mul hp.two_le hq.two_le).1

end Paranoid
