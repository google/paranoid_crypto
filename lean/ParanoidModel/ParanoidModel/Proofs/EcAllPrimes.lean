/-
Proofs/EcAllPrimes.lean — the primality hypothesis `FieldPrimes` of the end-to-end EC / ECDSA
theorems (Proofs/EcAll.lean), `hprime` of `C02S.namedFactory_ok` and the premise of
`C10.curve_factory_hyp`, DISCHARGED from the kernel-checked Pratt certificates of
Proofs/PrattCurves.lean (through `named_facts`, Proofs/NamedCurves.lean).  Nothing here is a hypothesis: the statements are about the curve constants
regenerated from `ec_util.CURVE_FACTORY`, so a changed constant breaks the build.
-/
import ParanoidModel.Proofs.EcAll
namespace Paranoid.EcAll
open Paranoid Paranoid.Ec Paranoid.Bsgs

/-- the nine field moduli are prime (Pratt certificates: `named_facts`, Proofs/NamedCurves).  The list
is written out: the statement of `C02CertEx.batchDL_run_sound` holds a `by decide` of membership in it. -/
theorem named_primes : ∀ c ∈ [secp256r1, secp384r1, secp192r1, secp224r1, secp521r1, secp256k1,
    brainpoolP256r1, brainpoolP384r1, brainpoolP512r1], Nat.Prime c.p :=
  fun c hc => (named_facts c hc).2.1

/-- the nine group orders are prime (Pratt certificates: `named_facts`, Proofs/NamedCurves). -/
theorem named_orders_prime : ∀ c ∈ namedCurveList, Nat.Prime c.n :=
  fun c hc => (named_facts c hc).2.2.1

/-- ★ `FieldPrimes` holds: the field modulus of every curve object of the regenerated
`CURVE_FACTORY` is prime. -/
theorem fieldPrimes : FieldPrimes :=
  fun _ he c hc => named_primes c (regenFactory_named he hc)

theorem orderPrimes : ∀ e ∈ ecFactory, ∀ c, e.curve = some c → Nat.Prime c.n :=
  fun _ he c hc => named_orders_prime c (regenFactory_named he hc)

/-- `CurveHyp` (field prime, `paramsOK`, invertible multipliers) for every curve object of the
regenerated factory — no hypothesis. -/
theorem ecFactory_curveHyp : ∀ e ∈ ecFactory, ∀ c, e.curve = some c → CurveHyp c :=
  regenFactory_curveHyp fieldPrimes

theorem curveHyp_of_get {id : Nat} {c : Curve} (h : factoryGet ecFactory id = some c) :
    CurveHyp c := curveHyp_of_factoryGet fieldPrimes h

theorem prime_of_get {id : Nat} {c : Curve} (h : factoryGet ecFactory id = some c) :
    Nat.Prime c.p := (curveHyp_of_get h).prime

theorem orderPrime_of_get {id : Nat} {c : Curve} (h : factoryGet ecFactory id = some c) :
    Nat.Prime c.n := by
  obtain ⟨e, he, _, hcur⟩ := factoryGet_mem h
  exact orderPrimes e he c hcur

end Paranoid.EcAll
