/-
Proofs/Forall2.lean — relations on parallel lists: `List.Forall₂` read by position and by membership;
`Forall₃` / `At₃` for three lists read in parallel (the shape of the hypotheses of the per-curve EC
checks: factory entries, `_table` states, float-oracle values).
-/
import Mathlib.Data.List.Forall2
namespace Paranoid

theorem forall₂_idx {α β} {R : α → β → Prop} {l1 : List α} {l2 : List β}
    (h : List.Forall₂ R l1 l2) :
    ∀ (r : Nat) (a : α), l1[r]? = some a → ∃ b, l2[r]? = some b ∧ R a b := by
  intro r a ha
  obtain ⟨hr, rfl⟩ := List.getElem?_eq_some_iff.1 ha
  have hr' : r < l2.length := h.length_eq ▸ hr
  exact ⟨l2[r], List.getElem?_eq_getElem hr', h.get hr hr'⟩

/-- `forall₂_idx` read from the right-hand list. -/
theorem forall₂_getElem? {α β} {R : α → β → Prop} {l1 : List α} {l2 : List β}
    (h : List.Forall₂ R l1 l2) :
    ∀ (k : Nat) (b : β), l2[k]? = some b → ∃ a, l1[k]? = some a ∧ R a b :=
  forall₂_idx h.flip

theorem forall₂_mem_left {α β} {R : α → β → Prop} {l1 : List α} {l2 : List β}
    (h : List.Forall₂ R l1 l2) {a : α} (ha : a ∈ l1) : ∃ b, b ∈ l2 ∧ R a b := by
  obtain ⟨r, hr⟩ := List.getElem?_of_mem ha
  obtain ⟨b, hb, hab⟩ := forall₂_idx h r a hr
  exact ⟨b, List.mem_of_getElem? hb, hab⟩

theorem forall₂_imp_of_mem {α β} {R S : α → β → Prop} {l1 : List α} {l2 : List β}
    (h : List.Forall₂ R l1 l2) (hi : ∀ a b, a ∈ l1 → R a b → S a b) : List.Forall₂ S l1 l2 := by
  induction h with
  | nil => exact .nil
  | cons hab _ ih =>
    exact .cons (hi _ _ List.mem_cons_self hab) (ih fun a b ha => hi a b (List.mem_cons_of_mem _ ha))

theorem forall₂_true {α β} {l1 : List α} {l2 : List β} (h : l2.length = l1.length) :
    List.Forall₂ (fun _ _ => True) l1 l2 :=
  List.forall₂_iff_zip.mpr ⟨h.symm, fun _ => trivial⟩

theorem forall₂_eq_map {α β} {R : α → β → Prop} {g : α → β} {l : List α} {r : List β}
    (h : List.Forall₂ R l r) (hg : ∀ a ∈ l, ∀ b, R a b → b = g a) : r = l.map g := by
  induction h with
  | nil => rfl
  | cons hab _ ih =>
    rw [List.map_cons, hg _ List.mem_cons_self _ hab, ih fun a ha => hg a (List.mem_cons_of_mem _ ha)]

/-- the three lists have the same length and `R` holds of every triple of entries at one position. -/
def Forall₃ {α β γ : Type} (R : α → β → γ → Prop) : List α → List β → List γ → Prop
  | a :: as, b :: bs, c :: cs => R a b c ∧ Forall₃ R as bs cs
  | [], [], [] => True
  | _, _, _ => False

/-- `a`, `b`, `c` stand at one position of the three lists. -/
def At₃ {α β γ : Type} (as : List α) (bs : List β) (cs : List γ) (a : α) (b : β) (c : γ) : Prop :=
  ∃ i : Nat, as[i]? = some a ∧ bs[i]? = some b ∧ cs[i]? = some c

theorem At₃.cons {α β γ : Type} {as : List α} {bs : List β} {cs : List γ} {a : α} {b : β} {c : γ}
    (h : At₃ as bs cs a b c) (a0 : α) (b0 : β) (c0 : γ) : At₃ (a0 :: as) (b0 :: bs) (c0 :: cs) a b c :=
  let ⟨i, h1, h2, h3⟩ := h
  ⟨i + 1, h1, h2, h3⟩

namespace Forall₃
variable {α β γ : Type} {R S : α → β → γ → Prop}

theorem imp_of_mem : ∀ {as : List α} {bs : List β} {cs : List γ},
    (∀ a b c, a ∈ as → R a b c → S a b c) → Forall₃ R as bs cs → Forall₃ S as bs cs
  | [], [], [], _, _ => trivial
  | _ :: _, _ :: _, _ :: _, h, hr =>
    ⟨h _ _ _ List.mem_cons_self hr.1, imp_of_mem (fun a b c ha => h a b c (List.mem_cons_of_mem _ ha)) hr.2⟩
  | [], [], _ :: _, _, hr => hr.elim
  | [], _ :: _, _, _, hr => hr.elim
  | _ :: _, [], _, _, hr => hr.elim
  | _ :: _, _ :: _, [], _, hr => hr.elim

theorem imp {as : List α} {bs : List β} {cs : List γ} (h : ∀ a b c, R a b c → S a b c)
    (hr : Forall₃ R as bs cs) : Forall₃ S as bs cs := imp_of_mem (fun a b c _ => h a b c) hr

theorem of_forall₂ {A : α → β → Prop} {B : α → γ → Prop} : ∀ {as : List α} {bs : List β} {cs : List γ},
    List.Forall₂ A as bs → List.Forall₂ B as cs → Forall₃ (fun a b c => A a b ∧ B a c) as bs cs
  | _, _, _, .nil, .nil => trivial
  | _, _, _, .cons ha has, .cons hb hbs => ⟨⟨ha, hb⟩, of_forall₂ has hbs⟩

theorem exists_of_mem : ∀ {as : List α} {bs : List β} {cs : List γ}, Forall₃ R as bs cs →
    ∀ a ∈ as, ∃ b c, At₃ as bs cs a b c ∧ R a b c
  | [], _, _, _, _, ha => nomatch ha
  | _ :: _, [], _, hr, _, _ => hr.elim
  | _ :: _, _ :: _, [], hr, _, _ => hr.elim
  | a0 :: _, b0 :: _, c0 :: _, hr, a, ha => by
    rcases List.mem_cons.mp ha with rfl | ha
    · exact ⟨b0, c0, ⟨0, rfl, rfl, rfl⟩, hr.1⟩
    · obtain ⟨b, c, hat, h⟩ := exists_of_mem hr.2 a ha
      exact ⟨b, c, hat.cons _ _ _, h⟩

theorem map (g : α → β) (h : α → γ) :
    ∀ (as : List α), (∀ a ∈ as, R a (g a) (h a)) → Forall₃ R as (as.map g) (as.map h)
  | [], _ => trivial
  | _ :: as, hr => ⟨hr _ List.mem_cons_self, map g h as fun a ha => hr a (List.mem_cons_of_mem _ ha)⟩

end Forall₃

end Paranoid
