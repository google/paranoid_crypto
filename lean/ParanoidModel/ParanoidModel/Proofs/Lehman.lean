/-
Proofs/Lehman.lean — the single Fermat step inside FactorWithGuess (C04), the function that
follows Lehman's method: `ceilSqrt` is the least `a` with `d ≤ a²` (`ceilSqrt_spec`,
`ceilSqrt_eq_iff`); the step on `d = 4XY` succeeds exactly when `(X − Y)² < 2(X + Y) − 1`
(`fermat_one_step`); what `fwgFinish` then hands to `splitBy` (`fwgFinish_of_step`, and
`fwgFinish_mul` for `d = 4uv·PQ`). Lehman's search over the convergents is Proofs/FwgComplete*.lean.
-/
import ParanoidModel.Proofs.Fermat

namespace Paranoid

theorem ceilSqrt_spec (d : Nat) :
    d ≤ ceilSqrt d * ceilSqrt d ∧ ∀ a, d ≤ a * a → ceilSqrt d ≤ a := by
  unfold ceilSqrt isqrt
  have h1 := Nat.sqrt_le d
  have h2 := Nat.lt_succ_sqrt d
  split
  · rename_i hlt
    refine ⟨Nat.le_of_lt h2, fun a ha => ?_⟩
    by_contra hc
    have : a ≤ Nat.sqrt d := by omega
    have := Nat.mul_le_mul this this
    omega
  · rename_i hge
    refine ⟨by omega, fun a ha => ?_⟩
    by_contra hc
    have : a + 1 ≤ Nat.sqrt d := by omega
    have : (a + 1) * (a + 1) ≤ Nat.sqrt d * Nat.sqrt d := Nat.mul_le_mul this this
    have : a * a < (a + 1) * (a + 1) := by nlinarith
    omega

theorem ceilSqrt_eq_iff (d a : Nat) (hd : 0 < d) :
    ceilSqrt d = a ↔ (a - 1) * (a - 1) < d ∧ d ≤ a * a := by
  obtain ⟨h1, h2⟩ := ceilSqrt_spec d
  constructor
  · rintro rfl
    refine ⟨?_, h1⟩
    by_contra hc
    have hle : d ≤ (ceilSqrt d - 1) * (ceilSqrt d - 1) := by omega
    have := h2 _ hle
    have hpos : 0 < ceilSqrt d := by
      by_contra h0
      have : ceilSqrt d = 0 := by omega
      rw [this] at h1; omega
    omega
  · rintro ⟨hl, hr⟩
    have hle := h2 a hr
    by_contra hne
    have : ceilSqrt d ≤ a - 1 := by omega
    have := Nat.mul_le_mul this this
    omega

theorem fermat_one_step (X Y : Nat) (hX : 0 < X) (hY : 0 < Y) :
    ceilSqrt (4 * X * Y) = X + Y ↔
      ((X : Int) - Y) * ((X : Int) - Y) < 2 * ((X : Int) + Y) - 1 := by
  rw [ceilSqrt_eq_iff _ _ (by positivity)]
  have hc : ((X + Y - 1 : Nat) : Int) = (X : Int) + Y - 1 := by omega
  -- `(X+Y−1)² − 4XY = (X−Y)² − (2(X+Y) − 1)`, and `4XY ≤ (X+Y)²` always
  have key : ((X : Int) + Y - 1) * ((X : Int) + Y - 1) - 4 * X * Y =
      ((X : Int) - Y) * ((X : Int) - Y) - (2 * ((X : Int) + Y) - 1) := by ring
  have amgm : ((X : Int) + Y) * ((X : Int) + Y) - 4 * X * Y = ((X : Int) - Y) * ((X : Int) - Y) := by
    ring
  constructor
  · rintro ⟨hl, -⟩
    zify at hl
    rw [hc] at hl
    linarith
  · intro h
    refine ⟨?_, ?_⟩ <;> zify
    · rw [hc]; linarith
    · linarith [mul_self_nonneg ((X : Int) - Y)]

/-- when the step succeeds, `a*a - d` is the square of `|X - Y|`, and `a + b = 2 max X Y`. -/
theorem fwgFinish_of_step (n X Y : Nat) (hX : 0 < X) (hY : 0 < Y)
    (h : ((X : Int) - Y) * ((X : Int) - Y) < 2 * ((X : Int) + Y) - 1) :
    fwgFinish n (ceilSqrt (4 * X * Y)) (4 * X * Y) = splitBy (Nat.gcd (2 * max X Y) n) n := by
  rw [(fermat_one_step X Y hX hY).mpr h]
  -- with `k = |X − Y|`: `(X+Y)² − 4XY = k²` and `X + Y + k = 2·max X Y`
  obtain ⟨k, hk1, hk2⟩ : ∃ k, (X + Y) * (X + Y) - 4 * X * Y = k * k ∧ X + Y + k = 2 * max X Y := by
    rcases Nat.le_total X Y with hle | hle <;> obtain ⟨k, rfl⟩ := Nat.exists_eq_add_of_le hle
    · exact ⟨k, by rw [show (X + (X + k)) * (X + (X + k)) = 4 * X * (X + k) + k * k by ring]; simp,
        by rw [Nat.max_eq_right hle]; omega⟩
    · exact ⟨k, by rw [show (Y + k + Y) * (Y + k + Y) = 4 * (Y + k) * Y + k * k by ring]; simp,
        by rw [Nat.max_eq_left hle]; omega⟩
  unfold fwgFinish
  rw [hk1, if_pos (by rw [isSquare_iff, Nat.sqrt_eq]), isqrt, Nat.sqrt_eq, hk2]

/-- the same for `d = 4uv·PQ = 4(uQ)(vP)`: the candidate handed to `splitBy` is `gcd(2u, P)·Q` or
`gcd(2v, Q)·P`. -/
theorem fwgFinish_mul (P Q u v : Nat) (hX : 0 < u * Q) (hY : 0 < v * P)
    (h : (((u * Q : Nat) : Int) - (v * P : Nat)) * (((u * Q : Nat) : Int) - (v * P : Nat))
      < 2 * (((u * Q : Nat) : Int) + (v * P : Nat)) - 1) :
    fwgFinish (P * Q) (ceilSqrt (4 * u * v * (P * Q))) (4 * u * v * (P * Q)) =
      splitBy (if v * P ≤ u * Q then Nat.gcd (2 * u) P * Q else Nat.gcd (2 * v) Q * P) (P * Q) := by
  rw [show 4 * u * v * (P * Q) = 4 * (u * Q) * (v * P) by ring, fwgFinish_of_step _ _ _ hX hY h]
  split
  · rename_i hle
    rw [Nat.max_eq_left hle, show 2 * (u * Q) = 2 * u * Q by ring, Nat.gcd_mul_right]
  · rename_i hle
    rw [Nat.max_eq_right (Nat.le_of_not_le hle), show 2 * (v * P) = 2 * v * P by ring,
      Nat.mul_comm P Q, Nat.gcd_mul_right]

/-- for `q = p + D + g` (`D = 2k` even) the guess is in `[q − g, q]`. -/
theorem FwgC.sudGuess_near (p k g : Nat) :
    p + 2 * k ≤ sudGuess (p * (p + 2 * k + g)) (2 * k) ∧
      sudGuess (p * (p + 2 * k + g)) (2 * k) ≤ p + 2 * k + g := by
  unfold sudGuess isqrt
  rw [Nat.mul_div_cancel_left _ (by omega : 0 < 2)]
  have e : p * (p + 2 * k + g) + k ^ 2 = (p + k) * (p + k) + p * g := by ring
  rw [e]
  have h1 : p + k ≤ Nat.sqrt ((p + k) * (p + k) + p * g) := by
    rw [Nat.le_sqrt]; omega
  have h2 : Nat.sqrt ((p + k) * (p + k) + p * g) < p + k + g + 1 := by
    rw [Nat.sqrt_lt]
    have : (p + k + g + 1) * (p + k + g + 1)
        = (p + k) * (p + k) + p * g + (p * g + 2 * k * g + g * g + 2 * (p + k + g) + 1) := by ring
    omega
  omega

end Paranoid
