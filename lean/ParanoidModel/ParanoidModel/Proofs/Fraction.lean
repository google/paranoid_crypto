/-
Proofs/Fraction.lean — completeness side of CheckFraction given a good LLL row (C05).
-/
import ParanoidModel.Proofs.Fermat

namespace Paranoid

/-- value tested for a basis row `[cx, v1, …]`: `ax*w + cx` with `ax = -v1`. -/
def rowValue (w : Nat) (cx v1 : Int) : Int := (-v1) * w + cx

theorem gcd_semiprime_cases {p q : Nat} (hp : p.Prime) (hq : q.Prime) (z : Int) :
    Int.gcd z ((p * q : Nat) : Int) = 1 ∨ Int.gcd z ((p * q : Nat) : Int) = p ∨
    Int.gcd z ((p * q : Nat) : Int) = q ∨ Int.gcd z ((p * q : Nat) : Int) = p * q :=
  dvd_prime_mul_prime hp hq (intGcd_dvd_right_nat z (p * q))

/-- whatever the row, the split it yields is none or the two primes. -/
theorem splitBy_gcd_semiprime {p q : Nat} (hp : p.Prime) (hq : q.Prime) (z : Int) :
    splitBy (Int.gcd z ((p * q : Nat) : Int)) (p * q) = none ∨
    splitBy (Int.gcd z ((p * q : Nat) : Int)) (p * q) = some [p, q] ∨
    splitBy (Int.gcd z ((p * q : Nat) : Int)) (p * q) = some [q, p] := by
  cases h : splitBy (Int.gcd z ((p * q : Nat) : Int)) (p * q) with
  | none => exact Or.inl rfl
  | some fs =>
    exact Or.inr ((FwgC.properSplit_primes hp hq
      (splitBy_sound _ _ _ (intGcd_dvd_right_nat z (p * q)) h)).imp (congrArg some) (congrArg some))

/-- a value divisible by `p` and not by `q` has `gcd(z, pq) = p`, which splits. -/
theorem splitBy_gcd_ne_none {p q : Nat} (hp : p.Prime) (hq : q.Prime) (hpq : p ≠ q) {z : Int}
    (hpd : (p : Int) ∣ z) (hqd : ¬ (q : Int) ∣ z) :
    splitBy (Int.gcd z ((p * q : Nat) : Int)) (p * q) ≠ none := by
  have hpg : p ∣ Int.gcd z ((p * q : Nat) : Int) :=
    Int.natCast_dvd_natCast.mp (Int.dvd_coe_gcd hpd (by push_cast; exact Dvd.intro _ rfl))
  have hg : Int.gcd z ((p * q : Nat) : Int) = p := by
    rcases gcd_semiprime_cases hp hq z with h | h | h | h
    · rw [h] at hpg; exact absurd (Nat.le_of_dvd Nat.one_pos hpg) (by have := hp.two_le; omega)
    · exact h
    · rw [h] at hpg; exact absurd ((Nat.prime_dvd_prime_iff_eq hp hq).mp hpg) hpq
    · have hd := Int.gcd_dvd_left z ((p * q : Nat) : Int)
      rw [h] at hd
      exact absurd (Dvd.dvd.trans (by push_cast; exact Dvd.intro_left _ rfl) hd) hqd
  rw [hg, splitBy, if_pos ⟨hp.one_lt, (Nat.lt_mul_iff_one_lt_right hp.pos).2 hq.one_lt⟩]
  exact Option.some_ne_none _

/-- if some row of the basis has a value divisible by `p` but not by `q`, the loop returns
both primes (whatever the other rows are, as long as each has at least two entries). -/
theorem checkFractionLoop_complete {p q : Nat} (hp : p.Prime) (hq : q.Prime) (hpq : p ≠ q)
    (w : Nat) : ∀ (basis : List (List Int)),
    (∀ row ∈ basis, 2 ≤ row.length) →
    (∃ cx v1 rest, (cx :: v1 :: rest) ∈ basis ∧ (p : Int) ∣ rowValue w cx v1 ∧
        ¬ (q : Int) ∣ rowValue w cx v1) →
    checkFractionLoop (p * q) w basis = .ok [p, q] ∨
      checkFractionLoop (p * q) w basis = .ok [q, p]
  | [], _, ⟨_, _, _, hmem, _⟩ => by simp at hmem
  | row :: rest, hlen, ⟨cx, v1, tl, hmem, hpd, hqd⟩ => by
    match row, hlen row (List.mem_cons_self ..), hmem with
    | a :: b :: tl', _, hmem =>
      unfold checkFractionLoop
      simp only
      rcases splitBy_gcd_semiprime hp hq ((-b) * (w : Int) + a) with h | h | h <;> rw [h]
      · -- no split: this is not the good row, which is therefore further down
        refine checkFractionLoop_complete hp hq hpq w rest
          (fun r hr => hlen r (List.mem_cons_of_mem _ hr)) ⟨cx, v1, tl, ?_, hpd, hqd⟩
        rcases List.mem_cons.mp hmem with heq | hin
        · injection heq with h1 h2
          injection h2 with h2 _
          subst h1 h2
          exact absurd h (splitBy_gcd_ne_none hp hq hpq hpd hqd)
        · exact hin
      · exact Or.inl rfl
      · exact Or.inr rfl

end Paranoid
