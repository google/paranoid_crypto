/-
Proofs/FwgCompleteFamilies.lean — the two guess-based families of C04 reach the completeness
theorem of `FactorWithGuess` (Proofs/FwgCompleteLoop.lean):

  * `CheckSmallUpperDifferences`: for `q = p + D + g` the guess `isqrt(n + (D/2)²) + D/2`
    lies in `[q − g, q]` (`sudGuess_near`, Proofs/Lehman.lean), and the loop over the six
    differences returns the first factorisation found (`sudLoop_complete`);
  * `CheckUnseededRand`: the loop over the candidate values returns the first factorisation found
    (`unseededLoop_complete`).
-/
import ParanoidModel.Proofs.FwgCompleteSized
import ParanoidModel.Proofs.Totality
import ParanoidModel.Proofs.Basic
import ParanoidModel.Model.RsaChecks

namespace Paranoid.FwgC
open Paranoid

/-- the cube-root oracle is usable: `bound = cbrt << shift` is within
`[n^(1/3) / 2, 1.717·n^(1/3)]`.  (The real float expression is within `1 ± 2^-40` of the
cube root: harness `c04.py`, tag `cbrt-oracle`.) -/
def CbrtOK (n cbrt : Nat) : Prop :=
  n ≤ 8 * (cbrt <<< fwgShift n) ^ 3 ∧ 16 * (cbrt <<< fwgShift n) ^ 3 ≤ 81 * n

instance (n cbrt : Nat) : Decidable (CbrtOK n cbrt) := by unfold CbrtOK; infer_instance

theorem fwg_complete_sized (L P Q A E cbrt : Nat)
    (hP1 : 2 ^ (L - 1) ≤ P) (hP2 : P < 2 ^ L) (hQ1 : 2 ^ (L - 1) ≤ Q) (hQ2 : Q < 2 ^ L)
    (hET : (E + 2) ^ 2 * 2 ^ 12 ≤ 2 ^ (L / 2))
    (hE1 : A ≤ P + E) (hE2 : P ≤ A + E) (horc : CbrtOK (P * Q) cbrt) :
    ∃ fs, factorWithGuess (P * Q) A cbrt = .ok (some fs) ∧ ProperSplit (P * Q) fs := by
  obtain ⟨hh, hTB⟩ := hyp_of_sizes L P Q A E (cbrt <<< fwgShift (P * Q)) hP1 hP2 hQ1 hQ2 hET
    (by omega) (by omega) horc.1 horc.2
  exact factorWithGuess_complete cbrt hh hTB

/-- a successful `FactorWithGuess` returns a non-empty list (which is what the two loops test). -/
theorem factorWithGuess_cons {n x cbrt : Nat} {fs : List Nat}
    (h : factorWithGuess n x cbrt = .ok (some fs)) : ∃ f fs', fs = f :: fs' := by
  obtain ⟨g, rfl, -⟩ := factorWithGuess_sound _ _ _ _ h
  exact ⟨_, _, rfl⟩

theorem sudLoop_complete (n cbrt : Nat) (hn : 0 < n) (D : Nat) (fs : List Nat)
    (hD : factorWithGuess n (sudGuess n D) cbrt = .ok (some fs)) :
    ∀ (l : List Nat), D ∈ l → ∃ fs', sudLoop n cbrt l = .ok (some fs') ∧ ProperSplit n fs'
  | [], hm => by simp at hm
  | d :: rest, hm => by
    unfold sudLoop
    by_cases hd : d = D
    · obtain ⟨f, fs', rfl⟩ := factorWithGuess_cons hD
      simp only [bind, Except.bind, hd, hD]
      exact ⟨_, rfl, factorWithGuess_sound _ _ _ _ hD⟩
    · have ih := sudLoop_complete n cbrt hn D fs hD rest
        ((List.mem_cons.mp hm).resolve_left (Ne.symm hd))
      obtain ⟨r, hr⟩ := factorWithGuess_ok n (sudGuess n d) cbrt (sudGuess_pos n d hn)
      simp only [bind, Except.bind, hr]
      rcases r with _ | _ | ⟨f, fs'⟩
      · exact ih
      · exact ih
      · exact ⟨_, rfl, factorWithGuess_sound _ _ _ _ hr⟩

theorem primeSize_eq (L P Q : Nat) (hL : 1 ≤ L)
    (hP1 : 2 ^ (L - 1) ≤ P) (hP2 : P < 2 ^ L) (hQ1 : 2 ^ (L - 1) ≤ Q) (hQ2 : Q < 2 ^ L) :
    (bitLength (P * Q) + 1) / 2 = L := by
  have hhi : P * Q < 2 ^ (2 * L) := by
    have : 2 ^ (2 * L) = 2 ^ L * 2 ^ L := by rw [← pow_add]; congr 1; omega
    rw [this]; exact Nat.mul_lt_mul'' hP2 hQ2
  have h1 : bitLength (P * Q) ≤ 2 * L := (bitLength_le_iff _ _).mpr hhi
  have h2 := bitLength_mul_ge hP1 hQ1
  omega

/-- the loop over the candidates returns a factorisation as soon as one candidate works
(no candidate is 0: `n // 0` would raise). -/
theorem unseededLoop_complete (n cbrt : Nat) (x : Nat) (fs : List Nat)
    (hx : factorWithGuess n x cbrt = .ok (some fs)) :
    ∀ (l : List Nat), (∀ c ∈ l, c ≠ 0) → x ∈ l →
      ∃ fs', unseededLoop n cbrt l = .ok ⟨true, fs', false⟩ ∧ ProperSplit n fs'
  | [], _, hm => by simp at hm
  | c :: rest, hnz, hm => by
    unfold unseededLoop
    by_cases hc : c = x
    · obtain ⟨f, fs', rfl⟩ := factorWithGuess_cons hx
      rw [hc, hx]
      exact ⟨_, rfl, factorWithGuess_sound _ _ _ _ hx⟩
    · have ih := unseededLoop_complete n cbrt x fs hx rest
        (fun c hc => hnz c (List.mem_cons_of_mem _ hc))
        ((List.mem_cons.mp hm).resolve_left (Ne.symm hc))
      obtain ⟨r, hr⟩ := factorWithGuess_ok n c cbrt (hnz c (List.mem_cons_self ..))
      rw [hr]
      rcases r with _ | _ | ⟨f, fs'⟩
      · exact ih
      · exact ih
      · exact ⟨_, rfl, factorWithGuess_sound _ _ _ _ hr⟩

end Paranoid.FwgC
