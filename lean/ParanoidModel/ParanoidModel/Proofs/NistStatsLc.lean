/-
Proofs/NistStatsLc.lean — helper lemmas for Props/C12Stats.lean, NIST 2.10 (linear complexity):
the integer binning of `LinearComplexityImpl` is NIST's binning of T = (−1)^M (L − μ) + 2/9, the χ² with the
shipped table is NIST's χ², the per-block values are shortest-LFSR lengths.
-/
import ParanoidModel.Proofs.NistStatsBits
import ParanoidModel.Proofs.NistErrors
import ParanoidModel.Proofs.BM
namespace Paranoid.NistStats
open Paranoid Paranoid.Nist

theorem chiSquare_eq_chiSq (v : List Nat) (pi : List ℚ) : chiSquare v pi = chiSq v pi := rfl

/-! ### T and its classes -/

theorem ite_le {c : Prop} [Decidable c] {a b n : Nat} (ha : a ≤ n) (hb : b ≤ n) :
    (if c then a else b) ≤ n := by
  split <;> assumption

theorem nistLcClass_le (t : ℚ) : nistLcClass t ≤ 6 := by
  unfold nistLcClass
  repeat' apply ite_le
  all_goals decide

/-- NIST's class of z + δ, z an integer and δ in (−½, ½]: the boundaries j + ½ (j = −3, …, 2) below it are
those with j < z, so the class is z + 3 cut off at 0 and 6. -/
theorem nistLcClass_shift (z : ℤ) (δ : ℚ) (h1 : -1 / 2 < δ) (h2 : δ ≤ 1 / 2) :
    nistLcClass ((z : ℚ) + δ) = min 6 (z + 3).toNat := by
  have e : ∀ (j : ℤ) (c : ℚ), c = (j : ℚ) + 1 / 2 → ((z : ℚ) + δ ≤ c ↔ z ≤ j) := by
    intro j c hc
    rw [hc]
    constructor
    · intro h
      have h3 : ((z - j : ℤ) : ℚ) < 1 := by push_cast; linarith
      have h4 : z - j < 1 := by exact_mod_cast h3
      omega
    · intro h
      have : (z : ℚ) ≤ j := by exact_mod_cast h
      linarith
  unfold nistLcClass
  simp only [e (-3) (-5 / 2) (by norm_num), e (-2) (-3 / 2) (by norm_num), e (-1) (-1 / 2) (by norm_num),
    e 0 (1 / 2) (by norm_num), e 1 (3 / 2) (by norm_num), e 2 (5 / 2) (by norm_num)]
  -- a `split_ifs` over the whole ladder is slow; between the ends the ladder is evaluated
  rcases (by omega : z ≤ -3 ∨ z = -2 ∨ z = -1 ∨ z = 0 ∨ z = 1 ∨ z = 2 ∨ 3 ≤ z) with
    h | rfl | rfl | rfl | rfl | rfl | h
  · rw [if_pos h]; omega
  iterate 5 rfl
  · rw [if_neg (by omega), if_neg (by omega), if_neg (by omega), if_neg (by omega), if_neg (by omega),
      if_neg (by omega)]
    omega

theorem lcClass_eq_min (median c : Nat) : lcClass median c = min 6 (c + 3 - median) := by
  unfold lcClass
  split_ifs <;> omega

theorem lcEps_bounds (M : Nat) :
    0 < ((M : ℚ) / 3 + 2 / 9) / (2 : ℚ) ^ M ∧ ((M : ℚ) / 3 + 2 / 9) / (2 : ℚ) ^ M < 1 / 2 := by
  have h : (M : ℚ) + 1 ≤ (2 : ℚ) ^ M := by
    have := Nat.lt_two_pow_self (n := M)
    exact_mod_cast this
  have hp : (0 : ℚ) < (2 : ℚ) ^ M := by positivity
  have hM : (0 : ℚ) ≤ (M : ℚ) := by positivity
  constructor
  · positivity
  · rw [div_lt_iff₀ hp]; linarith

/-- T = (L − M/2) + ε for even M and T = −(L − (M+1)/2) − ε for odd M: T lies strictly within ½ of the
integer ±(L − median), median = (M + 1) // 2. -/
theorem lcT_near (M L : Nat) : ∃ δ : ℚ, -1 / 2 < δ ∧ δ < 1 / 2 ∧
    lcT M L =
      (((if M % 2 = 0 then (L : ℤ) - ((M + 1) / 2 : ℕ) else ((M + 1) / 2 : ℕ) - (L : ℤ)) : ℤ) : ℚ) + δ := by
  obtain ⟨e1, e2⟩ := lcEps_bounds M
  unfold lcT lcMu
  generalize ((M : ℚ) / 3 + 2 / 9) / (2 : ℚ) ^ M = ε at e1 e2 ⊢
  rcases Nat.even_or_odd' M with ⟨k, rfl | rfl⟩
  · refine ⟨ε, by linarith, e2, ?_⟩
    have h1 : (-1 : ℚ) ^ (2 * k) = 1 := by rw [pow_mul]; simp
    have h2 : (-1 : ℚ) ^ (2 * k + 1) = -1 := by rw [pow_succ, h1]; simp
    rw [if_pos (by omega), h1, h2, (by omega : (2 * k + 1) / 2 = k)]
    push_cast
    ring
  · refine ⟨-ε, by linarith, by linarith, ?_⟩
    have h0 : (-1 : ℚ) ^ (2 * k) = 1 := by rw [pow_mul]; simp
    have h1 : (-1 : ℚ) ^ (2 * k + 1) = -1 := by rw [pow_succ, h0]; simp
    have h2 : (-1 : ℚ) ^ (2 * k + 1 + 1) = 1 := by rw [pow_succ, h1]; simp
    rw [if_neg (by omega), h1, h2, (by omega : (2 * k + 1 + 1) / 2 = k + 1)]
    push_cast
    ring

theorem lcClass_eq_nist (M L : Nat) :
    lcClass ((M + 1) / 2) L =
      if M % 2 = 0 then nistLcClass (lcT M L) else 6 - nistLcClass (lcT M L) := by
  obtain ⟨δ, h1, h2, hT⟩ := lcT_near M L
  rw [hT, nistLcClass_shift _ δ h1 h2.le, lcClass_eq_min]
  split_ifs <;> omega

/-! ### histograms -/

theorem count_map_sub {α} (b : Nat) (g : α → Nat) (hg : ∀ x, g x ≤ b) (i : Nat) (hi : i ≤ b) :
    ∀ l : List α, (l.map (fun x => b - g x)).count i = (l.map g).count (b - i)
  | [] => rfl
  | a :: l => by
    have := hg a
    have e : (b - g a = i) ↔ (g a = b - i) := by omega
    simp only [List.map_cons, List.count_cons, count_map_sub b g hg i hi l, beq_iff_eq, e]

theorem hist_mirror {α} (b : Nat) (g : α → Nat) (hg : ∀ x, g x ≤ b) (l : List α) :
    (List.range (b + 1)).map (fun i => (l.map (fun x => b - g x)).count i) =
      ((List.range (b + 1)).map (fun i => (l.map g).count i)).reverse := by
  rw [← List.map_reverse, reverse_range, List.map_map]
  apply List.map_congr_left
  intro i hi
  exact count_map_sub b g hg i (by have := List.mem_range.mp hi; omega) l

theorem lcHist_eq_nist (M : Nat) (cs : List Nat) :
    (tally 7 (cs.map (lcClass ((M + 1) / 2)))).toList =
      if M % 2 = 0 then nistLcHist M cs else (nistLcHist M cs).reverse := by
  rw [tally_spec]
  unfold nistLcHist
  have hmap : cs.map (lcClass ((M + 1) / 2)) =
      cs.map (fun L => if M % 2 = 0 then nistLcClass (lcT M L) else 6 - nistLcClass (lcT M L)) :=
    List.map_congr_left fun L _ => lcClass_eq_nist M L
  rw [hmap]
  split_ifs
  · rfl
  · exact hist_mirror 6 _ (fun L => nistLcClass_le _) cs

theorem nistLcHist_length (M : Nat) (cs : List Nat) : (nistLcHist M cs).length = 7 := by
  unfold nistLcHist; simp

theorem nistLcHist_sum (M : Nat) (cs : List Nat) : (nistLcHist M cs).sum = cs.length := by
  unfold nistLcHist
  rw [count_range_sum 7, List.length_map]
  intro w hw
  obtain ⟨L, _, rfl⟩ := List.mem_map.mp hw
  exact Nat.lt_succ_of_le (nistLcClass_le _)

/-! ### χ² -/

theorem chiSq_reverse (v : List Nat) (pi : List ℚ) (h : v.length = pi.length) :
    chiSq v.reverse pi.reverse = chiSq v pi := by
  have hz : v.reverse.zip pi.reverse = (v.zip pi).reverse := by
    unfold List.zip; exact (List.reverse_zipWith h).symm
  unfold chiSq
  rw [hz, List.map_reverse, List.sum_reverse, List.sum_reverse]

theorem lcChi_eq_nist (M : Nat) (cs : List Nat) :
    chiSquare (tally 7 (cs.map (lcClass ((M + 1) / 2)))).toList (codeLcPi M) =
      chiSquare (nistLcHist M cs) nistLcPi := by
  rw [lcHist_eq_nist]
  unfold codeLcPi
  by_cases hM : M % 2 = 0
  · simp only [hM, if_true]
  · simp only [hM, if_false]
    rw [chiSquare_eq_chiSq, chiSquare_eq_chiSq]
    apply chiSq_reverse
    rw [nistLcHist_length]; rfl

/-! ### the blocks' linear complexities -/

theorem bitsOf_eq_range (s len : Nat) : Lfsr.bitsOf s len = (List.range len).map (fun j => s.testBit j) := rfl

theorem bitsOf_blockInt (bits M i : Nat) :
    Lfsr.bitsOf (blockInt bits M i) M = (List.range M).map (fun j => bits.testBit (i * M + j)) := by
  unfold Lfsr.bitsOf blockInt
  apply List.map_congr_left
  intro j hj
  rw [List.mem_range] at hj
  rw [Nat.testBit_mod_two_pow, Nat.testBit_shiftRight]
  simp [hj]

/-- ★ the per-block value is the length of the shortest LFSR generating the block
`bits_{i·M}, …, bits_{i·M+M−1}` (Berlekamp–Massey is correct: C14). -/
theorem blockComplexities_eq (bits n M : Nat) :
    blockComplexities bits n M =
      (List.range (n / M)).map (fun i =>
        Lfsr.shortestLfsr ((List.range M).map (fun j => bits.testBit (i * M + j)))) := by
  unfold blockComplexities
  apply List.map_congr_left
  intro i _
  rw [bmLength_eq_textbookL, Lfsr.textbookL_eq_shortestLfsr, bitsOf_blockInt]

theorem blockComplexities_le (bits n M : Nat) : ∀ c ∈ blockComplexities bits n M, c ≤ M := by
  intro c hc
  obtain ⟨i, _, rfl⟩ := List.mem_map.mp hc
  exact bmLength_le _ _

theorem blockComplexities_length (bits n M : Nat) : (blockComplexities bits n M).length = n / M := by
  unfold blockComplexities; simp

/-! ### the successful run -/

theorem linearComplexityImpl_ok (m : Nat) (cs : List Nat) (o : LinCompOut)
    (h : linearComplexityImpl m cs = .ok o) :
    cs ≠ [] ∧ ∃ q, sumNegLogProb m cs = .ok q ∧
      { blockSize := m, hist := (tally 7 (cs.map (lcClass ((m + 1) / 2)))).toList, q := q,
        nblocks := cs.length } = o := by
  rw [linearComplexityImpl_eq] at h
  split_ifs at h with hc
  exact ⟨hc, (map_ok_iff _ _ _).mp h⟩

theorem linearComplexity_ok (n bs : Nat) (cs : List Nat) (o : LinCompOut)
    (h : Nist.linearComplexity n bs cs = .ok o) :
    10 ≤ bs ∧ bs * 200 ≤ n ∧ linearComplexityImpl bs cs = .ok o := by
  unfold Nist.linearComplexity at h
  split_ifs at h with h1 h2
  exact ⟨by omega, by omega, h⟩

end Paranoid.NistStats
