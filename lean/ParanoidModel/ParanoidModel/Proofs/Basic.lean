/-
Proofs/Basic.lean — lemmas about the integer primitives of Model/Basic.lean:
`bitLength` bounds, `invMod` (= `gmpy2.invert`) specification incl. sufficiency of the fuel
`2 * bitLength m + 2` of its extended Euclid, and the `Bytes2Int` / `Int2Bytes` round trips.
-/
import ParanoidModel.Model.Basic
import Mathlib.Tactic.Ring
import Mathlib.Tactic.Linarith
import Mathlib.Data.Int.ModEq
import Mathlib.Data.Nat.Prime.Basic
import Mathlib.Data.List.Induction
namespace Paranoid

theorem bitLength_le_iff (n k : Nat) : bitLength n ≤ k ↔ n < 2 ^ k := by
  unfold bitLength
  split
  · subst n; simp
  · rename_i h
    rw [← Nat.log2_lt h]; omega

theorem lt_two_pow_bitLength (n : Nat) : n < 2 ^ bitLength n :=
  (bitLength_le_iff n _).1 (Nat.le_refl _)

theorem bitLength_ne_zero {n : Nat} (h : n ≠ 0) : bitLength n ≠ 0 := by
  unfold bitLength; simp [h]

theorem two_pow_le_of_bitLength (n : Nat) (h : n ≠ 0) : 2 ^ (bitLength n - 1) ≤ n := by
  have : ¬ bitLength n ≤ bitLength n - 1 := by have := bitLength_ne_zero h; omega
  rw [bitLength_le_iff] at this
  omega

theorem two_pow_bitLength {n : Nat} (h : n ≠ 0) : 2 ^ bitLength n = 2 * 2 ^ (bitLength n - 1) := by
  rw [← Nat.pow_succ', Nat.succ_eq_add_one,
    Nat.sub_add_cancel (Nat.pos_of_ne_zero (bitLength_ne_zero h))]

theorem two_pow_bitLength_le (d : Nat) (hd : 0 < d) : 2 ^ bitLength d ≤ 2 * d := by
  rw [two_pow_bitLength hd.ne']
  exact Nat.mul_le_mul_left 2 (two_pow_le_of_bitLength d hd.ne')

theorem bitLength_mono {a b : Nat} (h : a ≤ b) : bitLength a ≤ bitLength b := by
  rw [bitLength_le_iff]; exact Nat.lt_of_le_of_lt h (lt_two_pow_bitLength b)

theorem bitLength_lt_of_two_mul_le {a b : Nat} (hb : 0 < b) (h : 2 * a ≤ b) :
    bitLength a < bitLength b := by
  have h1 : bitLength a ≤ bitLength b - 1 := by
    rw [bitLength_le_iff]
    have := lt_two_pow_bitLength b
    rw [two_pow_bitLength hb.ne'] at this
    omega
  have := bitLength_ne_zero hb.ne'
  omega

theorem bitLength_mul_ge {p q L : Nat} (hp : 2 ^ (L - 1) ≤ p) (hq : 2 ^ (L - 1) ≤ q) :
    2 * L - 1 ≤ bitLength (p * q) := by
  by_contra hc
  have h : bitLength (p * q) ≤ 2 * (L - 1) := by omega
  rw [bitLength_le_iff, Nat.two_mul, Nat.pow_add] at h
  exact absurd (Nat.mul_le_mul hp hq) (by omega)

theorem emod_toNat_lt (z : Int) (n : Nat) (hn : n ≠ 0) : (z % (n : Int)).toNat < n := by
  have h1 := Int.emod_lt_of_pos z (by omega : (0 : Int) < n)
  have h2 := Int.emod_nonneg z (by omega : (n : Int) ≠ 0)
  omega

theorem gcd_eq_one_of_not_dvd (p : Nat) (hp : p.Prime) (v : Int) (h : ¬ (p : Int) ∣ v) :
    Int.gcd v p = 1 := by
  rcases (Nat.dvd_prime hp).mp (Int.natCast_dvd_natCast.mp (Int.gcd_dvd_right v (p : Int))) with h1 | h1
  · exact h1
  · exact absurd (h1 ▸ Int.gcd_dvd_left v (p : Int)) h

theorem not_dvd_of_gcd_eq_one {n : Nat} {u : Int} (hn : 1 < n) (hg : Int.gcd u n = 1) :
    ¬ (n : Int) ∣ u := fun h => by
  have := Int.natCast_dvd_natCast.mp (hg ▸ Int.dvd_coe_gcd h (dvd_refl _))
  exact absurd (Nat.le_of_dvd Nat.one_pos this) (by omega)

/-! ### `invMod` = `gmpy2.invert`

Invariant of the extended Euclid `egcdAux`: `r0 ≡ A*s0`, `r1 ≡ A*s1 (mod M)`,
`gcd r0 r1` constant; the fuel bound `bitLength r0 + bitLength r1 + 1` decreases at every
step because `r0 % r1 < r0 / 2` when `r1 < r0`. -/

theorem egcdAux_spec (A M : Int) : ∀ (fuel : Nat) (r0 r1 s0 s1 : Int),
    0 ≤ r1 → r1 < r0 →
    bitLength r0.toNat + bitLength r1.toNat + 1 ≤ fuel →
    r0 ≡ A * s0 [ZMOD M] → r1 ≡ A * s1 [ZMOD M] →
    (egcdAux fuel r0 r1 s0 s1).1 = Int.gcd r0 r1 ∧
    (egcdAux fuel r0 r1 s0 s1).1 ≡ A * (egcdAux fuel r0 r1 s0 s1).2 [ZMOD M]
  | 0, _, _, _, _, _, _, hf, _, _ => by omega
  | fuel + 1, r0, r1, s0, s1, h1, h01, hf, c0, c1 => by
    unfold egcdAux
    split
    · rename_i hz
      subst hz
      refine ⟨?_, c0⟩
      simp only [Int.gcd_zero_right]
      omega
    · rename_i hz
      simp only
      have hpos : 0 < r1 := by omega
      have hq : 1 ≤ r0 / r1 := Int.le_ediv_of_mul_le hpos (by omega)
      have hrem : r0 - r0 / r1 * r1 = r0 % r1 := by rw [Int.emod_def]; ring
      have hr0 : 0 ≤ r0 % r1 := Int.emod_nonneg _ hz
      have hr1 : r0 % r1 < r1 := Int.emod_lt_of_pos _ hpos
      rw [hrem]
      have hmeas : bitLength r1.toNat + bitLength (r0 % r1).toNat + 1 ≤ fuel := by
        have : bitLength (r0 % r1).toNat < bitLength r0.toNat := by
          apply bitLength_lt_of_two_mul_le
          · omega
          · have e := Int.emod_add_mul_ediv r0 r1
            have : r1 * 1 ≤ r1 * (r0 / r1) := Int.mul_le_mul_of_nonneg_left hq (by omega)
            omega
        omega
      have c2 : r0 % r1 ≡ A * (s0 - r0 / r1 * s1) [ZMOD M] := by
        rw [← hrem]
        have := (c0.sub (c1.mul_left (r0 / r1)))
        refine this.trans ?_
        have e : A * s0 - r0 / r1 * (A * s1) = A * (s0 - r0 / r1 * s1) := by ring
        rw [e]
      have ih := egcdAux_spec A M fuel r1 (r0 % r1) s1 (s0 - r0 / r1 * s1) hr0 hr1 hmeas c1 c2
      refine ⟨?_, ih.2⟩
      rw [ih.1, Int.gcd_comm r1, Int.gcd_emod, Int.gcd_comm]
theorem invMod_egcd (a : Int) (m : Nat) (hm : 0 < m) :
    (egcdAux (2 * bitLength m + 2) (a % (m : Int)) m 1 0).1 = Int.gcd a m ∧
    (egcdAux (2 * bitLength m + 2) (a % (m : Int)) m 1 0).1 ≡
      a * (egcdAux (2 * bitLength m + 2) (a % (m : Int)) m 1 0).2 [ZMOD (m : Int)] := by
  have hmz : (m : Int) ≠ 0 := by omega
  have h0 : 0 ≤ a % (m : Int) := Int.emod_nonneg _ hmz
  have h1 : a % (m : Int) < m := Int.emod_lt_of_pos _ (by omega)
  have hstep : egcdAux (2 * bitLength m + 2) (a % (m : Int)) m 1 0 =
      egcdAux (2 * bitLength m + 1) m (a % (m : Int)) 0 1 := by
    rw [show 2 * bitLength m + 2 = (2 * bitLength m + 1) + 1 from rfl, egcdAux]
    have hq : a % (m : Int) / (m : Int) = 0 := Int.ediv_eq_zero_of_lt h0 h1
    have hm0 : m ≠ 0 := by omega
    simp [hm0, hq]
  rw [hstep]
  have hmeas : bitLength (m : Int).toNat + bitLength (a % (m : Int)).toNat + 1 ≤
      2 * bitLength m + 1 := by
    have : bitLength (a % (m : Int)).toNat ≤ bitLength m := bitLength_mono (by omega)
    simp only [Int.toNat_natCast]
    omega
  have c0 : (m : Int) ≡ (a % (m : Int)) * 0 [ZMOD (m : Int)] := by
    simp [Int.ModEq]
  have c1 : a % (m : Int) ≡ (a % (m : Int)) * 1 [ZMOD (m : Int)] := by simp
  have := egcdAux_spec (a % (m : Int)) m _ _ _ _ _ h0 h1 hmeas c0 c1
  refine ⟨?_, ?_⟩
  · rw [this.1, Int.gcd_comm, Int.gcd_emod]
  · refine this.2.trans ?_
    exact (Int.mod_modEq a m).mul_right _

theorem invMod_zero (a : Int) : invMod a 0 = .error .zeroDivision := by simp [invMod]

theorem invMod_one (a : Int) : invMod a 1 = .ok 0 := by
  unfold invMod
  simp only [Nat.succ_ne_zero, ↓reduceIte]
  split
  · simp [Int.emod_one]
  · rfl
theorem invMod_cases (a : Int) (m : Nat) (hm : 2 ≤ m) :
    (Int.gcd a m = 1 ∧ ∃ x : Nat, invMod a m = .ok x ∧ x < m ∧ (a * x) % (m : Int) = 1) ∨
    (Int.gcd a m ≠ 1 ∧ invMod a m = .error .zeroDivision) := by
  have hmz : (m : Int) ≠ 0 := by omega
  obtain ⟨hg, hc⟩ := invMod_egcd a m (by omega)
  unfold invMod
  have hm0 : m ≠ 0 := by omega
  have hm1 : m ≠ 1 := by omega
  simp only [hm0, hm1, ↓reduceIte]
  generalize egcdAux (2 * bitLength m + 2) (a % (m : Int)) m 1 0 = p at hg hc
  obtain ⟨g, x⟩ := p
  simp only at hg hc ⊢
  by_cases h1 : g = 1
  · left
    subst h1
    simp only [↓reduceIte]
    refine ⟨by omega, _, rfl, ?_, ?_⟩
    · have := Int.emod_lt_of_pos x (show (0 : Int) < m by omega)
      have := Int.emod_nonneg x hmz
      omega
    · have h0 := Int.emod_nonneg x hmz
      rw [Int.toNat_of_nonneg h0]
      have e : a * (x % (m : Int)) ≡ 1 [ZMOD (m : Int)] :=
        ((Int.mod_modEq x m).mul_left a).trans hc.symm
      rw [Int.ModEq] at e
      rw [e]
      exact Int.emod_eq_of_lt (by omega) (by omega)
  · right
    simp only [h1, ↓reduceIte]
    refine ⟨?_, trivial⟩
    intro h
    apply h1
    rw [hg, h]; rfl

theorem invMod_ok (a : Int) (m x : Nat) (hm : 2 ≤ m) (h : invMod a m = .ok x) :
    (a * x) % (m : Int) = 1 ∧ x < m ∧ Int.gcd a m = 1 := by
  rcases invMod_cases a m hm with ⟨hg, y, hy, h1, h2⟩ | ⟨_, he⟩
  · rw [hy] at h
    cases h
    exact ⟨h2, h1, hg⟩
  · rw [he] at h; cases h
/-! ### Bytes2Int / Int2Bytes -/

theorem bytes2int_append_singleton (l : List Nat) (x : Nat) :
    bytes2int (l ++ [x]) = bytes2int l * 256 + x := by
  simp [bytes2int, List.foldl_append]

/-- a positional number read digit by digit (base `b`, digit values `f`), started at `acc`. -/
theorem foldl_digits {α} (b : Nat) (f : α → Nat) (l : List α) (acc : Nat) :
    l.foldl (fun a x => a * b + f x) acc =
      acc * b ^ l.length + l.foldl (fun a x => a * b + f x) 0 := by
  induction l generalizing acc with
  | nil => simp
  | cons x t ih =>
    simp only [List.foldl_cons, List.length_cons]
    rw [ih, ih (0 * b + f x)]
    ring

theorem bytes2int_foldl (l : List Nat) (acc : Nat) :
    l.foldl (fun a x => a * 256 + x) acc = acc * 256 ^ l.length + bytes2int l :=
  foldl_digits 256 id l acc

theorem bytes2int_cons (x : Nat) (t : List Nat) :
    bytes2int (x :: t) = x * 256 ^ t.length + bytes2int t := by
  simp only [bytes2int, List.foldl_cons]
  rw [bytes2int_foldl]; simp [bytes2int]

theorem bytes2int_lt (l : List Nat) (h : ∀ x ∈ l, x < 256) : bytes2int l < 256 ^ l.length := by
  induction l with
  | nil => simp [bytes2int]
  | cons x t ih =>
    rw [bytes2int_cons, List.length_cons, Nat.pow_succ]
    have hx := Nat.mul_le_mul_right (256 ^ t.length) (Nat.le_of_lt_succ (h x List.mem_cons_self))
    have ht := ih (fun y hy => h y (List.mem_cons_of_mem _ hy))
    omega

theorem int2bytesLen_succ (n len : Nat) :
    int2bytesLen n (len + 1) = int2bytesLen (n / 256) len ++ [n % 256] := by
  unfold int2bytesLen
  rw [List.range_succ, List.map_append]
  congr 1
  · apply List.map_congr_left
    intro i hi
    rw [List.mem_range] at hi
    have e : len + 1 - 1 - i = (len - 1 - i) + 1 := by omega
    rw [e, Nat.pow_succ, Nat.mul_comm, Nat.div_div_eq_div_mul]
  · simp

theorem int2bytesLen_length (n len : Nat) : (int2bytesLen n len).length = len := by
  simp [int2bytesLen]

theorem int2bytesLen_lt (n len : Nat) : ∀ x ∈ int2bytesLen n len, x < 256 := by
  intro x hx
  simp only [int2bytesLen, List.mem_map] at hx
  obtain ⟨i, _, rfl⟩ := hx
  exact Nat.mod_lt _ (by decide)

theorem bytes2int_int2bytesLen (len : Nat) : ∀ n, bytes2int (int2bytesLen n len) = n % 256 ^ len := by
  induction len with
  | zero => intro n; simp [int2bytesLen, bytes2int, Nat.mod_one]
  | succ len ih =>
    intro n
    rw [int2bytesLen_succ, bytes2int_append_singleton, ih, Nat.pow_succ]
    rw [Nat.mul_comm (256 ^ len) 256, Nat.mod_mul, Nat.mul_comm]
    omega

/-- number of bytes `(bit_length + 7) // 8`. -/
theorem byteLen_le_iff (n k : Nat) : (bitLength n + 7) / 8 ≤ k ↔ n < 256 ^ k := by
  have e : (256 : Nat) ^ k = 2 ^ (8 * k) := by
    rw [Nat.pow_mul]
  rw [e, ← bitLength_le_iff]
  omega

theorem bytes2int_int2bytes (v : Nat) : bytes2int (int2bytes v) = v := by
  unfold int2bytes
  rw [bytes2int_int2bytesLen]
  exact Nat.mod_eq_of_lt ((byteLen_le_iff v _).1 (Nat.le_refl _))

theorem int2bytesLen_bytes2int (b : List Nat) (h : ∀ x ∈ b, x < 256) :
    int2bytesLen (bytes2int b) b.length = b := by
  induction b using List.reverseRecOn with
  | nil => simp [int2bytesLen]
  | append_singleton l x ih =>
    have hx : x < 256 := h x (by simp)
    rw [List.length_append, List.length_singleton, int2bytesLen_succ, bytes2int_append_singleton]
    have e1 : (bytes2int l * 256 + x) / 256 = bytes2int l := by omega
    have e2 : (bytes2int l * 256 + x) % 256 = x := by omega
    rw [e1, e2, ih (fun y hy => h y (by simp [hy]))]

theorem bytes2int_zeros_append (k : Nat) (b : List Nat) :
    bytes2int (List.replicate k 0 ++ b) = bytes2int b := by
  induction k with
  | zero => simp
  | succ k ih => rw [List.replicate_succ, List.cons_append, bytes2int_cons, ih]; simp

theorem dropWhile_zero_eq (b : List Nat) :
    ∃ k, b = List.replicate k 0 ++ b.dropWhile (· = 0) := by
  induction b with
  | nil => exact ⟨0, by simp⟩
  | cons x t ih =>
    by_cases hx : x = 0
    · obtain ⟨k, hk⟩ := ih
      refine ⟨k + 1, ?_⟩
      subst hx
      simp only [List.dropWhile_cons, decide_true, ↓reduceIte, List.replicate_succ, List.cons_append]
      rw [← hk]
    · exact ⟨0, by simp [hx]⟩

theorem int2bytes_of_head_ne_zero (x : Nat) (t : List Nat) (hx : x ≠ 0)
    (h : ∀ y ∈ x :: t, y < 256) : int2bytes (bytes2int (x :: t)) = x :: t := by
  have hlen : (bitLength (bytes2int (x :: t)) + 7) / 8 = t.length + 1 := by
    apply Nat.le_antisymm
    · rw [byteLen_le_iff]; exact bytes2int_lt (x :: t) h
    · have : ¬ (bitLength (bytes2int (x :: t)) + 7) / 8 ≤ t.length := by
        rw [byteLen_le_iff, bytes2int_cons]
        have : 1 * 256 ^ t.length ≤ x * 256 ^ t.length := Nat.mul_le_mul_right _ (by omega)
        omega
      omega
  unfold int2bytes
  rw [hlen]
  exact int2bytesLen_bytes2int (x :: t) h

theorem int2bytes_bytes2int (b : List Nat) (h : ∀ x ∈ b, x < 256) :
    int2bytes (bytes2int b) = b.dropWhile (· = 0) := by
  obtain ⟨k, hk⟩ := dropWhile_zero_eq b
  have hb : bytes2int b = bytes2int (b.dropWhile (· = 0)) := by
    conv_lhs => rw [hk]
    exact bytes2int_zeros_append k _
  rw [hb]
  cases hd : b.dropWhile (· = 0) with
  | nil => simp [bytes2int, int2bytes, int2bytesLen, bitLength]
  | cons x t =>
    have hx : x ≠ 0 := by
      have := List.head?_dropWhile_not (· = 0) b
      rw [hd] at this
      simpa using this
    apply int2bytes_of_head_ne_zero x t hx
    intro y hy
    apply h y
    have : y ∈ b.dropWhile (· = 0) := by rw [hd]; exact hy
    exact (List.dropWhile_sublist _).subset this

/-- `n ≤ ⌈n/m⌉·m`. -/
theorem le_ceilDiv_mul (n : Nat) {m : Nat} (hm : 0 < m) : n ≤ (n + m - 1) / m * m := by
  have h3 := Nat.div_add_mod (n + m - 1) m
  have h4 := Nat.mod_lt (n + m - 1) hm
  rw [Nat.mul_comm] at h3
  omega

end Paranoid
