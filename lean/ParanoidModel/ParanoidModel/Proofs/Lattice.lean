/-
Proofs/Lattice.lean — helper lemmas for C19 (misc part): PseudoAverage, Bias, UniformSumCdf,
CombinedPValue, small-root guards.  Property theorems are in Props/C19.lean, Props/C19Shipped.lean.
-/
import ParanoidModel.Model.Lattice
import ParanoidModel.Proofs.NTheory
import Mathlib.Tactic.Ring
import Mathlib.Tactic.Linarith
import Mathlib.Algebra.BigOperators.Group.List.Basic
import Mathlib.Algebra.BigOperators.Ring.Finset
import Mathlib.Data.Nat.Choose.Basic
import Mathlib.Data.Nat.Factorial.Basic
import Mathlib.Data.Rat.Floor

namespace Paranoid.Lat
open Finset


/-! ### PseudoAverage -/

/-- `b`: the list with the first `j` elements incremented by `n`. -/
def paShift (s : List Int) (n : Int) (j : Nat) : List Int :=
  (s.take j).map (· + n) ++ s.drop j

def sumSq (l : List Int) : Int := (l.map (fun x => x * x)).sum

/-- the value of `diff` in iteration `j` (prefix sum of the first `j` elements). -/
def paDiffAt (s : List Int) (n : Int) (j : Nat) : Int :=
  paDiff s.length n s.sum (s.take j).sum j

theorem sum_map_add_const (l : List Int) (n : Int) :
    (l.map (· + n)).sum = l.sum + l.length * n := by
  induction l with
  | nil => simp
  | cons x xs ih => simp only [List.map_cons, List.sum_cons, ih, List.length_cons]; push_cast; ring

theorem sumSq_map_add_const (l : List Int) (n : Int) :
    sumSq (l.map (· + n)) = sumSq l + 2 * n * l.sum + l.length * (n * n) := by
  unfold sumSq
  induction l with
  | nil => simp
  | cons x xs ih =>
    simp only [List.map_cons, List.sum_cons, List.length_cons] at ih ⊢
    rw [ih]; push_cast; ring

theorem sumSq_append (a b : List Int) : sumSq (a ++ b) = sumSq a + sumSq b := by
  simp [sumSq, List.sum_append]

theorem paShift_sum (s : List Int) (n : Int) (j : Nat) (hj : j ≤ s.length) :
    (paShift s n j).sum = s.sum + j * n := by
  have h := List.take_append_drop j s
  have hs : s.sum = (s.take j).sum + (s.drop j).sum := by
    conv_lhs => rw [← h]
    exact List.sum_append
  unfold paShift
  rw [List.sum_append, sum_map_add_const, hs, List.length_take, Nat.min_eq_left hj]
  ring

theorem paShift_sumSq (s : List Int) (n : Int) (j : Nat) (hj : j ≤ s.length) :
    sumSq (paShift s n j) = sumSq s + 2 * n * (s.take j).sum + j * (n * n) := by
  have hq : sumSq s = sumSq (s.take j) + sumSq (s.drop j) := by
    conv_lhs => rw [← List.take_append_drop j s]
    exact sumSq_append _ _
  unfold paShift
  rw [sumSq_append, sumSq_map_add_const, List.length_take, Nat.min_eq_left hj, hq]
  ring

theorem paDiff_identity (s : List Int) (n : Int) (j : Nat) (hj : j ≤ s.length) :
    n * paDiffAt s n j =
      ((s.length : Int) * sumSq (paShift s n j) - (paShift s n j).sum ^ 2)
        - ((s.length : Int) * sumSq s - s.sum ^ 2) := by
  rw [paShift_sum s n j hj, paShift_sumSq s n j hj, paDiffAt, paDiff]
  ring

theorem paDiffAt_zero (s : List Int) (n : Int) : paDiffAt s n 0 = 0 := by
  simp [paDiffAt, paDiff]



/-- `best = (j*, d j*)` where `j*` is the FIRST minimiser of `d` on `0..k`. -/
def FirstMin (d : Nat → Int) (k : Nat) (best : Nat × Int) : Prop :=
  best.2 = d best.1 ∧ best.1 ≤ k ∧ (∀ j, j ≤ k → best.2 ≤ d j) ∧ (∀ j, j < best.1 → best.2 < d j)

theorem firstMin_step (d : Nat → Int) (k : Nat) (best : Nat × Int) (h : FirstMin d k best) :
    FirstMin d (k + 1) (if d (k + 1) < best.2 then (k + 1, d (k + 1)) else best) := by
  obtain ⟨h1, h2, h3, h4⟩ := h
  split
  · rename_i hlt
    refine ⟨rfl, Nat.le_refl _, ?_, ?_⟩
    · intro j hj
      rcases Nat.lt_or_ge j (k + 1) with hjk | hjk
      · have := h3 j (by omega); simp only; omega
      · have : j = k + 1 := by omega
        subst this; exact Int.le_refl _
    · intro j hj
      have := h3 j (by simp only at hj; omega); simp only; omega
  · rename_i hge
    refine ⟨h1, by omega, ?_, h4⟩
    intro j hj
    rcases Nat.lt_or_ge j (k + 1) with hjk | hjk
    · exact h3 j (by omega)
    · have : j = k + 1 := by omega
      subst this; omega

theorem paLoop_firstMin (s : List Int) (n : Int) :
    ∀ (rest pre : List Int) (best : Nat × Int), s = pre ++ rest →
      FirstMin (paDiffAt s n) pre.length best →
      FirstMin (paDiffAt s n) s.length
        (paLoop s.length n s.sum rest pre.sum pre.length best)
  | [], pre, best, hs, h => by
    simp only [List.append_nil] at hs
    subst hs
    simpa [paLoop] using h
  | x :: rest, pre, best, hs, h => by
    unfold paLoop
    have hs' : s = (pre ++ [x]) ++ rest := by simp [hs]
    have hd : paDiff s.length n s.sum (pre.sum + x) (pre.length + 1)
        = paDiffAt s n (pre.length + 1) := by
      unfold paDiffAt
      congr 1
      rw [hs']
      rw [List.take_append_of_le_length (by simp)]
      rw [List.take_of_length_le (by simp)]
      simp
    have hstep := firstMin_step _ _ _ h
    have := paLoop_firstMin s n rest (pre ++ [x]) _ hs'
      (by simpa using hstep)
    unfold paStep
    rw [hd]
    simpa using this

theorem paBestJ_firstMin (s : List Int) (n : Int) :
    FirstMin (paDiffAt s n) s.length (paBestJ s n, paDiffAt s n (paBestJ s n)) := by
  have h0 : FirstMin (paDiffAt s n) 0 (0, 0) := by
    refine ⟨(paDiffAt_zero s n).symm, Nat.le_refl _, ?_, ?_⟩
    · intro j hj
      obtain rfl := Nat.le_zero.1 hj
      exact Int.le_of_eq (paDiffAt_zero s n).symm
    · intro j hj; simp at hj
  have h := paLoop_firstMin s n s [] (0, 0) (by simp) (by simpa using h0)
  simp only [List.sum_nil, List.length_nil] at h
  unfold paBestJ
  obtain ⟨h1, h2, h3, h4⟩ := h
  refine ⟨rfl, h2, ?_, ?_⟩
  · intro j hj; simpa [← h1] using h3 j hj
  · intro j hj; simpa [← h1] using h4 j hj


/-! ### `sorted(a)` (insertion sort of the model) -/

theorem insertInt_perm (x : Int) (l : List Int) : (insertInt x l).Perm (x :: l) := by
  induction l with
  | nil => simp [insertInt]
  | cons y ys ih =>
    unfold insertInt
    split
    · exact List.Perm.refl _
    · exact (List.Perm.cons y ih).trans (List.Perm.swap x y ys)

theorem sortInts_perm (a : List Int) : (sortInts a).Perm a := by
  induction a with
  | nil => exact List.Perm.refl _
  | cons x xs ih => exact (insertInt_perm x _).trans (List.Perm.cons x ih)

theorem insertInt_sorted (x : Int) (l : List Int) (h : l.Pairwise (· ≤ ·)) :
    (insertInt x l).Pairwise (· ≤ ·) := by
  induction l with
  | nil => simp [insertInt]
  | cons y ys ih =>
    unfold insertInt
    rw [List.pairwise_cons] at h
    split
    · rename_i hxy
      refine List.pairwise_cons.mpr ⟨?_, List.pairwise_cons.mpr h⟩
      intro z hz
      simp only [List.mem_cons] at hz
      rcases hz with rfl | hz
      · exact hxy
      · exact Int.le_trans hxy (h.1 z hz)
    · rename_i hxy
      refine List.pairwise_cons.mpr ⟨?_, ih h.2⟩
      intro z hz
      have := (insertInt_perm x ys).mem_iff.mp hz
      simp only [List.mem_cons] at this
      rcases this with rfl | hz
      · omega
      · exact h.1 z hz

theorem sortInts_sorted (a : List Int) : (sortInts a).Pairwise (· ≤ ·) := by
  induction a with
  | nil => simp [sortInts]
  | cons x xs ih => exact insertInt_sorted x _ ih

theorem sortInts_length (a : List Int) : (sortInts a).length = a.length :=
  (sortInts_perm a).length_eq

theorem sortInts_sum (a : List Int) : (sortInts a).sum = a.sum :=
  (sortInts_perm a).sum_eq

theorem paFinal_range (s : List Int) (n : Int) (hn : 0 < n) :
    0 ≤ paFinal s n ∧ paFinal s n < n := by
  unfold paFinal
  exact ⟨Int.fmod_nonneg_of_pos _ hn, Int.fmod_lt_of_pos _ hn⟩

/-! ### PseudoAverage: prefix shifts of the sorted list are optimal among ALL selections -/

/-- an arbitrary selection: `b[i] = a[i] + n` where the mask is `true`, else `a[i]`. -/
def maskShift (n : Int) : List Int → List Bool → List Int
  | a :: s, b :: c => (if b then a + n else a) :: maskShift n s c
  | _, _ => []

/-- sum of the selected (incremented) elements. -/
def maskSum : List Int → List Bool → Int
  | a :: s, b :: c => (if b then a else 0) + maskSum s c
  | _, _ => 0

/-- `m·Σb² − (Σb)²` = `m(m−1)` times the sample variance of `b`. -/
def varNum (b : List Int) : Int := (b.length : Int) * sumSq b - b.sum ^ 2

/-- length, sum and sum of squares of a selection, in terms of the number `c.count true` and the
sum `maskSum s c` of the incremented elements. -/
theorem maskShift_stats (n : Int) : ∀ (s : List Int) (c : List Bool), c.length = s.length →
    (maskShift n s c).length = s.length ∧
    (maskShift n s c).sum = s.sum + (c.count true : Int) * n ∧
    sumSq (maskShift n s c) = sumSq s + 2 * n * maskSum s c + (c.count true : Int) * (n * n)
  | [], [], _ => ⟨rfl, by simp [maskShift], by simp [maskShift, sumSq, maskSum]⟩
  | a :: s, b :: c, h => by
    obtain ⟨h1, h2, h3⟩ := maskShift_stats n s c (Nat.succ.inj h)
    unfold sumSq at h3 ⊢
    cases b
    · simp only [maskShift, maskSum, Bool.false_eq_true, if_false, List.length_cons, List.sum_cons,
        List.map_cons, h1, h2, h3, List.count_cons_of_ne (Bool.false_ne_true)]
      exact ⟨trivial, by ring, by ring⟩
    · simp only [maskShift, maskSum, if_true, List.length_cons, List.sum_cons, List.map_cons, h1, h2,
        h3, List.count_cons_self, Nat.cast_succ]
      exact ⟨trivial, by ring, by ring⟩
  | [], _ :: _, h => nomatch h
  | _ :: _, [], h => nomatch h

theorem count_le_length' (c : List Bool) : c.count true ≤ c.length := List.count_le_length

/-- dropping the head of a sorted list cannot decrease a prefix sum. -/
theorem take_sum_cons_le : ∀ (l : List Int) (a : Int) (j : Nat), (∀ x ∈ l, a ≤ x) →
    l.Pairwise (· ≤ ·) → j ≤ l.length → ((a :: l).take j).sum ≤ (l.take j).sum
  | _, _, 0, _, _, _ => by simp
  | [], _, j + 1, _, _, h => by simp at h
  | x :: l, a, j + 1, ha, hs, h => by
    rw [List.pairwise_cons] at hs
    have ih := take_sum_cons_le l x j hs.1 hs.2 (by simpa using h)
    have hax := ha x (by simp)
    simp only [List.take_succ_cons, List.sum_cons] at ih ⊢
    omega

/-- among all selections of `j` elements of a sorted list the first `j` have the least sum. -/
theorem maskSum_ge_prefix : ∀ (s : List Int) (c : List Bool), c.length = s.length →
    s.Pairwise (· ≤ ·) → (s.take (c.count true)).sum ≤ maskSum s c
  | [], [], _, _ => by simp [maskSum]
  | a :: s, b :: c, h, hs => by
    rw [List.pairwise_cons] at hs
    have hl : c.length = s.length := by simpa using h
    have ih := maskSum_ge_prefix s c hl hs.2
    cases b
    · have h2 := take_sum_cons_le s a (c.count true) hs.1 hs.2
        (by rw [← hl]; exact List.count_le_length)
      simp only [maskSum, List.count_cons, Bool.false_eq_true, if_false]
      simp
      omega
    · simp only [maskSum, List.count_cons, beq_self_eq_true, if_true, List.take_succ_cons,
        List.sum_cons]
      omega
  | [], _ :: _, h, _ => by simp at h
  | _ :: _, [], h, _ => by simp at h

theorem paShift_length (s : List Int) (n : Int) (j : Nat) : (paShift s n j).length = s.length := by
  unfold paShift
  simp only [List.length_append, List.length_map, List.length_take, List.length_drop]
  omega

/-- every selection has at least the variance of the prefix shift with the same number of
incremented elements (sorted list, `n ≥ 0`): the two differ by `2 n m (maskSum − prefix sum)`. -/
theorem varNum_mask_ge_prefix (s : List Int) (n : Int) (hn : 0 ≤ n) (c : List Bool)
    (hc : c.length = s.length) (hs : s.Pairwise (· ≤ ·)) :
    varNum (paShift s n (c.count true)) ≤ varNum (maskShift n s c) := by
  have hj : c.count true ≤ s.length := by rw [← hc]; exact List.count_le_length
  obtain ⟨m1, m2, m3⟩ := maskShift_stats n s c hc
  have h := Int.mul_le_mul_of_nonneg_left (maskSum_ge_prefix s c hc hs)
    (Int.mul_nonneg (Int.natCast_nonneg s.length) (Int.mul_nonneg (by decide : (0 : Int) ≤ 2) hn))
  unfold varNum
  rw [paShift_length, m1, m2, m3, paShift_sum s n _ hj, paShift_sumSq s n _ hj]
  linarith

/-! ### Bias -/

theorem biasTerm_spec (n s a b : Int) (hn : 0 < n) :
    0 ≤ biasTerm n s a b ∧ 2 * biasTerm n s a b ≤ n ∧
    (∃ k : Int, |a * s + b - k * n| = biasTerm n s a b) ∧
    (∀ k : Int, biasTerm n s a b ≤ |a * s + b - k * n|) := by
  unfold biasTerm
  generalize a * s + b = x
  rw [Int.fmod_eq_emod_of_nonneg _ (Int.le_of_lt hn)]
  have h0 : 0 ≤ x % n := Int.emod_nonneg _ (by omega)
  have h1 : x % n < n := Int.emod_lt_of_pos _ hn
  have hx : x = n * (x / n) + x % n := (Int.mul_ediv_add_emod x n).symm
  generalize x % n = r at *
  generalize x / n = q at *
  have key : ∀ k : Int, min r (n - r) ≤ |x - k * n| := by
    intro k
    rw [show x - k * n = (q - k) * n + r by rw [hx]; ring]
    generalize q - k = d
    have hl := Int.min_le_left r (n - r)
    have hr := Int.min_le_right r (n - r)
    rcases Int.lt_or_le d 0 with hneg | hpos
    · have h2 : d * n ≤ -1 * n := Int.mul_le_mul_of_nonneg_right (by omega) (Int.le_of_lt hn)
      have := neg_le_abs (d * n + r)
      omega
    · have := Int.mul_nonneg hpos (Int.le_of_lt hn)
      have := le_abs_self (d * n + r)
      omega
  refine ⟨by omega, by omega, ?_, key⟩
  rcases Int.le_total r (n - r) with hle | hle
  · refine ⟨q, ?_⟩
    have e : x - q * n = r := by rw [hx]; ring
    rw [e, abs_of_nonneg h0, Int.min_eq_left hle]
  · refine ⟨q + 1, ?_⟩
    have e : x - (q + 1) * n = -(n - r) := by rw [hx]; ring
    rw [e, abs_neg, abs_of_nonneg (by omega), Int.min_eq_right hle]

/-- `c` times a sum of terms lies between the bounds on `c` times a term, times the number of terms. -/
theorem sum_map_bounds {α} (f : α → Int) (c A B : Int) : ∀ (l : List α),
    (∀ x ∈ l, A ≤ c * f x ∧ c * f x ≤ B) →
    l.length * A ≤ c * (l.map f).sum ∧ c * (l.map f).sum ≤ l.length * B
  | [], _ => by simp
  | x :: l, h => by
    obtain ⟨h1, h2⟩ := h x (List.mem_cons_self ..)
    obtain ⟨i1, i2⟩ := sum_map_bounds f c A B l fun y hy => h y (List.mem_cons_of_mem _ hy)
    rw [List.map_cons, List.sum_cons, List.length_cons, Int.mul_add, Nat.cast_succ, Int.add_mul,
      Int.add_mul, Int.one_mul, Int.one_mul]
    omega

/-- bounds on twice a summand of `Bias` carry over to `2t` (both loops). -/
theorem biasT_bounds (sample : List Int) (n : Int) (tr : List (Int × Int)) (A B : Int)
    (h : ∀ s a b, A ≤ 2 * biasTerm n s a b ∧ 2 * biasTerm n s a b ≤ B) :
    ((sample.length * tr.length : Nat) : Int) * A ≤ 2 * biasT sample n tr ∧
      2 * biasT sample n tr ≤ ((sample.length * tr.length : Nat) : Int) * B := by
  unfold biasT biasInner
  have hin : ∀ s ∈ sample, tr.length * A ≤ 2 * (tr.map fun ab => biasTerm n s ab.1 ab.2).sum ∧
      2 * (tr.map fun ab => biasTerm n s ab.1 ab.2).sum ≤ tr.length * B :=
    fun s _ => sum_map_bounds _ 2 A B tr fun ab _ => h s ab.1 ab.2
  rw [Nat.cast_mul, Int.mul_assoc, Int.mul_assoc]
  exact sum_map_bounds _ 2 _ _ sample hin

/-! ### UniformSumCdf -/


theorem fact_eq_factorial (n : Nat) : fact n = n.factorial := by
  induction n with
  | zero => rfl
  | succ n ih => simp [fact, Nat.factorial, ih]

/-- the `//` in `binom * (n - k) // (k + 1)` is exact and yields the next binomial. -/
theorem usBinomNext_choose (n k : Nat) : usBinomNext n k (n.choose k) = n.choose (k + 1) := by
  unfold usBinomNext
  rw [← Nat.choose_succ_right_eq, Nat.mul_div_cancel _ (Nat.succ_pos k)]

/-- running `binom` after `k` iterations of the loop. -/
def usBinomAt (n : Nat) : Nat → Nat
  | 0 => 1
  | k + 1 => usBinomNext n k (usBinomAt n k)

theorem usLoop_eq (n f : Nat) (x : ℚ) : ∀ (cnt k : Nat) (acc : ℚ),
    usLoop n f x cnt k ((-1) ^ k) (n.choose k) acc =
      acc + ∑ i ∈ range cnt, ((-1 : ℚ) ^ (k + i) * (n.choose (k + i) : ℚ)) / (f : ℚ) * (x - ((k + i : Nat) : ℚ)) ^ n
  | 0, k, acc => by rw [usLoop, Finset.sum_range_zero, add_zero]
  | cnt + 1, k, acc => by
    unfold usLoop
    have hs : -((-1 : Int) ^ k) = (-1) ^ (k + 1) := by ring
    rw [hs, usBinomNext_choose, usLoop_eq n f x cnt (k + 1)]
    rw [Finset.sum_range_succ', add_assoc]
    congr 1
    rw [add_comm]
    congr 1
    · apply Finset.sum_congr rfl
      intro i _
      have : k + 1 + i = k + (i + 1) := by omega
      rw [this]
    · simp only [usTerm, Nat.add_zero, Int.cast_mul, Int.cast_pow, Int.cast_neg, Int.cast_one,
        Int.cast_natCast]

/-- Irwin–Hall CDF formula (Wikipedia): `(1/n!) Σ_{k=0}^{⌊x⌋} (-1)^k C(n,k) (x-k)^n`. -/
def irwinHall (n : ℕ) (x : ℚ) : ℚ :=
  (1 / (n.factorial : ℚ)) *
    ∑ k ∈ range (⌊x⌋ + 1).toNat, (-1 : ℚ) ^ k * (n.choose k : ℚ) * (x - (k : ℚ)) ^ n

/-- named by the docstring of `uniformSumCdf`: with the exact `n − x` the callee does not reflect. -/
theorem usReflect_once (n : Nat) (x : ℚ) (h : 2 * x > (n : ℚ)) :
    ¬ (2 * ((n : ℚ) - x) > (n : ℚ)) := by
  intro h2; linarith

/-! ### CombinedPValue -/

theorem ratMin_spec (p : ℚ) (ps : List ℚ) :
    ratMin p ps ∈ p :: ps ∧ ∀ q ∈ p :: ps, ratMin p ps ≤ q := by
  induction ps generalizing p with
  | nil => simp [ratMin]
  | cons q qs ih =>
    unfold ratMin
    obtain ⟨hm, hle⟩ := ih (if q < p then q else p)
    constructor
    · simp only [List.mem_cons] at hm ⊢
      rcases hm with h | h
      · rw [h]; split <;> simp
      · exact Or.inr (Or.inr h)
    · intro r hr
      simp only [List.mem_cons] at hr
      have h1 := hle (if q < p then q else p) (by simp)
      rcases hr with rfl | rfl | hr
      · refine le_trans h1 ?_; split <;> linarith
      · refine le_trans h1 ?_; split <;> linarith
      · exact hle r (by simp [hr])

theorem ratMin_eq_zero_iff (p : ℚ) (ps : List ℚ) :
    ratMin p ps = 0 ↔ (0 : ℚ) ∈ p :: ps ∧ ∀ q ∈ p :: ps, 0 ≤ q := by
  obtain ⟨hm, hle⟩ := ratMin_spec p ps
  constructor
  · intro h; rw [h] at hm hle; exact ⟨hm, hle⟩
  · rintro ⟨h0, hall⟩
    exact le_antisymm (hle 0 h0) (hall _ hm)

theorem logDomainError_iff (ps : List ℚ) : logDomainError ps = true ↔ ∃ p ∈ ps, p ≤ 0 := by
  simp [logDomainError]

/-! ### small_roots guards -/

theorem symMod_congr (a n : Int) : n ∣ a - symMod a n := by
  have h : a - Int.fmod a n = n * Int.fdiv a n := by
    have := Int.mul_fdiv_add_fmod a n
    omega
  unfold symMod
  split
  · exact ⟨_, h⟩
  · exact ⟨Int.fdiv a n + 1, by rw [Int.mul_add, ← h]; ring⟩

theorem symMod_range (a n : Int) (hn : 0 < n) : -n < 2 * symMod a n ∧ 2 * symMod a n ≤ n := by
  unfold symMod
  rw [Int.fmod_eq_emod_of_nonneg _ (Int.le_of_lt hn), Int.fdiv_eq_ediv_of_nonneg _ (by omega)]
  have h0 : 0 ≤ a % n := Int.emod_nonneg _ (by omega)
  have h1 : a % n < n := Int.emod_lt_of_pos _ hn
  split <;> omega

theorem guardAccept_iff (n y : Int) : guardAccept n y = true ↔ y ≠ 0 ∧ y ∣ n := by
  simp only [guardAccept, Bool.and_eq_true, ne_eq, beq_iff_eq, decide_eq_true_eq,
    ← Int.dvd_iff_fmod_eq_zero]

theorem guardAcceptR_iff (n y : Int) : guardAcceptR n y = true ↔ 1 < y.natAbs ∧ y ∣ n := by
  simp only [guardAcceptR, Bool.and_eq_true, beq_iff_eq, decide_eq_true_eq, ← Int.dvd_iff_fmod_eq_zero]

theorem gcd_of_congr_dvd (v n y : Int) (hc : n ∣ v - y) (hy : y ∣ n) :
    Int.gcd v n = y.natAbs := by
  obtain ⟨t, ht⟩ := hc
  have hv : v = y + n * t := by omega
  rw [hv, Int.gcd_add_mul_left_left]
  exact Int.gcd_eq_natAbs_left hy

/-! ### PseudoAverage / Bias for the moduli the `0 < n` theorems leave out: `n < 0` (`n = 0` raises) -/

/-- negative modulus: Python's `% n` lands in `(n, 0]`. -/
theorem paFinal_range_neg (s : List Int) (n : Int) (hn : n < 0) :
    n < paFinal s n ∧ paFinal s n ≤ 0 := by
  unfold paFinal
  exact NT.fmod_range_neg _ n hn

/-- `n < 0`: every summand of `Bias` is `≤ 0`, in `[n, n/2]`: minus the LARGER of the two
distances to the neighbouring multiples of `n`. -/
theorem biasTerm_neg (n s a b : Int) (hn : n < 0) :
    n ≤ biasTerm n s a b ∧ 2 * biasTerm n s a b ≤ n := by
  unfold biasTerm
  generalize a * s + b = x
  have h := NT.fmod_range_neg x n hn
  rcases Int.le_total (Int.fmod x n) (n - Int.fmod x n) with hle | hle
  · rw [Int.min_eq_left hle]; omega
  · rw [Int.min_eq_right hle]; omega

end Paranoid.Lat
