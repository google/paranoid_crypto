/-
Proofs/Nist2Rank.lean — binary matrix rank (NIST SP 800-22 2.5 / 3.5).

(a) The model's `binaryRank` (plain Gaussian elimination, Model/Nist.lean) is C15's `rankSmall`, hence
    `2 ^ binaryRank rows = spanSize rows` (number of distinct GF(2)-combinations of the rows).
(b) `nist_suite.RankDistribution(r, c, k, allow_approximation=False)`: the in-place recurrence, mirrored
    over ℚ (`rankPass`, `rankRes` in Model/Nist.lean), equals the classical exact formula
      P(rank = j) = ∏_{i<j} (2^c − 2^i)(2^r − 2^i) / ((2^j − 2^i) · 2^(r·c))
                  = 2^(j(r+c−j) − rc) ∏_{i<j} (1 − 2^(i−r))(1 − 2^(i−c)) / (1 − 2^(i−j)),
    for EVERY shape r, c (general proof through the Gaussian binomial coefficients); each pass conserves
    the sum of the list.
-/
import ParanoidModel.Proofs.Nist
import ParanoidModel.Proofs.BitSeq.Rank
import Mathlib.Algebra.BigOperators.Group.Finset.Basic
import Mathlib.Algebra.BigOperators.Ring.Finset
import Mathlib.Tactic.FieldSimp
import Mathlib.Tactic.Ring
import Mathlib.Tactic.Linarith
namespace Paranoid.Nist
open Paranoid

/-! ## (a) `binaryRank` = `rankSmall` -/

theorem elimRow_eq (r x : Nat) (h : r ≠ 0) :
    BitSeq.elimRow (1 <<< (bitLength r - 1)) r x = elimRow r x := by
  rw [BitSeq.msb_eq r h]
  unfold BitSeq.elimRow elimRow
  by_cases hx : x.testBit r.log2 = true
  · rw [if_pos ((BitSeq.and_two_pow_ne_zero_iff x r.log2).2 hx), if_pos hx]
  · rw [if_neg (fun hc => hx ((BitSeq.and_two_pow_ne_zero_iff x r.log2).1 hc)), if_neg hx]

theorem rankSmallAux_eq : ∀ (f : Nat) (rows : List Nat) (rank : Nat),
    BitSeq.rankSmallAux f rows rank = rankAux f rows + rank
  | 0, _, rank => by simp [BitSeq.rankSmallAux, rankAux]
  | f + 1, [], rank => by simp [BitSeq.rankSmallAux, rankAux]
  | f + 1, r :: rest, rank => by
    unfold BitSeq.rankSmallAux rankAux
    by_cases h : r = 0
    · rw [if_pos h, if_pos h, rankSmallAux_eq f rest rank]
    · rw [if_neg h, if_neg h, rankSmallAux_eq f _ (rank + 1)]
      have : rest.map (BitSeq.elimRow (1 <<< (bitLength r - 1)) r) = rest.map (elimRow r) := by
        apply List.map_congr_left
        intro x _
        exact elimRow_eq r x h
      rw [this]
      omega

/-- the model's rank routine is `_BinaryMatrixRankSmall` of C15 … -/
theorem binaryRank_eq_rankSmall (rows : List Nat) : binaryRank rows = BitSeq.rankSmall rows := by
  unfold binaryRank BitSeq.rankSmall
  rw [rankSmallAux_eq]; rfl

/-- … so `2^rank` is the number of distinct GF(2)-linear combinations of the rows. -/
theorem binaryRank_span (rows : List Nat) : 2 ^ binaryRank rows = BitDefs.spanSize rows := by
  rw [binaryRank_eq_rankSmall]; exact BitSeq.rankSmall_spec rows

/-! ## (b) `RankDistribution` -/

/-- the same pass written as a simultaneous update. -/
def simPass (r : Nat) : Nat → ℚ → List ℚ → List ℚ
  | _, _, [] => []
  | j, prev, x :: rest => (x * pd r j + prev * (1 - pd r (j - 1))) :: simPass r (j + 1) x rest

theorem pd_self (r : Nat) : pd r r = 1 := by
  unfold pd; exact div_self (pow_ne_zero _ (by norm_num))

theorem rankPass_eq_sim (r : Nat) : ∀ (rest : List ℚ) (x : ℚ) (j : Nat), j + rest.length = r →
    rankPass r j (x :: rest) = (x * pd r j) :: simPass r (j + 1) x rest
  | [], x, j, h => by
    simp only [List.length_nil, Nat.add_zero] at h
    subst h
    simp [rankPass, simPass, pd_self]
  | y :: rest, x, j, h => by
    have ih := rankPass_eq_sim r rest y (j + 1) (by simp only [List.length_cons] at h; omega)
    rw [rankPass, ih]
    simp only [simPass, Nat.add_sub_cancel]

theorem rankPass_zero (r : Nat) (l : List ℚ) (h : l.length = r + 1) : rankPass r 0 l = simPass r 0 0 l := by
  match l, h with
  | x :: rest, h =>
    rw [rankPass_eq_sim r rest x 0 (by simpa using h)]
    simp [simPass]

theorem simPass_length (r : Nat) : ∀ (l : List ℚ) (j : Nat) (prev : ℚ), (simPass r j prev l).length = l.length
  | [], _, _ => rfl
  | x :: rest, j, prev => by simp [simPass, simPass_length r rest]

/-! ### Gaussian binomial coefficients and the closed form -/

/-- number of j-dimensional subspaces of F_2^t (q-Pascal recursion, q = 2). -/
def gauss : Nat → Nat → Nat
  | _, 0 => 1
  | 0, _ + 1 => 0
  | t + 1, j + 1 => 2 ^ (j + 1) * gauss t (j + 1) + gauss t j

/-- H(n, j) = ∏_{i<j} (2^n − 2^i): number of ordered j-tuples of independent vectors of F_2^n. -/
def hprod (n j : Nat) : ℚ := ∏ i ∈ Finset.range j, ((2 : ℚ) ^ n - 2 ^ i)

theorem hprod_succ (n j : Nat) : hprod n (j + 1) = hprod n j * ((2 : ℚ) ^ n - 2 ^ j) := by
  unfold hprod; rw [Finset.prod_range_succ]

theorem hprod_shift (n j : Nat) : hprod (n + 1) (j + 1) = ((2 : ℚ) ^ (n + 1) - 1) * 2 ^ j * hprod n j := by
  unfold hprod
  rw [Finset.prod_range_succ']
  have : ∀ i, ((2 : ℚ) ^ (n + 1) - 2 ^ (i + 1)) = 2 * (2 ^ n - 2 ^ i) := by intro i; ring
  simp only [this, Finset.prod_mul_distrib, Finset.prod_const, Finset.card_range, pow_zero]
  ring

theorem hprod_self_ne (j : Nat) : hprod j j ≠ 0 := by
  unfold hprod
  rw [Finset.prod_ne_zero_iff]
  intro i hi
  rw [Finset.mem_range] at hi
  have : (2 : ℚ) ^ i < 2 ^ j := pow_lt_pow_right₀ (by norm_num) hi
  linarith

/-- the closed form of the Gaussian binomial: gauss t j · ∏_{i<j}(2^j − 2^i) = ∏_{i<j}(2^t − 2^i). -/
theorem gauss_closed : ∀ (t j : Nat), (gauss t j : ℚ) * hprod j j = hprod t j
  | _, 0 => by simp [gauss, hprod]
  | 0, j + 1 => by
    rw [gauss, Nat.cast_zero, zero_mul, hprod, Finset.prod_range_succ']
    simp
  | t + 1, j + 1 => by
    have h1 := gauss_closed t (j + 1)
    have h2 := gauss_closed t j
    rw [hprod_succ t j, ← h2, hprod_shift j j] at h1
    rw [gauss, hprod_shift t j, ← h2, hprod_shift j j]
    push_cast
    -- the goal is 2^(j+1) times h1 (the row above), up to `ring`
    have h3 : (2 : ℚ) ^ (j + 1) * _ = (2 : ℚ) ^ (j + 1) * _ := congrArg ((2 : ℚ) ^ (j + 1) * ·) h1
    ring_nf at h3 ⊢
    linarith

/-- P(t, j) = gauss t j · H(r, j) / 2^(r·t): probability that t random vectors of F_2^r have rank j. -/
def rankP (r t j : Nat) : ℚ := (gauss t j : ℚ) * hprod r j / (2 : ℚ) ^ (r * t)

theorem rankP_zero_succ (r t : Nat) : rankP r (t + 1) 0 = rankP r t 0 * pd r 0 := by
  unfold rankP pd
  simp only [gauss, hprod, Finset.range_zero, Finset.prod_empty, Nat.cast_one, mul_one, pow_zero]
  rw [Nat.mul_succ, pow_add]
  field_simp

theorem rankP_succ_succ (r t j : Nat) :
    rankP r (t + 1) (j + 1) = rankP r t (j + 1) * pd r (j + 1) + rankP r t j * (1 - pd r j) := by
  unfold rankP pd
  rw [gauss, hprod_succ, Nat.mul_succ, pow_add]
  push_cast
  have h1 : ((2 : ℚ) ^ r) ≠ 0 := pow_ne_zero _ (by norm_num)
  have h2 : ((2 : ℚ) ^ (r * t)) ≠ 0 := pow_ne_zero _ (by norm_num)
  field_simp
  ring

theorem rankP_eq (r c j : Nat) :
    rankP r c j = hprod c j * hprod r j / (hprod j j * (2 : ℚ) ^ (r * c)) := by
  rw [rankP, ← gauss_closed c j]
  have := hprod_self_ne j
  have h2 : ((2 : ℚ) ^ (r * c)) ≠ 0 := pow_ne_zero _ (by norm_num)
  field_simp

/-- one pass over the P(c, ·) from index j on gives the P(c + 1, ·): the q-Pascal rule. -/
theorem simPass_rankP (r c : Nat) : ∀ (n j : Nat) (prev : ℚ),
    prev * (1 - pd r (j - 1)) = (if j = 0 then 0 else rankP r c (j - 1) * (1 - pd r (j - 1))) →
    simPass r j prev ((List.range' j n).map (rankP r c)) = (List.range' j n).map (rankP r (c + 1))
  | 0, _, _, _ => rfl
  | n + 1, j, prev, h => by
    rw [List.range'_succ, List.map_cons, List.map_cons, simPass, h,
      simPass_rankP r c n (j + 1) _ (by simp)]
    congr 1
    cases j with
    | zero => simp [rankP_zero_succ]
    | succ j => simp [rankP_succ_succ]

theorem rankRes_length (r : Nat) : ∀ c, (rankRes r c).length = r + 1
  | 0 => by simp [rankRes]
  | c + 1 => by
    rw [rankRes, rankPass_zero r _ (rankRes_length r c), simPass_length, rankRes_length r c]

/-- after c passes, `res[j] = P(c, j)`, j = 0 … r. -/
theorem rankRes_eq (r : Nat) : ∀ c, rankRes r c = (List.range (r + 1)).map (rankP r c)
  | 0 => by
    rw [rankRes, List.range_succ_eq_map, List.map_cons, List.map_map]
    congr 1
    · simp [rankP, gauss, hprod]
    · symm
      rw [List.eq_replicate_iff]
      refine ⟨by simp, ?_⟩
      intro b hb
      simp only [List.mem_map, List.mem_range, Function.comp_def] at hb
      obtain ⟨a, _, rfl⟩ := hb
      simp [rankP, gauss]
  | c + 1 => by
    rw [rankRes, rankPass_zero r _ (rankRes_length r c), rankRes_eq r c, List.range_eq_range']
    exact simPass_rankP r c (r + 1) 0 0 (by simp)

/-- ★ the recurrence of `RankDistribution` equals the classical exact formula, for every shape:
after c columns, `res[j] = ∏_{i<j} (2^c − 2^i)(2^r − 2^i) / (∏_{i<j} (2^j − 2^i) · 2^(r·c))`. -/
theorem rankRes_formula (r c j : Nat) (hj : j ≤ r) :
    (rankRes r c)[j]? = some (hprod c j * hprod r j / (hprod j j * (2 : ℚ) ^ (r * c))) := by
  rw [rankRes_eq, List.getElem?_map, List.getElem?_range (by omega), Option.map_some, rankP_eq]

/-! ### the recurrence conserves the total mass -/

theorem rankPass_ne_nil (r : Nat) : ∀ (j : Nat) (l : List ℚ), l ≠ [] → rankPass r j l ≠ []
  | _, [], h => absurd rfl h
  | _, [x], _ => by simp [rankPass]
  | j, x :: y :: rest, _ => by
    rw [rankPass]
    split <;> simp

/-- one pass moves mass from index j to index j + 1 and creates none. -/
theorem rankPass_sum (r : Nat) : ∀ (j : Nat) (l : List ℚ), (rankPass r j l).sum = l.sum
  | _, [] => by simp [rankPass]
  | _, [x] => by simp [rankPass]
  | j, x :: y :: rest => by
    have ih := rankPass_sum r (j + 1) (y :: rest)
    have hne := rankPass_ne_nil r (j + 1) (y :: rest) (by simp)
    rw [rankPass]
    split
    · rename_i y' rest' heq
      rw [heq] at ih
      simp only [List.sum_cons] at ih ⊢
      rw [← ih]
      ring
    · rename_i heq
      exact absurd heq hne

/-- `sum(l[-k:][::-1]) + sum(l[:-k]) = sum(l)`. -/
theorem sum_reverse_take_add (l : List ℚ) (k : Nat) :
    (l.reverse.take k).sum + (l.take (l.length - k)).sum = l.sum := by
  rw [List.take_reverse, List.sum_reverse, add_comm, List.sum_take_add_sum_drop]

theorem rankRes_sum (r : Nat) : ∀ c, (rankRes r c).sum = 1
  | 0 => by simp [rankRes]
  | c + 1 => by rw [rankRes, rankPass_sum, rankRes_sum r c]

/-- the list `RankDistribution` returns sums to 1 for every k (k = 0: the whole list and a 0; k > r + 1: `take`
saturates). -/
theorem rankDistribution_sum_any (r c k : Nat) : (rankDistribution r c k).sum = 1 := by
  unfold rankDistribution
  split
  · rw [List.sum_append, List.sum_reverse, rankRes_sum, List.sum_singleton, add_zero]
  · rw [List.sum_append, List.sum_singleton, ← rankRes_length r c, sum_reverse_take_add, rankRes_sum]

/-! ### `hprod` with negative exponents (for `C12More.rankDistribution_classical`) -/

theorem hprod_eq_zpow (n j : Nat) :
    hprod n j = (2 : ℚ) ^ (n * j) * ∏ i ∈ Finset.range j, (1 - (2 : ℚ) ^ ((i : ℤ) - (n : ℤ))) := by
  unfold hprod
  have h : ∀ i ∈ Finset.range j, ((2 : ℚ) ^ n - 2 ^ i) = 2 ^ n * (1 - (2 : ℚ) ^ ((i : ℤ) - (n : ℤ))) := by
    intro i _
    rw [zpow_sub₀ (by norm_num : (2 : ℚ) ≠ 0), zpow_natCast, zpow_natCast]
    have : ((2 : ℚ) ^ n) ≠ 0 := pow_ne_zero _ (by norm_num)
    field_simp
  rw [Finset.prod_congr rfl h, Finset.prod_mul_distrib, Finset.prod_const, Finset.card_range, ← pow_mul]

/-! ### integer form (kernel-friendly) and the `precomputed` table -/

/-- ∏_{i<j} (2^n − 2^i) over ℕ. -/
def hprodN (n : Nat) : Nat → Nat
  | 0 => 1
  | j + 1 => hprodN n j * (2 ^ n - 2 ^ j)

theorem hprodN_cast (n : Nat) : ∀ j, j ≤ n → ((hprodN n j : Nat) : ℚ) = hprod n j
  | 0, _ => by simp [hprodN, hprod]
  | j + 1, h => by
    rw [hprodN, hprod_succ, ← hprodN_cast n j (by omega)]
    have : 2 ^ j ≤ 2 ^ n := Nat.pow_le_pow_right (by omega) (by omega)
    push_cast [Nat.cast_sub this]
    ring

/-- exact probability that a random r×c matrix over GF(2) has rank j, as a fraction of naturals:
numerator ∏_{i<j}(2^c − 2^i)(2^r − 2^i), denominator ∏_{i<j}(2^j − 2^i) · 2^(r·c). -/
def rankProbNum (r c j : Nat) : Nat := hprodN c j * hprodN r j
def rankProbDen (r c j : Nat) : Nat := hprodN j j * 2 ^ (r * c)

theorem rankRes_frac (r c j : Nat) (hj : j ≤ r) (hjc : j ≤ c) :
    (rankRes r c)[j]? = some ((rankProbNum r c j : ℚ) / (rankProbDen r c j : ℚ)) := by
  rw [rankRes_formula r c j hj]
  unfold rankProbNum rankProbDen
  push_cast
  rw [hprodN_cast c j hjc, hprodN_cast r j hj, hprodN_cast j j (le_refl j)]

/-- (rounded, truncated) numerators over `prec` of P(rank = n − i) for i = 0 … cnt − 1, n×n matrices. -/
def squareRankRows (n cnt prec : Nat) : List (Nat × Nat) :=
  (List.range cnt).map (fun i =>
    ((2 * rankProbNum n n (n - i) * prec + rankProbDen n n (n - i)) / (2 * rankProbDen n n (n - i)),
      rankProbNum n n (n - i) * prec / rankProbDen n n (n - i)))

/-- NIST's shape 32×32: the six exact probabilities P(rank = 32), …, P(rank = 27) to 8 digits. -/
theorem squareRankRows_32 : squareRankRows 32 6 (10 ^ 8) =
    [(28878810, 28878809), (57757619, 57757619), (12835026, 12835026), (523879, 523878), (4657, 4656),
      (10, 9)] := by decide +kernel

/-- every entry of `RankDistribution.precomputed` in the current source is the exact 32×32 probability
rounded or truncated to the 8 printed digits (the first one, 0.28878809, is truncated: exact 0.288788095…). -/
theorem rank_precomputed_32 :
    rowMatches Paranoid.Consts.Nist.rankPrecomputed (squareRankRows 32 6 (10 ^ 8)) (10 ^ 8) true = true := by
  rw [squareRankRows_32]; decide

/-- the same for 31×31 (the smallest shape for which the table is used), 40×40 and 64×64. -/
theorem rank_precomputed_31_40_64 :
    rowMatches Paranoid.Consts.Nist.rankPrecomputed (squareRankRows 31 6 (10 ^ 8)) (10 ^ 8) true = true ∧
    rowMatches Paranoid.Consts.Nist.rankPrecomputed (squareRankRows 40 6 (10 ^ 8)) (10 ^ 8) true = true ∧
    rowMatches Paranoid.Consts.Nist.rankPrecomputed (squareRankRows 64 6 (10 ^ 8)) (10 ^ 8) true = true := by
  decide +kernel

end Paranoid.Nist
