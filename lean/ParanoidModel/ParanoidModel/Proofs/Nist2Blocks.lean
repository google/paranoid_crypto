/-
Proofs/Nist2Blocks.lean — per-block statistics that are computed by a single left-to-right pass:

* 2.8.4 overlapping template matching: the fold of `overlappingOnes l m` (`util.OverlappingRunsOfOnes`)
  counts the END positions of windows of m ones, which is the number of START positions i with
  l[i .. i+m−1] all ones (the lemmas behind `C12More.overlapping_count_spec`);
* 2.9.4 Maurer's universal test: the table walk of `UniversalImpl` produces, for every block position
  j ≥ Q, the distance to the previous occurrence of the same L-bit block (j + 1 if there is none,
  i.e. `tab[b] = −1`).
-/
import ParanoidModel.Proofs.Nist
namespace Paranoid.Nist

/-! ## overlapping template matching -/

/-- the fold of `overlappingOnes`, restated as a recursion: `c` = ones seen immediately before. -/
def endCount (m : Nat) : Nat → List Bool → Nat
  | _, [] => 0
  | c, true :: l => (if c + 1 ≥ m then 1 else 0) + endCount m (c + 1) l
  | _, false :: l => endCount m 0 l

theorem or_fold (m : Nat) : ∀ (l : List Bool) (c n : Nat),
    (l.foldl (orStep m) (c, n)).2 = n + endCount m c l
  | [], c, n => by simp [endCount]
  | true :: l, c, n => by
    simp only [List.foldl_cons, orStep, if_true, endCount]
    rw [or_fold m l]
    split <;> omega
  | false :: l, c, n => by
    simp only [List.foldl_cons, orStep, endCount, Bool.false_eq_true, if_false]
    exact or_fold m l 0 n

/-- number of start positions of a window of m ones (definition, by start position). -/
def startCount (m : Nat) : List Bool → Nat
  | [] => 0
  | b :: l => (if m ≤ leadOnes (b :: l) then 1 else 0) + startCount m l

theorem leadOnes_le_length : ∀ (l : List Bool), leadOnes l ≤ l.length
  | [] => by simp [leadOnes]
  | true :: l => by simp only [leadOnes, List.length_cons]; have := leadOnes_le_length l; omega
  | false :: l => by simp [leadOnes]

theorem endCount_run (m : Nat) (hm : 1 ≤ m) : ∀ (l : List Bool) (c : Nat),
    endCount m c l = min (leadOnes l) (leadOnes l + c + 1 - m) + endCount m 0 (l.drop (leadOnes l + 1))
  | [], c => by simp [endCount, leadOnes]
  | false :: l, c => by simp [endCount, leadOnes]
  | true :: l, c => by
    have ih := endCount_run m hm l (c + 1)
    simp only [endCount, leadOnes, List.drop_succ_cons]
    rw [ih]
    split <;> omega

theorem startCount_run (m : Nat) (hm : 1 ≤ m) : ∀ (l : List Bool),
    startCount m l = (leadOnes l + 1 - m) + startCount m (l.drop (leadOnes l + 1))
  | [] => by simp [startCount, leadOnes]; omega
  | false :: l => by
    have h0 : leadOnes (false :: l) = 0 := rfl
    rw [startCount, h0, if_neg (by omega)]
    simp only [Nat.zero_add, List.drop_succ_cons, List.drop_zero]
    omega
  | true :: l => by
    have ih := startCount_run m hm l
    have h1 : leadOnes (true :: l) = leadOnes l + 1 := rfl
    rw [startCount, h1, ih]
    simp only [List.drop_succ_cons]
    split <;> omega

theorem endCount_eq_startCount (m : Nat) (hm : 1 ≤ m) : ∀ (k : Nat) (l : List Bool), l.length ≤ k →
    endCount m 0 l = startCount m l
  | 0, l, h => by
    have : l = [] := List.eq_nil_of_length_eq_zero (by omega)
    subst this; rfl
  | k + 1, l, h => by
    cases l with
    | nil => rfl
    | cons b l' =>
      rw [endCount_run m hm, startCount_run m hm]
      have hlen : ((b :: l').drop (leadOnes (b :: l') + 1)).length ≤ k := by
        rw [List.length_drop]; simp only [List.length_cons] at h ⊢; omega
      rw [endCount_eq_startCount m hm k _ hlen]
      omega

theorem startCount_index (m : Nat) : ∀ (l : List Bool),
    startCount m l = (List.range l.length).countP (fun i => decide (m ≤ leadOnes (l.drop i)))
  | [] => by simp [startCount]
  | b :: l => by
    rw [startCount, startCount_index m l, List.length_cons, List.range_succ_eq_map, List.countP_cons,
      List.countP_map]
    simp only [List.drop_zero, Function.comp_def, Nat.succ_eq_add_one, List.drop_succ_cons]
    by_cases hc : m ≤ leadOnes (b :: l)
    · simp [hc]; omega
    · simp [hc]

/-! ## Maurer's universal test -/

/-- the distances `j − tab[b]` for all block positions j = |seen|, |seen|+1, … (`seenRev` = the blocks
before position j, most recent first): 1 + number of steps back to the previous occurrence of the block,
which is j + 1 when it has not occurred (`List.idxOf` returns the length). -/
def distsFrom : List Nat → List Nat → List Nat
  | _, [] => []
  | seenRev, b :: rest => (seenRev.idxOf b + 1) :: distsFrom (b :: seenRev) rest

/-- table invariant: `tab[b]` = (position of the last occurrence of b) + 1, 0 if none. -/
def TabInv (N : Nat) (tab : Array Nat) (seenRev : List Nat) : Prop :=
  tab.size = N ∧ ∀ b < N, tab[b]? = some (seenRev.length - seenRev.idxOf b)

theorem tabInv_init (N : Nat) : TabInv N (Array.replicate N 0) [] := by
  refine ⟨by simp, fun b hb => ?_⟩
  simp [hb]

theorem tabInv_step (N : Nat) (tab : Array Nat) (seenRev : List Nat) (b0 : Nat) (hb0 : b0 < N)
    (h : TabInv N tab seenRev) : TabInv N (tab.setIfInBounds b0 (seenRev.length + 1)) (b0 :: seenRev) := by
  obtain ⟨hs, ht⟩ := h
  refine ⟨by simp [hs], fun b hb => ?_⟩
  by_cases hbb : b = b0
  · subst hbb
    simp [hs, hb]
  · have hne : b0 ≠ b := fun hc => hbb hc.symm
    rw [Array.getElem?_setIfInBounds_ne hne, ht b hb, List.idxOf_cons_ne _ hne]
    have := List.idxOf_le_length (a := b) (l := seenRev)
    simp only [List.length_cons]
    congr 1
    omega

theorem uniStep_ok (q : Nat) (tab : Array Nat) (j : Nat) (ds : List Nat) (b last : Nat)
    (h : tab[b]? = some last) :
    uniStep q (.ok (tab, j, ds)) b =
      .ok (tab.setIfInBounds b (j + 1), j + 1, if j < q then ds else (j + 1 - last) :: ds) := by
  simp only [uniStep, h]
  split <;> rfl

theorem uni_fold (q N : Nat) : ∀ (bs : List Nat) (tab : Array Nat) (seenRev ds : List Nat),
    (∀ b ∈ bs, b < N) → TabInv N tab seenRev →
    ∃ tab', bs.foldl (uniStep q) (.ok (tab, seenRev.length, ds)) =
      .ok (tab', seenRev.length + bs.length,
        ((distsFrom seenRev bs).drop (q - seenRev.length)).reverse ++ ds)
  | [], tab, seenRev, ds, _, _ => ⟨tab, by simp [distsFrom]⟩
  | b :: bs, tab, seenRev, ds, hb, hinv => by
    have hbN : b < N := hb b (by simp)
    have hle := List.idxOf_le_length (a := b) (l := seenRev)
    obtain ⟨tab', h'⟩ := uni_fold q N bs _ (b :: seenRev)
      (if seenRev.length < q then ds else (seenRev.length + 1 - (seenRev.length - seenRev.idxOf b)) :: ds)
      (fun x hx => hb x (by simp [hx])) (tabInv_step N tab seenRev b hbN hinv)
    refine ⟨tab', ?_⟩
    rw [List.length_cons] at h'
    rw [List.foldl_cons, uniStep_ok q tab _ ds b _ (hinv.2 b hbN), h', distsFrom, List.length_cons,
      Nat.add_right_comm, Nat.add_assoc seenRev.length]
    congr 3
    by_cases hq : seenRev.length < q
    · rw [if_pos hq, show q - seenRev.length = (q - (seenRev.length + 1)) + 1 by omega, List.drop_succ_cons]
    · rw [if_neg hq, show q - seenRev.length = 0 by omega, show q - (seenRev.length + 1) = 0 by omega,
        List.drop_zero, List.drop_zero, List.reverse_cons, List.append_assoc, List.singleton_append,
        show seenRev.length + 1 - (seenRev.length - seenRev.idxOf b) = seenRev.idxOf b + 1 by omega]

/-- index form of `distsFrom`: the entry for block position j looks back through `bs[0..j)`. -/
theorem distsFrom_get : ∀ (bs seenRev : List Nat) (j : Nat),
    (distsFrom seenRev bs)[j]? = (bs[j]?).map (fun b => ((bs.take j).reverse ++ seenRev).idxOf b + 1)
  | [], _, j => by simp [distsFrom]
  | b :: bs, seenRev, 0 => by simp [distsFrom]
  | b :: bs, seenRev, j + 1 => by
    rw [distsFrom, List.getElem?_cons_succ, distsFrom_get bs (b :: seenRev) j, List.getElem?_cons_succ]
    simp [List.take_succ_cons]

theorem distsFrom_length : ∀ (bs seenRev : List Nat), (distsFrom seenRev bs).length = bs.length
  | [], _ => rfl
  | b :: bs, s => by simp [distsFrom, distsFrom_length bs]

/-- the table walk of `UniversalImpl` never raises (every block value is below 2^L) and collects the
distances from block position Q on. -/
theorem universal_walk (bits n L q : Nat) :
    ∃ tab, ((chunks (bitList bits n) L).map natOfBits).foldl (uniStep q)
      (.ok (Array.replicate (2 ^ L) 0, 0, [])) =
      .ok (tab, n / L, ((distsFrom [] ((chunks (bitList bits n) L).map natOfBits)).drop q).reverse) := by
  have hbs : ∀ b ∈ (chunks (bitList bits n) L).map natOfBits, b < 2 ^ L := by
    intro b hb
    obtain ⟨c, hc, rfl⟩ := List.mem_map.mp hb
    have := natOfBits_lt c
    rwa [chunk_length _ _ c hc] at this
  obtain ⟨tab', hf⟩ := uni_fold q (2 ^ L) _ _ [] [] hbs (tabInv_init _)
  simp only [List.length_nil, Nat.zero_add, Nat.sub_zero, List.append_nil, List.length_map, chunks_length,
    bitList_length] at hf
  exact ⟨tab', hf⟩

/-! ## the histogram of the rank test -/

theorem binaryMatrixRankImpl_ok (rows : List Nat) (r c k : Nat) (o : RankOut)
    (h : binaryMatrixRankImpl rows r c k = .ok o) :
    o.r = r ∧ o.c = c ∧ o.k = k ∧ (o.approx = true ↔ (r = c ∧ r ≥ 31 ∧ k ≤ 5)) ∧
    o.hist = (List.range (k + 1)).map (fun i =>
      ((groups rows r).map (fun mat => min k (r - binaryRank mat))).count i) := by
  unfold binaryMatrixRankImpl at h
  split_ifs at h with h1 h2 h3 h4
  · simp only [Except.ok.injEq] at h
    subst h
    exact ⟨rfl, rfl, rfl, ⟨fun _ => h3, fun _ => rfl⟩, by simp [tally_spec]⟩
  · simp only [Except.ok.injEq] at h
    subst h
    exact ⟨rfl, rfl, rfl, ⟨fun hc => by simp at hc, fun hc => absurd hc h3⟩, by simp [tally_spec]⟩

theorem binaryMatrixRank_ok (bits n r c k : Nat) (cs : Bool) (o : RankOut)
    (h : binaryMatrixRank bits n r c k cs = .ok o) :
    o.r = r ∧ o.c = c ∧ o.k = k ∧ (o.approx = true ↔ (r = c ∧ r ≥ 31 ∧ k ≤ 5)) ∧
    o.hist = (List.range (k + 1)).map (fun i =>
      ((groups ((chunks (bitList bits n) c).map natOfBits) r).map
        (fun mat => min k (r - binaryRank mat))).count i) := by
  unfold binaryMatrixRank at h
  split_ifs at h
  exact binaryMatrixRankImpl_ok _ r c k o h

end Paranoid.Nist
