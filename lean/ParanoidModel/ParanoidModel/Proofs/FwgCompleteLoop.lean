/-
Proofs/FwgCompleteLoop.lean — the loop of `FactorWithGuess` (code after fix bc0d52f) over the
convergents of `p0/q0` returns a factorisation whenever the guess is close to a factor
(`FwgC.Hyp`).  Induction over Euclid's algorithm with the invariant "the current remainder
`b` is at least `T`", where `T ≈ n^(1/4)`:

  * a convergent whose remainder is `≥ bound` is skipped by the code, and `bound ≥ T`;
  * an admissible convergent (`remainder < bound`) whose Fermat step fails has, by
    `core_fail`, a remainder `≥ (3/4)·sqrt(2S − 1) ≥ T`, and `u·v ≤ bound` (`fail_consequences`),
    so the code goes on to the next convergent;
  * a remainder `0` cannot fail, so the search cannot run off the end of the list.
-/
import ParanoidModel.Proofs.FwgComplete
import ParanoidModel.Proofs.NTheory

namespace Paranoid.FwgC
open Paranoid Paranoid.NT

/-- the Fermat step on `4uvn` returns something when `(uQ − vP)² < 2(uQ + vP) − 1` and
`2u < P`, `2v < Q` (no primality, no parity needed). -/
theorem step_success (P Q u v : Nat) (hu : 1 ≤ u) (hv : 1 ≤ v) (hQ : 2 ≤ Q) (hP : 2 ≤ P)
    (h2u : 2 * u < P) (h2v : 2 * v < Q)
    (hcond : ((u : Int) * Q - v * P) ^ 2 < 2 * ((u : Int) * Q + v * P) - 1) :
    ∃ fs, fwgFinish (P * Q) (ceilSqrt (4 * u * v * (P * Q))) (4 * u * v * (P * Q)) = some fs := by
  rw [fwgFinish_mul P Q u v (Nat.mul_pos hu (by omega)) (Nat.mul_pos hv (by omega))
    (by push_cast; rw [← pow_two]; exact hcond)]
  -- `1 ≤ gcd(2u, P) ≤ 2u < P`, so `gcd(2u, P)·Q` is a proper divisor of `P·Q`; same for `gcd(2v, Q)·P`
  have hd1 : Nat.gcd (2 * u) P ≤ 2 * u := Nat.gcd_le_left _ (by omega)
  have hd2 : Nat.gcd (2 * v) Q ≤ 2 * v := Nat.gcd_le_left _ (by omega)
  have hQ1 := Nat.mul_le_mul (Nat.gcd_pos_of_pos_right (2 * u) (by omega : 0 < P)) hQ
  have hP1 := Nat.mul_le_mul (Nat.gcd_pos_of_pos_right (2 * v) (by omega : 0 < Q)) hP
  unfold splitBy
  split
  · rw [if_pos ⟨by omega, Nat.mul_lt_mul_of_pos_right (by omega) (by omega)⟩]
    exact ⟨_, rfl⟩
  · rw [if_pos ⟨by omega, Nat.mul_comm P Q ▸ Nat.mul_lt_mul_of_pos_right (by omega) (by omega)⟩]
    exact ⟨_, rfl⟩

/-- The hypotheses of the completeness theorem on `(P, Q, A = p0, E, T, bound)`; `n = P·Q`,
`q0 = n / A`.  `E` bounds the error of the guess, `T` is the remainder threshold. -/
structure Hyp (P Q A E T bound : Nat) : Prop where
  hP : 2 ≤ P
  hQ : 2 ≤ Q
  hE1 : (A : Int) - P ≤ E
  hE2 : (P : Int) - A ≤ E
  hA2 : A ≤ 2 * P
  hPA : P ≤ 2 * A
  hA4 : A ≤ 4 * Q
  hsmall : 16 * (2 * E + 4) ^ 2 * (A * Q + (P * Q / A) * P) ≤ A ^ 2 * T
  hT5 : 5 ≤ T
  hTb : T ≤ bound
  hbA : bound ≤ A
  hT : 16 * T ^ 2 + 9 ≤ 18 * (P + Q)
  hcb : 16 * bound ^ 3 ≤ 81 * (P * Q)

theorem Hyp.A_pos {P Q A E T bound : Nat} (h : Hyp P Q A E T bound) : 0 < A := by
  have := h.hP; have := h.hPA; omega

theorem Hyp.B_pos {P Q A E T bound : Nat} (h : Hyp P Q A E T bound) : 0 < P * Q / A := by
  apply Nat.div_pos _ h.A_pos
  have : P * 2 ≤ P * Q := Nat.mul_le_mul_left P h.hQ
  have := h.hA2
  omega

theorem mul_div_le_two_mul {P Q A : Nat} (h : P ≤ 2 * A) : P * Q / A ≤ 2 * Q :=
  Nat.div_le_of_le_mul (by rw [Nat.mul_comm A, Nat.mul_right_comm]; exact Nat.mul_le_mul_right Q h)

theorem Hyp.B_le {P Q A E T bound : Nat} (h : Hyp P Q A E T bound) : P * Q / A ≤ 2 * Q :=
  mul_div_le_two_mul h.hPA

/-- **A failing admissible convergent does not end the search.** `(U, V)` is reached while the
remainder `b` is still `≥ T`, its residual is `rho < bound`; `B = n / A`. -/
theorem failing_convergent {P Q A E T bound : Nat} (h : Hyp P Q A E T bound) {U V b rho : Nat}
    (hU : 1 ≤ U) (hV : 1 ≤ V) (hUb : U * b ≤ A) (hVb : V * b ≤ P * Q / A) (hTb : T ≤ b)
    (hadm : rho < bound) (hR : ((U : Int) * (P * Q / A : Nat) - V * A).natAbs = rho)
    (hfin : fwgFinish (P * Q) (ceilSqrt (4 * U * V * (P * Q))) (4 * U * V * (P * Q)) = none) :
    U * V ≤ bound ∧ T ≤ rho := by
  have hApos := h.A_pos
  have hBle := h.B_le
  obtain ⟨hP, hQ, hE1, hE2, hA2, hPA, hA4, hsmall, hT5, hTbd, hbA, hT, hcb⟩ := h
  -- `S·b ≤ A·Q + B·P`, hence `16c²S ≤ A²`
  have hS16 : 16 * (2 * E + 4) ^ 2 * (U * Q + V * P) ≤ A ^ 2 := by
    apply Nat.le_of_mul_le_mul_right _ (by omega : 0 < T)
    calc 16 * (2 * E + 4) ^ 2 * (U * Q + V * P) * T
        ≤ 16 * (2 * E + 4) ^ 2 * (U * Q + V * P) * b := Nat.mul_le_mul_left _ hTb
      _ = 16 * (2 * E + 4) ^ 2 * (U * b * Q + V * b * P) := by ring
      _ ≤ 16 * (2 * E + 4) ^ 2 * (A * Q + P * Q / A * P) := Nat.mul_le_mul_left _
          (Nat.add_le_add (Nat.mul_le_mul_right Q hUb) (Nat.mul_le_mul_right P hVb))
      _ ≤ A ^ 2 * T := hsmall
  -- `5U ≤ U·b ≤ A ≤ 2P` and `5V ≤ V·b ≤ B ≤ 2Q`
  have h2u : 2 * U < P := by have := Nat.mul_le_mul_left U (by omega : 5 ≤ b); omega
  have h2v : 2 * V < Q := by have := Nat.mul_le_mul_left V (by omega : 5 ≤ b); omega
  have hfail : 2 * ((U : Int) * Q + V * P) - 1 ≤ ((U : Int) * Q - V * P) ^ 2 := by
    by_contra hc
    obtain ⟨fs, hfs⟩ := step_success P Q U V hU hV hQ hP h2u h2v (lt_of_not_ge hc)
    rw [hfs] at hfin
    cases hfin
  have hS1 : (1 : Int) ≤ (U : Int) * Q + V * P := by
    have := Nat.mul_le_mul hU hQ
    exact_mod_cast (by omega : 1 ≤ U * Q + V * P)
  have hcore := core_fail (A : Int) _ _ _ (2 * (E : Int) + 4) (by exact_mod_cast hApos) hS1
    (delta_bound P Q A U V E hE1 hE2 hA2 hA4 hApos) (by exact_mod_cast hS16) hfail
  rw [← sq_abs, ← Int.natCast_natAbs, hR] at hcore
  exact fail_consequences P Q U V rho bound T hU hV hadm hcore hT hcb

/-- **Loop completeness.** From any Euclid state `(a, b, r, s, t, u)` of `ContinuedFraction(A, B)`
whose remainder `b` is at least `T`, the loop of `FactorWithGuess` returns a factorisation. -/
theorem loop_complete {P Q A E T bound : Nat} (h : Hyp P Q A E T bound) :
    ∀ (b a r s t u : Nat), EState A (P * Q / A) a b r s t u → (1 ≤ u ∨ b ≤ a) → T ≤ b →
      ∃ fs, fwgLoop (P * Q) A (P * Q / A) bound (convergents (euclidQuots a b) r s t u) = some fs := by
  intro b
  induction b using Nat.strong_induction_on with
  | _ b ih =>
    intro a r s t u hst hpos hTb
    have hT5 := h.hT5
    have hbpos : 0 < b := by omega
    have hmod : a % b < b := Nat.mod_lt _ hbpos
    have hn := hst.next
    have hnat := hn.residual
    rw [euclidQuots_pos a b (by omega)]
    simp only [convergents]
    unfold fwgLoop
    by_cases hadm : a % b < bound
    · rw [if_pos (hnat.symm ▸ hadm)]
      cases hfin : fwgFinish (P * Q) (ceilSqrt (4 * (r * (a / b) + s) * (t * (a / b) + u) * (P * Q)))
          (4 * (r * (a / b) + s) * (t * (a / b) + u) * (P * Q)) with
      | some fs => exact ⟨fs, rfl⟩
      | none =>
        -- the convergent `(U, V) = (r·k + s, t·k + u)` is positive
        have hV : 1 ≤ t * (a / b) + u := by
          rcases hpos with hp | hp
          · omega
          · have hk := Nat.div_pos hp hbpos
            by_contra hc
            have ht0 : t = 0 := by
              rcases Nat.eq_zero_or_pos t with h1 | h1
              · exact h1
              · have := Nat.mul_pos h1 hk; omega
            have := h.B_pos
            have := hst.hB
            rw [ht0, show u = 0 by omega] at this
            omega
        have hU : 1 ≤ r * (a / b) + s := by
          -- otherwise the residual `V·A ≥ A ≥ bound` would not be admissible
          by_contra hc
          rw [show r * (a / b) + s = 0 by omega] at hnat
          have e : ((0 : Nat) : Int) * (P * Q / A : Nat) - (t * (a / b) + u : Nat) * A
              = -(((t * (a / b) + u) * A : Nat) : Int) := by push_cast; ring
          rw [e, Int.natAbs_neg, Int.natAbs_natCast] at hnat
          have := Nat.mul_le_mul_right A hV
          have := h.hbA
          omega
        obtain ⟨huv, hTrho⟩ := failing_convergent h hU hV (hn.hA ▸ Nat.le_add_right ..)
          (hn.hB ▸ Nat.le_add_right ..) hTb hadm hnat hfin
        simp only
        rw [if_neg (by omega)]
        exact ih _ hmod b _ _ _ _ hn (Or.inr hmod.le) hTrho
    · rw [if_neg (hnat.symm ▸ hadm)]
      have := h.hTb
      exact ih _ hmod b _ _ _ _ hn (Or.inr hmod.le) (by omega)

/-- **`FactorWithGuess` is complete under `Hyp`**: for every value `cbrt` of the float oracle
whose shifted value `bound = cbrt << shift` satisfies `Hyp`, the function returns a proper
factorisation `[g, n / g]` of `n = P·Q`. -/
theorem factorWithGuess_complete {P Q A E T : Nat} (cbrt : Nat)
    (h : Hyp P Q A E T (cbrt <<< fwgShift (P * Q))) (hTB : T ≤ P * Q / A) :
    ∃ fs, factorWithGuess (P * Q) A cbrt = .ok (some fs) ∧ ProperSplit (P * Q) fs := by
  have hA := h.A_pos
  have hex : ∃ fs, factorWithGuess (P * Q) A cbrt = .ok (some fs) := by
    unfold factorWithGuess
    rw [if_neg (by omega)]
    simp only [continuedFraction_eq]
    obtain ⟨fs, hfs⟩ := loop_complete h (P * Q / A) A 1 0 0 1 (EState.init ..)
      (Or.inl (le_refl 1)) hTB
    exact ⟨fs, by rw [hfs]⟩
  obtain ⟨fs, hfs⟩ := hex
  exact ⟨fs, hfs, factorWithGuess_sound _ _ _ _ hfs⟩

end Paranoid.FwgC
