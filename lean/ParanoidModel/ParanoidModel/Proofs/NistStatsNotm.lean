/-
Proofs/NistStatsNotm.lean — helper lemmas for Props/C12Stats.lean, NIST 2.7 (non-overlapping template
matching): for a template that cannot overlap itself the number of ALL occurrences (what the
implementation reads off `FrequencyCount(block, n, m, wrap=False)`) equals the number of hits of NIST's scan
(slide by 1 after a miss, by m after a hit).
-/
import ParanoidModel.Proofs.NistStatsBits
import ParanoidModel.Proofs.NistErrors
namespace Paranoid.NistStats
open Paranoid Paranoid.Nist

/-- number of positions p ≤ |l| − m at which the m-bit window has value t (0 when the block is shorter
than the template). -/
def occCount (l : List Bool) (m t : Nat) : Nat :=
  if l.length < m then 0
  else ((List.range (l.length - m + 1)).map (fun p => natOfBits ((l.drop p).take m))).count t

/-- a window at position 0 and one at position d, 1 ≤ d < m, cannot both carry a non-overlapping
template. -/
theorem no_overlap (l : List Bool) (m t d : Nat) (hno : isNonOverlapping t m = true)
    (hd1 : 1 ≤ d) (hdm : d < m) (h0 : natOfBits (l.take m) = t) (hd : natOfBits ((l.drop d).take m) = t) :
    False := by
  have e1 : t >>> d = natOfBits ((l.drop d).take (m - d)) := by
    rw [← h0, ← natOfBits_drop, List.drop_take]
  have e2 : t % 2 ^ (m - d) = natOfBits ((l.drop d).take (m - d)) := by
    rw [← hd, ← natOfBits_take_mod, List.take_take]
    congr 2
    omega
  unfold isNonOverlapping at hno
  rw [List.all_eq_true] at hno
  have := hno (m - d - 1) (List.mem_range.mpr (by omega))
  have e3 : m - (m - d - 1 + 1) = d := by omega
  have e4 : m - d - 1 + 1 = m - d := by omega
  rw [e3, e4, e1, e2] at this
  simp at this

theorem occCount_short (l : List Bool) (m t : Nat) (h : l.length < m) : occCount l m t = 0 := by
  unfold occCount; rw [if_pos h]

theorem occCount_step (l : List Bool) (m t : Nat) (hm : 1 ≤ m) (hl : m ≤ l.length) :
    occCount l m t = occCount (l.drop 1) m t + (if natOfBits (l.take m) = t then 1 else 0) := by
  unfold occCount
  rw [if_neg (by omega), List.range_succ_eq_map, List.map_cons, List.map_map, List.count_cons]
  have h0 : natOfBits ((l.drop 0).take m) = natOfBits (l.take m) := by simp
  rw [h0]
  have hlen : (l.drop 1).length = l.length - 1 := by simp
  congr 1
  · by_cases hs : (l.drop 1).length < m
    · rw [if_pos hs]
      have : l.length - m = 0 := by omega
      rw [this]; simp
    · rw [if_neg hs]
      have : (l.drop 1).length - m + 1 = l.length - m := by omega
      rw [this]
      congr 1
      apply List.map_congr_left
      intro p _
      simp only [Function.comp, List.drop_drop]
      congr 3
      omega
  · simp only [beq_iff_eq]

theorem occCount_nomatch (l : List Bool) (m t : Nat) (hm : 1 ≤ m)
    (h : ¬ (m ≤ l.length ∧ natOfBits (l.take m) = t)) : occCount l m t = occCount (l.drop 1) m t := by
  by_cases hl : m ≤ l.length
  · rw [occCount_step l m t hm hl, if_neg (fun hc => h ⟨hl, hc⟩)]; rfl
  · rw [occCount_short l m t (by omega), occCount_short _ m t (by simp; omega)]

/-- after a hit at position 0 there is no further occurrence before position m. -/
theorem occCount_skip (l : List Bool) (m t : Nat) (hm : 1 ≤ m) (hno : isNonOverlapping t m = true)
    (h0 : natOfBits (l.take m) = t) :
    ∀ d, 1 ≤ d → d ≤ m → occCount (l.drop 1) m t = occCount (l.drop d) m t
  | 0, h, _ => by omega
  | 1, _, _ => rfl
  | d + 2, _, hdm => by
    rw [occCount_skip l m t hm hno h0 (d + 1) (by omega) (by omega),
      occCount_nomatch (l.drop (d + 1)) m t hm, List.drop_drop]
    intro hc
    exact no_overlap l m t (d + 1) hno (by omega) (by omega) h0 hc.2

theorem notmScan_eq_occCount (m t : Nat) (hm : 1 ≤ m) (hno : isNonOverlapping t m = true) :
    ∀ (f : Nat) (l : List Bool), l.length ≤ f → notmScan m t f l = occCount l m t
  | 0, l, h => by
    have : l.length < m := by omega
    rw [occCount_short l m t this]; rfl
  | f + 1, l, h => by
    unfold notmScan
    have htl : (l.take m).length < m ↔ l.length < m := by
      rw [List.length_take]; omega
    by_cases hs : l.length < m
    · rw [if_pos (htl.mpr hs), occCount_short l m t hs]
    · rw [if_neg (fun hc => hs (htl.mp hc))]
      by_cases h0 : natOfBits (l.take m) = t
      · rw [if_pos h0, notmScan_eq_occCount m t hm hno f (l.drop m) (by simp; omega),
          occCount_step l m t hm (by omega), if_pos h0,
          occCount_skip l m t hm hno h0 m hm (Nat.le_refl m)]
      · rw [if_neg h0, notmScan_eq_occCount m t hm hno f (l.drop 1) (by simp; omega),
          occCount_nomatch l m t hm (fun hc => h0 hc.2)]

theorem notmW_eq_occCount (l : List Bool) (m t : Nat) (hm : 1 ≤ m) (hno : isNonOverlapping t m = true) :
    notmW l m t = occCount l m t := notmScan_eq_occCount m t hm hno l.length l (Nat.le_refl _)

/-! ### the implementation's table lookup -/

/-- entry t of `FrequencyCount(block, n, m, False)` is the number of occurrences of t (0 beyond the table: no
window has a value ≥ 2^m). -/
theorem countsNoWrap_getD (l : List Bool) (m t : Nat) (hm : 1 ≤ m) (hl : m ≤ l.length) :
    (countsNoWrap l m)[t]?.getD 0 = occCount l m t := by
  rw [← Array.getElem?_toList, countsNoWrap_spec l m hm hl, occCount, if_neg (by omega),
    List.getElem?_map]
  by_cases ht : t < 2 ^ m
  · rw [List.getElem?_range ht]; rfl
  · rw [List.getElem?_eq_none (by simpa using ht)]
    symm
    apply List.count_eq_zero.mpr
    intro hc
    obtain ⟨p, _, hp⟩ := List.mem_map.mp hc
    have := natOfBits_lt ((l.drop p).take m)
    have : 2 ^ ((l.drop p).take m).length ≤ 2 ^ m := Nat.pow_le_pow_right (by omega) (by simp)
    omega

theorem notmBlocks_ok (ts : List Nat) (cnts : List (Array Nat)) (res : List (List Nat))
    (h : notmBlocks cnts ts = .ok res) : res = cnts.map (fun c => ts.map (fun t => c[t]?.getD 0)) :=
  forall₂_eq_map ((mapM_ok_iff _).mp h) (fun c _ vs hv => lookupAll_ok c ts vs hv)

theorem notmImpl_ok (blocks : List (List Bool)) (bs m : Nat) (ts : List Nat) (o : NotmOut) (hm : 1 ≤ m)
    (hlen : ∀ b ∈ blocks, b.length = bs) (h : notmImpl blocks bs m ts = .ok o) :
    (∀ t ∈ ts, isNonOverlapping t m = true) ∧ (blocks ≠ [] → m ≤ bs) ∧
      o = { m := m, blockSize := bs, templates := ts,
            counts := blocks.map (fun b => ts.map (fun t => notmW b m t)) } := by
  obtain ⟨hall, hfit, counts, hc, rfl⟩ := (notmImpl_ok_iff _ _ _ _ _).mp h
  refine ⟨hall, hfit, ?_⟩
  rw [notmBlocks_ok _ _ _ hc, List.map_map]
  congr 1
  apply List.map_congr_left
  intro b hb
  apply List.map_congr_left
  intro t ht
  rw [notmW_eq_occCount b m t hm (hall t ht)]
  exact countsNoWrap_getD b m t hm (hlen b hb ▸ hfit (List.ne_nil_of_mem hb))

theorem nonOverlapping_ok (bits n nb : Nat) (m : Option Nat) (ts : Option (List Nat)) (o : NotmOut)
    (hm : ∀ m', m = some m' → 1 ≤ m') (h : nonOverlapping bits n nb m ts = .ok o) :
    ∃ m' T, 1 ≤ m' ∧ notmImpl (chunks (bitList bits n) (n / nb)) (n / nb) m' T = .ok o := by
  have h1 : nb ≠ 0 := fun h0 => by subst h0; cases h
  cases m with
  | none =>
    cases ts with
    | some T => simp [nonOverlapping, h1] at h
    | none =>
      rw [nonOverlapping_default_eq bits n nb h1] at h
      cases hM : notmM (n / nb) with
      | none => rw [hM] at h; cases h
      | some m' =>
        rw [hM] at h
        exact ⟨m', _, by have := notmM_le _ _ hM; omega, h⟩
  | some m' =>
    have h2 : n / nb ≠ 0 := fun h0 => by simp [nonOverlapping, h1, h0] at h
    rw [nonOverlapping_given_eq bits n nb m' ts h1 h2] at h
    exact ⟨m', _, hm m' rfl, h⟩

/-! ### mean, variance, χ² -/

theorem two_mul_lt_two_pow (m : Nat) : 2 * m < 2 ^ m + 1 := by
  cases m with
  | zero => simp
  | succ k =>
    have := Nat.lt_two_pow_self (n := k)
    rw [Nat.pow_succ]; omega

/-- the variance of `NonOverlappingTemplateMatchingImpl` is positive for every template length and every
non-empty block (2^m > 2m − 1). -/
theorem notmVar_pos (n m : Nat) (hn : 1 ≤ n) : 0 < notmVar n m := by
  unfold notmVar
  have hp : (0 : ℚ) < (2 : ℚ) ^ m := by positivity
  have hlt : (2 * (m : ℚ) - 1) < (2 : ℚ) ^ m := by
    have h3 : ((2 * m : Nat) : ℚ) < ((2 ^ m + 1 : Nat) : ℚ) := by exact_mod_cast two_mul_lt_two_pow m
    push_cast at h3
    linarith
  have hn' : (0 : ℚ) < (n : ℚ) := by exact_mod_cast hn
  -- 1/2^m − (2m − 1)/2^(2m) = (1 − (2m − 1)/2^m)/2^m
  have h2 : (2 : ℚ) ^ (2 * m) = (2 : ℚ) ^ m * (2 : ℚ) ^ m := by rw [two_mul, pow_add]
  rw [h2, ← div_div, ← sub_div]
  exact mul_pos hn' (div_pos (by rw [sub_pos, div_lt_one hp]; exact hlt) hp)

theorem notmChi_nonneg (n m : Nat) (hn : 1 ≤ n) (ws : List Nat) : 0 ≤ notmChi n m ws := by
  unfold notmChi
  apply List.sum_nonneg
  intro x hx
  obtain ⟨w, _, rfl⟩ := List.mem_map.mp hx
  exact div_nonneg (sq_nonneg _) (notmVar_pos n m hn).le

end Paranoid.NistStats
