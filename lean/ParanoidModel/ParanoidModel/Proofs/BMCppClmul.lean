/-
Proofs/BMCppClmul.lean — the CLMUL variant of the word-level C++ model simulates the eager
big-integer machine `eStep` (hence `bmLength`), 64 steps per block.

* `clMul a p`: carry-less product of naturals (GF(2)[X] product of the binary expansions);
  algebra (`clMul_xor_left/right`, `clMul_double_left`, `clMul_shiftLeft_left/right`, `clMul_lt`);
* `clmul_spec`: the model of the intrinsic computes it: `hi·2^64 + lo = x ⊛ y`;
* `coefStep` / `coefLoop`: the coefficient polynomials `A, B, C, D` along the eager machine;
  `sup_loop` (superposition): what lies `r` bits above the registers does not influence the next
  `r` steps and rides along as `A⊛VP ⊕ B⊛VQ`, `C⊛VP ⊕ D⊛VQ`; `eLoop_mod` is a corollary;
* `innerLoop_sim`: the `uint64_t` bit loop (with `carry_a`, `carry_c`) is that machine on the low
  words; `clAccum_val`, `clAssemble_val`: the word loop with four `clmul`s adds `A⊛sb ⊕ B⊛sc` of the
  higher words;
* `clBlock_val`, `clBlock_sim`: ONE BLOCK OF THE CLMUL LOOP = 64 APPLICATIONS OF `eStep` (modulo the
  dead top word); `lfsrLengthImplClmul_eq`.
-/
import ParanoidModel.Proofs.BMCpp
namespace Paranoid.BMCpp
open Paranoid

/-- `⊕_{t < k, a_t = 1} p · X^t`. -/
def clMulLow : Nat → Nat → Nat → Nat
  | 0, _, _ => 0
  | k + 1, a, p => clMulLow k a p ^^^ (if a.testBit k = true then p <<< k else 0)

/-- the carry-less product `a ⊛ p` (product of the GF(2)-polynomials whose coefficient
vectors are the binary expansions of `a` and `p`). -/
def clMul (a p : Nat) : Nat := clMulLow a a p

theorem clMulLow_succ (k a p : Nat) :
    clMulLow (k + 1) a p = clMulLow k a p ^^^ (if a.testBit k = true then p <<< k else 0) := rfl

theorem clMulLow_of_lt {a k : Nat} (h : a < 2 ^ k) (p : Nat) : ∀ k', k ≤ k' → clMulLow k' a p = clMulLow k a p := by
  intro k' hk
  induction k' with
  | zero =>
    have : k = 0 := by omega
    rw [this]
  | succ k' ih =>
    by_cases e : k = k' + 1
    · rw [e]
    · have hk' : k ≤ k' := by omega
      rw [clMulLow_succ, ih hk']
      have : a.testBit k' = false :=
        Nat.testBit_lt_two_pow (Nat.lt_of_lt_of_le h (Nat.pow_le_pow_right (by omega) hk'))
      simp [this]

theorem clMulLow_eq_clMul {a k : Nat} (h : a < 2 ^ k) (p : Nat) : clMulLow k a p = clMul a p := by
  unfold clMul
  rcases Nat.le_total k a with h1 | h1
  · exact (clMulLow_of_lt h p a h1).symm
  · exact clMulLow_of_lt Nat.lt_two_pow_self p k h1

theorem clMulLow_xor_left (k a a' p : Nat) :
    clMulLow k (a ^^^ a') p = clMulLow k a p ^^^ clMulLow k a' p := by
  induction k with
  | zero => simp [clMulLow]
  | succ k ih =>
    rw [clMulLow_succ, clMulLow_succ, clMulLow_succ, ih, Nat.testBit_xor]
    cases a.testBit k <;> cases a'.testBit k <;> simp
    · ac_rfl
    · ac_rfl
    · have : p <<< k ^^^ (clMulLow k a' p ^^^ p <<< k) = clMulLow k a' p := by
        rw [Nat.xor_comm (clMulLow k a' p), ← Nat.xor_assoc, Nat.xor_self, Nat.zero_xor]
      rw [Nat.xor_assoc, this]

theorem clMulLow_xor_right (k a p q : Nat) :
    clMulLow k a (p ^^^ q) = clMulLow k a p ^^^ clMulLow k a q := by
  induction k with
  | zero => simp [clMulLow]
  | succ k ih =>
    rw [clMulLow_succ, clMulLow_succ, clMulLow_succ, ih]
    cases a.testBit k <;> simp [Nat.shiftLeft_xor_distrib]
    ac_rfl

theorem clMulLow_shiftLeft_right (k a p s : Nat) :
    clMulLow k a (p <<< s) = clMulLow k a p <<< s := by
  induction k with
  | zero => simp [clMulLow]
  | succ k ih =>
    rw [clMulLow_succ, clMulLow_succ, ih, Nat.shiftLeft_xor_distrib]
    cases a.testBit k <;> simp
    rw [← Nat.shiftLeft_add, ← Nat.shiftLeft_add, Nat.add_comm]

theorem clMulLow_zero_left (k p : Nat) : clMulLow k 0 p = 0 := by
  simpa using clMulLow_xor_left k 0 0 p

theorem clMulLow_zero_right (k a : Nat) : clMulLow k a 0 = 0 := by
  simpa using clMulLow_xor_right k a 0 0

theorem clMulLow_double_left (k a p : Nat) : clMulLow (k + 1) (2 * a) p = clMulLow k a p <<< 1 := by
  induction k with
  | zero => simp [clMulLow]
  | succ k ih =>
    rw [clMulLow_succ, ih, clMulLow_succ, Nat.shiftLeft_xor_distrib, Nat.testBit_succ,
      Nat.mul_div_cancel_left a Nat.two_pos]
    cases a.testBit k <;> simp
    rw [← Nat.shiftLeft_add]

theorem clMulLow_lt {p t : Nat} (hp : p < 2 ^ t) (k a : Nat) : clMulLow (k + 1) a p < 2 ^ (t + k) := by
  induction k with
  | zero =>
    rw [clMulLow_succ]
    simp only [clMulLow, Nat.zero_xor, Nat.add_zero]
    split
    · simpa using hp
    · exact Nat.two_pow_pos t
  | succ k ih =>
    rw [clMulLow_succ]
    apply Nat.xor_lt_two_pow
    · exact Nat.lt_of_lt_of_le ih (Nat.pow_le_pow_right (by omega) (by omega))
    · split
      · rw [Nat.shiftLeft_eq, Nat.pow_add 2 t (k + 1)]
        exact Nat.mul_lt_mul_of_pos_right hp (Nat.two_pow_pos _)
      · exact Nat.two_pow_pos _

/-! fuel-free interface -/

theorem clMul_zero_left (p : Nat) : clMul 0 p = 0 := rfl

theorem clMul_zero_right (a : Nat) : clMul a 0 = 0 := clMulLow_zero_right _ _

theorem clMul_one_left (p : Nat) : clMul 1 p = p := by
  simp [clMul, clMulLow]

theorem two_mul_lt_two_pow_succ {a n : Nat} (h : a < 2 ^ n) : 2 * a < 2 ^ (n + 1) :=
  (Nat.mul_lt_mul_of_pos_left h Nat.two_pos).trans_eq Nat.pow_succ'.symm

theorem lt_two_pow_of_le {a k : Nat} (h : a ≤ k) : a < 2 ^ k :=
  Nat.lt_of_lt_of_le Nat.lt_two_pow_self (Nat.pow_le_pow_right Nat.two_pos h)

theorem clMul_xor_left (a a' p : Nat) : clMul (a ^^^ a') p = clMul a p ^^^ clMul a' p := by
  have h1 := lt_two_pow_of_le (Nat.le_add_right a a')
  have h2 := lt_two_pow_of_le (Nat.le_add_left a' a)
  rw [← clMulLow_eq_clMul (Nat.xor_lt_two_pow h1 h2), ← clMulLow_eq_clMul h1, ← clMulLow_eq_clMul h2,
    clMulLow_xor_left]

theorem clMul_xor_right (a p q : Nat) : clMul a (p ^^^ q) = clMul a p ^^^ clMul a q :=
  clMulLow_xor_right _ _ _ _

theorem clMul_shiftLeft_right (a p s : Nat) : clMul a (p <<< s) = clMul a p <<< s :=
  clMulLow_shiftLeft_right _ _ _ _

theorem clMul_double_left (a p : Nat) : clMul (2 * a) p = clMul a p <<< 1 := by
  rw [← clMulLow_eq_clMul (two_mul_lt_two_pow_succ Nat.lt_two_pow_self),
    ← clMulLow_eq_clMul Nat.lt_two_pow_self, clMulLow_double_left]

theorem clMul_shiftLeft_left (a p s : Nat) : clMul (a <<< s) p = clMul a p <<< s := by
  induction s with
  | zero => rfl
  | succ s ih =>
    have : a <<< (s + 1) = 2 * (a <<< s) := by
      rw [Nat.shiftLeft_succ]
    rw [this, clMul_double_left, ih, ← Nat.shiftLeft_add]

/-- degree bound: `deg (a ⊛ p) ≤ deg a + deg p`. -/
theorem clMul_lt {a p s t : Nat} (ha : a < 2 ^ (s + 1)) (hp : p < 2 ^ t) : clMul a p < 2 ^ (t + s) := by
  rw [← clMulLow_eq_clMul ha]
  exact clMulLow_lt hp s a

theorem shift_bit (x : UInt64) (i : Nat) (hi : i < 64) :
    ((x >>> i.toUInt64) &&& 1 = 1) ↔ x.toNat.testBit i = true := by
  rw [word_and_one, UInt64.toNat_shiftRight]
  rw [toUInt64_toNat_mod hi, Nat.testBit_shiftRight, Nat.add_zero]

theorem word_shiftLeft (y : UInt64) (i : Nat) (hi : i < 64) :
    (y <<< i.toUInt64).toNat = (y.toNat <<< i) % 2 ^ 64 := by
  rw [UInt64.toNat_shiftLeft, toUInt64_toNat_mod hi]

theorem word_shiftRight_compl (y : UInt64) (i : Nat) (h0 : 0 < i) (hi : i < 64) :
    (y >>> (64 - i).toUInt64).toNat = (y.toNat <<< i) / 2 ^ 64 := by
  rw [UInt64.toNat_shiftRight, toUInt64_toNat_mod (Nat.sub_lt (by decide) h0),
    Nat.shiftRight_eq_div_pow, Nat.shiftLeft_eq]
  have h64 : (2 : Nat) ^ 64 = 2 ^ (64 - i) * 2 ^ i := by
    rw [← Nat.pow_add]; congr 1; omega
  rw [h64, Nat.mul_div_mul_right _ _ (Nat.two_pow_pos i)]

theorem clmulLoop_spec (x y : UInt64) : ∀ (k i : Nat) (hi lo : UInt64), i + k = 64 →
    lo.toNat + 2 ^ 64 * hi.toNat = clMulLow i x.toNat y.toNat →
    (clmulLoop k i x y hi lo).2.toNat + 2 ^ 64 * (clmulLoop k i x y hi lo).1.toNat
      = clMulLow 64 x.toNat y.toNat := by
  intro k
  induction k with
  | zero =>
    intro i hi lo h64 h
    have : i = 64 := by omega
    subst this
    exact h
  | succ k ih =>
    intro i hi lo h64 h
    have hi64 : i < 64 := by omega
    unfold clmulLoop
    by_cases hb : x.toNat.testBit i = true
    · rw [if_pos ((shift_bit x i hi64).2 hb)]
      apply ih (i + 1) _ _ (by omega)
      rw [clMulLow_succ, if_pos hb, ← h, UInt64.toNat_xor, UInt64.toNat_xor, word_shiftLeft y i hi64]
      have hsplit : y.toNat <<< i = (y.toNat <<< i) % 2 ^ 64 + 2 ^ 64 * ((y.toNat <<< i) / 2 ^ 64) :=
        (Nat.mod_add_div _ _).symm
      have hhi : (if i = 0 then (0 : UInt64) else y >>> (64 - i).toUInt64).toNat
          = (y.toNat <<< i) / 2 ^ 64 := by
        by_cases h0 : i = 0
        · subst h0
          simp only [if_true, Nat.shiftLeft_zero]
          have := y.toNat_lt
          show 0 = _
          omega
        · rw [if_neg h0, word_shiftRight_compl y i (by omega) hi64]
      rw [hhi]
      conv => rhs; rw [hsplit]
      rw [xor_split _ _ lo.toNat_lt (Nat.mod_lt _ (Nat.two_pow_pos 64))]
    · rw [if_neg (fun hh => hb ((shift_bit x i hi64).1 hh))]
      apply ih (i + 1) _ _ (by omega)
      rw [clMulLow_succ, if_neg hb, h]
      simp

/-- the model of `_mm_clmulepi64_si128` returns the high and low words of the
carry-less product: `lo + 2^64·hi = x ⊛ y`. -/
theorem clmul_spec (x y : UInt64) :
    (clmul x y).2.toNat + 2 ^ 64 * (clmul x y).1.toNat = clMul x.toNat y.toNat := by
  unfold clmul
  rw [clmulLoop_spec x y 64 0 0 0 rfl (by simp [clMulLow]), clMulLow_eq_clMul x.toNat_lt]


/-- the polynomials `a, b, c, d` of the C++ comment (`carry_a`, `carry_c` are their
coefficients of `X^64`). -/
structure Coef where
  A : Nat
  B : Nat
  C : Nat
  D : Nat

/-- `a <<= 1; b <<= 1; if (disc) { if (swap) { swap(a, c); swap(b, d); } c ^= a; d ^= b; }` on
unbounded polynomials, with the decisions `disc`, `swap` of `eStep idx E`. -/
def coefStep (idx : Nat) (E : EState) (k : Coef) : Coef :=
  if E.Q.testBit 0 = true then
    if 2 * E.L ≤ idx then { A := k.C, B := k.D, C := 2 * k.A ^^^ k.C, D := 2 * k.B ^^^ k.D }
    else { A := 2 * k.A, B := 2 * k.B, C := k.C ^^^ 2 * k.A, D := k.D ^^^ 2 * k.B }
  else { A := 2 * k.A, B := 2 * k.B, C := k.C, D := k.D }

/-- the coefficients after `r` steps of `eLoop r idx E`. -/
def coefLoop : Nat → Nat → EState → Coef → Coef
  | 0, _, _, k => k
  | r + 1, idx, E, k => coefLoop r (idx + 1) (eStep idx E) (coefStep idx E k)

def coef0 : Coef := { A := 1, B := 0, C := 0, D := 1 }

/-- superposition: `E` is the machine `lo` with `VP`, `VQ` riding `s` bits above its registers,
combined with the coefficients `k`: `E.P = lo.P ⊕ (A⊛VP ⊕ B⊛VQ)·X^s`, `E.Q = lo.Q ⊕ (C⊛VP ⊕ D⊛VQ)·X^s`.
While `s > 0` the decisions of `E` are those of `lo`. -/
structure Sup (s : Nat) (k : Coef) (VP VQ : Nat) (lo E : EState) : Prop where
  p : E.P = lo.P ^^^ (clMul k.A VP ^^^ clMul k.B VQ) <<< s
  q : E.Q = lo.Q ^^^ (clMul k.C VP ^^^ clMul k.D VQ) <<< s
  l : E.L = lo.L

theorem shl_succ_shr1 (x s : Nat) : x <<< (s + 1) >>> 1 = x <<< s := by
  rw [Nat.shiftLeft_add, Nat.shiftLeft_shiftRight]

theorem shl1_shl (x s : Nat) : x <<< 1 <<< s = x <<< (s + 1) := by
  rw [← Nat.shiftLeft_add, Nat.add_comm]

theorem sup_step {s : Nat} {k : Coef} {VP VQ : Nat} {lo E : EState} (h : Sup (s + 1) k VP VQ lo E)
    (idx : Nat) : Sup s (coefStep idx lo k) VP VQ (eStep idx lo) (eStep idx E) := by
  obtain ⟨hp, hq, hl⟩ := h
  have hbit : E.Q.testBit 0 = lo.Q.testBit 0 := by
    rw [hq, Nat.testBit_xor, Nat.testBit_shiftLeft]
    simp
  have hshr : E.Q >>> 1 = lo.Q >>> 1 ^^^ (clMul k.C VP ^^^ clMul k.D VQ) <<< s := by
    rw [hq, Nat.shiftRight_xor_distrib, shl_succ_shr1]
  rw [eStep.eq_def idx E, hbit, hl, hshr, hp]
  unfold coefStep
  fun_cases eStep idx lo
  case case1 hd hl' =>
    rw [if_pos hd, if_pos hl', if_pos hd, if_pos hl']
    refine ⟨rfl, ?_, rfl⟩
    simp only [clMul_xor_left, clMul_double_left, Nat.shiftLeft_xor_distrib, shl1_shl]
    ac_rfl
  case case2 hd hl' =>
    rw [if_pos hd, if_neg hl', if_pos hd, if_neg hl']
    refine ⟨?_, ?_, rfl⟩
    · simp only [clMul_double_left, Nat.shiftLeft_xor_distrib, shl1_shl]
    · simp only [clMul_xor_left, clMul_double_left, Nat.shiftLeft_xor_distrib, shl1_shl]
      ac_rfl
  case case3 hd =>
    rw [if_neg hd, if_neg hd]
    refine ⟨?_, rfl, rfl⟩
    simp only [clMul_double_left, Nat.shiftLeft_xor_distrib, shl1_shl]

theorem sup_loop (r : Nat) : ∀ {s : Nat} {k : Coef} {VP VQ : Nat} {lo E : EState} (idx : Nat),
    Sup (s + r) k VP VQ lo E →
    Sup s (coefLoop r idx lo k) VP VQ (eLoop r idx lo) (eLoop r idx E) := by
  induction r with
  | zero => intro s k VP VQ lo E idx h; exact h
  | succ r ih => intro s k VP VQ lo E idx h; exact ih (idx + 1) (sup_step (s := s + r) h idx)

theorem sup_init (s p q VP VQ L : Nat) :
    Sup s coef0 VP VQ ⟨p, q, L⟩ ⟨p ^^^ VP <<< s, q ^^^ VQ <<< s, L⟩ := by
  constructor <;> simp [coef0, clMul_one_left, clMul_zero_left]

/-! ### locality: the low `m` bits after `r` steps depend on the low `m + r` bits only -/

structure EqMod (m : Nat) (e e' : EState) : Prop where
  p : e.P % 2 ^ m = e'.P % 2 ^ m
  q : e.Q % 2 ^ m = e'.Q % 2 ^ m
  l : e.L = e'.L

theorem mod_two_pow_of_le {a b m k : Nat} (h : a % 2 ^ m = b % 2 ^ m) (hk : k ≤ m) :
    a % 2 ^ k = b % 2 ^ k := by
  have hd : 2 ^ k ∣ 2 ^ m := Nat.pow_dvd_pow 2 hk
  rw [← Nat.mod_mod_of_dvd a hd, ← Nat.mod_mod_of_dvd b hd, h]

theorem EqMod.mono {m k : Nat} {e e' : EState} (h : EqMod m e e') (hk : k ≤ m) : EqMod k e e' :=
  ⟨mod_two_pow_of_le h.p hk, mod_two_pow_of_le h.q hk, h.l⟩

theorem EqMod.trans {m : Nat} {e e' e'' : EState} (h : EqMod m e e') (h' : EqMod m e' e'') :
    EqMod m e e'' :=
  ⟨h.p.trans h'.p, h.q.trans h'.q, h.l.trans h'.l⟩

theorem xor_shl_mod (a b m : Nat) : (a ^^^ b <<< m) % 2 ^ m = a % 2 ^ m := by
  rw [Nat.xor_mod_two_pow, Nat.shiftLeft_eq, Nat.mul_mod_left, Nat.xor_zero]

theorem mod_xor_shr (x s : Nat) : x % 2 ^ s ^^^ (x >>> s) <<< s = x := by
  rw [← add_two_pow_mul (Nat.mod_lt _ (Nat.two_pow_pos s)), Nat.shiftRight_eq_div_pow,
    Nat.mod_add_div]

/-- a machine rides above its own low `s` bits. -/
theorem sup_low (s : Nat) (e : EState) :
    Sup s coef0 (e.P >>> s) (e.Q >>> s) ⟨e.P % 2 ^ s, e.Q % 2 ^ s, e.L⟩ e := by
  have := sup_init s (e.P % 2 ^ s) (e.Q % 2 ^ s) (e.P >>> s) (e.Q >>> s) e.L
  rwa [mod_xor_shr, mod_xor_shr] at this

theorem eLoop_mod (r : Nat) {m : Nat} {e e' : EState} (i : Nat) (h : EqMod (m + r) e e') :
    EqMod m (eLoop r i e) (eLoop r i e') := by
  have h1 := sup_loop r i (sup_low (m + r) e)
  have h2 := sup_loop r i (sup_low (m + r) e')
  rw [← h.p, ← h.q, ← h.l] at h2
  exact ⟨by rw [h1.p, h2.p, xor_shl_mod, xor_shl_mod], by rw [h1.q, h2.q, xor_shl_mod, xor_shl_mod],
    h1.l.trans h2.l.symm⟩

theorem word_shr1 (w : UInt64) : (w >>> 1).toNat = w.toNat >>> 1 := by
  rw [UInt64.toNat_shiftRight]; rfl

theorem word_shr63 (w : UInt64) : (w >>> 63).toNat = w.toNat / 2 ^ 63 := by
  rw [UInt64.toNat_shiftRight, Nat.shiftRight_eq_div_pow]; rfl

theorem word_shl1 (w : UInt64) : (w <<< 1).toNat = (2 * w.toNat) % 2 ^ 64 := by
  rw [UInt64.toNat_shiftLeft]
  have e1 : (1 : UInt64).toNat % 64 = 1 := by decide
  rw [e1, Nat.shiftLeft_eq, Nat.pow_one, Nat.mul_comm]

/-- `a <<= 1` with `carry_a = a >> 63` loses nothing. -/
theorem word_shl1_carry (w : UInt64) : (w <<< 1).toNat + 2 ^ 64 * (w >>> 63).toNat = 2 * w.toNat := by
  have := w.toNat_lt
  rw [word_shl1, word_shr63]
  omega

theorem word_shl1_of_lt {w : UInt64} (h : w.toNat < 2 ^ 63) : (w <<< 1).toNat = 2 * w.toNat := by
  rw [word_shl1]
  omega

theorem word_xor_carry (x y cx cy : UInt64) :
    (x.toNat + 2 ^ 64 * cx.toNat) ^^^ (y.toNat + 2 ^ 64 * cy.toNat)
      = (x ^^^ y).toNat + 2 ^ 64 * (cx ^^^ cy).toNat := by
  rw [UInt64.toNat_xor, UInt64.toNat_xor, xor_split _ _ x.toNat_lt y.toNat_lt]

theorem carry_eq_zero {A a c : Nat} (h : A = a + 2 ^ 64 * c) (hA : A < 2 ^ 64) : c = 0 := by
  omega

/-- relation between the C++ inner-loop variables before iteration `i` and the eager machine on
the low words with its coefficients: `a`, `c` with their carries are `A`, `C` (degree `≤ i`), `b`,
`d` are `B`, `D` (degree `< i`, resp. `≤ i`: `D` starts at `1`). -/
structure IRel (i : Nat) (r : Inner) (E : EState) (k : Coef) : Prop where
  sb0 : r.sb0.toNat = E.P
  sc0 : r.sc0.toNat = E.Q
  len : r.len = E.L
  a : k.A = r.a.toNat + 2 ^ 64 * r.carryA.toNat
  b : k.B = r.b.toNat
  c : k.C = r.c.toNat + 2 ^ 64 * r.carryC.toNat
  d : k.D = r.d.toNat
  hA : k.A < 2 ^ (i + 1)
  hB : k.B < 2 ^ i
  hC : k.C < 2 ^ (i + 1)
  hD : k.D ≤ 2 ^ i

theorem innerStep_sim {i : Nat} {r : Inner} {E : EState} {k : Coef} (h : IRel i r E k)
    (hi : i < 64) (idx : Nat) : IRel (i + 1) (innerStep idx r) (eStep idx E) (coefStep idx E k) := by
  obtain ⟨hsb0, hsc0, hlen, ha, hb, hc, hd, hA, hB, hC, hD⟩ := h
  have hp : 2 ^ (i + 1) ≤ 2 ^ 64 := Nat.pow_le_pow_right Nat.two_pos hi
  -- degrees `≤ i < 64`: no pending carries before the step
  have hca := carry_eq_zero ha (Nat.lt_of_lt_of_le hA hp)
  have hcc := carry_eq_zero hc (Nat.lt_of_lt_of_le hC hp)
  rw [hca, Nat.mul_zero, Nat.add_zero] at ha
  rw [hcc] at hc
  replace hc : k.C = r.c.toNat + 2 ^ 64 * (0 : UInt64).toNat := hc
  have hsa : 2 * k.A = (r.a <<< 1).toNat + 2 ^ 64 * (r.a >>> 63).toNat := by
    rw [word_shl1_carry, ha]
  have hsb : 2 * k.B = (r.b <<< 1).toNat := by
    rw [word_shl1_of_lt, hb]
    exact hb ▸ Nat.lt_of_lt_of_le hB (Nat.pow_le_pow_right Nat.two_pos (Nat.le_of_lt_succ hi))
  have hbit : (r.sc0 &&& 1 = 1) ↔ E.Q.testBit 0 = true := by rw [word_and_one, hsc0]
  have hq : (r.sc0 >>> 1).toNat = E.Q >>> 1 := by rw [word_shr1, hsc0]
  have hA2 := two_mul_lt_two_pow_succ hA
  have hB2 := two_mul_lt_two_pow_succ hB
  have hC2 : k.C < 2 ^ (i + 1 + 1) := hC.trans (Nat.pow_lt_pow_succ Nat.one_lt_two)
  have hD2 : k.D < 2 ^ (i + 1) := Nat.lt_of_le_of_lt hD (Nat.pow_lt_pow_succ Nat.one_lt_two)
  unfold innerStep coefStep
  fun_cases eStep idx E
  case case1 hdisc hl =>
    rw [if_pos (hbit.2 hdisc), if_pos hdisc, hlen, if_pos hl, if_pos hl]
    refine ⟨hq, ?_, rfl, hc, hd, ?_, ?_, hC2, hD2, Nat.xor_lt_two_pow hA2 hC2,
      Nat.le_of_lt (Nat.xor_lt_two_pow hB2 hD2)⟩
    · exact (UInt64.toNat_xor ..).trans (congrArg₂ _ hsb0 hq)
    · exact (congrArg₂ _ hsa hc).trans (word_xor_carry ..)
    · exact (congrArg₂ _ hsb hd).trans (UInt64.toNat_xor ..).symm
  case case2 hdisc hl =>
    rw [if_pos (hbit.2 hdisc), if_pos hdisc, hlen, if_neg hl, if_neg hl]
    refine ⟨hsb0, ?_, hlen, hsa, hsb, ?_, ?_, hA2, hB2, Nat.xor_lt_two_pow hC2 hA2,
      Nat.le_of_lt (Nat.xor_lt_two_pow hD2 hB2)⟩
    · exact (UInt64.toNat_xor ..).trans (congrArg₂ _ hq hsb0)
    · exact (congrArg₂ _ hc hsa).trans (word_xor_carry ..)
    · exact (congrArg₂ _ hd hsb).trans (UInt64.toNat_xor ..).symm
  case case3 hdisc =>
    rw [if_neg (mt hbit.1 hdisc), if_neg hdisc]
    exact ⟨hsb0, hq, hlen, hsa, hsb, hc, hd, hA2, hB2, hC2, Nat.le_of_lt hD2⟩

theorem innerLoop_sim (n : Nat) : ∀ {i : Nat} {r : Inner} {E : EState} {k : Coef} (idx : Nat),
    IRel i r E k → i + n ≤ 64 →
    IRel (i + n) (innerLoop n idx r) (eLoop n idx E) (coefLoop n idx E k) := by
  induction n with
  | zero => intro i r E k idx h _; exact h
  | succ n ih =>
    intro i r E k idx h hn
    rw [show i + (n + 1) = i + 1 + n by omega]
    exact ih (idx + 1) (innerStep_sim h (by omega) idx) (by omega)

theorem irel_init (sb0 sc0 : UInt64) (L : Nat) :
    IRel 0 { sb0 := sb0, sc0 := sc0, a := 1, b := 0, c := 0, d := 1, carryA := 0, carryC := 0, len := L }
      ⟨sb0.toNat, sc0.toNat, L⟩ coef0 := by
  refine ⟨rfl, rfl, rfl, ?_, ?_, ?_, ?_, ?_, ?_, ?_, ?_⟩ <;> simp [coef0]

/-! ### the word loop with four `clmul`s

Values are kept in the normal form `w ^^^ V <<< 64` (a low word and the rest), in which the
assembly is xor/shift algebra up to associativity and commutativity. -/

theorem clmul_spec_xor (x y : UInt64) :
    clMul x.toNat y.toNat = (clmul x y).2.toNat ^^^ (clmul x y).1.toNat <<< 64 := by
  rw [← clmul_spec, add_two_pow_mul (clmul x y).2.toNat_lt]

theorem clAccum_val (x y : UInt64) : ∀ (n : Nat) (sbT scT t : Words), n ≤ sbT.length →
    n ≤ scT.length → n + 1 ≤ t.length →
    ∃ t', clAccum x y n sbT scT t = some t' ∧ t'.length = t.length ∧
      val (t'.take (n + 1)) = val (t.take (n + 1)) ^^^ clMul x.toNat (val (sbT.take n))
        ^^^ clMul y.toNat (val (scT.take n)) := by
  intro n
  induction n with
  | zero =>
    intro sbT scT t _ _ _
    exact ⟨t, rfl, rfl, by simp [clMul_zero_right]⟩
  | succ n ih =>
    intro sbT scT t h1 h2 h3
    match sbT, scT, t, h1, h2, h3 with
    | sbi :: sbT, sci :: scT, t0 :: t1 :: ts, h1, h2, h3 =>
      have e1 := clmul_spec_xor x sbi
      have e2 := clmul_spec_xor y sci
      rw [clAccum]
      -- the two products as opaque pairs `(hi, lo)`
      generalize clmul x sbi = c1 at e1 ⊢
      generalize clmul y sci = c2 at e2 ⊢
      obtain ⟨u, hu, hlen, hval⟩ := ih sbT scT ((t1 ^^^ c1.1 ^^^ c2.1) :: ts)
        (Nat.le_of_succ_le_succ h1) (Nat.le_of_succ_le_succ h2) (Nat.le_of_succ_le_succ h3)
      refine ⟨(t0 ^^^ c1.2 ^^^ c2.2) :: u, by rw [hu]; rfl, by rw [List.length_cons, hlen]; rfl, ?_⟩
      rw [List.take_succ_cons, val_cons_xor, hval]
      simp only [List.take_succ_cons, val_cons_xor, UInt64.toNat_xor, clMul_xor_right,
        clMul_shiftLeft_right, e1, e2]
      -- `64` as a variable: unifying `_ ^^^ _` with `_ <<< 64` would unfold the shift
      generalize (64 : Nat) = k
      simp only [Nat.shiftLeft_xor_distrib]
      ac_rfl

theorem val_replicate_zero (n : Nat) : val (List.replicate n (0 : UInt64)) = 0 := by
  induction n with
  | zero => rfl
  | succ n ih => rw [List.replicate_succ, val_cons, ih]; rfl

theorem zeroFirst_eq : ∀ (size : Nat) (t : Words), size ≤ t.length →
    zeroFirst size t = some (List.replicate size 0 ++ t.drop size)
  | 0, t, _ => rfl
  | size + 1, [], h => absurd h (Nat.not_succ_le_zero _)
  | size + 1, _ :: t, h => by
    rw [zeroFirst, zeroFirst_eq size t (Nat.le_of_succ_le_succ h)]
    rfl

/-- `t = carry ? sb : 0…0; t[0] = w0` on the live prefix of `s + 1` words, for a carry bit. -/
theorem clBase_val {carry : UInt64} (hc : carry.toNat ≤ 1) (w0 sb0 : UInt64) (s : Nat)
    (sbT t : Words) (ht : t.length = (sb0 :: sbT).length) (hs : s + 1 ≤ t.length) :
    ∃ t', clBase carry w0 (s + 1) (sb0 :: sbT) t = some t' ∧ t'.length = t.length ∧
      val (t'.take (s + 1)) = w0.toNat ^^^ clMul carry.toNat (val (sbT.take s)) <<< 64 := by
  unfold clBase
  by_cases h0 : carry = 0
  · rw [if_neg (not_not.2 h0), h0, zeroFirst_eq _ _ hs]
    refine ⟨w0 :: (List.replicate s 0 ++ t.drop (s + 1)), rfl, ?_, ?_⟩
    · simp only [List.length_cons, List.length_append, List.length_replicate, List.length_drop]
      omega
    · rw [List.take_succ_cons, val_cons_xor, List.take_left' (List.length_replicate ..),
        val_replicate_zero]
      rfl
  · have h1 : carry.toNat = 1 := by
      have := mt UInt64.toNat_inj.1 h0
      change carry.toNat ≠ 0 at this
      omega
    rw [if_pos h0, h1, clMul_one_left]
    exact ⟨w0 :: sbT, rfl, ht.symm, by rw [List.take_succ_cons, val_cons_xor]⟩

/-- everything after the inner loop: with `A = a + carry_a·X^64`, `C = c + carry_c·X^64` the new
vectors are, on the live prefixes, `sb0 ⊕ A⊛sbT ⊕ b⊛scT` and `sc0 ⊕ C⊛sbT ⊕ d⊛scT`. -/
theorem clAssemble_val {st : ClState} {sb0 sc0 : UInt64} {sbT scT : Words} {r : Inner} {W s : Nat}
    (hsb : st.sb = sb0 :: sbT) (hsc : st.sc = sc0 :: scT) (lsb : st.sb.length = W)
    (lsc : st.sc.length = W) (ltb : st.tb.length = W) (ltc : st.tc.length = W)
    (hs : st.size = s + 1) (hsW : s + 1 ≤ W) (hcA : r.carryA.toNat ≤ 1) (hcC : r.carryC.toNat ≤ 1) :
    ∃ st', clAssemble st sbT scT r = some st' ∧
      st'.sb.length = W ∧ st'.sc.length = W ∧ st'.tb.length = W ∧ st'.tc.length = W ∧
      st'.size = s ∧ st'.len = r.len ∧
      val (st'.sb.take (s + 1)) =
        r.sb0.toNat ^^^ clMul (r.a.toNat + 2 ^ 64 * r.carryA.toNat) (val (sbT.take s))
          ^^^ clMul r.b.toNat (val (scT.take s)) ∧
      val (st'.sc.take (s + 1)) =
        r.sc0.toNat ^^^ clMul (r.c.toNat + 2 ^ 64 * r.carryC.toNat) (val (sbT.take s))
          ^^^ clMul r.d.toNat (val (scT.take s)) := by
  have l1 : s ≤ sbT.length := by rw [hsb, List.length_cons] at lsb; omega
  have l2 : s ≤ scT.length := by rw [hsc, List.length_cons] at lsc; omega
  obtain ⟨tb, htb, hltb, hvb⟩ := clBase_val hcA r.sb0 sb0 s sbT st.tb
    (by rw [ltb, ← hsb, lsb]) (by rw [ltb]; exact hsW)
  obtain ⟨tc, htc, hltc, hvc⟩ := clBase_val hcC r.sc0 sb0 s sbT st.tc
    (by rw [ltc, ← hsb, lsb]) (by rw [ltc]; exact hsW)
  obtain ⟨tb', htb', hlb, hvb'⟩ := clAccum_val r.a r.b s sbT scT tb l1 l2 (by rw [hltb, ltb]; exact hsW)
  obtain ⟨tc', htc', hlc, hvc'⟩ := clAccum_val r.c r.d s sbT scT tc l1 l2 (by rw [hltc, ltc]; exact hsW)
  have hpoly : ∀ (a c : UInt64) (V : Nat), clMul (a.toNat + 2 ^ 64 * c.toNat) V
      = clMul c.toNat V <<< 64 ^^^ clMul a.toNat V := fun a c V => by
    rw [add_two_pow_mul a.toNat_lt, clMul_xor_left, clMul_shiftLeft_left, Nat.xor_comm]
  refine ⟨{ sb := tb', sc := tc', tb := st.sb, tc := st.sc, len := r.len, size := st.size - 1 },
    ?_, hlb.trans (hltb.trans ltb), hlc.trans (hltc.trans ltc), lsb, lsc,
    by rw [hs]; rfl, rfl, ?_, ?_⟩
  · unfold clAssemble
    rw [hs, hsb, htb, htc]
    show (match clAccum r.a r.b s sbT scT tb, clAccum r.c r.d s sbT scT tc with
      | some tb', some tc' => _ | _, _ => none) = _
    rw [htb', htc', ← hsb, ← hs]
  · show val (tb'.take (s + 1)) = _
    rw [hvb', hvb, hpoly, Nat.xor_assoc r.sb0.toNat]
  · show val (tc'.take (s + 1)) = _
    rw [hvc', hvc, hpoly, Nat.xor_assoc r.sc0.toNat]

theorem add_mul_mod_mul {w a : Nat} (V b : Nat) (hw : w < a) :
    (w + a * V) % (a * b) = w + a * (V % b) := by
  rw [Nat.mod_mul, Nat.add_mul_mod_self_left, Nat.mod_eq_of_lt hw,
    Nat.add_mul_div_left _ _ (Nat.zero_lt_of_lt hw), Nat.div_eq_of_lt hw, Nat.zero_add]

theorem val_take : ∀ (l : Words) (m : Nat), val (l.take m) = val l % 2 ^ (64 * m)
  | l, 0 => by simp [Nat.mod_one]
  | [], m + 1 => by simp
  | w :: l, m + 1 => by
    rw [List.take_succ_cons, val_cons, val_cons, val_take l m, Nat.mul_succ, Nat.add_comm (64 * m),
      Nat.pow_add, add_mul_mod_mul _ _ w.toNat_lt]

theorem eqMod_head (w w' : UInt64) (ws ws' : Words) (s L : Nat) :
    EqMod 64 ⟨w.toNat, w'.toNat, L⟩ ⟨val ((w :: ws).take (s + 1)), val ((w' :: ws').take (s + 1)), L⟩ := by
  refine ⟨?_, ?_, rfl⟩
  · show w.toNat % 2 ^ 64 = val ((w :: ws).take (s + 1)) % 2 ^ 64
    rw [List.take_succ_cons, val_cons, Nat.add_mul_mod_self_left]
  · show w'.toNat % 2 ^ 64 = val ((w' :: ws').take (s + 1)) % 2 ^ 64
    rw [List.take_succ_cons, val_cons, Nat.add_mul_mod_self_left]

theorem carry_le_one {A a c : Nat} (h : A = a + 2 ^ 64 * c) (hA : A < 2 ^ (64 + 1)) : c ≤ 1 := by
  rw [Nat.pow_succ] at hA
  omega

/-- **one block on the value of the live prefix**: the inner bit loop on the low words, the
assembly with four `clmul`s per word, the swap and `size--` are in bounds and turn the value of
the live prefix (`s + 1` words) into the registers after 64 steps of the eager machine on it. The
low words alone drive the decisions, and the higher words ride along with the coefficients of that
run (`sup_loop`), which is what the word loop assembles. -/
theorem clBlock_val {st : ClState} {W s : Nat} (j : Nat) (lsb : st.sb.length = W)
    (lsc : st.sc.length = W) (ltb : st.tb.length = W) (ltc : st.tc.length = W)
    (hs : st.size = s + 1) (hsW : s + 1 ≤ W) :
    ∃ st', clBlock j st = some st' ∧
      st'.sb.length = W ∧ st'.sc.length = W ∧ st'.tb.length = W ∧ st'.tc.length = W ∧
      st'.size = s ∧
      (eLoop 64 j ⟨val (st.sb.take (s + 1)), val (st.sc.take (s + 1)), st.len⟩).P
        = val (st'.sb.take (s + 1)) ∧
      (eLoop 64 j ⟨val (st.sb.take (s + 1)), val (st.sc.take (s + 1)), st.len⟩).Q
        = val (st'.sc.take (s + 1)) ∧
      (eLoop 64 j ⟨val (st.sb.take (s + 1)), val (st.sc.take (s + 1)), st.len⟩).L = st'.len := by
  obtain ⟨sb0, sbT, hsb⟩ := List.exists_cons_of_length_pos (l := st.sb) (by omega)
  obtain ⟨sc0, scT, hsc⟩ := List.exists_cons_of_length_pos (l := st.sc) (by omega)
  -- the inner loop is the eager machine on the low words, with coefficients `k`
  have hir := innerLoop_sim 64 j (irel_init sb0 sc0 st.len) (Nat.le_refl _)
  -- the higher words ride along with these coefficients
  have hsup := sup_loop 64 (s := 0) j
    (sup_init (0 + 64) sb0.toNat sc0.toNat (val (sbT.take s)) (val (scT.take s)) st.len)
  rw [Nat.zero_add] at hir hsup
  generalize coefLoop 64 j ⟨sb0.toNat, sc0.toNat, st.len⟩ coef0 = k at hir hsup
  obtain ⟨st', hst', l1, l2, l3, l4, hsz, hlen, hvb, hvc⟩ := clAssemble_val hsb hsc lsb lsc
    ltb ltc hs hsW (carry_le_one hir.a hir.hA) (carry_le_one hir.c hir.hC)
  refine ⟨st', ?_, l1, l2, l3, l4, hsz, ?_, ?_, ?_⟩
  · rw [clBlock, hsb, hsc]
    exact hst'
  · rw [hvb, hsb, hsc, List.take_succ_cons, List.take_succ_cons, val_cons_xor, val_cons_xor,
      hsup.p, ← hir.a, ← hir.b, hir.sb0, Nat.shiftLeft_zero, Nat.xor_assoc]
  · rw [hvc, hsb, hsc, List.take_succ_cons, List.take_succ_cons, val_cons_xor, val_cons_xor,
      hsup.q, ← hir.c, ← hir.d, hir.sc0, Nat.shiftLeft_zero, Nat.xor_assoc]
  · rw [hsb, hsc, List.take_succ_cons, List.take_succ_cons, val_cons_xor, val_cons_xor,
      hsup.l, ← hir.len, hlen]

/-- invariant of the outer loop after `blk` blocks: on the live prefix (`size` words) the
vectors are the registers of the eager machine modulo `2^(64·size)`. -/
structure ClRel (W blk : Nat) (st : ClState) (E : EState) : Prop where
  lsb : st.sb.length = W
  lsc : st.sc.length = W
  ltb : st.tb.length = W
  ltc : st.tc.length = W
  size : st.size + blk = W
  eq : EqMod (64 * st.size) ⟨val (st.sb.take st.size), val (st.sc.take st.size), st.len⟩ E

theorem val_take_take (l : Words) (s : Nat) :
    val (l.take s) = val (l.take (s + 1)) % 2 ^ (64 * s) := by
  rw [← val_take, List.take_take, Nat.min_eq_left (Nat.le_succ s)]

/-- **the 64-step block invariant**: one iteration of the outer CLMUL loop (inner bit loop on the
low words, coefficient polynomials with carries, four `clmul`s per word, swap, `size--`) equals
64 applications of `eStep` — i.e. of the `LinearComplexityNative` step — on the registers; the
top word of the old live prefix is dead afterwards (`eLoop_mod`). -/
theorem clBlock_sim {W blk : Nat} {st : ClState} {E : EState} (h : ClRel W blk st E)
    (hs : 1 ≤ st.size) :
    ∃ st', clBlock (64 * blk) st = some st' ∧ ClRel W (blk + 1) st' (eLoop 64 (64 * blk) E) := by
  obtain ⟨lsb, lsc, ltb, ltc, hsize, heq⟩ := h
  obtain ⟨s, hs'⟩ : ∃ s, st.size = s + 1 := ⟨st.size - 1, by omega⟩
  rw [hs', Nat.mul_succ] at heq
  obtain ⟨st', hst', l1, l2, l3, l4, hsz, hP, hQ, hL⟩ :=
    clBlock_val (64 * blk) lsb lsc ltb ltc hs' (by omega)
  have hmod := eLoop_mod 64 (64 * blk) heq
  refine ⟨st', hst', l1, l2, l3, l4, by omega, ?_⟩
  rw [hsz]
  refine ⟨?_, ?_, hL ▸ hmod.l⟩
  · show val (st'.sb.take s) % _ = _
    rw [val_take_take, Nat.mod_mod, ← hP]
    exact hmod.p
  · show val (st'.sc.take s) % _ = _
    rw [val_take_take, Nat.mod_mod, ← hQ]
    exact hmod.q

theorem eLoop_add (a : Nat) : ∀ (b i : Nat) (e : EState),
    eLoop (a + b) i e = eLoop b (i + a) (eLoop a i e) := by
  induction a with
  | zero => intro b i e; rw [Nat.zero_add]; rfl
  | succ a ih =>
    intro b i e
    rw [show a + 1 + b = (a + b) + 1 by omega]
    show eLoop (a + b) (i + 1) (eStep i e) = eLoop b (i + (a + 1)) (eLoop a (i + 1) (eStep i e))
    rw [ih, show i + 1 + a = i + (a + 1) by omega]

theorem clBlocks_sim {W : Nat} (m : Nat) : ∀ {blk : Nat} {st : ClState} {E : EState},
    ClRel W blk st E → blk + m ≤ W →
    ∃ st', clBlocks m (64 * blk) st = some st' ∧
      ClRel W (blk + m) st' (eLoop (64 * m) (64 * blk) E) := by
  induction m with
  | zero => intro blk st E h _; exact ⟨st, rfl, h⟩
  | succ m ih =>
    intro blk st E h hm
    obtain ⟨st1, h1, hr1⟩ := clBlock_sim h (by have := h.size; omega)
    obtain ⟨st2, h2, hr2⟩ := ih hr1 (by omega)
    refine ⟨st2, ?_, ?_⟩
    · rw [clBlocks, h1]
      exact h2
    · rw [show 64 * (m + 1) = 64 + 64 * m by omega, eLoop_add,
        show blk + (m + 1) = blk + 1 + m by omega]
      exact hr2

structure TRel (r : Tail) (e : EState) : Prop where
  sb0 : r.sb0.toNat = e.P
  sc0 : r.sc0.toNat = e.Q
  len : r.len = e.L

theorem tailStep_sim {r : Tail} {e : EState} (h : TRel r e) (i : Nat) :
    TRel (tailStep i r) (eStep i e) := by
  have hbit : (r.sc0 &&& 1 = 1) ↔ e.Q.testBit 0 = true := by rw [word_and_one, h.sc0]
  have hq : (r.sc0 >>> 1).toNat = e.Q >>> 1 := by rw [word_shr1, h.sc0]
  unfold tailStep
  rw [h.len]
  fun_cases eStep i e
  case case1 hd hl =>
    rw [if_pos (hbit.2 hd), if_pos hl]
    exact ⟨hq, (UInt64.toNat_xor ..).trans (congrArg₂ _ h.sb0 hq), rfl⟩
  case case2 hd hl =>
    rw [if_pos (hbit.2 hd), if_neg hl]
    exact ⟨h.sb0, (UInt64.toNat_xor ..).trans (congrArg₂ _ hq h.sb0), rfl⟩
  case case3 hd =>
    rw [if_neg (mt hbit.1 hd)]
    exact ⟨h.sb0, hq, rfl⟩

theorem tailLoop_sim (k : Nat) : ∀ {r : Tail} {e : EState} (i : Nat), TRel r e →
    TRel (tailLoop k i r) (eLoop k i e) := by
  induction k with
  | zero => intro r e i h; exact h
  | succ k ih => intro r e i h; exact ih (i + 1) (tailStep_sim h i)

/-- **CLMUL simulation theorem** (word vectors): for every word vector and every `n` that fits
(`n ≤ 64·seq.size()`), the CLMUL `LfsrLengthImpl` performs no out-of-bounds access and returns
`LinearComplexityNative(val seq, n)`. -/
theorem lfsrLengthImplClmul_eq (seq : Words) (n : Nat) (h : n ≤ 64 * seq.length) :
    lfsrLengthImplClmul seq n = some (bmLength (val seq) n) := by
  unfold lfsrLengthImplClmul
  by_cases h0 : n = 0
  · rw [if_pos h0, h0]; rfl
  rw [if_neg h0]
  have hW : 0 < seq.length := by omega
  have hblk : 0 + n / 64 ≤ seq.length := by omega
  have hr : n % 64 < 64 := Nat.mod_lt _ (by decide)
  have hinit : ClRel seq.length 0
      { sb := seq, sc := seq, tb := List.replicate seq.length 0, tc := List.replicate seq.length 0,
        len := 0, size := seq.length } ⟨val seq, val seq, 0⟩ :=
    ⟨rfl, rfl, List.length_replicate .., List.length_replicate .., rfl,
      by simp only [List.take_length]; exact ⟨rfl, rfl, rfl⟩⟩
  obtain ⟨st, hst, lsb, lsc, _, _, hsize, heq⟩ := clBlocks_sim (n / 64) hinit hblk
  clear hinit
  rw [Nat.mul_zero] at hst heq
  rw [hst]
  obtain ⟨sb0, sbT, hsb⟩ := List.exists_cons_of_length_pos (lsb ▸ hW)
  obtain ⟨sc0, scT, hsc⟩ := List.exists_cons_of_length_pos (lsc ▸ hW)
  -- the tail loop reads the low words, which hold the low `n % 64 ≤ 64·size` bits of the registers
  have hlow : EqMod (n % 64) ⟨sb0.toNat, sc0.toNat, st.len⟩
      (eLoop (64 * (n / 64)) 0 ⟨val seq, val seq, 0⟩) := by
    rcases Nat.eq_zero_or_pos st.size with hs | hs
    · rw [show n % 64 = 0 by omega]
      exact ⟨by rw [Nat.pow_zero, Nat.mod_one, Nat.mod_one],
        by rw [Nat.pow_zero, Nat.mod_one, Nat.mod_one], heq.l⟩
    · obtain ⟨s, hs'⟩ := Nat.exists_eq_add_one.2 hs
      rw [hs', hsb, hsc] at heq
      exact ((eqMod_head sb0 sc0 sbT scT s st.len).mono (Nat.le_of_lt hr)).trans
        (heq.mono (Nat.le_trans (Nat.le_of_lt hr) (Nat.le_mul_of_pos_right 64 (Nat.succ_pos s))))
  show clTail n st = _
  rw [clTail, hsb, hsc]
  show some (tailLoop (n % 64) (n - n % 64) ⟨sb0, sc0, st.len⟩).len = _
  rw [(tailLoop_sim (n % 64) (n - n % 64) (r := ⟨sb0, sc0, st.len⟩)
    (e := ⟨sb0.toNat, sc0.toNat, st.len⟩) ⟨rfl, rfl, rfl⟩).len,
    (eLoop_mod (n % 64) (m := 0) (n - n % 64) (by rwa [Nat.zero_add])).l,
    show n - n % 64 = 0 + 64 * (n / 64) by omega, ← eLoop_add, ← eLoop_L,
    show 64 * (n / 64) + n % 64 = n from Nat.div_add_mod n 64]

/-- the two simulation theorems behind one statement about the bytes `LfsrLength` is given: what
Proofs/BMWrapper.lean and Props/C14Cpp.lean build on. -/
theorem lfsrLengthImpl_wordsOfBytes (v : Variant) (seq : List UInt8) (n : Nat)
    (h : n ≤ 8 * seq.length) :
    lfsrLengthImpl v (wordsOfBytes seq) n = some (bmLength (natOfBytes seq) n) := by
  have hl := length_wordsOfBytes seq
  rw [← val_wordsOfBytes]
  cases v with
  | portable =>
    refine lfsrLengthImplPortable_eq _ _ (Classical.or_iff_not_imp_left.2 fun h0 he => ?_)
    rw [he, List.length_nil] at hl
    omega
  | clmul => exact lfsrLengthImplClmul_eq _ _ (by omega)

end Paranoid.BMCpp
