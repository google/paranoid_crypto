/-
Proofs/C08ChainAny.lean — helper lemmas for Props/C08ChainAny.lean.

 * the key position of the planted row carries ANY integer representative `x ≡ d (mod n)`;
   `lll.reduce` size-reduces that coordinate against the lattice vector `(0, n, 0, …, 0)`, so on
   the real code it is the CENTRED representative (`centeredRep`: `d` for `2d ≤ n`, else `d − n`).
 * `biasBound` (the entry bound `B(bits) = 2^(bl − bits)·w`, strictly decreasing in `bits`) and
   `ScaleShort` (the comparison of that bound with the scale of the OTHER reduced basis vectors,
   `(det / known short vectors)^(1/M)`): implied by the margin `r·bl + 2M ≤ M·bits`
   (`scaleShort_of_margin`), and FALSE without bias (`scaleShort_needs_bias`: it forces
   `bl < M·bits`).
-/
import ParanoidModel.Proofs.C08ChainCheck
import Mathlib.Tactic.Ring
import Mathlib.Tactic.Linarith

namespace Paranoid.C08Chain
open Paranoid Paranoid.Hnp Paranoid.Ec Paranoid.EcdsaChecks

/-! ### representatives of the key -/

/-- the representative of `d mod n` in `(−n/2, n/2]`: what size reduction against `(0, n, 0, …)`
leaves in the key position. -/
def centeredRep (d n : Nat) : Int := if 2 * d ≤ n then (d : Int) else (d : Int) - n

theorem centeredRep_modEq (d n : Nat) : centeredRep d n ≡ (d : Int) [ZMOD (n : Int)] := by
  unfold centeredRep
  split
  · exact Int.ModEq.refl _
  · simp

theorem centeredRep_abs (d n : Nat) (hd : d < n) : 2 * |centeredRep d n| ≤ (n : Int) := by
  unfold centeredRep
  split
  · rename_i h
    rw [abs_of_nonneg (by omega)]
    exact_mod_cast h
  · rename_i h
    rw [abs_of_neg (by omega)]
    omega

/-- the two representatives that occur: `d` and `d − n`. -/
def keyReps (d n : Nat) : List Int := [(d : Int), (d : Int) - n]

theorem centeredRep_mem (d n : Nat) : centeredRep d n ∈ keyReps d n := by
  unfold centeredRep keyReps; split <;> simp

theorem keyReps_modEq (d n : Nat) : ∀ x ∈ keyReps d n, x ≡ (d : Int) [ZMOD (n : Int)] := by
  intro x hx
  simp only [keyReps, List.mem_cons, List.not_mem_nil, or_false] at hx
  rcases hx with rfl | rfl
  · exact Int.ModEq.refl _
  · simp

/-! ### the entry bound and the scale it has to beat -/

/-- `B(bits) = 2^(bit_length(n) − bits)·w`: the bound on the tail entries of the planted row when
`bits` bits of every nonce are biased. -/
def biasBound (n bits : Nat) (w : Int) : Int := 2 ^ (bitLength n - bits) * w

/-- `B` strictly decreases with the number of biased bits (up to `bit_length(n)`). -/
theorem biasBound_strictAnti (n bits bits' : Nat) (w : Int) (hw : 0 < w) (h : bits < bits')
    (h' : bits' ≤ bitLength n) : biasBound n bits' w < biasBound n bits w := by
  unfold biasBound
  apply mul_lt_mul_of_pos_right _ hw
  have : bitLength n - bits' < bitLength n - bits := by omega
  exact_mod_cast Nat.pow_lt_pow_right (by norm_num : 1 < 2) this

/-- **the shortness comparison** (interface for a future Lovász argument; NOT used by any proof of
detection here).  `M` = number of tail coordinates that count (`len` for MSB and the LCG lattices,
`len − 1` for the prefix shapes, where one dimension is spent on the common part), `r` = number of
known short lattice vectors that do not help (`(0, n, 0, …)`: `r = 1`; GENERALIZED also has
`(n, 0, …)`: `r = 2`), `B` = bound on the tail entries DIVIDED by the weight `w`.

`(2B)^M < n^(M−r)`, i.e. `2·B·w < (n^(M−r)·w^M)^(1/M)`: the tail of the planted row is shorter, by a
factor 2 per coordinate, than the scale of the reduced basis vectors other than the known short
ones (their Gram–Schmidt norms multiply to the determinant `n^(M−r)·w^M` of the tail lattice — on a
real secp256r1 MSB run with 10 signatures and 64 zero bits: planted tail 2^240, the other rows
2^277 = n^(9/10)·2^48). -/
def ScaleShort (n M r : Nat) (B : Int) : Prop := (2 * B) ^ M < (n : Int) ^ (M - r)

instance (n M r : Nat) (B : Int) : Decidable (ScaleShort n M r B) := by
  unfold ScaleShort; infer_instance

theorem scaleShort_pow (n M r e : Nat) :
    ScaleShort n M r (2 ^ e) ↔ 2 ^ (M * (e + 1)) < n ^ (M - r) := by
  unfold ScaleShort
  have : (2 * (2 : Int) ^ e) ^ M = ((2 ^ (M * (e + 1)) : Nat) : Int) := by
    push_cast
    rw [pow_mul', ← pow_succ']
  rw [this]
  exact_mod_cast Iff.rfl

/-- the arithmetic of `scaleShort_of_margin`: with `bl = bits + k ≥ 1` the margin forces `r ≤ M` and
gives `M·(k+1) ≤ (M−r)·bl − M < (M−r)·(bl−1)`. -/
theorem margin_exponent (M r bits k : Nat) (hr : 1 ≤ r) (hb : 1 ≤ bits + k)
    (h : r * (bits + k) + 2 * M ≤ M * bits) : M * (k + 1) < (bits + k - 1) * (M - r) := by
  have hrM : r ≤ M := Nat.le_of_mul_le_mul_right
    (le_trans (Nat.le_add_right _ _) (h.trans (Nat.mul_le_mul_left M (Nat.le_add_right bits k)))) hb
  obtain ⟨t, rfl⟩ := Nat.exists_eq_add_of_le hrM
  obtain ⟨c, hc⟩ := Nat.exists_eq_add_of_le hb
  rw [hc, Nat.add_sub_cancel_left, Nat.add_sub_cancel_left]
  have h1 : r * (bits + k) = r * (1 + c) := by rw [hc]
  have h2 : t * (bits + k) = t * (1 + c) := by rw [hc]
  linarith [h, h1, h2]

/-- **bias ⇒ short.**  `1 ≤ r`, `bits ≤ bl`, and the margin `r·bl + 2·M ≤ M·bits` (which forces
`r ≤ M`) give `ScaleShort n M r 2^(bl − bits)`.  (MSB, `r = 1`, `M = len`: implied by the property's
premise `len·bits ≥ 2·bl` as soon as `2·len ≤ bl`, `msb_margin_of_property`.) -/
theorem scaleShort_of_margin (n M r bits : Nat) (hn : n ≠ 0) (hr : 1 ≤ r)
    (hbits : bits ≤ bitLength n) (h : r * bitLength n + 2 * M ≤ M * bits) :
    ScaleShort n M r (2 ^ (bitLength n - bits)) := by
  rw [scaleShort_pow]
  have h1 : (2 ^ (bitLength n - 1)) ^ (M - r) ≤ n ^ (M - r) :=
    Nat.pow_le_pow_left (two_pow_le_of_bitLength n hn) _
  rw [← pow_mul] at h1
  refine lt_of_lt_of_le (Nat.pow_lt_pow_right (by norm_num) ?_) h1
  have hbl := Nat.pos_of_ne_zero (bitLength_ne_zero hn)
  obtain ⟨k, hk⟩ := Nat.exists_eq_add_of_le hbits
  rw [hk] at h hbl ⊢
  rw [Nat.add_sub_cancel_left]
  exact margin_exponent M r bits k hr hbl h

/-- **short ⇒ bias** (why the bias hypothesis is not decorative in a statement that carries
`ScaleShort`): the comparison forces `bl < M·bits`; in particular it is FALSE for `bits = 0`. -/
theorem scaleShort_needs_bias (n M r bits : Nat) (hr : 1 ≤ r)
    (h : ScaleShort n M r (2 ^ (bitLength n - bits))) : bitLength n < M * bits := by
  rw [scaleShort_pow] at h
  have h1 : n ^ (M - r) ≤ (2 ^ bitLength n) ^ (M - r) :=
    Nat.pow_le_pow_left (lt_two_pow_bitLength n).le _
  rw [← pow_mul] at h1
  have h2 := (Nat.pow_lt_pow_iff_right (by norm_num : 1 < 2)).mp (lt_of_lt_of_le h h1)
  by_cases hb : bits ≤ bitLength n
  · obtain ⟨k, hk⟩ : ∃ k, bitLength n = bits + k := ⟨bitLength n - bits, by omega⟩
    have e1 : bitLength n - bits = k := by omega
    rw [e1] at h2
    have hM : 1 ≤ M := by
      by_contra h0
      have : M = 0 := by omega
      subst this; simp at h2
    obtain ⟨t, ht⟩ : ∃ t, M = 1 + t := ⟨M - 1, by omega⟩
    have h3 : bitLength n * (M - r) ≤ bitLength n * t :=
      Nat.mul_le_mul_left _ (by omega)
    have h4 : M * (k + 1) = M * k + M := by ring
    have h5 : M * bitLength n = M * bits + M * k := by rw [hk]; ring
    have h6 : M * bitLength n = bitLength n + bitLength n * t := by rw [ht]; ring
    omega
  · have hM : 1 ≤ M := by
      by_contra h0
      have : M = 0 := by omega
      subst this; simp at h2
    have : bits ≤ M * bits := Nat.le_mul_of_pos_left _ hM
    omega

/-- the property's premise `len·bits ≥ 2·bl` gives the MSB margin when `2·len ≤ bl` (every window
the checks cut has at most 120 values; the supported curves have `bl ≥ 192`… for windows of more
than `bl/2` values use the margin itself). -/
theorem msb_margin_of_property (bl len bits : Nat) (h : 2 * bl ≤ len * bits) (h2 : 2 * len ≤ bl) :
    1 * bl + 2 * len ≤ len * bits := by omega

/-- **the weight side of shortness** (decidable; what fails in known finding D23): the reduced
basis vectors other than `(0, n, 0, …)` have a key coordinate up to `n/2` and a tail of scale
`n^((M−r)/M)·w`; the key coordinate `|x| ≤ n/2` of the planted row survives size reduction only if
those vectors are not shorter than `n`, i.e. `n^r·2^M ≤ w^M`. -/
def WeightOK (n M r : Nat) (w : Int) : Prop := (n : Int) ^ r * 2 ^ M ≤ w ^ M

instance (n M r : Nat) (w : Int) : Decidable (WeightOK n M r w) := by
  unfold WeightOK; infer_instance

/-- tail entries below `B(bits)` (absolute values). -/
theorem target_bound_bias (es : List Int) (n bits : Nat) (w : Int) (hw : 0 < w)
    (hB : ∀ e ∈ es, |e| < 2 ^ (bitLength n - bits)) :
    ∀ v ∈ es.map (· * w), |v| < biasBound n bits w :=
  target_bound es w _ hw hB

/-! ### Cr50: the digit bound against the determinant -/

/-- the Cr50 lattice has dimension `D = 2·words + 2` and determinant `256·n` (unit diagonal, then
`256`, `n`); a row all of whose entries are at most `Bd` in absolute value is short when
`(2·Bd)^D < 256·n`, i.e. `2·Bd < det^(1/D)`. -/
def Cr50Short (n Bd : Nat) : Prop := (2 * Bd) ^ (2 * ((bitLength n + 31) / 32) + 2) < 256 * n

instance (n Bd : Nat) : Decidable (Cr50Short n Bd) := by unfold Cr50Short; infer_instance

/-- byte digits (`Bd = 256`: 24 of every 32 nonce bits are determined) are short on every curve
whose order length is a positive multiple of 32 … -/
theorem cr50Short_bytes (n : Nat) (hn : n ≠ 0) (hbl : bitLength n % 32 = 0) : Cr50Short n 256 := by
  unfold Cr50Short
  have hpos := Nat.pos_of_ne_zero (bitLength_ne_zero hn)
  obtain ⟨q, hq⟩ : ∃ q, bitLength n = 32 * q := ⟨bitLength n / 32, by omega⟩
  have hq1 : 1 ≤ q := by omega
  have e : (bitLength n + 31) / 32 = q := by omega
  rw [e]
  have h1 := two_pow_le_of_bitLength n hn
  have h2 : (2 * 256) ^ (2 * q + 2) = 2 ^ (18 * q + 18) := by
    rw [show (2 * 256 : Nat) = 2 ^ 9 by norm_num, ← pow_mul]; congr 1; ring
  rw [h2]
  have h3 : 2 ^ (18 * q + 18) < 2 ^ (8 + (bitLength n - 1)) :=
    Nat.pow_lt_pow_right (by norm_num) (by omega)
  have h4 : 2 ^ (8 + (bitLength n - 1)) = 256 * 2 ^ (bitLength n - 1) := by
    rw [pow_add]; norm_num
  rw [h4] at h3
  exact lt_of_lt_of_le h3 (Nat.mul_le_mul_left _ h1)

/-- … and unbiased 32-bit words (`Bd = 2^32`) are not. -/
theorem cr50Short_words_false (n : Nat) : ¬ Cr50Short n (2 ^ 32) := by
  unfold Cr50Short
  intro h
  have h1 := lt_two_pow_bitLength n
  have h2 : (2 * 2 ^ 32) ^ (2 * ((bitLength n + 31) / 32) + 2) =
      2 ^ (66 * ((bitLength n + 31) / 32) + 66) := by
    rw [show (2 * 2 ^ 32 : Nat) = 2 ^ 33 by norm_num, ← pow_mul]; congr 1; ring
  rw [h2] at h
  have h3 : 256 * n < 2 ^ (8 + bitLength n) := by
    rw [pow_add]; norm_num; omega
  have := (Nat.pow_lt_pow_iff_right (by norm_num : 1 < 2)).mp (lt_trans h h3)
  omega

end Paranoid.C08Chain
