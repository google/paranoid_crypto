/-
Proofs/LinAlg.lean — helper lemmas for the linear-algebra part of C19
(`upper_triangular_solve`, `echelon_form`, `solve_right` of linalg_util.py; Model/LinAlg.lean).

Contents: `PyQ` (gmpy2.mpq) ↦ ℚ; `dotQ`; soundness/totality of `upperTriangularSolve`;
row moves (`pop`/`insert`) as permutations, and on a list written `A ++ x :: B ++ C`
(`moveRow_mid`); for each step function of the model one lemma saying what a successful call read
and wrote (`moveRows_ok`, `elimRow_ok`, `divRow_ok`), then its effect on the equations
(`elimRow_spec`, `divRow_spec`); the loop invariant `Inv` on the matrix written
`U ++ P ++ M ++ Z` (finished, visited, still to visit, retired rows) with one lemma per thing a
step does to that decomposition (`advance`, `retire`, `rotate`, `promote`, `restart`), `BadInv`
for the tail with too few live rows, up to the final state of `echelonRun .repaired`
(`echelonRun_inv`); uniqueness for triangular systems (`final_unique`);
`sat_set_iff` (replacing one equation by an equivalent one), which Props/C19.lean uses for the
two-sided "same solution set" statements.
-/
import ParanoidModel.Model.LinAlg
import Mathlib.Tactic.Ring
import Mathlib.Data.Rat.Defs
import Mathlib.Data.Nat.Cast.Field
import Mathlib.Data.Int.Cast.Field
import Mathlib.Algebra.Order.Field.Rat
import Mathlib.Data.List.Forall2
import Mathlib.Data.List.Perm.Basic
import Mathlib.Tactic.LinearCombination

namespace Paranoid.LA

def PyQ.toRat (q : PyQ) : ℚ := (q.num : ℚ) / (q.den : ℚ)

/-- well-formed: positive denominator. -/
def PyQ.WF (q : PyQ) : Prop := q.den ≠ 0

theorem PyQ.norm_spec (n d : Int) (hd : d ≠ 0) :
    (PyQ.norm n d).WF ∧ (PyQ.norm n d).toRat = (n : ℚ) / (d : ℚ) := by
  have hg : 0 < Int.gcd n d := Int.gcd_pos_of_ne_zero_right _ hd
  have hgn : ((Int.gcd n d : Nat) : Int) ∣ n := Int.gcd_dvd_left n d
  have hgd : (Int.gcd n d : Nat) ∣ d.natAbs := Int.gcd_dvd_natAbs_right n d
  have hgq : ((Int.gcd n d : Nat) : ℚ) ≠ 0 := Nat.cast_ne_zero.2 hg.ne'
  refine ⟨(Nat.div_pos (Nat.le_of_dvd (Int.natAbs_pos.mpr hd) hgd) hg).ne', ?_⟩
  have hnum : ∀ m : Int, ((Int.gcd n d : Nat) : Int) ∣ m →
      (((m / ((Int.gcd n d : Nat) : Int) : Int)) : ℚ) = (m : ℚ) / ((Int.gcd n d : Nat) : ℚ) :=
    fun m hm => by rw [Int.cast_div hm (Int.cast_ne_zero.2 (Int.natCast_ne_zero.2 hg.ne')), Int.cast_natCast]
  unfold PyQ.toRat PyQ.norm
  dsimp only
  rw [Nat.cast_div hgd hgq, Nat.cast_natAbs, Int.cast_abs]
  split
  · rename_i h
    rw [hnum _ ((Int.dvd_neg).mpr hgn), div_div_div_cancel_right₀ hgq, abs_of_neg (Int.cast_lt_zero.2 h),
      Int.cast_neg, neg_div_neg_eq]
  · rename_i h
    rw [hnum _ hgn, div_div_div_cancel_right₀ hgq, abs_of_nonneg (Int.cast_nonneg (Int.not_lt.1 h))]

theorem PyQ.toRat_norm {n d : Int} (hd : d ≠ 0) : (PyQ.norm n d).toRat = (n : ℚ) / (d : ℚ) :=
  (PyQ.norm_spec n d hd).2

theorem PyQ.ofInt_spec (n : Int) : (PyQ.ofInt n).WF ∧ (PyQ.ofInt n).toRat = n := by
  simp [PyQ.ofInt, PyQ.WF, PyQ.toRat]

theorem PyQ.add_spec (x y : PyQ) (hx : x.WF) (hy : y.WF) :
    (x.add y).WF ∧ (x.add y).toRat = x.toRat + y.toRat := by
  have hxq : (x.den : ℚ) ≠ 0 := Nat.cast_ne_zero.2 hx
  have hyq : (y.den : ℚ) ≠ 0 := Nat.cast_ne_zero.2 hy
  have hd : ((x.den : Int) * (y.den : Int)) ≠ 0 :=
    Int.mul_ne_zero (Int.natCast_ne_zero.2 hx) (Int.natCast_ne_zero.2 hy)
  refine ⟨(PyQ.norm_spec _ _ hd).1, ?_⟩
  rw [PyQ.add, PyQ.toRat_norm hd, PyQ.toRat, PyQ.toRat, div_add_div _ _ hxq hyq]
  push_cast
  rw [mul_comm (x.den : ℚ) (y.num : ℚ)]

theorem PyQ.sub_spec (x y : PyQ) (hx : x.WF) (hy : y.WF) :
    (x.sub y).WF ∧ (x.sub y).toRat = x.toRat - y.toRat := by
  have hxq : (x.den : ℚ) ≠ 0 := Nat.cast_ne_zero.2 hx
  have hyq : (y.den : ℚ) ≠ 0 := Nat.cast_ne_zero.2 hy
  have hd : ((x.den : Int) * (y.den : Int)) ≠ 0 :=
    Int.mul_ne_zero (Int.natCast_ne_zero.2 hx) (Int.natCast_ne_zero.2 hy)
  refine ⟨(PyQ.norm_spec _ _ hd).1, ?_⟩
  rw [PyQ.sub, PyQ.toRat_norm hd, PyQ.toRat, PyQ.toRat, div_sub_div _ _ hxq hyq]
  push_cast
  rw [mul_comm (x.den : ℚ) (y.num : ℚ)]

theorem PyQ.mulInt_spec (k : Int) (x : PyQ) (hx : x.WF) :
    (PyQ.mulInt k x).WF ∧ (PyQ.mulInt k x).toRat = k * x.toRat := by
  have hd : ((x.den : Int)) ≠ 0 := Int.natCast_ne_zero.2 hx
  refine ⟨(PyQ.norm_spec _ _ hd).1, ?_⟩
  rw [PyQ.mulInt, PyQ.toRat_norm hd, PyQ.toRat]
  push_cast
  rw [mul_div_assoc]

theorem PyQ.divInt_spec (x : PyQ) (d : Int) (hx : x.WF) (hd : d ≠ 0) :
    (x.divInt d).WF ∧ (x.divInt d).toRat = x.toRat / d := by
  have hd' : ((x.den : Int) * d) ≠ 0 := Int.mul_ne_zero (Int.natCast_ne_zero.2 hx) hd
  refine ⟨(PyQ.norm_spec _ _ hd').1, ?_⟩
  rw [PyQ.divInt, PyQ.toRat_norm hd', PyQ.toRat]
  push_cast
  rw [div_div]
/-! ### dot product of an integer row with a rational vector -/

/-- `Σ_c row[c] * x[c]` (over the common length). -/
def dotQ : List Int → List ℚ → ℚ
  | r :: rs, x :: xs => (r : ℚ) * x + dotQ rs xs
  | _, _ => 0

@[simp] theorem dotQ_nil_left (x : List ℚ) : dotQ [] x = 0 := by cases x <;> rfl
@[simp] theorem dotQ_nil_right (r : List Int) : dotQ r [] = 0 := by cases r <;> rfl
@[simp] theorem dotQ_cons (r : Int) (rs : List Int) (x : ℚ) (xs : List ℚ) :
    dotQ (r :: rs) (x :: xs) = (r : ℚ) * x + dotQ rs xs := rfl

/-! ### `upper_triangular_solve` -/

theorem utsRowSum_spec (row : List Int) (xs : List PyQ) (hwf : ∀ x ∈ xs, x.WF) :
    ∀ (cnt j : Nat) (acc s : PyQ), acc.WF → utsRowSum row xs cnt j acc = .ok s →
      j + cnt = xs.length →
      s.WF ∧ s.toRat = acc.toRat + dotQ (row.drop j) ((xs.map PyQ.toRat).drop j) := by
  intro cnt
  induction cnt with
  | zero =>
    intro j acc s hacc h hj
    simp only [utsRowSum, Except.ok.injEq] at h
    subst h
    have : (xs.map PyQ.toRat).drop j = [] := by
      apply List.drop_eq_nil_of_le
      simp; omega
    simp [this, hacc]
  | succ cnt ih =>
    intro j acc s hacc h hj
    unfold utsRowSum at h
    split at h
    · rename_i v x hv hx
      obtain ⟨hjr, hv'⟩ := List.getElem?_eq_some_iff.mp hv
      obtain ⟨hjx, hx'⟩ := List.getElem?_eq_some_iff.mp hx
      have hxwf : x.WF := hwf x (hx' ▸ List.getElem_mem hjx)
      obtain ⟨m1, m2⟩ := PyQ.mulInt_spec v x hxwf
      obtain ⟨a1, a2⟩ := PyQ.add_spec acc (PyQ.mulInt v x) hacc m1
      obtain ⟨r1, r2⟩ := ih (j + 1) _ s a1 h (by omega)
      refine ⟨r1, ?_⟩
      rw [r2, a2, m2]
      have hjm : j < (xs.map PyQ.toRat).length := by simpa using hjx
      rw [List.drop_eq_getElem_cons hjr, List.drop_eq_getElem_cons hjm]
      simp only [dotQ_cons, List.getElem_map, hv', hx']
      ring
    · simp at h

/-- the equation of row `i` restricted to the columns `≥ i`:
`a[i][i]*x[i] + Σ_{j>i} a[i][j]*x[j] = b[i]`. -/
def UpperRowEq (a : List (List Int)) (b : List Int) (x : List ℚ) (i : Nat) : Prop :=
  ∀ row bi, a[i]? = some row → b[i]? = some bi → dotQ (row.drop i) (x.drop i) = (bi : ℚ)

def DiagNZ (a : List (List Int)) (i : Nat) : Prop :=
  ∃ row v, a[i]? = some row ∧ row[i]? = some v ∧ v ≠ 0

theorem utsStep_cases {a : List (List Int)} {b : List Int} {ncols i : Nat} {xs : List PyQ}
    {r : Option (List PyQ)} (h : utsStep a b ncols i xs = .ok r) :
    ∃ row den, a[i]? = some row ∧ row[i]? = some den ∧
      ((den = 0 ∧ r = none) ∨ (den ≠ 0 ∧ ∃ bi s, b[i]? = some bi ∧
        utsRowSum row xs (ncols - (i + 1)) (i + 1) (PyQ.ofInt 0) = .ok s ∧ i < xs.length ∧
        r = some (xs.set i (((PyQ.ofInt bi).sub s).divInt den)))) := by
  unfold utsStep at h
  split at h
  · cases h
  rename_i row hrow
  split at h
  · cases h
  rename_i den hden
  refine ⟨row, den, hrow, hden, ?_⟩
  split at h
  · rename_i hdz
    cases h
    exact Or.inl ⟨hdz, rfl⟩
  rename_i hdz
  split at h
  · cases h
  rename_i bi hbi
  split at h
  · cases h
  rename_i s hs
  split at h
  · rename_i hix
    cases h
    exact Or.inr ⟨hdz, bi, s, hbi, hs, hix, rfl⟩
  · cases h

theorem utsStep_some (row : List Int) (xs : List PyQ) (ncols i : Nat) (den bi : Int) (s : PyQ)
    (hwf : ∀ x ∈ xs, x.WF) (hlen : xs.length = ncols) (hi : i < ncols) (hden : row[i]? = some den)
    (hdz : den ≠ 0) (hs : utsRowSum row xs (ncols - (i + 1)) (i + 1) (PyQ.ofInt 0) = .ok s) :
    (((PyQ.ofInt bi).sub s).divInt den).WF ∧
      dotQ (row.drop i) (((xs.set i (((PyQ.ofInt bi).sub s).divInt den)).map PyQ.toRat).drop i) =
        (bi : ℚ) := by
  obtain ⟨o1, o2⟩ := PyQ.ofInt_spec 0
  obtain ⟨s1, s2⟩ := utsRowSum_spec row xs hwf _ _ _ _ o1 hs (by omega)
  obtain ⟨b1, b2⟩ := PyQ.ofInt_spec bi
  obtain ⟨d1, d2⟩ := PyQ.sub_spec _ _ b1 s1
  obtain ⟨q1, q2⟩ := PyQ.divInt_spec _ den d1 hdz
  refine ⟨q1, ?_⟩
  obtain ⟨hir, hden'⟩ := List.getElem?_eq_some_iff.mp hden
  have hixm : i < ((xs.map PyQ.toRat).set i (((PyQ.ofInt bi).sub s).divInt den).toRat).length := by
    rw [List.length_set, List.length_map, hlen]; exact hi
  rw [List.map_set, List.drop_eq_getElem_cons hir, List.drop_eq_getElem_cons hixm, dotQ_cons,
    List.getElem_set_self, hden', List.drop_set_of_lt (Nat.lt_succ_self i), q2, d2, b2, s2, o2,
    Int.cast_zero, zero_add, mul_comm, div_mul_cancel₀ _ (Int.cast_ne_zero.2 hdz), sub_add_cancel]

theorem UpperRowEq_set_lt (a : List (List Int)) (b : List Int) (xs : List PyQ) (v : PyQ)
    (i i' : Nat) (hlt : i < i') (h : UpperRowEq a b (xs.map PyQ.toRat) i') :
    UpperRowEq a b ((xs.set i v).map PyQ.toRat) i' := by
  intro row bi hrow hbi
  rw [List.map_set, List.drop_set_of_lt hlt]
  exact h row bi hrow hbi

theorem utsLoop_spec (a : List (List Int)) (b : List Int) (ncols : Nat) :
    ∀ (cnt : Nat) (xs : List PyQ) (r : Option (List PyQ)), cnt ≤ ncols → xs.length = ncols →
      (∀ x ∈ xs, x.WF) →
      (∀ i, cnt ≤ i → i < ncols → UpperRowEq a b (xs.map PyQ.toRat) i ∧ DiagNZ a i) →
      utsLoop a b ncols cnt xs = .ok r →
      (∀ x, r = some x → x.length = ncols ∧ (∀ q ∈ x, q.WF) ∧
          ∀ i, i < ncols → UpperRowEq a b (x.map PyQ.toRat) i ∧ DiagNZ a i) ∧
      (r = none → ∃ i, i < cnt ∧ ∃ row, a[i]? = some row ∧ row[i]? = some 0) := by
  intro cnt
  induction cnt with
  | zero =>
    intro xs r _ hlen hwf hinv h
    cases h
    exact ⟨fun x hx => Option.some.inj hx ▸ ⟨hlen, hwf, fun i hi => hinv i (Nat.zero_le _) hi⟩,
      fun hn => nomatch hn⟩
  | succ i ih =>
    intro xs r hle hlen hwf hinv h
    unfold utsLoop at h
    split at h
    · cases h
    · rename_i hstep
      cases h
      obtain ⟨row, den, hrow, hden, ⟨rfl, _⟩ | ⟨_, _, _, _, _, _, hr⟩⟩ :=
        utsStep_cases hstep
      · exact ⟨fun x hx => (nomatch hx), fun _ => ⟨i, Nat.lt_succ_self i, row, hrow, hden⟩⟩
      · cases hr
    · rename_i xs' hstep
      obtain ⟨row, den, hrow, hden, ⟨_, hr⟩ | ⟨hdz, bi, s, hbi, hs, _, hr⟩⟩ :=
        utsStep_cases hstep
      · cases hr
      cases hr
      obtain ⟨hv, heq⟩ := utsStep_some row xs ncols i den bi s hwf hlen (by omega) hden hdz hs
      obtain ⟨r1, r2⟩ := ih _ r (by omega) (by rw [List.length_set]; exact hlen)
        (fun x hx => (List.mem_or_eq_of_mem_set hx).elim (hwf x) (· ▸ hv))
        (fun i' hi' hi'n => by
          rcases Nat.eq_or_lt_of_le hi' with rfl | hlt
          · refine ⟨fun row' bi' hrow' hbi' => ?_, row, den, hrow, hden, hdz⟩
            cases hrow.symm.trans hrow'
            cases hbi.symm.trans hbi'
            exact heq
          · obtain ⟨e1, e2⟩ := hinv i' hlt hi'n
            exact ⟨UpperRowEq_set_lt a b xs _ i i' hlt e1, e2⟩) h
      exact ⟨r1, fun hn => by obtain ⟨i', hi', hr⟩ := r2 hn; exact ⟨i', by omega, hr⟩⟩

theorem uts_spec {a : List (List Int)} {b : List Int} {r : Option (List PyQ)}
    (h : upperTriangularSolve a b = .ok r) :
    b.length = a.length ∧
      (∀ x, r = some x → x.length = a.length ∧ (∀ q ∈ x, q.WF) ∧
          ∀ i, i < a.length → UpperRowEq a b (x.map PyQ.toRat) i ∧ DiagNZ a i) ∧
      (r = none → ∃ i, i < a.length ∧ ∃ row, a[i]? = some row ∧ row[i]? = some 0) := by
  cases a with
  | nil => cases h
  | cons row0 rest =>
    unfold upperTriangularSolve at h
    dsimp only at h
    split at h
    · cases h
    rename_i hsq
    split at h
    · cases h
    rename_i hb
    simp only [ne_eq, Decidable.not_not] at hsq hb
    rw [← hsq] at h
    exact ⟨hb.symm, utsLoop_spec (row0 :: rest) b _ _ _ r (Nat.le_refl _) List.length_replicate
      (fun q hq => by rw [List.eq_of_mem_replicate hq]; exact (PyQ.ofInt_spec 0).1)
      (fun i hi hi' => absurd hi' (Nat.not_lt.2 hi)) h⟩

/-- `upper_triangular_solve`: a returned vector has the right length, its entries are
well-formed rationals, every row equation (columns `≥ i`) holds and no diagonal entry is 0. -/
theorem uts_some (a : List (List Int)) (b : List Int) (x : List PyQ)
    (h : upperTriangularSolve a b = .ok (some x)) :
    x.length = a.length ∧ b.length = a.length ∧ (∀ q ∈ x, q.WF) ∧
      ∀ i, i < a.length → UpperRowEq a b (x.map PyQ.toRat) i ∧ DiagNZ a i :=
  have ⟨h1, h2, _⟩ := uts_spec h
  ⟨(h2 x rfl).1, h1, (h2 x rfl).2⟩

theorem uts_none (a : List (List Int)) (b : List Int)
    (h : upperTriangularSolve a b = .ok none) :
    ∃ i, i < a.length ∧ ∃ row, a[i]? = some row ∧ row[i]? = some 0 :=
  (uts_spec h).2.2 rfl

/-! totality of `upper_triangular_solve` on well-formed input -/

theorem utsRowSum_ok (row : List Int) (xs : List PyQ) :
    ∀ (cnt j : Nat) (acc : PyQ), j + cnt ≤ row.length → j + cnt ≤ xs.length →
      ∃ s, utsRowSum row xs cnt j acc = .ok s := by
  intro cnt
  induction cnt with
  | zero => intro j acc _ _; exact ⟨acc, rfl⟩
  | succ cnt ih =>
    intro j acc h1 h2
    unfold utsRowSum
    rw [List.getElem?_eq_getElem (show j < row.length by omega),
      List.getElem?_eq_getElem (show j < xs.length by omega)]
    exact ih (j + 1) _ (by omega) (by omega)

theorem utsStep_ok (a : List (List Int)) (b : List Int) (n i : Nat) (xs : List PyQ)
    (hsq : ∀ row ∈ a, row.length = n) (ha : a.length = n) (hb : b.length = n)
    (hx : xs.length = n) (hi : i < n) : ∃ r, utsStep a b n i xs = .ok r := by
  unfold utsStep
  have hia : i < a.length := ha ▸ hi
  have hrl : (a[i]).length = n := hsq _ (List.getElem_mem hia)
  have hle : i + 1 + (n - (i + 1)) = n := Nat.add_sub_cancel' hi
  rw [List.getElem?_eq_getElem hia]
  simp only [List.getElem?_eq_getElem (show i < (a[i]).length from hrl ▸ hi)]
  split
  · exact ⟨_, rfl⟩
  simp only [List.getElem?_eq_getElem (show i < b.length from hb ▸ hi)]
  obtain ⟨s, hs⟩ := utsRowSum_ok (a[i]) xs (n - (i + 1)) (i + 1) (PyQ.ofInt 0)
    (by rw [hle, hrl]) (by rw [hle, hx])
  rw [hs]
  simp only
  rw [if_pos (hx ▸ hi)]
  exact ⟨_, rfl⟩

theorem utsLoop_ok (a : List (List Int)) (b : List Int) (n : Nat)
    (hsq : ∀ row ∈ a, row.length = n) (ha : a.length = n) (hb : b.length = n) :
    ∀ (cnt : Nat) (xs : List PyQ), cnt ≤ n → xs.length = n →
      ∃ r, utsLoop a b n cnt xs = .ok r := by
  intro cnt
  induction cnt with
  | zero => intro xs _ _; exact ⟨_, rfl⟩
  | succ i ih =>
    intro xs hle hx
    unfold utsLoop
    obtain ⟨r, hr⟩ := utsStep_ok a b n i xs hsq ha hb hx (by omega)
    rw [hr]
    cases r with
    | none => exact ⟨_, rfl⟩
    | some xs' =>
      obtain ⟨_, _, _, _, ⟨_, hn⟩ | ⟨_, _, _, _, _, _, hs⟩⟩ := utsStep_cases hr
      · cases hn
      · cases hs
        exact ih _ (by omega) (by rw [List.length_set, hx])

theorem uts_total (a : List (List Int)) (b : List Int) (hne : a ≠ [])
    (hsq : ∀ row ∈ a, row.length = a.length) (hb : b.length = a.length) :
    ∃ r, upperTriangularSolve a b = .ok r := by
  unfold upperTriangularSolve
  cases a with
  | nil => exact absurd rfl hne
  | cons row0 rest =>
    have h0 : row0.length = (row0 :: rest).length := hsq row0 (List.mem_cons_self ..)
    dsimp only
    rw [if_neg (not_not.2 h0.symm), if_neg (not_not.2 hb.symm), h0]
    exact utsLoop_ok _ b _ hsq rfl hb _ _ (Nat.le_refl _) List.length_replicate

/-! ### pointwise reasoning about `dotQ` -/

theorem dotQ_cons_right (r : List Int) (x : ℚ) (xs : List ℚ) :
    dotQ r (x :: xs) = (r.getD 0 0 : ℚ) * x + dotQ r.tail xs := by
  cases r <;> simp

theorem getD_tail (r : List Int) (c : Nat) : r.tail.getD c 0 = r.getD (c + 1) 0 := by
  cases r <;> simp

/-- if `α·r'[c] = β·r1[c] + γ·r2[c]` for every column `c < |x|` then the same relation holds
between the dot products with `x` (missing entries count as 0). -/
theorem dotQ_lin3 (α β γ : Int) : ∀ (x : List ℚ) (r' r1 r2 : List Int),
    (∀ c, c < x.length → α * r'.getD c 0 = β * r1.getD c 0 + γ * r2.getD c 0) →
    (α : ℚ) * dotQ r' x = β * dotQ r1 x + γ * dotQ r2 x := by
  intro x
  induction x with
  | nil => intro r' r1 r2 _; simp
  | cons x xs ih =>
    intro r' r1 r2 h
    rw [dotQ_cons_right r', dotQ_cons_right r1, dotQ_cons_right r2]
    have h0 : (α : ℚ) * (r'.getD 0 0 : ℚ) = β * (r1.getD 0 0 : ℚ) + γ * (r2.getD 0 0 : ℚ) := by
      exact_mod_cast h 0 (by simp)
    have ht := ih r'.tail r1.tail r2.tail (by
      intro c hc
      rw [getD_tail, getD_tail, getD_tail]
      exact h (c + 1) (by simpa using hc))
    linear_combination x * h0 + ht

theorem dotQ_congr (x : List ℚ) (r' r : List Int)
    (h : ∀ c, c < x.length → r'.getD c 0 = r.getD c 0) : dotQ r' x = dotQ r x := by
  have := dotQ_lin3 1 1 0 x r' r r (by intro c hc; rw [h c hc]; ring)
  simpa using this

theorem getD_set_int (l : List Int) (k c : Nat) (v : Int) (hk : k < l.length) :
    (l.set k v).getD c 0 = if c = k then v else l.getD c 0 := by
  simp only [List.getD_eq_getElem?_getD, List.getElem?_set]
  by_cases h : k = c
  · subst h; simp [hk]
  · rw [if_neg h, if_neg (Ne.symm h)]

/-! ### generic facts about `Forall₂`, `pyInsert`, `moveRow` -/

theorem forall₂_rel_of_getElem? {α β} {R : α → β → Prop} {l₁ : List α} {l₂ : List β}
    (h : List.Forall₂ R l₁ l₂) (i : Nat) (x : α) (y : β) (hx : l₁[i]? = some x)
    (hy : l₂[i]? = some y) : R x y := by
  obtain ⟨h1, rfl⟩ := List.getElem?_eq_some_iff.mp hx
  obtain ⟨h2, rfl⟩ := List.getElem?_eq_some_iff.mp hy
  exact h.get h1 h2

theorem forall₂_set {α β} {R : α → β → Prop} {l₁ : List α} {l₂ : List β}
    (h : List.Forall₂ R l₁ l₂) : ∀ (j : Nat) (x : α) (y : β), R x y →
      List.Forall₂ R (l₁.set j x) (l₂.set j y) := by
  induction h with
  | nil => intro j x y _; exact .nil
  | cons hr ht ih =>
    intro j x y hxy
    cases j with
    | zero => exact .cons hxy ht
    | succ j => exact .cons hr (ih j x y hxy)

theorem forall₂_middle {α β} {R : α → β → Prop} {x : α} {y : β} {B : List α} {B' : List β} :
    ∀ {A : List α} {A' : List β}, A.length = A'.length →
      (List.Forall₂ R (A ++ x :: B) (A' ++ y :: B') ↔ R x y ∧ List.Forall₂ R (A ++ B) (A' ++ B'))
  | [], [], _ => by simp
  | a :: A, a' :: A', h => by
    simp only [List.cons_append, List.forall₂_cons, forall₂_middle (Nat.succ.inj h)]
    exact and_left_comm
  | [], _ :: _, h => nomatch h
  | _ :: _, [], h => nomatch h

theorem forall₂_pyInsertI_iff {α β} {R : α → β → Prop} {l₁ : List α} {l₂ : List β}
    (hl : l₁.length = l₂.length) (k : Int) (x : α) (y : β) :
    List.Forall₂ R (pyInsertI l₁ k x) (pyInsertI l₂ k y) ↔ R x y ∧ List.Forall₂ R l₁ l₂ := by
  have key : ∀ k : Nat, List.Forall₂ R (pyInsert l₁ k x) (pyInsert l₂ k y) ↔
      R x y ∧ List.Forall₂ R l₁ l₂ := fun k => by
    unfold pyInsert
    rw [forall₂_middle (by rw [List.length_take, List.length_take, hl]), List.take_append_drop,
      List.take_append_drop]
  cases k with
  | ofNat k => exact key k
  | negSucc k => simp only [pyInsertI]; rw [hl]; exact key _

theorem forall₂_eraseIdx_iff {α β} {R : α → β → Prop} {l₁ : List α} {l₂ : List β} {i : Nat}
    {x : α} {y : β} (hx : l₁[i]? = some x) (hy : l₂[i]? = some y) :
    List.Forall₂ R l₁ l₂ ↔ R x y ∧ List.Forall₂ R (l₁.eraseIdx i) (l₂.eraseIdx i) := by
  obtain ⟨h1, rfl⟩ := List.getElem?_eq_some_iff.mp hx
  obtain ⟨h2, rfl⟩ := List.getElem?_eq_some_iff.mp hy
  rw [List.eraseIdx_eq_take_drop_succ, List.eraseIdx_eq_take_drop_succ,
    ← forall₂_middle (by rw [List.length_take_of_le (Nat.le_of_lt h1),
      List.length_take_of_le (Nat.le_of_lt h2)]),
    ← List.drop_eq_getElem_cons h1, ← List.drop_eq_getElem_cons h2, List.take_append_drop,
    List.take_append_drop]

theorem moveRow_ok {α} {l l' : List α} {i : Nat} {k : Int} (h : moveRow l i k = .ok l') :
    ∃ x, l[i]? = some x ∧ l' = pyInsertI (l.eraseIdx i) k x := by
  unfold moveRow at h
  split at h
  · rename_i x hx
    cases h
    exact ⟨x, hx, rfl⟩
  · cases h

/-- a row move (`pop` + `insert` on both `a` and `b`) permutes the equations. -/
theorem forall₂_moveRow_iff {α β} {R : α → β → Prop} {l₁ l₁' : List α} {l₂ l₂' : List β}
    (hl : l₁.length = l₂.length) (i : Nat) (k : Int) (h1 : moveRow l₁ i k = .ok l₁')
    (h2 : moveRow l₂ i k = .ok l₂') : List.Forall₂ R l₁' l₂' ↔ List.Forall₂ R l₁ l₂ := by
  obtain ⟨x, hx, rfl⟩ := moveRow_ok h1
  obtain ⟨y, hy, rfl⟩ := moveRow_ok h2
  rw [forall₂_eraseIdx_iff hx hy, forall₂_pyInsertI_iff (by
    rw [List.length_eraseIdx_of_lt (List.getElem?_eq_some_iff.mp hx).1,
      List.length_eraseIdx_of_lt (List.getElem?_eq_some_iff.mp hy).1, hl])]

theorem pyInsert_perm {α} (l : List α) (k : Nat) (x : α) : (pyInsert l k x).Perm (x :: l) := by
  unfold pyInsert
  have := @List.perm_middle α x (l.take k) (l.drop k)
  rwa [List.take_append_drop] at this

theorem pyInsertI_perm {α} (l : List α) (k : Int) (x : α) : (pyInsertI l k x).Perm (x :: l) := by
  cases k <;> exact pyInsert_perm _ _ _

theorem moveRow_perm {α} {l l' : List α} {i : Nat} {k : Int} (h : moveRow l i k = .ok l') :
    l'.Perm l := by
  obtain ⟨x, hx, rfl⟩ := moveRow_ok h
  obtain ⟨hi, rfl⟩ := List.getElem?_eq_some_iff.mp hx
  exact (pyInsertI_perm _ k _).trans (List.getElem_cons_eraseIdx_perm hi)

theorem moveRow_length {α} (l l' : List α) (i : Nat) (k : Int) (h : moveRow l i k = .ok l') :
    l'.length = l.length := (moveRow_perm h).length_eq

theorem getElem?_mid {α} (A B : List α) (x : α) : (A ++ x :: B)[A.length]? = some x := by
  rw [List.getElem?_append_right (Nat.le_refl _), Nat.sub_self]; rfl

theorem set_mid {α} (A B : List α) (x y : α) : (A ++ x :: B).set A.length y = A ++ y :: B := by
  rw [List.set_append, if_neg (Nat.lt_irrefl _), Nat.sub_self]; rfl

theorem eraseIdx_mid {α} (A B : List α) (x : α) : (A ++ x :: B).eraseIdx A.length = A ++ B := by
  rw [List.eraseIdx_append_of_length_le (Nat.le_refl _), Nat.sub_self]; rfl

theorem pyInsert_append_add {α} (A D : List α) (t : Nat) (x : α) :
    pyInsert (A ++ D) (A.length + t) x = A ++ pyInsert D t x := by
  unfold pyInsert
  rw [List.take_append, List.drop_append, List.take_of_length_le (Nat.le_add_right _ _),
    List.drop_eq_nil_of_le (Nat.le_add_right _ _), Nat.add_sub_cancel_left, List.nil_append,
    List.append_assoc]

theorem mem_pyInsert {α} {l : List α} {k : Nat} {x y : α} : y ∈ pyInsert l k x ↔ y = x ∨ y ∈ l :=
  (pyInsert_perm l k x).mem_iff.trans List.mem_cons

/-- `l.insert(|A| + |B| + t, l.pop(|A|))` on `l = A ++ x :: B ++ C`: `x` lands `t` places into `C`. -/
theorem moveRow_mid {α} (A B C : List α) (x : α) (t : Nat) :
    moveRow (A ++ x :: (B ++ C)) A.length ((A.length + B.length + t : Nat) : Int) =
      .ok (A ++ (B ++ pyInsert C t x)) := by
  unfold moveRow
  rw [getElem?_mid]
  dsimp only
  rw [eraseIdx_mid, ← List.append_assoc, ← List.append_assoc, ← List.length_append]
  exact congrArg Except.ok (pyInsert_append_add (A ++ B) C t x)

theorem mem_drop_mono {α} {l : List α} {m n : Nat} {x : α} (hmn : m ≤ n) (h : x ∈ l.drop n) :
    x ∈ l.drop m :=
  List.drop_subset_drop_left l hmn h

/-- columns `< k` of the row are zero (missing entries count as zero). -/
def ZeroTo (k : Nat) (row : List Int) : Prop := ∀ c, c < k → row.getD c 0 = 0

theorem ZeroTo.mono {k k' : Nat} {row : List Int} (h : ZeroTo k row) (hk : k' ≤ k) :
    ZeroTo k' row := fun c hc => h c (by omega)

theorem getD_of_getElem? {l : List Int} {k : Nat} {v : Int} (h : l[k]? = some v) :
    l.getD k 0 = v := by
  simp [List.getD_eq_getElem?_getD, h]

theorem elimCols_spec (p q : Int) (ri : List Int) :
    ∀ (cnt k : Nat) (rj : List Int) (az : Bool) (rj' : List Int) (az' : Bool),
      elimCols p q ri cnt k rj az = .ok (rj', az') →
      rj'.length = rj.length ∧
      (∀ c, rj'.getD c 0 =
        if k ≤ c ∧ c < k + cnt then p * rj.getD c 0 - q * ri.getD c 0 else rj.getD c 0) ∧
      (az' = true → az = true ∧ ∀ c, k ≤ c → c < k + cnt → rj'.getD c 0 = 0) := by
  intro cnt
  induction cnt with
  | zero =>
    intro k rj az rj' az' h
    simp only [elimCols, Except.ok.injEq, Prod.mk.injEq] at h
    obtain ⟨rfl, rfl⟩ := h
    refine ⟨rfl, ?_, ?_⟩
    · intro c; rw [if_neg (by omega)]
    · intro h; exact ⟨h, fun c h1 h2 => by omega⟩
  | succ cnt ih =>
    intro k rj az rj' az' h
    unfold elimCols at h
    split at h
    · rename_i x y hx hy
      obtain ⟨hk, _⟩ := List.getElem?_eq_some_iff.mp hx
      obtain ⟨h1, h2, h3⟩ := ih (k + 1) _ _ rj' az' h
      refine ⟨by rw [h1, List.length_set], ?_, ?_⟩
      · intro c
        rw [h2 c, getD_set_int rj k c _ hk]
        by_cases hc : c = k
        · subst hc
          rw [if_neg (by omega), if_pos rfl, if_pos (by omega), getD_of_getElem? hx,
            getD_of_getElem? hy]
        · rw [if_neg hc]
          by_cases hr : k + 1 ≤ c ∧ c < k + 1 + cnt
          · rw [if_pos hr, if_pos (by omega)]
          · rw [if_neg hr, if_neg (by omega)]
      · intro haz
        obtain ⟨h4, h5⟩ := h3 haz
        simp only [Bool.and_eq_true, beq_iff_eq] at h4
        refine ⟨h4.1, ?_⟩
        intro c hc1 hc2
        by_cases hc : c = k
        · subst hc
          rw [h2 c, if_neg (by omega), getD_set_int rj c c _ hk, if_pos rfl]
          exact h4.2
        · exact h5 c (by omega) (by omega)
    · simp at h

theorem setZero_spec {row row' : List Int} {i : Nat} (h : setZero row i = .ok row') :
    i < row.length ∧ row' = row.set i 0 := by
  unfold setZero at h
  split at h
  · rename_i hi
    simp only [Except.ok.injEq] at h
    exact ⟨hi, h.symm⟩
  · simp at h

theorem divCols_spec (d : Int) :
    ∀ (cnt k : Nat) (row : List Int) (ex : Bool) (row' : List Int) (ex' : Bool),
      divCols d cnt k row ex = .ok (row', ex') →
      row'.length = row.length ∧ (cnt ≠ 0 → d ≠ 0) ∧
      (∀ c, ¬ (k ≤ c ∧ c < k + cnt) → row'.getD c 0 = row.getD c 0) ∧
      (ex' = true → ex = true ∧ ∀ c, k ≤ c → c < k + cnt → d * row'.getD c 0 = row.getD c 0) := by
  intro cnt
  induction cnt with
  | zero =>
    intro k row ex row' ex' h
    simp only [divCols, Except.ok.injEq, Prod.mk.injEq] at h
    obtain ⟨rfl, rfl⟩ := h
    exact ⟨rfl, fun h => absurd rfl h, fun c _ => rfl, fun h => ⟨h, fun c h1 h2 => by omega⟩⟩
  | succ cnt ih =>
    intro k row ex row' ex' h
    unfold divCols at h
    split at h
    · simp at h
    rename_i x hx
    split at h
    · simp at h
    rename_i hd
    obtain ⟨hk, _⟩ := List.getElem?_eq_some_iff.mp hx
    obtain ⟨h1, _, h3, h4⟩ := ih (k + 1) _ _ row' ex' h
    refine ⟨by rw [h1, List.length_set], fun _ => hd, ?_, ?_⟩
    · intro c hc
      rw [h3 c (by omega), getD_set_int row k c _ hk, if_neg (by omega)]
    · intro hex
      obtain ⟨h5, h6⟩ := h4 hex
      simp only [Bool.and_eq_true, beq_iff_eq] at h5
      refine ⟨h5.1, ?_⟩
      intro c hc1 hc2
      by_cases hc : c = k
      · subst hc
        rw [h3 c (by omega), getD_set_int row c c _ hk, if_pos rfl, getD_of_getElem? hx,
          Int.fdiv_eq_ediv_of_dvd (Int.dvd_of_emod_eq_zero h5.2),
          Int.mul_ediv_cancel' (Int.dvd_of_emod_eq_zero h5.2)]
      · rw [h6 c (by omega) (by omega), getD_set_int row k c _ hk, if_neg hc]

/-- row-level effect of one elimination: `rj'' = p·rj − q·ri` on the first `ncols` columns
(given that both rows vanish left of the pivot column `i`). -/
theorem elimRow_row {ncols i : Nat} {p q : Int} {ri rj rj' rj'' : List Int} {az : Bool}
    (hp : ri[i]? = some p) (hq : rj[i]? = some q) (hzi : ZeroTo i ri) (hzj : ZeroTo i rj)
    (hi : i + 1 ≤ ncols)
    (h1 : elimCols p q ri (ncols - (i + 1)) (i + 1) rj true = .ok (rj', az))
    (h2 : setZero rj' i = .ok rj'') :
    (∀ c, c < ncols → rj''.getD c 0 = p * rj.getD c 0 - q * ri.getD c 0) ∧
      ZeroTo (i + 1) rj'' ∧ (az = true → ZeroTo ncols rj'') := by
  obtain ⟨e1, e2, e3⟩ := elimCols_spec p q ri _ _ _ _ _ _ h1
  obtain ⟨s1, rfl⟩ := setZero_spec h2
  have hget : ∀ c, (rj'.set i 0).getD c 0 = if c = i then 0 else rj'.getD c 0 :=
    fun c => getD_set_int rj' i c 0 s1
  have hpi := getD_of_getElem? hp
  have hqi := getD_of_getElem? hq
  refine ⟨?_, ?_, ?_⟩
  · intro c hc
    rw [hget c]
    by_cases hci : c = i
    · subst hci
      rw [if_pos rfl, hpi, hqi]; ring
    · rw [if_neg hci, e2 c]
      by_cases hlt : c < i
      · rw [if_neg (by omega), hzi c hlt, hzj c hlt]; ring
      · rw [if_pos (by omega)]
  · intro c hc
    rw [hget c]
    by_cases hci : c = i
    · rw [if_pos hci]
    · rw [if_neg hci, e2 c, if_neg (by omega)]
      exact hzj c (by omega)
  · intro haz c hc
    rw [hget c]
    by_cases hci : c = i
    · rw [if_pos hci]
    · rw [if_neg hci]
      by_cases hlt : c < i
      · rw [e2 c, if_neg (by omega)]
        exact hzj c hlt
      · exact (e3 haz).2 c (by omega) (by omega)

/-- the same as an identity between dot products. -/
theorem elimRow_dot {ncols : Nat} {p q : Int} {ri rj rj'' : List Int} {x : List ℚ}
    (hx : x.length ≤ ncols)
    (h : ∀ c, c < ncols → rj''.getD c 0 = p * rj.getD c 0 - q * ri.getD c 0) :
    dotQ rj'' x = p * dotQ rj x - q * dotQ ri x := by
  have := dotQ_lin3 1 p (-q) x rj'' rj ri (by
    intro c hc
    rw [h c (by omega)]; ring)
  push_cast at this
  linear_combination this

theorem divRow_row {ncols i : Nat} {d : Int} {row row' : List Int} {ex ex' : Bool}
    (hz : ZeroTo (i + 1) row)
    (h : divCols d (ncols - (i + 1)) (i + 1) row ex = .ok (row', ex')) :
    ZeroTo (i + 1) row' ∧ (ex' = true → ex = true ∧
      ∀ c, c < ncols → d * row'.getD c 0 = row.getD c 0) := by
  obtain ⟨_, _, e3, e4⟩ := divCols_spec d _ _ _ _ _ _ h
  refine ⟨?_, ?_⟩
  · intro c hc
    rw [e3 c (by omega)]
    exact hz c hc
  · intro hex
    obtain ⟨e5, e6⟩ := e4 hex
    refine ⟨e5, ?_⟩
    intro c hc
    by_cases hlt : c < i + 1
    · rw [e3 c (by omega), hz c hlt]; ring
    · exact e6 c (by omega) (by omega)

theorem divRow_dot {ncols : Nat} {d : Int} {row row' : List Int} {x : List ℚ}
    (hx : x.length ≤ ncols) (h : ∀ c, c < ncols → d * row'.getD c 0 = row.getD c 0) :
    (d : ℚ) * dotQ row' x = dotQ row x := by
  have := dotQ_lin3 d 1 0 x row' row row (by
    intro c hc
    rw [h c (by omega)]; ring)
  push_cast at this
  linear_combination this

/-! ### predicates on the state -/

/-- `x` satisfies the equation `row · x = bv`. -/
def RowSat (x : List ℚ) (row : List Int) (bv : Int) : Prop := dotQ row x = (bv : ℚ)

/-- `x` solves the system `a x = bl`. -/
def Sat (x : List ℚ) (a : List (List Int)) (bl : List Int) : Prop :=
  List.Forall₂ (RowSat x) a bl

/-- row `r` of `U` vanishes left of column `r`. -/
def Tri (U : List (List Int)) : Prop := ∀ r row, U[r]? = some row → ZeroTo r row

theorem Tri.snoc {U : List (List Int)} {p : List Int} (h : Tri U) (hp : ZeroTo U.length p) :
    Tri (U ++ [p]) := by
  intro r row hr
  rw [List.getElem?_append] at hr
  split at hr
  · exact h r row hr
  · obtain ⟨h1, rfl⟩ := List.getElem?_eq_some_iff.mp hr
    obtain rfl : r = U.length := by
      rw [List.length_singleton] at h1; omega
    simpa using hp

/-- `x` solves the system the state holds. -/
def SatSt (x : List ℚ) (st : EchSt) : Prop := ∃ bl, st.b = some bl ∧ Sat x st.a bl

theorem Sat.length_eq {x : List ℚ} {a : List (List Int)} {bl : List Int} (h : Sat x a bl) :
    a.length = bl.length := List.Forall₂.length_eq h

theorem moveRows_ok {st st' : EchSt} {i : Nat} {k : Int} (h : moveRows st i k = .ok st') :
    moveRow st.a i k = .ok st'.a ∧ st'.nrows = st.nrows ∧ st'.rank = st.rank ∧
      st'.exact = st.exact ∧
      ∀ bl, st.b = some bl → ∃ bl', st'.b = some bl' ∧ moveRow bl i k = .ok bl' := by
  unfold moveRows at h
  split at h
  · rename_i hb
    split at h
    · cases h
    rename_i a' ha'
    cases h
    exact ⟨ha', rfl, rfl, rfl, fun bl hbl => nomatch hb.symm.trans hbl⟩
  · rename_i bl hb
    split at h
    · cases h
    rename_i bl' hbl'
    split at h
    · cases h
    rename_i a' ha'
    cases h
    exact ⟨ha', rfl, rfl, rfl, fun bl₀ hbl => by cases hb.symm.trans hbl; exact ⟨bl', rfl, hbl'⟩⟩

theorem moveRows_sat (x : List ℚ) (st st' : EchSt) (i : Nat) (k : Int) (bl : List Int)
    (hb : st.b = some bl) (hsat : Sat x st.a bl) (h : moveRows st i k = .ok st') :
    ∃ bl', st'.b = some bl' ∧ Sat x st'.a bl' := by
  obtain ⟨h3, _, _, _, h5⟩ := moveRows_ok h
  obtain ⟨bl', h1, h2⟩ := h5 bl hb
  exact ⟨bl', h1, (forall₂_moveRow_iff hsat.length_eq i k h3 h2).2 hsat⟩

theorem SatSt.moveRows {x : List ℚ} {st st' : EchSt} {i : Nat} {k : Int} (hs : SatSt x st)
    (h : moveRows st i k = .ok st') : SatSt x st' :=
  have ⟨bl, hb, hsat⟩ := hs
  moveRows_sat x st st' i k bl hb hsat h

theorem elimRow_ok {ncols i j : Nat} {st st' : EchSt} {az : Bool}
    (h : elimRow ncols i j st = .ok (st', az)) :
    ∃ ri rj p q b' rj' rj'', st.a[i]? = some ri ∧ st.a[j]? = some rj ∧ ri[i]? = some p ∧
      rj[i]? = some q ∧ elimB p q i j st.b = .ok b' ∧
      elimCols p q ri (ncols - (i + 1)) (i + 1) rj true = .ok (rj', az) ∧
      setZero rj' i = .ok rj'' ∧ st' = { st with a := st.a.set j rj'', b := b' } := by
  unfold elimRow at h
  split at h
  swap
  · cases h
  rename_i ri rj hri hrj
  split at h
  swap
  · cases h
  rename_i p q hp hq
  split at h
  · cases h
  rename_i b' hb'
  split at h
  · cases h
  rename_i rj' az' hcols
  split at h
  · cases h
  rename_i rj'' hset
  cases h
  exact ⟨ri, rj, p, q, b', rj', rj'', hri, hrj, hp, hq, hb', hcols, hset, rfl⟩

theorem elimB_spec {p q : Int} {i j : Nat} {bl : List Int} {b' : Option (List Int)}
    (h : elimB p q i j (some bl) = .ok b') :
    ∃ bj bi, bl[j]? = some bj ∧ bl[i]? = some bi ∧ b' = some (bl.set j (p * bj - q * bi)) := by
  simp only [elimB] at h
  split at h
  · rename_i bj bi hbj hbi
    cases h
    exact ⟨bj, bi, hbj, hbi, rfl⟩
  · cases h

/-- the elimination of row `j` with pivot row `i` (both vanishing left of column `i`) is the row
operation `row_j ← p·row_j − q·row_i`, `b_j ← p·b_j − q·b_i` with `p = a[i][i]`, `q = a[j][i]`;
the new row vanishes up to column `i`, and everywhere when `all_zeros` is reported. -/
theorem elimRow_spec {x : List ℚ} {ncols i j : Nat} {st st' : EchSt} {az : Bool} {bl : List Int}
    (hb : st.b = some bl) (hx : x.length ≤ ncols) (hi : i + 1 ≤ ncols)
    (hzi : ∀ row, st.a[i]? = some row → ZeroTo i row)
    (hzj : ∀ row, st.a[j]? = some row → ZeroTo i row)
    (h : elimRow ncols i j st = .ok (st', az)) :
    ∃ (ri rj rj'' : List Int) (p q bi bj : Int),
      st.a[i]? = some ri ∧ st.a[j]? = some rj ∧ ri[i]? = some p ∧ rj[i]? = some q ∧
      bl[i]? = some bi ∧ bl[j]? = some bj ∧
      st' = { st with a := st.a.set j rj'', b := some (bl.set j (p * bj - q * bi)) } ∧
      dotQ rj'' x = p * dotQ rj x - q * dotQ ri x ∧
      ZeroTo (i + 1) rj'' ∧ (az = true → ZeroTo ncols rj'') := by
  obtain ⟨ri, rj, p, q, b', rj', rj'', hri, hrj, hp, hq, hb', hcols, hset, rfl⟩ :=
    elimRow_ok h
  rw [hb] at hb'
  obtain ⟨bj, bi, hbj, hbi, rfl⟩ := elimB_spec hb'
  obtain ⟨f1, f2, f3⟩ := elimRow_row hp hq (hzi ri hri) (hzj rj hrj)
    hi hcols hset
  exact ⟨ri, rj, rj'', p, q, bi, bj, hri, hrj, hp, hq, hbi, hbj, rfl,
    elimRow_dot hx f1, f2, f3⟩

theorem bumpRank_eq (n : Nat) (st : EchSt) :
    (bumpRank n st).a = st.a ∧ (bumpRank n st).b = st.b ∧ (bumpRank n st).nrows = st.nrows ∧
      (bumpRank n st).exact = st.exact := by
  unfold bumpRank; split <;> exact ⟨rfl, rfl, rfl, rfl⟩

theorem retireRow_spec {j : Nat} {st st' : EchSt} (h : retireRow j st = .ok st') :
    ∃ st0, moveRows st j (st.nrows : Int) = .ok st0 ∧ st' = { st0 with nrows := st0.nrows - 1 } := by
  unfold retireRow at h
  split at h
  · cases h
  · rename_i st0 h0
    cases h
    exact ⟨st0, h0, rfl⟩

theorem divB_spec {d : Int} {j : Nat} {bl : List Int} {ex : Bool} {b' : Option (List Int)}
    {ex' : Bool} (h : divB d j (some bl) ex = .ok (b', ex')) :
    ∃ v, bl[j]? = some v ∧ d ≠ 0 ∧ b' = some (bl.set j (Int.fdiv v d)) ∧
      ex' = (ex && (v % d == 0)) := by
  simp only [divB] at h
  split at h
  · cases h
  rename_i v hv
  split at h
  · cases h
  rename_i hd
  cases h
  exact ⟨v, hv, hd, rfl, rfl⟩

theorem divB_mono {d : Int} {j : Nat} {b b' : Option (List Int)} {ex ex' : Bool}
    (h : divB d j b ex = .ok (b', ex')) (he : ex' = true) : ex = true := by
  cases b with
  | none => cases h; exact he
  | some bl =>
    obtain ⟨v, _, _, _, rfl⟩ := divB_spec h
    exact (Bool.and_eq_true_iff.1 he).1

theorem getRC_spec (a : List (List Int)) (r c : Nat) (v : Int) (h : getRC a r c = .ok v) :
    ∃ row, a[r]? = some row ∧ row[c]? = some v := by
  unfold getRC at h
  split at h
  · cases h
  rename_i row hrow
  split at h
  · cases h
  rename_i v' hv
  cases h
  exact ⟨row, hrow, hv⟩

theorem divRow_ok {ncols i j : Nat} {st st' : EchSt} (h : divRow ncols i j st = .ok st') :
    ∃ d b' ex row row' ex', divB d j st.b st.exact = .ok (b', ex) ∧ st.a[j]? = some row ∧
      divCols d (ncols - (i + 1)) (i + 1) row ex = .ok (row', ex') ∧
      st' = { st with a := st.a.set j row', b := b', exact := ex' } := by
  unfold divRow at h
  split at h
  · cases h
  rename_i d _
  split at h
  · cases h
  rename_i b' ex hdb
  split at h
  · cases h
  rename_i row hrow
  split at h
  · cases h
  rename_i row' ex' hc
  cases h
  exact ⟨d, b', ex, row, row', ex', hdb, hrow, hc, rfl⟩

theorem divRow_mono {ncols i j : Nat} {st st' : EchSt} (h : divRow ncols i j st = .ok st')
    (he : st'.exact = true) : st.exact = true := by
  obtain ⟨d, b', ex, row, row', ex', hdb, _, hc, rfl⟩ := divRow_ok h
  obtain ⟨_, _, _, e4⟩ := divCols_spec d _ _ _ _ _ _ hc
  exact divB_mono hdb (e4 he).1

/-- an exact division pass on row `j` (which vanishes up to column `i`) divides the equation of
row `j` by a non-zero `d`: same solutions. -/
theorem divRow_spec {x : List ℚ} {ncols i j : Nat} {st st' : EchSt} {bl : List Int}
    (hb : st.b = some bl) (hx : x.length ≤ ncols)
    (hzj : ∀ row, st.a[j]? = some row → ZeroTo (i + 1) row)
    (h : divRow ncols i j st = .ok st') (hex : st'.exact = true) :
    ∃ (row row' : List Int) (v d : Int), st.a[j]? = some row ∧ bl[j]? = some v ∧
      st' = { st with a := st.a.set j row', b := some (bl.set j (Int.fdiv v d)), exact := true } ∧
      ZeroTo (i + 1) row' ∧ (RowSat x row' (Int.fdiv v d) ↔ RowSat x row v) := by
  obtain ⟨d, b', ex, row, row', ex', hdb, hrow, hcols, rfl⟩ := divRow_ok h
  rw [hb] at hdb
  obtain ⟨v, hv, hd, rfl, rfl⟩ := divB_spec hdb
  obtain rfl : ex' = true := hex
  obtain ⟨z1, z2⟩ := divRow_row (hzj row hrow) hcols
  obtain ⟨e1, e2⟩ := z2 rfl
  simp only [Bool.and_eq_true, beq_iff_eq] at e1
  have hdvd : d ∣ v := Int.dvd_of_emod_eq_zero e1.2
  have hdot := divRow_dot hx e2
  have hdq : (d : ℚ) ≠ 0 := Int.cast_ne_zero.2 hd
  have hv' : (d : ℚ) * (Int.fdiv v d : Int) = v := by
    rw [Int.fdiv_eq_ediv_of_dvd hdvd]
    exact_mod_cast Int.mul_ediv_cancel' hdvd
  refine ⟨row, row', v, d, hrow, hv, rfl, z1, ?_⟩
  unfold RowSat
  rw [← hdot, ← hv', mul_right_inj' hdq]

theorem divLoop_mono (ncols i : Nat) : ∀ (cnt j : Nat) (st st' : EchSt),
    divLoop ncols i cnt j st = .ok st' → st'.exact = true → st.exact = true := by
  intro cnt
  induction cnt with
  | zero => intro j s s' hs he; cases hs; exact he
  | succ cnt ih =>
    intro j s s' hs he
    unfold divLoop at hs
    split at hs
    · cases hs
    rename_i s1 hs1
    exact divRow_mono hs1 (ih (j + 1) s1 s' hs he)

/-- a row with a non-zero entry among the first `ncols` columns. -/
def nzRow (ncols : Nat) (row : List Int) : Bool :=
  (List.range ncols).any (fun c => row.getD c 0 != 0)

theorem nzRow_false_iff (ncols : Nat) (row : List Int) :
    nzRow ncols row = false ↔ ZeroTo ncols row := by
  unfold nzRow ZeroTo
  simp [List.any_eq_false]

/-- invariant once fewer than `i + 1` live rows are left: fewer than `ncols` non-zero rows. -/
structure BadInv (x : List ℚ) (L ncols i : Nat) (st : EchSt) : Prop where
  sat : SatSt x st
  len : st.a.length = L
  hni : st.nrows ≤ i
  cnt : st.a.countP (nzRow ncols) < ncols

/-! ### the echelon loops on the matrix `U ++ P ++ M ++ Z` -/

/-- `st1` is `st` with the row behind `A` replaced by `m'`, which vanishes left of column `c`;
same solutions, same row counts. -/
structure Replaced (x : List ℚ) (c : Nat) (A B : List (List Int)) (m' : List Int)
    (st st1 : EchSt) : Prop where
  ha : st1.a = A ++ m' :: B
  sat : SatSt x st1
  hz : ZeroTo c m'
  hn : st1.nrows = st.nrows
  hl : st1.a.length = st.a.length

section
variable {x : List ℚ} {n L ncols c c' i : Nat} {A B U P M Z : List (List Int)} {m : List Int}
  {st st1 st2 st' : EchSt} {az : Bool}

theorem elimRow_mid (hs : SatSt x st) (ha : st.a = A ++ m :: B)
    (hp : ∀ row, st.a[i]? = some row → ZeroTo i row) (hm : ZeroTo i m) (hx : x.length ≤ ncols)
    (hi : i + 1 ≤ ncols) (h : elimRow ncols i A.length st = .ok (st1, az)) :
    ∃ m', Replaced x (i + 1) A B m' st st1 ∧ (az = true → ZeroTo ncols m') := by
  obtain ⟨bl, hb, hsat⟩ := hs
  have haj : st.a[A.length]? = some m := ha ▸ getElem?_mid A B m
  obtain ⟨ri, rj, rj'', p', q, bi, bj, hri, hrj, -, -, hbi, hbj, rfl, hdot, hz, hza⟩ :=
    elimRow_spec hb hx hi hp (fun row hr => Option.some.inj (haj.symm.trans hr) ▸ hm) h
  refine ⟨rj'', ⟨by rw [ha]; exact set_mid A B m rj'', ⟨_, rfl, forall₂_set hsat _ _ _ ?_⟩, hz, rfl,
    List.length_set ..⟩, hza⟩
  have hsi : dotQ ri x = bi := forall₂_rel_of_getElem? hsat i ri bi hri hbi
  have hsj : dotQ rj x = bj := forall₂_rel_of_getElem? hsat _ rj bj hrj hbj
  unfold RowSat
  rw [hdot, hsi, hsj]
  push_cast
  rfl

theorem divRow_mid (hs : SatSt x st) (ha : st.a = A ++ m :: B) (hm : ZeroTo (i + 1) m)
    (hx : x.length ≤ ncols) (h : divRow ncols i A.length st = .ok st') (hex : st'.exact = true) :
    ∃ m', Replaced x (i + 1) A B m' st st' := by
  obtain ⟨bl, hb, hsat⟩ := hs
  have haj : st.a[A.length]? = some m := ha ▸ getElem?_mid A B m
  obtain ⟨row, row', v, d, hrow, hv, rfl, hz, hiff⟩ := divRow_spec hb hx
    (fun row hr => Option.some.inj (haj.symm.trans hr) ▸ hm) h hex
  exact ⟨row', by rw [ha]; exact set_mid A B m row',
    ⟨_, rfl, forall₂_set hsat _ _ _ (hiff.2 (forall₂_rel_of_getElem? hsat _ row v hrow hv))⟩, hz, rfl,
    List.length_set ..⟩

/-- The matrix is `U ++ P ++ M ++ Z`: `U` the finished rows, `P` the live rows the running pass has
visited (they vanish left of column `c`), `M` the live rows still to visit (left of `c'`; the next
is row `|U| + |P|`), `Z` the retired rows. -/
structure Inv (x : List ℚ) (L ncols c c' : Nat) (U P M Z : List (List Int)) (st : EchSt) :
    Prop where
  sat : SatSt x st
  len : st.a.length = L
  ha : st.a = U ++ P ++ (M ++ Z)
  hn : st.nrows = (U ++ P).length + M.length
  tri : Tri U
  hP : ∀ row ∈ P, ZeroTo c row
  hM : ∀ row ∈ M, ZeroTo c' row
  hZ : ∀ row ∈ Z, ZeroTo ncols row

theorem Inv.tri_get (inv : Inv x L ncols c c' U P M Z st) {r : Nat} {row : List Int}
    (hr : r < U.length) (h : st.a[r]? = some row) : ZeroTo r row := by
  rw [inv.ha, List.append_assoc, List.getElem?_append_left hr] at h
  exact inv.tri r row h

/-- the next row has been replaced: it joins the visited rows. -/
theorem Inv.advance (inv : Inv x L ncols c c' U P (m :: M) Z st) {m' : List Int}
    (h : Replaced x c (U ++ P) (M ++ Z) m' st st1) : Inv x L ncols c c' U (P ++ [m']) M Z st1 :=
  ⟨h.sat, h.hl.trans inv.len, by rw [h.ha, List.append_cons, List.append_assoc U],
    by rw [h.hn, inv.hn, ← List.append_assoc, List.length_append (as := U ++ P), List.length_cons,
      List.length_singleton, Nat.add_assoc, Nat.add_comm 1], inv.tri,
    fun row hr => (List.mem_append.mp hr).elim (inv.hP row) fun hr => List.mem_singleton.mp hr ▸ h.hz,
    fun row hr => inv.hM row (List.mem_cons_of_mem _ hr), inv.hZ⟩

/-- the next row has become zero and is retired. -/
theorem Inv.retire (inv : Inv x L ncols c c' U P (m :: M) Z st) {m' : List Int}
    (h : Replaced x c (U ++ P) (M ++ Z) m' st st1) (hz : ZeroTo ncols m')
    (h2 : retireRow (U ++ P).length st1 = .ok st2) : ∃ Z', Inv x L ncols c c' U P M Z' st2 := by
  obtain ⟨st0, hmv, rfl⟩ := retireRow_spec h2
  obtain ⟨m3, m4, _⟩ := moveRows_ok hmv
  have hl0 := (moveRow_perm m3).length_eq
  rw [h.ha, h.hn, inv.hn, List.length_cons, ← Nat.add_assoc, moveRow_mid] at m3
  exact ⟨pyInsert Z 1 m', (h.sat.moveRows hmv : SatSt x st0), (hl0.trans h.hl).trans inv.len,
    (Except.ok.inj m3).symm, by dsimp only; rw [m4, h.hn, inv.hn]; rfl, inv.tri, inv.hP,
    fun row hr => inv.hM row (List.mem_cons_of_mem _ hr),
    fun row hr => (mem_pyInsert.mp hr).elim (· ▸ hz) (inv.hZ row)⟩

/-- a zero pivot: the first live row goes behind the other live rows. -/
theorem Inv.rotate (inv : Inv x L ncols c c' U [] (m :: M) Z st)
    (h : moveRows st U.length (zeroPivotIdx .repaired st.nrows) = .ok st') :
    Inv x L ncols c c' U [] (M ++ [m]) Z st' := by
  have hk : zeroPivotIdx .repaired st.nrows = ((U.length + M.length + 0 : Nat) : Int) := by
    simp only [zeroPivotIdx, inv.hn, List.append_nil, List.length_cons]; omega
  obtain ⟨m3, m4, _⟩ := moveRows_ok h
  have hl := (moveRow_perm m3).length_eq
  rw [hk, inv.ha, List.append_nil, List.cons_append, moveRow_mid] at m3
  exact ⟨inv.sat.moveRows h, hl.trans inv.len,
    by rw [← Except.ok.inj m3, List.append_nil, List.append_assoc M]; rfl,
    by rw [m4, inv.hn, List.length_append (as := M), List.length_cons, List.length_singleton], inv.tri,
    inv.hP,
    fun row hr => inv.hM row (by simpa [or_comm] using hr), inv.hZ⟩

/-- the first live row becomes the pivot row of the next pass. -/
theorem Inv.promote (inv : Inv x L ncols c U.length U [] (m :: M) Z st) (c₁ : Nat) :
    Inv x L ncols c₁ U.length (U ++ [m]) [] M Z st :=
  ⟨inv.sat, inv.len, by rw [inv.ha, List.append_nil, List.append_nil, List.append_assoc]; rfl,
    by rw [inv.hn, List.append_nil, List.append_nil, List.length_append, List.length_cons,
      List.length_singleton, Nat.add_assoc, Nat.add_comm 1],
    inv.tri.snoc (inv.hM m (List.mem_cons_self ..)), fun _ h => (nomatch h),
    fun row hr => inv.hM row (List.mem_cons_of_mem _ hr), inv.hZ⟩

/-- a pass is over: the visited rows are the rows the next pass will visit. -/
theorem Inv.restart (inv : Inv x L ncols c c' U P [] Z st) (c₁ : Nat) :
    Inv x L ncols c₁ c U [] P Z st :=
  ⟨inv.sat, inv.len, by rw [inv.ha, List.nil_append, List.append_nil, List.append_assoc],
    by rw [inv.hn, List.append_nil, List.length_append, List.length_nil, Nat.add_zero], inv.tri,
    fun _ h => (nomatch h), inv.hP, inv.hZ⟩

theorem Inv.countP_le (inv : Inv x L ncols c c' U P M Z st) :
    st.a.countP (nzRow ncols) ≤ st.nrows := by
  have h2 : Z.countP (nzRow ncols) = 0 :=
    List.countP_eq_zero.2 fun row hrow => by
      rw [(nzRow_false_iff ncols row).mpr (inv.hZ row hrow)]; exact Bool.false_ne_true
  have h3 := List.countP_le_length (p := nzRow ncols) (l := U ++ P)
  have h4 := List.countP_le_length (p := nzRow ncols) (l := M)
  rw [inv.ha, List.countP_append, List.countP_append (l₁ := M), h2, inv.hn]
  omega

theorem Inv.bumpRank (inv : Inv x L ncols c c' U P M Z st) :
    Inv x L ncols c c' U P M Z (bumpRank n st) := by
  obtain ⟨b1, b2, b3, _⟩ := bumpRank_eq n st
  exact ⟨by unfold SatSt; rw [b1, b2]; exact inv.sat, b1 ▸ inv.len, b1 ▸ inv.ha, b3 ▸ inv.hn,
    inv.tri, inv.hP, inv.hM, inv.hZ⟩

theorem elimLoop_inv (hx : x.length ≤ ncols) (hi : i + 1 ≤ ncols) (hU : i < U.length) :
    ∀ (M P Z : List (List Int)) (st st' : EchSt), Inv x L ncols (i + 1) i U P M Z st →
      elimLoop n ncols i M.length (U ++ P).length st = .ok st' →
      ∃ P' Z', Inv x L ncols (i + 1) i U P' [] Z' st'
  | [], P, Z, st, st', inv, h => by cases h; exact ⟨P, Z, inv⟩
  | m :: M, P, Z, st, st', inv, h => by
    rw [List.length_cons, elimLoop, if_pos (by rw [inv.hn, List.length_cons]; omega)] at h
    split at h
    · cases h
    rename_i st1 az hrow
    obtain ⟨m', hrep, hza⟩ := elimRow_mid inv.sat inv.ha (fun _ => inv.tri_get hU)
      (inv.hM m (List.mem_cons_self ..)) hx hi hrow
    split at h
    · rename_i haz
      split at h
      · cases h
      rename_i st2 hret
      obtain ⟨Z', inv2⟩ := inv.retire hrep (hza haz) hret
      exact elimLoop_inv hx hi hU M P Z' st2 st' inv2 h
    · have inv2 := inv.advance hrep
      rw [show (U ++ P).length + 1 = (U ++ (P ++ [m'])).length by
        rw [← List.append_assoc, List.length_append (as := U ++ P), List.length_singleton]] at h
      exact elimLoop_inv hx hi hU M (P ++ [m']) Z _ st' inv2.bumpRank h

theorem divLoop_inv (hx : x.length ≤ ncols) :
    ∀ (M P : List (List Int)) (st st' : EchSt), Inv x L ncols (i + 1) (i + 1) U P M Z st →
      divLoop ncols i M.length (U ++ P).length st = .ok st' → st'.exact = true →
      ∃ P', Inv x L ncols (i + 1) (i + 1) U P' [] Z st'
  | [], P, st, st', inv, h, _ => by cases h; exact ⟨P, inv⟩
  | m :: M, P, st, st', inv, h, hex => by
    rw [List.length_cons, divLoop] at h
    split at h
    · cases h
    rename_i st1 hrow
    obtain ⟨m', hrep⟩ := divRow_mid inv.sat inv.ha (inv.hM m (List.mem_cons_self ..)) hx hrow
      (divLoop_mono ncols i _ _ st1 st' h hex)
    rw [show (U ++ P).length + 1 = (U ++ (P ++ [m'])).length by
      rw [← List.append_assoc, List.length_append (as := U ++ P), List.length_singleton]] at h
    exact divLoop_inv hx M (P ++ [m']) st1 st' (inv.advance hrep) h hex

theorem pivotSearch_spec (v : LaVariant) (i : Nat) :
    ∀ (fuel : Nat) (st st' : EchSt), pivotSearch v i fuel st = .ok st' →
      st'.exact = st.exact ∧ st'.nrows = st.nrows ∧ st'.a.Perm st.a ∧
      (∀ x, SatSt x st → SatSt x st') ∧
      ∀ x L ncols c c' U M Z, v = .repaired → U.length = i → M ≠ [] →
        Inv x L ncols c c' U [] M Z st → ∃ M', M' ≠ [] ∧ Inv x L ncols c c' U [] M' Z st' := by
  intro fuel
  induction fuel with
  | zero =>
    intro st st' h
    cases h
    exact ⟨rfl, rfl, .refl _, fun _ => id, fun _ _ _ _ _ _ M _ _ _ hM inv => ⟨M, hM, inv⟩⟩
  | succ fuel ih =>
    intro st st' h
    unfold pivotSearch at h
    split at h
    · cases h
    split at h
    · split at h
      · cases h
      rename_i st1 hmv
      obtain ⟨m3, m4, _, m6, _⟩ := moveRows_ok hmv
      obtain ⟨r1, r2, r3, r4, r5⟩ := ih st1 st' h
      refine ⟨r1.trans m6, r2.trans m4, r3.trans (moveRow_perm m3),
        fun x hs => r4 x (hs.moveRows hmv), fun x L ncols c c' U M Z hv hU hM inv => ?_⟩
      obtain ⟨p, M, rfl⟩ := List.exists_cons_of_ne_nil hM
      subst hv hU
      exact r5 x L ncols c c' U _ Z rfl rfl (by simp) (inv.rotate hmv)
    · cases h
      exact ⟨rfl, rfl, .refl _, fun _ => id, fun _ _ _ _ _ _ M _ _ _ hM inv => ⟨M, hM, inv⟩⟩

end

/-- row `i` is still a live row. -/
def GoodInv (x : List ℚ) (L ncols i : Nat) (st : EchSt) : Prop :=
  ∃ U m M Z, U.length = i ∧ Inv x L ncols i i U [] (m :: M) Z st

theorem GoodInv.sat {x : List ℚ} {L ncols i : Nat} {st : EchSt} : GoodInv x L ncols i st → SatSt x st
  | ⟨_, _, _, _, _, g⟩ => g.sat

theorem GoodInv.len {x : List ℚ} {L ncols i : Nat} {st : EchSt} :
    GoodInv x L ncols i st → st.a.length = L
  | ⟨_, _, _, _, _, g⟩ => g.len

theorem elimLoop_exact (n ncols i : Nat) : ∀ (fuel j : Nat) (st st' : EchSt),
    elimLoop n ncols i fuel j st = .ok st' → st'.exact = st.exact := by
  intro fuel
  induction fuel with
  | zero => intro j st st' h; cases h; rfl
  | succ fuel ih =>
    intro j st st' h
    unfold elimLoop at h
    split at h
    · split at h
      · cases h
      rename_i st1 az hrow
      obtain ⟨_, _, _, _, _, _, _, _, _, _, _, _, _, _, rfl⟩ := elimRow_ok hrow
      split at h
      · split at h
        · cases h
        rename_i st2 hret
        obtain ⟨st0, hmv, rfl⟩ := retireRow_spec hret
        exact (ih j _ st' h).trans (moveRows_ok hmv).2.2.2.1
      · exact (ih (j + 1) _ st' h).trans (bumpRank_eq n _).2.2.2
    · cases h; rfl

theorem echStep_mono {v : LaVariant} {n ncols i : Nat} {st st' : EchSt}
    (h : echStep v n ncols i st = .ok st') (he : st'.exact = true) : st.exact = true := by
  unfold echStep at h
  split at h
  · cases h
  rename_i st1 h1
  split at h
  · cases h
  rename_i st2 h2
  rw [← (pivotSearch_spec v i _ st st1 h1).1, ← elimLoop_exact n ncols i _ _ st1 st2 h2]
  split at h
  · exact divLoop_mono ncols i _ _ st2 st' h he
  · cases h; exact he

theorem echOuter_mono (v : LaVariant) (n ncols : Nat) : ∀ (fuel i : Nat) (st st' : EchSt),
    echOuter v n ncols fuel i st = .ok st' → st'.exact = true → st.exact = true := by
  intro fuel
  induction fuel with
  | zero => intro i s s' hs he; cases hs; exact he
  | succ fuel ih =>
    intro i s s' hs he
    unfold echOuter at hs
    split at hs
    · cases hs
    rename_i s1 hs1
    exact echStep_mono hs1 (ih (i + 1) s1 s' hs he)

theorem echStep_good {x : List ℚ} {n L ncols i : Nat} {st st' : EchSt} (hx : x.length ≤ ncols)
    (hi : i + 1 < ncols) (inv : GoodInv x L ncols i st)
    (h : echStep .repaired n ncols i st = .ok st') (hex : st'.exact = true) :
    GoodInv x L ncols (i + 1) st' ∨ BadInv x L ncols (i + 1) st' := by
  obtain ⟨U, m, M, Z, rfl, inv⟩ := inv
  unfold echStep at h
  split at h
  · cases h
  rename_i st1 hpiv
  obtain ⟨M1, hM1, g1⟩ := (pivotSearch_spec _ _ _ st st1 hpiv).2.2.2.2 x L ncols _ _ U _ Z rfl rfl
    (List.cons_ne_nil m M) inv
  obtain ⟨m1, M1, rfl⟩ := List.exists_cons_of_ne_nil hM1
  have g2 := g1.promote (U.length + 1)
  have hU1 : (U ++ [m1]).length = U.length + 1 := by rw [List.length_append, List.length_singleton]
  split at h
  · cases h
  rename_i st2 helim
  rw [show st1.nrows - (U.length + 1) = M1.length by rw [g2.hn, List.append_nil, hU1]; omega,
    ← hU1, ← List.append_nil (U ++ [m1])] at helim
  obtain ⟨P, Z', e1⟩ := elimLoop_inv hx (Nat.le_of_lt hi) (by omega) M1 [] Z st1 st2 g2 helim
  have d1 := e1.restart (U.length + 1)
  have key : ∃ P', Inv x L ncols (U.length + 1) (U.length + 1) (U ++ [m1]) [] P' Z' st' := by
    split at h
    · rw [show st2.nrows - (U.length + 1) = P.length by rw [d1.hn, List.append_nil, hU1]; omega,
        ← hU1, ← List.append_nil (U ++ [m1])] at h
      obtain ⟨P', k1⟩ := divLoop_inv hx P [] st2 st' d1 h hex
      exact ⟨P', k1.restart _⟩
    · cases h
      exact ⟨P, d1⟩
  obtain ⟨P', k2⟩ := key
  cases P' with
  | cons m' P' => exact Or.inl ⟨_, m', P', Z', hU1, k2⟩
  | nil =>
    have hn : st'.nrows = U.length + 1 := by rw [k2.hn, List.append_nil, hU1]; rfl
    exact Or.inr ⟨k2.sat, k2.len, Nat.le_of_eq hn, Nat.lt_of_le_of_lt k2.countP_le (hn ▸ hi)⟩


theorem echStep_bad {x : List ℚ} {v : LaVariant} {n L ncols i : Nat} {st st' : EchSt}
    (inv : BadInv x L ncols i st) (h : echStep v n ncols i st = .ok st') :
    BadInv x L ncols (i + 1) st' := by
  unfold echStep at h
  split at h
  · cases h
  rename_i st1 hpiv
  obtain ⟨_, p4, p2, p1, _⟩ := pivotSearch_spec v i _ st st1 hpiv
  have hni := inv.hni
  have hf : st1.nrows - (i + 1) = 0 := by omega
  rw [hf] at h
  simp only [elimLoop] at h
  rw [hf] at h
  simp only [divLoop, ite_self] at h
  cases h
  exact ⟨p1 x inv.sat, p2.length_eq.trans inv.len, by omega, by rw [p2.countP_eq]; exact inv.cnt⟩

theorem echOuter_inv (x : List ℚ) (n L ncols : Nat) (hx : x.length ≤ ncols) :
    ∀ (fuel i : Nat) (st st' : EchSt), i + fuel ≤ ncols - 1 →
      (GoodInv x L ncols i st ∨ BadInv x L ncols i st) →
      echOuter .repaired n ncols fuel i st = .ok st' → st'.exact = true →
      GoodInv x L ncols (i + fuel) st' ∨ BadInv x L ncols (i + fuel) st' := by
  intro fuel
  induction fuel with
  | zero =>
    intro i st st' _ inv h hex
    cases h
    exact inv
  | succ fuel ih =>
    intro i st st' hif inv h hex
    unfold echOuter at h
    split at h
    · cases h
    rename_i st1 hstep
    have h1 := echOuter_mono .repaired n ncols fuel (i + 1) st1 st' h hex
    rw [show i + (fuel + 1) = i + 1 + fuel by omega]
    refine ih (i + 1) st1 st' (by omega) ?_ h hex
    rcases inv with inv | inv
    · exact echStep_good hx (by omega) inv hstep h1
    · exact Or.inr (echStep_bad inv hstep)

theorem dotQ_drop_zero : ∀ (r : Nat) (row : List Int) (x : List ℚ), ZeroTo r row →
    dotQ row x = dotQ (row.drop r) (x.drop r) := by
  intro r
  induction r with
  | zero => intro row x _; simp
  | succ r ih =>
    intro row x hz
    cases row with
    | nil => simp
    | cons h t =>
      cases x with
      | nil => simp
      | cons y ys =>
        have h0 : h = 0 := by simpa using hz 0 (Nat.succ_pos r)
        have ht : ZeroTo r t := by
          intro c hc
          have := hz (c + 1) (by omega)
          simpa using this
        simp only [dotQ_cons, List.drop_succ_cons, h0]
        rw [← ih t ys ht]
        simp

/-- an upper-triangular system with non-zero diagonal has at most one solution: the tails agree by
induction (the equations `r + 1` are equations `r` of the rows without their first entry), then
the first equation gives the first entry. -/
theorem tri_unique : ∀ (xq x0 : List ℚ), xq.length = x0.length →
    (∀ r, r < xq.length → ∃ (row : List Int) (v : Int), row[r]? = some v ∧ v ≠ 0 ∧
      dotQ (row.drop r) (xq.drop r) = dotQ (row.drop r) (x0.drop r)) → xq = x0
  | [], [], _, _ => rfl
  | [], _ :: _, h, _ => nomatch h
  | _ :: _, [], h, _ => nomatch h
  | a :: as, b :: bs, hl, hrows => by
    obtain rfl : as = bs := tri_unique as bs (Nat.succ.inj hl) fun r hr => by
      obtain ⟨row, v, hv, hvz, heq⟩ := hrows (r + 1) (Nat.succ_lt_succ hr)
      exact ⟨row.tail, v, by rw [List.getElem?_tail]; exact hv, hvz, by
        rw [List.drop_tail]; exact heq⟩
    obtain ⟨row, v, hv, hvz, heq⟩ := hrows 0 (Nat.zero_lt_succ _)
    obtain ⟨v', row', rfl⟩ : ∃ v' row', row = v' :: row' := by
      cases row with
      | nil => cases hv
      | cons v' row' => exact ⟨v', row', rfl⟩
    cases hv
    rw [List.drop_zero, List.drop_zero, List.drop_zero, dotQ_cons, dotQ_cons,
      add_left_inj, mul_right_inj' (Int.cast_ne_zero.2 hvz)] at heq
    rw [heq]

/-- the last step of `solve_right`: on a final state satisfying the invariants, a vector
returned by `upper_triangular_solve` on the first `ncols` rows is the solution `x0`. -/
theorem final_unique {x0 : List ℚ} {L ncols : Nat} {st : EchSt} {bl : List Int} {xs : List PyQ}
    (hx0 : x0.length = ncols) (hb : st.b = some bl) (hL : ncols ≤ L)
    (inv : GoodInv x0 L ncols (ncols - 1) st ∨ BadInv x0 L ncols (ncols - 1) st)
    (h : upperTriangularSolve (st.a.take ncols) (bl.take ncols) = .ok (some xs)) :
    xs.map PyQ.toRat = x0 := by
  obtain ⟨u1, _, _, u4⟩ := uts_some _ _ _ h
  have hlen : st.a.length = L := inv.elim (·.len) (·.len)
  have hFlen : (st.a.take ncols).length = ncols := by rw [List.length_take, hlen]; omega
  rw [hFlen] at u1 u4
  have hsat : Sat x0 st.a bl := by
    obtain ⟨bl', hb', hs⟩ := inv.elim (·.sat) (·.sat)
    cases hb.symm.trans hb'; exact hs
  rcases inv with ⟨U, m, M, Z, hU, inv⟩ | inv
  · -- upper triangular: uniqueness
    have g := (hU ▸ inv).promote 0
    refine tri_unique _ x0 (by rw [List.length_map, u1, hx0]) fun r hr => ?_
    rw [List.length_map, u1] at hr
    obtain ⟨hrow_eq, row, v, hrow, hv, hvz⟩ := u4 r hr
    have hrow' := hrow
    rw [List.getElem?_take_of_lt hr] at hrow'
    obtain ⟨br, hbr⟩ : ∃ br, bl[r]? = some br :=
      ⟨bl[r]'(by rw [← hsat.length_eq, hlen]; omega), List.getElem?_eq_getElem _⟩
    have hs : dotQ row x0 = br := forall₂_rel_of_getElem? hsat r row br hrow' hbr
    rw [dotQ_drop_zero r row x0 (g.tri_get (by
      rw [List.length_append, hU, List.length_singleton]; omega) hrow')] at hs
    exact ⟨row, v, hv, hvz, (hrow_eq row br hrow
      (by rw [List.getElem?_take_of_lt hr]; exact hbr)).trans hs.symm⟩
  · -- fewer than `ncols` non-zero rows: a zero row among the first `ncols`, contradiction
    exfalso
    have hc : (st.a.take ncols).countP (nzRow ncols) < (st.a.take ncols).length := by
      have := (List.take_sublist ncols st.a).countP_le (p := nzRow ncols)
      have := inv.cnt
      omega
    obtain ⟨row, hmem, hnz⟩ : ∃ row ∈ st.a.take ncols, ¬ nzRow ncols row = true := by
      by_contra hcon
      exact absurd (List.countP_eq_length.mpr fun row hrow =>
        Classical.not_not.1 fun hf => hcon ⟨row, hrow, hf⟩) (Nat.ne_of_lt hc)
    obtain ⟨r, hrow⟩ := List.mem_iff_getElem?.mp hmem
    have hr : r < ncols := hFlen ▸ (List.getElem?_eq_some_iff.mp hrow).1
    obtain ⟨_, row', v, hrow', hv, hvz⟩ := u4 r hr
    cases hrow.symm.trans hrow'
    have := (nzRow_false_iff ncols row).mp (Bool.eq_false_iff.2 hnz) r hr
    rw [getD_of_getElem? hv] at this
    exact hvz this

/-- the invariants hold at the end of `echelon_form` (repaired variant) run on a system that
`x0` solves, provided all divisions were exact. -/
theorem echelonRun_inv {x0 : List ℚ} {row0 : List Int} {rest : List (List Int)} {b : List Int}
    {st : EchSt} (hx0 : x0.length ≤ row0.length) (hsat : Sat x0 (row0 :: rest) b)
    (hmn : row0.length ≤ (row0 :: rest).length)
    (h : echelonRun .repaired (row0 :: rest) (some b) = .ok st) (hex : st.exact = true) :
    GoodInv x0 (row0 :: rest).length row0.length (row0.length - 1) st ∨
      BadInv x0 (row0 :: rest).length row0.length (row0.length - 1) st := by
  have hlen := hsat.length_eq
  cases b with
  | nil => cases hlen
  | cons y l =>
    unfold echelonRun at h
    simp only [bActive] at h
    rw [if_neg (not_not.2 hlen), Nat.min_eq_right hmn] at h
    have good0 : GoodInv x0 (row0 :: rest).length row0.length 0
        ⟨row0 :: rest, some (y :: l), (row0 :: rest).length, 1, true⟩ :=
      ⟨[], row0, rest, [], rfl, ⟨_, rfl, hsat⟩, rfl, (List.append_nil _).symm, (Nat.zero_add _).symm,
        fun _ _ h => (nomatch h), fun _ h => (nomatch h),
        fun _ _ c hc => absurd hc (Nat.not_lt_zero c), fun _ h => (nomatch h)⟩
    have := echOuter_inv x0 row0.length _ row0.length hx0 _ 0 _ st (by omega) (Or.inl good0) h hex
    rwa [Nat.zero_add] at this

/-! ### replacing one equation by an equivalent one keeps the solution set -/

theorem sat_set_iff {x : List ℚ} {a : List (List Int)} {bl : List Int} {j : Nat}
    {rj r' : List Int} {bj b' : Int} (hr : a[j]? = some rj) (hb : bl[j]? = some bj)
    (hiff : RowSat x r' b' ↔ RowSat x rj bj) :
    Sat x (a.set j r') (bl.set j b') ↔ Sat x a bl := by
  obtain ⟨hja, hra⟩ := List.getElem?_eq_some_iff.mp hr
  obtain ⟨hjb, hrb⟩ := List.getElem?_eq_some_iff.mp hb
  constructor
  · intro h
    have := forall₂_set h j rj bj (hiff.mp (forall₂_rel_of_getElem? h j r' b'
      (List.getElem?_set_self hja) (List.getElem?_set_self hjb)))
    rwa [List.set_set, List.set_set, ← hra, ← hrb, List.set_getElem_self, List.set_getElem_self]
      at this
  · intro h
    exact forall₂_set h j r' b' (hiff.mpr (forall₂_rel_of_getElem? h j rj bj hr hb))

end Paranoid.LA

