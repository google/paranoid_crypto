/-
Proofs/BsgsDiffExactCheck.lean — CheckECKeySmallDifference under `SDHyp` in one statement
(`smallDiffCheck_spec`: every verdict satisfies `SmallDiffOK` and, `batchDLOfDifferences_flagged_iff`
lifted, is positive for exactly the keys with a close companion); with `sdHyp_mono` / `sdHyp_entry`,
what the invariance theorems of Props/C17Ec.lean use.
-/
import ParanoidModel.Proofs.BsgsDiffExact
import ParanoidModel.Proofs.BsgsCheckLoop
namespace Paranoid.Bsgs
open Paranoid Paranoid.Ec WeierstrassCurve

/-- `st` / `m` are the `_table` state and the float oracle of the curve object of entry `e`. -/
def InFac (f : Factory) (sts : List EcState) (ms : List Nat) (e : FEntry) (st : EcState) (m : Nat) :
    Prop := ∃ idx : Nat, f[idx]? = some e ∧ sts[idx]? = some st ∧ ms[idx]? = some m

theorem InFac.unique {f : Factory} (hnd : (f.map (·.id)).Nodup) {sts : List EcState} {ms : List Nat}
    {e : FEntry} {st st' : EcState} {m m' : Nat} (h : InFac f sts ms e st m)
    (h' : InFac f sts ms e st' m') : st = st' ∧ m = m' := by
  obtain ⟨i, a, b, c⟩ := h
  obtain ⟨i', a', b', c'⟩ := h'
  have hii : i = i' := by
    have hi : i < f.length := (List.getElem?_eq_some_iff.mp a).1
    have hi' : i' < f.length := (List.getElem?_eq_some_iff.mp a').1
    have e1 : (f.map (·.id))[i]? = some e.id := by rw [List.getElem?_map, a]; rfl
    have e2 : (f.map (·.id))[i']? = some e.id := by rw [List.getElem?_map, a']; rfl
    have hi2 : i < (f.map (·.id)).length := by rw [List.length_map]; exact hi
    have hi2' : i' < (f.map (·.id)).length := by rw [List.length_map]; exact hi'
    rw [List.getElem?_eq_getElem hi2] at e1
    rw [List.getElem?_eq_getElem hi2'] at e2
    exact (List.Nodup.getElem_inj_iff hnd).mp (by
      rw [Option.some.inj e1, Option.some.inj e2])
  subst hii
  rw [b] at b'; rw [c] at c'
  exact ⟨Option.some.inj b', Option.some.inj c'⟩

theorem diffVerdict_result (x : Option Rel) : (diffVerdict x).result = true ↔ ∃ r, x = some r := by
  cases x with
  | none => simp [diffVerdict]
  | some r => simp [diffVerdict]

theorem sizeOf_eq {f : Factory} (hnd : (f.map (·.id)).Nodup) {sts : List EcState} {ms : List Nat}
    {e : FEntry} {st : EcState} {m : Nat} (h : InFac f sts ms e st m) :
    sizeOf f sts e = st.tableSize := by
  obtain ⟨i, h1, h2, -⟩ := h
  induction f generalizing sts i with
  | nil => simp at h1
  | cons e' es ih =>
    cases sts with
    | nil => simp at h2
    | cons st' sts =>
      rw [List.map_cons, List.nodup_cons] at hnd
      cases i with
      | zero =>
        simp only [List.getElem?_cons_zero, Option.some.injEq] at h1 h2
        rw [sizeOf, if_pos (by rw [h1]), h2]
      | succ i =>
        rw [sizeOf, if_neg fun hid => hnd.1 (List.mem_map.mpr ⟨e, List.mem_of_getElem? h1, hid.symm⟩)]
        exact ih hnd.2 i h1 h2

/-- who is flagged in one curve group, exactly. -/
theorem smallDiffGroup_flag_iff (c : Curve) (hc : CurveHyp c) (st : EcState) (id : Nat)
    (keys : List ECKey) (hpts : ∀ P ∈ groupPoints id keys, onCurve c P = true ∧ Reduced c P)
    (maxDiff m : Nat) {rels : List (Option Rel)} {st' : EcState}
    (hcall : batchDLOfDifferences c st (groupPoints id keys) [] maxDiff m = .ok (rels, st'))
    (V : Nat) :
    haveI : Fact (Nat.Prime c.p) := ⟨hc.prime⟩
    DiffRange c st maxDiff m V → ∀ (r : Nat) (k : ECKey) (x : Option Rel),
      (groupPoints id keys)[r]? = some k.pt → rels[r]? = some x →
      ((diffVerdict x).result = true ↔ ∃ k' ∈ keys, k'.curveType = id ∧
        CloseG c V (toPoint c k.pt) (toPoint c k'.pt)) := by
  haveI : Fact (Nat.Prime c.p) := ⟨hc.prime⟩
  intro hV r k x hr hx
  obtain ⟨g1, g2, _, _, _, _⟩ := generator_of_paramsOK c hc.params
  obtain ⟨g7, _⟩ := reduced_of_paramsOK c hc.params
  have hgood := goodPt_groupPoints hpts
  obtain ⟨rels', st1', hcall', _, hiff⟩ := batchDLOfDifferences_flagged_iff c g1 g2 g7 st maxDiff m V
    hV (groupPoints id keys) [] hgood
  rw [hcall] at hcall'
  simp only [Except.ok.injEq, Prod.mk.injEq] at hcall'
  obtain ⟨rfl, _⟩ := hcall'
  rw [diffVerdict_result]
  have := hiff r k.pt hr
  unfold Flagged at this
  rw [hx] at this
  simp only [Option.some.injEq] at this
  rw [this, List.nil_append]
  constructor
  · rintro ⟨Q, hQ, hcl⟩
    obtain ⟨k', hk', hid', rfl⟩ := mem_groupPoints_iff.mp hQ
    exact ⟨k', hk', hid', hcl⟩
  · rintro ⟨k', hk', hid', hcl⟩
    exact ⟨k'.pt, mem_groupPoints_iff.mpr ⟨k', hk', hid', rfl⟩, hcl⟩

/-- CheckECKeySmallDifference under `SDHyp`: the check returns; a key of an unknown / `None` curve gets
no entry; the entry of every other key satisfies `SmallDiffOK`, and for every range `V` of the table
its curve object uses it is positive exactly when a key of the batch is `V`-close. -/
theorem smallDiffCheck_spec (f : Factory) (sts : List EcState) (ms : List Nat)
    (keys : List ECKey) (maxDiff : Nat) (hnd : (f.map (·.id)).Nodup)
    (hh : SDHyp keys maxDiff f sts ms) :
    ∃ res sts', checkECKeySmallDifference f sts ms keys maxDiff = .ok (res, sts') ∧
      StatesOK f sts' ∧ RowShape f keys res ∧
      ∀ (p : Nat) (k : ECKey) (e : FEntry) (c : Curve), keys[p]? = some k → e ∈ f →
        e.id = k.curveType → e.curve = some c →
        ∃ st m kv, InFac f sts ms e st m ∧ res[p]? = some (some kv) ∧ ∃ hp : Nat.Prime c.p,
          SmallDiffOK c hp keys (max st.tableSize maxDiff) p k kv ∧
          ∀ V, haveI : Fact (Nat.Prime c.p) := ⟨hp⟩
            DiffRange c st maxDiff m V → (kv.result = true ↔ ∃ k' ∈ keys, k'.curveType = e.id ∧
              CloseG c V (toPoint c k.pt) (toPoint c k'.pt)) := by
  obtain ⟨res, sts', h1, h2, h3, h4⟩ := genCheck_spec keys (diffStepE listImpl maxDiff keys) TableIs
    (fun e c st m p k kv => ∃ hp : Nat.Prime c.p,
      SmallDiffOK c hp keys (max st.tableSize maxDiff) p k kv ∧
      ∀ V, haveI : Fact (Nat.Prime c.p) := ⟨hp⟩
        DiffRange c st maxDiff m V → (kv.result = true ↔ ∃ k' ∈ keys, k'.curveType = e.id ∧
          CloseG c V (toPoint c k.pt) (toPoint c k'.pt))) f sts ms hnd
    ((sdHyp_iff.mp hh).imp fun e st m he c hcur => by
      obtain ⟨hch, hst, hon, horc⟩ := he c hcur
      obtain ⟨rels, st', e1, e2, e3, e4⟩ := smallDiffGroup_spec c hch st hst e.id keys hon maxDiff m horc
      refine diffStepE_stepOK e1 e2 e3 fun rk p k x hrk hk hid hP hx => ⟨hch.prime, ?_, fun V hV =>
        smallDiffGroup_flag_iff c hch st e.id keys hon maxDiff m e1 V hV rk k x hP hx⟩
      obtain ⟨x', hx', hok⟩ := e4 p k rk hk hid hrk
      rw [hx] at hx'; cases hx'; exact hok)
  exact ⟨res, sts', by rw [checkECKeySmallDifference, checkECKeySmallDifferenceG, smallDiffLoop_eq_gen]; exact h1,
    statesOK_iff.mpr h2, h3, h4⟩

/-- ★ CheckECKeySmallDifference: WHO is flagged, exactly.  `f` with distinct ids, a batch
satisfying `SDHyp`.  Let `e` be an entry with curve `c`, state `st` and float value `m`, and `V` a
range of the table its `BatchDLOfDifferences(max_diff)` call uses (`DiffRange` — no key occurs in
it).  Then the check returns, and a key `k` of that curve is flagged IF AND ONLY IF some key `k'` of
the batch on the same curve satisfies `P ≠ P'`, `P - P' = kk • G`, `|kk| < V`. -/
theorem checkECKeySmallDifference_flag_iff (f : Factory) (sts : List EcState) (ms : List Nat)
    (keys : List ECKey) (maxDiff : Nat) (hnd : (f.map (·.id)).Nodup)
    (hh : SDHyp keys maxDiff f sts ms) :
    ∃ res sts', checkECKeySmallDifference f sts ms keys maxDiff = .ok (res, sts') ∧
      res.length = keys.length ∧
      (∀ (p : Nat) (k : ECKey), keys[p]? = some k → factoryGet f k.curveType = none →
        res[p]? = some none) ∧
      ∀ (e : FEntry) (c : Curve) (st : EcState) (m V : Nat) (hp : Nat.Prime c.p), e ∈ f →
        e.curve = some c → InFac f sts ms e st m →
        haveI : Fact (Nat.Prime c.p) := ⟨hp⟩
        DiffRange c st maxDiff m V →
        ∀ (p : Nat) (k : ECKey), keys[p]? = some k → k.curveType = e.id →
          ∃ kv, res[p]? = some (some kv) ∧
            (kv.result = true ↔ ∃ k' ∈ keys, k'.curveType = e.id ∧
              CloseG c V (toPoint c k.pt) (toPoint c k'.pt)) := by
  obtain ⟨res, sts', h1, _, h3, h4⟩ := smallDiffCheck_spec f sts ms keys maxDiff hnd hh
  refine ⟨res, sts', h1, h3.1, h3.2.1, fun e c st m V hp he hcur hin hV p k hk hid => ?_⟩
  obtain ⟨st0, m0, kv, hin0, hkv, _, _, hiff⟩ := h4 p k e c hk he hid.symm hcur
  obtain ⟨rfl, rfl⟩ := InFac.unique hnd hin hin0
  exact ⟨kv, hkv, hiff V hV⟩

/-- `SDHyp` depends on the batch only through the set of its keys (antitone). -/
theorem sdHyp_mono {keys keys' : List ECKey} (hsub : ∀ k ∈ keys', k ∈ keys) (maxDiff : Nat)
    (f : Factory) (sts : List EcState) (ms : List Nat) (h : SDHyp keys maxDiff f sts ms) :
    SDHyp keys' maxDiff f sts ms :=
  sdHyp_iff.mpr ((sdHyp_iff.mp h).imp fun e st m h c hc =>
    ⟨(h c hc).1, (h c hc).2.1, fun P hP => by
      obtain ⟨k, hk, hid, rfl⟩ := mem_groupPoints_iff.mp hP
      exact (h c hc).2.2.1 _ (mem_groupPoints_iff.mpr ⟨k, hsub k hk, hid, rfl⟩), (h c hc).2.2.2⟩)

/-- every entry of a factory under `SDHyp` has a state (reachable), a float value and `CurveHyp`. -/
theorem sdHyp_entry {keys : List ECKey} {maxDiff : Nat} {f : Factory} {sts : List EcState}
    {ms : List Nat} (h : SDHyp keys maxDiff f sts ms) (e : FEntry) (he : e ∈ f) (c : Curve)
    (hc : e.curve = some c) :
    ∃ st m, InFac f sts ms e st m ∧ CurveHyp c ∧ TableIs c st ∧ (st.tableSize < maxDiff → 1 ≤ m) :=
  let ⟨st, m, hin, h'⟩ := (sdHyp_iff.mp h).exists_of_mem e he
  ⟨st, m, hin, (h' c hc).1, (h' c hc).2.1, (h' c hc).2.2.2⟩

end Paranoid.Bsgs
