/-
Proofs/NistBits.lean — the dictionary between the forms a bit string takes in Model/Nist.lean: the integer `bits`
(bit i = `bits.testBit i`), the list `bitList bits n`, the value `natOfBits` of a list, and the blocks `chunks` /
`groups` of a list.  Equations between numbers are proved bit by bit (`natOfBits_testBit`, `Nat.eq_of_testBit_eq`).
-/
import ParanoidModel.Model.Nist
import Mathlib.Tactic.Ring
namespace Paranoid.Nist

/-! ### the list of an integer -/

theorem bitsSmall_length : ∀ (n x : Nat), (bitsSmall n x).length = n
  | 0, _ => rfl
  | n + 1, x => by simp [bitsSmall, bitsSmall_length n]

theorem bitsSmall_append : ∀ (a b x : Nat),
    bitsSmall (a + b) x = bitsSmall a (x % 2 ^ a) ++ bitsSmall b (x >>> a)
  | 0, b, x => by simp [bitsSmall]
  | a + 1, b, x => by
    have h : a + 1 + b = (a + b) + 1 := by omega
    rw [h]
    simp only [bitsSmall, List.cons_append]
    have h1 : x % 2 ^ (a + 1) % 2 = x % 2 := by
      rw [Nat.pow_succ, Nat.mod_mul_left_mod]
    have h2 : x % 2 ^ (a + 1) / 2 = (x / 2) % 2 ^ a := by
      rw [Nat.pow_succ, Nat.mul_comm, Nat.mod_mul_right_div_self]
    have h3 : x >>> (a + 1) = (x / 2) >>> a := by
      rw [Nat.shiftRight_succ_inside]
    rw [h1, h2, h3, bitsSmall_append a b (x / 2)]

theorem bitsDC_eq : ∀ (f n x : Nat), bitsDC f n x = bitsSmall n x
  | 0, n, x => rfl
  | f + 1, n, x => by
    unfold bitsDC
    split
    · rfl
    · rw [bitsDC_eq f, bitsDC_eq f, ← bitsSmall_append]
      congr 1
      omega

theorem bitList_eq (bits n : Nat) : bitList bits n = bitsSmall n bits := bitsDC_eq _ _ _

theorem bitList_length (bits n : Nat) : (bitList bits n).length = n := by
  rw [bitList_eq, bitsSmall_length]

theorem bitsSmall_testBit : ∀ (n x : Nat), bitsSmall n x = (List.range n).map (fun i => x.testBit i)
  | 0, _ => rfl
  | n + 1, x => by
    rw [bitsSmall, bitsSmall_testBit n, List.range_succ_eq_map]
    simp only [List.map_cons, List.map_map]
    congr 1
    · simp [Nat.testBit, Nat.and_comm 1, Nat.and_one_is_mod]
    · apply List.map_congr_left
      intro i _
      simp [Nat.testBit_succ]

theorem bitsSmall_getElem? (n x i : Nat) :
    (bitsSmall n x)[i]? = if i < n then some (x.testBit i) else none := by
  rw [bitsSmall_testBit]
  by_cases h : i < n
  · simp [h]
  · simp [h]

theorem bitList_getElem? (bits n i : Nat) :
    (bitList bits n)[i]? = if i < n then some (bits.testBit i) else none := by
  rw [bitList_eq, bitsSmall_getElem?]

theorem bitsSmall_drop (n a x : Nat) : (bitsSmall n x).drop a = bitsSmall (n - a) (x >>> a) := by
  apply List.ext_getElem?
  intro i
  rw [List.getElem?_drop, bitsSmall_getElem?, bitsSmall_getElem?, Nat.testBit_shiftRight]
  by_cases h : a + i < n
  · rw [if_pos h, if_pos (by omega)]
  · rw [if_neg h, if_neg (by omega)]

theorem bitsSmall_take (n k x : Nat) : (bitsSmall n x).take k = bitsSmall (min k n) x := by
  apply List.ext_getElem?
  intro i
  rw [List.getElem?_take, bitsSmall_getElem?, bitsSmall_getElem?]
  by_cases h : i < k
  · rw [if_pos h]
    by_cases h2 : i < n
    · rw [if_pos h2, if_pos (by omega)]
    · rw [if_neg h2, if_neg (by omega)]
  · rw [if_neg h, if_neg (by omega)]

theorem bitList_compl (bits n : Nat) (h : bits < 2 ^ n) :
    bitList (2 ^ n - 1 - bits) n = (bitList bits n).map (!·) := by
  rw [bitList_eq, bitList_eq, bitsSmall_testBit, bitsSmall_testBit, List.map_map]
  apply List.map_congr_left
  intro i hi
  rw [List.mem_range] at hi
  have : 2 ^ n - 1 - bits = 2 ^ n - (bits + 1) := by omega
  rw [this, Nat.testBit_two_pow_sub_succ h]
  simp [hi]

/-! ### the value of a list -/

theorem natOfBits_cons_div (a : Bool) (l : List Bool) : natOfBits (a :: l) / 2 = natOfBits l := by
  simp only [natOfBits]
  cases a
  · simp
  · simp; omega

theorem natOfBits_append_single (l : List Bool) (b : Bool) :
    natOfBits (l ++ [b]) = natOfBits l + (if b then 2 ^ l.length else 0) := by
  induction l with
  | nil => cases b <;> simp [natOfBits]
  | cons a l ih =>
    simp only [List.cons_append, natOfBits, ih, List.length_cons, Nat.pow_succ]
    cases b
    · simp
    · simp; omega

theorem natOfBits_testBit : ∀ (l : List Bool) (t : Nat), (natOfBits l).testBit t = l.getD t false
  | [], t => by simp [natOfBits]
  | b :: l, 0 => by cases b <;> simp [natOfBits, Nat.testBit_zero, Nat.add_mod]
  | b :: l, t + 1 => by
    rw [Nat.testBit_succ, natOfBits_cons_div, natOfBits_testBit l t]
    rfl

theorem natOfBits_lt (l : List Bool) : natOfBits l < 2 ^ l.length := by
  apply Nat.lt_pow_two_of_testBit
  intro i hi
  rw [natOfBits_testBit, List.getD_eq_getElem?_getD, List.getElem?_eq_none hi]
  rfl

theorem natOfBits_take_mod (l : List Bool) (j : Nat) : natOfBits (l.take j) = natOfBits l % 2 ^ j := by
  apply Nat.eq_of_testBit_eq
  intro t
  rw [Nat.testBit_mod_two_pow, natOfBits_testBit, natOfBits_testBit, List.getD_eq_getElem?_getD,
    List.getD_eq_getElem?_getD, List.getElem?_take]
  by_cases h : t < j <;> simp [h]

theorem natOfBits_drop (l : List Bool) (d : Nat) : natOfBits (l.drop d) = natOfBits l >>> d := by
  apply Nat.eq_of_testBit_eq
  intro t
  rw [Nat.testBit_shiftRight, natOfBits_testBit, natOfBits_testBit, List.getD_eq_getElem?_getD,
    List.getD_eq_getElem?_getD, List.getElem?_drop]

theorem natOfBits_bitsSmall (M x : Nat) : natOfBits (bitsSmall M x) = x % 2 ^ M := by
  apply Nat.eq_of_testBit_eq
  intro t
  rw [Nat.testBit_mod_two_pow, natOfBits_testBit, List.getD_eq_getElem?_getD, bitsSmall_getElem?]
  by_cases h : t < M <;> simp [h]

theorem bitsSmall_natOfBits : ∀ (l : List Bool), bitsSmall l.length (natOfBits l) = l
  | [] => rfl
  | b :: l => by
    simp only [List.length_cons, bitsSmall, natOfBits_cons_div, bitsSmall_natOfBits l]
    congr 1
    simp only [natOfBits]
    cases b <;> simp

/-! ### blocks -/

theorem groupsAux_spec {α} (r : Nat) : ∀ (k : Nat) (l : List α) (acc : List (List α)),
    groupsAux r k l acc = acc.reverse ++ (List.range k).map (fun i => (l.drop (i * r)).take r)
  | 0, l, acc => by simp [groupsAux]
  | k + 1, l, acc => by
    rw [groupsAux, groupsAux_spec r k, List.range_succ_eq_map]
    simp only [List.reverse_cons, List.append_assoc, List.singleton_append, List.map_cons,
      List.map_map, Nat.zero_mul, List.drop_zero]
    congr 2
    apply List.map_congr_left
    intro i _
    simp only [Function.comp_def, List.drop_drop]
    congr 2
    rw [Nat.succ_eq_add_one]; ring

/-- the matrices are the consecutive groups of r rows (`rows[i*r:(i+1)*r]`). -/
theorem groups_spec {α} (l : List α) (r : Nat) :
    groups l r = (List.range (l.length / r)).map (fun i => (l.drop (i * r)).take r) := by
  simp [groups, groupsAux_spec]

/-- `chunks` is `groups` on bits (the model spells the same recursion twice). -/
theorem chunks_eq_groups (l : List Bool) (m : Nat) : chunks l m = groups l m := by
  unfold chunks groups
  generalize l.length / m = k
  generalize ([] : List (List Bool)) = acc
  induction k generalizing l acc with
  | zero => rfl
  | succ k ih => exact ih _ _

/-- the blocks are the consecutive, non-overlapping M-bit pieces; the tail is discarded. -/
theorem chunks_spec (l : List Bool) (m : Nat) :
    chunks l m = (List.range (l.length / m)).map (fun i => (l.drop (i * m)).take m) := by
  rw [chunks_eq_groups, groups_spec]

theorem chunks_length (l : List Bool) (m : Nat) : (chunks l m).length = l.length / m := by
  simp [chunks_spec]

theorem chunk_length (l : List Bool) (m : Nat) (b : List Bool) (hb : b ∈ chunks l m) :
    b.length = m := by
  rw [chunks_spec] at hb
  simp only [List.mem_map, List.mem_range] at hb
  obtain ⟨i, hi, rfl⟩ := hb
  rw [List.length_take, List.length_drop]
  have hm : 0 < m := by
    rcases Nat.eq_zero_or_pos m with h | h
    · subst h; simp at hi
    · exact h
  have : (i + 1) * m ≤ l.length := by
    have := Nat.div_mul_le_self l.length m
    calc (i + 1) * m ≤ (l.length / m) * m := Nat.mul_le_mul_right m hi
      _ ≤ l.length := this
  have h2 : (i + 1) * m = i * m + m := by ring
  omega

theorem chunks_map (f : Bool → Bool) (l : List Bool) (m : Nat) :
    chunks (l.map f) m = (chunks l m).map (List.map f) := by
  simp only [chunks_spec, List.length_map, List.map_map]
  apply List.map_congr_left
  intro i _
  simp [List.map_take, List.map_drop]

end Paranoid.Nist
