/-
Proofs/EcdsaChecksEc.lean — the elliptic-curve side of the ECDSA signature checks:
every point `BatchMultiplyG` returns is reduced,
`_IssuerDLogs` is sound for every guess list and exact on the dict of `_MapIssuerSigIndexes`,
and the check-level theorems (soundness, exact verdict, totality, the exact set of raising inputs,
state after a call, independence of batch / order / cache).
-/
import ParanoidModel.Proofs.EcdsaChecks
import ParanoidModel.Proofs.EcTable
import ParanoidModel.Proofs.EcComb
import ParanoidModel.Proofs.EcOrder
import ParanoidModel.Proofs.Ecdsa
namespace Paranoid.Ec
open Paranoid WeierstrassCurve
variable (c : Curve) [hp : Fact (Nat.Prime c.p)]

/-! ### every point `BatchMultiplyG` returns has reduced coordinates -/

/-- "is `k • G` and has coordinates in `[0, p)`" is respected by `Multiply(g, ·)`, `Add` and `Double`
when the generator is reduced: with a reduced cache, BatchMultiplyG returns reduced points
(`batchMultiplyG_rel`). -/
theorem combRel_reduced (hc : c.Good) (hG : onCurve c c.g = true) (hg : Reduced c c.g) :
    CombRel c fun P k => RepG c P k ∧ Reduced c P where
  mul k := by
    obtain ⟨P, h1, h2⟩ := (combRel_repG c hc hG).mul k
    exact ⟨P, h1, h2, multiply_reduced c hg h1⟩
  add hP hQ := by
    obtain ⟨R, h1, h2⟩ := (combRel_repG c hc hG).add hP.1 hQ.1
    exact ⟨R, h1, h2, add_reduced c hP.2 hQ.2 h1⟩
  double hP := by
    obtain ⟨R, h1, h2⟩ := (combRel_repG c hc hG).double hP.1
    exact ⟨R, h1, h2, double_reduced c h1⟩

end Paranoid.Ec

namespace Paranoid.EcdsaChecks
open Paranoid Paranoid.Ec WeierstrassCurve

section curve
variable (c : Curve) [hp : Fact (Nat.Prime c.p)]

/-- `d` is a private key of the raw issuer key tuple `k`: the tuple is a point of the curve and
denotes `(d mod n) • G` in the Mathlib group (`= d • G` when `n • G = 0`). -/
def IsKeyOf (k : Key) (d : Int) : Prop :=
  RepG c (.aff (k.1 : Int) (k.2 : Int)) (d % (c.n : Int)).toNat

def KeyReduced (k : Key) : Prop := k.1 < c.p ∧ k.2 < c.p

omit hp in
theorem reduced_aff_key (k : Key) : Reduced c (.aff (k.1 : Int) (k.2 : Int)) ↔ KeyReduced c k := by
  simp only [Reduced, KeyReduced]
  constructor
  · rintro ⟨_, h1, _, h2⟩; exact ⟨by exact_mod_cast h1, by exact_mod_cast h2⟩
  · rintro ⟨h1, h2⟩; exact ⟨by omega, by exact_mod_cast h1, by omega, by exact_mod_cast h2⟩

/-- the issuer's private key is the LAST guess of the list that is a private key of `k`. -/
def LastKeyGuess (k : Key) (gs : List Int) (d : Int) : Prop :=
  ∃ pre post, gs = pre ++ d :: post ∧ IsKeyOf c k d ∧ ∀ g ∈ post, ¬ IsKeyOf c k g

theorem lastKeyGuess_mem {k : Key} {gs : List Int} {d : Int} (h : LastKeyGuess c k gs d) :
    d ∈ gs ∧ IsKeyOf c k d := by
  obtain ⟨pre, post, rfl, h2, _⟩ := h
  exact ⟨by simp, h2⟩

theorem lastKeyGuess_unique (k : Key) (gs : List Int) (d d' : Int)
    (h : LastKeyGuess c k gs d) (h' : LastKeyGuess c k gs d') : d = d' := by
  obtain ⟨pre, post, h1, h2, h3⟩ := h
  obtain ⟨pre', post', h1', h2', h3'⟩ := h'
  rw [h1] at h1'
  rcases List.append_eq_append_iff.mp h1' with ⟨a, ha1, ha2⟩ | ⟨a, ha1, ha2⟩
  · cases a with
    | nil => simp at ha2; exact ha2.1
    | cons x xs =>
      simp only [List.cons_append, List.cons.injEq] at ha2
      exfalso
      exact h3 d' (by rw [ha2.2]; simp) h2'
  · cases a with
    | nil => simp at ha2; exact ha2.1.symm
    | cons x xs =>
      simp only [List.cons_append, List.cons.injEq] at ha2
      exfalso
      exact h3' d (by rw [ha2.2]; simp) h2

/-- **`_IssuerDLogs` never raises** on a valid curve with a sound cache, for EVERY guess list and
every dict; the cache stays sound (and reduced). -/
theorem issuerDLogs_total (hc : c.Good) (hG : onCurve c c.g = true) (hn : 0 < c.n)
    (cache : Cache) (hcache : CacheOK c cache) (gs : List Int) (pks : Pks) :
    ∃ dl cache', issuerDLogs c cache gs pks = .ok (dl, cache') ∧ CacheOK c cache' ∧ cache <:+ cache' ∧
      (Reduced c c.g → (∀ e ∈ cache, Reduced c e.2) → ∀ e ∈ cache', Reduced c e.2) := by
  obtain ⟨pts, cache', h1, h2, h3, _⟩ := batchMultiplyG_spec c hc hG hn cache hcache gs
  refine ⟨dlogLoop pks pts gs [], cache', by simp [issuerDLogs, h1], h2, h3, ?_⟩
  intro hg hr e he
  obtain ⟨_, cache'', h1', h2', _⟩ := batchMultiplyG_rel (combRel_reduced c hc hG hg) hn cache
    (fun e he => ⟨hcache e he, hr e he⟩) gs
  cases h1.symm.trans h1'
  exact (h2' e he).2

/-- for every guess list (LLL noise included), every dict and every sound
cache: a recorded `idx ↦ d` means `d` is one of the guesses, `idx` is listed under a key `k` of the
dict, and `k` IS the point `(d mod n) • G`. -/
theorem issuerDLogs_sound (hc : c.Good) (hG : onCurve c c.g = true) (hn : 0 < c.n)
    (cache : Cache) (hcache : CacheOK c cache) (gs : List Int) (pks : Pks) (dl : DLogs) (cache' : Cache)
    (h : issuerDLogs c cache gs pks = .ok (dl, cache')) (i : Nat) (d : Int) (hd : dl.get? i = some d) :
    d ∈ gs ∧ ∃ k l, pks.get? k = some l ∧ i ∈ l ∧ IsKeyOf c k d := by
  obtain ⟨pts, cache'', h1, _, _, h4⟩ := batchMultiplyG_spec c hc hG hn cache hcache gs
  simp only [issuerDLogs, h1, Except.ok.injEq, Prod.mk.injEq] at h
  obtain ⟨rfl, rfl⟩ := h
  rw [dlogLoop_get?] at hd
  rcases lastMatch_some _ pts gs _ d hd with ⟨h0, _⟩ | ⟨pre, P, post, hz, ht, _⟩
  · cases h0
  · have hm : (P, d) ∈ pts.zip gs := by rw [hz]; simp
    obtain ⟨k, l, rfl, hk, hi⟩ := (filedUnder_iff pks i P).mp ht
    exact ⟨(List.of_mem_zip hm).2, k, l, hk, hi, List.forall₂_zip h4 hm⟩

/-- **exact behaviour on the dict of `_MapIssuerSigIndexes`** (generator and cache reduced): the
index of a signature is assigned iff some guess is a private key of ITS issuer key tuple and that
tuple has reduced coordinates; the value is the last such guess of the list. -/
theorem issuerDLogs_exact (hc : c.Good) (hG : onCurve c c.g = true) (hn : 0 < c.n)
    (hg : Reduced c c.g) (cache : Cache) (hcache : CacheOK c cache)
    (hcr : ∀ e ∈ cache, Reduced c e.2) (gs : List Int) (sigs : List Sig) (dl : DLogs) (cache' : Cache)
    (h : issuerDLogs c cache gs (mapIssuerSigIndexes sigs) = .ok (dl, cache'))
    (i : Nat) (s : Sig) (hs : sigs[i]? = some s) :
    (∀ d, dl.get? i = some d → KeyReduced c s.key ∧ LastKeyGuess c s.key gs d) ∧
    (KeyReduced c s.key → (∃ g ∈ gs, IsKeyOf c s.key g) → ∃ d, dl.get? i = some d) := by
  obtain ⟨pts, cache'', h1, _, _, h4⟩ := batchMultiplyG_rel (combRel_reduced c hc hG hg) hn cache
    (fun e he => ⟨hcache e he, hcr e he⟩) gs
  simp only [issuerDLogs, h1, Except.ok.injEq, Prod.mk.injEq] at h
  obtain ⟨rfl, rfl⟩ := h
  have hlen : pts.length = gs.length := h4.length_eq
  simp only [dlogLoop_get?, DLogs.get?]
  -- a computed point passes the test iff the guess is a key of the signature's own tuple (and the
  -- tuple is reduced)
  have hpt : ∀ P g, (P, g) ∈ pts.zip gs → (filedUnder (mapIssuerSigIndexes sigs) i P = true ↔
      KeyReduced c s.key ∧ IsKeyOf c s.key g) := by
    intro P g hm
    obtain ⟨hrep, hPr⟩ := List.forall₂_zip h4 hm
    rw [filedUnder_mapIssuer sigs i s hs]
    constructor
    · intro hP
      rw [hP] at hrep hPr
      exact ⟨(reduced_aff_key c _).mp hPr, hrep⟩
    · rintro ⟨hkr, hk⟩
      exact repR_inj c hc ⟨hrep.1, hrep.2, hPr⟩ ⟨hk.1, hk.2, (reduced_aff_key c _).mpr hkr⟩
  constructor
  · intro d hd
    rcases lastMatch_some _ pts gs none d hd with ⟨h0, _⟩ | ⟨pre, P, post, hz, ht, hpost⟩
    · cases h0
    · have hk := (hpt P d (by rw [hz]; simp)).mp ht
      refine ⟨hk.1, pre.map Prod.snd, post.map Prod.snd, ?_, hk.2, ?_⟩
      · have := congrArg (List.map Prod.snd) hz
        rw [List.map_snd_zip (by omega)] at this
        simpa using this
      · intro g hgm hkg
        obtain ⟨⟨P', g'⟩, he, rfl⟩ := List.mem_map.mp hgm
        have := (hpt P' g' (by rw [hz]; simp [he])).mpr ⟨hk.1, hkg⟩
        rw [hpost (P', g') he] at this
        cases this
  · rintro hkr ⟨g, hgm, hkg⟩
    apply Option.isSome_iff_exists.mp
    rw [lastMatch_isSome]
    obtain ⟨j, hj, rfl⟩ := List.mem_iff_getElem.mp hgm
    have hm' : (pts[j]'(by omega), gs[j]) ∈ pts.zip gs :=
      List.mem_iff_getElem.mpr ⟨j, by simp [hlen, hj], by simp⟩
    exact Or.inr ⟨_, hm', (hpt _ _ hm').mpr ⟨hkr, hkg⟩⟩

/-- when `G` has order exactly `n`, two private keys of the same key tuple are congruent modulo `n`. -/
theorem isKeyOf_emod_eq (hn : 0 < c.n) (hord : addOrderOf (toPoint c c.g) = c.n) (k : Key) (d d' : Int)
    (h : IsKeyOf c k d) (h' : IsKeyOf c k d') : d % (c.n : Int) = d' % (c.n : Int) := by
  have hlt := fun x : Int => emod_toNat_lt x c.n hn.ne'
  have e : (d % (c.n : Int)).toNat • toPoint c c.g = (d' % (c.n : Int)).toNat • toPoint c c.g :=
    h.2.symm.trans h'.2
  have := nsmul_injOn_Iio_addOrderOf (x := toPoint c c.g)
    (by rw [hord]; exact hlt d) (by rw [hord]; exact hlt d') e
  have h1 := Int.toNat_of_nonneg (Int.emod_nonneg d (show (c.n : Int) ≠ 0 by omega))
  have h2 := Int.toNat_of_nonneg (Int.emod_nonneg d' (show (c.n : Int) ≠ 0 by omega))
  rw [← h1, ← h2, this]

omit hp in
/-- an index outside `range(len(sigs))` is never assigned. -/
theorem issuerDLogs_out_of_range (gs : List Int) (sigs : List Sig) (cache : Cache) (dl : DLogs)
    (cache' : Cache) (h : issuerDLogs c cache gs (mapIssuerSigIndexes sigs) = .ok (dl, cache'))
    (i : Nat) (hi : sigs.length ≤ i) : dl.get? i = none := by
  unfold issuerDLogs at h
  split at h
  · cases h
  · cases h
    rw [dlogLoop_get?, ← Option.not_isSome_iff_eq_none, lastMatch_isSome]
    rintro (h0 | ⟨e, _, ht⟩)
    · cases h0
    · obtain ⟨k, l, _, hk, hil⟩ := (filedUnder_iff _ i e.1).mp ht
      obtain ⟨s', h1', _⟩ := mapIssuer_owner sigs k l i (get?_some_mem _ _ _ hk) hil
      rw [List.getElem?_eq_none hi] at h1'; cases h1'
end curve

/-! ### the `Check` methods: hypotheses on the curve objects -/

/-- an `EcCurve` object the theorems apply to: prime field, `p ≠ 2`, non-singular, generator on the
curve, order parameter `n ≥ 2`, and a sound `_cache` (`_cache[k] = k • G`). -/
def ObjOK (obj : CurveObj) : Prop :=
  ∃ _ : Fact (Nat.Prime obj.curve.p), obj.curve.Good ∧ onCurve obj.curve obj.curve.g = true ∧
    1 < obj.curve.n ∧ CacheOK obj.curve obj.cache

/-- generator and cached points have coordinates in `[0, p)`. -/
def ObjReduced (obj : CurveObj) : Prop :=
  Reduced obj.curve obj.curve.g ∧ ∀ e ∈ obj.cache, Reduced obj.curve e.2

def FactoryOK (f : Factory) : Prop := ∀ cid obj, (cid, some obj) ∈ f → ObjOK obj
def FactoryReduced (f : Factory) : Prop := ∀ cid obj, (cid, some obj) ∈ f → ObjReduced obj

/-- `IsKeyOf` with the primality instance packed. -/
def KeyOf (c : Curve) (k : Key) (d : Int) : Prop := ∃ _ : Fact (Nat.Prime c.p), IsKeyOf c k d

/-- `LastKeyGuess` with the primality instance packed. -/
def LastKeyOf (c : Curve) (k : Key) (gs : List Int) (d : Int) : Prop :=
  ∃ _ : Fact (Nat.Prime c.p), LastKeyGuess c k gs d

/-- the verdict of a flagged signature: positive, DISCRETE_LOG = hex of `d`. -/
def posVerdict (d : Int) : Verdict := ⟨true, none, some (infoNameDiscreteLog, .raw (dlogHex d))⟩
def negVerdict : Verdict := ⟨false, none, none⟩

/-- everything the loop did for one signature whose curve has an object in the factory. -/
theorem sig_group (k : Kind) (O : Nat → GroupOracle) (factory : Factory) (arts : List Sig)
    (res : CheckResult) (h : check k O factory arts = .ok res) (hnd : (factory.map Prod.fst).Nodup)
    (bi : Nat) (s : Sig) (hs : arts[bi]? = some s) (obj : CurveObj)
    (hobj : (s.curve, some obj) ∈ factory) :
    ∃ gi dl gr, (groupFrom s.curve 0 arts)[gi]? = some (bi, s) ∧
      ((groupFrom s.curve 0 arts).map Prod.snd)[gi]? = some s ∧
      processGroup k s.curve obj.curve obj.cache (O s.curve) (groupFrom s.curve 0 arts) = .ok gr ∧
      issuerDLogs obj.curve obj.cache (O s.curve).guessList
        (mapIssuerSigIndexes ((groupFrom s.curve 0 arts).map Prod.snd)) = .ok (dl, gr.cache) ∧
      verdictOf res.writes bi = some (dlogVerdict dl gi) := by
  unfold check at h
  obtain ⟨a1, _, _⟩ := checkLoop_ok k O arts factory res h
  have hmem := mem_group_of_get hs
  obtain ⟨gr, g1, _, g3⟩ := a1 s.curve obj hobj (List.ne_nil_of_mem hmem)
  obtain ⟨gi, hgi, hget⟩ := List.mem_iff_getElem.mp hmem
  have hgi' : (groupFrom s.curve 0 arts)[gi]? = some (bi, s) := by
    rw [List.getElem?_eq_getElem hgi, hget]
  obtain ⟨dl, d1, d2⟩ := group_verdict k s.curve obj.curve obj.cache (O s.curve) _ gr g1
    (groupFrom_nodup _ arts 0) gi bi s hgi'
  refine ⟨gi, dl, gr, hgi', ?_, g1, d1, ?_⟩
  · rw [List.getElem?_map, hgi']; rfl
  · rw [g3 hnd bi s hmem, d2]

/-- **`weak_only_with_key`** for `BiasedBaseCheck.Check` / `CheckCr50U2f.Check`, every oracle
answer: a signature receives an entry only if its curve has an object in the factory; the entry is
positive only together with DISCRETE_LOG = hex(`d`) where `d` is one of the guesses handed to
`_IssuerDLogs` for the signature's OWN curve group and the issuer key tuple of THAT signature is the
point `(d mod n) • G`. -/
theorem check_sound (k : Kind) (O : Nat → GroupOracle) (factory : Factory) (arts : List Sig)
    (res : CheckResult) (hF : FactoryOK factory) (hnd : (factory.map Prod.fst).Nodup)
    (h : check k O factory arts = .ok res) (bi : Nat) (v : Verdict)
    (hv : verdictOf res.writes bi = some v) :
    ∃ s obj, arts[bi]? = some s ∧ (s.curve, some obj) ∈ factory ∧
      (v = negVerdict ∨
        ∃ d, v = posVerdict d ∧ d ∈ (O s.curve).guessList ∧ KeyOf obj.curve s.key d) := by
  have hm : bi ∈ res.writes.map Prod.fst := by
    by_contra hno
    rw [← verdictOf_none] at hno
    rw [hno] at hv; cases hv
  obtain ⟨_, a2, _⟩ := checkLoop_ok k O arts factory res h
  obtain ⟨s, obj, hs, hobj⟩ := (a2 bi).mp hm
  refine ⟨s, obj, hs, hobj, ?_⟩
  obtain ⟨gi, dl, gr, _, hgs, _, hdl, hver⟩ := sig_group k O factory arts res h hnd bi s hs obj hobj
  rw [hver] at hv
  cases hv
  rcases dlogVerdict_cases dl gi with ⟨_, h2⟩ | ⟨d, h1, h2⟩
  · left; exact h2
  · right
    obtain ⟨hp, hc, hG, hn, hcache⟩ := hF _ obj hobj
    obtain ⟨hd1, k', l', hk', hi', hkey⟩ := issuerDLogs_sound obj.curve hc hG (by omega) obj.cache hcache
      _ _ dl gr.cache hdl gi d h1
    obtain ⟨s', hs', hkk⟩ := mapIssuer_owner _ k' l' gi (get?_some_mem _ _ _ hk') hi'
    rw [hgs] at hs'; cases hs'
    exact ⟨d, h2, hd1, hp, by rw [hkk]; exact hkey⟩

/-- **exact verdict** (curve objects with reduced generator and cache): a signature whose curve
has an object in the factory is flagged IFF its issuer key tuple has reduced coordinates and some
guess of its curve group is a private key of that tuple; the attached value is then the LAST such
guess of `list(guesses)`.  In particular (`all_of_issuer_flagged`) every signature of an issuer
whose key is among the guesses is flagged, whatever else the batch contains. -/
theorem check_exact (k : Kind) (O : Nat → GroupOracle) (factory : Factory) (arts : List Sig)
    (res : CheckResult) (hF : FactoryOK factory) (hR : FactoryReduced factory)
    (hnd : (factory.map Prod.fst).Nodup) (h : check k O factory arts = .ok res)
    (bi : Nat) (s : Sig) (hs : arts[bi]? = some s) (obj : CurveObj)
    (hobj : (s.curve, some obj) ∈ factory) :
    ∃ v, verdictOf res.writes bi = some v ∧
      ((v = negVerdict ∧ ¬ (KeyReduced obj.curve s.key ∧
          ∃ g ∈ (O s.curve).guessList, KeyOf obj.curve s.key g)) ∨
       (∃ d, v = posVerdict d ∧ KeyReduced obj.curve s.key ∧
          LastKeyOf obj.curve s.key (O s.curve).guessList d)) := by
  obtain ⟨gi, dl, gr, _, hgs, _, hdl, hver⟩ := sig_group k O factory arts res h hnd bi s hs obj hobj
  obtain ⟨hp, hc, hG, hn, hcache⟩ := hF _ obj hobj
  obtain ⟨hgr, hcr⟩ := hR _ obj hobj
  obtain ⟨e1, e2⟩ := issuerDLogs_exact obj.curve hc hG (by omega) hgr obj.cache hcache hcr _ _ dl
    gr.cache hdl gi s hgs
  refine ⟨_, hver, ?_⟩
  rcases dlogVerdict_cases dl gi with ⟨h1, h2⟩ | ⟨d', h1, h2⟩
  · left
    refine ⟨h2, ?_⟩
    rintro ⟨hkr, g, hg1, hp', hg2⟩
    obtain ⟨d, hd⟩ := e2 hkr ⟨g, hg1, hg2⟩
    rw [h1] at hd; cases hd
  · right
    obtain ⟨q1, q2⟩ := e1 d' h1
    exact ⟨d', h2, q1, hp, q2⟩

/-- a guess of the curve group that is a private key of a reduced key tuple flags EVERY signature
of the batch with that curve and tuple, all with the last key guess of `list(guesses)`. -/
theorem flagged_of_guess (k : Kind) (O : Nat → GroupOracle) (factory : Factory) (arts : List Sig)
    (res : CheckResult) (hF : FactoryOK factory) (hR : FactoryReduced factory)
    (hnd : (factory.map Prod.fst).Nodup) (h : check k O factory arts = .ok res)
    (cid : Nat) (obj : CurveObj) (hobj : (cid, some obj) ∈ factory) (key : Key)
    (hkr : KeyReduced obj.curve key) (g : Int) (hg : g ∈ (O cid).guessList)
    (hkey : KeyOf obj.curve key g) :
    ∃ d, LastKeyOf obj.curve key (O cid).guessList d ∧
      ∀ bi s, arts[bi]? = some s → s.curve = cid → s.key = key →
        verdictOf res.writes bi = some (posVerdict d) := by
  obtain ⟨hp, hkg⟩ := hkey
  obtain ⟨pre, d, post, q1, q2, q3⟩ := exists_last (fun x => IsKeyOf obj.curve key x)
    (O cid).guessList ⟨g, hg, hkg⟩
  have hlast : LastKeyGuess obj.curve key (O cid).guessList d := ⟨pre, post, q1, q2, q3⟩
  refine ⟨d, ⟨hp, hlast⟩, ?_⟩
  intro bi s hs hcid hk'
  subst hcid; subst hk'
  obtain ⟨v, hv, hcase⟩ := check_exact k O factory arts res hF hR hnd h bi s hs obj hobj
  rcases hcase with ⟨_, n2⟩ | ⟨d', p1, _, _, p3⟩
  · exact absurd ⟨hkr, g, hg, hp, hkg⟩ n2
  · rw [hv, p1, lastKeyGuess_unique obj.curve s.key _ d' d p3 hlast]

/-! ### totality and the exact set of raising inputs -/

theorem hnpParamsList_total (n : Nat) (hn : 2 ≤ n) (uniq : List Triple)
    (h : ∀ v ∈ uniq, Int.gcd (v.2.1 : Int) n = 1) : ∃ ab, hnpParamsList n uniq = .ok ab := by
  cases hr : hnpParamsList n uniq with
  | ok ab => exact ⟨ab, rfl⟩
  | error e =>
    obtain ⟨pre, v, post, h1, h2, _⟩ := (hnpParamsList_error n uniq e).mp hr
    have := (hiddenNumberParams_error_iff n hn _ _ _ e).mp h2
    exact absurd (h v (by rw [h1]; simp)) this.2

/-- why `issuerCalls` can raise: an `s` that is not invertible modulo `n` (biased checks only;
always `ZeroDivisionError`), or an empty value list (Cr50 only; `IndexError`). -/
theorem issuerCalls_error (k : Kind) (cid n : Nat) (hn : 2 ≤ n) (uniq : List Triple) (e : PyErr)
    (h : issuerCalls k cid n uniq = .error e) :
    (k = .cr50 ∧ uniq = [] ∧ e = .indexError) ∨
    ((∃ m, k = .biased m) ∧ e = .zeroDivision ∧ ∃ v ∈ uniq, Int.gcd (v.2.1 : Int) n ≠ 1) := by
  cases k with
  | cr50 =>
    left
    cases uniq with
    | nil => simp only [issuerCalls, cr50Calls_nil] at h; cases h; exact ⟨rfl, rfl, rfl⟩
    | cons v rest =>
      simp only [issuerCalls] at h
      rw [cr50Calls_eq n _ (by simp)] at h; cases h
  | biased m =>
    right
    simp only [issuerCalls, biasedCalls] at h
    cases hr : hnpParamsList n uniq with
    | ok ab => rw [hr] at h; cases h
    | error e' =>
      rw [hr] at h; cases h
      obtain ⟨pre, v, post, h1, h2, _⟩ := (hnpParamsList_error n uniq e).mp hr
      have := (hiddenNumberParams_error_iff n hn _ _ _ e).mp h2
      exact ⟨⟨m, rfl⟩, this.1, v, by rw [h1]; simp, this.2⟩

/-- **the only way to raise**: if a `Check` call raises (valid curve objects, consistent order
oracles), the check is one of the `BiasedBaseCheck`s, the exception is `ZeroDivisionError`, and the
batch contains a signature whose curve has an object in the factory and whose `s` is not invertible
modulo the curve's `n`. -/
theorem check_error (k : Kind) (O : Nat → GroupOracle) (factory : Factory) (arts : List Sig)
    (hF : FactoryOK factory) (hcons : UniqConsistent O arts factory) (e : PyErr)
    (h : check k O factory arts = .error e) :
    (∃ m, k = .biased m) ∧ e = .zeroDivision ∧
      ∃ s ∈ arts, ∃ obj, (s.curve, some obj) ∈ factory ∧
        Int.gcd (bytes2int s.s : Int) obj.curve.n ≠ 1 := by
  obtain ⟨cid, obj, hm, hne, hp⟩ := checkLoop_error k O arts factory e h
  obtain ⟨hpr, hc, hG, hn, hcache⟩ := hF cid obj hm
  have hn0 : obj.curve.n ≠ 0 := by omega
  rcases processGroup_error _ _ _ _ _ _ _ hp with hg | hd
  · rcases groupCallsFrom_cases k cid obj.curve.n _ (O cid) _ 0 with ⟨_, h', _⟩ | ⟨e', h', hcause⟩
    · cases hg.symm.trans h'
    cases hg.symm.trans h'
    rcases hcause with ⟨en, h1, h2⟩ | ⟨j, h1, h2⟩
    · exfalso
      obtain ⟨vals, hv⟩ := issuerValues_of_mem obj.curve.n hn0 _ en h1
      rw [hv] at h2; cases h2
    · rw [Nat.zero_add] at h2
      obtain ⟨⟨kk, l⟩, hjl⟩ : ∃ e, (mapIssuerSigIndexes ((groupFrom cid 0 arts).map Prod.snd))[j]? = some e :=
        ⟨_, List.getElem?_eq_getElem h1⟩
      obtain ⟨u1, u2, _⟩ := uniq_values obj.curve.n _ (O cid) (hcons cid obj hm hne) j kk l hjl
      rcases issuerCalls_error k cid obj.curve.n (by omega) _ e h2 with ⟨_, h3, _⟩ | ⟨h3, h4, v, hv, hgcd⟩
      · exact absurd h3 u1
      · refine ⟨h3, h4, ?_⟩
        obtain ⟨i, _, sg, q1, _, q3⟩ := u2 v hv
        obtain ⟨m1, m2⟩ := group_sig_mem cid arts i sg q1
        rw [(ecdsaValues_fields _ _ _ _ _ q3).2] at hgcd
        exact ⟨sg, m1, obj, by rw [m2]; exact hm, hgcd⟩
  · exfalso
    obtain ⟨dl, cache', hdl, _⟩ := issuerDLogs_total obj.curve hc hG (by omega) obj.cache hcache
      (O cid).guessList (mapIssuerSigIndexes ((groupFrom cid 0 arts).map Prod.snd))
    rw [hdl] at hd; cases hd

/-- **… and it does raise**: a `BiasedBaseCheck` on a batch containing a signature with a known
curve whose `s` is not invertible modulo `n` raises `ZeroDivisionError` — for the whole batch,
whatever the other signatures and the oracle answers are. -/
theorem check_raises (m : Mode) (O : Nat → GroupOracle) (factory : Factory) (arts : List Sig)
    (hF : FactoryOK factory) (hnd : (factory.map Prod.fst).Nodup)
    (hcons : UniqConsistent O arts factory)
    (s : Sig) (hs : s ∈ arts) (obj : CurveObj) (hobj : (s.curve, some obj) ∈ factory)
    (hbad : Int.gcd (bytes2int s.s : Int) obj.curve.n ≠ 1) :
    check (.biased m) O factory arts = .error .zeroDivision := by
  cases hres : check (.biased m) O factory arts with
  | error e =>
    rw [(check_error _ O factory arts hF hcons e hres).2.1]
  | ok res =>
    exfalso
    obtain ⟨bi, hbi, hget⟩ := List.mem_iff_getElem.mp hs
    have hs' : arts[bi]? = some s := by rw [List.getElem?_eq_getElem hbi, hget]
    obtain ⟨gi, dl, gr, _, hgs, hpg, _, _⟩ := sig_group _ O factory arts res hres hnd bi s hs' obj hobj
    obtain ⟨_, _, hcalls, _⟩ := processGroup_ok _ _ _ _ _ _ _ hpg
    obtain ⟨hpr, _, _, hn, _⟩ := hF _ obj hobj
    have hn0 : obj.curve.n ≠ 0 := by omega
    have hne := List.ne_nil_of_mem (mem_group_of_get hs')
    obtain ⟨l, hl, hil⟩ := mapIssuer_covers _ gi s hgs
    obtain ⟨j, hj, hjl⟩ := pks_index_of_mem _ _ _ hl
    obtain ⟨_, _, u3⟩ := uniq_values obj.curve.n _ (O s.curve) (hcons _ obj hobj hne) j _ l hjl
    obtain ⟨v, hv, hval⟩ := u3 gi hil s hgs
    obtain ⟨hlen, hinv⟩ := groupCallsFrom_inv _ _ _ _ _ _ _ _ hcalls
    obtain ⟨cs, hcs⟩ : ∃ cs, gr.calls[j]? = some cs := ⟨_, List.getElem?_eq_getElem (by omega)⟩
    have hic := hinv j cs hcs
    rw [Nat.zero_add] at hic
    obtain ⟨h0, _⟩ | ⟨_, ab, _, hab, _⟩ := issuerCalls_ok hic
    · cases h0
    obtain ⟨p, _, hp⟩ := forall₂_mem_left ((hnpParamsList_ok _ _ _).mp hab) hv
    have herr : hiddenNumberParams obj.curve.n v.1 v.2.1 v.2.2 = .error .zeroDivision := by
      rw [hiddenNumberParams_error_iff _ (by omega)]
      refine ⟨rfl, ?_⟩
      rw [(ecdsaValues_fields _ _ _ _ _ hval).2]
      exact hbad
    rw [herr] at hp; cases hp

/-- **totality**: with valid curve objects and consistent order oracles, `CheckCr50U2f.Check`
never raises (any `r`, `s`, hash, key, curve id, batch size — the empty batch included), and
`BiasedBaseCheck.Check` never raises when every signature whose curve has an object in the factory
has `s` invertible modulo that curve's `n` (for the prime orders of the named curves:
`s ≢ 0 (mod n)`, in particular `1 ≤ s ≤ n-1`).  `r`, the hash, the issuer key and the oracle
answers are unconstrained. -/
theorem check_total (k : Kind) (O : Nat → GroupOracle) (factory : Factory) (arts : List Sig)
    (hF : FactoryOK factory) (hcons : UniqConsistent O arts factory)
    (hwf : k ≠ .cr50 → ∀ s ∈ arts, ∀ obj, (s.curve, some obj) ∈ factory →
      Int.gcd (bytes2int s.s : Int) obj.curve.n = 1) :
    ∃ res, check k O factory arts = .ok res := by
  cases hres : check k O factory arts with
  | ok res => exact ⟨res, rfl⟩
  | error e =>
    obtain ⟨⟨m, rfl⟩, _, s, hs, obj, hobj, hbad⟩ := check_error _ O factory arts hF hcons e hres
    exact absurd (hwf nofun s hs obj hobj) hbad

/-! ### the curve objects after a call; corollaries for C08 / C17 -/

/-- **no state leaks between calls**: the curve objects after a `Check` call satisfy the hypotheses
of every theorem again (same ids, same curves, caches still sound and reduced), so the theorems
apply to every later call of any check on any batch in the same process. -/
theorem check_preserves (k : Kind) (O : Nat → GroupOracle) (factory : Factory) (arts : List Sig)
    (res : CheckResult) (hF : FactoryOK factory) (h : check k O factory arts = .ok res) :
    res.factory.map Prod.fst = factory.map Prod.fst ∧ FactoryOK res.factory ∧
      (FactoryReduced factory → FactoryReduced res.factory) := by
  obtain ⟨i1, i2⟩ := checkLoop_factory k O arts factory res h
  have key : ∀ cid obj', (cid, some obj') ∈ res.factory → ∃ obj, (cid, some obj) ∈ factory ∧
      ObjOK obj' ∧ (ObjReduced obj → ObjReduced obj') := by
    intro cid obj' hm
    obtain ⟨obj, h1, h2, h3⟩ := i2 cid obj' hm
    obtain ⟨hp, hc, hG, hn, hcache⟩ := hF cid obj h1
    refine ⟨obj, h1, ?_⟩
    obtain ⟨c', cache'⟩ := obj'
    obtain ⟨c, cache⟩ := obj
    simp only at h2 h3 hc hG hn hcache
    subst h2
    rcases h3 with rfl | ⟨gr, g1, rfl⟩
    · exact ⟨⟨hp, hc, hG, hn, hcache⟩, id⟩
    · obtain ⟨dl, d1, _, _⟩ := processGroup_ok _ _ _ _ _ _ _ g1
      obtain ⟨dl', cache'', t1, t2, _, t4⟩ := issuerDLogs_total c' hc hG (by omega) cache hcache
        (O cid).guessList (mapIssuerSigIndexes ((groupFrom cid 0 arts).map Prod.snd))
      rw [d1] at t1
      cases t1
      exact ⟨⟨hp, hc, hG, hn, t2⟩, fun hR => ⟨hR.1, t4 hR.1 hR.2⟩⟩
  refine ⟨i1, fun cid obj' hm => ?_, fun hR cid obj' hm => ?_⟩
  · obtain ⟨_, _, h2, _⟩ := key cid obj' hm
    exact h2
  · obtain ⟨obj, h1, _, h3⟩ := key cid obj' hm
    exact h3 (hR cid obj h1)

/-- **the verdict of a signature is a function of (its curve object's curve, its issuer key tuple,
`list(guesses)` of its curve group)** — nothing else of the batch, of the order of the batch, of the
check kind, of the cache content or of earlier calls enters. -/
theorem verdict_independent
    (k k' : Kind) (O O' : Nat → GroupOracle) (factory factory' : Factory) (arts arts' : List Sig)
    (res res' : CheckResult)
    (hF : FactoryOK factory) (hR : FactoryReduced factory) (hnd : (factory.map Prod.fst).Nodup)
    (hF' : FactoryOK factory') (hR' : FactoryReduced factory') (hnd' : (factory'.map Prod.fst).Nodup)
    (h : check k O factory arts = .ok res) (h' : check k' O' factory' arts' = .ok res')
    (bi bi' : Nat) (s s' : Sig) (hs : arts[bi]? = some s) (hs' : arts'[bi']? = some s')
    (obj obj' : CurveObj) (hobj : (s.curve, some obj) ∈ factory) (hobj' : (s'.curve, some obj') ∈ factory')
    (hcurve : obj.curve = obj'.curve) (hkey : s.key = s'.key)
    (hgl : (O s.curve).guessList = (O' s'.curve).guessList) :
    verdictOf res.writes bi = verdictOf res'.writes bi' := by
  obtain ⟨v, hv, hcase⟩ := check_exact k O factory arts res hF hR hnd h bi s hs obj hobj
  obtain ⟨v', hv', hcase'⟩ := check_exact k' O' factory' arts' res' hF' hR' hnd' h' bi' s' hs' obj' hobj'
  rw [hv, hv']
  rw [← hcurve, ← hkey, ← hgl] at hcase'
  rcases hcase with ⟨n1, n2⟩ | ⟨d, p1, p2, hp, p3⟩
  · rcases hcase' with ⟨n1', _⟩ | ⟨d', _, p2', hp', p3'⟩
    · rw [n1, n1']
    · exfalso
      obtain ⟨q1, q2⟩ := lastKeyGuess_mem obj.curve p3'
      exact n2 ⟨p2', d', q1, hp', q2⟩
  · rcases hcase' with ⟨_, n2'⟩ | ⟨d', p1', _, hp', p3'⟩
    · exfalso
      obtain ⟨q1, q2⟩ := lastKeyGuess_mem obj.curve p3
      exact n2' ⟨p2, d, q1, hp, q2⟩
    · have : d = d' := lastKeyGuess_unique obj.curve s.key _ d d' p3 p3'
      rw [p1, p1', this]

/-- **anything flagged stays flagged when the guesses grow**: if a signature is flagged in one run,
it is flagged in every run (other batch, other order, other check) whose `list(guesses)` for its
curve group contains at least the same values. -/
theorem flagged_monotone
    (k k' : Kind) (O O' : Nat → GroupOracle) (factory factory' : Factory) (arts arts' : List Sig)
    (res res' : CheckResult)
    (hF : FactoryOK factory) (hR : FactoryReduced factory) (hnd : (factory.map Prod.fst).Nodup)
    (hF' : FactoryOK factory') (hR' : FactoryReduced factory') (hnd' : (factory'.map Prod.fst).Nodup)
    (h : check k O factory arts = .ok res) (h' : check k' O' factory' arts' = .ok res')
    (bi bi' : Nat) (s s' : Sig) (hs : arts[bi]? = some s) (hs' : arts'[bi']? = some s')
    (obj obj' : CurveObj) (hobj : (s.curve, some obj) ∈ factory) (hobj' : (s'.curve, some obj') ∈ factory')
    (hcurve : obj.curve = obj'.curve) (hkey : s.key = s'.key)
    (hsub : ∀ g ∈ (O s.curve).guessList, g ∈ (O' s'.curve).guessList)
    (d : Int) (hpos : verdictOf res.writes bi = some (posVerdict d)) :
    ∃ d', verdictOf res'.writes bi' = some (posVerdict d') := by
  obtain ⟨v, hv, hcase⟩ := check_exact k O factory arts res hF hR hnd h bi s hs obj hobj
  obtain ⟨v', hv', hcase'⟩ := check_exact k' O' factory' arts' res' hF' hR' hnd' h' bi' s' hs' obj' hobj'
  rw [hv] at hpos
  cases hpos
  rw [← hcurve, ← hkey] at hcase'
  rcases hcase with ⟨n1, _⟩ | ⟨d0, _, p2, hp, p3⟩
  · cases n1
  · rcases hcase' with ⟨_, n2'⟩ | ⟨d', p1', _⟩
    · exfalso
      obtain ⟨q1, q2⟩ := lastKeyGuess_mem obj.curve p3
      exact n2' ⟨p2, d0, hsub d0 q1, hp, q2⟩
    · exact ⟨d', by rw [hv', p1']⟩

end Paranoid.EcdsaChecks
