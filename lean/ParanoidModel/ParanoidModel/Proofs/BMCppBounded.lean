/-
Proofs/BMCppBounded.lean — Boolean checks of the word-level C++ model (Model/BMCpp.lean) against
the big-integer routine `bmLength` on the `to_bytes` of an integer.  Definitions only, no Mathlib
(they can be run); that they hold for EVERY input is proved in Proofs/BMWrapper.lean from the
simulation theorems.
-/
import ParanoidModel.Model.BM
import ParanoidModel.Model.BMCpp
namespace Paranoid.BMCpp
open Paranoid

/-- the `k` little-endian bytes of `s mod 256^k` (`int.to_bytes(s, k, "little")` for `s < 256^k`). -/
def bytesOfNat : Nat → Nat → List UInt8
  | 0, _ => []
  | k + 1, s => (s % 256).toUInt8 :: bytesOfNat k (s / 256)

def agreeOn (v : Variant) (s len : Nat) : Bool :=
  lfsrLengthStr v (bytesOfNat ((len + 7) / 8) s) len == some (bmLength s len : Int)

def cppAgreeLen (len : Nat) : Bool :=
  (List.range (2 ^ len)).all fun s => agreeOn .portable s len && agreeOn .clmul s len

def cppAgreeUpTo (N : Nat) : Bool := (List.range (N + 1)).all cppAgreeLen

/-- hand-picked multi-word patterns at the lengths around the 64-bit word boundaries: all zeros,
all ones, a single one at the first / last / word-boundary positions, an alternating pattern, a
zero run followed by ones, and two fixed "random" constants. -/
def boundaryPatterns (len : Nat) : List Nat :=
  [0, 2 ^ len - 1, 1, 2 ^ (len - 1), 2 ^ 62 % 2 ^ len, 2 ^ 63 % 2 ^ len, 2 ^ 64 % 2 ^ len,
   2 ^ 127 % 2 ^ len, 0xAAAAAAAAAAAAAAAAAAAAAAAAAAAAAAAAA % 2 ^ len,
   (2 ^ len - 1) / 2 ^ 31 * 2 ^ 31, (2 ^ len - 1) / 2 ^ 64 * 2 ^ 64,
   0x1B7E151628AED2A6ABF7158809CF4F3C762E7160F38B4DA56A784D9045190CFEF % 2 ^ len,
   0x243F6A8885A308D313198A2E03707344A4093822299F31D0082EFA98EC4E6C89 % 2 ^ len]

def cppAgreeBoundaryLen (len : Nat) : Bool :=
  (boundaryPatterns len).all fun s => agreeOn .portable s len && agreeOn .clmul s len

def cppAgreeBoundary : Bool := [63, 64, 65, 127, 128, 129].all cppAgreeBoundaryLen

end Paranoid.BMCpp
