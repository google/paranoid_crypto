/-
Proofs/EcTotalSolver.lean — the ECDSA nonce checks COMPOSED with the models of the lattice solvers.

In Model/EcdsaChecks.lean every call of `hnp.HiddenNumberProblem`, `hnp.HiddenNumberProblemForCurve`
and `cr50_u2f_weakness.Cr50U2fGuesses` is an oracle: the check model computes the ARGUMENTS
(`Call`) and is handed an answer. An exception raised INSIDE a solver is therefore invisible to
`check`. Here the answer is computed by the solver models (Model/Hnp.lean, Model/Cr50.lean) from the
arguments the check builds:

    solveCall E L call        the solver model on the arguments of one call
    checkSolved …             `check`, then every recorded call through `solveCall`

What remains an oracle of the composed model: the reduced bases returned by `lll.reduce` (any list
of rows with at least two entries), the float value `int(n.bit_length() / len(a) * 1.25)` of
`GetLattice` (any value), the two `set` iteration orders of the check layer, and the table
`lcg_constants.CONSTANT_FACTORY` (only its positive size fields matter).

The solver models DO raise:
  * `Cr50U2fGuesses` raises ZeroDivisionError (`gmpy.invert(r1, n)`) as soon as a reduced row passes
    the congruence test and `r1 ≡ 0 (mod n)` — real code: secp256r1, nonce bytes repeated four times,
    `s = z·k⁻¹`, `r = 0` or `r = n`: `CheckCr50U2f().Check([sig])` raises ZeroDivisionError;
  * `HiddenNumberProblem(…, COMMON_POSTFIX)` raises ZeroDivisionError when `gcd(2^bits, n) ≠ 1`
    (even `n`) and for an empty `a` (`n.bit_length() / 0`);
  * both post-processing loops raise when `gcd(v[0], n) ∉ {1, n}` (composite `n`).
None of this is reachable from the checks on signatures with `r, s ∈ [1, n-1]` on the named curves
(`n` an odd prime): `check_calls_wf` + `solveCall_total`.
-/
import ParanoidModel.Proofs.EcdsaChecks
import ParanoidModel.Props.C08
import ParanoidModel.Proofs.C08Chain
namespace Paranoid.EcdsaChecks
open Paranoid Paranoid.Ec Paranoid.Hnp

/-! ### the solver models behind a `Call` -/

/-- `hnp.Bias(value)`. -/
def biasOfNat : Nat → Option Bias
  | 1 => some .msb
  | 2 => some .commonPrefix
  | 3 => some .commonPostfix
  | 4 => some .generalized
  | _ => none

/-- `hnp.SearchStrategy(value)`: SINGLE = 1, SLIDING = 2, INCLUDE_KEY = 4. -/
def flagsOfNat (v : Nat) : SearchFlags :=
  ⟨decide (v % 2 = 1), decide (v / 2 % 2 = 1), decide (v / 4 % 2 = 1)⟩

/-- what the solvers read besides their arguments. -/
structure SolverEnv where
  /-- `lcg_constants.CONSTANT_FACTORY` -/
  lcg : List LcgMeta
  /-- `ec_util.CURVE_FACTORY[curve_type]` as `HiddenNumberProblemForCurve` sees it: KeyError /
  `None` entry / the order `n` -/
  curveN : Nat → Option (Option Nat)

/-- the oracles of ONE solver call. -/
structure LllOracle where
  /-- what the `i`-th `lll.reduce` of the call returned -/
  reduce : Nat → List (List Int)
  /-- `int(n.bit_length() / len(a) * 1.25)` (GetLattice, `w = None`, COMMON_POSTFIX) -/
  fbits : Nat

def intsOfNats (l : List Nat) : List Int := l.map Int.ofNat

def liftGuesses : Except PyErr (List Nat) → Except PyErr (List Int)
  | .ok gs => .ok (intsOfNats gs)
  | .error e => .error e

/-- the solver model on the arguments of one call. (A `bias` number that is no `hnp.Bias` member
cannot be constructed in Python; it is reported as ValueError here.) -/
def solveCall (E : SolverEnv) (L : LllOracle) : Call → Except PyErr (List Int)
  | .hnp a b n bias =>
    match biasOfNat bias with
    | none => .error .valueError
    | some β =>
      liftGuesses (hiddenNumberProblem (intsOfNats a) (intsOfNats b) none n β L.fbits (L.reduce 0))
  | .hnpCurve a b cid name flags =>
    liftGuesses (hnpForCurve (intsOfNats a) (intsOfNats b) cid (E.curveN cid) (some name)
      (flagsOfNat flags) E.lcg L.reduce)
  | .cr50 v1 v2 n =>
    liftGuesses (cr50Guesses v1.1 v1.2.1 v1.2.2 v2.1 v2.2.1 v2.2.2 n (L.reduce 0))

/-- every reduced basis handed back has rows with at least two entries (`lll.reduce` returns a
matrix of the dimensions of its argument, and every lattice built here has `≥ 2` columns). -/
def LllShape (L : LllOracle) : Prop := ∀ i, ∀ r ∈ L.reduce i, 2 ≤ r.length

/-- the arguments of a call are harmless. -/
def CallWF (E : SolverEnv) : Call → Prop
  | .hnp a b n bias => a.length = b.length ∧ a ≠ [] ∧ n.Prime ∧ n ≠ 2 ∧ (biasOfNat bias).isSome
  | .hnpCurve a b cid _ flags =>
    a.length = b.length ∧ (flagsOfNat flags).none = false ∧
      ∃ n, E.curveN cid = some (some n) ∧ n.Prime
  | .cr50 v1 v2 n => n.Prime ∧ ¬ n ∣ v1.1 ∧ ¬ n ∣ v2.1

/-- `HiddenNumberProblemForCurve` never raises for `len(a) = len(b)`, a known curve with prime order,
a non-empty flag set, a constant table with positive size fields and reduced bases with rows of
length `≥ 2`. -/
theorem hnpForCurve_total (a b : List Int) (curve n : Nat) (lcg : Option Nat) (f : SearchFlags)
    (factory : List LcgMeta) (oracle : Nat → List (List Int))
    (hlen : a.length = b.length) (hf : f.none = false) (hp : n.Prime)
    (hmeta : ∀ m ∈ factory, MetaOk m) (hrows : ∀ k, ∀ r ∈ oracle k, 2 ≤ r.length) :
    ∃ gs, hnpForCurve a b curve (some (some n)) lcg f factory oracle = .ok gs := by
  unfold hnpForCurve forCurveRun
  rw [if_neg (by omega)]
  have hsub : hnpSubsets a b curve lcg f factory = subsetsLoop a b curve lcg f factory := by
    unfold hnpSubsets; rw [hf]; rfl
  simp only
  rw [hsub]
  obtain ⟨herr, hl⟩ := subsetsLoop_ok a b curve lcg f hlen factory (fun m hm _ => hmeta m hm)
  obtain ⟨gs, hgs, _⟩ := forCurveLoop_ok n oracle hp.pos
    (subsetsLoop a b curve lcg f factory).yields 0 []
    (fun s hs => le_of_eq (hl s hs))
    (fun k _ r hr => rowOk_of_prime n hp r (hrows _ r hr))
  simp only [hgs, herr]
  exact ⟨gs, rfl⟩

theorem intsOfNats_length (l : List Nat) : (intsOfNats l).length = l.length := by simp [intsOfNats]

/-- ★ the solver model never raises on well-formed call arguments, whatever `lll.reduce` returns
(rows of length `≥ 2`) and whatever the float oracle is. -/
theorem solveCall_total (E : SolverEnv) (hE : ∀ m ∈ E.lcg, MetaOk m) (L : LllOracle)
    (hL : LllShape L) (call : Call) (h : CallWF E call) : ∃ gs, solveCall E L call = .ok gs := by
  cases call with
  | hnp a b n bias =>
    obtain ⟨hlen, ha, hp, h2, hb⟩ := h
    obtain ⟨β, hβ⟩ := Option.isSome_iff_exists.mp hb
    obtain ⟨gs, hgs⟩ := C08Chain.hnp_total (intsOfNats a) (intsOfNats b) n β L.fbits (L.reduce 0) hp
      (by rw [intsOfNats_length, intsOfNats_length, hlen])
      (fun _ => ⟨h2, fun h0 => ha (List.map_eq_nil_iff.mp h0)⟩) (hL 0)
    exact ⟨intsOfNats gs, by simp only [solveCall, hβ, hgs, liftGuesses]⟩
  | hnpCurve a b cid name flags =>
    obtain ⟨hlen, hf, n, hn, hp⟩ := h
    obtain ⟨gs, hgs⟩ := hnpForCurve_total (intsOfNats a) (intsOfNats b) cid n (some name)
      (flagsOfNat flags) E.lcg L.reduce (by rw [intsOfNats_length, intsOfNats_length, hlen]) hf hp hE hL
    exact ⟨intsOfNats gs, by simp only [solveCall, hn, hgs, liftGuesses]⟩
  | cr50 v1 v2 n =>
    obtain ⟨hp, h1, h2⟩ := h
    obtain ⟨gs, hgs⟩ := C08.cr50_total_prime v1.1 v1.2.1 v1.2.2 v2.1 v2.2.1 v2.2.2 n (L.reduce 0) hp
      (by exact_mod_cast h1) (by exact_mod_cast h2)
    exact ⟨intsOfNats gs, by simp only [solveCall, hgs, liftGuesses]⟩

/-! ### the arguments the checks build are well-formed -/

/-- the property's well-formedness of a signature on a curve of order `n`: `r, s ∈ [1, n-1]`. -/
def SigRange (n : Nat) (s : Sig) : Prop :=
  1 ≤ bytes2int s.r ∧ bytes2int s.r ≤ n - 1 ∧ 1 ≤ bytes2int s.s ∧ bytes2int s.s ≤ n - 1

/-- the constructor arguments of a registered check are enum members. -/
def KindOK : Kind → Prop
  | .biased (.bias b) => (biasOfNat b).isSome
  | .biased (.lcg _ flags) => (flagsOfNat flags).none = false
  | .cr50 => True

theorem not_dvd_of_range {n r : Nat} (h1 : 1 ≤ r) (h2 : r ≤ n - 1) : ¬ n ∣ r := by
  intro h
  have := Nat.le_of_dvd (by omega) h
  omega

/-- the calls of one issuer, from a `unique_vals` list whose `r` values are no multiples of `n`. -/
theorem issuerCalls_wf (E : SolverEnv) (k : Kind) (hk : KindOK k) (cid n : Nat) (hp : n.Prime)
    (h2 : n ≠ 2) (hE : E.curveN cid = some (some n)) (uniq : List Triple)
    (hr : ∀ v ∈ uniq, ¬ n ∣ v.1) (cs : List Call) (h : issuerCalls k cid n uniq = .ok cs) :
    ∀ call ∈ cs, CallWF E call := by
  intro call hcall
  rcases issuerCalls_ok h with ⟨rfl, _, rfl⟩ | ⟨m, ab, rfl, _, rfl⟩
  · obtain ⟨v, w, rfl, hv, hw⟩ := cr50Spec_mem n uniq call hcall
    refine ⟨hp, hr v hv, ?_⟩
    rcases hw with hw | rfl
    · exact hr w hw
    · intro hd
      have := Nat.le_of_dvd (by decide) hd
      have := hp.two_le
      omega
  · cases m with
    | bias b =>
      simp only [modeCalls, List.mem_map] at hcall
      obtain ⟨w, hw, rfl⟩ := hcall
      refine ⟨by simp, ?_, hp, h2, hk⟩
      intro h0
      exact (window_subset ab w hw).2 (by simpa using h0)
    | lcg name flags =>
      simp only [modeCalls, List.mem_singleton] at hcall
      subst hcall
      exact ⟨by simp, hk, n, hE, hp⟩

/-- ★ every solver call a successful `Check` recorded has well-formed arguments — for batches whose
signatures on known curves have `r, s ∈ [1, n-1]` (any hash, any issuer key, any mixture of curve
ids), curve objects with odd prime orders, and `set`-order oracles that are enumerations. -/
theorem check_calls_wf (E : SolverEnv) (k : Kind) (hk : KindOK k) (O : Nat → GroupOracle)
    (factory : Factory) (arts : List Sig) (res : CheckResult)
    (h : check k O factory arts = .ok res)
    (hprime : ∀ cid obj, (cid, some obj) ∈ factory →
      obj.curve.n.Prime ∧ obj.curve.n ≠ 2 ∧ E.curveN cid = some (some obj.curve.n))
    (hcons : UniqConsistent O arts factory)
    (hrange : ∀ s ∈ arts, ∀ obj, (s.curve, some obj) ∈ factory → SigRange obj.curve.n s) :
    ∀ cid css, (cid, css) ∈ res.calls → ∀ cs ∈ css, ∀ call ∈ cs, CallWF E call := by
  intro cid css hmem cs hcs call hcall
  obtain ⟨_, _, h3⟩ := checkLoop_ok k O arts factory res h
  obtain ⟨obj, gr, hobj, hgr, rfl⟩ := h3 cid css hmem
  obtain ⟨hp, h2, hE⟩ := hprime cid obj hobj
  obtain ⟨_, _, hcalls, _⟩ := processGroup_ok _ _ _ _ _ _ _ hgr
  obtain ⟨hlen, hinv⟩ := groupCallsFrom_inv k cid obj.curve.n _ (O cid) _ 0 gr.calls hcalls
  obtain ⟨j, hj⟩ := List.getElem?_of_mem hcs
  have hj' := hinv j cs hj
  rw [Nat.zero_add] at hj'
  have hjlt : j < (mapIssuerSigIndexes ((groupFrom cid 0 arts).map Prod.snd)).length :=
    hlen ▸ (List.getElem?_eq_some_iff.mp hj).1
  obtain ⟨_, u2, _⟩ := uniq_values obj.curve.n _ (O cid)
    (hcons cid obj hobj (group_ne_nil_of_issuer hjlt)) j _ _ (List.getElem?_eq_getElem hjlt)
  apply issuerCalls_wf E k hk cid obj.curve.n hp h2 hE ((O cid).uniq j) ?_ cs hj' call hcall
  intro v hv
  obtain ⟨i, _, sg, hsg, _, hval⟩ := u2 v hv
  obtain ⟨m1, m2⟩ := group_sig_mem cid arts i sg hsg
  rw [(ecdsaValues_fields _ _ _ _ v hval).1]
  exact not_dvd_of_range (hrange sg m1 obj (m2 ▸ hobj)).1 (hrange sg m1 obj (m2 ▸ hobj)).2.1

/-! ### the composed check -/

/-- the LLL / float oracles of every solver call of one `Check`: curve id, issuer position, call
position. -/
abbrev SolverOracle := Nat → Nat → Nat → LllOracle

def solveIssuer (E : SolverEnv) (L : Nat → LllOracle) : List Call → Nat → Except PyErr (List (List Int))
  | [], _ => .ok []
  | call :: rest, kk =>
    match solveCall E (L kk) call with
    | .error e => .error e
    | .ok gs =>
      match solveIssuer E L rest (kk + 1) with
      | .error e => .error e
      | .ok gss => .ok (gs :: gss)

def solveGroup (E : SolverEnv) (L : Nat → Nat → LllOracle) :
    List (List Call) → Nat → Except PyErr (List (List (List Int)))
  | [], _ => .ok []
  | cs :: rest, j =>
    match solveIssuer E (L j) cs 0 with
    | .error e => .error e
    | .ok a =>
      match solveGroup E L rest (j + 1) with
      | .error e => .error e
      | .ok as => .ok (a :: as)

def solveAll (E : SolverEnv) (S : SolverOracle) :
    List (Nat × List (List Call)) → Except PyErr (List (Nat × List (List (List Int))))
  | [] => .ok []
  | (cid, css) :: rest =>
    match solveGroup E (S cid) css 0 with
    | .error e => .error e
    | .ok a =>
      match solveAll E S rest with
      | .error e => .error e
      | .ok as => .ok ((cid, a) :: as)

/-- `Check(artifacts)` with the solvers evaluated by their models: the result of the check layer
and, per curve group / issuer / call, the guess list the solver model returns. `.ok` iff NEITHER
layer raises. (Which exception comes first when both layers raise in different curve groups is not
modelled: the check layer is run to its end first.) -/
def checkSolved (E : SolverEnv) (S : SolverOracle) (k : Kind) (O : Nat → GroupOracle)
    (factory : Factory) (arts : List Sig) :
    Except PyErr (CheckResult × List (Nat × List (List (List Int)))) :=
  match check k O factory arts with
  | .error e => .error e
  | .ok res =>
    match solveAll E S res.calls with
    | .error e => .error e
    | .ok answers => .ok (res, answers)

theorem solveIssuer_total (E : SolverEnv) (hE : ∀ m ∈ E.lcg, MetaOk m) (L : Nat → LllOracle)
    (hL : ∀ kk, LllShape (L kk)) : ∀ (cs : List Call) (kk : Nat), (∀ call ∈ cs, CallWF E call) →
    ∃ a, solveIssuer E L cs kk = .ok a
  | [], _, _ => ⟨[], rfl⟩
  | call :: rest, kk, h => by
    obtain ⟨gs, hgs⟩ := solveCall_total E hE (L kk) (hL kk) call (h call List.mem_cons_self)
    obtain ⟨a, ha⟩ := solveIssuer_total E hE L hL rest (kk + 1)
      (fun c hc => h c (List.mem_cons_of_mem _ hc))
    exact ⟨gs :: a, by rw [solveIssuer, hgs]; simp only; rw [ha]⟩

theorem solveGroup_total (E : SolverEnv) (hE : ∀ m ∈ E.lcg, MetaOk m) (L : Nat → Nat → LllOracle)
    (hL : ∀ j kk, LllShape (L j kk)) : ∀ (css : List (List Call)) (j : Nat),
    (∀ cs ∈ css, ∀ call ∈ cs, CallWF E call) → ∃ a, solveGroup E L css j = .ok a
  | [], _, _ => ⟨[], rfl⟩
  | cs :: rest, j, h => by
    obtain ⟨a, ha⟩ := solveIssuer_total E hE (L j) (hL j) cs 0 (h cs List.mem_cons_self)
    obtain ⟨as, has⟩ := solveGroup_total E hE L hL rest (j + 1)
      (fun c hc => h c (List.mem_cons_of_mem _ hc))
    exact ⟨a :: as, by rw [solveGroup, ha]; simp only; rw [has]⟩

theorem solveAll_total (E : SolverEnv) (hE : ∀ m ∈ E.lcg, MetaOk m) (S : SolverOracle)
    (hS : ∀ cid j kk, LllShape (S cid j kk)) : ∀ (calls : List (Nat × List (List Call))),
    (∀ cid css, (cid, css) ∈ calls → ∀ cs ∈ css, ∀ call ∈ cs, CallWF E call) →
    ∃ a, solveAll E S calls = .ok a
  | [], _ => ⟨[], rfl⟩
  | (cid, css) :: rest, h => by
    obtain ⟨a, ha⟩ := solveGroup_total E hE (S cid) (hS cid) css 0 (h cid css List.mem_cons_self)
    obtain ⟨as, has⟩ := solveAll_total E hE S hS rest
      (fun c cs hc => h c cs (List.mem_cons_of_mem _ hc))
    exact ⟨(cid, a) :: as, by rw [solveAll, ha]; simp only; rw [has]⟩

/-! ### the solver environment read off the factory (for `C18Ec.sig_checks_solver_total`) -/

/-- `ec_util.CURVE_FACTORY[curve_type]` read off the very factory the check iterates over. -/
def factoryN : Factory → Nat → Option (Option Nat)
  | [], _ => none
  | (cid', o) :: rest, cid => if cid' = cid then some (o.map fun obj => obj.curve.n) else factoryN rest cid

/-- the environment of the solvers: the constant table and the curve orders of `factory`. -/
def envOf (lcg : List LcgMeta) (factory : Factory) : SolverEnv := ⟨lcg, factoryN factory⟩

theorem factoryN_of_mem {f : Factory} (hnd : (f.map Prod.fst).Nodup) {cid : Nat} {obj : CurveObj}
    (h : (cid, some obj) ∈ f) : factoryN f cid = some (some obj.curve.n) := by
  induction f with
  | nil => cases h
  | cons e es ih =>
    obtain ⟨cid', o⟩ := e
    rw [List.map_cons, List.nodup_cons] at hnd
    rw [factoryN]
    rcases List.mem_cons.mp h with h | h
    · cases h; rw [if_pos rfl]; rfl
    · have : cid' ≠ cid := fun hc => hnd.1 (by
        subst hc; exact List.mem_map.mpr ⟨(cid', some obj), h, rfl⟩)
      rw [if_neg this]
      exact ih hnd.2 h

end Paranoid.EcdsaChecks
