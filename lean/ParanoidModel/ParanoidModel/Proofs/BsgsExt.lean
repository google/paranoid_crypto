/-
Proofs/BsgsExt.lean — ExtendedBatchDL: the recorded value of a valid point is a log of it (C02);
the call raises for no list of points (`Multiply(point, k)` raises for `k = 2` only, Proofs/EcTotalJ,
and `2` is no inverse of a multiplier); private keys `i · multiplier` with `i < bound` are found
(C10), whatever the other points are.
-/
import ParanoidModel.Proofs.BsgsMain
import ParanoidModel.Proofs.EcTotalJ
namespace Paranoid.Bsgs
open Paranoid Paranoid.Ec WeierstrassCurve

/-! ### the multipliers -/

theorem pow_mem_extMultipliers (c : Curve) (j : Nat) (h : 8 * j + 32 ≤ bitLength c.n) :
    2 ^ (8 * j) ∈ extMultipliers c := by
  unfold extMultipliers
  exact List.mem_append_left _ (List.mem_map.mpr ⟨j, List.mem_range.mpr (by omega), rfl⟩)

theorem repUnit_mem_extMultipliers (c : Curve) (r : Nat) (h2 : 2 ≤ r) (hr : r ≤ bitLength c.n / 32) :
    repUnit r ∈ extMultipliers c := by
  unfold extMultipliers
  refine List.mem_append_right _ (List.mem_map.mpr ⟨r - 2, List.mem_range.mpr (by omega), ?_⟩)
  rw [show r - 2 + 2 = r by omega]

theorem repUnit_mul (r : Nat) : repUnit r * (2 ^ 32 - 1) + 1 = 2 ^ (32 * r) := by
  induction r with
  | zero => rfl
  | succ r ih =>
    rw [repUnit, Nat.add_mul, Nat.add_right_comm, ih, show 32 * (r + 1) = 32 * r + 32 by ring,
      pow_add]
    have : 1 ≤ 2 ^ 32 := Nat.one_le_two_pow
    generalize 2 ^ (32 * r) = a
    generalize h32 : 2 ^ 32 = b at *
    rw [Nat.mul_sub, Nat.mul_one]
    have : a ≤ a * b := Nat.le_mul_of_pos_right a (by omega)
    omega

/-- `1 + 2^32 + … + 2^(32(r-1)) = (2^(32r) - 1)/(2^32 - 1)`: the private key "32-bit word repeated
`r` times". -/
theorem repUnit_eq (r : Nat) : repUnit r = (2 ^ (32 * r) - 1) / (2 ^ 32 - 1) := by
  have h := repUnit_mul r
  have hpos : 0 < 2 ^ 32 - 1 := by norm_num
  generalize 2 ^ 32 - 1 = b at h hpos ⊢
  generalize 2 ^ (32 * r) = a at h ⊢
  have h' : a - 1 = repUnit r * b := by omega
  rw [h']
  exact (Nat.mul_div_cancel _ hpos).symm

/-! ### `2` is not the inverse of an ExtendedBatchDL multiplier -/

theorem extMultipliers_small (c : Curve) (hn : c.n ≠ 0) : ∀ mu ∈ extMultipliers c, 1 ≤ mu ∧ 2 * mu < c.n := by
  intro mu hmu
  have hlow := two_pow_le_of_bitLength c.n hn
  unfold extMultipliers at hmu
  rcases List.mem_append.mp hmu with h | h
  · obtain ⟨k, hk, rfl⟩ := List.mem_map.mp h
    rw [List.mem_range] at hk
    refine ⟨Nat.one_le_two_pow, lt_of_lt_of_le ?_ hlow⟩
    rw [← pow_succ']
    exact Nat.pow_lt_pow_right (by decide) (by omega)
  · obtain ⟨k, hk, rfl⟩ := List.mem_map.mp h
    rw [List.mem_range] at hk
    have hk' : 32 * (k + 2) ≤ bitLength c.n := by omega
    have hmul := repUnit_mul (k + 2)
    have h1 : 2 ^ (32 * (k + 2)) ≤ 2 * 2 ^ (bitLength c.n - 1) := by
      rw [← pow_succ']; exact Nat.pow_le_pow_right (by decide) (by omega)
    have h2 : 1 ≤ repUnit (k + 2) := by
      rw [show k + 2 = (k + 1) + 1 from rfl, repUnit]
      have : 1 ≤ 2 ^ (32 * (k + 1)) := Nat.one_le_two_pow
      omega
    refine ⟨h2, ?_⟩
    generalize repUnit (k + 2) = a at *
    generalize 2 ^ (32 * (k + 2)) = b at *
    norm_num at hmul
    omega

/-- `gmpy.invert(mult, n)` is never `2`: `ExtendedBatchDL` never calls `Multiply(point, 2)`. -/
theorem ext_inverse_ne_two (c : Curve) (hn : 2 ≤ c.n) (mu : Nat) (hmu : mu ∈ extMultipliers c)
    (inv : Nat) (h : invMod (mu : Int) c.n = .ok inv) : inv ≠ 2 := by
  rintro rfl
  obtain ⟨h1, h2⟩ := extMultipliers_small c (by omega) mu hmu
  obtain ⟨hm, _, _⟩ := invMod_ok (mu : Int) c.n 2 hn h
  have : ((mu : Int) * (2 : Nat)) % (c.n : Int) = (mu : Int) * 2 := by
    apply Int.emod_eq_of_lt <;> push_cast <;> omega
  rw [this] at hm
  omega

/-! ### list plumbing -/

/-- `(P_i, inv_j)` at position `i + num_points * j`. -/
def extPairs (points : List Pt) (invs : List Nat) : List (Pt × Nat) :=
  invs.flatMap fun inv => points.map fun P => (P, inv)

theorem extPairs_length (points : List Pt) (invs : List Nat) :
    (extPairs points invs).length = invs.length * points.length := by
  induction invs with
  | nil => simp [extPairs]
  | cons inv invs ih =>
    simp only [extPairs, List.flatMap_cons, List.length_append, List.length_map, List.length_cons] at ih ⊢
    rw [ih]; ring

theorem extPairs_getElem? (points : List Pt) : ∀ (invs : List Nat) (j i : Nat) (P : Pt) (inv : Nat),
    points[i]? = some P → invs[j]? = some inv →
    (extPairs points invs)[j * points.length + i]? = some (P, inv)
  | [], j, _, _, _, _, hj => by simp at hj
  | inv0 :: invs, j, i, P, inv, hi, hj => by
    have hilt : i < points.length := (List.getElem?_eq_some_iff.mp hi).1
    simp only [extPairs, List.flatMap_cons]
    cases j with
    | zero =>
      cases hj
      rw [Nat.zero_mul, Nat.zero_add, List.getElem?_append_left (by rw [List.length_map]; exact hilt),
        List.getElem?_map, hi]
      rfl
    | succ j =>
      have e : (j + 1) * points.length + i = points.length + (j * points.length + i) := by
        rw [Nat.add_mul, Nat.one_mul]; omega
      rw [e, List.getElem?_append_right (by rw [List.length_map]; exact Nat.le_add_right _ _),
        List.length_map, Nat.add_sub_cancel_left]
      exact extPairs_getElem? points invs j i P inv hi hj

theorem extPairs_getElem?_split (points : List Pt) (invs : List Nat) (idx : Nat) (P : Pt) (inv : Nat)
    (h : (extPairs points invs)[idx]? = some (P, inv)) :
    points[idx % points.length]? = some P ∧ invs[idx / points.length]? = some inv := by
  have hlt : idx < invs.length * points.length :=
    extPairs_length points invs ▸ (List.getElem?_eq_some_iff.mp h).1
  have hnp : 0 < points.length := by
    rcases Nat.eq_zero_or_pos points.length with h0 | h0
    · rw [h0] at hlt; omega
    · exact h0
  have hi : idx % points.length < points.length := Nat.mod_lt _ hnp
  have hj : idx / points.length < invs.length := Nat.div_lt_of_lt_mul (by rwa [Nat.mul_comm])
  have h1 := extPairs_getElem? points invs (idx / points.length) (idx % points.length)
    points[idx % points.length] invs[idx / points.length] (List.getElem?_eq_getElem hi)
    (List.getElem?_eq_getElem hj)
  rw [Nat.div_add_mod'] at h1
  rw [h1] at h
  cases h
  exact ⟨List.getElem?_eq_getElem hi, List.getElem?_eq_getElem hj⟩

/-! ### the result loop -/

/-- the loop returns and keeps the length; a written slot holds `dlog · multiplier` of a found log at
a position of that slot (the soundness half); a written slot stays written and every found log
leaves its slot written (the completeness half). -/
theorem extCollect_spec (np : Nat) (hnp : 0 < np) (mults : List Nat) :
    ∀ (ds : List (Option Int)) (k : Nat) (res : List (Option Int)),
    res.length = np → k + ds.length ≤ mults.length * np →
    ∃ res', extCollect np mults ds k res = .ok res' ∧ res'.length = np ∧
      (∀ (i : Nat) (v : Int), res'[i]? = some (some v) → res[i]? = some (some v) ∨
        ∃ (idx : Nat) (d : Int) (m : Nat), ds[idx]? = some (some d) ∧ (k + idx) % np = i ∧
          mults[(k + idx) / np]? = some m ∧ v = d * (m : Int)) ∧
      (∀ (i : Nat) (v : Int), res[i]? = some (some v) → ∃ v' : Int, res'[i]? = some (some v')) ∧
      (∀ (idx : Nat) (d : Int), ds[idx]? = some (some d) →
        ∃ v' : Int, res'[(k + idx) % np]? = some (some v'))
  | [], k, res, hl, _ =>
    ⟨res, rfl, hl, fun i v h => .inl h, fun i v h => ⟨v, h⟩, fun idx d h => by simp at h⟩
  | none :: ds, k, res, hl, hk => by
    have e : ∀ idx, k + (idx + 1) = k + 1 + idx := fun idx => by omega
    obtain ⟨res', h1, h2, h3, h4, h5⟩ := extCollect_spec np hnp mults ds (k + 1) res hl
      (by rw [List.length_cons] at hk; omega)
    refine ⟨res', by rw [extCollect]; exact h1, h2, ?_, h4, ?_⟩
    · intro i v hv
      rcases h3 i v hv with h | ⟨idx, d, m, a, b, c', rfl⟩
      · exact .inl h
      · exact .inr ⟨idx + 1, d, m, a, e idx ▸ b, e idx ▸ c', rfl⟩
    · intro idx d hd
      cases idx with
      | zero => cases hd
      | succ idx => exact e idx ▸ h5 idx d hd
  | some d :: ds, k, res, hl, hk => by
    have e : ∀ idx, k + (idx + 1) = k + 1 + idx := fun idx => by omega
    rw [List.length_cons] at hk
    have hkm : k / np < mults.length := Nat.div_lt_of_lt_mul (by rw [Nat.mul_comm]; omega)
    obtain ⟨res', h1, h2, h3, h4, h5⟩ := extCollect_spec np hnp mults ds (k + 1)
      (res.set (k % np) (some (d * (mults[k / np] : Int)))) (by rw [List.length_set]; exact hl)
      (by omega)
    have hmod : k % np < res.length := by rw [hl]; exact Nat.mod_lt _ hnp
    have hset : (res.set (k % np) (some (d * (mults[k / np] : Int))))[k % np]? =
        some (some (d * (mults[k / np] : Int))) := by rw [List.getElem?_set, if_pos rfl, if_pos hmod]
    refine ⟨res', ?_, h2, ?_, ?_, ?_⟩
    · rw [extCollect, if_neg (by omega), List.getElem?_eq_getElem hkm]
      exact h1
    · intro i v hv
      rcases h3 i v hv with h | ⟨idx, d', m, a, b, c', rfl⟩
      · by_cases hik : k % np = i
        · rw [← hik, hset] at h
          cases h
          exact .inr ⟨0, d, mults[k / np], rfl, hik, List.getElem?_eq_getElem hkm, rfl⟩
        · rw [List.getElem?_set, if_neg hik] at h
          exact .inl h
      · exact .inr ⟨idx + 1, d', m, a, e idx ▸ b, e idx ▸ c', rfl⟩
    · intro i v hv
      by_cases hik : k % np = i
      · subst hik; exact h4 _ _ hset
      · exact h4 i v (by rw [List.getElem?_set, if_neg hik]; exact hv)
    · intro idx d' hd
      cases idx with
      | zero => exact h4 (k % np) _ hset
      | succ idx => exact e idx ▸ h5 idx d' hd

section group
variable (c : Curve) [hp : Fact (Nat.Prime c.p)]

theorem extAllPoints_spec (points : List Pt) : ∀ (invs : List Nat) (all : List Pt),
    extAllPoints c points invs = .ok all →
    List.Forall₂ (fun Q (pi : Pt × Nat) => multiply c pi.1 (pi.2 : Int) = .ok Q) all
      (extPairs points invs)
  | [], all, h => by cases h; exact .nil
  | inv :: invs, all, h => by
    rw [extAllPoints] at h
    split at h
    · cases h
    · rename_i row hrow
      split at h
      · cases h
      · rename_i rest hrest
        cases h
        have h1 := (forE_ok hrow).flip
        have h2 : List.Forall₂ (fun Q (pi : Pt × Nat) => multiply c pi.1 (pi.2 : Int) = .ok Q) row
            (points.map fun P => (P, inv)) := by
          rw [List.forall₂_map_right_iff]
          exact h1
        simp only [extPairs, List.flatMap_cons]
        exact List.rel_append h2 (extAllPoints_spec points invs rest hrest)

/-- `Multiply(point, inverse)` raises for no point at all, the scalar `2` apart (`Ec.multiply_cases`). -/
theorem extAllPoints_total_any (h2 : c.p ≠ 2) (points : List Pt) :
    ∀ invs : List Nat, (∀ inv ∈ invs, inv ≠ 2) →
    ∃ all, extAllPoints c points invs = .ok all ∧ all.length = invs.length * points.length
  | [], _ => ⟨[], rfl, by simp⟩
  | inv :: invs, h => by
    obtain ⟨rest, hr1, hr2⟩ := extAllPoints_total_any h2 points invs
      (fun i hi => h i (List.mem_cons_of_mem _ hi))
    obtain ⟨row, hrow⟩ := forE_total (f := fun P => multiply c P (inv : Int)) (l := points)
      (fun P _ => multiply_total_of_ne_two c h2 P inv (by
        have := h inv List.mem_cons_self
        exact_mod_cast this))
    refine ⟨row ++ rest, by rw [extAllPoints, hrow]; simp only; rw [hr1], ?_⟩
    rw [List.length_append, ← (forE_ok hrow).length_eq, hr2, List.length_cons]
    ring

theorem smul_inv_cancel {P : (W c).Point} (hN : c.n • P = 0) (m inv : Nat)
    (h : ((m : Int) * inv) % (c.n : Int) = 1) : ((m : Int) * inv) • P = P := by
  have := Int.emod_add_mul_ediv ((m : Int) * inv) (c.n : Int)
  rw [h] at this
  rw [← this, add_zsmul, one_zsmul, mul_zsmul, natCast_zsmul, smul_comm, hN, zsmul_zero, add_zero]

/-- **ExtendedBatchDL soundness** (C02): for a point `P` on the curve with `N • P = 0` (a valid
public key), the recorded value — `dlog · multiplier` for the last multiplier (in list order) whose
transformed point has a found log — satisfies `v • G = P`. For every state, bound, oracle value. -/
theorem extendedBatchDLB_sound (hc : c.Good) (hG : onCurve c c.g = true) (hn : 2 ≤ c.n)
    (bound : Nat) (st : EcState) (points : List Pt) (ts m : Nat) (res : List (Option Int))
    (st' : EcState) (h : extendedBatchDLB listImpl c bound st points ts m = .ok (res, st'))
    (i : Nat) (P : Pt) (v : Int) (hP : points[i]? = some P) (hon : onCurve c P = true)
    (hN : c.n • toPoint c P = 0) (hv : res[i]? = some (some v)) : v • Gp c = toPoint c P := by
  obtain ⟨invs, all, dls, hinvs, hall, hdl, hcol⟩ := extendedBatchDLB_ok.mp h
  have hnp : 0 < points.length := Nat.zero_lt_of_lt (List.getElem?_eq_some_iff.mp hP).1
  have hsound := batchDL_sound c hc hG st all bound ts m dls st' hdl
  have hpairs := extAllPoints_spec c points invs all hall
  have hinv := forE_ok hinvs
  have hlen : dls.length = (extMultipliers c).length * points.length := by
    rw [← hsound.length_eq, hpairs.length_eq, extPairs_length, hinv.length_eq]
  obtain ⟨res', h1, _, h3, _, _⟩ := extCollect_spec points.length hnp (extMultipliers c) dls 0
    (List.replicate points.length none) (by simp) (by omega)
  rw [h1] at hcol; cases hcol
  rcases h3 i v hv with h0 | ⟨idx, d, mu, hd, hi, hmu, rfl⟩
  · rw [List.getElem?_replicate] at h0; split at h0 <;> cases h0
  · rw [zero_add] at hi hmu
    obtain ⟨Q, hQ, hdQ⟩ := forall₂_getElem? hsound idx (some d) hd
    obtain ⟨pi, hpi, hmul⟩ := forall₂_getElem? hpairs.flip idx Q hQ
    obtain ⟨P', inv⟩ := pi
    obtain ⟨hP', hinv'⟩ := extPairs_getElem?_split points invs idx P' inv hpi
    rw [hi, hP] at hP'; cases hP'
    obtain ⟨mu', hmu', hinvmod⟩ := forall₂_getElem? hinv (idx / points.length) inv hinv'
    rw [hmu] at hmu'; cases hmu'
    have hio := invMod_ok (mu : Int) c.n inv hn hinvmod
    obtain ⟨R, hR1, _, hR3⟩ := multiply_zsmul c hc P inv hon
    simp only at hmul
    rw [hR1] at hmul; cases hmul
    have hdG := hdQ d rfl
    rw [hR3] at hdG
    rw [mul_comm, mul_zsmul, hdG, ← mul_zsmul]
    exact smul_inv_cancel c hN mu inv hio.1

/-- every multiplier is invertible modulo the group order (so `gmpy.invert` does not raise). -/
def MultipliersOK : Prop := ∀ mu ∈ extMultipliers c, Int.gcd (mu : Int) c.n = 1

theorem extInverses_total (hn : 2 ≤ c.n) (hmu : MultipliersOK c) :
    ∃ invs, extInverses c = .ok invs ∧
      List.Forall₂ (fun (mu inv : Nat) => invMod (mu : Int) c.n = .ok inv) (extMultipliers c) invs := by
  obtain ⟨invs, h⟩ := forE_total (f := fun (mu : Nat) => invMod (mu : Int) c.n) (l := extMultipliers c)
    (fun mu hmem => by
      rcases invMod_cases (mu : Int) c.n hn with ⟨_, x, hx, _⟩ | ⟨hg, _⟩
      · exact ⟨x, hx⟩
      · exact absurd (hmu mu hmem) hg)
  exact ⟨invs, h, forE_ok h⟩

/-- **ExtendedBatchDL** never raises: any state, ANY points (off the curve, unreduced, `(0,0)`,
coordinates `≥ p`), one result per point. -/
theorem extendedBatchDLB_total_any (hc : c.Good) (hG : onCurve c c.g = true) (hGr : Reduced c c.g)
    (hn : 2 ≤ c.n) (hmu : MultipliersOK c) (bound : Nat) (st : EcState) (points : List Pt)
    (ts m : Nat) (hts : 1 ≤ ts) (hm : st.tableSize < ts → 1 ≤ m) :
    ∃ res st', extendedBatchDLB listImpl c bound st points ts m = .ok (res, st') ∧
      res.length = points.length := by
  obtain ⟨invs, hinvs, hinv⟩ := extInverses_total c hn hmu
  obtain ⟨all, hall, halllen⟩ := extAllPoints_total_any c hc.two points invs fun inv hi =>
    let ⟨mu, hmu', hr⟩ := forall₂_mem_left hinv.flip hi
    ext_inverse_ne_two c hn mu hmu' inv hr
  obtain ⟨dls, st1, hdl, hdlen⟩ := batchDL_total_any c hc hG hGr st all bound ts m hts hm
  have hlen : dls.length = (extMultipliers c).length * points.length := by
    rw [hdlen, halllen, hinv.length_eq]
  obtain ⟨res, hres, hrl⟩ : ∃ res, extCollect points.length (extMultipliers c) dls 0
      (List.replicate points.length none) = .ok res ∧ res.length = points.length := by
    rcases Nat.eq_zero_or_pos points.length with hnp0 | hnp
    · -- no points: `dls = []`; `extCollect_spec` needs `0 < np`
      rw [List.eq_nil_of_length_eq_zero (l := dls) (by rw [hlen, hnp0]; rfl)]
      exact ⟨_, rfl, List.length_replicate⟩
    · obtain ⟨res, h1, h2, _⟩ := extCollect_spec points.length hnp (extMultipliers c) dls 0
        (List.replicate points.length none) (by simp) (by omega)
      exact ⟨res, h1, h2⟩
  exact ⟨res, st1, extendedBatchDLB_ok.mpr ⟨invs, all, dls, hinvs, hall, hdl, hres⟩, hrl⟩

/-- **ExtendedBatchDL: totality, soundness and completeness with arbitrary neighbours.** For every
state satisfying the table invariant, `ts ≥ 1`, and ANY list of points the call returns one result
per point; a value recorded for an on-curve point `P` with `n • P = ∞` is a log of `P`; an on-curve
reduced `P = d • G` with `d = i · mu`, `i < bound`, is recorded. The searches treat every point
independently (one `Multiply(point, inverse)` per point and multiplier, one scan per transformed
point), so what is said of a key holds whatever its neighbours are. -/
theorem extendedBatchDLB_complete_any (hc : c.Good) (hG : onCurve c c.g = true) (hGr : Reduced c c.g)
    (hn : 2 ≤ c.n) (hNG : c.n • Gp c = 0) (hmu : MultipliersOK c) (bound : Nat)
    (st : EcState) (V : Nat) (hst : StateOK c st V) (points : List Pt)
    (ts m : Nat) (hts : 1 ≤ ts) (hm : st.tableSize < ts → 1 ≤ m) :
    ∃ res st', extendedBatchDLB listImpl c bound st points ts m = .ok (res, st') ∧
      StateOK c st' (rangeAfter st V ts m) ∧ st'.tableSize = max st.tableSize ts ∧
      res.length = points.length ∧
      (∀ (i : Nat) (P : Pt) (v : Int), points[i]? = some P → onCurve c P = true →
        c.n • toPoint c P = 0 → res[i]? = some (some v) → v • Gp c = toPoint c P) ∧
      ∀ (i : Nat) (P : Pt) (d i0 mu : Nat), points[i]? = some P → onCurve c P = true → Reduced c P →
        toPoint c P = d • Gp c → mu ∈ extMultipliers c → d = i0 * mu → i0 < bound →
        ∃ v : Int, res[i]? = some (some v) ∧ v • Gp c = toPoint c P := by
  obtain ⟨res, st', hrun, hlen⟩ := extendedBatchDLB_total_any c hc hG hGr hn hmu bound st points ts m
    hts hm
  obtain ⟨invs, all, dls, hinvs, hall, hdl, hcol⟩ := extendedBatchDLB_ok.mp hrun
  obtain ⟨dls', st1, hdl', hst1, hsz, _, hcomp⟩ := batchDL_complete_any c hc hG hGr st V hst all bound
    ts m hts hm
  rw [batchDL, hdl] at hdl'; cases hdl'
  have hsound := extendedBatchDLB_sound c hc hG hn bound st points ts m res st' hrun
  refine ⟨res, st', hrun, hst1, hsz, hlen, hsound, fun i P d i0 mu hP hon hPr hPd hmem hd hi0 => ?_⟩
  have hi : i < points.length := (List.getElem?_eq_some_iff.mp hP).1
  have hpairs := extAllPoints_spec c points invs all hall
  have hinv := forE_ok hinvs
  obtain ⟨res', h1, _, _, _, h5⟩ := extCollect_spec points.length (by omega) (extMultipliers c) dls 0
    (List.replicate points.length none) (by simp)
    (by rw [← hcomp.length_eq, hpairs.length_eq, extPairs_length, hinv.length_eq]; omega)
  rw [h1] at hcol; cases hcol
  -- the transformed point `inv(mu) • P = i0 • G` is found by BatchDL, which leaves the slot of `P` written
  obtain ⟨j, hj⟩ := List.getElem?_of_mem hmem
  obtain ⟨inv, hinvj, hinvmod⟩ := forall₂_idx hinv j mu hj
  obtain ⟨Q, hQ, hmul⟩ := forall₂_getElem? hpairs _ _ (extPairs_getElem? points invs j i P inv hP hinvj)
  simp only at hmul
  obtain ⟨R, hR1, hR2⟩ := multiply_repR c hc hon hPr (inv : Int)
  rw [hR1] at hmul; cases hmul
  have hQi0 : toPoint c Q = i0 • Gp c := by
    rw [hR2.2.1, hPd, hd, ← natCast_zsmul, ← mul_zsmul]
    have e : (inv : Int) * ((i0 * mu : Nat) : Int) = (i0 : Int) * ((mu : Int) * inv) := by
      push_cast; ring
    rw [e, mul_zsmul, smul_inv_cancel c hNG mu inv (invMod_ok (mu : Int) c.n inv hn hinvmod).1,
      natCast_zsmul]
  obtain ⟨r, hr, hrel⟩ := forall₂_idx hcomp (j * points.length + i) Q hQ
  obtain ⟨v', rfl, _, _⟩ := hrel i0 hR2.1 hR2.2.2 hi0 hQi0
  obtain ⟨v, hv⟩ := h5 (j * points.length + i) v' hr
  rw [zero_add, Nat.mul_add_mod_of_lt hi] at hv
  exact ⟨v, hv, hsound i P v hP hon (by rw [hPd, smul_comm, hNG, nsmul_zero]) hv⟩

/-- **ExtendedBatchDL totality and completeness** (C10), in the form of Props/C10: every point of the
list on the curve. A reduced point `P = d • G` whose private key is `d = i · mu` for one of the
multipliers `mu` and `i < bound` is recorded with some `v` such that `v • G = P` (hence
`v ≡ d (mod N)` when `G` has order `N`). -/
theorem extendedBatchDLB_complete (hc : c.Good) (hG : onCurve c c.g = true) (hGr : Reduced c c.g)
    (hn : 2 ≤ c.n) (hNG : c.n • Gp c = 0) (hmu : MultipliersOK c) (bound : Nat)
    (st : EcState) (V : Nat) (hst : StateOK c st V) (points : List Pt)
    (hpts : ∀ P ∈ points, onCurve c P = true) (ts m : Nat) (hts : 1 ≤ ts)
    (hm : st.tableSize < ts → 1 ≤ m) :
    ∃ res st', extendedBatchDLB listImpl c bound st points ts m = .ok (res, st') ∧
      StateOK c st' (rangeAfter st V ts m) ∧ st'.tableSize = max st.tableSize ts ∧
      res.length = points.length ∧
      ∀ (i : Nat) (P : Pt) (d i0 mu : Nat), points[i]? = some P → Reduced c P →
        toPoint c P = d • Gp c → mu ∈ extMultipliers c → d = i0 * mu → i0 < bound →
        ∃ v : Int, res[i]? = some (some v) ∧ v • Gp c = toPoint c P :=
  let ⟨res, st', h1, h2, h3, h4, _, h6⟩ := extendedBatchDLB_complete_any c hc hG hGr hn hNG hmu bound
    st V hst points ts m hts hm
  ⟨res, st', h1, h2, h3, h4, fun i P d i0 mu hP =>
    h6 i P d i0 mu hP (hpts P (List.mem_of_getElem? hP))⟩

end group
end Paranoid.Bsgs
