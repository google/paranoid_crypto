/-
Proofs/EcCombArith.lean — the comb identity behind BatchMultiplyG (pure arithmetic, no curve).
-/
import ParanoidModel.Model.Ec
import ParanoidModel.Proofs.Basic
import Mathlib.Tactic.Ring
namespace Paranoid.Ec
open Paranoid

/-- `Σ_{i<k} 2^i · f i`. -/
def sumTo (f : Nat → Nat) : Nat → Nat
  | 0 => 0
  | k + 1 => sumTo f k + 2 ^ k * f k

theorem sumTo_add_mul (f g h : Nat → Nat) (B : Nat) : ∀ k, (∀ i, i < k → f i = g i + B * h i) →
    sumTo f k = sumTo g k + B * sumTo h k
  | 0, _ => by simp [sumTo]
  | k + 1, hf => by
    rw [sumTo, sumTo, sumTo, sumTo_add_mul f g h B k (fun i hi => hf i (by omega)), hf k (by omega)]
    ring

theorem sumTo_bits (x : Nat) : ∀ k, sumTo (fun i => (x >>> i) % 2) k = x % 2 ^ k
  | 0 => by simp [sumTo, Nat.mod_one]
  | k + 1 => by
    rw [sumTo, sumTo_bits x k, Nat.shiftRight_eq_div_pow, Nat.mod_pow_succ]

theorem combMaskAux_shift (s : Nat) : ∀ cnt j, combMaskAux s cnt j = 2 ^ j * combMaskAux s cnt 0
  | 0, j => by simp [combMaskAux]
  | cnt + 1, j => by
    rw [combMaskAux, combMaskAux, combMaskAux_shift s cnt (j + s), combMaskAux_shift s cnt (0 + s)]
    simp only [Nat.shiftLeft_eq, one_mul, pow_zero, zero_add]
    rw [pow_add]; ring

theorem combMaskAux_succ (s cnt : Nat) :
    combMaskAux s (cnt + 1) 0 = 1 + 2 ^ s * combMaskAux s cnt 0 := by
  rw [combMaskAux, combMaskAux_shift s cnt (0 + s)]
  simp [Nat.shiftLeft_eq]

theorem and_mask_succ (s cnt y : Nat) (hs : 0 < s) :
    y &&& combMaskAux s (cnt + 1) 0 = y % 2 + 2 ^ s * ((y / 2 ^ s) &&& combMaskAux s cnt 0) := by
  rw [combMaskAux_succ]
  generalize combMaskAux s cnt 0 = m
  have hB : 2 ≤ 2 ^ s := by
    calc 2 = 2 ^ 1 := rfl
      _ ≤ 2 ^ s := Nat.pow_le_pow_right (by norm_num) hs
  have h1 : (y &&& (1 + 2 ^ s * m)) % 2 ^ s = y % 2 := by
    rw [Nat.and_mod_two_pow]
    have : (1 + 2 ^ s * m) % 2 ^ s = 1 := by
      rw [Nat.add_mul_mod_self_left]; exact Nat.mod_eq_of_lt (by omega)
    rw [this, Nat.and_one_is_mod]
    exact Nat.mod_mod_of_dvd y (dvd_pow_self 2 (by omega))
  have h2 : (y &&& (1 + 2 ^ s * m)) / 2 ^ s = (y / 2 ^ s) &&& m := by
    rw [Nat.and_div_two_pow]
    congr 1
    rw [Nat.add_mul_div_left _ _ (by omega), Nat.div_eq_of_lt (by omega), zero_add]
  rw [← Nat.mod_add_div (y &&& (1 + 2 ^ s * m)) (2 ^ s), h1, h2]

/-- the window `(x >> i) & mask` of BatchMultiplyG. -/
def combWindow (mask x i : Nat) : Nat := (x >>> i) &&& mask

/-- **comb identity**: `Σ_{i<steps} 2^i · ((x >> i) & mask_cnt) = x mod 2^(steps·cnt)`. -/
theorem comb_identity (s : Nat) (hs : 0 < s) : ∀ (cnt x : Nat),
    sumTo (combWindow (combMaskAux s cnt 0) x) s = x % (2 ^ s) ^ cnt
  | 0, x => by
    have h0 : combMaskAux s 0 0 = 0 := rfl
    have : ∀ k, sumTo (combWindow 0 x) k = 0 := by
      intro k
      induction k with
      | zero => rfl
      | succ k ih => simp [sumTo, ih, combWindow]
    rw [h0, this, pow_zero, Nat.mod_one]
  | cnt + 1, x => by
    rw [sumTo_add_mul _ (fun i => (x >>> i) % 2) (combWindow (combMaskAux s cnt 0) (x / 2 ^ s)) (2 ^ s)]
    · rw [sumTo_bits, comb_identity s hs cnt (x / 2 ^ s), pow_succ', Nat.mod_mul]
    · intro i _
      simp only [combWindow]
      rw [and_mask_succ s cnt _ hs]
      congr 3
      simp only [Nat.shiftRight_eq_div_pow, Nat.div_div_eq_div_mul, mul_comm]

/-- Horner evaluation performed by the rounds `i-1, …, 0` of BatchMultiplyG on the scalar `a`. -/
def hloop (mask x : Nat) : Nat → Nat → Nat
  | 0, a => a
  | i + 1, a => hloop mask x i (2 * a + combWindow mask x i)

theorem hloop_eq (mask x : Nat) : ∀ i a, hloop mask x i a = 2 ^ i * a + sumTo (combWindow mask x) i
  | 0, a => by simp [hloop, sumTo]
  | i + 1, a => by
    rw [hloop, hloop_eq mask x i, sumTo]; ring

theorem comb_cover (c : Curve) (hn : 0 < c.n) (x : Nat) (hx : x < c.n) :
    x < (2 ^ combSteps c) ^ ((bitLength c.n + combSteps c - 1) / combSteps c) := by
  have hL := bitLength_ne_zero hn.ne'
  have hs : 0 < combSteps c := by unfold combSteps; omega
  have h1 : x < 2 ^ bitLength c.n := lt_trans hx (lt_two_pow_bitLength c.n)
  rw [← pow_mul, mul_comm]
  exact lt_of_lt_of_le h1 (Nat.pow_le_pow_right (by norm_num) (le_ceilDiv_mul _ hs))

/-- the scalar computed by the comb for a reduced scalar is the scalar itself. -/
theorem comb_scalar (c : Curve) (hn : 0 < c.n) (x : Nat) (hx : x < c.n) (st : Nat)
    (hst : combSteps c = st + 1) :
    hloop (combMask c) x st (combWindow (combMask c) x st) = x := by
  rw [hloop_eq]
  have : 2 ^ st * combWindow (combMask c) x st + sumTo (combWindow (combMask c) x) st =
      sumTo (combWindow (combMask c) x) (st + 1) := by rw [sumTo]; ring
  rw [this, ← hst]
  unfold combMask
  rw [comb_identity _ (by omega)]
  exact Nat.mod_eq_of_lt (comb_cover c hn x hx)

end Paranoid.Ec
