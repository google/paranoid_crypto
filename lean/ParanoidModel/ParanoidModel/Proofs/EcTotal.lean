/-
Proofs/EcTotal.lean — totality of the two batched EC checks on ARBITRARY coordinates: no on-curve
hypothesis, no reducedness hypothesis, no hypothesis on the cached `_table` state. The searches
themselves: `batchDL_total_any` (Proofs/BsgsMain), `extendedBatchDLB_total_any` (Proofs/BsgsExt),
`batchDLOfDifferences_total_any` (Proofs/BsgsDiffComplete); the loop over the factory: Proofs/BsgsLoop.
Also CheckWeakECPrivateKey with `ExtendedBatchDL`'s `2**32` as a parameter (`weakKeyLoopB` of
Model/EcAll.lean) as an instance of that loop.

Why nothing can raise (odd prime field, valid generator):
* every user point enters the affine batch operations only through `BatchAddX(p, list)`, which equals
  `[Add(p, q)[0] for q in list]` for ALL lists (`batchAddX_eq_map`) and `Add` is total for all
  integer pairs (`add_total`, after fix D3);
* `Multiply(user point, k)` (only in `ExtendedBatchDL`, `k = invert(multiplier, n)`) raises only for
  `k = 2` (`Ec.multiply_cases`), and `2` is never the inverse of a multiplier (`ext_inverse_ne_two`:
  `2·mult < n`);
* everything else (`PointTable(g, ·)`, `PointSequence(Multiply(g, -t), ·)`, `Multiply(g, dl)`) works
  on multiples of the generator;
* the `_table` contents are only READ (`x in table`, `table[x]`): whatever they are, the candidates
  are verified by `Multiply(g, dl)`.
-/
import ParanoidModel.Proofs.EcTotalComplete
import ParanoidModel.Model.EcAll
namespace Paranoid.Bsgs
open Paranoid Paranoid.Ec

/-! ### CheckWeakECPrivateKey with a bound is an instance of the loop of Proofs/BsgsLoop.lean -/

theorem weakKeyLoopB_eq_gen {τ} (I : TableImpl τ) (bound : Nat) (keys : List ECKey) :
    ∀ (f : Factory) (sts : List (StateG τ)) (os : List (Nat × Nat)) (res : List KeyVerdict),
    EcAll.weakKeyLoopB I bound keys f sts os res = genLoop keys (weakStep I bound keys) f sts os res
  | [], _, _, _ => rfl
  | _ :: _, [], _, _ => rfl
  | _ :: _, _ :: _, [], _ => rfl
  | e :: es, st :: sts, o :: os, res => by
    rw [EcAll.weakKeyLoopB, genLoop]
    cases hcur : e.curve with
    | none => simp only; rw [weakKeyLoopB_eq_gen I bound keys es sts os res]
    | some c =>
      simp only [weakStep]
      by_cases hg : (groupPoints e.id keys).isEmpty = true
      · rw [if_pos hg, if_pos hg]; simp only; rw [weakKeyLoopB_eq_gen I bound keys es sts os res]
      · rw [if_neg hg, if_neg hg]
        cases hx : extendedBatchDLB I c bound st (groupPoints e.id keys) o.1 o.2 with
        | error err => rfl
        | ok r =>
          obtain ⟨dls, st'⟩ := r
          simp only
          rw [weakKeyLoopB_eq_gen I bound keys es sts os _]

theorem isAff_groupPoints (id : Nat) (keys : List ECKey) : ∀ P ∈ groupPoints id keys, IsAff P := by
  intro P hP
  unfold groupPoints at hP
  obtain ⟨k, _, rfl⟩ := List.mem_map.mp hP
  trivial

/-- ★ **CheckWeakECPrivateKey is total on arbitrary coordinates.** Every factory of valid curve
objects, every `_table` state (one per curve object), every bound, every batch of keys — any
natural-number coordinates, any mixture of curve ids — with float oracles `≥ 1` for the non-empty
groups: the check returns, with an entry exactly for the keys on known curves. -/
theorem checkWeakECPrivateKeyB_total_any (bound : Nat) (f : Factory) (hf : FactoryHyp f)
    (hnd : (f.map (·.id)).Nodup) (sts : List EcState) (hlen : sts.length = f.length)
    (orc : List (Nat × Nat)) (keys : List ECKey)
    (horc : List.Forall₂ (fun (e : FEntry) (x : Nat × Nat) =>
      groupPoints e.id keys ≠ [] → 1 ≤ x.1 ∧ 1 ≤ x.2) f orc) :
    ∃ res sts', EcAll.checkWeakECPrivateKeyB listImpl bound f sts orc keys = .ok (res, sts') ∧
      sts'.length = f.length ∧ RowShape f keys res := by
  obtain ⟨res, sts', h1, h2, h3, _⟩ := genCheck_spec keys (weakStep listImpl bound keys)
    (fun _ _ => True) (fun _ _ _ _ _ _ _ => True) f sts orc hnd
    ((Forall₃.of_forall₂ (forall₂_true hlen) horc).imp_of_mem fun e st o he ho c hcur =>
      weakStep_stepOK trivial fun hne => by
        obtain ⟨hprime, hparams, hmults⟩ := hf e he c hcur
        haveI : Fact (Nat.Prime c.p) := ⟨hprime⟩
        obtain ⟨g1, g2, _, _, _, _⟩ := generator_of_paramsOK c hparams
        obtain ⟨g7, g8⟩ := reduced_of_paramsOK c hparams
        obtain ⟨dls, st', hr, hl⟩ := extendedBatchDLB_total_any c g1 g2 g7 g8
          (multipliersOK_of_b hmults) bound st (groupPoints e.id keys) o.1 o.2 (ho.2 hne).1
          (fun _ => (ho.2 hne).2)
        exact ⟨dls, st', hr, trivial, hl, fun _ _ _ _ _ _ _ => trivial⟩)
  exact ⟨res, sts', by rw [EcAll.checkWeakECPrivateKeyB, weakKeyLoopB_eq_gen]; exact h1,
    h2.length_eq.symm, h3⟩

/-- ★ **CheckECKeySmallDifference is total on arbitrary coordinates** (same quantification; the
float oracle `int(math.sqrt(max_diff))` is `≥ 1` when `max_diff ≥ 1`). -/
theorem checkECKeySmallDifference_total_any (maxDiff : Nat) (f : Factory) (hf : FactoryHyp f)
    (hnd : (f.map (·.id)).Nodup) (sts : List EcState) (hlen : sts.length = f.length)
    (ms : List Nat) (keys : List ECKey)
    (hms : List.Forall₂ (fun (_ : FEntry) (m : Nat) => 0 < maxDiff → 1 ≤ m) f ms) :
    ∃ res sts', checkECKeySmallDifferenceG listImpl f sts ms keys maxDiff = .ok (res, sts') ∧
      sts'.length = f.length ∧ RowShape f keys res := by
  obtain ⟨res, sts', h1, h2, h3, _⟩ := genCheck_spec keys (diffStepE listImpl maxDiff keys)
    (fun _ _ => True) (fun _ _ _ _ _ _ _ => True) f sts ms hnd
    ((Forall₃.of_forall₂ (forall₂_true hlen) hms).imp_of_mem fun e st m he hm c hcur => by
        obtain ⟨hprime, hparams, _⟩ := hf e he c hcur
        haveI : Fact (Nat.Prime c.p) := ⟨hprime⟩
        obtain ⟨g1, g2, _, _, _, _⟩ := generator_of_paramsOK c hparams
        obtain ⟨rels, st', hr, hl⟩ := batchDLOfDifferences_total_any c g1 g2 st
          (groupPoints e.id keys) [] (isAff_groupPoints e.id keys) (fun _ h => by simp at h) maxDiff m
          (fun h => hm.2 (by omega))
        exact diffStepE_stepOK hr trivial hl fun _ _ _ _ _ _ _ _ _ => trivial)
  exact ⟨res, sts', by rw [checkECKeySmallDifferenceG, smallDiffLoop_eq_gen]; exact h1,
    h2.length_eq.symm, h3⟩

/-- **CheckWeakECPrivateKey, every batch, every bound**, for the check model with the bound as a
parameter. -/
theorem checkWeakECPrivateKeyB_spec_any (bound : Nat) (f : Factory) (sts : List EcState)
    (orc : List (Nat × Nat)) (keys : List ECKey) (hnd : (f.map (·.id)).Nodup)
    (hh : WKHyp' keys f sts orc) :
    ∃ res sts', EcAll.checkWeakECPrivateKeyB listImpl bound f sts orc keys = .ok (res, sts') ∧
      StatesOK f sts' ∧ RowShape f keys res ∧
      ∀ (p : Nat) (k : ECKey) (c : Curve), keys[p]? = some k → factoryGet f k.curveType = some c →
        ∃ kv hp, res[p]? = some (some kv) ∧ WeakKeyOKB c hp bound k.pt kv := by
  rw [EcAll.checkWeakECPrivateKeyB, weakKeyLoopB_eq_gen]
  exact weakKeyLoop_spec_any bound f sts orc keys hnd hh

end Paranoid.Bsgs

namespace Paranoid.EcAll
open Paranoid Paranoid.Ec Paranoid.Bsgs

theorem weakKeyLoopB_eq {τ} (I : TableImpl τ) (keys : List ECKey) :
    ∀ (f : Factory) (sts : List (StateG τ)) (os : List (Nat × Nat)) (res : List Bsgs.KeyVerdict),
      weakKeyLoopB I (2 ^ 32) keys f sts os res = weakKeyLoop I keys f sts os res := fun f sts os res => by
  rw [Bsgs.weakKeyLoopB_eq_gen, Bsgs.weakKeyLoop_eq_gen]

theorem checkWeakECPrivateKeyB_eq (f : Factory) (sts : List EcState) (orc : List (Nat × Nat))
    (keys : List ECKey) :
    checkWeakECPrivateKeyB listImpl (2 ^ 32) f sts orc keys = checkWeakECPrivateKey f sts orc keys :=
  weakKeyLoopB_eq listImpl keys f sts orc _

end Paranoid.EcAll
