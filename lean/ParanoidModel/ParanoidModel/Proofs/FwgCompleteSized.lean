/-
Proofs/FwgCompleteSized.lean — the hypotheses `FwgC.Hyp` of the loop-completeness theorem follow
from plain size conditions: `P`, `Q` of `L` bits, a guess within `E` of `P` with
`(E + 2)²·2^12 ≤ 2^(L/2)`, and a cube-root oracle with `n ≤ 8·bound³` and `16·bound³ ≤ 81·n`
(i.e. `bound ∈ [n^(1/3)/2, 1.717·n^(1/3)]`).
-/
import ParanoidModel.Proofs.FwgCompleteLoop

namespace Paranoid.FwgC
open Paranoid

/-- a cube-root bound of `n ∈ [4W², 16W²]` lies between `T` and `W` when `T² ≤ 4W`, `2^12·T ≤ W`. -/
theorem bound_between {n W T bound : Nat} (hn1 : 4 * (W * W) ≤ n) (hn2 : n ≤ 16 * (W * W))
    (hTT : T * T ≤ 4 * W) (hTW : 4096 * T ≤ W) (hW : 81 ≤ W)
    (hlo : n ≤ 8 * bound ^ 3) (hhi : 16 * bound ^ 3 ≤ 81 * n) : T ≤ bound ∧ bound ≤ W := by
  constructor
  · -- `8T³ ≤ 32·W·T ≤ W² ≤ n ≤ 8·bound³`
    apply (Nat.pow_le_pow_iff_left (n := 3) (by norm_num)).1
    have h1 : T ^ 3 ≤ 4 * W * T := by rw [pow_succ, pow_two]; exact Nat.mul_le_mul_right T hTT
    have h2 : 4096 * (W * T) ≤ W * W := by
      rw [← Nat.mul_assoc, Nat.mul_comm 4096 W, Nat.mul_assoc]; exact Nat.mul_le_mul_left W hTW
    have e : 4 * W * T = 4 * (W * T) := Nat.mul_assoc ..
    omega
  · -- `16·bound³ ≤ 81·n ≤ 1296·W² ≤ 16·W³`
    apply (Nat.pow_le_pow_iff_left (n := 3) (by norm_num)).1
    have h1 : 81 * (W * W) ≤ W ^ 3 := by
      rw [pow_succ, pow_two, Nat.mul_comm (W * W) W]; exact Nat.mul_le_mul_right _ hW
    omega

/-- `Hyp.hsmall` (`B = PQ/A`) for `P, Q ≤ 4W` and `W ≤ A ≤ 5W`: `AQ + BP ≤ 20W² + 32W² ≤ 52A²` and
`16(2E+4)²·52 = 3328(E+2)² ≤ T`. -/
theorem small_of_sizes {P Q A E W T : Nat} (hP2 : P ≤ 4 * W) (hQ2 : Q ≤ 4 * W) (hAW : W ≤ A)
    (hA3 : A ≤ 5 * W) (hPA : P ≤ 2 * A) (hET : 3328 * (E + 2) ^ 2 ≤ T) :
    16 * (2 * E + 4) ^ 2 * (A * Q + P * Q / A * P) ≤ A ^ 2 * T := by
  have hB : P * Q / A ≤ 2 * (4 * W) :=
    Nat.le_trans (mul_div_le_two_mul hPA) (Nat.mul_le_mul_left 2 hQ2)
  have h1 : A * Q + P * Q / A * P ≤ 52 * (A * A) := by
    have a1 : A * Q ≤ (5 * W) * (4 * W) := Nat.mul_le_mul hA3 hQ2
    have a2 : P * Q / A * P ≤ (2 * (4 * W)) * (4 * W) := Nat.mul_le_mul hB hP2
    have a3 : W * W ≤ A * A := Nat.mul_le_mul hAW hAW
    have e1 : (5 * W) * (4 * W) = 20 * (W * W) := by ring
    have e2 : (2 * (4 * W)) * (4 * W) = 32 * (W * W) := by ring
    omega
  calc 16 * (2 * E + 4) ^ 2 * (A * Q + P * Q / A * P)
      ≤ 16 * (2 * E + 4) ^ 2 * (52 * (A * A)) := Nat.mul_le_mul_left _ h1
    _ = A ^ 2 * (3328 * (E + 2) ^ 2) := by ring
    _ ≤ A ^ 2 * T := Nat.mul_le_mul_left _ hET

/-- atoms version: `W = 2^(L-2)`, `T = 2^(L/2)` as variables, so that every step is linear
arithmetic over a few named products and no fact about powers is needed here. -/
theorem hyp_of_atoms (P Q A E W T bound : Nat)
    (hP1 : 2 * W ≤ P) (hP2 : P < 4 * W) (hQ1 : 2 * W ≤ Q) (hQ2 : Q < 4 * W)
    (hTT : T * T ≤ 4 * W) (hTW : 4096 * T ≤ W) (hET : (E + 2) ^ 2 * 4096 ≤ T)
    (hE1 : (A : Int) - P ≤ E) (hE2 : (P : Int) - A ≤ E)
    (hlo : P * Q ≤ 8 * bound ^ 3) (hhi : 16 * bound ^ 3 ≤ 81 * (P * Q)) :
    Hyp P Q A E T bound ∧ T ≤ P * Q / A := by
  -- linear consequences: `T ≥ 2^14`, `W ≥ 2^26`, `E + 2 ≤ W / 2^24`, `W ≤ A ≤ 5W`
  have hE4 : 2 * (E + 2) ≤ (E + 2) ^ 2 := by rw [pow_two]; exact Nat.mul_le_mul_right _ (by omega)
  have hEW : E + 2 ≤ W := by omega
  have hAW : W ≤ A := by omega
  have hA3 : A ≤ 5 * W := by omega
  have hPA : P ≤ 2 * A := by omega
  have hA2 : A ≤ 2 * P := by omega
  have hWW : 4 * (W * W) ≤ P * Q := by
    calc 4 * (W * W) = (2 * W) * (2 * W) := by ring
      _ ≤ P * Q := Nat.mul_le_mul hP1 hQ1
  have hWW' : P * Q ≤ 16 * (W * W) := by
    calc P * Q ≤ (4 * W) * (4 * W) := Nat.mul_le_mul hP2.le hQ2.le
      _ = 16 * (W * W) := by ring
  have hTB : T ≤ P * Q / A := by
    rw [Nat.le_div_iff_mul_le (by omega)]
    calc T * A ≤ T * (2 * P) := Nat.mul_le_mul_left T hA2
      _ = (2 * T) * P := by ring
      _ ≤ Q * P := Nat.mul_le_mul_right P (by omega)
      _ = P * Q := Nat.mul_comm ..
  obtain ⟨hTb, hbW⟩ := bound_between hWW hWW' hTT hTW (by omega) hlo hhi
  exact ⟨⟨by omega, by omega, hE1, hE2, hA2, hPA, by omega,
    small_of_sizes hP2.le hQ2.le hAW hA3 hPA (by omega), by omega, hTb,
    hbW.trans hAW, by rw [pow_two]; omega, hhi⟩, hTB⟩

/-- `W = 2^(L-2)` and `T = 2^(L/2)` are related as `hyp_of_atoms` asks. -/
theorem pow_atoms {L : Nat} (hL : 28 ≤ L) :
    2 ^ (L - 1) = 2 * 2 ^ (L - 2) ∧ 2 ^ L = 4 * 2 ^ (L - 2) ∧
      2 ^ (L / 2) * 2 ^ (L / 2) ≤ 2 ^ L ∧ 4096 * 2 ^ (L / 2) ≤ 2 ^ (L - 2) := by
  refine ⟨?_, ?_, ?_, ?_⟩
  · rw [← pow_succ']; congr 1; omega
  · rw [show (4 : Nat) = 2 ^ 2 from rfl, ← pow_add]; congr 1; omega
  · rw [← pow_add]; exact Nat.pow_le_pow_right two_pos (by omega)
  · rw [show (4096 : Nat) = 2 ^ 12 from rfl, ← pow_add]
    exact Nat.pow_le_pow_right two_pos (by omega)

theorem hyp_of_sizes (L P Q A E bound : Nat)
    (hP1 : 2 ^ (L - 1) ≤ P) (hP2 : P < 2 ^ L) (hQ1 : 2 ^ (L - 1) ≤ Q) (hQ2 : Q < 2 ^ L)
    (hET : (E + 2) ^ 2 * 2 ^ 12 ≤ 2 ^ (L / 2))
    (hE1 : (A : Int) - P ≤ E) (hE2 : (P : Int) - A ≤ E)
    (hlo : P * Q ≤ 8 * bound ^ 3) (hhi : 16 * bound ^ 3 ≤ 81 * (P * Q)) :
    Hyp P Q A E (2 ^ (L / 2)) bound ∧ 2 ^ (L / 2) ≤ P * Q / A := by
  -- `2^14 = 2²·2^12 ≤ (E + 2)²·2^12`
  have hL : 14 ≤ L / 2 := (Nat.pow_le_pow_iff_right (a := 2) (by norm_num)).1 <|
    Nat.le_trans (Nat.mul_le_mul_right (2 ^ 12) (Nat.pow_le_pow_left (Nat.le_add_left 2 E) 2)) hET
  obtain ⟨e1, e2, e3, e4⟩ := pow_atoms (L := L) (by omega)
  rw [e1] at hP1 hQ1
  rw [e2] at hP2 hQ2 e3
  exact hyp_of_atoms P Q A E (2 ^ (L - 2)) (2 ^ (L / 2)) bound hP1 hP2 hQ1 hQ2 e3 e4
    (by simpa using hET) hE1 hE2 hlo hhi

end Paranoid.FwgC
