/-
Proofs/Nist2Runs.lean — the recurrence behind the LongestRuns probability tables is correct for
EVERY block size M: `leCount k M` (Proofs/NistTables.lean, a sliding window of k+2 values packed into
one number) and `runsBlock k M` (section D, a block of k+2 values per step) both equal the
brute-force number of M-bit strings whose longest run of ones is ≤ k, and
`lrDPCounts M vl vu = lrExactCounts M vl vu`.  The table rows for M = 8, 128, 10000 follow.
-/
import ParanoidModel.Proofs.Nist
namespace Paranoid.Nist

/-! ## A. counting over all M-bit strings -/

/-- number of M-bit strings (enumerated as `bitsSmall M x`, x < 2^M) that satisfy `P`. -/
def cntBits (M : Nat) (P : List Bool → Bool) : Nat :=
  ((List.range (2 ^ M)).map (bitsSmall M)).countP P

theorem countP_range_double (N : Nat) (q : Nat → Bool) :
    (List.range (2 * N)).countP q =
      (List.range N).countP (fun y => q (2 * y)) + (List.range N).countP (fun y => q (2 * y + 1)) := by
  induction N with
  | zero => simp
  | succ N ih =>
    have e : 2 * (N + 1) = 2 * N + 1 + 1 := by ring
    rw [e, List.range_succ, List.range_succ, List.countP_append, List.countP_append, ih,
      List.range_succ, List.countP_append, List.countP_append]
    simp only [List.countP_cons, List.countP_nil]
    omega

theorem cntBits_zero (P : List Bool → Bool) : cntBits 0 P = if P [] then 1 else 0 := by
  simp [cntBits, bitsSmall, List.countP_cons]

theorem cntBits_succ (M : Nat) (P : List Bool → Bool) :
    cntBits (M + 1) P = cntBits M (fun l => P (false :: l)) + cntBits M (fun l => P (true :: l)) := by
  unfold cntBits
  rw [List.countP_map, List.countP_map, List.countP_map, Nat.pow_succ, Nat.mul_comm, countP_range_double]
  congr 1
  · apply List.countP_congr
    intro y _
    simp only [Function.comp_def, bitsSmall]
    rw [Nat.mul_mod_right, Nat.mul_div_cancel_left _ (by omega : 0 < 2)]
    simp
  · apply List.countP_congr
    intro y _
    simp only [Function.comp_def, bitsSmall]
    rw [Nat.mul_add_mod, show (2 * y + 1) / 2 = y by omega]
    simp

theorem cntBits_le (M : Nat) (P : List Bool → Bool) : cntBits M P ≤ 2 ^ M := by
  unfold cntBits
  refine (List.countP_le_length).trans ?_
  simp

theorem cntBits_false (M : Nat) : cntBits M (fun _ => false) = 0 := by
  simp [cntBits]

theorem cntBits_split (M : Nat) (P Q : List Bool → Bool) :
    cntBits M P = cntBits M (fun l => P l && Q l) + cntBits M (fun l => P l && !Q l) := by
  unfold cntBits
  generalize (List.range (2 ^ M)).map (bitsSmall M) = L
  induction L with
  | nil => simp
  | cons a L ih =>
    simp only [List.countP_cons, ih]
    cases P a <;> cases Q a <;> simp <;> omega

/-- a(M) = number of M-bit strings without a run of more than k ones. -/
def runsLe (k M : Nat) : Nat := cntBits M (fun l => decide (tailsMax l ≤ k))

/-- d(M, j) = number of M-bit strings without a run of more than k ones that start with exactly j ones. -/
def runsLeLead (k M j : Nat) : Nat := cntBits M (fun l => decide (tailsMax l ≤ k) && decide (leadOnes l = j))

theorem tailsMax_false (l : List Bool) : tailsMax (false :: l) = tailsMax l := by
  simp [tailsMax, leadOnes]

theorem tailsMax_true (l : List Bool) : tailsMax (true :: l) = max (leadOnes l + 1) (tailsMax l) := by
  simp [tailsMax, leadOnes]

theorem runsLeLead_spec (k : Nat) : ∀ (j M : Nat), j ≤ k →
    runsLeLead k M j = if M < j then 0 else if M = j then 1 else runsLe k (M - j - 1)
  | 0, 0, _ => by
    simp [runsLeLead, cntBits_zero, tailsMax, leadOnes]
  | 0, M + 1, _ => by
    unfold runsLeLead
    rw [cntBits_succ]
    have h1 : (fun l : List Bool => decide (tailsMax (true :: l) ≤ k) && decide (leadOnes (true :: l) = 0)) =
        (fun _ => false) := by
      funext l; simp [leadOnes]
    have h2 : (fun l : List Bool => decide (tailsMax (false :: l) ≤ k) && decide (leadOnes (false :: l) = 0)) =
        (fun l => decide (tailsMax l ≤ k)) := by
      funext l; simp [leadOnes, tailsMax_false]
    rw [h1, h2, cntBits_false]
    simp [runsLe]
  | j + 1, 0, _ => by
    simp [runsLeLead, cntBits_zero, leadOnes]
  | j + 1, M + 1, hj => by
    have ih := runsLeLead_spec k j M (by omega)
    unfold runsLeLead at ih ⊢
    rw [cntBits_succ]
    have h1 : (fun l : List Bool => decide (tailsMax (false :: l) ≤ k) && decide (leadOnes (false :: l) = j + 1)) =
        (fun _ => false) := by
      funext l; simp [leadOnes]
    have h2 : (fun l : List Bool => decide (tailsMax (true :: l) ≤ k) && decide (leadOnes (true :: l) = j + 1)) =
        (fun l => decide (tailsMax l ≤ k) && decide (leadOnes l = j)) := by
      funext l
      rw [tailsMax_true]
      simp only [leadOnes]
      by_cases hl : leadOnes l = j
      · simp [hl]; intro _; omega
      · simp [hl]
    rw [h1, h2, cntBits_false, ih, Nat.zero_add]
    by_cases h3 : M < j
    · simp [h3]
    · by_cases h4 : M = j
      · simp [h4]
      · have e : M + 1 - (j + 1) - 1 = M - j - 1 := by omega
        have h5 : ¬ M + 1 < j + 1 := by omega
        have h6 : ¬ M + 1 = j + 1 := by omega
        simp [h3, h4]

/-- the recurrence: a(M+1) = 2·a(M) − d(M, k), d(M, k) = 0 / 1 / a(M − k − 1) for M < k / = k / > k. -/
theorem runsLe_succ (k M : Nat) :
    runsLe k (M + 1) + (if M < k then 0 else if M = k then 1 else runsLe k (M - k - 1)) = 2 * runsLe k M := by
  rw [← runsLeLead_spec k k M (le_refl k)]
  unfold runsLe runsLeLead
  rw [cntBits_succ]
  have h1 : (fun l : List Bool => decide (tailsMax (false :: l) ≤ k)) = (fun l => decide (tailsMax l ≤ k)) := by
    funext l; rw [tailsMax_false]
  have h2 : (fun l : List Bool => decide (tailsMax (true :: l) ≤ k)) =
      (fun l => decide (tailsMax l ≤ k) && !decide (leadOnes l = k)) := by
    funext l
    rw [tailsMax_true]
    have := leadOnes_le_tailsMax l
    by_cases hl : leadOnes l = k
    · simp [hl]
    · by_cases ht : tailsMax l ≤ k
      · have : max (leadOnes l + 1) (tailsMax l) ≤ k := by omega
        simp [hl, ht, this]
      · have : ¬ max (leadOnes l + 1) (tailsMax l) ≤ k := by omega
        simp [ht, this]
  rw [h1, h2]
  have := cntBits_split M (fun l => decide (tailsMax l ≤ k)) (fun l => decide (leadOnes l = k))
  omega

theorem runsLe_zero (k : Nat) : runsLe k 0 = 1 := by
  simp [runsLe, cntBits_zero, tailsMax]

theorem runsLe_mono (k M : Nat) : runsLe k M ≤ runsLe k (M + 1) := by
  unfold runsLe
  rw [cntBits_succ]
  have h1 : (fun l : List Bool => decide (tailsMax (false :: l) ≤ k)) = (fun l => decide (tailsMax l ≤ k)) := by
    funext l; rw [tailsMax_false]
  rw [h1]
  omega

theorem runsLe_pos (k : Nat) : ∀ M, 0 < runsLe k M
  | 0 => by rw [runsLe_zero]; omega
  | M + 1 => Nat.lt_of_lt_of_le (runsLe_pos k M) (runsLe_mono k M)

theorem runsLe_le (k M : Nat) : runsLe k M ≤ 2 ^ M := cntBits_le _ _

/-! ## B. packed digit sequences -/

/-- Σ_{j<len} f j · W^j: `len` digits below `W`, digit 0 lowest. -/
def pack (W : Nat) (f : Nat → Nat) : Nat → Nat
  | 0 => 0
  | len + 1 => pack W f len + f len * W ^ len

theorem pack_lt (W : Nat) (f : Nat → Nat) : ∀ len, (∀ j < len, f j < W) → pack W f len < W ^ len
  | 0, _ => by simp [pack]
  | len + 1, hf => by
    have ih := pack_lt W f len (fun j hj => hf j (by omega))
    have hfl : f len + 1 ≤ W := hf len (by omega)
    calc pack W f len + f len * W ^ len < (f len + 1) * W ^ len := by rw [Nat.add_mul]; omega
      _ ≤ W ^ (len + 1) := by rw [Nat.pow_succ, Nat.mul_comm]; exact Nat.mul_le_mul_left _ hfl

theorem pack_low (W : Nat) (f : Nat → Nat) : ∀ len,
    pack W f (len + 1) = f 0 + W * pack W (fun j => f (j + 1)) len
  | 0 => by simp [pack]
  | len + 1 => by
    rw [pack, pack_low W f len, pack, Nat.pow_succ]
    ring

theorem pack_zero (W : Nat) (f : Nat → Nat) : ∀ len, (∀ j < len, f j = 0) → pack W f len = 0
  | 0, _ => rfl
  | len + 1, h => by rw [pack, pack_zero W f len (fun j hj => h j (by omega)), h len (by omega)]; simp

theorem pack_top (W : Nat) (hW : 0 < W) (f : Nat → Nat) (len : Nat) (h : ∀ j < len, f j < W) :
    pack W f (len + 1) / W ^ len = f len := by
  rw [pack, Nat.add_mul_div_right _ _ (Nat.pow_pos hW), Nat.div_eq_of_lt (pack_lt W f len h), Nat.zero_add]

theorem pack_digit (W : Nat) (hW : 0 < W) : ∀ (j len : Nat) (f : Nat → Nat), j < len → (∀ i < len, f i < W) →
    pack W f len / W ^ j % W = f j
  | _, 0, _, h, _ => by omega
  | 0, len + 1, f, _, hf => by
    rw [pack_low, Nat.pow_zero, Nat.div_one, Nat.add_mul_mod_self_left, Nat.mod_eq_of_lt (hf 0 (by omega))]
  | j + 1, len + 1, f, h, hf => by
    rw [pack_low, Nat.pow_succ', ← Nat.div_div_eq_div_mul, Nat.add_mul_div_left _ _ hW,
      Nat.div_eq_of_lt (hf 0 (by omega)), Nat.zero_add]
    exact pack_digit W hW j len _ (by omega) (fun i hi => hf (i + 1) (by omega))

/-! ## C. the sliding window of `leStep` -/

theorem leStep_pack (k w i : Nat) (D : Nat → Nat) (hD : ∀ j, D j < 2 ^ w) :
    leStep k w i (pack (2 ^ w) D (k + 2)) = pack (2 ^ w) D (k + 1) * 2 ^ w +
      (if i ≤ k then 2 * D 0 else if i = k + 1 then 2 * D 0 - 1 else 2 * D 0 - D (k + 1)) := by
  have hW : 0 < 2 ^ w := Nat.pow_pos (by omega)
  unfold leStep
  rw [Nat.shiftRight_eq_div_pow, Nat.pow_mul, pack_top _ hW D (k + 1) (fun j _ => hD j),
    Nat.mod_eq_of_lt (hD (k + 1)), Nat.shiftLeft_eq]
  rw [pack_low, Nat.add_mul_mod_self_left, Nat.mod_eq_of_lt (hD 0), ← pack_low, pack,
    Nat.add_mul_mod_self_right, Nat.mod_eq_of_lt (pack_lt _ D _ (fun j _ => hD j))]

theorem pack_shift (k W : Nat) (D D' : Nat → Nat) (hs : ∀ j, D' (j + 1) = D j) :
    pack W D (k + 1) * W + D' 0 = pack W D' (k + 2) := by
  rw [pack_low W D' (k + 1)]
  have : (fun j => D' (j + 1)) = D := by funext j; exact hs j
  rw [this]
  ring

/-- the window before step i: digit j holds a(i − 1 − j) (0 when that index would be negative). -/
def winD (k i : Nat) : Nat → Nat := fun j => if j < i then runsLe k (i - 1 - j) else 0

theorem winD_lt (k w i : Nat) (hi : i ≤ w) (j : Nat) : winD k i j < 2 ^ w := by
  unfold winD
  split
  · refine Nat.lt_of_le_of_lt (runsLe_le k _) ?_
    exact Nat.pow_lt_pow_right (by omega) (by omega)
  · exact Nat.pow_pos (by omega)

theorem leStep_winD (k w i : Nat) (h1 : 1 ≤ i) (hi : i ≤ w) :
    leStep k w i (pack (2 ^ w) (winD k i) (k + 2)) = pack (2 ^ w) (winD k (i + 1)) (k + 2) := by
  rw [leStep_pack k w i _ (winD_lt k w i hi)]
  have hshift : ∀ j, winD k (i + 1) (j + 1) = winD k i j := by
    intro j
    unfold winD
    by_cases hj : j < i
    · rw [if_pos hj, if_pos (by omega)]
      congr 1
      omega
    · rw [if_neg hj, if_neg (by omega)]
  have hnew : (if i ≤ k then 2 * winD k i 0 else if i = k + 1 then 2 * winD k i 0 - 1
      else 2 * winD k i 0 - winD k i (k + 1)) = winD k (i + 1) 0 := by
    -- the new digit is a(i): the three cases are those of `runsLe_succ`
    have hr := runsLe_succ k (i - 1)
    rw [show i - 1 + 1 = i by omega] at hr
    rw [show winD k i 0 = runsLe k (i - 1) from if_pos h1,
      show winD k (i + 1) 0 = runsLe k i from if_pos (Nat.succ_pos i)]
    rcases Nat.lt_trichotomy i (k + 1) with c | c | c
    · rw [if_pos (by omega)]
      rw [if_pos (by omega)] at hr
      omega
    · rw [if_neg (by omega), if_pos c]
      rw [if_neg (by omega), if_pos (by omega)] at hr
      omega
    · rw [if_neg (by omega), if_neg (by omega), show winD k i (k + 1) = runsLe k (i - 1 - k - 1) from
        (if_pos c).trans (congrArg _ (Nat.sub_sub _ _ _).symm)]
      rw [if_neg (by omega), if_neg (by omega)] at hr
      omega
  rw [hnew]
  exact pack_shift k _ _ _ hshift

theorem leRun_spec (k w : Nat) : ∀ (f i : Nat), 1 ≤ i → i + f ≤ w →
    leRun k w f i (pack (2 ^ w) (winD k i) (k + 2)) = runsLe k (i - 1 + f)
  | 0, i, h1, hi => by
    rw [leRun, pack_low, Nat.add_mul_mod_self_left, Nat.mod_eq_of_lt (winD_lt k w i (by omega) 0)]
    exact if_pos h1
  | f + 1, i, h1, hi => by
    rw [leRun, leStep_winD k w i h1 (by omega)]
    have hpos : pack (2 ^ w) (winD k (i + 1)) (k + 2) ≠ 0 := by
      have : 0 < winD k (i + 1) 0 := by rw [winD, if_pos (Nat.succ_pos i)]; exact runsLe_pos k _
      rw [pack_low]; omega
    have ih := leRun_spec k w f (i + 1) (by omega) (by omega)
    cases hx : pack (2 ^ w) (winD k (i + 1)) (k + 2) with
    | zero => exact absurd hx hpos
    | succ x =>
      rw [hx] at ih
      simp only
      rw [ih]
      congr 1
      omega

/-- ★ the recurrence is correct for every k and M: `leCount k M` = number of M-bit strings whose longest
run of ones is at most k. -/
theorem leCount_eq_runsLe (k M : Nat) : leCount k M = runsLe k M := by
  unfold leCount
  have h1 : (1 : Nat) = pack (2 ^ (M + 1)) (winD k 1) (k + 2) := by
    have hz : ∀ j < k + 1, winD k 1 (j + 1) = 0 := fun j _ => if_neg (by omega)
    rw [pack_low, pack_zero _ _ _ hz]
    simp [winD, runsLe_zero]
  have h := leRun_spec k (M + 1) M 1 (le_refl 1) (by omega)
  rw [← h1] at h
  rw [h]
  simp

theorem leCount_spec (k M : Nat) :
    leCount k M = ((List.range (2 ^ M)).map (bitsSmall M)).countP (fun l => decide (longestRun l ≤ k)) := by
  rw [leCount_eq_runsLe]
  unfold runsLe cntBits
  simp only [longestRun_eq_tailsMax]

/-! ## D. a block evaluator for the recurrence

What the kernel pays for is the number of reduction steps, not the size of the numbers, so for the M = 10000
row the recurrence a(i) = 2·a(i−1) − a(i−k−2) is advanced a block of k+2 values at a time.  With W = 2^w
above every value, X = Σ_j a(s+j)·W^j the packed block, p its last value and G = Σ_{j<k+2} (2W)^j, summing
the recurrence over the next block Y gives (2W − 1)·Y ≡ X − 2p modulo W^(k+2), and (2W − 1)·G ≡ −1 there, so
Y = (2p − X)·G mod W^(k+2): 10000/(k+2) steps instead of 10000.  The block before a(0), a(1), … is
1, 0, …, 0, 1. -/

/-- Σ_{j<n} B^j. -/
def geomSum (B : Nat) : Nat → Nat
  | 0 => 0
  | n + 1 => 1 + B * geomSum B n

/-- the block after `X` (n digits below W, last digit `X / W^(n−1)`), for `G = geomSum (2W) n`. -/
def blockStep (W n G X : Nat) : Nat := (2 * (X / W ^ (n - 1)) * G + W ^ n - G * X % W ^ n) % W ^ n

def blockRun (W n G : Nat) : Nat → Nat → Nat
  | 0, X => X
  | t + 1, X => forceNat (blockStep W n G X) (blockRun W n G t)

/-- digit M mod (k+2) of block M/(k+2) + 1, counted from the block 1, 0, …, 0, 1. -/
def runsBlockW (k M W : Nat) : Nat :=
  forceNat (geomSum (2 * W) (k + 2)) fun G =>
    blockRun W (k + 2) G (M / (k + 2) + 1) (1 + W ^ (k + 1)) / W ^ (M % (k + 2)) % W

def runsBlock (k M : Nat) : Nat := forceNat (2 ^ (M + k + 2)) (runsBlockW k M)


theorem geomSum_mul (B : Nat) : ∀ n, B * geomSum B n + 1 = geomSum B n + B ^ n
  | 0 => by simp [geomSum]
  | n + 1 => by
    have ih := geomSum_mul B n
    rw [geomSum, Nat.pow_succ]
    calc B * (1 + B * geomSum B n) + 1 = B * (B * geomSum B n + 1) + 1 := by ring
      _ = 1 + B * geomSum B n + B ^ n * B := by rw [ih]; ring

theorem pack_rec (W : Nat) (y x z : Nat → Nat) : ∀ len, (∀ j < len, y j + x j = 2 * z j) →
    pack W y len + pack W x len = 2 * pack W z len
  | 0, _ => rfl
  | len + 1, h => by
    have ih := pack_rec W y x z len (fun j hj => h j (by omega))
    have hl := h len (by omega)
    simp only [pack]
    calc pack W y len + y len * W ^ len + (pack W x len + x len * W ^ len)
        = (pack W y len + pack W x len) + (y len + x len) * W ^ len := by ring
      _ = 2 * (pack W z len + z len * W ^ len) := by rw [ih, hl]; ring

/-- the arithmetic of one block step: `E1`, `E2` are the recurrence summed over a block (`Z` the block
shifted by one place, `p`, `q` the last digits of `X`, `Y`), `E3` the geometric sum.  Then
(2W − 1)·Y = X + 2q·Wn − 2p, and multiplying by `G` leaves Y ≡ (2p − X)·G modulo `Wn`. -/
theorem blockStep_arith (W Wn N G X Y Z p q : Nat) (hY : Y < Wn) (E1 : Y + X = 2 * Z)
    (E2 : Z + q * Wn = p + W * Y) (E3 : 2 * W * G + 1 = G + 2 ^ N * Wn) :
    (2 * p * G + Wn - G * X % Wn) % Wn = Y := by
  have hr : G * X % Wn < Wn := Nat.mod_lt _ (by omega)
  have hGX := Nat.div_add_mod (G * X) Wn
  generalize G * X % Wn = r at hr hGX ⊢
  generalize G * X / Wn = u at hGX
  have key : 2 * p * G + Wn - r + Wn * (2 ^ N * Y) = Y + Wn * (u + 2 * q * G + 1) := by
    have hA : 2 * p * G + Wn - r + r = 2 * p * G + Wn := by omega
    generalize 2 * p * G + Wn - r = A at *
    have h1 : G * (Y + X) = G * (2 * Z) := by rw [E1]
    have h2 : 2 * G * (Z + q * Wn) = 2 * G * (p + W * Y) := by rw [E2]
    have h3 : Y * (2 * W * G + 1) = Y * (G + 2 ^ N * Wn) := by rw [E3]
    zify at *
    linarith
  calc (2 * p * G + Wn - r) % Wn
      = (2 * p * G + Wn - r + Wn * (2 ^ N * Y)) % Wn := (Nat.add_mul_mod_self_left ..).symm
    _ = Y := by rw [key, Nat.add_mul_mod_self_left, Nat.mod_eq_of_lt hY]

/-- one block step on packed blocks: `y` continues `x` by y(j) + x(j) = 2·(the value before y(j)). -/
theorem blockStep_pack (W n : Nat) (hW : 0 < W) (x y : Nat → Nat)
    (hx : ∀ j < n + 1, x j < W) (hy : ∀ j < n + 1, y j < W)
    (h0 : y 0 + x 0 = 2 * x n) (hrec : ∀ j < n, y (j + 1) + x (j + 1) = 2 * y j) :
    blockStep W (n + 1) (geomSum (2 * W) (n + 1)) (pack W x (n + 1)) = pack W y (n + 1) := by
  unfold blockStep
  rw [Nat.add_sub_cancel, pack_top W hW x n (fun j hj => hx j (by omega))]
  have E1 := pack_rec W y x (fun j => Nat.casesOn j (x n) y) (n + 1) (by
    intro j hj
    cases j with
    | zero => exact h0
    | succ j => exact hrec j (by omega))
  have E2 := pack_low W (fun j => Nat.casesOn j (x n) y) (n + 1)
  have E3 := geomSum_mul (2 * W) (n + 1)
  rw [Nat.mul_pow] at E3
  exact blockStep_arith W (W ^ (n + 1)) (n + 1) _ _ _ _ (x n) (y n) (pack_lt W y _ hy) E1 E2 E3

/-- the block of `N` consecutive values of `e` from index `s·N`. -/
def blockOf (W N : Nat) (e : Nat → Nat) (s : Nat) : Nat := pack W (fun j => e (s * N + j)) N

theorem blockRun_blocks (W n : Nat) (hW : 0 < W) (e : Nat → Nat)
    (hrec : ∀ i, e (i + (n + 1)) + e i = 2 * e (i + n)) : ∀ (t s : Nat),
    (∀ i < (s + t + 1) * (n + 1), e i < W) →
    blockRun W (n + 1) (geomSum (2 * W) (n + 1)) t (blockOf W (n + 1) e s) = blockOf W (n + 1) e (s + t)
  | 0, s, _ => rfl
  | t + 1, s, hlt => by
    have hN : (s + 1) * (n + 1) = s * (n + 1) + (n + 1) := Nat.succ_mul _ _
    have hb : (s + 1) * (n + 1) + (n + 1) ≤ (s + (t + 1) + 1) * (n + 1) := by
      rw [← Nat.succ_mul]; exact Nat.mul_le_mul_right _ (by omega)
    rw [blockRun, forceNat_eq, blockOf, blockStep_pack W n hW _ (fun j => e ((s + 1) * (n + 1) + j))
      (fun j hj => hlt _ (by omega)) (fun j hj => hlt _ (by omega))]
    · rw [show s + (t + 1) = s + 1 + t by omega] at hlt ⊢
      exact blockRun_blocks W n hW e hrec t (s + 1) hlt
    · have := hrec (s * (n + 1))
      rwa [← hN] at this
    · intro j hj
      have := hrec (s * (n + 1) + (j + 1))
      rwa [show s * (n + 1) + (j + 1) + (n + 1) = (s + 1) * (n + 1) + (j + 1) by omega,
        show s * (n + 1) + (j + 1) + n = (s + 1) * (n + 1) + j by omega] at this

/-- `runsLe k` shifted by one block: the term that `runsLe_succ` subtracts, so that the recurrence is
a(i + k + 2) + a(i) = 2·a(i + k + 1) for every i; its first block is 1, 0, …, 0, 1. -/
def runsExt (k : Nat) : Nat → Nat
  | 0 => 1
  | M + 1 => if M < k then 0 else if M = k then 1 else runsLe k (M - k - 1)

theorem runsExt_add (k i : Nat) : runsExt k (i + (k + 2)) = runsLe k i := by
  show (if i + (k + 1) < k then 0 else if i + (k + 1) = k then 1 else runsLe k (i + (k + 1) - k - 1)) = _
  rw [if_neg (by omega), if_neg (by omega)]
  congr 1
  omega

theorem runsExt_rec (k : Nat) : ∀ i, runsExt k (i + (k + 2)) + runsExt k i = 2 * runsExt k (i + (k + 1))
  | 0 => by
    rw [runsExt_add, runsLe_zero, Nat.zero_add]
    show 1 + 1 = 2 * (if k < k then 0 else if k = k then 1 else _)
    rw [if_neg (Nat.lt_irrefl k), if_pos rfl]
  | i + 1 => by
    rw [runsExt_add, show i + 1 + (k + 1) = i + (k + 2) by omega, runsExt_add]
    exact runsLe_succ k i

theorem runsExt_lt (k M : Nat) : ∀ i, i < M + 2 * (k + 2) → runsExt k i < 2 ^ (M + k + 2)
  | 0, _ => Nat.one_lt_two_pow (by omega)
  | i + 1, h => by
    rw [runsExt]
    split_ifs
    · exact Nat.pow_pos (by omega)
    · exact Nat.one_lt_two_pow (by omega)
    · exact Nat.lt_of_le_of_lt (runsLe_le k _) (Nat.pow_lt_pow_right (by omega) (by omega))

/-- ★ the block evaluator computes the number of M-bit strings without a run of more than k ones. -/
theorem runsBlock_eq (k M : Nat) : runsBlock k M = runsLe k M := by
  have hW : 0 < 2 ^ (M + k + 2) := Nat.pow_pos (by omega)
  have h0 : 1 + (2 ^ (M + k + 2)) ^ (k + 1) = blockOf (2 ^ (M + k + 2)) (k + 2) (runsExt k) 0 := by
    have hk : runsExt k (k + 1) = 1 := by
      show (if k < k then 0 else if k = k then 1 else _) = 1
      rw [if_neg (Nat.lt_irrefl k), if_pos rfl]
    rw [blockOf]
    simp only [Nat.zero_mul, Nat.zero_add]
    have hz : ∀ j < k, runsExt k (j + 1) = 0 := fun j hj => if_pos hj
    rw [pack, pack_low, pack_zero _ _ k hz, hk, Nat.mul_zero, Nat.one_mul]
    rfl
  have hT : (M / (k + 2) + 1) * (k + 1 + 1) + M % (k + 2) = M + (k + 2) := by
    rw [Nat.add_mul, Nat.one_mul, Nat.add_right_comm, Nat.div_add_mod']
  have hr := Nat.mod_lt M (show 0 < k + 2 by omega)
  unfold runsBlock runsBlockW
  rw [forceNat_eq, forceNat_eq, h0, blockRun_blocks _ (k + 1) hW (runsExt k) (runsExt_rec k), Nat.zero_add,
    blockOf, pack_digit _ hW _ _ _ hr, hT, runsExt_add]
  · exact fun i hi => runsExt_lt k M _ (by omega)
  · exact fun i hi => runsExt_lt k M _ (by rw [Nat.zero_add, Nat.succ_mul] at hi; omega)

/-! ## E. class counts: `lrDPCounts = lrExactCounts` -/

/-- `f k, f (k+1), …` (`cnt` values), each evaluated once (the shape of `cums`). -/
def cumsWith (f : Nat → Nat) : Nat → Nat → List Nat
  | _, 0 => []
  | k, cnt + 1 => forceNat (f k) (fun c => c :: cumsWith f (k + 1) cnt)

theorem cumsWith_eq (f : Nat → Nat) : ∀ (cnt k : Nat), cumsWith f k cnt = (List.range cnt).map (fun t => f (k + t))
  | 0, k => by simp [cumsWith]
  | cnt + 1, k => by
    rw [cumsWith, forceNat_eq, cumsWith_eq f cnt (k + 1), List.range_succ_eq_map, List.map_cons, List.map_map]
    simp only [Nat.add_zero, List.cons.injEq, true_and]
    apply List.map_congr_left
    intro t _
    simp only [Function.comp_def, Nat.succ_eq_add_one]
    congr 1
    omega

theorem cums_eq_cumsWith (M : Nat) : ∀ (cnt k : Nat), cums M k cnt = cumsWith (fun k => leCount k M) k cnt
  | 0, _ => rfl
  | cnt + 1, k => by rw [cums, cumsWith, cums_eq_cumsWith M cnt]

theorem lrDPCounts_blocks (M vl vu : Nat) :
    lrDPCounts M vl vu = diffs 0 (cumsWith (fun k => runsBlock k M) vl (vu - vl) ++ [2 ^ M]) := by
  rw [lrDPCounts, cums_eq_cumsWith]
  congr 4
  funext k
  rw [leCount_eq_runsLe, runsBlock_eq]

theorem countP_le_succ (vals : List Nat) (s : Nat) :
    vals.countP (fun v => decide (v ≤ s + 1)) =
      vals.countP (fun v => decide (v ≤ s)) + vals.countP (fun v => decide (v = s + 1)) := by
  induction vals with
  | nil => simp
  | cons a l ih =>
    simp only [List.countP_cons, ih]
    by_cases h1 : a ≤ s
    · have : a ≤ s + 1 := by omega
      have h3 : ¬ a = s + 1 := by omega
      simp [h1, this, h3]; omega
    · by_cases h2 : a = s + 1
      · simp [h2]; omega
      · have : ¬ a ≤ s + 1 := by omega
        simp [h1, h2, this]

theorem countP_gt (vals : List Nat) (s : Nat) :
    vals.countP (fun v => decide (s < v)) = vals.length - vals.countP (fun v => decide (v ≤ s)) := by
  rw [List.length_eq_countP_add_countP (fun v => decide (v ≤ s)), Nat.add_sub_cancel_left]
  exact List.countP_congr fun v _ => by simp

theorem diffs_cum (vals : List Nat) : ∀ (cnt s : Nat),
    diffs (vals.countP (fun v => decide (v ≤ s)))
      ((List.range cnt).map (fun t => vals.countP (fun v => decide (v ≤ s + 1 + t))) ++ [vals.length]) =
    (List.range cnt).map (fun t => vals.countP (fun v => decide (v = s + 1 + t))) ++
      [vals.countP (fun v => decide (s + cnt < v))]
  | 0, s => by
    simp only [List.range_zero, List.map_nil, List.nil_append, diffs, Nat.add_zero]
    rw [countP_gt]
  | cnt + 1, s => by
    rw [List.range_succ_eq_map, List.map_cons, List.map_map, List.map_cons, List.map_map, List.cons_append,
      List.cons_append, diffs]
    have ih := diffs_cum vals cnt (s + 1)
    have e1 : ((fun t => vals.countP (fun v => decide (v ≤ s + 1 + t))) ∘ Nat.succ) =
        (fun t => vals.countP (fun v => decide (v ≤ s + 1 + 1 + t))) := by
      funext t
      simp only [Function.comp_def, Nat.succ_eq_add_one]
      congr 1; funext v; congr 1
      rw [show s + 1 + (t + 1) = s + 1 + 1 + t by omega]
    have e2 : ((fun t => vals.countP (fun v => decide (v = s + 1 + t))) ∘ Nat.succ) =
        (fun t => vals.countP (fun v => decide (v = s + 1 + 1 + t))) := by
      funext t
      simp only [Function.comp_def, Nat.succ_eq_add_one]
      congr 1; funext v; congr 1
      rw [show s + 1 + (t + 1) = s + 1 + 1 + t by omega]
    rw [e1, e2, Nat.add_zero, ih, show s + 1 + cnt = s + (cnt + 1) by omega]
    congr 1
    rw [countP_le_succ]
    omega

/-- for ANY list of values: the differences of the cumulative counts are the class counts of
`idx = max(0, min(v_upper, x) − v_lower)`. -/
theorem class_counts (vals : List Nat) (vl n : Nat) (hn : 1 ≤ n) :
    diffs 0 ((List.range n).map (fun t => vals.countP (fun v => decide (v ≤ vl + t))) ++ [vals.length]) =
      (List.range (n + 1)).map (fun i => (vals.map (lrClass vl (vl + n))).count i) := by
  obtain ⟨c, rfl⟩ : ∃ c, n = c + 1 := ⟨n - 1, by omega⟩
  rw [List.range_succ_eq_map (n := c), List.map_cons, List.map_map, List.cons_append, diffs, Nat.add_zero,
    Nat.sub_zero]
  have e1 : ((fun t => vals.countP (fun v => decide (v ≤ vl + t))) ∘ Nat.succ) =
      (fun t => vals.countP (fun v => decide (v ≤ vl + 1 + t))) := by
    funext t
    simp only [Function.comp_def, Nat.succ_eq_add_one]
    congr 1; funext v; congr 1
    rw [show vl + (t + 1) = vl + 1 + t by omega]
  rw [e1, diffs_cum vals c vl]
  rw [List.range_succ_eq_map (n := c + 1), List.map_cons, List.map_map, List.range_succ, List.map_append]
  have hcnt : ∀ i, (vals.map (lrClass vl (vl + (c + 1)))).count i =
      vals.countP (fun v => decide (lrClass vl (vl + (c + 1)) v = i)) := by
    intro i
    rw [List.count_eq_countP, List.countP_map]
    apply List.countP_congr
    intro v _
    simp
  congr 1
  · rw [hcnt]
    apply List.countP_congr
    intro v _
    simp only [decide_eq_true_eq]
    unfold lrClass
    omega
  · congr 1
    · apply List.map_congr_left
      intro t ht
      rw [List.mem_range] at ht
      simp only [Function.comp_def, Nat.succ_eq_add_one]
      rw [hcnt]
      apply List.countP_congr
      intro v _
      simp only [decide_eq_true_eq]
      unfold lrClass
      omega
    · simp only [List.map_cons, List.map_nil, Function.comp_def, Nat.succ_eq_add_one, List.cons.injEq, and_true]
      rw [hcnt]
      apply List.countP_congr
      intro v _
      simp only [decide_eq_true_eq]
      unfold lrClass
      omega

/-- ★ `longestRuns_recurrence_correct`: for every block size M and all class bounds, the class counts
obtained from the recurrence are the brute-force counts over all 2^M blocks. -/
theorem lrDP_eq_exact (M vl vu : Nat) (h : vl < vu) : lrDPCounts M vl vu = lrExactCounts M vl vu := by
  obtain ⟨n, rfl, hn⟩ : ∃ n, vu = vl + n ∧ 1 ≤ n := ⟨vu - vl, by omega, by omega⟩
  unfold lrDPCounts lrExactCounts
  rw [cums_eq_cumsWith, cumsWith_eq, Nat.add_sub_cancel_left]
  have hvals := class_counts ((List.range (2 ^ M)).map (fun x => longestRun (bitsSmall M x))) vl n hn
  rw [List.length_map, List.length_range, List.map_map] at hvals
  simp only [Function.comp_def] at hvals
  rw [← hvals]
  congr 2
  apply List.map_congr_left
  intro t _
  rw [leCount_spec, List.countP_map, List.countP_map]
  rfl

/-! ## F. the tables against the brute-force distribution -/

theorem lr8_counts : lrExactCounts 8 1 4 = [55, 94, 59, 48] := by
  rw [← lrDP_eq_exact 8 1 4 (by omega)]; decide +kernel

/-- exact distribution of the longest run of ones in an 8-bit block (all 256 blocks), 4 digits. -/
theorem lr8_rows : exactRows (lrExactCounts 8 1 4) (2 ^ 8) 10000 =
    [(2148, 2148), (3672, 3671), (2305, 2304), (1875, 1875)] := by rw [lr8_counts]; decide

/-- M = 8: the table is the exact distribution over all 256 blocks rounded to 4 digits. -/
theorem lr_table_M8 :
    rowMatches (lrRow 0) (exactRows (lrExactCounts 8 1 4) (2 ^ 8) 10000) 10000 false = true := by
  rw [lr8_rows]; decide

/-- M = 128: every entry is the exact probability rounded or truncated to 4 digits. -/
theorem lr_table_M128 :
    rowMatches (lrRow 1) (exactRows (lrDPCounts 128 4 9) (2 ^ 128) 10000) 10000 true = true := by
  rw [lr128_rows]; decide

/-- M = 10000, classes ≤10, 11, …, 15, ≥16: (rounded, truncated) 4-digit numerators of the exact
probabilities, through the recurrence. -/
theorem lr10000_rows : exactRows (lrDPCounts 10000 10 16) (2 ^ 10000) 10000 =
    [(866, 866), (2082, 2082), (2484, 2484), (1939, 1939), (1215, 1214), (680, 680), (734, 733)] := by
  rw [lrDPCounts_blocks]; decide +kernel

/-- M = 10000: the exact distribution over all 2^10000 blocks, (rounded, truncated) to 4 digits. -/
theorem lr10000_rows_exact : exactRows (lrExactCounts 10000 10 16) (2 ^ 10000) 10000 =
    [(866, 866), (2082, 2082), (2484, 2484), (1939, 1939), (1215, 1214), (680, 680), (734, 733)] := by
  rw [← lrDP_eq_exact 10000 10 16 (by omega)]; exact lr10000_rows

theorem exactRows_lrDP_head (M vl vu total prec : Nat) (h : vl < vu) :
    (exactRows (lrDPCounts M vl vu) total prec).head? = some (classEntry 0 (leCount vl M) total prec) := by
  obtain ⟨n, rfl⟩ : ∃ n, vu = vl + (n + 1) := ⟨vu - vl - 1, by omega⟩
  rw [lrDPCounts, Nat.add_sub_cancel_left, cums, forceNat_eq]
  simp only [List.cons_append, diffs, exactRows, List.map_cons, List.head?_cons, classEntry, forceNat_eq]

/-- M = 10000, first class: P(longest run ≤ 10) = 0.0866… (rounded and truncated 0.0866). -/
theorem lr10000_first : classEntry 0 (leCount 10 10000) (2 ^ 10000) 10000 = (866, 866) := by
  have h := exactRows_lrDP_head 10000 10 16 (2 ^ 10000) 10000 (by omega)
  rw [lr10000_rows] at h
  exact (Option.some.inj h).symm

/-- NIST's printed probabilities for M = 10000 are NOT the exact distribution rounded or truncated
to 4 digits: already the first entry (0.0882) differs from P(longest run ≤ 10) = 0.0866…; D20. -/
theorem nist_printed_M10000_inexact :
    rowMatches (nistPrinted10000.take 1) [classEntry 0 (leCount 10 10000) (2 ^ 10000) 10000] 10000 true = false := by
  rw [lr10000_first]; decide

/-- the M = 10000 row is either NIST's printed one (inexact, `nist_printed_M10000_inexact`) or the
repaired one (D20). -/
theorem lr_table_M10000 :
    rowSame (lrRow 2) nistPrinted10000 = true ∨ rowSame (lrRow 2) repaired10000 = true := by decide

/-- the repaired row (D20) is the exact distribution rounded to 4 digits, entry by entry … -/
theorem repaired10000_matches_rows :
    rowMatches repaired10000
      [(866, 866), (2082, 2082), (2484, 2484), (1939, 1939), (1215, 1214), (680, 680), (734, 733)]
      10000 false = true := by decide

/-- … and NIST's printed row differs from it (rounded or truncated) in EVERY entry. -/
theorem nistPrinted10000_all_differ :
    (nistPrinted10000.zip
      [(866, 866), (2082, 2082), (2484, 2484), (1939, 1939), (1215, 1214), (680, 680), (734, 733)]).all
      (fun pr => !(pr.1.1 * 10000 == pr.2.1 * pr.1.2) && !(pr.1.1 * 10000 == pr.2.2 * pr.1.2)) = true := by
  decide

end Paranoid.Nist
