/-
Proofs/PollardProduct.lean — the product `m` built by the constructor of `CheckPollardpm1`
(Model/RsaChecks.lean `pollardProduct`, documented exponents `pollardExpsDocumented`): its prime
factorisation and the exact divisibility criterion `g ∣ m ↔ ∀ prime r, v_r(g) ≤ e_r`.

Nothing here evaluates the 1.5 Mbit default product: the criterion is proved abstractly from
`sieve b = (List.range b).filter Nat.Prime` (Proofs/NTheory.lean `sieve_eq`); the only evaluated
fact is "there are exactly 150 primes below 864" (trial division, `decide +kernel`, 864 numbers).
-/
import ParanoidModel.Proofs.NTheory
import ParanoidModel.Proofs.NTheoryTree
import ParanoidModel.Proofs.Pratt
import ParanoidModel.Model.RsaChecks
import Mathlib.Data.Nat.Factorization.Basic
import Mathlib.Data.Nat.Log

namespace Paranoid.PollardProduct
open Paranoid

/-! ### `floorLog` is the integer logarithm -/

theorem floorLogAux_spec (p bound : Nat) : ∀ (fuel acc e : Nat), acc = p ^ e → acc ≤ bound →
    bound < p ^ (e + fuel) →
    p ^ floorLogAux p bound fuel acc e ≤ bound ∧ bound < p ^ (floorLogAux p bound fuel acc e + 1)
  | 0, acc, e, hacc, hle, hlt => by
    exfalso; rw [Nat.add_zero, ← hacc] at hlt; omega
  | fuel + 1, acc, e, hacc, hle, hlt => by
    unfold floorLogAux
    split
    · rename_i h
      exact floorLogAux_spec p bound fuel (acc * p) (e + 1) (by rw [hacc, Nat.pow_succ]) h
        (lt_of_lt_of_eq hlt (congrArg (p ^ ·) (by omega)))
    · rename_i h
      refine ⟨hacc ▸ hle, ?_⟩
      rw [Nat.pow_succ, ← hacc]; omega

/-- `floorLog p b = ⌊log_p b⌋` (the value `int(math.log(b, p))` is meant to be). -/
theorem floorLog_eq_log (p b : Nat) (hp : 2 ≤ p) (hb : 1 ≤ b) : floorLog p b = Nat.log p b := by
  unfold floorLog
  rw [if_neg (by omega)]
  have hfuel : b < p ^ (0 + bitLength b) := by
    rw [Nat.zero_add]
    exact lt_of_lt_of_le (lt_two_pow_bitLength b) (Nat.pow_le_pow_left hp _)
  obtain ⟨h1, h2⟩ := floorLogAux_spec p b (bitLength b) 1 0 (by simp) hb hfuel
  symm
  exact (Nat.log_eq_iff (Or.inr ⟨by omega, by omega⟩)).mpr ⟨h1, h2⟩

/-! ### exponent of a prime in `pollardPowers` -/

/-- the exponent with which `q` occurs in `pollardPowers ps es` (for distinct `ps`): the matching
entry of `es`, or 1 when `es` is exhausted, or 0 when `q` is not listed. -/
def expAt : List Nat → List Nat → Nat → Nat
  | [], _, _ => 0
  | p :: ps, [], q => if q = p then 1 else expAt ps [] q
  | p :: ps, e :: es, q => if q = p then e else expAt ps es q

theorem expAt_not_mem : ∀ (ps es : List Nat) (q : Nat), q ∉ ps → expAt ps es q = 0
  | [], _, _, _ => by simp [expAt]
  | p :: ps, [], q, h => by
    rw [List.mem_cons, not_or] at h
    rw [expAt, if_neg h.1, expAt_not_mem ps [] q h.2]
  | p :: ps, e :: es, q, h => by
    rw [List.mem_cons, not_or] at h
    rw [expAt, if_neg h.1, expAt_not_mem ps es q h.2]

theorem expAt_nil_right : ∀ (ps : List Nat) (q : Nat), expAt ps [] q = if q ∈ ps then 1 else 0
  | [], q => by simp [expAt]
  | p :: ps, q => by
    rw [expAt, expAt_nil_right ps q]
    by_cases h : q = p
    · simp [h]
    · simp [h]

theorem expAt_getElem? : ∀ (ps es : List Nat) (i r : Nat), ps.Nodup → ps[i]? = some r →
    expAt ps es r = (es[i]?).getD 1
  | [], _, _, _, _, h => by simp at h
  | p :: ps, [], i, r, _, h => by
    rw [expAt_nil_right, if_pos (List.mem_of_getElem? h)]; rfl
  | p :: ps, e0 :: es, 0, r, _, h => by
    rw [List.getElem?_cons_zero, Option.some.injEq] at h
    rw [expAt, if_pos h.symm]; rfl
  | p :: ps, e0 :: es, i + 1, r, hnd, h => by
    rw [List.getElem?_cons_succ] at h
    have hne : r ≠ p := fun e => (List.nodup_cons.mp hnd).1 (e ▸ List.mem_of_getElem? h)
    rw [expAt, if_neg hne, List.getElem?_cons_succ]
    exact expAt_getElem? ps es i r (List.nodup_cons.mp hnd).2 h

theorem pollardPowers_nil_right (ps : List Nat) : pollardPowers ps [] = ps := by
  cases ps <;> rfl

theorem pollardPowers_cons (p e : Nat) (ps es : List Nat) :
    pollardPowers (p :: ps) (e :: es) = p ^ e :: pollardPowers ps es := rfl

theorem prod_primes_ne_zero (ps : List Nat) (h : ∀ p ∈ ps, p.Prime) : ps.prod ≠ 0 :=
  List.prod_ne_zero fun h0 => Nat.not_prime_zero (h 0 h0)

theorem pollardPowers_prod_ne_zero : ∀ (ps es : List Nat), (∀ p ∈ ps, p.Prime) →
    (pollardPowers ps es).prod ≠ 0
  | [], es, _ => by cases es <;> simp [pollardPowers]
  | p :: ps, [], h => by rw [pollardPowers_nil_right]; exact prod_primes_ne_zero _ h
  | p :: ps, e :: es, h => by
    rw [pollardPowers_cons, List.prod_cons]
    exact Nat.mul_ne_zero (pow_ne_zero _ (h p List.mem_cons_self).pos.ne')
      (pollardPowers_prod_ne_zero ps es fun x hx => h x (List.mem_cons_of_mem _ hx))

theorem factorization_pollardPowers : ∀ (ps es : List Nat), (∀ p ∈ ps, p.Prime) → ps.Nodup →
    ∀ q, (pollardPowers ps es).prod.factorization q = expAt ps es q
  | [], es, _, _, q => by cases es <;> simp [pollardPowers, expAt]
  | p :: ps, [], h, hnd, q => by
    have hp := h p List.mem_cons_self
    have h' : ∀ x ∈ ps, x.Prime := fun x hx => h x (List.mem_cons_of_mem _ hx)
    have ih := factorization_pollardPowers ps [] h' (List.nodup_cons.mp hnd).2 q
    rw [pollardPowers_nil_right] at ih ⊢
    rw [List.prod_cons, Nat.factorization_mul hp.pos.ne' (prod_primes_ne_zero _ h'),
      Finsupp.add_apply, ih, hp.factorization, Finsupp.single_apply, expAt]
    by_cases hq : q = p
    · subst hq
      rw [if_pos rfl, if_pos rfl, expAt_not_mem _ _ _ (List.nodup_cons.mp hnd).1]
    · rw [if_neg (Ne.symm hq), if_neg hq, Nat.zero_add]
  | p :: ps, e :: es, h, hnd, q => by
    have hp := h p List.mem_cons_self
    have h' : ∀ x ∈ ps, x.Prime := fun x hx => h x (List.mem_cons_of_mem _ hx)
    have ih := factorization_pollardPowers ps es h' (List.nodup_cons.mp hnd).2 q
    rw [pollardPowers_cons, List.prod_cons,
      Nat.factorization_mul (pow_ne_zero _ hp.pos.ne') (pollardPowers_prod_ne_zero _ _ h'),
      Finsupp.add_apply, ih, hp.factorization_pow, Finsupp.single_apply, expAt]
    by_cases hq : q = p
    · subst hq
      rw [if_pos rfl, if_pos rfl, expAt_not_mem _ _ _ (List.nodup_cons.mp hnd).1, Nat.add_zero]
    · rw [if_neg (Ne.symm hq), if_neg hq, Nat.zero_add]

/-- `g` is `E`-powersmooth: every prime power dividing `g` has exponent at most `E r`. -/
def PowerSmooth (E : Nat → Nat) (g : Nat) : Prop :=
  ∀ r k, r.Prime → r ^ k ∣ g → k ≤ E r

theorem powerSmooth_of_dvd {E : Nat → Nat} {g h : Nat} (hgh : g ∣ h) (hs : PowerSmooth E h) :
    PowerSmooth E g := fun r k hr hk => hs r k hr (Nat.dvd_trans hk hgh)

theorem powerSmooth_iff_factorization (E : Nat → Nat) (g : Nat) (hg : g ≠ 0) :
    PowerSmooth E g ↔ ∀ r, g.factorization r ≤ E r := by
  constructor
  · intro h r
    by_cases hr : r.Prime
    · exact h r _ hr (Nat.ordProj_dvd g r)
    · rw [Nat.factorization_eq_zero_of_not_prime g hr]; exact Nat.zero_le _
  · intro h r k hr hk
    exact le_trans ((hr.pow_dvd_iff_le_factorization hg).mp hk) (h r)

/-- a divisor of `r^a · s` that is not divisible by `r²` divides `r · s`. -/
theorem dvd_of_dvd_pow_mul {r a s d : Nat} (hr : r.Prime) (hs : s ≠ 0) (hd : d ∣ r ^ a * s)
    (h2 : ¬ r ^ 2 ∣ d) : d ∣ r * s := by
  have hra : r ^ a ≠ 0 := pow_ne_zero _ hr.pos.ne'
  have hd0 : d ≠ 0 := fun h => by
    rw [h, Nat.zero_dvd] at hd; exact (Nat.mul_ne_zero hra hs) hd
  rw [← Nat.factorization_le_iff_dvd hd0 (Nat.mul_ne_zero hr.pos.ne' hs), Finsupp.le_def]
  intro t
  have hle := (Nat.factorization_le_iff_dvd hd0 (Nat.mul_ne_zero hra hs)).mpr hd t
  rw [Nat.factorization_mul hra hs, Finsupp.add_apply, hr.factorization_pow,
    Finsupp.single_apply] at hle
  rw [Nat.factorization_mul hr.pos.ne' hs, Finsupp.add_apply, hr.factorization,
    Finsupp.single_apply]
  by_cases ht : r = t
  · subst ht
    rw [if_pos rfl]
    have : ¬ 2 ≤ d.factorization r := fun h => h2 ((hr.pow_dvd_iff_le_factorization hd0).mpr h)
    omega
  · rw [if_neg ht] at hle ⊢; exact hle

theorem powerSmooth_congr {E E' : Nat → Nat} (h : ∀ r, r.Prime → E r = E' r) (g : Nat) :
    PowerSmooth E g ↔ PowerSmooth E' g :=
  forall_congr' fun r => forall_congr' fun _ => forall_congr' fun hr => by rw [h r hr]

/-- `PowerSmooth E g` with the bound `k ≤ E r` spelt out as `P r k`. -/
theorem powerSmooth_iff_of_le_iff {E : Nat → Nat} {P : Nat → Nat → Prop}
    (h : ∀ r k, r.Prime → (k ≤ E r ↔ P r k)) (g : Nat) :
    PowerSmooth E g ↔ ∀ r k, r.Prime → r ^ k ∣ g → P r k :=
  forall_congr' fun r => forall_congr' fun k => forall_congr' fun hr => forall_congr' fun _ => h r k hr

theorem dvd_pollardPowers_iff (ps es : List Nat) (hpr : ∀ p ∈ ps, p.Prime) (hnd : ps.Nodup)
    (g : Nat) (hg : g ≠ 0) :
    g ∣ fastProduct (pollardPowers ps es) ↔ PowerSmooth (expAt ps es) g := by
  rw [fastProduct_eq_prod, powerSmooth_iff_factorization _ _ hg,
    ← Nat.factorization_le_iff_dvd hg (pollardPowers_prod_ne_zero ps es hpr), Finsupp.le_def]
  exact forall_congr' fun r => by rw [factorization_pollardPowers ps es hpr hnd r]

/-! ### the documented exponent lists -/

theorem expAt_map_take (f : Nat → Nat) : ∀ (ps : List Nat), ps.Nodup → ∀ (k q : Nat),
    expAt ps ((ps.take k).map f) q =
      if q ∈ ps.take k then f q else if q ∈ ps then 1 else 0
  | [], _, k, q => by simp [expAt]
  | p :: ps, hnd, 0, q => by
    rw [List.take_zero, List.map_nil, expAt_nil_right]; simp
  | p :: ps, hnd, k + 1, q => by
    have hnd' := (List.nodup_cons.mp hnd).2
    rw [List.take_succ_cons, List.map_cons, expAt, expAt_map_take f ps hnd' k q]
    by_cases hq : q = p
    · subst hq; simp
    · simp [hq]

theorem mem_sieve (b q : Nat) : q ∈ sieve b ↔ q < b ∧ q.Prime := by
  rw [NT.sieve_eq, List.mem_filter, List.mem_range, decide_eq_true_eq]

theorem sieve_nodup (b : Nat) : (sieve b).Nodup := by
  rw [NT.sieve_eq]; exact List.Nodup.filter _ List.nodup_range

theorem sieve_prime (b : Nat) : ∀ p ∈ sieve b, p.Prime := fun p hp => ((mem_sieve b p).mp hp).2

/-- below `257²` the sieve is a filter by trial division: the form in which a concrete `sieve n`
is cheap to evaluate (the model's array sieve and `Nat.decidablePrime` are not). -/
theorem sieve_eq_filter_smallPrime (n : Nat) (hn : n ≤ 257 * 257) :
    sieve n = (List.range n).filter Pratt.smallPrime := by
  rw [NT.sieve_eq]
  apply List.filter_congr
  intro x hx
  rw [List.mem_range] at hx
  rw [Bool.eq_iff_iff, decide_eq_true_eq, Pratt.smallPrime_iff (by omega)]

/-- there are exactly 150 primes below 864 (863 is the 150th prime). -/
theorem sieve_864_length : (sieve 864).length = 150 := by
  rw [sieve_eq_filter_smallPrime 864 (by norm_num)]
  decide +kernel

theorem sieve_split (a b : Nat) (hab : a ≤ b) :
    sieve b = sieve a ++ (List.range' a (b - a)).filter (fun i => decide (Nat.Prime i)) := by
  rw [NT.sieve_eq, NT.sieve_eq, ← List.filter_append]
  congr 1
  rw [List.range_eq_range', List.range_eq_range']
  have : b = a + (b - a) := by omega
  conv_lhs => rw [this]
  rw [← List.range'_append_1, Nat.zero_add]

theorem sieve_take_150 : (sieve (2 ^ 20)).take 150 = sieve 864 := by
  rw [sieve_split 864 (2 ^ 20) (by norm_num)]
  exact List.take_left' sieve_864_length

/-- the documented exponent of a prime `r` in the DEFAULT product: `⌊log_r 2^64⌋` for the first 150
primes (`r ≤ 863`), 1 for the other primes below `2^20`, 0 above. -/
def defaultExp (r : Nat) : Nat :=
  if r < 864 then Nat.log r (2 ^ 64) else if r < 2 ^ 20 then 1 else 0

/-- the documented exponent for a user bound `b`: `⌊log_r b⌋` for primes below `b`. -/
def boundExp (b r : Nat) : Nat := if r < b then Nat.log r b else 0

/-- the constructor's product with the documented exponents. -/
def documentedM (bound : Option Nat) : Nat := pollardProduct bound (pollardExpsDocumented bound)

/-- the default product (1 518 658 bits). -/
def defaultM : Nat := documentedM none

theorem documentedM_zero : documentedM (some 0) = defaultM := rfl

theorem defaultM_eq : defaultM = fastProduct (pollardPowers (sieve (2 ^ 20))
    (((sieve (2 ^ 20)).take 150).map (fun p => floorLog p (2 ^ 64)))) := rfl

theorem documentedM_some (b : Nat) (hb : b ≠ 0) : documentedM (some b) =
    fastProduct (pollardPowers (sieve b) (((sieve b).take (sieve b).length).map
      (fun p => floorLog p b))) := by
  rw [List.take_length]
  cases b with
  | zero => exact absurd rfl hb
  | succ n => rfl

theorem pollardProduct_pos (bound : Option Nat) (exps : List Nat) : 0 < pollardProduct bound exps := by
  unfold pollardProduct
  cases pollardUserBound bound <;> simp only [fastProduct_eq_prod] <;>
    exact Nat.pos_of_ne_zero (pollardPowers_prod_ne_zero _ _ (sieve_prime _))

theorem documentedM_pos (bound : Option Nat) : 0 < documentedM bound := pollardProduct_pos bound _

theorem defaultM_pos : 0 < defaultM := documentedM_pos none

theorem expAt_default (r : Nat) (hr : r.Prime) :
    expAt (sieve (2 ^ 20)) (((sieve (2 ^ 20)).take 150).map (fun p => floorLog p (2 ^ 64))) r =
      defaultExp r := by
  rw [expAt_map_take _ _ (sieve_nodup _), sieve_take_150, defaultExp]
  simp only [mem_sieve, hr, and_true]
  by_cases h1 : r < 864
  · rw [if_pos h1, if_pos h1, floorLog_eq_log r _ hr.two_le (Nat.one_le_two_pow)]
  · rw [if_neg h1, if_neg h1]

theorem expAt_documented (b r : Nat) (hr : r.Prime) :
    expAt (sieve b) (((sieve b).take (sieve b).length).map (fun p => floorLog p b)) r =
      boundExp b r := by
  rw [expAt_map_take _ _ (sieve_nodup _), List.take_length, boundExp]
  simp only [mem_sieve, hr, and_true]
  by_cases h1 : r < b
  · rw [if_pos h1, if_pos h1, floorLog_eq_log r _ hr.two_le (by omega)]
  · rw [if_neg h1, if_neg h1, if_neg h1]

theorem dvd_defaultM_iff_powerSmooth (g : Nat) (hg : g ≠ 0) : g ∣ defaultM ↔ PowerSmooth defaultExp g := by
  rw [defaultM_eq, dvd_pollardPowers_iff _ _ (sieve_prime _) (sieve_nodup _) g hg]
  exact powerSmooth_congr expAt_default g

/-- **The exact criterion for a user bound `b ≥ 1`** (`b`-powersmooth, primes below `b`). -/
theorem dvd_documentedM_iff_powerSmooth (b : Nat) (hb : b ≠ 0) (g : Nat) (hg : g ≠ 0) :
    g ∣ documentedM (some b) ↔ PowerSmooth (boundExp b) g := by
  rw [documentedM_some b hb, dvd_pollardPowers_iff _ _ (sieve_prime _) (sieve_nodup _) g hg]
  exact powerSmooth_congr (expAt_documented b) g

theorem le_boundExp_iff (b r k : Nat) (hb : b ≠ 0) (hr : 2 ≤ r) :
    k ≤ boundExp b r ↔ k = 0 ∨ (r < b ∧ r ^ k ≤ b) := by
  unfold boundExp
  by_cases h1 : r < b
  · rw [if_pos h1, Nat.le_log_iff_pow_le (by omega) hb]
    constructor
    · intro h; exact Or.inr ⟨h1, h⟩
    · rintro (h | ⟨_, h⟩)
      · subst h; simp; omega
      · exact h
  · rw [if_neg h1]; omega

end Paranoid.PollardProduct
