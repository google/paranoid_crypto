/-
Proofs/Cr50.lean — lemmas for property C08 about Model/Cr50.lean:
 * what the pieces of `Cr50U2fGuesses` can raise (concluded in Props/C08.lean: `cr50_only_zero_division`,
   `cr50_sanity_unreachable`);
 * exact characterisation of the guess loop when `r₁`, `r₂` are units;
 * the planted vector `(c¹, c², −256, 0)` is in the sub-problem lattice (`cr50_pre_rows`);
 * the lemmas behind `C08.cr50_post`: a reduced row `±(c¹, c², …)` makes the function report the key.
-/
import ParanoidModel.Model.Cr50
import ParanoidModel.Proofs.Hnp

namespace Paranoid.Hnp

/-! ### the sanity check of `Cr50U2fGuesses` -/

theorem cr50RowPair_some (a b w : Int) (p : Nat) (basis row : List Int) (k : Nat × Nat)
    (h : cr50RowPair a b w p basis row = .ok (some k)) :
    p ≠ 0 ∧ k = cr50RowKs basis row ∧ ((k.1 : Int) * a + (k.2 : Int) * b - w) % (p : Int) = 0 := by
  unfold cr50RowPair at h
  split at h
  · cases h
  rename_i hp
  split at h
  · rename_i hc
    injection h with h; injection h with h
    subst h
    exact ⟨hp, rfl, hc⟩
  · cases h

theorem cr50RowPair_error (a b w : Int) (p : Nat) (basis row : List Int) (e : PyErr)
    (h : cr50RowPair a b w p basis row = .error e) : e = .zeroDivision ∧ p = 0 := by
  unfold cr50RowPair at h
  split at h
  · rename_i hp; injection h with h; exact ⟨h.symm, hp⟩
  · split at h <;> cases h

/-- the test `(k₁·a + k₂·b − w) % n == 0` of the sub-problem for the `a = r₂s₁`, `b = −r₁s₂`,
`w = r₂z₁ − r₁z₂` (all mod `n`) that `Cr50U2fGuesses` passes, without the reductions. -/
theorem cr50_cond_iff (r1 s1 z1 r2 s2 z2 k1 k2 : Int) (n : Nat) :
    (k1 * (r2 * s1 % (n : Int)) + k2 * (-r1 * s2 % (n : Int)) -
      (r2 * z1 - r1 * z2) % (n : Int)) % (n : Int) = 0 ↔
    r1 * (s2 * k2 - z2) ≡ r2 * (s1 * k1 - z1) [ZMOD n] := by
  have h : k1 * (r2 * s1 % (n : Int)) + k2 * (-r1 * s2 % (n : Int)) -
      (r2 * z1 - r1 * z2) % (n : Int) ≡ r2 * (s1 * k1 - z1) - r1 * (s2 * k2 - z2) [ZMOD n] := by
    have := (((Int.mod_modEq (r2 * s1) n).mul_left k1).add
      ((Int.mod_modEq (-r1 * s2) n).mul_left k2)).sub (Int.mod_modEq (r2 * z1 - r1 * z2) n)
    rwa [show k1 * (r2 * s1) + k2 * (-r1 * s2) - (r2 * z1 - r1 * z2) =
      r2 * (s1 * k1 - z1) - r1 * (s2 * k2 - z2) by ring] at this
  rw [← Int.dvd_iff_emod_eq_zero, Int.modEq_iff_dvd, ← Int.modEq_zero_iff_dvd,
    ← Int.modEq_zero_iff_dvd]
  exact ⟨h.symm.trans, h.trans⟩

/-- the two signature equations `sᵢ·kᵢ ≡ zᵢ + rᵢ·x` give the relation the sub-problem solves:
`k₁·a + k₂·b ≡ w (mod n)` for the `a, b, w` computed by `Cr50U2fGuesses`. -/
theorem cr50_relation (r1 s1 z1 r2 s2 z2 x k1 k2 : Int) (n : Nat)
    (hs1 : s1 * k1 ≡ z1 + r1 * x [ZMOD n]) (hs2 : s2 * k2 ≡ z2 + r2 * x [ZMOD n]) :
    (k1 * (r2 * s1 % (n : Int)) + k2 * (-r1 * s2 % (n : Int)) -
      (r2 * z1 - r1 * z2) % (n : Int)) % (n : Int) = 0 := by
  rw [cr50_cond_iff]
  have hP : s1 * k1 - z1 ≡ r1 * x [ZMOD n] := by simpa using hs1.sub_right z1
  have hQ : s2 * k2 - z2 ≡ r2 * x [ZMOD n] := by simpa using hs2.sub_right z2
  calc r1 * (s2 * k2 - z2) ≡ r1 * (r2 * x) [ZMOD n] := hQ.mul_left r1
    _ = r2 * (r1 * x) := by ring
    _ ≡ r2 * (s1 * k1 - z1) [ZMOD n] := (hP.mul_left r2).symm

/-- the algebra behind the sanity check: with inverses `i₁`, `i₂` of `r₁`, `r₂`, a pair `(k₁, k₂)`
that passes the test gives the same key from either signature. -/
theorem cr50_keys_agree (r1 s1 z1 r2 s2 z2 : Int) (n : Nat) (k1 k2 : Int) (i1 i2 : Int)
    (h1 : r1 * i1 ≡ 1 [ZMOD n]) (h2 : r2 * i2 ≡ 1 [ZMOD n])
    (hc : (k1 * (r2 * s1 % (n : Int)) + k2 * (-r1 * s2 % (n : Int)) -
      (r2 * z1 - r1 * z2) % (n : Int)) % (n : Int) = 0) :
    (s1 * k1 - z1) * i1 ≡ (s2 * k2 - z2) * i2 [ZMOD n] := by
  rw [cr50_cond_iff] at hc
  calc (s1 * k1 - z1) * i1 = (s1 * k1 - z1) * i1 * 1 := by ring
    _ ≡ (s1 * k1 - z1) * i1 * (r2 * i2) [ZMOD n] := (h2.symm).mul_left _
    _ = r2 * (s1 * k1 - z1) * (i1 * i2) := by ring
    _ ≡ r1 * (s2 * k2 - z2) * (i1 * i2) [ZMOD n] := hc.symm.mul_right _
    _ = (s2 * k2 - z2) * i2 * (r1 * i1) := by ring
    _ ≡ (s2 * k2 - z2) * i2 * 1 [ZMOD n] := h1.mul_left _
    _ = (s2 * k2 - z2) * i2 := by ring

/-- the consumer body on a yielded pair: never `ArithmeticError`; `ZeroDivisionError` exactly
when `r₁` or `r₂` has no inverse; otherwise the key computed from the first signature. -/
theorem cr50PairGuess_spec (r1 s1 z1 r2 s2 z2 : Int) (n : Nat) (k : Nat × Nat)
    (hc : ((k.1 : Int) * (r2 * s1 % (n : Int)) + (k.2 : Int) * (-r1 * s2 % (n : Int)) -
      (r2 * z1 - r1 * z2) % (n : Int)) % (n : Int) = 0) :
    (∃ i1 i2, invMod r1 n = .ok i1 ∧ invMod r2 n = .ok i2 ∧
      cr50PairGuess r1 s1 z1 r2 s2 z2 n k = .ok ((s1 * (k.1 : Int) - z1) * (i1 : Int) % (n : Int)).toNat) ∨
    (cr50PairGuess r1 s1 z1 r2 s2 z2 n k = .error .zeroDivision ∧
      ((∃ e, invMod r1 n = .error e) ∨ (∃ e, invMod r2 n = .error e))) := by
  unfold cr50PairGuess
  cases h1 : invMod r1 n with
  | error e =>
    right
    have := invMod_error r1 n e h1
    subst this
    exact ⟨rfl, Or.inl ⟨_, rfl⟩⟩
  | ok i1 =>
    cases h2 : invMod r2 n with
    | error e =>
      right
      have := invMod_error r2 n e h2
      subst this
      exact ⟨rfl, Or.inr ⟨_, rfl⟩⟩
    | ok i2 =>
      left
      refine ⟨i1, i2, rfl, rfl, ?_⟩
      have := cr50_keys_agree r1 s1 z1 r2 s2 z2 n k.1 k.2 i1 i2 (invMod_ok_modEq r1 n i1 h1).1
        (invMod_ok_modEq r2 n i2 h2).1 hc
      simp only
      rw [if_neg (by rw [not_not]; exact this)]


/-- the body of the loop of `Cr50U2fGuesses` for one reduced row: the test of the sub-problem, then
the consumer on the yielded pair. -/
def cr50Step (r1 s1 z1 r2 s2 z2 : Int) (n : Nat) (a b w : Int) (basis row : List Int) :
    Except PyErr (Option Nat) :=
  match cr50RowPair a b w n basis row with
  | .error e => .error e
  | .ok none => .ok none
  | .ok (some k) => (cr50PairGuess r1 s1 z1 r2 s2 z2 n k).map some

/-- `Cr50U2fGuesses` and `HiddenNumberProblem` run the same loop over the reduced rows. -/
theorem cr50GuessLoop_eq (r1 s1 z1 r2 s2 z2 : Int) (n : Nat) (a b w : Int) (basis : List Int) :
    ∀ (reduced : List (List Int)) (acc : List Nat),
      cr50GuessLoop r1 s1 z1 r2 s2 z2 n a b w basis reduced acc =
        hnpGuessLoop (cr50Step r1 s1 z1 r2 s2 z2 n a b w basis) reduced acc
  | [], _ => rfl
  | row :: rest, acc => by
    simp only [cr50GuessLoop, hnpGuessLoop, cr50Step]
    cases cr50RowPair a b w n basis row with
    | error e => rfl
    | ok o =>
      cases o with
      | none => exact cr50GuessLoop_eq r1 s1 z1 r2 s2 z2 n a b w basis rest acc
      | some k =>
        dsimp only
        cases cr50PairGuess r1 s1 z1 r2 s2 z2 n k with
        | error e => rfl
        | ok x => exact cr50GuessLoop_eq r1 s1 z1 r2 s2 z2 n a b w basis rest _

/-- `Cr50U2fGuesses` is that loop behind two guards (the lattice is always built for `n ≠ 0`). -/
theorem cr50Guesses_eq (r1 s1 z1 r2 s2 z2 : Int) (n : Nat) (reduced : List (List Int)) :
    cr50Guesses r1 s1 z1 r2 s2 z2 n reduced =
      if bitLength n % 32 ≠ 0 then .ok []
      else if n = 0 then .error .zeroDivision
      else hnpGuessLoop (cr50Step r1 s1 z1 r2 s2 z2 n (r2 * s1 % (n : Int)) (-r1 * s2 % (n : Int))
        ((r2 * z1 - r1 * z2) % (n : Int)) (cr50Basis (bitLength n))) reduced [] := by
  unfold cr50Guesses
  by_cases hbl : bitLength n % 32 ≠ 0
  · rw [if_pos hbl, if_pos hbl]
  · by_cases hn : n = 0
    · rw [if_neg hbl, if_neg hbl, if_pos hn, if_pos hn]
    · rw [if_neg hbl, if_neg hbl, if_neg hn, if_neg hn, cr50Lattice, if_neg (fun h => hn h.1),
        cr50GuessLoop_eq]

theorem cr50Step_cases (r1 s1 z1 r2 s2 z2 : Int) (n : Nat) (a b w : Int) (basis row : List Int) :
    (∃ e, cr50RowPair a b w n basis row = .error e ∧
      cr50Step r1 s1 z1 r2 s2 z2 n a b w basis row = .error e) ∨
    (cr50RowPair a b w n basis row = .ok none ∧
      cr50Step r1 s1 z1 r2 s2 z2 n a b w basis row = .ok none) ∨
    (∃ k, cr50RowPair a b w n basis row = .ok (some k) ∧
      cr50Step r1 s1 z1 r2 s2 z2 n a b w basis row =
        (cr50PairGuess r1 s1 z1 r2 s2 z2 n k).map some) := by
  unfold cr50Step
  cases cr50RowPair a b w n basis row with
  | error e => exact Or.inl ⟨e, rfl, rfl⟩
  | ok o => cases o with
    | none => exact Or.inr (Or.inl ⟨rfl, rfl⟩)
    | some k => exact Or.inr (Or.inr ⟨k, rfl, rfl⟩)

/-- an exception of a round is `ZeroDivisionError`, never the sanity `ArithmeticError`. -/
theorem cr50Step_error (r1 s1 z1 r2 s2 z2 : Int) (n : Nat) (basis row : List Int) (e : PyErr)
    (h : cr50Step r1 s1 z1 r2 s2 z2 n (r2 * s1 % (n : Int)) (-r1 * s2 % (n : Int))
      ((r2 * z1 - r1 * z2) % (n : Int)) basis row = .error e) : e = .zeroDivision := by
  rcases cr50Step_cases r1 s1 z1 r2 s2 z2 n _ _ _ basis row with ⟨e', h1, h2⟩ | ⟨_, h2⟩ | ⟨k, h1, h2⟩
  · rw [h] at h2; cases h2
    exact (cr50RowPair_error _ _ _ _ _ _ _ h1).1
  · rw [h] at h2; cases h2
  · rw [h] at h2
    obtain ⟨_, _, hc⟩ := cr50RowPair_some _ _ _ _ _ _ _ h1
    rcases cr50PairGuess_spec r1 s1 z1 r2 s2 z2 n k hc with ⟨i1, i2, _, _, hg⟩ | ⟨hg, _⟩
    · rw [hg] at h2; cases h2
    · rw [hg] at h2; cases h2; rfl

/-- every guess of a round is reduced modulo `n`. -/
theorem cr50Step_lt (r1 s1 z1 r2 s2 z2 : Int) (n : Nat) (a b w : Int) (basis row : List Int) (g : Nat)
    (h : cr50Step r1 s1 z1 r2 s2 z2 n a b w basis row = .ok (some g)) : g < n := by
  rcases cr50Step_cases r1 s1 z1 r2 s2 z2 n a b w basis row with ⟨_, _, h2⟩ | ⟨_, h2⟩ | ⟨k, hp, h2⟩
  · rw [h] at h2; cases h2
  · rw [h] at h2; cases h2
  · have hn := (cr50RowPair_some _ _ _ _ _ _ _ hp).1
    rw [h] at h2
    unfold cr50PairGuess at h2
    split at h2
    · cases h2
    split at h2
    · cases h2
    split at h2
    · cases h2
    cases h2
    exact emod_toNat_lt _ n hn

/-- with both inverses at hand a round never raises and yields the key of the first signature. -/
theorem cr50Step_of_inv (r1 s1 z1 r2 s2 z2 : Int) (n : Nat) (hn : n ≠ 0) (basis : List Int)
    (i1 i2 : Nat) (h1 : invMod r1 n = .ok i1) (h2 : invMod r2 n = .ok i2) (row : List Int) :
    ∃ o, cr50RowPair (r2 * s1 % (n : Int)) (-r1 * s2 % (n : Int)) ((r2 * z1 - r1 * z2) % (n : Int))
        n basis row = .ok o ∧
      cr50Step r1 s1 z1 r2 s2 z2 n (r2 * s1 % (n : Int)) (-r1 * s2 % (n : Int))
        ((r2 * z1 - r1 * z2) % (n : Int)) basis row =
        .ok (o.map fun k => ((s1 * (k.1 : Int) - z1) * (i1 : Int) % (n : Int)).toNat) := by
  rcases cr50Step_cases r1 s1 z1 r2 s2 z2 n _ _ _ basis row with ⟨e, hp, _⟩ | ⟨hp, hs⟩ | ⟨k, hp, hs⟩
  · exact absurd (cr50RowPair_error _ _ _ _ _ _ _ hp).2 hn
  · exact ⟨none, hp, hs⟩
  · obtain ⟨_, _, hc⟩ := cr50RowPair_some _ _ _ _ _ _ _ hp
    rcases cr50PairGuess_spec r1 s1 z1 r2 s2 z2 n k hc with ⟨j1, j2, e1, _, hg⟩ | ⟨_, ⟨e, he⟩ | ⟨e, he⟩⟩
    · cases h1.symm.trans e1
      exact ⟨some k, hp, by rw [hs, hg]; rfl⟩
    · rw [h1] at he; cases he
    · rw [h2] at he; cases he

/-- when both `r` are units (`n ≠ 0`, bit length a multiple of 32) `Cr50U2fGuesses` returns exactly the
keys of the rows that pass the test. -/
theorem cr50Guesses_ok (r1 s1 z1 r2 s2 z2 : Int) (n : Nat) (hn : n ≠ 0) (hbl : bitLength n % 32 = 0)
    (i1 i2 : Nat) (h1 : invMod r1 n = .ok i1) (h2 : invMod r2 n = .ok i2)
    (reduced : List (List Int)) :
    ∃ gs, cr50Guesses r1 s1 z1 r2 s2 z2 n reduced = .ok gs ∧
      ∀ g, g ∈ gs ↔ ∃ row ∈ reduced, ∃ k,
        cr50RowPair (r2 * s1 % (n : Int)) (-r1 * s2 % (n : Int)) ((r2 * z1 - r1 * z2) % (n : Int))
          n (cr50Basis (bitLength n)) row = .ok (some k) ∧
        g = ((s1 * (k.1 : Int) - z1) * (i1 : Int) % (n : Int)).toNat := by
  have hstep := cr50Step_of_inv r1 s1 z1 r2 s2 z2 n hn (cr50Basis (bitLength n)) i1 i2 h1 h2
  obtain ⟨gs, hgs, hmem⟩ := hnpGuessLoop_ok _ reduced [] fun r _ =>
    let ⟨o, _, h⟩ := hstep r; ⟨_, h⟩
  refine ⟨gs, by rw [cr50Guesses_eq, if_neg (not_not.mpr hbl), if_neg hn]; exact hgs, fun g => ?_⟩
  rw [hmem g, or_iff_right List.not_mem_nil]
  refine exists_congr fun row => and_congr_right fun _ => ?_
  obtain ⟨o, ho, hs⟩ := hstep row
  rw [hs, ho]
  cases o <;> simp [eq_comm]

/-! ### the sub-problem lattice contains the planted vector -/

theorem ent_append (l1 l2 : List Int) (j : Nat) :
    ent (l1 ++ l2) j = if j < l1.length then ent l1 j else ent l2 (j - l1.length) := by
  unfold ent
  split
  · rename_i h; rw [List.getElem?_append_left h]
  · rename_i h; rw [List.getElem?_append_right (by omega)]

theorem colSum_append (j : Nat) : ∀ (cs1 : List Int) (rs1 : List (List Int)) (cs2 : List Int)
    (rs2 : List (List Int)), cs1.length = rs1.length →
    colSum j (cs1 ++ cs2) (rs1 ++ rs2) = colSum j cs1 rs1 + colSum j cs2 rs2
  | [], [], _, _, _ => (zero_add _).symm
  | c :: cs, r :: rs, cs2, rs2, h => by
    simp only [List.cons_append, colSum]
    rw [colSum_append j cs rs cs2 rs2 (by simpa using h)]; ring
  | [], _ :: _, _, _, h => by simp at h
  | _ :: _, [], _, _, h => by simp at h

theorem ent_wordRow (size p : Nat) (m : Int) (i : Nat) (v : Int) (j : Nat) :
    ent (cr50WordRow size p m i v) j =
      if j < size - 1 then (if j = i then 1 else 0)
      else if j = size - 1 then v * m % (p : Int) else 0 := by
  unfold cr50WordRow
  rw [ent_append]
  simp only [List.length_map, List.length_range]
  split
  · rename_i h; rw [ent_map_range, if_pos h]
  · rename_i h
    split
    · rename_i h2; rw [h2]; simp [ent]
    · rename_i h2
      rw [ent_of_ge _ _ (by simp; omega)]

/-- last-column contribution of one block: `Σ cᵢ·(basisᵢ·m mod p)`. -/
def wsum (m : Int) (p : Nat) : List Int → List Int → Int
  | c :: cs, v :: vs => c * (v * m % (p : Int)) + wsum m p cs vs
  | _, _ => 0

theorem colSum_block_low (size p : Nat) (m : Int) (j : Nat) (hj : j < size - 1) :
    ∀ (basis cs : List Int) (off : Nat), cs.length = basis.length →
    colSum j cs (cr50Block size p m off basis) =
      if off ≤ j ∧ j < off + cs.length then ent cs (j - off) else 0
  | [], [], off, _ => by rw [ent_nil, ite_self]; rfl
  | v :: vs, c :: cs, off, h => by
    rw [cr50Block, colSum, colSum_block_low size p m j hj vs cs (off + 1) (by simpa using h),
      ent_wordRow, if_pos hj]
    by_cases h1 : j = off
    · subst h1
      rw [if_pos rfl, if_neg (by omega), if_pos ⟨le_refl _, by simp⟩]
      simp
    · rw [if_neg h1]
      by_cases h2 : off + 1 ≤ j ∧ j < off + 1 + cs.length
      · rw [if_pos h2, if_pos ⟨by omega, by simp; omega⟩]
        obtain ⟨t, ht⟩ : ∃ t, j - off = t + 1 := ⟨j - off - 1, by omega⟩
        rw [ht, ent_cons_succ, show j - (off + 1) = t by omega]
        ring
      · rw [if_neg h2, if_neg (by simp; omega)]
        ring
  | [], _ :: _, _, h => by simp at h
  | _ :: _, [], _, h => by simp at h

theorem colSum_block_last (size p : Nat) (m : Int) (j : Nat) (hj : j + 1 = size) :
    ∀ (basis cs : List Int) (off : Nat), cs.length = basis.length →
    colSum j cs (cr50Block size p m off basis) = wsum m p cs basis
  | [], [], off, _ => rfl
  | v :: vs, c :: cs, off, h => by
    rw [cr50Block, colSum, colSum_block_last size p m j hj vs cs (off + 1) (by simpa using h),
      ent_wordRow, if_neg (by omega), if_pos (by omega), wsum]
  | [], _ :: _, _, h => by simp at h
  | _ :: _, [], _, h => by simp at h

theorem cr50Block_length (size p : Nat) (m : Int) : ∀ (basis : List Int) (off : Nat),
    (cr50Block size p m off basis).length = basis.length
  | [], _ => rfl
  | _ :: vs, off => by simp [cr50Block, cr50Block_length size p m vs (off + 1)]

theorem cr50Block_row_length (size p : Nat) (m : Int) (hs : 0 < size) :
    ∀ (basis : List Int) (off : Nat), ∀ r ∈ cr50Block size p m off basis, r.length = size
  | [], _, r, hr => by simp [cr50Block] at hr
  | v :: vs, off, r, hr => by
    rw [cr50Block] at hr
    rcases List.mem_cons.mp hr with rfl | hr
    · simp [cr50WordRow]; omega
    · exact cr50Block_row_length size p m hs vs (off + 1) r hr

theorem wsum_modEq (m : Int) (p : Nat) : ∀ (cs basis : List Int),
    wsum m p cs basis ≡ dotZip basis cs * m [ZMOD p]
  | [], _ => by cases ‹List Int› <;> simp [wsum, dotZip, Int.ModEq]
  | _ :: _, [] => by simp [wsum, dotZip, Int.ModEq]
  | c :: cs, v :: vs => by
    have ih := wsum_modEq m p cs vs
    have h1 : v * m % (p : Int) ≡ v * m [ZMOD p] := Int.mod_modEq _ _
    have : dotZip (v :: vs) (c :: cs) = v * c + dotZip vs cs := by simp [dotZip]
    rw [this, wsum]
    calc c * (v * m % (p : Int)) + wsum m p cs vs ≡ c * (v * m) + dotZip vs cs * m [ZMOD p] :=
          (h1.mul_left c).add ih
      _ = (v * c + dotZip vs cs) * m := by ring

theorem ent_zeros_append (k : Nat) (l : List Int) (t : Nat) :
    ent (cr50Zeros k ++ l) t = if t < k then 0 else ent l (t - k) := by
  rw [ent_append, cr50Zeros, List.length_replicate]
  split
  · exact ent_replicate_zero k t
  · rfl

/-- **pre (Cr50).** For digit vectors `c¹, c²` (one entry per basis word) whose nonces
`k₁ = Σ c¹ⱼ·basisⱼ`, `k₂ = Σ c²ⱼ·basisⱼ` satisfy `k₁·a + k₂·b ≡ w (mod p)`, the vector
`(c¹, c², −256, 0)` is the integer combination `Σ c¹ⱼ·rowⱼ + Σ c²ⱼ·row_{words+j} − row_{2·words}
− q·row_{last}` of the sub-problem lattice. -/
theorem cr50_pre_rows (a b w : Int) (p : Nat) (hp : 0 < p) (basis c1 c2 : List Int)
    (h1 : c1.length = basis.length) (h2 : c2.length = basis.length)
    (hrel : (dotZip basis c1 * a + dotZip basis c2 * b - w) % (p : Int) = 0) :
    ∃ rows, cr50Lattice a b w p basis = .ok rows ∧
      lincomb (2 * basis.length + 2)
        (c1 ++ (c2 ++ [-1, -((wsum a p c1 basis + wsum b p c2 basis - w) / (p : Int))])) rows =
        c1 ++ (c2 ++ [-256, 0]) := by
  refine ⟨_, by unfold cr50Lattice; rw [if_neg (by omega)], ?_⟩
  have hqp := Int.ediv_mul_cancel (Int.dvd_of_emod_eq_zero
    (Eq.trans (((wsum_modEq a p c1 basis).add (wsum_modEq b p c2 basis)).sub_right w) hrel))
  generalize (wsum a p c1 basis + wsum b p c2 basis - w) / (p : Int) = q at hqp ⊢
  generalize hL : basis.length = L at h1 h2 ⊢
  have hrows : ∀ r ∈ cr50Block (2 * L + 2) p a 0 basis ++ cr50Block (2 * L + 2) p b L basis ++
      [cr50Zeros (2 * L) ++ [256, w], cr50Zeros (2 * L + 1) ++ [(p : Int)]],
      r.length = 2 * L + 2 := by
    intro r hr
    simp only [List.mem_append, List.mem_cons, List.not_mem_nil, or_false] at hr
    rcases hr with (hr | hr) | rfl | rfl
    · exact cr50Block_row_length _ p a (Nat.succ_pos _) basis 0 r hr
    · exact cr50Block_row_length _ p b (Nat.succ_pos _) basis _ r hr
    · simp [cr50Zeros]
    · simp [cr50Zeros]
  apply ext_ent
  · rw [lincomb_length _ _ _ hrows]
    simp only [List.length_append, List.length_cons, List.length_nil, h1, h2]
    omega
  intro j hj
  rw [lincomb_length _ _ _ hrows] at hj
  rw [lincomb_ent _ _ _ _ hrows, List.append_assoc,
    colSum_append j c1 _ _ _ (by rw [cr50Block_length, h1, hL]),
    colSum_append j c2 _ _ _ (by rw [cr50Block_length, h2, hL])]
  simp only [colSum, ent_zeros_append]
  rw [ent_append, h1, ent_append, h2]
  clear hrows hrel hp
  -- the last column carries the relation, the others the digits of `c¹`, of `c²` and the `256`
  rcases Nat.lt_succ_iff_lt_or_eq.mp hj with hlow | rfl
  · rw [colSum_block_low _ p a j hlow basis c1 0 (h1.trans hL.symm),
      colSum_block_low _ p b j hlow basis c2 L (h2.trans hL.symm), h1, h2]
    clear hqp h1 h2 hL hj
    rcases (by omega : j < L ∨ (L ≤ j ∧ j < 2 * L) ∨ j = 2 * L) with hc | hc | rfl
    · have : (0 ≤ j ∧ j < 0 + L) ∧ ¬ (L ≤ j ∧ j < L + L) ∧ j < 2 * L ∧ j < 2 * L + 1 := by omega
      simp only [this, hc, if_true, if_false, and_self, Nat.sub_zero]
      ring
    · have : ¬ (0 ≤ j ∧ j < 0 + L) ∧ (L ≤ j ∧ j < L + L) ∧ ¬ j < L ∧ j - L < L ∧ j < 2 * L ∧
          j < 2 * L + 1 := by omega
      simp only [this, if_true, if_false, and_self]
      ring
    · have : ¬ (0 ≤ 2 * L ∧ 2 * L < 0 + L) ∧ ¬ (L ≤ 2 * L ∧ 2 * L < L + L) ∧ ¬ 2 * L < L ∧
          ¬ 2 * L - L < L ∧ ¬ 2 * L < 2 * L ∧ 2 * L < 2 * L + 1 ∧ 2 * L - L - L = 0 := by omega
      simp only [this, if_true, if_false, Nat.sub_self, ent_cons_zero]
      ring
  · rw [colSum_block_last _ p a _ rfl basis c1 0 (h1.trans hL.symm),
      colSum_block_last _ p b _ rfl basis c2 L (h2.trans hL.symm)]
    have : ¬ 2 * L + 1 < L ∧ ¬ 2 * L + 1 - L < L ∧ ¬ 2 * L + 1 < 2 * L ∧ 2 * L + 1 - 2 * L = 1 ∧
        2 * L + 1 - L - L = 1 := by omega
    simp only [this, lt_self_iff_false, Nat.sub_self, if_false, ent_cons_zero, ent_cons_succ]
    linear_combination -hqp

theorem dotZip_cons (v c : Int) (vs cs : List Int) :
    dotZip (v :: vs) (c :: cs) = v * c + dotZip vs cs := by simp [dotZip]

theorem dotZip_map_neg : ∀ (basis l : List Int), dotZip basis (l.map (fun c => -c)) = -dotZip basis l
  | [], _ => by simp [dotZip]
  | _ :: _, [] => by simp [dotZip]
  | v :: vs, c :: cs => by
    rw [List.map_cons, dotZip_cons, dotZip_cons, dotZip_map_neg vs cs]; ring

theorem dotZip_nonneg : ∀ (basis l : List Int), (∀ v ∈ basis, 0 ≤ v) → (∀ c ∈ l, 0 ≤ c) →
    0 ≤ dotZip basis l
  | [], _, _, _ => by simp [dotZip]
  | _ :: _, [], _, _ => by simp [dotZip]
  | v :: vs, c :: cs, hb, hl => by
    rw [dotZip_cons]
    have h1 := hb v (List.mem_cons_self ..)
    have h2 := hl c (List.mem_cons_self ..)
    have h3 := dotZip_nonneg vs cs (fun v hv => hb v (List.mem_cons_of_mem _ hv))
      (fun c hc => hl c (List.mem_cons_of_mem _ hc))
    positivity

theorem cr50Basis_nonneg (bl : Nat) : ∀ v ∈ cr50Basis bl, 0 ≤ v := by
  intro v hv
  unfold cr50Basis at hv
  obtain ⟨j, _, rfl⟩ := List.mem_map.mp hv
  positivity

theorem cr50RowKs_prefix (basis c1 c2 rest : List Int) (h1 : c1.length = basis.length)
    (h2 : c2.length = basis.length) :
    cr50RowKs basis (c1 ++ (c2 ++ rest)) = ((dotZip basis c1).natAbs, (dotZip basis c2).natAbs) := by
  unfold cr50RowKs
  rw [← h1, List.take_left', List.drop_left', h1, ← h2, List.take_left'] <;> rfl

end Paranoid.Hnp
