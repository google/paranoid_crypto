/-
Proofs/Pratt.lean — a kernel-checkable Pratt (Lucas) primality certificate checker and its
soundness, used to discharge the primality hypothesis of the C11 theorems for the curve primes
regenerated into Generated/Consts.lean (section `pratt`, harness/consts/pratt.py).

A certificate is a flat list of steps in dependency order. A step `⟨q, a, fs⟩` claims
`q - 1 = ∏ rᵏ` over `(r, k) ∈ fs`, every `r` is prime (either `< 257²` and prime by trial
division, or the subject of an EARLIER step) and `a` has order exactly `q - 1` modulo `q`:
`a^(q-1) ≡ 1` and `a^((q-1)/r) ≢ 1` for every listed `r`. Soundness is Mathlib's
`lucas_primality`; completeness of the listed factors follows from the product check.
The factorisations come from an untrusted search (harness/consts/pratt.py, cached in
harness/consts/pratt_cache.json): nothing about them is assumed.
-/
import ParanoidModel.Proofs.Pollard
import Mathlib.NumberTheory.LucasPrimality

namespace Paranoid.Pratt
open Paranoid

/-- trial division by `d, d+1, …` until `q < d²` (then `true`), a divisor is met or the fuel runs
out (`false`). -/
def trialFrom (q : Nat) : Nat → Nat → Bool
  | 0, _ => false
  | fuel + 1, d =>
    bif Nat.blt q (d * d) then true
    else bif Nat.beq (q % d) 0 then false
    else trialFrom q fuel (d + 1)

/-- primality by trial division with at most 256 divisors `2 … 257`: decides every `q < 257²`
(and answers `false` on larger primes: never wrongly `true`). -/
def smallPrime (q : Nat) : Bool := Nat.ble 2 q && trialFrom q 256 2

theorem nat_beq_false (a b : Nat) : Nat.beq a b = false ↔ a ≠ b := by
  rw [Ne, ← Nat.beq_eq, Bool.not_eq_true]

theorem trialFrom_sound (q : Nat) : ∀ (fuel d : Nat), trialFrom q fuel d = true →
    (∀ m, 2 ≤ m → m < d → ¬ m ∣ q) → ∀ m, 2 ≤ m → m * m ≤ q → ¬ m ∣ q
  | 0, _, h, _ => by simp [trialFrom] at h
  | fuel + 1, d, h, hlow => by
    rw [trialFrom] at h
    cases h1 : Nat.blt q (d * d) with
    | true =>
      intro m hm2 hmm
      exact hlow m hm2 (Nat.mul_self_lt_mul_self_iff.mp (Nat.lt_of_le_of_lt hmm (Nat.blt_eq.mp h1)))
    | false =>
      rw [h1, cond_false] at h
      cases h2 : Nat.beq (q % d) 0 with
      | true => rw [h2, cond_true] at h; cases h
      | false =>
        rw [h2, cond_false] at h
        refine trialFrom_sound q fuel (d + 1) h fun k hk2 hkd hdvd => ?_
        rcases Nat.lt_succ_iff_lt_or_eq.mp hkd with hk | rfl
        · exact hlow k hk2 hk hdvd
        · exact (nat_beq_false _ _).mp h2 (Nat.mod_eq_zero_of_dvd hdvd)

theorem smallPrime_sound {q : Nat} (h : smallPrime q = true) : q.Prime := by
  rw [smallPrime, Bool.and_eq_true] at h
  rw [Nat.prime_def_le_sqrt]
  refine ⟨Nat.le_of_ble_eq_true h.1, fun m hm2 hms => ?_⟩
  exact trialFrom_sound q 256 2 h.2 (fun k hk2 hk => by omega) m hm2 (Nat.le_sqrt.mp hms)

theorem trialFrom_complete {q : Nat} (hq : q.Prime) : ∀ (fuel d : Nat), 2 ≤ d →
    q < (d + fuel) * (d + fuel) → trialFrom q (fuel + 1) d = true
  | 0, d, _, h => by rw [trialFrom, Nat.blt_eq.mpr (show q < d * d from h)]; rfl
  | fuel + 1, d, hd, h => by
    rw [trialFrom]
    cases h1 : Nat.blt q (d * d) with
    | true => rfl
    | false =>
      have hdq : d * d ≤ q := Nat.not_lt.mp fun hlt => by rw [Nat.blt_eq.mpr hlt] at h1; cases h1
      have hnd : ¬ d ∣ q := fun hdvd => by
        have := Nat.mul_le_mul_left d hd
        rcases (Nat.dvd_prime hq).mp hdvd with h | h <;> omega
      rw [cond_false, (nat_beq_false _ _).mpr fun h0 => hnd (Nat.dvd_of_mod_eq_zero h0), cond_false]
      exact trialFrom_complete hq fuel (d + 1) (by omega) (by rwa [Nat.add_right_comm, Nat.add_assoc])

theorem smallPrime_iff {q : Nat} (hq : q < 257 * 257) : smallPrime q = true ↔ q.Prime :=
  ⟨smallPrime_sound, fun hp => by
    rw [smallPrime, Bool.and_eq_true]
    exact ⟨Nat.ble_eq_true_of_le hp.two_le, trialFrom_complete hp 255 2 (le_refl 2) hq⟩⟩

/-- `powModAux` (Model/Basic.lean) with `Bool` tests: the same function, about five times fewer
kernel reduction steps per squaring. -/
def powModKAux (m : Nat) : Nat → Nat → Nat → Nat → Nat
  | 0, _, _, acc => acc
  | fuel + 1, b, e, acc =>
    bif Nat.beq e 0 then acc
    else powModKAux m fuel (b * b % m) (e / 2) (bif Nat.beq (e % 2) 1 then acc * b % m else acc)

def powModK (b e m : Nat) : Nat := powModKAux m (bitLength e) (b % m) e (1 % m)

theorem powModKAux_eq (m : Nat) : ∀ fuel b e acc, powModKAux m fuel b e acc = powModAux m fuel b e acc
  | 0, _, _, _ => rfl
  | fuel + 1, b, e, acc => by
    simp only [powModKAux, powModAux, Bool.cond_eq_ite, Nat.beq_eq, powModKAux_eq m fuel]

theorem powModK_eq (b e m : Nat) (hm : 0 < m) : powModK b e m = b ^ e % m := by
  rw [← powMod_eq b e m hm, powModK, powMod, powModKAux_eq]

/-- one Lucas step: the claimed prime, a primitive root, the factorisation of `p - 1`. -/
structure Step where
  p : Nat
  a : Nat
  fs : List (Nat × Nat)
  deriving Repr, DecidableEq

def prodPow : List (Nat × Nat) → Nat
  | [] => 1
  | (r, k) :: l => r ^ k * prodPow l

theorem dvd_prodPow {q : Nat} (hq : q.Prime) : ∀ {fs : List (Nat × Nat)}, q ∣ prodPow fs →
    ∃ rk ∈ fs, q ∣ rk.1
  | [], h => by
    rw [prodPow, Nat.dvd_one] at h
    exact absurd h hq.one_lt.ne'
  | (r, k) :: l, h => by
    rw [prodPow] at h
    rcases (Nat.Prime.dvd_mul hq).mp h with h1 | h1
    · exact ⟨(r, k), List.mem_cons_self, hq.dvd_of_dvd_pow h1⟩
    · obtain ⟨rk, hm, hd⟩ := dvd_prodPow hq h1
      exact ⟨rk, List.mem_cons_of_mem _ hm, hd⟩

/-- the check of one step against the primes certified so far. -/
def stepOK (known : List Nat) (s : Step) : Bool :=
  Nat.ble 2 s.p && Nat.beq (prodPow s.fs) (s.p - 1) && Nat.beq (powModK s.a (s.p - 1) s.p) 1 &&
    s.fs.all fun rk => (smallPrime rk.1 || known.contains rk.1) &&
      !Nat.beq (powModK s.a ((s.p - 1) / rk.1) s.p) 1

theorem lucas_nat {p a : Nat} (hp : 2 ≤ p) (h1 : a ^ (p - 1) % p = 1)
    (hq : ∀ q, q.Prime → q ∣ p - 1 → a ^ ((p - 1) / q) % p ≠ 1) : p.Prime := by
  have e : ∀ k, (a : ZMod p) ^ k = 1 ↔ a ^ k % p = 1 := fun k => by
    rw [← Nat.cast_pow, ← Nat.cast_one (R := ZMod p), ZMod.natCast_eq_natCast_iff',
      Nat.mod_eq_of_lt (by omega : 1 < p)]
  exact lucas_primality p a ((e _).mpr h1) fun q hq' hd => mt (e _).mp (hq q hq' hd)

theorem stepOK_sound {known : List Nat} (hk : ∀ q ∈ known, q.Prime) {s : Step}
    (h : stepOK known s = true) : s.p.Prime := by
  simp only [stepOK, Bool.and_eq_true, List.all_eq_true, Bool.or_eq_true, List.contains_iff_mem,
    Nat.beq_eq, Nat.ble_eq, Bool.not_eq_true', nat_beq_false] at h
  obtain ⟨⟨⟨h2, hprod⟩, hone⟩, hall⟩ := h
  rw [powModK_eq _ _ _ (by omega)] at hone
  refine lucas_nat h2 hone fun q hq hdvd => ?_
  rw [← hprod] at hdvd
  obtain ⟨rk, hmem, hqr⟩ := dvd_prodPow hq hdvd
  obtain ⟨hpr, hne⟩ := hall rk hmem
  have hrp : rk.1.Prime := hpr.elim smallPrime_sound (hk _)
  rwa [(Nat.prime_dvd_prime_iff_eq hq hrp).mp hqr, ← powModK_eq _ _ _ (by omega)]

/-- check a chain of steps, each allowed to use the primes of the steps before it. -/
def chainOK (known : List Nat) : List Step → Bool
  | [] => true
  | s :: l => stepOK known s && chainOK (s.p :: known) l

theorem chainOK_sound : ∀ {known : List Nat} {l : List Step}, (∀ q ∈ known, q.Prime) →
    chainOK known l = true → ∀ s ∈ l, s.p.Prime
  | _, [], _, _, s, hs => by cases hs
  | known, s :: l, hk, h, t, ht => by
    rw [chainOK, Bool.and_eq_true] at h
    have hs := stepOK_sound hk h.1
    rcases List.mem_cons.mp ht with rfl | ht
    · exact hs
    · refine chainOK_sound (known := s.p :: known) ?_ h.2 t ht
      intro q hq
      rcases List.mem_cons.mp hq with rfl | hq
      · exact hs
      · exact hk q hq

/-- a Pratt certificate for `p`: a chain of Lucas steps, one of which is about `p`. -/
structure Cert where
  p : Nat
  chain : List Step
  deriving Repr

def prattCheck (c : Cert) : Bool :=
  chainOK [] c.chain && c.chain.any fun s => s.p == c.p

theorem prattCheck_sound (c : Cert) (h : prattCheck c = true) : Nat.Prime c.p := by
  simp only [prattCheck, Bool.and_eq_true, List.any_eq_true, beq_iff_eq] at h
  obtain ⟨hc, s, hs, heq⟩ := h
  exact heq ▸ chainOK_sound (by simp) hc s hs

/-- the form in which a certificate is quoted: it is about the stated number. -/
theorem prime_of_cert (c : Cert) (q : Nat) (h : (prattCheck c && c.p == q) = true) : Nat.Prime q := by
  rw [Bool.and_eq_true, beq_iff_eq] at h
  exact h.2 ▸ prattCheck_sound c h.1

/-! ### the same check arranged for evaluation by the kernel

The kernel computes `^`, `*`, `%`, `/` and `gcd` of literals with GMP, whereas every round of a
recursion costs it some hundred reduction steps whatever the size of the numbers: so the
exponentiation consumes eight bits of the exponent per round, and trial division above 256 is
one `gcd` with `256!`. (`Nat.mul a b` instead of `a * b` in the loop saves it the unfolding of
three instances per operation, 40 % of a round.) -/

/-- `b ^ e % m` digit by digit in base 256, most significant digit first. -/
def powMod256 (m b : Nat) : Nat → Nat → Nat
  | 0, _ => 1 % m
  | fuel + 1, e =>
    bif Nat.beq e 0 then 1 % m
    else Nat.mod (Nat.mul (Nat.pow (powMod256 m b fuel (Nat.div e 256)) 256)
      (Nat.pow b (Nat.mod e 256))) m

theorem powMod256_eq (m b : Nat) : ∀ fuel e, e < 2 ^ fuel → powMod256 m b fuel e = b ^ e % m
  | 0, e, h => by
    obtain rfl : e = 0 := by simpa using h
    rfl
  | fuel + 1, e, h => by
    rw [powMod256]
    show (bif Nat.beq e 0 then 1 % m else powMod256 m b fuel (e / 256) ^ 256 * b ^ (e % 256) % m) = _
    cases he : Nat.beq e 0 with
    | true => rw [Nat.eq_of_beq_eq_true he]; rfl
    | false =>
      rw [cond_false, powMod256_eq m b fuel (e / 256) (by rw [Nat.pow_succ] at h; omega),
        Nat.mul_mod, ← Nat.pow_mod, ← Nat.mul_mod, ← Nat.pow_mul, ← Nat.pow_add, Nat.div_add_mod']

/-- the exponent serves as its own fuel: the kernel takes a literal apart only as far as the
recursion goes, and no bit length has to be computed. -/
def powModFast (b e m : Nat) : Nat := powMod256 m b e e

theorem powModFast_eq (b e m : Nat) : powModFast b e m = b ^ e % m :=
  powMod256_eq m b e e Nat.lt_two_pow_self

/-- `smallPrime` with the divisors `2 … 256` tried all at once when `q` exceeds them. -/
def smallPrimeGcd (q : Nat) : Bool :=
  bif Nat.ble q 256 then smallPrime q
  else Nat.blt q (257 * 257) && Nat.beq (Nat.gcd q (Nat.factorial 256)) 1

theorem smallPrime_of_gcd {q : Nat} (h : smallPrimeGcd q = true) : smallPrime q = true := by
  rw [smallPrimeGcd] at h
  cases hq : Nat.ble q 256 with
  | true => rwa [hq] at h
  | false =>
    rw [hq, cond_false, Bool.and_eq_true, Nat.blt_eq, Nat.beq_eq] at h
    have h256 : 256 < q := Nat.not_le.mp fun hle => by rw [Nat.ble_eq_true_of_le hle] at hq; cases hq
    refine (smallPrime_iff h.1).mpr (Nat.prime_def_le_sqrt.mpr ⟨by omega, fun m hm2 hms hdvd => ?_⟩)
    have hm : m < 257 := Nat.mul_self_lt_mul_self_iff.mp (Nat.lt_of_le_of_lt (Nat.le_sqrt.mp hms) h.1)
    have := Nat.dvd_gcd hdvd (Nat.dvd_factorial (by omega) (Nat.le_of_lt_succ hm))
    rw [h.2, Nat.dvd_one] at this
    omega

def stepOKFast (known : List Nat) (s : Step) : Bool :=
  Nat.ble 2 s.p && Nat.beq (prodPow s.fs) (s.p - 1) && Nat.beq (powModFast s.a (s.p - 1) s.p) 1 &&
    s.fs.all fun rk => (smallPrimeGcd rk.1 || known.contains rk.1) &&
      !Nat.beq (powModFast s.a ((s.p - 1) / rk.1) s.p) 1

theorem stepOK_of_fast {known : List Nat} {s : Step} (h : stepOKFast known s = true) :
    stepOK known s = true := by
  simp only [stepOKFast, powModFast_eq, Bool.and_eq_true, List.all_eq_true, Bool.or_eq_true,
    Nat.ble_eq] at h
  have hp : 0 < s.p := by omega
  simp only [stepOK, powModK_eq _ _ _ hp, Bool.and_eq_true, List.all_eq_true, Bool.or_eq_true,
    Nat.ble_eq]
  exact ⟨h.1, fun rk hrk => ⟨(h.2 rk hrk).1.imp_left smallPrime_of_gcd, (h.2 rk hrk).2⟩⟩

def chainOKFast (known : List Nat) : List Step → Bool
  | [] => true
  | s :: l => stepOKFast known s && chainOKFast (s.p :: known) l

theorem chainOK_of_fast : ∀ {known : List Nat} {l : List Step}, chainOKFast known l = true →
    chainOK known l = true
  | _, [], _ => rfl
  | _, s :: l, h => by
    rw [chainOKFast, Bool.and_eq_true] at h
    rw [chainOK, stepOK_of_fast h.1, chainOK_of_fast h.2]; rfl

def prattCheckFast (c : Cert) : Bool :=
  chainOKFast [] c.chain && c.chain.any fun s => s.p == c.p

theorem prattCheck_of_fast {c : Cert} (h : prattCheckFast c = true) : prattCheck c = true := by
  rw [prattCheckFast, Bool.and_eq_true] at h
  rw [prattCheck, chainOK_of_fast h.1, h.2]; rfl

theorem prime_of_fastCert (c : Cert) (q : Nat) (h : (prattCheckFast c && c.p == q) = true) :
    Nat.Prime q := by
  rw [Bool.and_eq_true] at h
  exact prime_of_cert c q (by rw [prattCheck_of_fast h.1, h.2]; rfl)

/-! non-vacuity / regression: a good certificate, and bad ones that must be rejected -/

example : prattCheck ⟨65537, [⟨65537, 3, [(2, 16)]⟩]⟩ = true := by decide +kernel
example : prattCheck ⟨1000003, [⟨1000003, 2, [(2, 1), (3, 1), (166667, 1)]⟩]⟩ = false := by
  decide +kernel   -- 166667 is neither small nor certified
example : prattCheck ⟨1000003, [⟨166667, 2, [(2, 1), (167, 1), (499, 1)]⟩,
    ⟨1000003, 2, [(2, 1), (3, 1), (166667, 1)]⟩]⟩ = true := by decide +kernel
example : prattCheck ⟨561, [⟨561, 2, [(2, 4), (5, 1), (7, 1)]⟩]⟩ = false := by decide +kernel
example : smallPrime 65521 = true ∧ smallPrime 65535 = false ∧ smallPrime 1 = false ∧
    smallPrime 2 = true ∧ smallPrime 65537 = true ∧ smallPrime 66049 = false ∧
    smallPrime 1000003 = false := by decide +kernel

end Paranoid.Pratt
