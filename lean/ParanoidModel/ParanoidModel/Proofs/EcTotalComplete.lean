/-
Proofs/EcTotalComplete.lean — C10 / C02 for `CheckWeakECPrivateKey` WITHOUT the hypothesis that the
OTHER keys of the batch are on the curve (`extendedBatchDLB_complete_any`, Proofs/BsgsExt):
the discrete-log searches treat every point independently (`BatchDL`: one `BatchAddX(p, list_c)` scan
per point; `ExtendedBatchDL`: one `Multiply(point, inverse)` per point and multiplier), so what is
proved about an on-curve (and reduced) key holds whatever its neighbours are — off the curve,
unreduced, `(0,0)`, coordinates `≥ p`.

Still needed (and true of every state earlier calls can leave): the cached table is a table
(`StateOK` / `TableIs`) — completeness reads it.
-/
import ParanoidModel.Proofs.BsgsCheckLoop
namespace Paranoid.Bsgs
open Paranoid Paranoid.Ec WeierstrassCurve

/-- `WeakKeyOK` for a key that need not be on the curve: result and attached `DISCRETE_LOG` go
together; IF the key is on the curve, the two C02 / C10 clauses of `WeakKeyOK` hold for it. -/
def WeakKeyOK' (c : Curve) (hp : Nat.Prime c.p) (P : Pt) (kv : KV) : Prop :=
  haveI : Fact (Nat.Prime c.p) := ⟨hp⟩
  (kv = ⟨false, none⟩ ∨ ∃ v, kv = ⟨true, some (.dlog v)⟩) ∧
  (onCurve c P = true →
    (∀ v, kv.info = some (.dlog v) → c.n • toPoint c P = 0 → v • Gp c = toPoint c P) ∧
    (∀ d i : Nat, Reduced c P → toPoint c P = d • Gp c → i < 2 ^ 32 → StructuredKey c d i →
      ∃ v : Int, kv = ⟨true, some (.dlog v)⟩ ∧ v • Gp c = toPoint c P ∧
        (Nat.Prime c.n → (v - d) % (c.n : Int) = 0)))

/-- `WeakKeyOK'` with `ExtendedBatchDL`'s literal `2**32` as the parameter `bound`
(`WeakKeyOK' c hp = WeakKeyOKB c hp (2 ^ 32)` by unfolding). -/
def WeakKeyOKB (c : Curve) (hp : Nat.Prime c.p) (bound : Nat) (P : Pt) (kv : KV) : Prop :=
  haveI : Fact (Nat.Prime c.p) := ⟨hp⟩
  (kv = ⟨false, none⟩ ∨ ∃ v, kv = ⟨true, some (.dlog v)⟩) ∧
  (onCurve c P = true →
    (∀ v, kv.info = some (.dlog v) → c.n • toPoint c P = 0 → v • Gp c = toPoint c P) ∧
    (∀ d i : Nat, Reduced c P → toPoint c P = d • Gp c → i < bound → StructuredKey c d i →
      ∃ v : Int, kv = ⟨true, some (.dlog v)⟩ ∧ v • Gp c = toPoint c P ∧
        (Nat.Prime c.n → (v - d) % (c.n : Int) = 0)))

/-- one curve's batch of CheckWeakECPrivateKey, ANY keys in the group, any bound. -/
theorem weakGroupB_spec_any (c : Curve) (hc : CurveHyp c) (bound : Nat) (st : EcState)
    (hst : TableIs c st) (points : List Pt) (ts m : Nat) (hts : 1 ≤ ts) (hm : 1 ≤ m) :
    ∃ dls st', extendedBatchDLB listImpl c bound st points ts m = .ok (dls, st') ∧ TableIs c st' ∧
      dls.length = points.length ∧
      ∀ (r : Nat) (P : Pt) (x : Option Int), points[r]? = some P → dls[r]? = some x →
        WeakKeyOKB c hc.prime bound P (dlogVerdict x) := by
  haveI : Fact (Nat.Prime c.p) := ⟨hc.prime⟩
  obtain ⟨h1, h2, _, h4, _, h6⟩ := generator_of_paramsOK c hc.params
  obtain ⟨h7, h8⟩ := reduced_of_paramsOK c hc.params
  obtain ⟨V, hV⟩ := stateOK_of_tableIs c h1 h2 hst
  obtain ⟨res, st', e1, _, _, e4, e5, e6⟩ := extendedBatchDLB_complete_any c h1 h2 h7 h8 h4
    (multipliersOK_of_b hc.mults) bound st V hV points ts m hts (fun _ => hm)
  refine ⟨res, st', e1, (extendedBatchDLB_tableIs c bound hst e1).1, e4, fun r P x hP hx => ?_⟩
  rcases dlogVerdict_cases x with ⟨h, rfl⟩ | ⟨v, h, rfl⟩
  · refine ⟨.inl h, fun hon => ⟨fun v hv => (by rw [h] at hv; cases hv), fun d i hPr hPd hi hform => ?_⟩⟩
    -- a structured key is found: the answer cannot be `None`
    obtain ⟨mu, hmem, hd⟩ := hform.mult
    obtain ⟨v, hv1, _⟩ := e6 r P d i mu hP hon hPr hPd hmem hd hi
    rw [hx] at hv1
    cases hv1
  · refine ⟨.inr ⟨v, h⟩, fun hon => ⟨fun v' hv hN => ?_, fun d i _ hPd _ _ => ?_⟩⟩
    · rw [h] at hv
      cases hv
      exact e5 r P v hP hon hN hx
    · have hv2 : v • Gp c = toPoint c P :=
        e5 r P v hP hon (by rw [hPd, smul_comm, h4, nsmul_zero]) hx
      exact ⟨v, h, hv2, fun hn => dlog_emod c (h6 hn) (by rw [hv2, hPd, natCast_zsmul])⟩

/-- hypotheses of a CheckWeakECPrivateKey call WITHOUT any condition on the keys: valid curve
objects, reachable `_table` states, float oracles `≥ 1` for the non-empty groups. -/
def WKHyp' (keys : List ECKey) : Factory → List EcState → List (Nat × Nat) → Prop
  | e :: es, st :: sts, o :: os =>
    (∀ c, e.curve = some c → CurveHyp c ∧ TableIs c st ∧
      (groupPoints e.id keys ≠ [] → 1 ≤ o.1 ∧ 1 ≤ o.2)) ∧ WKHyp' keys es sts os
  | [], [], [] => True
  | _, _, _ => False

theorem wkHyp'_iff {keys : List ECKey} {f : Factory} {sts : List EcState} {os : List (Nat × Nat)} :
    WKHyp' keys f sts os ↔ Forall₃ (fun e st o => ∀ c, e.curve = some c → CurveHyp c ∧ TableIs c st ∧
      (groupPoints e.id keys ≠ [] → 1 ≤ o.1 ∧ 1 ≤ o.2)) f sts os := by
  induction f generalizing sts os <;> cases sts <;> cases os <;> simp only [WKHyp', Forall₃, *]

theorem WKHyp.weaken {keys : List ECKey} {f : Factory} {sts : List EcState} {os : List (Nat × Nat)}
    (h : WKHyp keys f sts os) : WKHyp' keys f sts os :=
  wkHyp'_iff.mpr ((wkHyp_iff.mp h).imp fun _ _ _ h c hc => ⟨(h c hc).1, (h c hc).2.1, (h c hc).2.2.2⟩)

theorem WKHyp.onCurve {keys : List ECKey} {f : Factory} {sts : List EcState} {os : List (Nat × Nat)}
    (h : WKHyp keys f sts os) {p : Nat} {k : ECKey} {c : Curve} (hk : keys[p]? = some k)
    (hg : factoryGet f k.curveType = some c) : onCurve c k.pt = true := by
  obtain ⟨e, he, hid, hcur⟩ := factoryGet_mem hg
  obtain ⟨_, _, _, he'⟩ := (wkHyp_iff.mp h).exists_of_mem e he
  exact (he' c hcur).2.2.1 _ (mem_groupPoints_iff.mpr ⟨k, List.mem_of_getElem? hk, hid.symm, rfl⟩)

theorem wkHyp'_of (keys : List ECKey) : ∀ (f : Factory) (sts : List EcState) (os : List (Nat × Nat)),
    FactoryHyp f → StatesOK f sts →
    List.Forall₂ (fun (e : FEntry) (x : Nat × Nat) =>
      groupPoints e.id keys ≠ [] → 1 ≤ x.1 ∧ 1 ≤ x.2) f os →
    WKHyp' keys f sts os :=
  fun f _ _ hf hst hos => wkHyp'_iff.mpr
    ((Forall₃.of_forall₂ (statesOK_iff.mp hst) hos).imp_of_mem fun e _ _ he h c hc =>
      ⟨hf e he c hc, h.1 c hc, h.2⟩)

/-- **CheckWeakECPrivateKey, every batch, every bound** (the loop with `ExtendedBatchDL`'s `2**32` as
`bound`). With valid curve objects and reachable
tables — and NOTHING assumed about the keys — the check returns one slot per key, no entry for keys
on unknown curves, and for every key on a known curve an entry satisfying `WeakKeyOKB`. -/
theorem weakKeyLoop_spec_any (bound : Nat) (f : Factory) (sts : List EcState)
    (orc : List (Nat × Nat)) (keys : List ECKey) (hnd : (f.map (·.id)).Nodup)
    (hh : WKHyp' keys f sts orc) :
    ∃ res sts', genLoop keys (weakStep listImpl bound keys) f sts orc (List.replicate keys.length none) =
        .ok (res, sts') ∧
      StatesOK f sts' ∧ RowShape f keys res ∧
      ∀ (p : Nat) (k : ECKey) (c : Curve), keys[p]? = some k → factoryGet f k.curveType = some c →
        ∃ kv hp, res[p]? = some (some kv) ∧ WeakKeyOKB c hp bound k.pt kv := by
  obtain ⟨res, sts', h1, h2, h3, h4⟩ := genCheck_spec keys (weakStep listImpl bound keys) TableIs
    (fun _ c _ _ _ k kv => ∃ hp, WeakKeyOKB c hp bound k.pt kv) f sts orc hnd
    ((wkHyp'_iff.mp hh).imp fun e st o he c hcur => by
      obtain ⟨hch, hst, horc⟩ := he c hcur
      exact weakStep_stepOK hst fun hne => by
        obtain ⟨dls, st', e1, e2, e3, e4⟩ := weakGroupB_spec_any c hch bound st hst
          (groupPoints e.id keys) o.1 o.2 (horc hne).1 (horc hne).2
        exact ⟨dls, st', e1, e2, e3, fun rk p k x _ hP hx => ⟨hch.prime, e4 rk k.pt x hP hx⟩⟩)
  refine ⟨res, sts', h1, statesOK_iff.mpr h2, h3, fun p k c hk hg => ?_⟩
  obtain ⟨e, he, hid, hcur⟩ := factoryGet_mem hg
  obtain ⟨_, _, kv, _, hkv, hp, hq⟩ := h4 p k e c hk he hid hcur
  exact ⟨kv, hp, hkv, hq⟩

/-- ★ **CheckWeakECPrivateKey, every batch.** With valid curve objects and reachable tables — and
NOTHING assumed about the keys — the check returns one slot per key, no entry for keys on unknown
curves, and for every key on a known curve an entry satisfying `WeakKeyOK'`: if THAT key is on its
curve, a recorded `DISCRETE_LOG` is a log of it (given `n • P = ∞`), and if it is moreover reduced
with a structured private key it is flagged with that key — whatever the other keys of the batch
are. -/
theorem checkWeakECPrivateKey_spec_any (f : Factory) (sts : List EcState) (orc : List (Nat × Nat))
    (keys : List ECKey) (hnd : (f.map (·.id)).Nodup) (hh : WKHyp' keys f sts orc) :
    ∃ res sts', checkWeakECPrivateKey f sts orc keys = .ok (res, sts') ∧ res.length = keys.length ∧
      StatesOK f sts' ∧
      (∀ (p : Nat) (k : ECKey), keys[p]? = some k → factoryGet f k.curveType = none →
        res[p]? = some none) ∧
      (∀ (p : Nat) (k : ECKey) (c : Curve), keys[p]? = some k → factoryGet f k.curveType = some c →
        ∃ kv hp, res[p]? = some (some kv) ∧ WeakKeyOK' c hp k.pt kv) := by
  obtain ⟨res, sts', h1, h2, h3, h4⟩ := weakKeyLoop_spec_any (2 ^ 32) f sts orc keys hnd hh
  exact ⟨res, sts', by rw [checkWeakECPrivateKey, checkWeakECPrivateKeyG, weakKeyLoop_eq_gen]; exact h1,
    h3.1, h2, h3.2.1, h4⟩

end Paranoid.Bsgs
