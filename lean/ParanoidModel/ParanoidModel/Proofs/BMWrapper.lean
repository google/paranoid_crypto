/-
Proofs/BMWrapper.lean — the glue between the Python wrapper `berlekamp_massey.LinearComplexity`
and the word-level C++ model: `int.to_bytes(size, "little")` (`bytesOfNat`), its round trip with
`int.from_bytes(·, "little")` (`natOfBytes`) for ALL lengths, and `LfsrLengthStr` of either variant
on the bytes of an integer (the Boolean checks of Proofs/BMCppBounded.lean hold for every input).
-/
import ParanoidModel.Model.BMWrapper
import ParanoidModel.Proofs.BMCppClmul
import ParanoidModel.Proofs.BMCppBounded
namespace Paranoid.BMCpp
open Paranoid

theorem length_bytesOfNat : ∀ (k s : Nat), (bytesOfNat k s).length = k
  | 0, _ => rfl
  | k + 1, s => by simp [bytesOfNat, length_bytesOfNat k]

theorem toUInt8_toNat_mod (s : Nat) : (s % 256).toUInt8.toNat = s % 256 := by
  simp [Nat.toUInt8, UInt8.toNat_ofNat']

/-- `int.from_bytes(int.to_bytes(s mod 256^k, k, "little"), "little") = s mod 256^k`. -/
theorem natOfBytes_bytesOfNat_mod : ∀ (k s : Nat), natOfBytes (bytesOfNat k s) = s % 256 ^ k
  | 0, s => by simp [bytesOfNat, natOfBytes, Nat.mod_one]
  | k + 1, s => by
    rw [bytesOfNat, natOfBytes, natOfBytes_bytesOfNat_mod k, toUInt8_toNat_mod, Nat.pow_succ,
      Nat.mul_comm (256 ^ k) 256, Nat.mod_mul]

/-- the round trip: for `s < 256^k` (exactly when `to_bytes` does not raise OverflowError). -/
theorem natOfBytes_bytesOfNat (k s : Nat) (h : s < 256 ^ k) : natOfBytes (bytesOfNat k s) = s := by
  rw [natOfBytes_bytesOfNat_mod, Nat.mod_eq_of_lt h]

theorem bytesOfNat_natOfBytes : ∀ seq : List UInt8, bytesOfNat seq.length (natOfBytes seq) = seq
  | [] => rfl
  | b :: bs => by
    have hb : b.toNat < 256 := b.toNat_lt
    have h1 : (b.toNat + 256 * natOfBytes bs) % 256 = b.toNat := by omega
    have h2 : (b.toNat + 256 * natOfBytes bs) / 256 = natOfBytes bs := by omega
    rw [List.length_cons, natOfBytes, bytesOfNat, h1, h2, bytesOfNat_natOfBytes bs]
    congr 1
    apply UInt8.toNat_inj.mp
    simp [Nat.toUInt8]

theorem natOfBytes_lt_pow256 (seq : List UInt8) : natOfBytes seq < 256 ^ seq.length := by
  have := natOfBytes_lt seq
  rwa [Nat.pow_mul, show (2 : Nat) ^ 8 = 256 from rfl] at this

@[simp] theorem bytesLE_eq_bytesOfNat : ∀ (k s : Nat), bytesLE k s = bytesOfNat k s
  | 0, _ => rfl
  | k + 1, s => by rw [bytesLE, bytesOfNat, bytesLE_eq_bytesOfNat k]

/-- For EVERY `s` and `len`, no size condition: `to_bytes` with `(len + 7) / 8` bytes keeps the
bits below `8 * ((len + 7) / 8) ≥ len`, and `bmLength` reads only those below `len`. -/
theorem agreeOn_eq_true (v : Variant) (s len : Nat) : agreeOn v s len = true := by
  have h8 : len ≤ 8 * ((len + 7) / 8) := by omega
  have hn : ¬ ((len : Int) < 0 ∨ 8 * ((bytesOfNat ((len + 7) / 8) s).length : Int) < len) := by
    rw [length_bytesOfNat]; omega
  rw [agreeOn, beq_iff_eq, lfsrLengthStr, lfsrLength, if_neg hn, Int.toNat_natCast,
    lfsrLengthImpl_wordsOfBytes v _ len (by rw [length_bytesOfNat]; exact h8),
    natOfBytes_bytesOfNat_mod, show (256 : Nat) = 2 ^ 8 from rfl, ← Nat.pow_mul,
    bmLength_mod_two_pow h8]
  rfl

theorem cppAgreeLen_eq_true (len : Nat) : cppAgreeLen len = true := by
  simp only [cppAgreeLen, agreeOn_eq_true, Bool.and_self, List.all_eq_true, implies_true]

theorem cppAgreeUpTo_eq_true (N : Nat) : cppAgreeUpTo N = true := by
  simp only [cppAgreeUpTo, cppAgreeLen_eq_true, List.all_eq_true, implies_true]

theorem cppAgreeBoundary_eq_true : cppAgreeBoundary = true := by
  simp only [cppAgreeBoundary, cppAgreeBoundaryLen, agreeOn_eq_true, Bool.and_self,
    List.all_eq_true, implies_true]

end Paranoid.BMCpp
