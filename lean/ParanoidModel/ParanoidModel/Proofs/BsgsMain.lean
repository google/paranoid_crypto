/-
Proofs/BsgsMain.lean — BatchDL as a method on the state. Totality needs nothing of the cached state
or of the points (`batchDL_spec`, `batchDL_total_any`); the table invariant `StateOK` is what
completeness reads (weak: some true log; exact: the planted log when nothing can wrap around), point
by point (`batchDL_complete_any`), hence for lists of on-curve points (`batchDL_complete`).
-/
import ParanoidModel.Proofs.BsgsComplete
namespace Paranoid.Bsgs
open Paranoid Paranoid.Ec WeierstrassCurve

section group
variable (c : Curve) [hp : Fact (Nat.Prime c.p)]

/-- the state invariant: `_table` answers like a table of the multiples `0 … _table_size - 1` of `G`
(values `< V`). The fresh state satisfies it with `V = 0`. -/
def StateOK (st : EcState) (V : Nat) : Prop := TableOK c st.table.get? st.tableSize V

theorem stateOK_init : StateOK c (StateG.init listImpl) 0 :=
  ⟨fun k v h => by simp [StateG.init, listImpl, XTable.get?] at h, fun v hv => by
    simp [StateG.init] at hv⟩

/-- number of multiples stored by `PointTable(g, size)` with split `m`: `ceil(size/m)·m`. -/
def tableRange (size m : Nat) : Nat := (size + m - 1) / m * m

/-- value bound of the table after `ensureTable`. -/
def rangeAfter (st : EcState) (V size m : Nat) : Nat :=
  if size > st.tableSize then tableRange size m else V

/-- the table update: it returns when the split is `≥ 1` where a table is built (no condition on the
cached state), and it keeps the state invariant. -/
theorem ensureTable_spec (hc : c.Good) (hG : onCurve c c.g = true) (st : EcState) (size m : Nat)
    (hm : st.tableSize < size → 1 ≤ m) :
    ∃ st', ensureTableG listImpl c st size m = .ok st' ∧ st'.tableSize = max st.tableSize size ∧
      (size ≤ st.tableSize → st' = st) ∧
      ∀ V, StateOK c st V → StateOK c st' (rangeAfter st V size m) := by
  unfold ensureTableG rangeAfter
  by_cases h : size > st.tableSize
  · rw [if_pos h, pointTableG_list]
    obtain ⟨t, ht1, hle, ht2, ht3⟩ := pointTable_spec c hc c.g hG size m (by omega) (hm h)
    rw [ht1]
    exact ⟨⟨size, t⟩, rfl, by simp; omega, fun h' => by omega,
      fun V _ => by rw [if_pos h]; exact ⟨ht2, fun v hv => ht3 v (Nat.lt_of_lt_of_le hv hle)⟩⟩
  · exact ⟨st, by rw [if_neg h], by omega, fun _ => rfl, fun V hst => by rw [if_neg h]; exact hst⟩

/-- **BatchDL soundness** (C02), for every state (also one violating the invariant), every bound,
every value of the float oracles and every point list: every recorded value is a log of its point. -/
theorem batchDL_sound (hc : c.Good) (hG : onCurve c c.g = true) (st : EcState) (points : List Pt)
    (n ts m : Nat) (res : List (Option Int)) (st' : EcState)
    (h : batchDL c st points n ts m = .ok (res, st')) :
    List.Forall₂ (fun P r => ∀ v, r = some v → v • Gp c = toPoint c P) points res :=
  let ⟨_, _, hall⟩ := batchDLCore_ok c hc hG (batchDLG_ok.mp h).2
  hall.imp fun _ _ h => h.sound

/-- **BatchDL**, ANY state, ANY points (off the curve, unreduced), `ts ≥ 1`: it returns; the state is the
one after the table update; every point is answered as `DlAns` says, with the dict of that state. -/
theorem batchDL_spec (hc : c.Good) (hG : onCurve c c.g = true) (hGr : Reduced c c.g)
    (st : EcState) (points : List Pt) (n ts m : Nat) (hts : 1 ≤ ts)
    (hm : st.tableSize < ts → 1 ≤ m) :
    ∃ res st' listC, batchDL c st points n ts m = .ok (res, st') ∧
      ensureTableG listImpl c st ts m = .ok st' ∧
      ListCOK c (2 * (ts : Int) - 1) (2 + n / (2 * ts - 1)) listC ∧
      List.Forall₂ (DlAns c st'.table.get? (2 * (ts : Int) - 1) listC) points res := by
  obtain ⟨st', h1, _⟩ := ensureTable_spec c hc hG st ts m hm
  obtain ⟨res, hres⟩ := batchDLCore_total c hc hG hGr st'.table.get? points n ts hts
  obtain ⟨listC, hl, hall⟩ := batchDLCore_ok c hc hG hres
  exact ⟨res, st', listC, batchDLG_ok.mpr ⟨h1, hres⟩, h1, hl hGr hts, hall⟩

theorem batchDL_total_any (hc : c.Good) (hG : onCurve c c.g = true) (hGr : Reduced c c.g)
    (st : EcState) (points : List Pt) (n ts m : Nat) (hts : 1 ≤ ts)
    (hm : st.tableSize < ts → 1 ≤ m) :
    ∃ res st', batchDLG listImpl c st points n ts m = .ok (res, st') ∧ res.length = points.length :=
  let ⟨res, st', _, h, _, _, hall⟩ := batchDL_spec c hc hG hGr st points n ts m hts hm
  ⟨res, st', h, hall.length_eq.symm⟩

/-- `batchDL_complete` below, for ANY list of points: the statement about an entry needs only THAT
point on the curve, whatever its neighbours are. -/
theorem batchDL_complete_any (hc : c.Good) (hG : onCurve c c.g = true) (hGr : Reduced c c.g)
    (st : EcState) (V : Nat) (hst : StateOK c st V) (points : List Pt)
    (n ts m : Nat) (hts : 1 ≤ ts) (hm : st.tableSize < ts → 1 ≤ m) :
    ∃ res st', batchDL c st points n ts m = .ok (res, st') ∧
      StateOK c st' (rangeAfter st V ts m) ∧ st'.tableSize = max st.tableSize ts ∧
      (ts ≤ st.tableSize → st' = st) ∧
      List.Forall₂ (fun P r => ∀ x : Nat, onCurve c P = true → Reduced c P → x < n →
        toPoint c P = x • Gp c →
        ∃ v : Int, r = some v ∧ v • Gp c = toPoint c P ∧
          (addOrderOf (Gp c) = c.n → 2 * n + (2 * ts - 1) + rangeAfter st V ts m ≤ c.n → v = (x : Int)))
        points res := by
  obtain ⟨res, st', listC, hrun, h1, hl, hall⟩ := batchDL_spec c hc hG hGr st points n ts m hts hm
  obtain ⟨st1, h1', hsz, hsame, hok⟩ := ensureTable_spec c hc hG st ts m hm
  rw [h1] at h1'; cases h1'
  have htab := hok V hst
  refine ⟨res, st', hrun, htab, hsz, hsame, hall.imp fun P r h x hP hPr hx hPx => ?_⟩
  obtain ⟨v, rfl⟩ := Option.isSome_iff_exists.mp
    (h.found hGr htab hts (by rw [hsz]; omega) hl hP hPr hx hPx)
  exact ⟨v, rfl, h.sound v rfl, fun hord hwrap =>
    h.exact hord htab hts (by rw [hl.length_eq, List.length_range]) hx hPx hwrap rfl⟩

/-- **BatchDL totality and completeness.** For every state satisfying the table invariant (cached
table larger OR smaller than the requested one), every requested table size `ts ≥ 1` (so: whatever
the float square root returned), every list of on-curve points: the call does not raise, the new
state satisfies the invariant with size `max(old, ts)`, and for every reduced point `P = x • G`
with `x < n` the entry is some `v` with `v • G = P`; it is `x` itself when
`2n + (2·ts - 1) + V' ≤ N` (`V'` = number of multiples in the table in use). -/
theorem batchDL_complete (hc : c.Good) (hG : onCurve c c.g = true) (hGr : Reduced c c.g)
    (st : EcState) (V : Nat) (hst : StateOK c st V) (points : List Pt)
    (hpts : ∀ P ∈ points, onCurve c P = true) (n ts m : Nat) (hts : 1 ≤ ts)
    (hm : st.tableSize < ts → 1 ≤ m) :
    ∃ res st', batchDL c st points n ts m = .ok (res, st') ∧
      StateOK c st' (rangeAfter st V ts m) ∧ st'.tableSize = max st.tableSize ts ∧
      (ts ≤ st.tableSize → st' = st) ∧
      List.Forall₂ (fun P r => ∀ x : Nat, Reduced c P → x < n → toPoint c P = x • Gp c →
        ∃ v : Int, r = some v ∧ v • Gp c = toPoint c P ∧
          (addOrderOf (Gp c) = c.n → 2 * n + (2 * ts - 1) + rangeAfter st V ts m ≤ c.n → v = (x : Int)))
        points res :=
  let ⟨res, st', h1, h2, h3, h4, h5⟩ := batchDL_complete_any c hc hG hGr st V hst points n ts m hts hm
  ⟨res, st', h1, h2, h3, h4, forall₂_imp_of_mem h5 fun P _ hP h x => h x (hpts P hP)⟩

end group
end Paranoid.Bsgs
