/-
Proofs/NTheoryTree.lean — FastProduct and ExtendedProductTree (ntheory_util.py): the product
tree invariant and the value `T = Σ_i ∏_{j≠i} u_j`.
-/
import ParanoidModel.Model.NTheory
import Mathlib.Tactic.Ring
import Mathlib.Algebra.BigOperators.Group.List.Lemmas
import Mathlib.Algebra.BigOperators.Ring.List
import Mathlib.Data.Nat.ModEq

namespace Paranoid

/-! ### pairProd / FastProduct -/

theorem pairProd_prod (l : List Nat) : (pairProd l).prod = l.prod := by
  fun_induction pairProd l with
  | case1 a b rest ih => simp only [List.prod_cons, ih]; ring
  | case2 a => simp
  | case3 => simp

theorem pairProd_ne_nil {l : List Nat} (h : l ≠ []) : pairProd l ≠ [] := by
  fun_induction pairProd l <;> simp_all

theorem pairProd_pos {l : List Nat} (h : ∀ x ∈ l, 0 < x) : ∀ x ∈ pairProd l, 0 < x := by
  fun_induction pairProd l with
  | case1 a b rest ih =>
    intro x hx
    simp only [List.mem_cons] at hx h
    rcases hx with rfl | hx
    · exact Nat.mul_pos (h a (Or.inl rfl)) (h b (Or.inr (Or.inl rfl)))
    · exact ih (fun y hy => h y (Or.inr (Or.inr hy))) x hx
  | case2 a => simpa using h
  | case3 => simp

theorem fastProduct_eq_prod (l : List Nat) : fastProduct l = l.prod := by
  fun_induction fastProduct l with
  | case1 => simp
  | case2 a => simp
  | case3 a b rest ih => rw [ih, pairProd_prod]

/-! ### the weighted sum `S v t = Σ_i t_i ∏_{j≠i} v_j` -/

def wsum : List Nat → List Nat → Nat
  | v :: vs, t :: ts => t * vs.prod + v * wsum vs ts
  | _, _ => 0

/-- `Σ_i ∏_{j≠i} u_j` — the value `T` of `ExtendedProductTree`. -/
def sumOthers : List Nat → Nat
  | [] => 0
  | a :: u => u.prod + a * sumOthers u

theorem wsum_ones (u : List Nat) : wsum u (u.map fun _ => 1) = sumOthers u := by
  induction u with
  | nil => rfl
  | cons a u ih => simp only [List.map_cons, wsum, sumOthers, ih, Nat.one_mul]

theorem pairT_length (t v : List Nat) (h : t.length = v.length) :
    (pairT t v).length = (pairProd v).length := by
  fun_induction pairT t v with
  | case1 a b ts c d vs ih =>
    simp only [List.length_cons, pairProd] at h ⊢
    rw [ih (by omega)]
  | case2 a c => simp [pairProd]
  | case3 t v h1 h2 =>
    match t, v, h with
    | [], [], _ => simp [pairProd]
    | [a], [c], _ => exact (h2 a c rfl rfl).elim
    | a :: b :: ts, c :: d :: vs, _ => exact (h1 a b ts c d vs rfl rfl).elim

/-- ★ one pairing step of `ExtendedProductTree` preserves `S` (and `pairProd_prod`: the product). -/
theorem wsum_pair (t v : List Nat) (h : t.length = v.length) :
    wsum (pairProd v) (pairT t v) = wsum v t := by
  fun_induction pairT t v with
  | case1 a b ts c d vs ih =>
    simp only [List.length_cons] at h
    simp only [pairProd, wsum, List.prod_cons, ih (by omega), pairProd_prod]
    ring
  | case2 a c => simp [pairProd, wsum]
  | case3 t v h1 h2 =>
    match t, v, h with
    | [], [], _ => simp [pairProd, wsum]
    | [a], [c], _ => exact (h2 a c rfl rfl).elim
    | a :: b :: ts, c :: d :: vs, _ => exact (h1 a b ts c d vs rfl rfl).elim

/-! ### the loop of ExtendedProductTree -/

/-- the levels appended by the loop: `pairProd values, pairProd (pairProd values), …` down to a
single node. -/
def upLevels (values : List Nat) : List (List Nat) :=
  if h : 2 ≤ values.length then pairProd values :: upLevels (pairProd values) else []
termination_by values.length
decreasing_by exact pairProd_length_lt values h

/-- all levels of the product tree, leaves first. -/
def levels (values : List Nat) : List (List Nat) := values :: upLevels values

theorem levels_of_two_le {u : List Nat} (h : 2 ≤ u.length) :
    levels u = u :: levels (pairProd u) := by
  rw [levels, upLevels, dif_pos h, levels]

theorem levels_of_lt_two {u : List Nat} (h : ¬ 2 ≤ u.length) : levels u = [u] := by
  rw [levels, upLevels, dif_neg h]

/-- the loop appends the upper levels, and ends with `t` the one-element list `[S values t]`. -/
theorem extTreeLoop_eq (values t : List Nat) (tree : List (List Nat))
    (hl : t.length = values.length) (hne : values ≠ []) :
    extTreeLoop values t tree = (tree ++ upLevels values, [wsum values t]) := by
  fun_induction extTreeLoop values t tree with
  | case1 values t tree h ih =>
    rw [ih (pairT_length t values hl) (pairProd_ne_nil hne), wsum_pair t values hl]
    conv_rhs => rw [upLevels, dif_pos h]
    simp
  | case2 values t tree h =>
    rw [upLevels, dif_neg h]
    match values, t, hl, hne, h with
    | [v], [t0], _, _, _ => simp [wsum]
    | _ :: _ :: _, _, _, _, h => simp at h

theorem extTreeLoop_nil (tree : List (List Nat)) : extTreeLoop [] [] tree = (tree, []) := by
  rw [extTreeLoop]; simp

/-- ★ `ExtendedProductTree(u)` for non-empty `u`: the tree is `levels u` and
`T = Σ_i ∏_{j≠i} u_j`. -/
theorem extendedProductTree_eq (u : List Nat) (hne : u ≠ []) :
    extendedProductTree u = .ok (levels u, sumOthers u) := by
  unfold extendedProductTree
  rw [extTreeLoop_eq u _ [u] (by simp) hne, wsum_ones]
  rfl

/-- `ExtendedProductTree([])` raises `IndexError` (`t[0]`; defect D1). -/
theorem extendedProductTree_nil : extendedProductTree [] = .error .indexError := by
  unfold extendedProductTree
  simp [extTreeLoop_nil]

/-! ### shape of the tree -/

/-- every level is the `pairProd` of the level below it. -/
def Chain : List (List Nat) → Prop
  | a :: b :: rest => b = pairProd a ∧ Chain (b :: rest)
  | _ => True

theorem levels_chain (u : List Nat) : Chain (levels u) := by
  induction h : u.length using Nat.strong_induction_on generalizing u with
  | _ n ih =>
    by_cases h2 : 2 ≤ u.length
    · rw [levels_of_two_le h2]
      have := ih _ (by rw [← h]; exact pairProd_length_lt u h2) (pairProd u) rfl
      rw [levels] at this ⊢
      exact ⟨rfl, this⟩
    · rw [levels_of_lt_two h2]; trivial

theorem levels_ne_nil (u : List Nat) : levels u ≠ [] := by simp [levels]

theorem levels_head (u : List Nat) : (levels u).head (levels_ne_nil u) = u := by simp [levels]

theorem levels_getLast (u : List Nat) (hne : u ≠ []) :
    (levels u).getLast (levels_ne_nil u) = [u.prod] := by
  induction h : u.length using Nat.strong_induction_on generalizing u with
  | _ n ih =>
    by_cases h2 : 2 ≤ u.length
    · have := ih _ (by rw [← h]; exact pairProd_length_lt u h2) (pairProd u)
        (pairProd_ne_nil hne) rfl
      simp only [levels_of_two_le h2, List.getLast_cons (levels_ne_nil _), this, pairProd_prod]
    · match u, hne, h2 with
      | [a], _, _ => simp [levels_of_lt_two]
      | _ :: _ :: _, _, h2 => simp at h2

/-! ### `T` modulo a leaf -/

/-- ★ `T ≡ ∏ (u without v) (mod v)` for every leaf `v` — no positivity or distinctness needed
(`u.erase v` removes the first occurrence). -/
theorem sumOthers_modEq (u : List Nat) (v : Nat) (hv : v ∈ u) :
    sumOthers u ≡ (u.erase v).prod [MOD v] := by
  induction u with
  | nil => simp at hv
  | cons a u ih =>
    by_cases hav : a = v
    · subst hav
      simp only [sumOthers, List.erase_cons_head]
      have : a * sumOthers u ≡ 0 [MOD a] := (Nat.modEq_zero_iff_dvd).2 (Dvd.intro _ rfl)
      exact (Nat.ModEq.refl u.prod).add this
    · have hvu : v ∈ u := by
        rcases List.mem_cons.1 hv with h | h
        · exact absurd h.symm hav
        · exact h
      have hne : ¬ (a == v) = true := by simpa using hav
      simp only [sumOthers, List.erase_cons_tail hne, List.prod_cons]
      have h0 : u.prod ≡ 0 [MOD v] := (Nat.modEq_zero_iff_dvd).2 (List.dvd_prod hvu)
      simpa using h0.add ((ih hvu).mul_left a)

end Paranoid
