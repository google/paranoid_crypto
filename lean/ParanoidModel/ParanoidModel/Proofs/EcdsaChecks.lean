/-
Proofs/EcdsaChecks.lean — lemmas about Model/EcdsaChecks.lean that need no elliptic-curve facts:
`_MapIssuerSigIndexes` (partition of the indices), the dict / loop of `_IssuerDLogs` (exact
behaviour: last matching guess), the window loop, the solver arguments, grouping by curve and
writing back by index, the loop over CURVE_FACTORY, the set-order oracles.
-/
import ParanoidModel.Model.EcdsaChecks
import ParanoidModel.Proofs.ExceptList
namespace Paranoid.EcdsaChecks
open Paranoid Paranoid.Ec

/-! ### `_MapIssuerSigIndexes` -/

/-- the indices `i0 + j` of the signatures of `sigs` whose issuer key is `k`, increasing. -/
def idxOfKey (k : Key) : Nat → List Sig → List Nat
  | _, [] => []
  | i, s :: ss => if s.key = k then i :: idxOfKey k (i + 1) ss else idxOfKey k (i + 1) ss

/-- `old + new` on an optional list (a missing key of the defaultdict is the empty list). -/
def optApp (o : Option (List Nat)) (l : List Nat) : Option (List Nat) :=
  match l with
  | [] => o
  | x :: xs => match o with
    | none => some (x :: xs)
    | some l0 => some (l0 ++ x :: xs)

theorem get?_push (pks : Pks) (k k' : Key) (i : Nat) :
    (pks.push k i).get? k' = if k = k' then optApp (pks.get? k') [i] else pks.get? k' := by
  induction pks with
  | nil =>
    by_cases h : k = k' <;> simp [Pks.push, Pks.get?, optApp, h]
  | cons e rest ih =>
    obtain ⟨k0, l0⟩ := e
    unfold Pks.push
    by_cases h0 : k0 = k
    · rw [if_pos h0]
      subst h0
      unfold Pks.get?
      by_cases h1 : k0 = k' <;> simp [h1, optApp]
    · rw [if_neg h0]
      unfold Pks.get?
      by_cases h1 : k0 = k'
      · have : ¬ k = k' := fun h => h0 (h1.trans h.symm)
        simp [h1, this]
      · rw [if_neg h1, if_neg h1, ih]

theorem optApp_assoc (o : Option (List Nat)) (a b : List Nat) :
    optApp (optApp o a) b = optApp o (a ++ b) := by
  cases a with
  | nil => rfl
  | cons x xs =>
    cases b with
    | nil => simp [optApp]
    | cons y ys => cases o <;> simp [optApp]

theorem optApp_none (l : List Nat) : optApp none l = if l = [] then none else some l := by
  cases l <;> simp [optApp]

theorem get?_mapIssuerFrom (k : Key) : ∀ (ss : List Sig) (i : Nat) (pks : Pks),
    (mapIssuerFrom i ss pks).get? k = optApp (pks.get? k) (idxOfKey k i ss)
  | [], i, pks => by simp [mapIssuerFrom, idxOfKey, optApp]
  | s :: ss, i, pks => by
    unfold mapIssuerFrom idxOfKey
    rw [get?_mapIssuerFrom k ss (i + 1), get?_push]
    by_cases h : s.key = k
    · rw [if_pos h, if_pos h, optApp_assoc]; rfl
    · rw [if_neg h, if_neg h]

theorem get?_mapIssuer (k : Key) (sigs : List Sig) :
    (mapIssuerSigIndexes sigs).get? k = optApp none (idxOfKey k 0 sigs) := by
  unfold mapIssuerSigIndexes
  rw [get?_mapIssuerFrom]; rfl

theorem idxOfKey_eq (k : Key) : ∀ (ss : List Sig) (i : Nat),
    idxOfKey k i ss = ((ss.zipIdx i).filter (fun p => p.1.key = k)).map Prod.snd
  | [], _ => rfl
  | s :: ss, i => by
    rw [idxOfKey, idxOfKey_eq k ss (i + 1), List.zipIdx_cons, List.filter_cons]
    by_cases h : s.key = k <;> simp [h]

theorem mem_idxOfKey (k : Key) (ss : List Sig) (i j : Nat) :
    j ∈ idxOfKey k i ss ↔ i ≤ j ∧ ∃ s, ss[j - i]? = some s ∧ s.key = k := by
  simp only [idxOfKey_eq, List.mem_map, List.mem_filter, Prod.exists, exists_eq_right,
    List.mem_zipIdx_iff_le_and_getElem?_sub, decide_eq_true_eq]
  exact ⟨fun ⟨s, ⟨h1, h2⟩, h3⟩ => ⟨h1, s, h2, h3⟩, fun ⟨h1, s, h2, h3⟩ => ⟨s, ⟨h1, h2⟩, h3⟩⟩

theorem idxOfKey_sorted (k : Key) (ss : List Sig) (i : Nat) :
    (idxOfKey k i ss).Pairwise (· < ·) := by
  rw [idxOfKey_eq]
  refine List.Pairwise.sublist (List.filter_sublist.map Prod.snd) ?_
  rw [List.zipIdx_map_snd]
  exact List.pairwise_lt_range'

theorem keys_push (pks : Pks) (k : Key) (i : Nat) :
    ∀ k', k' ∈ (pks.push k i).map Prod.fst ↔ k' = k ∨ k' ∈ pks.map Prod.fst := by
  induction pks with
  | nil => intro k'; simp [Pks.push]
  | cons e rest ih =>
    obtain ⟨k0, l0⟩ := e
    intro k'
    unfold Pks.push
    by_cases h0 : k0 = k
    · rw [if_pos h0]; subst h0; simp
    · rw [if_neg h0]
      simp only [List.map_cons, List.mem_cons, ih k']
      constructor
      · rintro (h | h | h)
        · right; left; exact h
        · left; exact h
        · right; right; exact h
      · rintro (h | h | h)
        · right; left; exact h
        · left; exact h
        · right; right; exact h

theorem nodup_push (pks : Pks) (k : Key) (i : Nat) (h : (pks.map Prod.fst).Nodup) :
    ((pks.push k i).map Prod.fst).Nodup := by
  induction pks with
  | nil => simp [Pks.push]
  | cons e rest ih =>
    obtain ⟨k0, l0⟩ := e
    unfold Pks.push
    simp only [List.map_cons, List.nodup_cons] at h
    by_cases h0 : k0 = k
    · rw [if_pos h0]; simpa using h
    · rw [if_neg h0]
      simp only [List.map_cons, List.nodup_cons]
      refine ⟨?_, ih h.2⟩
      intro hm
      rcases (keys_push rest k i k0).mp hm with h1 | h1
      · exact h0 h1
      · exact h.1 h1

theorem nodup_mapIssuerFrom : ∀ (ss : List Sig) (i : Nat) (pks : Pks),
    (pks.map Prod.fst).Nodup → ((mapIssuerFrom i ss pks).map Prod.fst).Nodup
  | [], _, _, h => h
  | s :: ss, i, pks, h => nodup_mapIssuerFrom ss (i + 1) _ (nodup_push pks s.key i h)

theorem nodup_mapIssuer (sigs : List Sig) : ((mapIssuerSigIndexes sigs).map Prod.fst).Nodup :=
  nodup_mapIssuerFrom sigs 0 [] (by simp)

/-- in a dict (distinct keys) membership of an item is `get?`. -/
theorem mem_iff_get? (pks : Pks) (h : (pks.map Prod.fst).Nodup) (k : Key) (l : List Nat) :
    (k, l) ∈ pks ↔ pks.get? k = some l := by
  induction pks with
  | nil => simp [Pks.get?]
  | cons e rest ih =>
    obtain ⟨k0, l0⟩ := e
    simp only [List.map_cons, List.nodup_cons] at h
    unfold Pks.get?
    by_cases h0 : k0 = k
    · subst h0
      simp only [List.mem_cons, Prod.mk.injEq, true_and, if_true, Option.some.injEq]
      constructor
      · rintro (h1 | h1)
        · exact h1.symm
        · exact absurd (List.mem_map_of_mem (f := Prod.fst) h1) h.1
      · intro h1; left; exact h1.symm
    · rw [if_neg h0]
      simp only [List.mem_cons, Prod.mk.injEq]
      rw [← ih h.2]
      constructor
      · rintro (⟨h1, _⟩ | h1)
        · exact absurd h1.symm h0
        · exact h1
      · intro h1; right; exact h1

theorem get?_some_mem (pks : Pks) (k : Key) (l : List Nat) (h : pks.get? k = some l) : (k, l) ∈ pks := by
  induction pks with
  | nil => simp [Pks.get?] at h
  | cons e rest ih =>
    obtain ⟨k0, l0⟩ := e
    unfold Pks.get? at h
    split at h
    · rename_i h0; cases h; subst h0; exact List.mem_cons_self
    · exact List.mem_cons_of_mem _ (ih h)

theorem flatten_push (pks : Pks) (k : Key) (i : Nat) :
    ((pks.push k i).map Prod.snd).flatten.Perm ((pks.map Prod.snd).flatten ++ [i]) := by
  induction pks with
  | nil => simp [Pks.push]
  | cons e rest ih =>
    obtain ⟨k0, l0⟩ := e
    unfold Pks.push
    by_cases h0 : k0 = k
    · rw [if_pos h0]
      simp only [List.map_cons, List.flatten_cons, List.append_assoc]
      exact (List.perm_append_comm (l₁ := [i])).append_left l0
    · rw [if_neg h0]
      simp only [List.map_cons, List.flatten_cons, List.append_assoc]
      exact ih.append_left l0

theorem flatten_mapIssuerFrom : ∀ (ss : List Sig) (i : Nat) (pks : Pks),
    ((mapIssuerFrom i ss pks).map Prod.snd).flatten.Perm
      ((pks.map Prod.snd).flatten ++ List.range' i ss.length)
  | [], _, _ => by simp [mapIssuerFrom]
  | s :: ss, i, pks => by
    unfold mapIssuerFrom
    refine (flatten_mapIssuerFrom ss (i + 1) _).trans ?_
    refine ((flatten_push pks s.key i).append_right _).trans ?_
    simp [List.range'_succ]

theorem flatten_mapIssuer (sigs : List Sig) :
    ((mapIssuerSigIndexes sigs).map Prod.snd).flatten.Perm (List.range sigs.length) := by
  have := flatten_mapIssuerFrom sigs 0 []
  simpa [mapIssuerSigIndexes, List.range_eq_range'] using this

/-- items of `_MapIssuerSigIndexes(sigs)`: exactly `(k, indices of the signatures with key k)`,
never an empty list. -/
theorem mem_mapIssuer (sigs : List Sig) (k : Key) (l : List Nat) :
    (k, l) ∈ mapIssuerSigIndexes sigs ↔ l = idxOfKey k 0 sigs ∧ l ≠ [] := by
  rw [mem_iff_get? _ (nodup_mapIssuer sigs), get?_mapIssuer, optApp_none]
  by_cases h : idxOfKey k 0 sigs = []
  · rw [if_pos h]
    constructor
    · intro h'; cases h'
    · rintro ⟨h1, h2⟩; exact absurd (h1.trans h) h2
  · rw [if_neg h]
    constructor
    · intro h'; cases h'; exact ⟨rfl, h⟩
    · rintro ⟨h1, _⟩; rw [h1]

/-- every signature index is filed under the key of its own issuer … -/
theorem mapIssuer_covers (sigs : List Sig) (i : Nat) (s : Sig) (h : sigs[i]? = some s) :
    ∃ l, (s.key, l) ∈ mapIssuerSigIndexes sigs ∧ i ∈ l := by
  have hm : i ∈ idxOfKey s.key 0 sigs := (mem_idxOfKey s.key sigs 0 i).mpr ⟨Nat.zero_le _, s, by simpa using h, rfl⟩
  refine ⟨idxOfKey s.key 0 sigs, (mem_mapIssuer sigs _ _).mpr ⟨rfl, ?_⟩, hm⟩
  intro h0; rw [h0] at hm; simp at hm

/-- … and only there. -/
theorem mapIssuer_owner (sigs : List Sig) (k : Key) (l : List Nat) (i : Nat)
    (h : (k, l) ∈ mapIssuerSigIndexes sigs) (hi : i ∈ l) : ∃ s, sigs[i]? = some s ∧ s.key = k := by
  rw [mem_mapIssuer] at h
  rw [h.1, mem_idxOfKey] at hi
  simpa using hi.2

/-! ### `_IssuerDLogs` -/

theorem dlogs_get?_set (dl : DLogs) (k k' : Nat) (v : Int) :
    (dl.set k v).get? k' = if k = k' then some v else dl.get? k' := by
  induction dl with
  | nil => by_cases h : k = k' <;> simp [DLogs.set, DLogs.get?, h]
  | cons e rest ih =>
    obtain ⟨k0, v0⟩ := e
    unfold DLogs.set
    by_cases h0 : k0 = k
    · rw [if_pos h0]; subst h0
      unfold DLogs.get?
      by_cases h1 : k0 = k' <;> simp [h1]
    · rw [if_neg h0]
      unfold DLogs.get?
      by_cases h1 : k0 = k'
      · have : ¬ k = k' := fun h => h0 (h1.trans h.symm)
        simp [h1, this]
      · rw [if_neg h1, if_neg h1, ih]

theorem get?_assignAll : ∀ (idxs : List Nat) (dl : DLogs) (g : Int) (i : Nat),
    (assignAll dl idxs g).get? i = if i ∈ idxs then some g else dl.get? i
  | [], dl, g, i => by simp [assignAll]
  | j :: js, dl, g, i => by
    unfold assignAll
    rw [get?_assignAll js, dlogs_get?_set]
    by_cases h1 : i ∈ js
    · simp [h1]
    · by_cases h2 : j = i
      · simp [h2]
      · have : ¬ i = j := fun h => h2 h.symm
        simp [h1, h2, this]

theorem keyEqPt_iff (k : Key) (P : Pt) : keyEqPt k P = true ↔ P = .aff (k.1 : Int) (k.2 : Int) := by
  cases P with
  | inf => simp [keyEqPt]
  | aff x y =>
    simp only [keyEqPt, Bool.and_eq_true, beq_iff_eq, Pt.aff.injEq]
    constructor
    · rintro ⟨h1, h2⟩; exact ⟨h1.symm, h2.symm⟩
    · rintro ⟨h1, h2⟩; exact ⟨h1.symm, h2.symm⟩

theorem aff_key_inj (k k' : Key) : Pt.aff (k.1 : Int) (k.2 : Int) = .aff (k'.1 : Int) (k'.2 : Int) ↔ k = k' := by
  constructor
  · intro h
    simp only [Pt.aff.injEq, Int.natCast_inj] at h
    exact Prod.ext h.1 h.2
  · rintro rfl; rfl

/-- `guess_pk in pks` / `pks[guess_pk]` for a computed point equal to a raw key tuple. -/
theorem lookupPt_aff (pks : Pks) (k : Key) : pks.lookupPt (.aff (k.1 : Int) (k.2 : Int)) = pks.get? k := by
  induction pks with
  | nil => rfl
  | cons e rest ih =>
    obtain ⟨k0, l0⟩ := e
    unfold Pks.lookupPt Pks.get?
    by_cases h0 : k0 = k
    · rw [if_pos h0, if_pos ((keyEqPt_iff _ _).mpr (by rw [h0]))]
    · rw [if_neg h0, if_neg, ih]
      rw [keyEqPt_iff, aff_key_inj]
      exact fun h => h0 h.symm

theorem lookupPt_some (pks : Pks) (P : Pt) (l : List Nat) (h : pks.lookupPt P = some l) :
    ∃ k : Key, P = .aff (k.1 : Int) (k.2 : Int) ∧ pks.get? k = some l := by
  induction pks with
  | nil => simp [Pks.lookupPt] at h
  | cons e rest ih =>
    obtain ⟨k0, l0⟩ := e
    unfold Pks.lookupPt at h
    split at h
    · rename_i hk
      cases h
      refine ⟨k0, (keyEqPt_iff _ _).mp hk, ?_⟩
      simp [Pks.get?]
    · rename_i hk
      obtain ⟨k, h1, h2⟩ := ih h
      refine ⟨k, h1, ?_⟩
      unfold Pks.get?
      rw [if_neg]
      · exact h2
      · rintro rfl
        exact hk ((keyEqPt_iff _ _).mpr h1)

/-- `i in pks[P]` for a computed point `P` (`false` when `P not in pks`). -/
def filedUnder (pks : Pks) (i : Nat) (P : Pt) : Bool :=
  match pks.lookupPt P with
  | some l => decide (i ∈ l)
  | none => false

theorem filedUnder_iff (pks : Pks) (i : Nat) (P : Pt) :
    filedUnder pks i P = true ↔
      ∃ (k : Key) (l : List Nat), P = .aff (k.1 : Int) (k.2 : Int) ∧ pks.get? k = some l ∧ i ∈ l := by
  unfold filedUnder
  constructor
  · intro h
    cases hl : pks.lookupPt P with
    | none => rw [hl] at h; cases h
    | some l =>
      rw [hl] at h
      obtain ⟨k, hP, hk⟩ := lookupPt_some pks P l hl
      exact ⟨k, l, hP, hk, of_decide_eq_true h⟩
  · rintro ⟨k, l, rfl, hk, hi⟩
    rw [lookupPt_aff, hk]
    exact decide_eq_true hi

/-- in the dict of `_MapIssuerSigIndexes` the index of a signature is filed under its own key and
under no other. -/
theorem filedUnder_mapIssuer (sigs : List Sig) (i : Nat) (s : Sig) (hs : sigs[i]? = some s) (P : Pt) :
    filedUnder (mapIssuerSigIndexes sigs) i P = true ↔ P = .aff (s.key.1 : Int) (s.key.2 : Int) := by
  rw [filedUnder_iff]
  constructor
  · rintro ⟨k, l, rfl, hk, hi⟩
    obtain ⟨s', h1, h2⟩ := mapIssuer_owner sigs k l i (get?_some_mem _ _ _ hk) hi
    rw [hs] at h1; cases h1; rw [h2]
  · rintro rfl
    obtain ⟨l, hl, hil⟩ := mapIssuer_covers sigs i s hs
    exact ⟨s.key, l, rfl, (mem_iff_get? _ (nodup_mapIssuer sigs) _ _).mp hl, hil⟩

/-- the guess at the LAST position whose computed point passes the test `t` (`acc` if none does). -/
def lastMatch (t : Pt → Bool) : List Pt → List Int → Option Int → Option Int
  | P :: ps, g :: gs, acc => lastMatch t ps gs (if t P then some g else acc)
  | _, _, acc => acc

/-- **exact behaviour of the loop of `_IssuerDLogs`**, for every dict (keys repeated or not) and every
index: what is left at `i` is the guess of the last position whose computed point is a key of the
dict with `i` in its list. -/
theorem dlogLoop_get? (pks : Pks) (i : Nat) : ∀ (pts : List Pt) (gs : List Int) (dl : DLogs),
    (dlogLoop pks pts gs dl).get? i = lastMatch (filedUnder pks i) pts gs (dl.get? i)
  | [], _, _ => by simp [dlogLoop, lastMatch]
  | _ :: _, [], _ => by simp [dlogLoop, lastMatch]
  | P :: ps, g :: gs, dl => by
    unfold dlogLoop lastMatch
    rw [dlogLoop_get? pks i ps gs]
    congr 1
    unfold dlogStep filedUnder
    cases pks.lookupPt P with
    | none => rfl
    | some l => simp only [get?_assignAll, decide_eq_true_eq]

theorem lastMatch_isSome (t : Pt → Bool) : ∀ (pts : List Pt) (gs : List Int) (acc : Option Int),
    (lastMatch t pts gs acc).isSome = true ↔ acc.isSome = true ∨ ∃ e ∈ pts.zip gs, t e.1 = true
  | [], _, acc => by simp [lastMatch]
  | _ :: _, [], acc => by simp [lastMatch]
  | P :: ps, g :: gs, acc => by
    unfold lastMatch
    rw [lastMatch_isSome t ps gs]
    cases hP : t P <;> simp [List.zip_cons_cons, hP]

/-- the value is the guess at the last position that passes the test. -/
theorem lastMatch_some (t : Pt → Bool) : ∀ (pts : List Pt) (gs : List Int) (acc : Option Int) (d : Int),
    lastMatch t pts gs acc = some d →
      (acc = some d ∧ ∀ e ∈ pts.zip gs, t e.1 = false) ∨
      ∃ pre P post, pts.zip gs = pre ++ (P, d) :: post ∧ t P = true ∧ ∀ e ∈ post, t e.1 = false
  | [], _, acc, d, h => by left; simpa [lastMatch] using h
  | _ :: _, [], acc, d, h => by left; simpa [lastMatch] using h
  | P :: ps, g :: gs, acc, d, h => by
    unfold lastMatch at h
    rcases lastMatch_some t ps gs _ d h with ⟨h1, h2⟩ | ⟨pre, P', post, h1, h2, h3⟩
    · cases hP : t P with
      | true =>
        rw [hP, if_pos rfl] at h1
        cases h1
        exact Or.inr ⟨[], P, ps.zip gs, rfl, hP, h2⟩
      | false =>
        rw [hP, if_neg Bool.false_ne_true] at h1
        exact Or.inl ⟨h1, List.forall_mem_cons.mpr ⟨hP, h2⟩⟩
    · exact Or.inr ⟨(P, g) :: pre, P', post, by simp [List.zip_cons_cons, h1], h2, h3⟩

/-! ### the window loop -/

theorem chunksAux_nil {α} (size fuel : Nat) : chunksAux size fuel ([] : List α) = [] := by
  cases fuel <;> rfl

theorem chunksAux_fuel {α} (size : Nat) (hs : 0 < size) : ∀ (f1 f2 : Nat) (r : List α),
    r.length ≤ f1 → r.length ≤ f2 → chunksAux size f1 r = chunksAux size f2 r
  | _, _, [], _, _ => by rw [chunksAux_nil, chunksAux_nil]
  | 0, _, _ :: _, h1, _ => by simp at h1
  | _, 0, _ :: _, _, h2 => by simp at h2
  | f1 + 1, f2 + 1, y :: ys, h1, h2 => by
    simp only [chunksAux]
    congr 1
    apply chunksAux_fuel size hs f1 f2 <;>
      (simp only [List.length_drop, List.length_cons] at *; omega)

theorem chunks_cons {α} (size : Nat) (hs : 0 < size) (x : α) (xs : List α) :
    chunks size (x :: xs) = (x :: xs).take size :: chunks size ((x :: xs).drop size) := by
  unfold chunks
  rw [List.length_cons, chunksAux]
  congr 1
  exact chunksAux_fuel size hs _ _ _ (by simp only [List.length_drop, List.length_cons]; omega)
    (Nat.le_refl _)

theorem chunks_nil {α} (size : Nat) : chunks size ([] : List α) = [] := rfl

theorem chunks_of_le {α} (size : Nat) (hs : 0 < size) (l : List α) (h0 : l ≠ []) (h : l.length ≤ size) :
    chunks size l = [l] := by
  cases l with
  | nil => exact absurd rfl h0
  | cons x xs =>
    rw [chunks_cons size hs, List.take_of_length_le h, List.drop_of_length_le h, chunks_nil]

theorem chunks_flatten {α} (size : Nat) (hs : 0 < size) : ∀ (l : List α), (chunks size l).flatten = l
  | [] => rfl
  | x :: xs => by
    rw [chunks_cons size hs, List.flatten_cons, chunks_flatten size hs ((x :: xs).drop size),
      List.take_append_drop]
termination_by l => l.length
decreasing_by simp only [List.length_drop, List.length_cons]; omega

theorem chunks_mem {α} (size : Nat) (hs : 0 < size) : ∀ (l : List α),
    ∀ w ∈ chunks size l, ∃ i, i < l.length ∧ i % size = 0 ∧ w = (l.drop i).take size ∧ w ≠ []
  | [], w, hw => by simp [chunks_nil] at hw
  | x :: xs, w, hw => by
    rw [chunks_cons size hs, List.mem_cons] at hw
    rcases hw with rfl | hw
    · refine ⟨0, by simp, by simp, by simp, ?_⟩
      cases size with
      | zero => omega
      | succ s => simp
    · obtain ⟨i, h1, h2, h3, h4⟩ := chunks_mem size hs ((x :: xs).drop size) w hw
      refine ⟨size + i, ?_, ?_, ?_, h4⟩
      · simp only [List.length_drop] at h1; omega
      · rw [Nat.add_mod, h2]; simp
      · rw [h3, List.drop_drop]
termination_by l => l.length
decreasing_by simp only [List.length_drop, List.length_cons]; omega

theorem mem_sizeLoop {α} (l w : List α) : ∀ (sizes : List Nat), w ∈ sizeLoop sizes l →
    ∃ size ∈ sizes, w ∈ chunks size l
  | [], h => by simp [sizeLoop] at h
  | size :: rest, h => by
    rw [sizeLoop, List.mem_append] at h
    rcases h with h | h
    · exact ⟨size, List.mem_cons_self, h⟩
    · split at h
      · cases h
      · obtain ⟨s, hs, hw⟩ := mem_sizeLoop l w rest h
        exact ⟨s, List.mem_cons_of_mem _ hs, hw⟩

theorem sizeLoop_windowSizes {α} (l : List α) :
    sizeLoop windowSizes l =
      if l.length ≤ 24 then chunks 24 l
      else if l.length ≤ 48 then chunks 24 l ++ chunks 48 l
      else chunks 24 l ++ chunks 48 l ++ chunks 120 l := by
  simp only [sizeLoop, windowSizes]
  by_cases h1 : l.length ≤ 24
  · simp [h1]
  · by_cases h2 : l.length ≤ 48
    · simp [h1, h2]
    · by_cases h3 : l.length ≤ 120
      · simp [h1, h2, h3]
      · simp [h1, h2, h3]

theorem window_subset {α} (l : List α) (w : List α) (hw : w ∈ sizeLoop windowSizes l) :
    (∀ x ∈ w, x ∈ l) ∧ w ≠ [] := by
  obtain ⟨size, hs, hm⟩ := mem_sizeLoop l w windowSizes hw
  have h0 : 0 < size := by
    simp only [windowSizes, List.mem_cons, List.not_mem_nil, or_false] at hs
    omega
  obtain ⟨i, _, _, h3, h4⟩ := chunks_mem size h0 l w hm
  exact ⟨fun x hx => List.mem_of_mem_drop (List.mem_of_mem_take (h3 ▸ hx)), h4⟩

/-! ### solver arguments -/

theorem hnpParamsList_eq_mapM (n : Nat) : ∀ uniq : List Triple,
    hnpParamsList n uniq = uniq.mapM fun v => hiddenNumberParams n v.1 v.2.1 v.2.2
  | [] => rfl
  | v :: rest => by
    rw [hnpParamsList, hnpParamsList_eq_mapM n rest, mapM_cons_eq]
    cases hiddenNumberParams n v.1 v.2.1 v.2.2 with
    | error e => rfl
    | ok p => cases rest.mapM fun v => hiddenNumberParams n v.1 v.2.1 v.2.2 <;> rfl

theorem hnpParamsList_ok (n : Nat) (uniq : List Triple) (ab : List (Nat × Nat)) :
    hnpParamsList n uniq = .ok ab ↔
      List.Forall₂ (fun (v : Triple) p => hiddenNumberParams n v.1 v.2.1 v.2.2 = .ok p) uniq ab := by
  rw [hnpParamsList_eq_mapM, mapM_ok_iff]

/-- the loop raises at the FIRST value whose `HiddenNumberParams` raises. -/
theorem hnpParamsList_error (n : Nat) (uniq : List Triple) (e : PyErr) :
    hnpParamsList n uniq = .error e ↔
      ∃ pre v post, uniq = pre ++ v :: post ∧ hiddenNumberParams n v.1 v.2.1 v.2.2 = .error e ∧
        ∀ u ∈ pre, ∃ p, hiddenNumberParams n u.1 u.2.1 u.2.2 = .ok p := by
  rw [hnpParamsList_eq_mapM, mapM_error_iff_first]

/-- the Cr50 sliding window: consecutive pairs, then the last value with `(1, 1, 0)`. -/
def cr50Spec (n : Nat) : List Triple → List Call
  | [] => []
  | [v] => [Call.cr50 v (1, 1, 0) n]
  | v :: w :: rest => Call.cr50 v w n :: cr50Spec n (w :: rest)

theorem cr50Calls_eq (n : Nat) : ∀ (uniq : List Triple), uniq ≠ [] →
    cr50Calls n uniq = .ok (cr50Spec n uniq)
  | [], h => absurd rfl h
  | [v], _ => rfl
  | v :: w :: rest, _ => by
    unfold cr50Calls cr50Spec
    rw [cr50Calls_eq n (w :: rest) (by simp)]

theorem cr50Calls_nil (n : Nat) : cr50Calls n [] = .error .indexError := rfl

theorem cr50Spec_mem (n : Nat) : ∀ (uniq : List Triple) (call : Call), call ∈ cr50Spec n uniq →
    ∃ v w, call = .cr50 v w n ∧ v ∈ uniq ∧ (w ∈ uniq ∨ w = (1, 1, 0))
  | [], _, h => by simp [cr50Spec] at h
  | [v], call, h => by
    simp only [cr50Spec, List.mem_singleton] at h
    exact ⟨v, (1, 1, 0), h, by simp, .inr rfl⟩
  | v :: w :: rest, call, h => by
    rw [cr50Spec, List.mem_cons] at h
    rcases h with rfl | h
    · exact ⟨v, w, rfl, by simp, .inl (by simp)⟩
    · obtain ⟨v', w', h1, h2, h3⟩ := cr50Spec_mem n (w :: rest) call h
      refine ⟨v', w', h1, List.mem_cons_of_mem _ h2, ?_⟩
      rcases h3 with h3 | h3
      · exact .inl (List.mem_cons_of_mem _ h3)
      · exact .inr h3

/-- the calls of one issuer, when the argument preparation returns: the Cr50 sliding window over a
non-empty value list, or the windows / the single call over `HiddenNumberParams` of every value. -/
theorem issuerCalls_ok {k : Kind} {cid n : Nat} {uniq : List Triple} {cs : List Call}
    (h : issuerCalls k cid n uniq = .ok cs) :
    (k = .cr50 ∧ uniq ≠ [] ∧ cs = cr50Spec n uniq) ∨
      ∃ m ab, k = .biased m ∧ hnpParamsList n uniq = .ok ab ∧ cs = modeCalls m cid n ab := by
  cases k with
  | cr50 =>
    have hne : uniq ≠ [] := by rintro rfl; cases h
    exact .inl ⟨rfl, hne, Except.ok.inj (h.symm.trans (cr50Calls_eq n uniq hne))⟩
  | biased m =>
    simp only [issuerCalls, biasedCalls] at h
    cases hab : hnpParamsList n uniq with
    | error e => rw [hab] at h; cases h
    | ok ab => rw [hab] at h; exact .inr ⟨m, ab, rfl, rfl, (Except.ok.inj h).symm⟩

theorem cr50Spec_length (n : Nat) : ∀ (uniq : List Triple), (cr50Spec n uniq).length = uniq.length
  | [] => rfl
  | [_] => rfl
  | _ :: w :: rest => by
    unfold cr50Spec
    simp [cr50Spec_length n (w :: rest)]

/-! ### grouping by curve, writing back by index -/

theorem groupFrom_eq (cid : Nat) : ∀ (arts : List Sig) (i : Nat),
    groupFrom cid i arts = ((arts.zipIdx i).filter (fun p => p.1.curve = cid)).map Prod.swap
  | [], _ => rfl
  | s :: ss, i => by
    rw [groupFrom, groupFrom_eq cid ss (i + 1), List.zipIdx_cons, List.filter_cons]
    by_cases h : s.curve = cid <;> simp [h]

theorem mem_groupFrom (cid : Nat) (arts : List Sig) (i0 bi : Nat) (s : Sig) :
    (bi, s) ∈ groupFrom cid i0 arts ↔ i0 ≤ bi ∧ arts[bi - i0]? = some s ∧ s.curve = cid := by
  simp only [groupFrom_eq, List.mem_map, List.mem_filter, Prod.exists, Prod.swap_prod_mk,
    Prod.mk.injEq, List.mem_zipIdx_iff_le_and_getElem?_sub, decide_eq_true_eq]
  exact ⟨fun ⟨s', b', ⟨⟨h1, h2⟩, h3⟩, e1, e2⟩ => by subst e1 e2; exact ⟨h1, h2, h3⟩,
    fun ⟨h1, h2, h3⟩ => ⟨s, bi, ⟨⟨h1, h2⟩, h3⟩, rfl, rfl⟩⟩

theorem mem_group_of_get {arts : List Sig} {bi : Nat} {s : Sig} (hs : arts[bi]? = some s) :
    (bi, s) ∈ groupFrom s.curve 0 arts :=
  (mem_groupFrom _ arts 0 bi s).mpr ⟨Nat.zero_le _, by simpa using hs, rfl⟩

/-- a curve group whose dict has an issuer is not empty. -/
theorem group_ne_nil_of_issuer {cid : Nat} {arts : List Sig} {j : Nat}
    (hj : j < (mapIssuerSigIndexes ((groupFrom cid 0 arts).map Prod.snd)).length) :
    groupFrom cid 0 arts ≠ [] := by
  intro h0; rw [h0] at hj; simp [mapIssuerSigIndexes, mapIssuerFrom] at hj

theorem groupFrom_sorted (cid : Nat) (arts : List Sig) (i0 : Nat) :
    ((groupFrom cid i0 arts).map Prod.fst).Pairwise (· < ·) := by
  rw [groupFrom_eq, List.map_map, show Prod.fst ∘ Prod.swap = (Prod.snd : Sig × Nat → Nat) from rfl]
  refine List.Pairwise.sublist (List.filter_sublist.map Prod.snd) ?_
  rw [List.zipIdx_map_snd]
  exact List.pairwise_lt_range'

theorem groupFrom_nodup (cid : Nat) (arts : List Sig) (i0 : Nat) :
    ((groupFrom cid i0 arts).map Prod.fst).Nodup :=
  (groupFrom_sorted cid arts i0).imp (fun h => Nat.ne_of_lt h)

theorem groupWrites_fst (dl : DLogs) : ∀ (group : List (Nat × Sig)) (g0 : Nat),
    (groupWrites dl g0 group).map Prod.fst = group.map Prod.fst
  | [], _ => rfl
  | (bi, s) :: rest, g0 => by
    unfold groupWrites
    simp [groupWrites_fst dl rest (g0 + 1)]

theorem verdictOf_none (w : List (Nat × Verdict)) (i : Nat) :
    verdictOf w i = none ↔ i ∉ w.map Prod.fst := by
  induction w with
  | nil => simp [verdictOf]
  | cons e rest ih =>
    obtain ⟨j, v⟩ := e
    unfold verdictOf
    by_cases h : j = i
    · simp [h]
    · rw [if_neg h, ih]
      simp only [List.map_cons, List.mem_cons, not_or]
      exact ⟨fun h' => ⟨fun h'' => h h''.symm, h'⟩, fun h' => h'.2⟩

theorem verdictOf_append (a b : List (Nat × Verdict)) (i : Nat) :
    verdictOf (a ++ b) i = match verdictOf a i with
      | some v => some v
      | none => verdictOf b i := by
  induction a with
  | nil => rfl
  | cons e rest ih =>
    obtain ⟨j, v⟩ := e
    simp only [List.cons_append, verdictOf]
    by_cases h : j = i
    · simp [h]
    · rw [if_neg h, if_neg h, ih]

/-- results are written back by index: the `gi`-th signature of the group receives the verdict
computed for group index `gi`. -/
theorem verdictOf_groupWrites (dl : DLogs) : ∀ (group : List (Nat × Sig)) (g0 gi bi : Nat) (s : Sig),
    (group.map Prod.fst).Nodup → group[gi]? = some (bi, s) →
    verdictOf (groupWrites dl g0 group) bi = some (dlogVerdict dl (g0 + gi))
  | [], _, gi, _, _, _, h => by simp at h
  | (b0, s0) :: rest, g0, gi, bi, s, hnd, h => by
    unfold groupWrites verdictOf
    simp only [List.map_cons, List.nodup_cons] at hnd
    cases gi with
    | zero =>
      simp only [List.getElem?_cons_zero, Option.some.injEq, Prod.mk.injEq] at h
      rw [if_pos h.1]; rfl
    | succ gi =>
      simp only [List.getElem?_cons_succ] at h
      have hne : b0 ≠ bi := by
        rintro rfl
        exact hnd.1 (List.mem_map.mpr ⟨(b0, s), List.mem_of_getElem? h, rfl⟩)
      rw [if_neg hne, verdictOf_groupWrites dl rest (g0 + 1) gi bi s hnd.2 h]
      congr 2; omega

/-! ### `processGroup` and the loop over `CURVE_FACTORY` -/

theorem processGroup_ok (k : Kind) (cid : Nat) (c : Curve) (cache : Cache) (O : GroupOracle)
    (group : List (Nat × Sig)) (gr : GroupResult)
    (h : processGroup k cid c cache O group = .ok gr) :
    ∃ dl, issuerDLogs c cache O.guessList (mapIssuerSigIndexes (group.map Prod.snd)) = .ok (dl, gr.cache) ∧
      groupCallsFrom k cid c.n (group.map Prod.snd) O 0 (mapIssuerSigIndexes (group.map Prod.snd))
        = .ok gr.calls ∧
      gr.writes = groupWrites dl 0 group := by
  unfold processGroup at h
  split at h
  · cases h
  · rename_i calls hcalls
    split at h
    · cases h
    · rename_i dl cache' hdl
      cases h
      exact ⟨dl, hdl, hcalls, rfl⟩

theorem processGroup_error (k : Kind) (cid : Nat) (c : Curve) (cache : Cache) (O : GroupOracle)
    (group : List (Nat × Sig)) (e : PyErr)
    (h : processGroup k cid c cache O group = .error e) :
    groupCallsFrom k cid c.n (group.map Prod.snd) O 0 (mapIssuerSigIndexes (group.map Prod.snd))
        = .error e ∨
    issuerDLogs c cache O.guessList (mapIssuerSigIndexes (group.map Prod.snd)) = .error e := by
  unfold processGroup at h
  split at h
  · rename_i e' he'; cases h; left; exact he'
  · split at h
    · rename_i e' he'; cases h; right; exact he'
    · cases h

/-- which entries of the factory lead to a processed group. -/
def Processed (arts : List Sig) (e : Nat × Option CurveObj) : Prop :=
  ∃ obj, e.2 = some obj ∧ groupFrom e.1 0 arts ≠ []

theorem checkLoop_cases (k : Kind) (O : Nat → GroupOracle) (arts : List Sig)
    (cid : Nat) (o : Option CurveObj) (rest : Factory) :
    (¬ Processed arts (cid, o) ∧
      checkLoop k O arts ((cid, o) :: rest) =
        match checkLoop k O arts rest with
        | .error e => .error e
        | .ok r => .ok (r.cons (cid, o))) ∨
    (∃ obj, o = some obj ∧ groupFrom cid 0 arts ≠ [] ∧
      checkLoop k O arts ((cid, o) :: rest) =
        match processGroup k cid obj.curve obj.cache (O cid) (groupFrom cid 0 arts) with
        | .error e => .error e
        | .ok gr =>
          match checkLoop k O arts rest with
          | .error e => .error e
          | .ok r => .ok (r.consGroup cid obj.curve gr)) := by
  cases o with
  | none =>
    left
    refine ⟨?_, ?_⟩
    · rintro ⟨obj, h, _⟩; cases h
    · cases hr : checkLoop k O arts rest <;> simp [checkLoop, hr]
  | some obj =>
    cases hg : groupFrom cid 0 arts with
    | nil =>
      left
      refine ⟨?_, ?_⟩
      · rintro ⟨obj', _, h⟩; exact h hg
      · cases hr : checkLoop k O arts rest <;> simp [checkLoop, hg, hr]
    | cons g gs =>
      right
      refine ⟨obj, rfl, by simp, ?_⟩
      cases hp : processGroup k cid obj.curve obj.cache (O cid) (g :: gs) with
      | error e => simp [checkLoop, hg, hp]
      | ok gr => cases hr : checkLoop k O arts rest <;> simp [checkLoop, hg, hp, hr]

/-- one round of a loop that returned: the entry was skipped, or its group was processed. -/
theorem checkLoop_cons_ok {k : Kind} {O : Nat → GroupOracle} {arts : List Sig} {cid : Nat}
    {o : Option CurveObj} {rest : Factory} {res : CheckResult}
    (h : checkLoop k O arts ((cid, o) :: rest) = .ok res) :
    (¬ Processed arts (cid, o) ∧ ∃ r, checkLoop k O arts rest = .ok r ∧ res = r.cons (cid, o)) ∨
    (∃ obj gr r, o = some obj ∧ groupFrom cid 0 arts ≠ [] ∧
      processGroup k cid obj.curve obj.cache (O cid) (groupFrom cid 0 arts) = .ok gr ∧
      checkLoop k O arts rest = .ok r ∧ res = r.consGroup cid obj.curve gr) := by
  rcases checkLoop_cases k O arts cid o rest with ⟨hnp, heq⟩ | ⟨obj, ho, hg, heq⟩
  · rw [heq] at h
    cases hr : checkLoop k O arts rest with
    | error e => rw [hr] at h; cases h
    | ok r => rw [hr] at h; cases h; exact Or.inl ⟨hnp, r, rfl, rfl⟩
  · rw [heq] at h
    cases hp : processGroup k cid obj.curve obj.cache (O cid) (groupFrom cid 0 arts) with
    | error e => rw [hp] at h; cases h
    | ok gr =>
      rw [hp] at h
      cases hr : checkLoop k O arts rest with
      | error e => rw [hr] at h; cases h
      | ok r => rw [hr] at h; cases h; exact Or.inr ⟨obj, gr, r, ho, hg, hp, rfl, rfl⟩

/-- every processed group succeeded, and the batch indices written are exactly the signatures
whose curve id has a curve object in the factory. -/
theorem checkLoop_ok (k : Kind) (O : Nat → GroupOracle) (arts : List Sig) :
    ∀ (factory : Factory) (res : CheckResult), checkLoop k O arts factory = .ok res →
      (∀ cid obj, (cid, some obj) ∈ factory → groupFrom cid 0 arts ≠ [] →
        ∃ gr, processGroup k cid obj.curve obj.cache (O cid) (groupFrom cid 0 arts) = .ok gr ∧
          (cid, gr.calls) ∈ res.calls ∧
          ((factory.map Prod.fst).Nodup → ∀ bi s, (bi, s) ∈ groupFrom cid 0 arts →
            verdictOf res.writes bi = verdictOf gr.writes bi)) ∧
      (∀ bi, bi ∈ res.writes.map Prod.fst ↔
        ∃ s obj, arts[bi]? = some s ∧ (s.curve, some obj) ∈ factory) ∧
      (∀ cid cs, (cid, cs) ∈ res.calls → ∃ obj gr, (cid, some obj) ∈ factory ∧
        processGroup k cid obj.curve obj.cache (O cid) (groupFrom cid 0 arts) = .ok gr ∧ cs = gr.calls)
  | [], res, h => by
    simp only [checkLoop, Except.ok.injEq] at h
    subst h
    simp
  | (cid0, o) :: rest, res, h => by
    rcases checkLoop_cons_ok h with ⟨hnp, r, hr, rfl⟩ | ⟨obj0, gr0, r, rfl, hg, hp, hr, rfl⟩
    · obtain ⟨ih1, ih2, ih3⟩ := checkLoop_ok k O arts rest r hr
      refine ⟨?_, ?_, ?_⟩
      · intro cid obj hm hne
        rcases List.mem_cons.mp hm with hm | hm
        · cases hm
          exact absurd ⟨obj, rfl, hne⟩ hnp
        · obtain ⟨gr, h1, h2, h3⟩ := ih1 cid obj hm hne
          exact ⟨gr, h1, h2, fun hnd => h3 (List.nodup_cons.mp hnd).2⟩
      · intro bi
        rw [show (r.cons (cid0, o)).writes = r.writes from rfl, ih2]
        constructor
        · rintro ⟨s, obj, h1, h2⟩; exact ⟨s, obj, h1, List.mem_cons_of_mem _ h2⟩
        · rintro ⟨s, obj, h1, h2⟩
          rcases List.mem_cons.mp h2 with h2 | h2
          · cases h2
            exact absurd ⟨obj, rfl, List.ne_nil_of_mem (mem_group_of_get h1)⟩ hnp
          · exact ⟨s, obj, h1, h2⟩
      · intro cid cs hm
        obtain ⟨obj, gr, h1, h2, h3⟩ := ih3 cid cs hm
        exact ⟨obj, gr, List.mem_cons_of_mem _ h1, h2, h3⟩
    · obtain ⟨ih1, ih2, ih3⟩ := checkLoop_ok k O arts rest r hr
      obtain ⟨dl0, _, _, hw0⟩ := processGroup_ok _ _ _ _ _ _ _ hp
      have hfst0 : gr0.writes.map Prod.fst = (groupFrom cid0 0 arts).map Prod.fst := by
        rw [hw0, groupWrites_fst]
      refine ⟨?_, ?_, ?_⟩
      · intro cid obj hm hne
        rcases List.mem_cons.mp hm with hm | hm
        · cases hm
          refine ⟨gr0, hp, List.mem_cons_self, ?_⟩
          intro _ bi s hbs
          show verdictOf (gr0.writes ++ r.writes) bi = _
          rw [verdictOf_append]
          cases hv : verdictOf gr0.writes bi with
          | some v => rfl
          | none =>
            exfalso
            rw [verdictOf_none, hfst0] at hv
            exact hv (List.mem_map.mpr ⟨(bi, s), hbs, rfl⟩)
        · obtain ⟨gr, h1, h2, h3⟩ := ih1 cid obj hm hne
          refine ⟨gr, h1, List.mem_cons_of_mem _ h2, ?_⟩
          intro hnd bi s hbs
          simp only [List.map_cons, List.nodup_cons] at hnd
          rw [show (r.consGroup cid0 obj0.curve gr0).writes = gr0.writes ++ r.writes from rfl,
            verdictOf_append]
          have hv : verdictOf gr0.writes bi = none := by
            rw [verdictOf_none, hfst0]
            intro hmem
            obtain ⟨⟨bi', s'⟩, hm', rfl⟩ := List.mem_map.mp hmem
            have h1' := (mem_groupFrom cid0 arts 0 bi' s').mp hm'
            have h2' := (mem_groupFrom cid arts 0 bi' s).mp hbs
            rw [h1'.2.1] at h2'
            have : s' = s := by simpa using h2'.2.1
            subst this
            have : cid0 = cid := h1'.2.2.symm.trans h2'.2.2
            subst this
            exact hnd.1 (List.mem_map.mpr ⟨(cid0, some obj), hm, rfl⟩)
          rw [hv]
          exact h3 hnd.2 bi s hbs
      · intro bi
        rw [show (r.consGroup cid0 obj0.curve gr0).writes = gr0.writes ++ r.writes from rfl,
          List.map_append, List.mem_append, hfst0, ih2]
        constructor
        · rintro (hm | ⟨s, obj, h1, h2⟩)
          · obtain ⟨⟨bi', s⟩, hm', rfl⟩ := List.mem_map.mp hm
            have h1' := (mem_groupFrom cid0 arts 0 bi' s).mp hm'
            refine ⟨s, obj0, by simpa using h1'.2.1, ?_⟩
            rw [h1'.2.2]; exact List.mem_cons_self
          · exact ⟨s, obj, h1, List.mem_cons_of_mem _ h2⟩
        · rintro ⟨s, obj, h1, h2⟩
          rcases List.mem_cons.mp h2 with h2 | h2
          · cases h2
            left
            exact List.mem_map.mpr ⟨(bi, s), mem_group_of_get h1, rfl⟩
          · right; exact ⟨s, obj, h1, h2⟩
      · intro cid cs hm
        rcases List.mem_cons.mp hm with hm | hm
        · cases hm
          exact ⟨obj0, gr0, List.mem_cons_self, hp, rfl⟩
        · obtain ⟨obj, gr, h1, h2, h3⟩ := ih3 cid cs hm
          exact ⟨obj, gr, List.mem_cons_of_mem _ h1, h2, h3⟩

/-- if the loop raises, some processed group raised that exception. -/
theorem checkLoop_error (k : Kind) (O : Nat → GroupOracle) (arts : List Sig) :
    ∀ (factory : Factory) (e : PyErr), checkLoop k O arts factory = .error e →
      ∃ cid obj, (cid, some obj) ∈ factory ∧ groupFrom cid 0 arts ≠ [] ∧
        processGroup k cid obj.curve obj.cache (O cid) (groupFrom cid 0 arts) = .error e
  | [], e, h => by simp [checkLoop] at h
  | (cid0, o) :: rest, e, h => by
    rcases checkLoop_cases k O arts cid0 o rest with ⟨_, heq⟩ | ⟨obj0, ho, hg, heq⟩
    · rw [heq] at h
      cases hr : checkLoop k O arts rest with
      | ok r => rw [hr] at h; cases h
      | error e' =>
        rw [hr] at h; cases h
        obtain ⟨cid, obj, h1, h2, h3⟩ := checkLoop_error k O arts rest e hr
        exact ⟨cid, obj, List.mem_cons_of_mem _ h1, h2, h3⟩
    · subst ho
      rw [heq] at h
      cases hp : processGroup k cid0 obj0.curve obj0.cache (O cid0) (groupFrom cid0 0 arts) with
      | error e' =>
        rw [hp] at h; cases h
        exact ⟨cid0, obj0, List.mem_cons_self, hg, hp⟩
      | ok gr0 =>
        rw [hp] at h
        simp only at h
        cases hr : checkLoop k O arts rest with
        | ok r => rw [hr] at h; cases h
        | error e' =>
          rw [hr] at h; cases h
          obtain ⟨cid, obj, h1, h2, h3⟩ := checkLoop_error k O arts rest e hr
          exact ⟨cid, obj, List.mem_cons_of_mem _ h1, h2, h3⟩

/-! ### set-order oracles -/

theorem memB_iff {α} [DecidableEq α] (x : α) (l : List α) : memB x l = true ↔ x ∈ l := by
  induction l with
  | nil => simp [memB]
  | cons y ys ih =>
    unfold memB
    by_cases h : x = y
    · simp [h]
    · rw [if_neg h, ih]; simp [h]

theorem nodupB_iff {α} [DecidableEq α] (l : List α) : nodupB l = true ↔ l.Nodup := by
  induction l with
  | nil => simp [nodupB]
  | cons y ys ih =>
    unfold nodupB
    rw [Bool.and_eq_true, ih, List.nodup_cons, ← memB_iff y ys]
    cases memB y ys <;> simp

theorem isEnumOf_iff {α} [DecidableEq α] (enum vals : List α) :
    isEnumOf enum vals = true ↔ enum.Nodup ∧ ∀ x, x ∈ enum ↔ x ∈ vals := by
  unfold isEnumOf
  simp only [Bool.and_eq_true, nodupB_iff, List.all_eq_true, memB_iff]
  constructor
  · rintro ⟨⟨h1, h2⟩, h3⟩; exact ⟨h1, fun x => ⟨h2 x, h3 x⟩⟩
  · rintro ⟨h1, h2⟩; exact ⟨⟨h1, fun x hx => (h2 x).mp hx⟩, fun x hx => (h2 x).mpr hx⟩

/-! ### `issuerValues`, `groupCallsFrom` -/

theorem ecdsaValues_ok (n : Nat) (hn : n ≠ 0) (r s mh : List Nat) :
    ∃ z, ecdsaValues n r s mh = .ok (bytes2int r, bytes2int s, z) := by
  unfold ecdsaValues transformOrderLen
  rw [if_neg hn]
  exact ⟨_, rfl⟩

theorem ecdsaValues_fields (n : Nat) (r s mh : List Nat) (v : Triple)
    (h : ecdsaValues n r s mh = .ok v) : v.1 = bytes2int r ∧ v.2.1 = bytes2int s := by
  unfold ecdsaValues at h
  split at h
  · cases h
  · cases h; exact ⟨rfl, rfl⟩

/-- `issuerValues` never raises on the index lists `_MapIssuerSigIndexes` produces (for `n ≠ 0`). -/
theorem issuerValues_ok (n : Nat) (hn : n ≠ 0) (sigs : List Sig) : ∀ (idxs : List Nat),
    (∀ i ∈ idxs, i < sigs.length) → ∃ vals, issuerValues n sigs idxs = .ok vals
  | [], _ => ⟨[], rfl⟩
  | i :: rest, h => by
    unfold issuerValues
    have hi : i < sigs.length := h i (by simp)
    rw [List.getElem?_eq_getElem hi]
    obtain ⟨z, hz⟩ := ecdsaValues_ok n hn sigs[i].r sigs[i].s sigs[i].mh
    obtain ⟨vals, h1⟩ := issuerValues_ok n hn sigs rest (fun j hj => h j (List.mem_cons_of_mem _ hj))
    simp only [hz, h1]
    exact ⟨_, rfl⟩

theorem issuerValues_ok_iff (n : Nat) (sigs : List Sig) : ∀ (idxs : List Nat) (vals : List Triple),
    issuerValues n sigs idxs = .ok vals ↔
      List.Forall₂ (fun i v => ∃ sg, sigs[i]? = some sg ∧ ecdsaValues n sg.r sg.s sg.mh = .ok v)
        idxs vals
  | [], vals => by simp [issuerValues, eq_comm]
  | i :: rest, vals => by
    rw [List.forall₂_cons_left_iff]
    simp only [issuerValues, ← issuerValues_ok_iff n sigs rest]
    cases sigs[i]? with
    | none => simp
    | some sg =>
      cases hE : ecdsaValues n sg.r sg.s sg.mh <;> cases issuerValues n sigs rest <;>
        simp [hE, eq_comm]

theorem issuerValues_mem (n : Nat) (sigs : List Sig) (idxs : List Nat) (vals : List Triple)
    (h : issuerValues n sigs idxs = .ok vals) :
    ∀ v ∈ vals, ∃ i ∈ idxs, ∃ sg, sigs[i]? = some sg ∧ ecdsaValues n sg.r sg.s sg.mh = .ok v :=
  fun v hv => forall₂_mem_left ((issuerValues_ok_iff n sigs idxs vals).mp h).flip hv

theorem issuerValues_length (n : Nat) (sigs : List Sig) (idxs : List Nat) (vals : List Triple)
    (h : issuerValues n sigs idxs = .ok vals) : vals.length = idxs.length :=
  ((issuerValues_ok_iff n sigs idxs vals).mp h).length_eq.symm

/-- the per-issuer loop either returns the calls of every issuer, `issuerCalls … (O.uniq (j0 + j))` at
position `j`, or raises what `ECDSAValues` or the argument preparation of one issuer raises. -/
theorem groupCallsFrom_cases (k : Kind) (cid n : Nat) (sigs : List Sig) (O : GroupOracle) :
    ∀ (pks : Pks) (j0 : Nat),
      (∃ css, groupCallsFrom k cid n sigs O j0 pks = .ok css ∧ css.length = pks.length ∧
        ∀ j cs, css[j]? = some cs → issuerCalls k cid n (O.uniq (j0 + j)) = .ok cs) ∨
      (∃ e, groupCallsFrom k cid n sigs O j0 pks = .error e ∧
        ((∃ en ∈ pks, issuerValues n sigs en.2 = .error e) ∨
          ∃ j, j < pks.length ∧ issuerCalls k cid n (O.uniq (j0 + j)) = .error e))
  | [], j0 => .inl ⟨[], rfl, rfl, by simp⟩
  | (k0, idxs) :: rest, j0 => by
    unfold groupCallsFrom
    cases hv : issuerValues n sigs idxs with
    | error e => exact .inr ⟨e, rfl, .inl ⟨_, List.mem_cons_self, hv⟩⟩
    | ok vals =>
      cases hc : issuerCalls k cid n (O.uniq j0) with
      | error e => exact .inr ⟨e, rfl, .inr ⟨0, by simp, hc⟩⟩
      | ok cs0 =>
        rcases groupCallsFrom_cases k cid n sigs O rest (j0 + 1) with ⟨css, h, hl, hi⟩ | ⟨e, h, he⟩
        · refine .inl ⟨cs0 :: css, by rw [h], by simp [hl], fun j cs hj => ?_⟩
          cases j with
          | zero => cases hj; exact hc
          | succ j => rw [← hi j cs hj, Nat.add_right_comm, Nat.add_assoc]
        · refine .inr ⟨e, by rw [h], he.imp ?_ ?_⟩
          · rintro ⟨en, h1, h2⟩; exact ⟨en, List.mem_cons_of_mem _ h1, h2⟩
          · rintro ⟨j, h1, h2⟩
            exact ⟨j + 1, by simpa using h1, by rwa [Nat.add_right_comm, Nat.add_assoc] at h2⟩

theorem groupCallsFrom_inv (k : Kind) (cid n : Nat) (sigs : List Sig) (O : GroupOracle)
    (pks : Pks) (j0 : Nat) (css : List (List Call))
    (h : groupCallsFrom k cid n sigs O j0 pks = .ok css) :
    css.length = pks.length ∧
      ∀ j cs, css[j]? = some cs → issuerCalls k cid n (O.uniq (j0 + j)) = .ok cs := by
  rcases groupCallsFrom_cases k cid n sigs O pks j0 with ⟨css', h', r⟩ | ⟨e, h', _⟩
  · cases h.symm.trans h'; exact r
  · cases h.symm.trans h'

/-- the per-issuer loop does raise as soon as one issuer's argument preparation raises. -/
theorem groupCallsFrom_raises (k : Kind) (cid n : Nat) (sigs : List Sig) (O : GroupOracle) :
    ∀ (pks : Pks) (j0 j : Nat) (e : PyErr), j < pks.length →
      issuerCalls k cid n (O.uniq (j0 + j)) = .error e →
      ∃ e', groupCallsFrom k cid n sigs O j0 pks = .error e' := by
  intro pks j0 j e hj h
  rcases groupCallsFrom_cases k cid n sigs O pks j0 with ⟨css, _, hl, hi⟩ | ⟨e', h', _⟩
  · obtain ⟨cs, hcs⟩ : ∃ cs, css[j]? = some cs := ⟨css[j]'(hl ▸ hj), List.getElem?_eq_getElem _⟩
    cases h.symm.trans (hi j cs hcs)
  · exact ⟨e', h'⟩

/-- what `uniqConsistentFrom` says about the issuer at position `j`. -/
theorem uniqConsistentFrom_get (n : Nat) (sigs : List Sig) (O : GroupOracle) :
    ∀ (pks : Pks) (j0 : Nat), uniqConsistentFrom n sigs O j0 pks = true →
      ∀ j en, pks[j]? = some en →
        ∃ vals, issuerValues n sigs en.2 = .ok vals ∧ isEnumOf (O.uniq (j0 + j)) vals = true
  | [], _, _, j, en, h => by simp at h
  | (k0, idxs) :: rest, j0, hc, j, en, h => by
    unfold uniqConsistentFrom at hc
    rw [Bool.and_eq_true] at hc
    cases j with
    | zero =>
      simp only [List.getElem?_cons_zero, Option.some.injEq] at h
      subst h
      obtain ⟨h1, _⟩ := hc
      split at h1
      · rename_i vals hvals; exact ⟨vals, hvals, by simpa using h1⟩
      · cases h1
    | succ j =>
      simp only [List.getElem?_cons_succ] at h
      obtain ⟨vals, h1, h2⟩ := uniqConsistentFrom_get n sigs O rest (j0 + 1) hc.2 j en h
      exact ⟨vals, h1, by rwa [show j0 + 1 + j = j0 + (j + 1) by omega] at h2⟩

/-! ### group level, core part -/

/-- the verdict written for the `gi`-th signature of a group is `dlogVerdict` of the dict returned
by `_IssuerDLogs` on the group's own `pks` and `list(guesses)`. -/
theorem group_verdict (k : Kind) (cid : Nat) (c : Curve) (cache : Cache) (O : GroupOracle)
    (group : List (Nat × Sig)) (gr : GroupResult)
    (hok : processGroup k cid c cache O group = .ok gr) (hnd : (group.map Prod.fst).Nodup)
    (gi bi : Nat) (s : Sig) (hg : group[gi]? = some (bi, s)) :
    ∃ dl, issuerDLogs c cache O.guessList (mapIssuerSigIndexes (group.map Prod.snd)) = .ok (dl, gr.cache) ∧
      verdictOf gr.writes bi = some (dlogVerdict dl gi) := by
  obtain ⟨dl, h1, _, h3⟩ := processGroup_ok _ _ _ _ _ _ _ hok
  refine ⟨dl, h1, ?_⟩
  rw [h3, verdictOf_groupWrites dl group 0 gi bi s hnd hg, Nat.zero_add]

theorem dlogVerdict_cases (dl : DLogs) (i : Nat) :
    (dl.get? i = none ∧ dlogVerdict dl i = ⟨false, none, none⟩) ∨
    (∃ d, dl.get? i = some d ∧
      dlogVerdict dl i = ⟨true, none, some (infoNameDiscreteLog, .raw (dlogHex d))⟩) := by
  unfold dlogVerdict
  cases dl.get? i with
  | none => left; exact ⟨rfl, rfl⟩
  | some d => right; exact ⟨d, rfl, rfl⟩

/-- the batch indices written by one `Check` call are pairwise distinct (every signature with a
known curve receives exactly one entry). -/
theorem checkLoop_writes_nodup (k : Kind) (O : Nat → GroupOracle) (arts : List Sig) :
    ∀ (factory : Factory) (res : CheckResult), checkLoop k O arts factory = .ok res →
      (factory.map Prod.fst).Nodup → (res.writes.map Prod.fst).Nodup
  | [], res, h, _ => by
    simp only [checkLoop, Except.ok.injEq] at h
    subst h; simp
  | (cid0, o) :: rest, res, h, hnd => by
    simp only [List.map_cons, List.nodup_cons] at hnd
    rcases checkLoop_cons_ok h with ⟨_, r, hr, rfl⟩ | ⟨obj0, gr0, r, rfl, hg, hp, hr, rfl⟩
    · exact checkLoop_writes_nodup k O arts rest r hr hnd.2
    · obtain ⟨dl0, _, _, hw0⟩ := processGroup_ok _ _ _ _ _ _ _ hp
      show ((gr0.writes ++ r.writes).map Prod.fst).Nodup
      rw [List.map_append, List.nodup_append]
      refine ⟨?_, checkLoop_writes_nodup k O arts rest r hr hnd.2, ?_⟩
      · rw [hw0, groupWrites_fst]; exact groupFrom_nodup cid0 arts 0
      · intro a ha b hb hab
        subst hab
        rw [hw0, groupWrites_fst] at ha
        obtain ⟨⟨bi', s⟩, hm', rfl⟩ := List.mem_map.mp ha
        have h1' := (mem_groupFrom cid0 arts 0 bi' s).mp hm'
        obtain ⟨_, ih2, _⟩ := checkLoop_ok k O arts rest r hr
        obtain ⟨s', obj, h2, h3⟩ := (ih2 bi').mp hb
        have : s' = s := by
          have := h1'.2.1
          simp only [Nat.sub_zero] at this
          rw [h2] at this; exact Option.some.inj this
        subst this
        rw [h1'.2.2] at h3
        exact hnd.1 (List.mem_map.mpr ⟨(cid0, some obj), h3, rfl⟩)

/-! ### consistency of the order oracles -/

/-- `unique_vals` handed to the model is an enumeration of the issuer's value set, for every
processed group. -/
def UniqConsistent (O : Nat → GroupOracle) (arts : List Sig) (factory : Factory) : Prop :=
  ∀ cid obj, (cid, some obj) ∈ factory → groupFrom cid 0 arts ≠ [] →
    uniqConsistentFrom obj.curve.n ((groupFrom cid 0 arts).map Prod.snd) (O cid) 0
      (mapIssuerSigIndexes ((groupFrom cid 0 arts).map Prod.snd)) = true

/-- `list(guesses)` handed to the model is an enumeration of the union of all solver answers. -/
def GuessConsistent (k : Kind) (O : Nat → GroupOracle) (arts : List Sig) (factory : Factory) : Prop :=
  ∀ cid obj, (cid, some obj) ∈ factory → groupFrom cid 0 arts ≠ [] →
    isEnumOf (O cid).guessList (groupAnswersFrom k cid obj.curve.n (O cid) 0
      (mapIssuerSigIndexes ((groupFrom cid 0 arts).map Prod.snd))) = true

theorem consistent_of_check (k : Kind) (O : Nat → GroupOracle) (arts : List Sig) :
    ∀ (factory : Factory), checkConsistent k O arts factory = true →
      UniqConsistent O arts factory ∧ GuessConsistent k O arts factory
  | [], _ => ⟨fun _ _ h => by simp at h, fun _ _ h => by simp at h⟩
  | (cid0, none) :: rest, h => by
    obtain ⟨i1, i2⟩ := consistent_of_check k O arts rest h
    exact ⟨fun cid obj hm => i1 cid obj ((List.mem_cons.mp hm).resolve_left (by simp)),
      fun cid obj hm => i2 cid obj ((List.mem_cons.mp hm).resolve_left (by simp))⟩
  | (cid0, some obj0) :: rest, h => by
    simp only [checkConsistent, Bool.and_eq_true] at h
    obtain ⟨i1, i2⟩ := consistent_of_check k O arts rest h.2
    have key : groupFrom cid0 0 arts ≠ [] →
        groupConsistent k cid0 obj0.curve.n (O cid0) (groupFrom cid0 0 arts) = true := by
      intro hne
      cases hg : groupFrom cid0 0 arts with
      | nil => exact absurd hg hne
      | cons g gs => rw [hg] at h; exact h.1
    simp only [groupConsistent, Bool.and_eq_true] at key
    constructor <;> intro cid obj hm hne <;> rcases List.mem_cons.mp hm with hm | hm
    · cases hm; exact (key hne).1
    · exact i1 cid obj hm hne
    · cases hm; exact (key hne).2
    · exact i2 cid obj hm hne

theorem mem_answersOf (O : GroupOracle) (j : Nat) (g : Int) : ∀ (cnt k0 : Nat),
    g ∈ answersOf O j cnt k0 ↔ ∃ kk, k0 ≤ kk ∧ kk < k0 + cnt ∧ g ∈ O.answer j kk
  | 0, k0 => by
    constructor
    · intro h; cases h
    · rintro ⟨_, h1, h2, _⟩; omega
  | cnt + 1, k0 => by
    rw [answersOf, List.mem_append, mem_answersOf O j g cnt (k0 + 1)]
    constructor
    · rintro (h | ⟨kk, h1, h2, h3⟩)
      · exact ⟨k0, Nat.le_refl _, by omega, h⟩
      · exact ⟨kk, by omega, by omega, h3⟩
    · rintro ⟨kk, h1, h2, h3⟩
      by_cases hk : kk = k0
      · exact .inl (hk ▸ h3)
      · exact .inr ⟨kk, by omega, by omega, h3⟩

/-- the group's answers are the answers of the solver calls of its issuers. -/
theorem mem_groupAnswers (k : Kind) (cid n : Nat) (O : GroupOracle) (g : Int) :
    ∀ (pks : Pks) (j0 : Nat), g ∈ groupAnswersFrom k cid n O j0 pks ↔
      ∃ j cs kk, j < pks.length ∧ issuerCalls k cid n (O.uniq (j0 + j)) = .ok cs ∧ kk < cs.length ∧
        g ∈ O.answer (j0 + j) kk
  | [], _ => by
    constructor
    · intro h; cases h
    · rintro ⟨_, _, _, h, _⟩; cases h
  | e :: rest, j0 => by
    rw [groupAnswersFrom, List.mem_append, mem_groupAnswers k cid n O g rest (j0 + 1)]
    simp only [Nat.add_right_comm j0 1, Nat.add_assoc j0]
    constructor
    · rintro (h | ⟨j, cs, kk, h1, h2⟩)
      · cases hc : issuerCalls k cid n (O.uniq j0) with
        | error e => rw [hc] at h; cases h
        | ok cs =>
          rw [hc] at h
          obtain ⟨kk, _, h2, h3⟩ := (mem_answersOf O j0 g cs.length 0).mp h
          exact ⟨0, cs, kk, Nat.succ_pos _, hc, by omega, h3⟩
      · exact ⟨j + 1, cs, kk, Nat.succ_lt_succ h1, h2⟩
    · rintro ⟨j, cs, kk, h1, h2, h3, h4⟩
      cases j with
      | zero =>
        rw [show issuerCalls k cid n (O.uniq j0) = .ok cs from h2]
        exact .inl ((mem_answersOf O j0 g cs.length 0).mpr ⟨kk, Nat.zero_le _, by omega, h4⟩)
      | succ j => exact .inr ⟨j, cs, kk, Nat.lt_of_succ_lt_succ h1, h2, h3, h4⟩

theorem pks_index_of_mem (pks : Pks) (k : Key) (l : List Nat) (h : (k, l) ∈ pks) :
    ∃ j, j < pks.length ∧ pks[j]? = some (k, l) := by
  obtain ⟨j, hj, he⟩ := List.mem_iff_getElem.mp h
  exact ⟨j, hj, by rw [List.getElem?_eq_getElem hj, he]⟩

theorem exists_last {α} (p : α → Prop) : ∀ (gs : List α), (∃ g ∈ gs, p g) →
    ∃ pre d post, gs = pre ++ d :: post ∧ p d ∧ ∀ g ∈ post, ¬ p g
  | [], h => by obtain ⟨g, hg, _⟩ := h; simp at hg
  | x :: xs, h => by
    by_cases hx : ∃ g ∈ xs, p g
    · obtain ⟨pre, d, post, h1, h2, h3⟩ := exists_last p xs hx
      exact ⟨x :: pre, d, post, by rw [h1]; rfl, h2, h3⟩
    · obtain ⟨g, hg, hpg⟩ := h
      rcases List.mem_cons.mp hg with rfl | hg
      · exact ⟨[], g, xs, rfl, hpg, fun g' hg' hp' => hx ⟨g', hg', hp'⟩⟩
      · exact absurd ⟨g, hg, hpg⟩ hx

/-- what the consistency of `uniq` gives for the issuer at position `j` of a group's dict:
the values are exactly those of the signatures listed there. -/
theorem uniq_values (n : Nat) (sigs : List Sig) (O : GroupOracle)
    (hcons : uniqConsistentFrom n sigs O 0 (mapIssuerSigIndexes sigs) = true)
    (j : Nat) (k : Key) (l : List Nat) (hj : (mapIssuerSigIndexes sigs)[j]? = some (k, l)) :
    O.uniq j ≠ [] ∧
    (∀ v ∈ O.uniq j, ∃ i ∈ l, ∃ sg, sigs[i]? = some sg ∧ sg.key = k ∧
      ecdsaValues n sg.r sg.s sg.mh = .ok v) ∧
    (∀ i ∈ l, ∀ sg, sigs[i]? = some sg → ∃ v ∈ O.uniq j, ecdsaValues n sg.r sg.s sg.mh = .ok v) := by
  obtain ⟨vals, hv, henum⟩ := uniqConsistentFrom_get n sigs O _ 0 hcons j (k, l) hj
  rw [Nat.zero_add, isEnumOf_iff] at henum
  have hmem : (k, l) ∈ mapIssuerSigIndexes sigs := List.mem_of_getElem? hj
  have hl := (mem_mapIssuer sigs k l).mp hmem
  have hlen := issuerValues_length n sigs l vals hv
  refine ⟨?_, ?_, ?_⟩
  · intro h0
    cases vals with
    | nil =>
      simp only [List.length_nil] at hlen
      exact hl.2 (List.eq_nil_of_length_eq_zero hlen.symm)
    | cons x xs =>
      have := (henum.2 x).mpr (by simp)
      rw [h0] at this; simp at this
  · intro v hvm
    obtain ⟨i, hi, sg, h1, h2⟩ := issuerValues_mem n sigs l vals hv v ((henum.2 v).mp hvm)
    obtain ⟨sg', h3, h4⟩ := mapIssuer_owner sigs k l i hmem hi
    rw [h1] at h3; cases h3
    exact ⟨i, hi, sg, h1, h4, h2⟩
  · intro i hi sg hsg
    obtain ⟨v, hvm, sg', h1, h2⟩ := forall₂_mem_left ((issuerValues_ok_iff n sigs l vals).mp hv) hi
    rw [hsg] at h1; cases h1
    exact ⟨v, (henum.2 v).mpr hvm, h2⟩

/-- every signature of a group has its curve id and is a signature of the batch. -/
theorem group_sig_mem (cid : Nat) (arts : List Sig) (i : Nat) (sg : Sig)
    (h : ((groupFrom cid 0 arts).map Prod.snd)[i]? = some sg) : sg ∈ arts ∧ sg.curve = cid := by
  rw [List.getElem?_map] at h
  cases hg : (groupFrom cid 0 arts)[i]? with
  | none => rw [hg] at h; cases h
  | some e =>
    rw [hg] at h
    obtain ⟨bi, s'⟩ := e
    simp only [Option.map_some, Option.some.injEq] at h
    subst h
    have := (mem_groupFrom cid arts 0 bi s').mp (List.mem_of_getElem? hg)
    exact ⟨List.mem_of_getElem? this.2.1, this.2.2⟩

/-- `ECDSAValues` is total for `n ≠ 0`, so `issuerValues` returns on every index list of the dict. -/
theorem issuerValues_of_mem (n : Nat) (hn : n ≠ 0) (sigs : List Sig) (e : Key × List Nat)
    (he : e ∈ mapIssuerSigIndexes sigs) : ∃ vals, issuerValues n sigs e.2 = .ok vals :=
  issuerValues_ok n hn sigs e.2 fun i hi =>
    let ⟨_, h3, _⟩ := mapIssuer_owner sigs e.1 e.2 i he hi
    (List.getElem?_eq_some_iff.mp h3).1

theorem checkLoop_factory (k : Kind) (O : Nat → GroupOracle) (arts : List Sig) :
    ∀ (factory : Factory) (res : CheckResult), checkLoop k O arts factory = .ok res →
      res.factory.map Prod.fst = factory.map Prod.fst ∧
      ∀ cid obj', (cid, some obj') ∈ res.factory → ∃ obj, (cid, some obj) ∈ factory ∧
        obj'.curve = obj.curve ∧
        (obj'.cache = obj.cache ∨
          ∃ gr, processGroup k cid obj.curve obj.cache (O cid) (groupFrom cid 0 arts) = .ok gr ∧
            obj'.cache = gr.cache)
  | [], res, h => by
    simp only [checkLoop, Except.ok.injEq] at h
    subst h; simp
  | (cid0, o) :: rest, res, h => by
    rcases checkLoop_cons_ok h with ⟨_, r, hr, rfl⟩ | ⟨obj0, gr0, r, rfl, hg, hp, hr, rfl⟩
    · obtain ⟨i1, i2⟩ := checkLoop_factory k O arts rest r hr
      refine ⟨by simp [CheckResult.cons, i1], ?_⟩
      intro cid obj' hm
      rcases List.mem_cons.mp hm with hm | hm
      · cases hm
        exact ⟨obj', List.mem_cons_self, rfl, Or.inl rfl⟩
      · obtain ⟨obj, h1, h2, h3⟩ := i2 cid obj' hm
        exact ⟨obj, List.mem_cons_of_mem _ h1, h2, h3⟩
    · obtain ⟨i1, i2⟩ := checkLoop_factory k O arts rest r hr
      refine ⟨by simp [CheckResult.consGroup, i1], ?_⟩
      intro cid obj' hm
      rcases List.mem_cons.mp hm with hm | hm
      · cases hm
        exact ⟨obj0, List.mem_cons_self, rfl, Or.inr ⟨gr0, hp, rfl⟩⟩
      · obtain ⟨obj, h1, h2, h3⟩ := i2 cid obj' hm
        exact ⟨obj, List.mem_cons_of_mem _ h1, h2, h3⟩

/-- every answer of every solver call of a group is in `list(guesses)` (consistent oracle). -/
theorem answer_in_guessList (k : Kind) (O : Nat → GroupOracle) (factory : Factory) (arts : List Sig)
    (hG : GuessConsistent k O arts factory) (cid : Nat) (obj : CurveObj)
    (hm : (cid, some obj) ∈ factory) (hne : groupFrom cid 0 arts ≠ [])
    (j : Nat) (cs : List Call) (kk : Nat) (g : Int)
    (hj : j < (mapIssuerSigIndexes ((groupFrom cid 0 arts).map Prod.snd)).length)
    (hc : issuerCalls k cid obj.curve.n ((O cid).uniq j) = .ok cs) (hk : kk < cs.length)
    (hg : g ∈ (O cid).answer j kk) : g ∈ (O cid).guessList := by
  have h1 := hG cid obj hm hne
  rw [isEnumOf_iff] at h1
  rw [h1.2]
  exact (mem_groupAnswers k cid obj.curve.n (O cid) g _ 0).mpr
    ⟨j, cs, kk, hj, by rwa [Nat.zero_add], hk, by rwa [Nat.zero_add]⟩

end Paranoid.EcdsaChecks
