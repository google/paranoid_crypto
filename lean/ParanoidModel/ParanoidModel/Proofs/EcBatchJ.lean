/-
Proofs/EcBatchJ.lean — BatchJacobianToAffine equals the map of JacobianToAffine; entry lemma for BatchJacobianToX.
-/
import ParanoidModel.Proofs.EcBatchInverse
namespace Paranoid.Ec
open Paranoid WeierstrassCurve
variable (c : Curve)

/-- `JacobianToAffine(p)[0]`. -/
def jToX (P : JPt) : Except PyErr (Option Int) :=
  match jToAffine c P with
  | .error e => .error e
  | .ok r => .ok r.x?

/-- batch inversion followed by an entry-wise total post-processing `h` is the map of
`k a = h a (invert (g a))`. -/
theorem zipWith_mapE {α β} (g : α → Option Int) (h : α → Option Int → β) (k : α → Except PyErr β)
    (ps : List α)
    (hk : ∀ a ∈ ps, k a = match invEntry c (g a) with
      | .error e => .error e
      | .ok w => .ok (h a w)) :
    (match mapE (invEntry c) (ps.map g) with
      | .error e => .error e
      | .ok ws => .ok (List.zipWith h ps ws)) = mapE k ps := by
  induction ps with
  | nil => rfl
  | cons a as ih =>
    have ih' := ih (fun b hb => hk b (List.mem_cons_of_mem _ hb))
    rw [List.map_cons, mapE, mapE, hk a List.mem_cons_self, ← ih']
    cases invEntry c (g a) with
    | error e => rfl
    | ok w =>
      simp only
      cases mapE (invEntry c) (as.map g) with
      | error e => rfl
      | ok ws => rfl

variable [hp : Fact (Nat.Prime c.p)]

omit hp in
theorem jToAffine_eq_invEntry (P : JPt) (h000 : ¬(P.x = 0 ∧ P.y = 0 ∧ P.z = 0)) :
    jToAffine c P = match invEntry c (some P.z) with
      | .error e => .error e
      | .ok w => .ok (match w with
        | none => Pt.inf
        | some w => jScale c P.x P.y w) := by
  unfold jToAffine invEntry truthy
  by_cases hz : P.z = 0
  · have : ¬(P.x = 0 ∧ P.y = 0) := fun h => h000 ⟨h.1, h.2, hz⟩
    simp [hz, this]
  · simp only [hz, ↓reduceIte]
    cases c.inv P.z <;> rfl

/-- **BatchJacobianToAffine** is `[JacobianToAffine(p) for p in p_list]` for every list that does
not contain the invalid triple `(0, 0, 0)` (for which the scalar function raises ValueError while the
batched one returns INFINITY). -/
theorem batchJToAffine_eq_map (ps : List JPt) (h000 : ∀ P ∈ ps, ¬(P.x = 0 ∧ P.y = 0 ∧ P.z = 0)) :
    batchJToAffine c ps = mapE (jToAffine c) ps := by
  unfold batchJToAffine
  rw [batchInverse_spec]
  exact zipWith_mapE c _ _ _ ps (fun P hP => jToAffine_eq_invEntry c P (h000 P hP))

omit hp in
theorem jToX_eq_invEntry (P : JPt) (h000 : ¬(P.x = 0 ∧ P.y = 0 ∧ P.z = 0)) :
    jToX c P = match invEntry c (some P.z) with
      | .error e => .error e
      | .ok w => .ok (match w with
        | none => none
        | some w => some (c.red (P.x * c.red (w * w)))) := by
  rw [jToX, jToAffine_eq_invEntry c P h000]
  cases invEntry c (some P.z) with
  | error e => rfl
  | ok w => cases w <;> rfl

end Paranoid.Ec
