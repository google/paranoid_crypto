/-
Proofs/Ec.lean — bridge between the integer model (Model/Ec.lean) and `ZMod p`, the Mathlib curve
`W c`, the abstraction function `toPoint`, and the refinement of the affine operations
(Negate, Double, Add, Subtract) to Mathlib's group law on `WeierstrassCurve.Affine.Point`.
-/
import ParanoidModel.Model.Ec
import ParanoidModel.Proofs.Basic
import Mathlib.AlgebraicGeometry.EllipticCurve.Affine.Point
import Mathlib.Algebra.Field.ZMod
import Mathlib.Tactic.LinearCombination

namespace Paranoid.Ec
open Paranoid WeierstrassCurve

variable (c : Curve)

abbrev F := ZMod c.p

theorem cast_red (v : Int) : ((c.red v : Int) : ZMod c.p) = (v : ZMod c.p) := by
  unfold Curve.red
  exact ZMod.intCast_mod v c.p

theorem red_eq_zero_iff (v : Int) : c.red v = 0 ↔ ((v : Int) : ZMod c.p) = 0 := by
  unfold Curve.red
  rw [ZMod.intCast_zmod_eq_zero_iff_dvd]
  exact (Int.dvd_iff_emod_eq_zero ..).symm

theorem red_nonneg (hp : 0 < c.p) (v : Int) : 0 ≤ c.red v :=
  Int.emod_nonneg v (by omega)

theorem red_lt (hp : 0 < c.p) (v : Int) : c.red v < c.p :=
  Int.emod_lt_of_pos v (by omega)

theorem red_red (v : Int) : c.red (c.red v) = c.red v := by
  unfold Curve.red
  exact Int.emod_emod_of_dvd _ (dvd_refl _)

theorem eq_of_cast_eq {u v : Int} (hu0 : 0 ≤ u) (hu : u < c.p) (hv0 : 0 ≤ v) (hv : v < c.p)
    (h : (u : ZMod c.p) = (v : ZMod c.p)) : u = v := by
  rw [ZMod.intCast_eq_intCast_iff] at h
  have := h.eq
  rw [Int.emod_eq_of_lt hu0 hu, Int.emod_eq_of_lt hv0 hv] at this
  exact this

variable [hp : Fact (Nat.Prime c.p)]

theorem inv_cases (v : Int) :
    ((v : ZMod c.p) ≠ 0 ∧ ∃ i : Int, c.inv v = .ok i ∧ 0 ≤ i ∧ i < c.p ∧ (i : ZMod c.p) = (v : ZMod c.p)⁻¹) ∨
    ((v : ZMod c.p) = 0 ∧ c.inv v = .error .zeroDivision) := by
  have hp2 : 2 ≤ c.p := hp.out.two_le
  rcases invMod_cases v c.p hp2 with ⟨hg, x, hx, hlt, hmul⟩ | ⟨hg, he⟩
  · left
    have hne : (v : ZMod c.p) ≠ 0 := fun h0 =>
      not_dvd_of_gcd_eq_one hp2 hg ((ZMod.intCast_zmod_eq_zero_iff_dvd _ _).1 h0)
    refine ⟨hne, (x : Int), ?_, by omega, by omega, ?_⟩
    · simp [Curve.inv, hx]
    · refine eq_inv_of_mul_eq_one_right ?_
      rw [← Int.cast_mul, ← ZMod.intCast_mod, hmul, Int.cast_one]
  · right
    refine ⟨?_, by simp [Curve.inv, he]⟩
    by_contra hne
    exact hg (gcd_eq_one_of_not_dvd c.p hp.out v fun h =>
      hne ((ZMod.intCast_zmod_eq_zero_iff_dvd _ _).2 h))

theorem inv_of_ne_zero {v : Int} (hv : (v : ZMod c.p) ≠ 0) :
    ∃ i : Int, c.inv v = .ok i ∧ 0 ≤ i ∧ i < c.p ∧ (i : ZMod c.p) = (v : ZMod c.p)⁻¹ := by
  rcases inv_cases c v with ⟨_, h⟩ | ⟨h0, _⟩
  · exact h
  · exact absurd h0 hv

theorem red_cast_eq_zero (v : Int) : c.red v = 0 ↔ ((c.red v : Int) : ZMod c.p) = 0 := by
  rw [cast_red, red_eq_zero_iff]

theorem red_eq_red_iff (u v : Int) : c.red u = c.red v ↔ (u : ZMod c.p) = (v : ZMod c.p) := by
  have hpos : 0 < c.p := hp.out.pos
  constructor
  · intro h
    have := congrArg (Int.cast (R := ZMod c.p)) h
    rwa [cast_red, cast_red] at this
  · intro h
    apply eq_of_cast_eq c (red_nonneg c hpos u) (red_lt c hpos u) (red_nonneg c hpos v) (red_lt c hpos v)
    rwa [cast_red, cast_red]

theorem red_cast_inj (u v : Int) :
    ((c.red u : Int) : ZMod c.p) = ((c.red v : Int) : ZMod c.p) ↔ c.red u = c.red v := by
  rw [cast_red, cast_red, red_eq_red_iff]

theorem red_one : c.red 1 = 1 := by
  unfold Curve.red
  have := hp.out.two_le
  exact Int.emod_eq_of_lt (by omega) (by omega)

/-- hypotheses on the curve parameters (besides primality of `p`): odd characteristic and
non-zero discriminant `4a³ + 27b²`. -/
structure Curve.Good (c : Curve) : Prop where
  two : c.p ≠ 2
  discr : c.discrNonzero = true

/-- `y² = x³ + a x + b` over `ZMod p` as a Mathlib Weierstrass curve. -/
def W : WeierstrassCurve.Affine (ZMod c.p) := ⟨0, 0, 0, (c.a : ZMod c.p), (c.b : ZMod c.p)⟩

@[simp] theorem W_a₁ : (W c).a₁ = 0 := rfl
@[simp] theorem W_a₂ : (W c).a₂ = 0 := rfl
@[simp] theorem W_a₃ : (W c).a₃ = 0 := rfl
@[simp] theorem W_a₄ : (W c).a₄ = (c.a : ZMod c.p) := rfl
@[simp] theorem W_a₆ : (W c).a₆ = (c.b : ZMod c.p) := rfl

theorem two_ne_zero_of_ne_two (h2 : c.p ≠ 2) : (2 : ZMod c.p) ≠ 0 := by
  intro h
  have h2' : ((2 : ℕ) : ZMod c.p) = 0 := by exact_mod_cast h
  rw [ZMod.natCast_eq_zero_iff] at h2'
  exact h2 ((Nat.prime_dvd_prime_iff_eq hp.out Nat.prime_two).mp h2')

theorem W_Δ_ne_zero (hc : c.Good) : (W c).Δ ≠ 0 := by
  have hd := hc.discr
  simp only [Curve.discrNonzero, bne_iff_ne, ne_eq, red_eq_zero_iff] at hd
  have h2 := two_ne_zero_of_ne_two c hc.two
  have e : (W c).Δ = -(2 : ZMod c.p) ^ 4 * ((4 * c.a * c.a * c.a + 27 * c.b * c.b : Int) : ZMod c.p) := by
    simp only [WeierstrassCurve.Δ, WeierstrassCurve.b₂, WeierstrassCurve.b₄, WeierstrassCurve.b₆,
      WeierstrassCurve.b₈, W_a₁, W_a₂, W_a₃, W_a₄, W_a₆]
    push_cast
    ring
  rw [e]
  exact mul_ne_zero (neg_ne_zero.mpr (pow_ne_zero 4 h2)) hd

theorem equation_iff_cast (x y : Int) : (W c).Equation (x : ZMod c.p) (y : ZMod c.p) ↔
    (((x * x + c.a) * x + c.b - y * y : Int) : ZMod c.p) = 0 := by
  rw [Affine.equation_iff, ← sub_eq_zero, ← neg_eq_zero]
  simp only [W_a₁, W_a₂, W_a₃, W_a₄, W_a₆]
  push_cast
  refine Eq.congr_left ?_
  ring

theorem onCurve_aff_iff (x y : Int) :
    onCurve c (.aff x y) = true ↔ (W c).Equation (x : ZMod c.p) (y : ZMod c.p) := by
  rw [equation_iff_cast]
  simp only [onCurve, beq_iff_eq, red_eq_zero_iff]

theorem nonsingular_of_onCurve (hc : c.Good) {x y : Int} (h : onCurve c (.aff x y) = true) :
    (W c).Nonsingular (x : ZMod c.p) (y : ZMod c.p) :=
  (Affine.equation_iff_nonsingular_of_Δ_ne_zero (W_Δ_ne_zero c hc)).mp ((onCurve_aff_iff c x y).mp h)

open Classical in
/-- abstraction function: the group element denoted by a model point (`0` for points that are not
on the curve; every theorem below assumes `onCurve`). -/
noncomputable def toPoint : Pt → (W c).Point
  | .inf => 0
  | .aff x y =>
    if h : (W c).Nonsingular (x : ZMod c.p) (y : ZMod c.p) then Affine.Point.some _ _ h else 0

@[simp] theorem toPoint_inf : toPoint c .inf = 0 := rfl

theorem toPoint_aff {x y : Int} (h : (W c).Nonsingular (x : ZMod c.p) (y : ZMod c.p)) :
    toPoint c (.aff x y) = Affine.Point.some _ _ h := by
  simp only [toPoint, dif_pos h]

theorem some_congr {x y x' y' : ZMod c.p} (h : (W c).Nonsingular x y) (hx : x = x') (hy : y = y')
    (h' : (W c).Nonsingular x' y') : Affine.Point.some x y h = Affine.Point.some x' y' h' := by
  subst hx; subst hy; rfl

theorem aff_spec {x y : Int} {X Y : ZMod c.p} (hx : (x : ZMod c.p) = X) (hy : (y : ZMod c.p) = Y)
    (h : (W c).Nonsingular X Y) :
    onCurve c (.aff x y) = true ∧ toPoint c (.aff x y) = Affine.Point.some X Y h := by
  subst hx; subst hy
  exact ⟨(onCurve_aff_iff c x y).mpr h.1, toPoint_aff c h⟩

theorem toPoint_eq_zero_iff (hc : c.Good) {R : Pt} (hR : onCurve c R = true) :
    toPoint c R = 0 ↔ R = .inf := by
  cases R with
  | inf => simp
  | aff x y => simp [toPoint_aff c (nonsingular_of_onCurve c hc hR)]

theorem onCurve_of_nonsingular {x y : Int} (h : (W c).Nonsingular (x : ZMod c.p) (y : ZMod c.p)) :
    onCurve c (.aff x y) = true := (onCurve_aff_iff c x y).mpr h.1


theorem negate_onCurve (P : Pt) (hP : onCurve c P = true) : onCurve c (negate c P) = true := by
  cases P with
  | inf => rfl
  | aff x y =>
    rw [negate, onCurve_aff_iff]
    rw [onCurve_aff_iff] at hP
    rw [Affine.equation_iff] at hP ⊢
    simp only [cast_red, W_a₁, W_a₂, W_a₃, W_a₄, W_a₆, Int.cast_neg] at hP ⊢
    linear_combination hP

theorem negate_refines (hc : c.Good) (P : Pt) (hP : onCurve c P = true) :
    toPoint c (negate c P) = - toPoint c P := by
  cases P with
  | inf => simp [negate]
  | aff x y =>
    have h := nonsingular_of_onCurve c hc hP
    rw [toPoint_aff c h, Affine.Point.neg_some, negate]
    exact (aff_spec c rfl (by simp [cast_red, Affine.negY]) _).2

omit hp in
theorem double_aff (x y : Int) : double c (.aff x y) =
    if c.red y = 0 then .ok .inf
    else match c.inv (2 * y) with
      | .error e => .error e
      | .ok i => .ok (tangent c (doubleSlope c x i) x y) := rfl

theorem double_refines (hc : c.Good) (P : Pt) (hP : onCurve c P = true) :
    ∃ R, double c P = .ok R ∧ onCurve c R = true ∧ toPoint c R = toPoint c P + toPoint c P := by
  cases P with
  | inf => exact ⟨.inf, rfl, rfl, by simp⟩
  | aff x y =>
    have h := nonsingular_of_onCurve c hc hP
    have h2 := two_ne_zero_of_ne_two c hc.two
    rw [toPoint_aff c h]
    rw [double_aff]
    by_cases hy : c.red y = 0
    · rw [if_pos hy]
      refine ⟨.inf, rfl, rfl, ?_⟩
      rw [red_eq_zero_iff] at hy
      rw [toPoint_inf, Affine.Point.add_self_of_Y_eq]
      simp [Affine.negY, hy]
    · rw [if_neg hy]
      rw [red_eq_zero_iff] at hy
      obtain ⟨i, hi, _, _, hiv⟩ := inv_of_ne_zero c (v := 2 * y) (by
        push_cast; exact mul_ne_zero h2 hy)
      rw [hi]
      have hd : (y : ZMod c.p) - (W c).negY x y = 2 * y := by
        simp only [Affine.negY, W_a₁, W_a₃]; ring
      have hne : (y : ZMod c.p) ≠ (W c).negY x y := fun he =>
        mul_ne_zero h2 hy (by rw [← hd]; exact sub_eq_zero.mpr he)
      have hsl : ((doubleSlope c x i : Int) : ZMod c.p) = (W c).slope x x y y := by
        rw [Affine.slope_of_Y_ne rfl hne, hd]
        simp only [doubleSlope, cast_red, Int.cast_mul, Int.cast_add, hiv, W_a₁, W_a₂, W_a₄]
        push_cast; ring
      have key := aff_spec c (x := c.red (doubleSlope c x i * doubleSlope c x i - 2 * x))
        (y := c.red (doubleSlope c x i * (x - c.red (doubleSlope c x i * doubleSlope c x i - 2 * x)) - y))
        (by simp only [cast_red, Int.cast_sub, Int.cast_mul, hsl, Affine.addX, W_a₁, W_a₂]
            push_cast; ring)
        (by simp only [cast_red, Int.cast_sub, Int.cast_mul, hsl, Affine.addY, Affine.negAddY,
              Affine.addX, Affine.negY, W_a₁, W_a₂, W_a₃]
            push_cast; ring)
        (Affine.nonsingular_add h h fun hxy => hne hxy.2)
      exact ⟨_, rfl, key.1, by rw [tangent, key.2, Affine.Point.add_self_of_Y_ne hne]⟩


omit hp in
theorem add_aff (x1 y1 x2 y2 : Int) : add c (.aff x1 y1) (.aff x2 y2) =
    if c.red (x1 - x2) = 0 then
      if c.red (y1 - y2) = 0 then double c (.aff x1 y1) else .ok .inf
    else match c.inv (x1 - x2) with
      | .error e => .error e
      | .ok i => .ok (chord c (c.red ((y1 - y2) * i)) x1 y1 x2) := rfl

theorem chord_spec {x1 y1 x2 y2 t : Int}
    (h1 : (W c).Nonsingular (x1 : ZMod c.p) (y1 : ZMod c.p))
    (h2 : (W c).Nonsingular (x2 : ZMod c.p) (y2 : ZMod c.p))
    (hx : (x1 : ZMod c.p) ≠ (x2 : ZMod c.p))
    (ht : (t : ZMod c.p) = ((y1 : ZMod c.p) - y2) / ((x1 : ZMod c.p) - x2)) :
    onCurve c (chord c t x1 y1 x2) = true ∧
    toPoint c (chord c t x1 y1 x2) = Affine.Point.some _ _ h1 + Affine.Point.some _ _ h2 := by
  rw [Affine.Point.add_of_X_ne hx]
  unfold chord chordX
  apply aff_spec c
  · simp only [cast_red, Int.cast_sub, Int.cast_mul, ht, Affine.addX, W_a₁, W_a₂,
      Affine.slope_of_X_ne hx]
    ring
  · simp only [cast_red, Int.cast_sub, Int.cast_mul, ht, Affine.addY, Affine.negAddY,
      Affine.addX, Affine.negY, W_a₁, W_a₂, W_a₃, Affine.slope_of_X_ne hx]
    ring

theorem add_refines (hc : c.Good) (P Q : Pt) (hP : onCurve c P = true) (hQ : onCurve c Q = true) :
    ∃ R, add c P Q = .ok R ∧ onCurve c R = true ∧ toPoint c R = toPoint c P + toPoint c Q := by
  cases P with
  | inf => exact ⟨Q, by cases Q <;> rfl, hQ, by simp⟩
  | aff x1 y1 =>
  cases Q with
  | inf => exact ⟨_, rfl, hP, by simp⟩
  | aff x2 y2 =>
    have h1 := nonsingular_of_onCurve c hc hP
    have h2 := nonsingular_of_onCurve c hc hQ
    rw [add_aff]
    by_cases hx : c.red (x1 - x2) = 0
    · rw [if_pos hx]
      rw [red_eq_zero_iff, Int.cast_sub, sub_eq_zero] at hx
      by_cases hy : c.red (y1 - y2) = 0
      · rw [if_pos hy]
        rw [red_eq_zero_iff, Int.cast_sub, sub_eq_zero] at hy
        obtain ⟨R, hR, hon, hto⟩ := double_refines c hc _ hP
        refine ⟨R, hR, hon, ?_⟩
        rw [hto, toPoint_aff c h1, toPoint_aff c h2]
        congr 1
        exact some_congr c h1 hx hy h2
      · rw [if_neg hy]
        rw [red_eq_zero_iff, Int.cast_sub, sub_eq_zero] at hy
        refine ⟨.inf, rfl, rfl, ?_⟩
        rw [toPoint_aff c h1, toPoint_aff c h2, toPoint_inf]
        exact (Affine.Point.add_of_Y_eq hx ((Affine.Y_eq_of_X_eq h1.1 h2.1 hx).resolve_left hy)).symm
    · rw [if_neg hx]
      rw [red_eq_zero_iff, Int.cast_sub, sub_eq_zero] at hx
      obtain ⟨i, hi, _, _, hiv⟩ := inv_of_ne_zero c (v := x1 - x2) (by
        rw [Int.cast_sub]; exact sub_ne_zero.mpr hx)
      rw [hi]
      have := chord_spec c (t := c.red ((y1 - y2) * i)) h1 h2 hx (by
        rw [cast_red, Int.cast_mul, hiv]; push_cast; rw [div_eq_mul_inv])
      exact ⟨_, rfl, this.1, by rw [this.2, toPoint_aff c h1, toPoint_aff c h2]⟩

theorem subtract_refines (hc : c.Good) (P Q : Pt) (hP : onCurve c P = true) (hQ : onCurve c Q = true) :
    ∃ R, subtract c P Q = .ok R ∧ onCurve c R = true ∧ toPoint c R = toPoint c P - toPoint c Q := by
  obtain ⟨R, h1, h2, h3⟩ := add_refines c hc P (negate c Q) hP (negate_onCurve c Q hQ)
  exact ⟨R, h1, h2, by rw [h3, negate_refines c hc Q hQ, sub_eq_add_neg]⟩

/-- the patched `Double` is total: it never raises, for ANY integer coordinates (on the curve or
not), when `p` is an odd prime. -/
theorem double_total (h2 : c.p ≠ 2) (P : Pt) : ∃ R, double c P = .ok R := by
  cases P with
  | inf => exact ⟨_, rfl⟩
  | aff x y =>
    rw [double_aff]
    by_cases hy : c.red y = 0
    · rw [if_pos hy]; exact ⟨_, rfl⟩
    · rw [if_neg hy]
      rw [red_eq_zero_iff] at hy
      obtain ⟨i, hi, _⟩ := inv_of_ne_zero c (v := 2 * y) (by
        push_cast; exact mul_ne_zero (two_ne_zero_of_ne_two c h2) hy)
      rw [hi]; exact ⟨_, rfl⟩

/-- the patched `Add` is total for ANY pair of integer points when `p` is an odd prime. -/
theorem add_total (h2 : c.p ≠ 2) (P Q : Pt) : ∃ R, add c P Q = .ok R := by
  cases P with
  | inf => cases Q <;> exact ⟨_, rfl⟩
  | aff x1 y1 =>
  cases Q with
  | inf => exact ⟨_, rfl⟩
  | aff x2 y2 =>
    rw [add_aff]
    by_cases hx : c.red (x1 - x2) = 0
    · rw [if_pos hx]
      by_cases hy : c.red (y1 - y2) = 0
      · rw [if_pos hy]; exact double_total c h2 _
      · rw [if_neg hy]; exact ⟨_, rfl⟩
    · rw [if_neg hx]
      rw [red_eq_zero_iff] at hx
      obtain ⟨i, hi, _⟩ := inv_of_ne_zero c hx
      rw [hi]; exact ⟨_, rfl⟩

theorem subtract_total (h2 : c.p ≠ 2) (P Q : Pt) : ∃ R, subtract c P Q = .ok R :=
  add_total c h2 P (negate c Q)

end Paranoid.Ec
