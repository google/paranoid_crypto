/-
Proofs/EcBatch.lean — the batched affine operations against the list map of the scalar operation,
for ALL lists (∞, equal points, opposite points, duplicates, unreduced coordinates): the entry
lemmas (`…Step_spec`) for all five, and the list statements `batchAddList_eq_map`,
`batchDouble_eq_map`, `batchAddX_eq_map` that other Proofs files use. BatchAdd and
BatchAddSubtractX are concluded from their entry lemmas in Props/C11.lean (`C11.batchAdd_eq_map`,
`C11.batchAddSubtractX_eq_map`). Only primality of `p` is used (through `batchInverse_spec`).
-/
import ParanoidModel.Proofs.EcBatchInverse
namespace Paranoid.Ec
open Paranoid WeierstrassCurve
variable (c : Curve)

theorem inv_red (v : Int) : c.inv (c.red v) = c.inv v := by
  unfold Curve.inv invMod Curve.red
  simp only [Int.emod_emod_of_dvd _ (dvd_refl _)]

theorem mapM₂_map {α β} (step : α → Option Int → Except PyErr β) (g : α → Option Int) (ps : List α) :
    mapM₂ step ps (ps.map g) = mapE (fun a => step a (g a)) ps := by
  induction ps with
  | nil => rfl
  | cons a as ih =>
    simp only [List.map_cons, mapM₂, mapE, ih]
    cases step a (g a) with
    | error e => rfl
    | ok r => cases mapE (fun a => step a (g a)) as <;> rfl

variable [hp : Fact (Nat.Prime c.p)]

/-- every entry is `None` or a reduced value `w % p` (what the batched point operations pass
to BatchInverse). -/
def IsRedList (l : List (Option Int)) : Prop := ∀ v ∈ l, ∀ u, v = some u → ∃ w, u = c.red w

omit hp in
theorem isRedList_nil : IsRedList c [] := fun _ h => absurd h List.not_mem_nil

omit hp in
theorem isRedList_cons {v : Option Int} {l : List (Option Int)}
    (hv : ∀ u, v = some u → ∃ w, u = c.red w) (hl : IsRedList c l) : IsRedList c (v :: l) := by
  intro v' hv' u hu
  rcases List.mem_cons.mp hv' with rfl | h
  · exact hv u hu
  · exact hl v' h u hu

omit hp in
theorem isRedList_map {α} (g : α → Option Int) (ps : List α)
    (hg : ∀ a u, g a = some u → ∃ w, u = c.red w) : IsRedList c (ps.map g) := by
  intro v hv u hu
  obtain ⟨a, _, rfl⟩ := List.mem_map.mp hv
  exact hg a u hu

/-- a reduced, non-zero value is invertible: BatchInverse cannot fail inside the batched
point operations. -/
theorem allInvertible_of_isRedList {l : List (Option Int)} (h : IsRedList c l) :
    AllInvertible c l := by
  intro v hv x hx
  cases v with
  | none => simp [truthy] at hx
  | some u =>
    obtain ⟨w, rfl⟩ := h _ hv u rfl
    simp only [truthy] at hx
    split at hx
    · cases hx
    · rename_i hne
      cases hx
      rwa [Ne, ← red_cast_eq_zero]

theorem batchInverse_red {l : List (Option Int)} (h : IsRedList c l) :
    batchInverse c l = .ok (l.map (specEntry c)) := by
  rw [batchInverse_spec, mapE_invEntry_ok c l (allInvertible_of_isRedList c h)]

/-- the inverse BatchInverse delivers for a reduced entry `w % p`. -/
theorem specEntry_red (w : Int) :
    (c.red w = 0 ∧ specEntry c (some (c.red w)) = none) ∨
    (c.red w ≠ 0 ∧ ∃ i, specEntry c (some (c.red w)) = some i ∧ c.inv w = .ok i ∧ i ≠ 0) := by
  by_cases h : c.red w = 0
  · left; exact ⟨h, by simp [specEntry, truthy, h]⟩
  · right
    refine ⟨h, invVal c (c.red w), by simp [specEntry, truthy, h], ?_, ?_⟩
    · have hne : ((c.red w : Int) : ZMod c.p) ≠ 0 := by rwa [Ne, ← red_cast_eq_zero]
      rw [← inv_red]; exact (invVal_spec c hne).1
    · have hne : ((c.red w : Int) : ZMod c.p) ≠ 0 := by rwa [Ne, ← red_cast_eq_zero]
      intro h0
      have := (invVal_spec c hne).2.2.2
      rw [h0, Int.cast_zero] at this
      exact inv_ne_zero hne this.symm

omit hp in
theorem diffX_red (p q : Pt) (u : Int) (h : diffX c p q = some u) : ∃ w, u = c.red w := by
  cases p <;> cases q <;> simp only [diffX, Option.some.injEq, reduceCtorEq] at h
  exact ⟨_, h.symm⟩

theorem addListStep_spec (p q : Pt) : addListStep c p q (specEntry c (diffX c p q)) = add c p q := by
  cases p with
  | inf => cases q <;> simp [diffX, specEntry, truthy, addListStep]
  | aff x1 y1 =>
  cases q with
  | inf => simp [diffX, specEntry, truthy, addListStep]
  | aff x2 y2 =>
    simp only [diffX]
    rcases specEntry_red c (x1 - x2) with ⟨h0, hs⟩ | ⟨h0, i, hs, hi, _⟩
    · rw [hs]; simp [addListStep]
    · rw [hs, add_aff, if_neg h0, hi]
      simp only [addListStep, mul_comm i]

omit hp in
theorem isRedList_zipWith_diffX (ps qs : List Pt) : IsRedList c (List.zipWith (diffX c) ps qs) := by
  induction ps generalizing qs with
  | nil => simpa using isRedList_nil c
  | cons p ps ih =>
    cases qs with
    | nil => simpa using isRedList_nil c
    | cons q qs =>
      rw [List.zipWith_cons_cons]
      exact isRedList_cons c (diffX_red c p q) (ih qs)

theorem addListLoop_spec (ps qs : List Pt) :
    addListLoop c ps qs ((List.zipWith (diffX c) ps qs).map (specEntry c)) =
      mapE (fun pq : Pt × Pt => add c pq.1 pq.2) (ps.zip qs) := by
  induction ps generalizing qs with
  | nil => simp [addListLoop, mapE]
  | cons p ps ih =>
    cases qs with
    | nil => simp [addListLoop, mapE]
    | cons q qs =>
      simp only [List.zipWith_cons_cons, List.map_cons, List.zip_cons_cons, addListLoop, mapE,
        addListStep_spec, ih]
      cases add c p q with
      | error e => rfl
      | ok r => cases mapE (fun pq : Pt × Pt => add c pq.1 pq.2) (ps.zip qs) <;> rfl

/-- **BatchAddList** is `[Add(p, q) for (p, q) in zip(p_list, q_list)]` for ALL lists (any mixture
of ∞, equal points, opposite points, unreduced coordinates), after the length check. -/
theorem batchAddList_eq_map (ps qs : List Pt) :
    batchAddList c ps qs =
      if ps.length ≠ qs.length then .error .valueError
      else mapE (fun pq : Pt × Pt => add c pq.1 pq.2) (ps.zip qs) := by
  unfold batchAddList
  split
  · rfl
  · rw [batchInverse_red c (isRedList_zipWith_diffX c ps qs)]
    exact addListLoop_spec c ps qs

omit hp in
theorem twoY_red (p : Pt) (u : Int) (h : twoY c p = some u) : ∃ w, u = c.red w := by
  cases p <;> simp only [twoY, Option.some.injEq, reduceCtorEq] at h
  exact ⟨_, h.symm⟩

theorem doubleStep_spec (p : Pt) : doubleStep c (double c) p (specEntry c (twoY c p)) = double c p := by
  cases p with
  | inf => simp [twoY, specEntry, truthy, doubleStep]
  | aff x y =>
    simp only [twoY]
    rcases specEntry_red c (2 * y) with ⟨h0, hs⟩ | ⟨h0, i, hs, hi, _⟩
    · rw [hs]; simp [doubleStep]
    · rw [hs, double_aff]
      have hy : c.red y ≠ 0 := by
        intro hy
        apply h0
        rw [red_eq_zero_iff] at hy ⊢
        push_cast; rw [hy, mul_zero]
      rw [if_neg hy, hi]
      simp only [doubleStep]

omit hp in
theorem doubleLoop_map (dbl : Pt → Except PyErr Pt) (g : Pt → Option Int) (ps : List Pt) :
    doubleLoop c dbl ps (ps.map g) = mapE (fun p => doubleStep c dbl p (g p)) ps := by
  induction ps with
  | nil => rfl
  | cons a as ih =>
    simp only [List.map_cons, doubleLoop, mapE, ih]
    cases doubleStep c dbl a (g a) with
    | error e => rfl
    | ok r => cases mapE (fun p => doubleStep c dbl p (g p)) as <;> rfl

/-- **BatchDouble** is `[Double(p) for p in p_list]` for ALL lists. -/
theorem batchDouble_eq_map (ps : List Pt) : batchDouble c ps = mapE (double c) ps := by
  unfold batchDouble
  rw [batchInverse_red c (isRedList_map c _ ps (twoY_red c)), List.map_map]
  simp only [doubleLoop_map, Function.comp_def, doubleStep_spec]

omit hp in
theorem truthy_some_ne {i : Int} (h : i ≠ 0) : truthy (some i) = some i := by simp [truthy, h]

theorem batchAddStep_spec (x1 y1 : Int) (q : Pt) :
    batchAddStep c x1 y1 q (specEntry c (diffX c (.aff x1 y1) q)) = add c (.aff x1 y1) q := by
  cases q with
  | inf => simp [diffX, specEntry, truthy, batchAddStep]
  | aff x2 y2 =>
    simp only [diffX]
    rcases specEntry_red c (x1 - x2) with ⟨h0, hs⟩ | ⟨h0, i, hs, hi, hi0⟩
    · rw [hs]; simp [batchAddStep, truthy]
    · rw [hs, add_aff, if_neg h0, hi]
      simp only [batchAddStep, truthy_some_ne hi0, mul_comm i]

omit hp in
theorem mapE_add_inf (qs : List Pt) : mapE (add c .inf) qs = .ok qs := by
  induction qs with
  | nil => rfl
  | cons q qs ih => simp [mapE, ih, add]

theorem batchAddXStep_spec (x1 y1 : Int) (q : Pt) :
    batchAddXStep c x1 y1 q (specEntry c (diffX c (.aff x1 y1) q)) = addX c (.aff x1 y1) q := by
  cases q with
  | inf => simp [diffX, specEntry, truthy, batchAddXStep, addX]
  | aff x2 y2 =>
    simp only [diffX]
    rcases specEntry_red c (x1 - x2) with ⟨h0, hs⟩ | ⟨h0, i, hs, hi, hi0⟩
    · rw [hs]; simp [batchAddXStep, truthy]
    · rw [hs, addX, add_aff, if_neg h0, hi]
      simp only [batchAddXStep, truthy_some_ne hi0, mul_comm i, chord, Pt.x?]

omit hp in
theorem mapE_addX_inf (qs : List Pt) : mapE (addX c .inf) qs = .ok (qs.map Pt.x?) := by
  induction qs with
  | nil => rfl
  | cons q qs ih => simp [mapE, ih, add, addX]

/-- **BatchAddX** is `[Add(p, q)[0] for q in points]` for ALL lists. -/
theorem batchAddX_eq_map (P : Pt) (qs : List Pt) : batchAddX c P qs = mapE (addX c P) qs := by
  cases P with
  | inf => rw [mapE_addX_inf]; rfl
  | aff x1 y1 =>
    simp only [batchAddX]
    rw [batchInverse_red c (isRedList_map c _ qs (diffX_red c _)), List.map_map]
    dsimp only
    rw [mapM₂_map]
    simp only [Function.comp_def, batchAddXStep_spec]

theorem batchAddSubXStep_spec (x1 y1 : Int) (q : Pt) :
    batchAddSubXStep c x1 y1 q (specEntry c (diffX c (.aff x1 y1) q)) = addSubX c (.aff x1 y1) q := by
  cases q with
  | inf => simp [diffX, specEntry, truthy, batchAddSubXStep, addSubX]
  | aff x2 y2 =>
    simp only [diffX]
    rcases specEntry_red c (x1 - x2) with ⟨h0, hs⟩ | ⟨h0, i, hs, hi, hi0⟩
    · rw [hs]; simp [batchAddSubXStep, truthy]
    · rw [hs, addSubX, subtract, negate, add_aff, add_aff]
      have ht : c.red (i * (y1 + y2)) = c.red ((y1 - c.red (-y2)) * i) := by
        rw [red_eq_red_iff]; push_cast; rw [cast_red]; push_cast; ring
      simp only [h0, ↓reduceIte, hi, batchAddSubXStep, truthy_some_ne hi0, mul_comm i (y1 - y2),
        chord, Pt.x?, ht]

end Paranoid.Ec
