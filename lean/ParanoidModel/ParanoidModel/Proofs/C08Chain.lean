/-
Proofs/C08Chain.lean — helper lemmas for Props/C08Chain.lean: the pieces that
compose `hnp_pre_*` (planted vector in the lattice), `hnp_post*` (planted row in the reduced basis
⇒ key among the guesses) and the check layer, for the call the checks really make: `w = None`.

 * `defaultW` / `getLattice_none`: the `if w is None:` block as a total function of
   `(bias, len(a), float oracle)`; `getLattice a b none … = getLattice a b (some (defaultW …)) …`
   for a non-empty window (an empty COMMON_POSTFIX window is `ZeroDivisionError`);
 * `genRel_of_modEq`: from the congruences `mult·a_i + b_i·y ≡ s + e_i (mod n)` to the integer
   relation with explicit quotients (the coefficients of the lattice combination), for ANY
   representative `y ≡ mult·x` (LLL returns `mult·x` reduced modulo `n`, not the integer product);
 * the side condition `n ∤ T₀` of `hnp_post_any` for `T₀ = n·w+1`: `not_dvd_nw1`; `±`: `good_row_of_pm`;
 * bias bits ⇒ entry bounds; the COMMON_POSTFIX decomposition `k = low + 2^β·h` from
   `k mod 2^bits = low`, `β ≤ bits`, and `gcd(2^β, n) = 1` for an odd prime.
-/
import ParanoidModel.Proofs.Hnp
import ParanoidModel.Proofs.Cr50
import Mathlib.Tactic.Ring

namespace Paranoid.C08Chain
open Paranoid Paranoid.Hnp

/-! ### `w = None` -/

/-- the value the `if w is None:` block assigns (`fb` = the float oracle
`int(n.bit_length() / len(a) * 1.25)`, only read for COMMON_POSTFIX). -/
def defaultW (bias : Bias) (len fb : Nat) : Int :=
  match bias with
  | .msb => defaultWPrefix len
  | .commonPrefix => defaultWPrefix len
  | .commonPostfix => 2 ^ (max 3 fb)
  | .generalized => defaultWGeneralized len

theorem defaultWPrefix_pos (len : Nat) : 0 < defaultWPrefix len := by
  unfold defaultWPrefix; split_ifs <;> positivity

theorem defaultWGeneralized_pos (len : Nat) : 0 < defaultWGeneralized len := by
  unfold defaultWGeneralized; split_ifs <;> positivity

theorem defaultW_pos (bias : Bias) (len fb : Nat) : 0 < defaultW bias len fb := by
  cases bias
  · exact defaultWPrefix_pos len
  · exact defaultWPrefix_pos len
  · show (0 : Int) < 2 ^ (max 3 fb); positivity
  · exact defaultWGeneralized_pos len

/-- the default weights are the documented powers of two. -/
theorem defaultW_table (len fb : Nat) :
    defaultW .msb len fb = (if len < 4 then 2 ^ 128 else if len < 9 then 2 ^ 64
      else if len < 14 then 2 ^ 48 else 2 ^ 32) ∧
    defaultW .commonPrefix len fb = defaultW .msb len fb ∧
    defaultW .commonPostfix len fb = 2 ^ (max 3 fb) ∧
    defaultW .generalized len fb = (if len < 20 then 2 ^ 64 else if len < 32 then 2 ^ 48
      else 2 ^ 64) :=
  ⟨rfl, rfl, rfl, rfl⟩

/-- **the default.** With `w = None` and a non-empty window (or any bias but COMMON_POSTFIX)
`GetLattice` builds exactly the lattice of `w = defaultW bias len(a) fb`. -/
theorem getLattice_none (a b : List Int) (n : Nat) (bias : Bias) (fb : Nat)
    (hne : a.length ≠ 0 ∨ bias ≠ .commonPostfix) :
    getLattice a b none n bias fb = getLattice a b (some (defaultW bias a.length fb)) n bias fb := by
  unfold getLattice
  by_cases hl : a.length ≠ b.length
  · rw [if_pos hl, if_pos hl]
  · rw [if_neg hl, if_neg hl]
    cases bias <;> simp only [hnpResolveW, hnpDefaultW, defaultW]
    rw [if_neg (by rcases hne with h | h; exact h; exact absurd rfl h)]

theorem hiddenNumberProblem_none (a b : List Int) (n : Nat) (bias : Bias) (fb : Nat)
    (basis : List (List Int)) (hne : a.length ≠ 0 ∨ bias ≠ .commonPostfix) :
    hiddenNumberProblem a b none n bias fb basis =
      hiddenNumberProblem a b (some (defaultW bias a.length fb)) n bias fb basis := by
  unfold hiddenNumberProblem
  rw [getLattice_none a b n bias fb hne]

/-- the empty COMMON_POSTFIX window raises (`n.bit_length() / 0`). -/
theorem getLattice_none_empty_postfix (n fb : Nat) :
    getLattice [] [] none n .commonPostfix fb = .error .zeroDivision := by
  simp [getLattice, hnpResolveW, hnpDefaultW]

/-- an odd prime is coprime to every power of two. -/
theorem gcd_two_pow (n : Nat) (hp : n.Prime) (h2 : n ≠ 2) (β : Nat) :
    Int.gcd ((2 : Int) ^ β) n = 1 := by
  have hc : Nat.Coprime 2 n := by
    rw [Nat.coprime_comm]
    exact (Nat.coprime_primes hp Nat.prime_two).mpr h2
  have := Nat.Coprime.pow_left β hc
  show Nat.gcd _ _ = 1
  simpa [Int.natAbs_pow] using this

theorem getLattice_none_W (a b : List Int) (n : Nat) (bias : Bias) (fb : Nat)
    (hb : b.length = a.length) (hne : a.length ≠ 0 ∨ bias ≠ .commonPostfix) :
    getLattice a b none n bias fb = getLatticeW a b (defaultW bias a.length fb) n bias := by
  rw [getLattice_none a b n bias fb hne, getLattice_some a b _ n bias fb hb]

/-- `GetLattice(a, b, None, n, bias)` returns on the calls the checks make: `n` prime,
`len(a) = len(b)`; COMMON_POSTFIX inverts the weight `2^β`: `n` odd, window non-empty. -/
theorem getLattice_none_ok (a b : List Int) (n : Nat) (bias : Bias) (fb : Nat) (hp : n.Prime)
    (hb : b.length = a.length) (hpost : bias = .commonPostfix → n ≠ 2 ∧ a ≠ []) :
    ∃ lat, getLattice a b none n bias fb = .ok lat := by
  rw [getLattice_none_W a b n bias fb hb (or_iff_not_imp_right.mpr fun h =>
    mt List.length_eq_zero_iff.mp (hpost (not_not.mp h)).2)]
  cases bias
  case commonPostfix =>
    obtain ⟨wi, hwi⟩ := invMod_of_coprime (defaultW .commonPostfix a.length fb) n hp.pos
      (gcd_two_pow n hp (hpost rfl).1 _)
    simp only [getLatticeW, hwi]
    exact ⟨_, rfl⟩
  all_goals exact ⟨_, rfl⟩

/-! ### from congruences to the integer relation -/

/-- the quotient list of a family of congruences. -/
def quotients (a b : List Int) (n mult y s : Int) (es : List Int) : List Int :=
  (List.range a.length).map (fun i => (mult * ent a i + ent b i * y - s - ent es i) / n)

/-- from congruences to the integer relation (the `c_i` are the quotients). -/
theorem genRel_of_modEq (a b es : List Int) (n mult y s : Int)
    (hb : b.length = a.length) (he : es.length = a.length)
    (h : ∀ i, i < a.length → mult * ent a i + ent b i * y ≡ s + ent es i [ZMOD n]) :
    GenRel a b n mult y s es (quotients a b n mult y s es) := by
  refine ⟨hb, he, by simp [quotients], fun i hi => ?_⟩
  have hq : ent (quotients a b n mult y s es) i =
      (mult * ent a i + ent b i * y - s - ent es i) / n := by
    unfold quotients; rw [ent_map_range, if_pos hi]
  have hd : n ∣ mult * ent a i + ent b i * y - s - ent es i := by
    rw [sub_sub]; exact (h i hi).symm.dvd
  rw [hq]
  linear_combination (Int.ediv_mul_cancel hd).symm

theorem hnpRel_of_modEq (a b es : List Int) (n x s : Int)
    (hb : b.length = a.length) (he : es.length = a.length)
    (h : ∀ i, i < a.length → ent a i + ent b i * x ≡ s + ent es i [ZMOD n]) :
    HnpRel a b x n 1 s es (quotients a b n 1 x s es) := by
  obtain ⟨h1, h2, h3, h4⟩ := genRel_of_modEq a b es n 1 x s hb he
    (fun i hi => by rw [one_mul]; exact h i hi)
  exact ⟨h1, h2, h3, fun i hi => by linear_combination h4 i hi⟩

/-! ### `±` a row -/

/-- `row` or its negative is one of the rows of `basis`. -/
def PMMem (row : List Int) (basis : List (List Int)) : Prop :=
  row ∈ basis ∨ row.map (fun v => -v) ∈ basis

instance (row : List Int) (basis : List (List Int)) : Decidable (PMMem row basis) := by
  unfold PMMem; infer_instance

/-! ### the side condition `n ∤ T₀` of `hnp_post_any` -/

theorem not_dvd_nw1 (n : Nat) (hp : n.Prime) (w : Int) : ¬ (n : Int) ∣ (n : Int) * w + 1 := by
  intro hd
  have h2 : (n : Int) ∣ 1 := (Int.dvd_add_right (dvd_mul_right _ _)).mp hd
  have := hp.two_le
  have := Int.le_of_dvd (by norm_num) h2
  omega

theorem nw1_modEq (n : Nat) (w x : Int) : x ≡ ((n : Int) * w + 1) * x [ZMOD n] :=
  (Int.modEq_iff_dvd.mpr ⟨w * x, by ring⟩)

/-! ### post for `±` the planted row, prime modulus -/

/-- `±(T₀, T₁, …)` in the basis with `T₁ ≡ T₀·x`, `n ∤ T₀`, `n` prime: a row `(u, v, …)` with `u` a
unit and `v ≡ u·x` — the hypothesis of the post theorems. -/
theorem good_row_of_pm (n : Nat) (hp : n.Prime) (basis : List (List Int)) (x T0 T1 : Int)
    (tl : List Int) (htgt : T1 ≡ T0 * x [ZMOD n]) (h0 : ¬ (n : Int) ∣ T0)
    (hin : PMMem (T0 :: T1 :: tl) basis) :
    ∃ u v rest, (u :: v :: rest) ∈ basis ∧ Int.gcd u n = 1 ∧ v ≡ u * x [ZMOD n] := by
  rcases hin with h | h
  · exact ⟨T0, T1, tl, h, gcd_eq_one_of_not_dvd n hp T0 h0, htgt⟩
  · exact ⟨-T0, -T1, _, h, gcd_eq_one_of_not_dvd n hp _ (by rwa [dvd_neg]),
      by simpa using htgt.neg⟩

/-- **POST for every bias, no bias hypothesis.**  `n` prime, `len(a) = len(b)` (COMMON_POSTFIX: `n`
odd, window non-empty), LLL rows with at least two entries.  If the LLL answer contains
`±(T₀, T₁, …)` with `T₁ ≡ T₀·x (mod n)` and `n ∤ T₀`, then `HiddenNumberProblem(a, b, None, n, bias)`
returns a list containing `x mod n`.  Nothing is assumed about `a`, `b`, the nonces or the tail of
the row. -/
theorem hnp_post_any (a b : List Int) (n : Nat) (bias : Bias) (fb : Nat) (hp : n.Prime)
    (hb : b.length = a.length) (hpost : bias = .commonPostfix → n ≠ 2 ∧ a ≠ [])
    (basis : List (List Int)) (hrows : ∀ r ∈ basis, 2 ≤ r.length)
    (x T0 T1 : Int) (tl : List Int) (htgt : T1 ≡ T0 * x [ZMOD (n : Int)]) (h0 : ¬ (n : Int) ∣ T0)
    (hin : PMMem (T0 :: T1 :: tl) basis) :
    ∃ gs, hiddenNumberProblem a b none n bias fb basis = .ok gs ∧ (x % (n : Int)).toNat ∈ gs := by
  obtain ⟨lat, hlat⟩ := getLattice_none_ok a b n bias fb hp hb hpost
  exact hnp_post_general a b none n bias fb basis lat x hp.one_lt hlat
    (fun r hr => rowOk_of_prime n hp r (hrows r hr))
    (good_row_of_pm n hp basis x T0 T1 tl htgt h0 hin)

/-- `HiddenNumberProblem(a, b, None, n, bias)` returns on the calls the checks make, whatever
`lll.reduce` answers (rows with at least two entries). -/
theorem hnp_total (a b : List Int) (n : Nat) (bias : Bias) (fb : Nat)
    (basis : List (List Int)) (hp : n.Prime) (hb : b.length = a.length)
    (hpost : bias = .commonPostfix → n ≠ 2 ∧ a ≠ [])
    (hrows : ∀ r ∈ basis, 2 ≤ r.length) :
    ∃ gs, hiddenNumberProblem a b none n bias fb basis = .ok gs := by
  obtain ⟨lat, hlat⟩ := getLattice_none_ok a b n bias fb hp hb hpost
  unfold hiddenNumberProblem
  rw [hlat]
  exact (hnpGuessLoop_ok (hnpRowGuess n) basis []
    (fun r hr => hnpRowGuess_total n hp.pos r (rowOk_of_prime n hp r (hrows r hr)))).imp
      fun gs hgs => hgs.1

/-! ### bias bits ⇒ entry bounds -/

/-- non-negative small parts below `B` give planted entries in `[0, B·w)`. -/
theorem entries_bound (es : List Int) (w B : Int) (hw : 0 < w) (hB : ∀ e ∈ es, 0 ≤ e ∧ e < B) :
    ∀ v ∈ es.map (· * w), 0 ≤ v ∧ v < B * w := by
  intro v hv
  obtain ⟨e, he, rfl⟩ := List.mem_map.mp hv
  exact ⟨mul_nonneg (hB e he).1 hw.le, mul_lt_mul_of_pos_right (hB e he).2 hw⟩

/-! ### COMMON_POSTFIX: `k mod 2^bits = low`, `β ≤ bits` ⇒ `k = low mod 2^β + 2^β·(k / 2^β)` -/

theorem postfix_decomp (k low : Int) (bits β : Nat) (hβ : β ≤ bits)
    (hk : k % 2 ^ bits = low) : k = low % 2 ^ β + 2 ^ β * (k / 2 ^ β) := by
  have hd : ((2 : Int) ^ β) ∣ 2 ^ bits := pow_dvd_pow 2 hβ
  have h1 : k % 2 ^ β = low % 2 ^ β := by
    rw [← hk, Int.emod_emod_of_dvd k hd]
  have := Int.emod_add_mul_ediv k (2 ^ β)
  rw [h1] at this
  exact this.symm

/-- the high part of a non-negative nonce below `2^L`: `0 ≤ k / 2^β < 2^(L-β)`. -/
theorem postfix_high_bound (k : Int) (L β : Nat) (h0 : 0 ≤ k) (h1 : k < 2 ^ L) (hβ : β ≤ L) :
    0 ≤ k / 2 ^ β ∧ k / 2 ^ β < 2 ^ (L - β) := by
  have hpos : (0 : Int) < 2 ^ β := by positivity
  refine ⟨Int.ediv_nonneg h0 hpos.le, ?_⟩
  rw [Int.ediv_lt_iff_lt_mul hpos, ← pow_add, Nat.sub_add_cancel hβ]
  exact h1

end Paranoid.C08Chain
