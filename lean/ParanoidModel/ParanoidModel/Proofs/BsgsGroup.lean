/-
Proofs/BsgsGroup.lean — bookkeeping of the per-curve batches inside the EC Check methods:
`keys = [key for key in artifacts if key.ec_info.curve_type == curve_id]`, its batch positions, and
the write-back `for i, key in enumerate(keys): … SetTestResult(key.test_info, …)`.
No curve arithmetic here.
-/
import ParanoidModel.Model.Bsgs
import ParanoidModel.Proofs.Forall2
import Mathlib.Data.List.Forall2
import Mathlib.Data.List.Nodup
namespace Paranoid.Bsgs
open Paranoid Paranoid.Ec

/-- rank `r` of the group of `id` is the key at batch position `idx`. -/
def GroupAt (id : Nat) (keys : List ECKey) (r idx : Nat) : Prop :=
  (keyIdxs id keys 0)[r]? = some idx

theorem keyIdxs_shift (id : Nat) : ∀ (keys : List ECKey) (i0 : Nat),
    keyIdxs id keys i0 = (keyIdxs id keys 0).map (· + i0)
  | [], _ => rfl
  | k :: ks, i0 => by
    rw [keyIdxs, keyIdxs, keyIdxs_shift id ks (i0 + 1), keyIdxs_shift id ks (0 + 1)]
    split <;> simp [List.map_map, Function.comp_def, Nat.add_assoc, Nat.add_comm 1]

/-- positions and points of a group run in parallel: rank `r` ↦ (position, point of that key). -/
theorem group_parallel (id : Nat) : ∀ (keys : List ECKey),
    List.Forall₂ (fun idx P => ∃ k, keys[idx]? = some k ∧ k.curveType = id ∧ P = k.pt)
      (keyIdxs id keys 0) (groupPoints id keys)
  | [] => .nil
  | k :: ks => by
    have ih := group_parallel id ks
    have ih' : List.Forall₂ (fun idx P => ∃ k', (k :: ks)[idx]? = some k' ∧ k'.curveType = id ∧ P = k'.pt)
        (keyIdxs id ks (0 + 1)) (groupPoints id ks) := by
      rw [keyIdxs_shift, List.forall₂_map_left_iff]
      exact ih.imp fun idx P ⟨k', a, b, c⟩ => ⟨k', by simpa using a, b, c⟩
    rw [keyIdxs, groupPoints]
    by_cases hk : k.curveType = id
    · rw [if_pos hk, List.filter_cons_of_pos (by simpa using hk), List.map_cons]
      exact .cons ⟨k, rfl, hk, rfl⟩ ih'
    · rw [if_neg hk, List.filter_cons_of_neg (by simpa using hk)]
      exact ih'

theorem keyIdxs_lt (id : Nat) (keys : List ECKey) : ∀ idx ∈ keyIdxs id keys 0, idx < keys.length := by
  intro idx h
  obtain ⟨r, hr⟩ := List.getElem?_of_mem h
  obtain ⟨_, _, k, hk, _⟩ := forall₂_idx (group_parallel id keys) r idx hr
  exact (List.getElem?_eq_some_iff.mp hk).1

/-- strictly increasing, hence without repetition. -/
theorem keyIdxs_sorted (id : Nat) : ∀ (keys : List ECKey) (i0 : Nat),
    (keyIdxs id keys i0).Pairwise (· < ·) ∧ ∀ idx ∈ keyIdxs id keys i0, i0 ≤ idx
  | [], _ => ⟨.nil, fun _ h => by simp [keyIdxs] at h⟩
  | k :: ks, i0 => by
    obtain ⟨h1, h2⟩ := keyIdxs_sorted id ks (i0 + 1)
    rw [keyIdxs]
    split
    · refine ⟨List.pairwise_cons.mpr ⟨fun a ha => ?_, h1⟩, fun idx h => ?_⟩
      · have := h2 a ha; omega
      · rcases List.mem_cons.mp h with rfl | h
        · exact Nat.le_refl _
        · have := h2 idx h; omega
    · exact ⟨h1, fun idx h => by have := h2 idx h; omega⟩

theorem keyIdxs_nodup (id : Nat) (keys : List ECKey) : (keyIdxs id keys 0).Nodup :=
  (keyIdxs_sorted id keys 0).1.imp (fun h => Nat.ne_of_lt h)

theorem keyIdxs_inj (id : Nat) (keys : List ECKey) {i j a : Nat}
    (hi : (keyIdxs id keys 0)[i]? = some a) (hj : (keyIdxs id keys 0)[j]? = some a) : i = j := by
  obtain ⟨hi', e1⟩ := List.getElem?_eq_some_iff.mp hi
  obtain ⟨hj', e2⟩ := List.getElem?_eq_some_iff.mp hj
  exact (List.Nodup.getElem_inj_iff (keyIdxs_nodup id keys)).mp (e1.trans e2.symm)

theorem group_rank (id : Nat) : ∀ (keys : List ECKey) (p : Nat) (k : ECKey),
    keys[p]? = some k → k.curveType = id →
    ∃ r : Nat, (keyIdxs id keys 0)[r]? = some p ∧ (groupPoints id keys)[r]? = some k.pt
  | [], p, _, h, _ => by simp at h
  | k0 :: ks, p, k, h, hid => by
    rw [keyIdxs, groupPoints]
    cases p with
    | zero =>
      simp at h; subst h
      rw [if_pos hid, List.filter_cons_of_pos (by simpa using hid)]
      exact ⟨0, rfl, rfl⟩
    | succ p =>
      simp at h
      obtain ⟨r, hr1, hr2⟩ := group_rank id ks p k h hid
      have hr1' : (keyIdxs id ks (0 + 1))[r]? = some (p + 1) := by
        rw [keyIdxs_shift, List.getElem?_map, hr1]; rfl
      by_cases hk : k0.curveType = id
      · rw [if_pos hk, List.filter_cons_of_pos (by simpa using hk)]
        exact ⟨r + 1, by simpa using hr1', by simpa [groupPoints] using hr2⟩
      · rw [if_neg hk, List.filter_cons_of_neg (by simpa using hk)]
        exact ⟨r, hr1', hr2⟩

theorem mem_keyIdxs_type (id : Nat) (keys : List ECKey) (p : Nat) (k : ECKey)
    (hp : p ∈ keyIdxs id keys 0) (hk : keys[p]? = some k) : k.curveType = id := by
  obtain ⟨r, hr⟩ := List.getElem?_of_mem hp
  obtain ⟨_, _, k', hk', hid, _⟩ := forall₂_idx (group_parallel id keys) r p hr
  rw [hk] at hk'; cases hk'; exact hid

theorem mem_groupPoints_iff {id : Nat} {keys : List ECKey} {P : Pt} :
    P ∈ groupPoints id keys ↔ ∃ k ∈ keys, k.curveType = id ∧ P = k.pt := by
  unfold groupPoints
  rw [List.mem_map]
  constructor
  · rintro ⟨k, hk, rfl⟩
    obtain ⟨hk1, hk2⟩ := List.mem_filter.mp hk
    exact ⟨k, hk1, by simpa using hk2, rfl⟩
  · rintro ⟨k, hk, hid, rfl⟩
    exact ⟨k, List.mem_filter.mpr ⟨hk, by simpa using hid⟩, rfl⟩

theorem scatter_spec : ∀ (idxs : List Nat) (vs : List KV) (res : List KeyVerdict),
    idxs.Nodup → idxs.length = vs.length → (∀ i ∈ idxs, i < res.length) →
    (scatter res idxs vs).length = res.length ∧
    (∀ (r i : Nat) (v : KV), idxs[r]? = some i → vs[r]? = some v →
      (scatter res idxs vs)[i]? = some (some v)) ∧
    (∀ p, p ∉ idxs → (scatter res idxs vs)[p]? = res[p]?)
  | [], vs, res, _, _, _ => by
    cases vs <;> exact ⟨rfl, fun r i v h => by simp at h, fun p _ => rfl⟩
  | i :: is, [], res, _, hl, _ => by simp at hl
  | i :: is, v :: vs, res, hnd, hl, hlt => by
    obtain ⟨hni, hnd'⟩ := List.nodup_cons.mp hnd
    obtain ⟨h1, h2, h3⟩ := scatter_spec is vs (res.set i (some v)) hnd' (by simpa using hl)
      (fun j hj => by simpa using hlt j (List.mem_cons_of_mem _ hj))
    rw [scatter]
    refine ⟨by simpa using h1, ?_, ?_⟩
    · intro r j w hr hw
      cases r with
      | zero =>
        simp at hr hw; subst hr; subst hw
        rw [h3 i hni, List.getElem?_set, if_pos rfl, if_pos (hlt i List.mem_cons_self)]
      | succ r => exact h2 r j w (by simpa using hr) (by simpa using hw)
    · intro p hp
      rw [h3 p (fun h => hp (List.mem_cons_of_mem _ h)), List.getElem?_set,
        if_neg (fun h : i = p => hp (h ▸ List.mem_cons_self))]

/-! ### `CURVE_FACTORY.get` against the entries (dict keys are unique) -/

theorem factoryGet_none_iff {f : Factory} (hnd : (f.map (·.id)).Nodup) (id : Nat) :
    factoryGet f id = none ↔ ∀ e ∈ f, e.id = id → e.curve = none := by
  induction f with
  | nil => simp [factoryGet]
  | cons e es ih =>
    rw [List.map_cons, List.nodup_cons] at hnd
    rw [factoryGet]
    by_cases h : e.id = id
    · rw [if_pos h]
      constructor
      · intro hc e' he' hid
        rcases List.mem_cons.mp he' with rfl | he'
        · exact hc
        · exact absurd (List.mem_map.mpr ⟨e', he', hid.trans h.symm⟩) hnd.1
      · intro hall; exact hall e List.mem_cons_self h
    · rw [if_neg h, ih hnd.2]
      constructor
      · intro hall e' he' hid
        rcases List.mem_cons.mp he' with rfl | he'
        · exact absurd hid h
        · exact hall e' he' hid
      · intro hall e' he' hid; exact hall e' (List.mem_cons_of_mem _ he') hid

theorem factoryGet_mem {f : Factory} {id : Nat} {c : Curve} (h : factoryGet f id = some c) :
    ∃ e ∈ f, e.id = id ∧ e.curve = some c := by
  induction f with
  | nil => cases h
  | cons e es ih =>
    rw [factoryGet] at h
    split at h
    · exact ⟨e, List.mem_cons_self, ‹_›, h⟩
    · obtain ⟨e', he', h'⟩ := ih h
      exact ⟨e', List.mem_cons_of_mem _ he', h'⟩

theorem factoryGet_eq_of_mem {f : Factory} (hnd : (f.map (·.id)).Nodup) {e : FEntry} (he : e ∈ f) :
    factoryGet f e.id = e.curve := by
  induction f with
  | nil => cases he
  | cons e' es ih =>
    rw [List.map_cons, List.nodup_cons] at hnd
    rw [factoryGet]
    rcases List.mem_cons.mp he with rfl | he
    · rw [if_pos rfl]
    · have : e'.id ≠ e.id := fun h => hnd.1 (List.mem_map.mpr ⟨e, he, h.symm⟩)
      rw [if_neg this]
      exact ih hnd.2 he

end Paranoid.Bsgs
