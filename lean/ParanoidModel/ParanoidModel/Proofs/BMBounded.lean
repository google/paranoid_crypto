/-
Proofs/BMBounded.lean — Boolean checks that the three executable definitions of the linear
complexity (native loop, textbook recursion, brute-force shortest LFSR) agree on every sequence up
to a length.  Definitions only, no Mathlib (they can be run); that they hold for every bound is
proved in Proofs/BM.lean.
-/
import ParanoidModel.Model.BM
import ParanoidModel.Spec.Lfsr
namespace Paranoid
open Paranoid.Lfsr

def agreeUpTo (N : Nat) : Bool :=
  (List.range (N + 1)).all fun len => (List.range (2 ^ len)).all fun s =>
    bmLength s len == textbookL (bitsOf s len) &&
      textbookL (bitsOf s len) == shortestLfsr (bitsOf s len)

def agreeNativeTextbookUpTo (N : Nat) : Bool :=
  (List.range (N + 1)).all fun len => (List.range (2 ^ len)).all fun s =>
    bmLength s len == textbookL (bitsOf s len)

end Paranoid
