/-
Proofs/ClosedForm.lean — lemmas for C06 (RSA half) and the exact acceptance rates used by C07:
CheckSizes / CheckExponents criteria, `_HasDiscreteLog` = "is a power of the base" for prime
moduli, ROCA and ROCA-variant detectors, `%X` formatting, keypair seed reconstruction.
-/
import ParanoidModel.Model.ClosedForm
import ParanoidModel.Generated.Consts
import ParanoidModel.Proofs.Ecdsa
import ParanoidModel.Proofs.Pratt
import Mathlib.FieldTheory.Finite.Basic
import Mathlib.Data.Nat.Prime.Basic
import Mathlib.Data.Nat.Bitwise
namespace Paranoid

/-! ### sizes / exponent -/

theorem sizesWeak_iff (n : Nat) : sizesWeak n = true ↔ n < 2 ^ 2047 := by
  unfold sizesWeak
  rw [decide_eq_true_iff, ← bitLength_le_iff]
  omega

theorem exponentWeak_iff (e : Nat) : exponentWeak e = true ↔ e ≠ 65537 := by
  simp [exponentWeak]

theorem bytes2int_eq_iff (b : List Nat) (hb : ∀ x ∈ b, x < 256) (v : Nat) :
    bytes2int b = v ↔ b.dropWhile (· = 0) = int2bytes v := by
  constructor
  · intro h; rw [← h, int2bytes_bytes2int b hb]
  · intro h
    obtain ⟨k, hk⟩ := dropWhile_zero_eq b
    rw [hk, bytes2int_zeros_append, h, bytes2int_int2bytes]

/-! ### _HasDiscreteLog -/

theorem dlogLoop_iff (value b n : Nat) : ∀ (fuel acc : Nat), acc < n →
    (dlogLoop value b n fuel acc = true ↔ ∃ j, j < fuel ∧ acc * b ^ j % n = value)
  | 0, acc, _ => by simp [dlogLoop]
  | fuel + 1, acc, hacc => by
    have step : ∀ j, acc * b % n * b ^ j % n = acc * b ^ (j + 1) % n := fun j => by
      rw [Nat.pow_succ', ← Nat.mul_assoc, Nat.mod_mul_mod]
    rw [dlogLoop, Nat.exists_lt_succ_left, Nat.pow_zero, Nat.mul_one, Nat.mod_eq_of_lt hacc]
    split
    · next h => exact iff_of_true rfl (.inl h)
    · next h =>
      rw [dlogLoop_iff value b n fuel _ (Nat.mod_lt _ (by omega))]
      simp only [step, h, false_or]

/-- the loop of `_HasDiscreteLog` tests exactly the exponents `0 … n-2`. -/
theorem hasDiscreteLog_eq (value base n : Nat) (hn : n ≠ 0) :
    ∃ r, hasDiscreteLog value base n = .ok r ∧
      (r = true ↔ ∃ j, j < n - 1 ∧ base ^ j % n = value) := by
  refine ⟨dlogLoop value (base % n) n (n - 1) 1, by simp [hasDiscreteLog, hn], ?_⟩
  by_cases h1 : n = 1
  · subst h1; simp [dlogLoop]
  · rw [dlogLoop_iff _ _ _ _ _ (by omega)]
    simp only [Nat.one_mul, Nat.pow_mod, Nat.mod_mod]

/-- for a prime `p` not dividing `base`, exponents `0 … p-2` represent every power
(Fermat: the exponent may be reduced modulo `p - 1`). -/
theorem exists_pow_lt_of_prime (p base v : Nat) (hp : p.Prime) (hb : ¬ p ∣ base) :
    (∃ j, j < p - 1 ∧ base ^ j % p = v) ↔ ∃ k, base ^ k % p = v := by
  refine ⟨fun ⟨j, _, e⟩ => ⟨j, e⟩, ?_⟩
  rintro ⟨k, rfl⟩
  have hf : base ^ (p - 1) % p = 1 % p := by
    rw [← Nat.totient_prime hp]
    exact Nat.ModEq.pow_totient ((Nat.Prime.coprime_iff_not_dvd hp).2 hb).symm
  refine ⟨k % (p - 1), Nat.mod_lt _ (Nat.sub_pos_of_lt hp.one_lt), ?_⟩
  conv_rhs => rw [← Nat.div_add_mod k (p - 1), Nat.pow_add, Nat.pow_mul, Nat.mul_mod, Nat.pow_mod,
    hf, ← Nat.pow_mod, Nat.one_pow, ← Nat.mul_mod, Nat.one_mul]

theorem hasDiscreteLog_prime (value base p : Nat) (hp : p.Prime) (hb : ¬ p ∣ base) :
    ∃ r, hasDiscreteLog value base p = .ok r ∧ (r = true ↔ ∃ k, base ^ k % p = value) := by
  obtain ⟨r, h1, h2⟩ := hasDiscreteLog_eq value base p hp.ne_zero
  exact ⟨r, h1, h2.trans (exists_pow_lt_of_prime p base value hp hb)⟩

/-! ### loops that return `False` at the first failing test -/

/-- `for p in ps: if not test(p): return False` followed by `return True`: a function with these
two equations returns `True` exactly when every test does (and raises only if a test does). -/
theorem allLoop_iff {loop : List Nat → Except PyErr Bool} {test : Nat → Except PyErr Bool}
    {P : Nat → Prop} (h0 : loop [] = .ok true)
    (hs : ∀ p ps, loop (p :: ps) =
      match test p with
      | .error e => .error e
      | .ok false => .ok false
      | .ok true => loop ps) :
    ∀ ps, (∀ p ∈ ps, ∃ b, test p = .ok b ∧ (b = true ↔ P p)) →
      ∃ r, loop ps = .ok r ∧ (r = true ↔ ∀ p ∈ ps, P p)
  | [], _ => ⟨true, h0, by simp⟩
  | p :: ps, h => by
    obtain ⟨b, hb, hbi⟩ := h p List.mem_cons_self
    obtain ⟨r, hr, hri⟩ := allLoop_iff h0 hs ps fun q hq => h q (List.mem_cons_of_mem _ hq)
    rw [hs, hb, List.forall_mem_cons, ← hbi, ← hri]
    cases b
    · exact ⟨false, rfl, by simp⟩
    · exact ⟨r, hr, by simp⟩

/-! ### ROCAKeyDetector.IsWeak -/

theorem productOfPrimes_eq (ps : List Nat) : productOfPrimes ps = ps.prod := by
  have : ∀ (l : List Nat) (acc : Nat), l.foldl (fun a p => a * p) acc = acc * l.prod := by
    intro l
    induction l with
    | nil => intro acc; simp
    | cons x t ih => intro acc; simp [ih, Nat.mul_assoc]
  simp [productOfPrimes, this]

def GoodPrimes (ps : List Nat) (f4 : Nat) : Prop := ∀ p ∈ ps, p.Prime ∧ ¬ p ∣ f4

/-- `roca_iff` for any tuple of primes not dividing the base: the `% product_of_primes`
reduction is harmless because every prime divides the product. -/
theorem rocaIsWeak_iff (ps : List Nat) (f4 n : Nat) (hg : GoodPrimes ps f4) :
    ∃ r, rocaIsWeak ps f4 n = .ok r ∧ (r = true ↔ ∀ p ∈ ps, ∃ k, f4 ^ k % p = n % p) := by
  have h0 : productOfPrimes ps ≠ 0 := by
    rw [productOfPrimes_eq]
    exact List.prod_ne_zero fun h => (hg 0 h).1.ne_zero rfl
  obtain ⟨r, hr, hri⟩ := allLoop_iff (loop := rocaLoop f4 (n % productOfPrimes ps)) rfl
    (fun _ _ => rfl) ps fun p hp => hasDiscreteLog_prime _ f4 p (hg p hp).1 (hg p hp).2
  refine ⟨r, by simp [rocaIsWeak, h0, hr], hri.trans (forall₂_congr fun p hp => ?_)⟩
  rw [Nat.mod_mod_of_dvd n (by rw [productOfPrimes_eq]; exact List.dvd_prod hp)]

/-! ### ROCAKeyVariantDetector -/

theorem foldl_listSet_length (f : Nat → Nat) : ∀ (l : List Nat) (a : List Bool),
    (l.foldl (fun a i => a.set (f i) true) a).length = a.length
  | [], a => rfl
  | x :: t, a => by simp [List.foldl_cons, foldl_listSet_length f t]

theorem foldl_listSet_getElem? (f : Nat → Nat) (j : Nat) : ∀ (l : List Nat) (a : List Bool),
    j < a.length →
    ((l.foldl (fun a i => a.set (f i) true) a)[j]? = some true ↔
      (a[j]? = some true ∨ ∃ i ∈ l, f i = j))
  | [], a, _ => by simp
  | x :: t, a, hj => by
    rw [List.foldl_cons, foldl_listSet_getElem? f j t (a.set (f x) true) (by simpa using hj)]
    rw [List.getElem?_set]
    by_cases hx : f x = j
    · simp [hx, hj]
    · simp only [hx, ↓reduceIte, List.mem_cons, exists_eq_or_imp, false_or]

theorem quadraticResidues_length (p : Nat) : (quadraticResidues p).length = p := by
  simp [quadraticResidues, foldl_listSet_length]

theorem quadraticResidues_getElem? (p j : Nat) (hj : j < p) :
    ∃ b, (quadraticResidues p)[j]? = some b ∧ (b = true ↔ ∃ i, i < p ∧ i * i % p = j) := by
  have hlen := quadraticResidues_length p
  refine ⟨(quadraticResidues p)[j], List.getElem?_eq_getElem (by omega), ?_⟩
  have key := foldl_listSet_getElem? (fun i => i * i % p) j (List.range p) (List.replicate p false)
    (by simpa using hj)
  rw [← quadraticResidues, List.getElem?_eq_getElem (by omega)] at key
  simpa [List.getElem?_replicate] using key

/-- the table lookup is the quadratic-residue predicate (0 counts as a residue). -/
theorem qrLookup_iff (p n : Nat) (hp : p ≠ 0) :
    ∃ b, qrLookup p n = .ok b ∧ (b = true ↔ ∃ y, y * y % p = n % p) := by
  obtain ⟨b, hb, hbi⟩ := quadraticResidues_getElem? p (n % p) (Nat.mod_lt _ (by omega))
  refine ⟨b, by simp [qrLookup, hp, hb], hbi.trans ⟨fun ⟨i, _, e⟩ => ⟨i, e⟩, fun ⟨y, e⟩ => ?_⟩⟩
  exact ⟨y % p, Nat.mod_lt _ (by omega), by rw [← e, Nat.mul_mod y y p]⟩

theorem rocaVariantIsWeak_iff (vps rps : List Nat) (f4 n : Nat) (hv : ∀ p ∈ vps, p ≠ 0)
    (hg : GoodPrimes rps f4) :
    ∃ r, rocaVariantIsWeak vps rps f4 n = .ok r ∧
      (r = true ↔ (∀ p ∈ vps, ∃ y, y * y % p = n % p) ∧
        ¬ ∀ p ∈ rps, ∃ k, f4 ^ k % p = n % p) := by
  obtain ⟨q, hq, hqi⟩ := allLoop_iff (loop := qrLoop n) rfl (fun _ _ => rfl) vps
    fun p hp => qrLookup_iff p n (hv p hp)
  obtain ⟨w, hw, hwi⟩ := rocaIsWeak_iff rps f4 n hg
  rw [← hqi, ← hwi, rocaVariantIsWeak, hq]
  cases q
  · exact ⟨false, rfl, by simp⟩
  · rw [hw]; cases w
    · exact ⟨true, rfl, by simp⟩
    · exact ⟨false, rfl, by simp⟩

/-! ### `%X` formatting -/

theorem hexDigitVal_upper : ∀ d, d < 16 → hexDigitVal (upperHexDigit d) = d := by decide +kernel

theorem hexNum_digits : ∀ len n,
    hexNum ((List.range len).map fun i => upperHexDigit (n / 16 ^ (len - 1 - i) % 16)) =
      n % 16 ^ len
  | 0, n => by simp [hexNum, Nat.mod_one]
  | len + 1, n => by
    have hpre : ∀ i ∈ List.range len,
        upperHexDigit (n / 16 ^ (len + 1 - 1 - i) % 16) =
          upperHexDigit (n / 16 / 16 ^ (len - 1 - i) % 16) := fun i hi => by
      rw [List.mem_range] at hi
      rw [show len + 1 - 1 - i = (len - 1 - i) + 1 by omega, Nat.pow_succ', Nat.div_div_eq_div_mul]
    rw [List.range_succ, List.map_append, List.map_congr_left hpre]
    have happ : ∀ l c, hexNum (l ++ [c]) = hexNum l * 16 + hexDigitVal c := fun l c => by
      simp [hexNum, List.foldl_append]
    rw [List.map_singleton, happ, hexNum_digits len (n / 16), show len + 1 - 1 - len = 0 by omega, Nat.pow_zero,
      Nat.div_one, hexDigitVal_upper _ (Nat.mod_lt _ (by decide)), Nat.pow_succ',
      Nat.mod_mul]
    omega

theorem lt_pow_hexLen (n : Nat) : n < 16 ^ hexLen n := by
  unfold hexLen
  split
  · subst n; decide
  · have h := lt_two_pow_bitLength n
    have e : (16 : Nat) ^ ((bitLength n + 3) / 4) = 2 ^ (4 * ((bitLength n + 3) / 4)) := by
      rw [Nat.pow_mul]
    rw [e]
    exact Nat.lt_of_lt_of_le h (Nat.pow_le_pow_right (by decide) (by omega))

/-- `"%X"` is injective: the number is recovered by reading the digits in base 16. -/
theorem hexNum_hexUpper (n : Nat) : hexNum (hexUpper n) = n := by
  rw [hexUpper, hexNum_digits, Nat.mod_eq_of_lt (lt_pow_hexLen n)]

theorem upperHexDigit_mem : ∀ d, d < 16 → upperHexDigit d ∈ "0123456789ABCDEF".toList := by
  decide +kernel

/-- only the characters `0-9A-F` occur. -/
theorem hexUpper_chars (n : Nat) : ∀ c ∈ hexUpper n, c ∈ "0123456789ABCDEF".toList := by
  intro c hc
  rw [hexUpper, List.mem_map] at hc
  obtain ⟨i, _, rfl⟩ := hc
  exact upperHexDigit_mem _ (Nat.mod_lt _ (by decide))

theorem hexUpper_length (n : Nat) : (hexUpper n).length = hexLen n := by simp [hexUpper]

theorem upperHexDigit_ne_zero : ∀ d, d < 16 → d ≠ 0 → upperHexDigit d ≠ '0' := by decide +kernel

/-- no padding: the first digit of a non-zero number is not `0`; `"%X" % 0 = "0"`. -/
theorem hexUpper_head (n : Nat) (hn : n ≠ 0) : (hexUpper n).head? ≠ some '0' := by
  have hlen : hexLen n ≠ 0 := by
    have := lt_pow_hexLen n
    intro h; rw [h] at this; omega
  obtain ⟨L, hL⟩ : ∃ L, hexLen n = L + 1 := ⟨hexLen n - 1, by omega⟩
  have hlow : 16 ^ L ≤ n := by
    unfold hexLen at hL
    simp only [hn, ↓reduceIte] at hL
    have h1 : ¬ bitLength n ≤ 4 * L := by omega
    rw [bitLength_le_iff, Nat.pow_mul] at h1
    simpa using h1
  have hup := lt_pow_hexLen n
  rw [hL, Nat.pow_succ] at hup
  unfold hexUpper
  rw [hL, List.range_succ_eq_map, List.map_cons, List.head?_cons]
  simp only [Nat.add_sub_cancel, Nat.sub_zero]
  have hq : n / 16 ^ L < 16 := (Nat.div_lt_iff_lt_mul (Nat.pow_pos (by decide))).2 (by omega)
  have hq1 : 1 ≤ n / 16 ^ L := (Nat.le_div_iff_mul_le (Nat.pow_pos (by decide))).2 (by omega)
  rw [Nat.mod_eq_of_lt hq]
  intro h
  exact upperHexDigit_ne_zero _ hq (by omega) (Option.some.inj h)

theorem hexUpper_zero : hexUpper 0 = ['0'] := by decide

/-! ### keypair -/

theorem keypairMsb_of_le {n : Nat} (h : 64 ≤ bitLength n) :
    keypairMsb n = .ok (n >>> (bitLength n - 64)) := by
  simp [keypairMsb, Nat.not_lt.2 h]

/-- everything `CheckKeypairDenylist` does on one modulus: not flagged; flagged with the generator's
pair, whose product is `n`; or an exception, below 64 bits or from the seed reconstruction for the table
entry of the leading 64 bits. -/
theorem keypairStep_cases (table : List (Nat × List Nat)) (n : Nat)
    (gen : List Nat → Nat → Nat × Nat) :
    keypairStep table n gen = .ok (false, []) ∨
    (∃ seed, (gen seed (bitLength n)).1 * (gen seed (bitLength n)).2 = n ∧
      keypairStep table n gen =
        .ok (true, [(gen seed (bitLength n)).1, (gen seed (bitLength n)).2])) ∨
    ∃ e, keypairStep table n gen = .error e ∧ (bitLength n < 64 ∨ ∃ metadata,
      table.lookup (n >>> (bitLength n - 64)) = some metadata ∧ seedFromMeta metadata = .error e) := by
  unfold keypairStep
  by_cases hb : bitLength n < 64
  · exact .inr (.inr ⟨.valueError, by simp [keypairMsb, hb], .inl hb⟩)
  rw [keypairMsb_of_le (Nat.le_of_not_lt hb)]
  dsimp only
  cases hl : table.lookup (n >>> (bitLength n - 64)) with
  | none => exact .inl rfl
  | some metadata =>
    dsimp only
    split
    · exact .inl rfl
    cases hs : seedFromMeta metadata with
    | error e => exact .inr (.inr ⟨e, rfl, .inr ⟨metadata, rfl, hs⟩⟩)
    | ok seed =>
      dsimp only
      split
      · rename_i hpq; exact .inr (.inl ⟨seed, hpq, rfl⟩)
      · exact .inl rfl

/-- two numbers below `Y + 3a` with `8a ≤ Y` have a product below `2Y²`, as `(11/8)² < 2`. -/
theorem mul_lt_two_sq {Y a p q : Nat} (ha : 8 * a ≤ Y) (hp : p < Y + 3 * a) (hq : q < Y + 3 * a) :
    p * q < 2 * (Y * Y) := by
  have hY : 0 < Y := by omega
  have h : 8 * p * (8 * q) ≤ 11 * Y * (11 * Y) := Nat.mul_le_mul (by omega) (by omega)
  rw [Nat.mul_mul_mul_comm, Nat.mul_mul_mul_comm 11] at h
  refine Nat.lt_of_mul_lt_mul_left (a := 8 * 8) (Nat.lt_of_le_of_lt h ?_)
  rw [← Nat.mul_assoc (8 * 8)]
  exact Nat.mul_lt_mul_of_pos_right (show 11 * 11 < 8 * 8 * 2 by decide) (Nat.mul_pos hY hY)

theorem bitLength_mul_of_bounds {p q k : Nat} (hk : 1 ≤ k) (hp : 2 ^ (k - 1) ≤ p)
    (hq : 2 ^ (k - 1) ≤ q) (h : p * q < 2 ^ (2 * k - 1)) :
    bitLength (p * q) = 2 * k - 1 ∧ bitLength (p * q) ≠ 2 * k := by
  have h1 := (bitLength_le_iff _ (2 * k - 1)).mpr h
  have h2 := bitLength_mul_ge hp hq
  omega

theorem seedLoop_length : ∀ (l seed s : List Nat), seedLoop l seed = .ok s → s.length = seed.length
  | [], seed, s, h => by simp [seedLoop] at h; rw [← h]
  | [_], _, _, h => by simp [seedLoop] at h
  | i :: v :: rest, seed, s, h => by
    rw [seedLoop] at h
    split at h
    · rw [seedLoop_length rest _ s h, List.length_set]
    · simp at h

/-- pairs `i1|b1|i2|b2…` written in order into the seed. -/
def writePairs (seed : List Nat) (pairs : List (Nat × Nat)) : List Nat :=
  pairs.foldl (fun s iv => s.set iv.1 iv.2) seed

def flattenPairs (pairs : List (Nat × Nat)) : List Nat := pairs.flatMap fun iv => [iv.1, iv.2]

theorem seedLoop_pairs : ∀ (pairs : List (Nat × Nat)) (seed : List Nat),
    (∀ iv ∈ pairs, iv.1 < seed.length) →
    seedLoop (flattenPairs pairs) seed = .ok (writePairs seed pairs)
  | [], seed, _ => rfl
  | (i, v) :: rest, seed, h => by
    have hi : i < seed.length := h (i, v) List.mem_cons_self
    rw [show flattenPairs ((i, v) :: rest) = i :: v :: flattenPairs rest from rfl, seedLoop,
      if_pos hi, seedLoop_pairs rest (seed.set i v) fun iv hiv => by
        rw [List.length_set]; exact h iv (List.mem_cons_of_mem _ hiv)]
    rfl

theorem seedLoop_error : ∀ (l seed : List Nat) (e : PyErr), seedLoop l seed = .error e → e = .indexError
  | [], _, _, h => by simp [seedLoop] at h
  | [_], _, _, h => by simp [seedLoop] at h; exact h.symm
  | i :: v :: rest, seed, e, h => by
    rw [seedLoop] at h
    split at h
    · exact seedLoop_error rest _ e h
    · simp at h; exact h.symm

/-! ### facts about the regenerated tuples (`Generated/Consts.lean`) -/

open Consts

/-- trial division, evaluable by the kernel. -/
def isPrimeB (p : Nat) : Bool := decide (2 ≤ p) && (List.range p).all fun d => d < 2 || p % d != 0

theorem isPrimeB_sound (p : Nat) (h : isPrimeB p = true) : p.Prime := by
  simp only [isPrimeB, Bool.and_eq_true, decide_eq_true_eq, List.all_eq_true, List.mem_range,
    Bool.or_eq_true, bne_iff_ne, ne_eq] at h
  rw [Nat.prime_def_lt]
  refine ⟨h.1, fun m hm hd => ?_⟩
  rcases h.2 m hm with h2 | h2
  · have : m ≠ 0 := by rintro rfl; simp at hd; omega
    omega
  · exact absurd (Nat.mod_eq_zero_of_dvd hd) h2

/-- all primes `p` with `lo ≤ p ≤ hi`, ascending. -/
def primesBetween (lo hi : Nat) : List Nat :=
  (List.range (hi + 1)).filter fun p => decide (lo ≤ p) && isPrimeB p

theorem mem_primesBetween (lo hi p : Nat) :
    p ∈ primesBetween lo hi ↔ lo ≤ p ∧ p ≤ hi ∧ isPrimeB p = true := by
  simp only [primesBetween, List.mem_filter, List.mem_range, Bool.and_eq_true, decide_eq_true_eq]
  constructor
  · rintro ⟨h1, h2, h3⟩; exact ⟨h2, by omega, h3⟩
  · rintro ⟨h1, h2, h3⟩; exact ⟨by omega, h1, h3⟩

theorem isPrimeB_iff (p : Nat) : isPrimeB p = true ↔ p.Prime := by
  refine ⟨isPrimeB_sound p, fun hp => ?_⟩
  simp only [isPrimeB, Bool.and_eq_true, decide_eq_true_eq, List.all_eq_true, List.mem_range,
    Bool.or_eq_true, bne_iff_ne, ne_eq]
  refine ⟨hp.two_le, fun d hd => ?_⟩
  by_cases h2 : d < 2
  · exact .inl h2
  · exact .inr fun h0 => by
      have := (Nat.prime_def_lt.1 hp).2 d hd (Nat.dvd_of_mod_eq_zero h0); omega

/-- for the kernel: `Pratt.smallPrime` stops at `d * d > p`, `isPrimeB` divides by every number
below `p`. -/
theorem primesBetween_eq {lo hi : Nat} (h : hi < 257 * 257) :
    primesBetween lo hi =
      (List.range (hi + 1)).filter fun p => decide (lo ≤ p) && Pratt.smallPrime p :=
  List.filter_congr fun p hp => by
    rw [Bool.eq_iff_iff.2 ((isPrimeB_iff p).trans (Pratt.smallPrime_iff
      (Nat.lt_of_le_of_lt (Nat.le_of_lt_succ (List.mem_range.1 hp)) h)).symm)]

/-- the regenerated tuples are what the property names: F4 = 65537, the 39 smallest odd
primes (every prime from 3 up to the largest entry, 39 of them) and the 48 smallest primes
greater than 3. -/
theorem roca_tuples_eq :
    rocaF4 = 65537 ∧
    rocaPrimes = primesBetween 3 (rocaPrimes.foldl max 0) ∧ rocaPrimes.length = 39 ∧
    rocaVariantPrimes = primesBetween 5 (rocaVariantPrimes.foldl max 0) ∧
    rocaVariantPrimes.length = 48 := by
  rw [primesBetween_eq (by decide +kernel), primesBetween_eq (by decide +kernel)]
  decide +kernel

/-- the entries are prime: they are what the trial division above selected. -/
theorem rocaPrimes_prime : ∀ p ∈ rocaPrimes, p.Prime := fun p hp => by
  rw [roca_tuples_eq.2.1, mem_primesBetween] at hp
  exact isPrimeB_sound p hp.2.2

theorem rocaVariantPrimes_prime : ∀ p ∈ rocaVariantPrimes, p.Prime := fun p hp => by
  rw [roca_tuples_eq.2.2.2.1, mem_primesBetween] at hp
  exact isPrimeB_sound p hp.2.2

theorem rocaPrimes_not_dvd : ∀ p ∈ rocaPrimes, ¬ p ∣ rocaF4 := by decide +kernel

theorem rocaPrimes_good : GoodPrimes rocaPrimes rocaF4 :=
  fun p hp => ⟨rocaPrimes_prime p hp, rocaPrimes_not_dvd p hp⟩

/-! ### exact acceptance counts (for `roca_fp_rate`)

The per-prime accepted residues are counted through a bit mask (kernel-accelerated `|||`,
`<<<`, `testBit`) that is proved to represent exactly the residues the model accepts. -/

/-- `_HasDiscreteLog(v, F4, p)` returned `True`. -/
def rocaAccepts (f4 p v : Nat) : Bool :=
  match hasDiscreteLog v f4 p with
  | .ok true => true
  | _ => false

/-- `qr[v]` is `True` in the table of `p`. -/
def qrAccepts (p v : Nat) : Bool :=
  match qrLookup p v with
  | .ok true => true
  | _ => false

/-- number of residues `v ∈ [0, p)` the per-prime ROCA test accepts. -/
def rocaAcceptedMod (f4 p : Nat) : Nat := ((List.range p).filter (rocaAccepts f4 p)).length

/-- number of residues `v ∈ [0, p)` the variant's table accepts. -/
def qrAcceptedMod (p : Nat) : Nat := ((List.range p).filter (qrAccepts p)).length

def bitSetOf (l : List Nat) : Nat := l.foldl (fun m x => m ||| (1 <<< x)) 0

theorem testBit_foldl_lor (l : List Nat) (m v : Nat) :
    (l.foldl (fun m x => m ||| (1 <<< x)) m).testBit v = (m.testBit v || decide (v ∈ l)) := by
  induction l generalizing m with
  | nil => simp
  | cons x t ih =>
    rw [List.foldl_cons, ih, Nat.testBit_lor, Nat.one_shiftLeft, Nat.testBit_two_pow]
    by_cases h : x = v
    · subst h; simp
    · have : ¬ v = x := fun e => h e.symm
      simp [h, this]

theorem testBit_bitSetOf (l : List Nat) (v : Nat) : (bitSetOf l).testBit v = decide (v ∈ l) := by
  simp [bitSetOf, testBit_foldl_lor]

def powersList (f4 p : Nat) : List Nat := (List.range (p - 1)).map fun j => f4 ^ j % p
def squaresList (p : Nat) : List Nat := (List.range p).map fun i => i * i % p
def maskCount (p mask : Nat) : Nat := ((List.range p).filter fun v => mask.testBit v).length

theorem rocaAcceptedMod_eq (f4 p : Nat) (hp : p ≠ 0) :
    rocaAcceptedMod f4 p = maskCount p (bitSetOf (powersList f4 p)) := by
  refine congrArg List.length (List.filter_congr fun v _ => ?_)
  obtain ⟨r, hr, hri⟩ := hasDiscreteLog_eq v f4 p hp
  have hm : v ∈ powersList f4 p ↔ ∃ j, j < p - 1 ∧ f4 ^ j % p = v := by simp [powersList]
  simp only [rocaAccepts, hr, testBit_bitSetOf, hm, ← hri]
  cases r <;> rfl

theorem qrAcceptedMod_eq (p : Nat) (hp : p ≠ 0) :
    qrAcceptedMod p = maskCount p (bitSetOf (squaresList p)) := by
  refine congrArg List.length (List.filter_congr fun v hv => ?_)
  obtain ⟨b, hb, hbi⟩ := quadraticResidues_getElem? p v (List.mem_range.1 hv)
  have hm : v ∈ squaresList p ↔ ∃ i, i < p ∧ i * i % p = v := by simp [squaresList]
  simp only [qrAccepts, qrLookup, if_neg hp, Nat.mod_eq_of_lt (List.mem_range.1 hv), hb,
    testBit_bitSetOf, hm, ← hbi]
  cases b <;> rfl

/-- the product of the per-prime counts of the ROCA fingerprint against `∏ p` and against
`∏ (p - 1)`; the masks are evaluated once for the four bounds. -/
theorem roca_rates :
    ((rocaPrimes.map (rocaAcceptedMod rocaF4)).prod * 2 ^ 30 < rocaPrimes.prod ∧
      rocaPrimes.prod < (rocaPrimes.map (rocaAcceptedMod rocaF4)).prod * 2 ^ 31) ∧
    ((rocaPrimes.map (rocaAcceptedMod rocaF4)).prod * 2 ^ 27 < (rocaPrimes.map (· - 1)).prod ∧
      (rocaPrimes.map (· - 1)).prod < (rocaPrimes.map (rocaAcceptedMod rocaF4)).prod * 2 ^ 28) := by
  rw [List.map_congr_left fun p hp => rocaAcceptedMod_eq rocaF4 p (rocaPrimes_prime p hp).ne_zero]
  -- one pass for the mask, one for the count
  simp only [powersList, bitSetOf, List.foldl_map, maskCount, ← List.countP_eq_length_filter]
  decide +kernel

/-! Squaring modulo an odd prime `p` is two-to-one away from 0: `i ↦ i² mod p` takes on
`[0, (p+1)/2)` every value it takes at all, and is injective there. -/

theorem sq_mod_reflect {p i : Nat} (hi : i ≤ p) : (p - i) * (p - i) % p = i * i % p := by
  rw [← ZMod.natCast_eq_natCast_iff']
  push_cast [Nat.cast_sub hi, ZMod.natCast_self]
  ring

theorem sq_mod_injOn {p : Nat} (hp : p.Prime) {i j : Nat} (hi : 2 * i < p) (hj : 2 * j < p)
    (h : i * i % p = j * j % p) : i = j := by
  have := Fact.mk hp
  rw [← ZMod.natCast_eq_natCast_iff'] at h
  have h0 : ((i : ZMod p) - j) * (i + j) = 0 := by push_cast at h; linear_combination h
  rcases mul_eq_zero.1 h0 with h1 | h1
  · have := (ZMod.natCast_eq_natCast_iff' i j p).1 (sub_eq_zero.1 h1)
    rwa [Nat.mod_eq_of_lt (by omega), Nat.mod_eq_of_lt (by omega)] at this
  · have hd : p ∣ i + j := (ZMod.natCast_eq_zero_iff (i + j) p).1 (by push_cast; exact h1)
    have := Nat.eq_zero_of_dvd_of_lt hd (by omega)
    omega

/-- the table of the variant detector accepts `(p + 1) / 2` residues, for every odd prime. -/
theorem qrAcceptedMod_prime {p : Nat} (hp : p.Prime) (h2 : p ≠ 2) :
    qrAcceptedMod p = (p + 1) / 2 := by
  have hodd : p % 2 = 1 := hp.eq_two_or_odd.resolve_left h2
  have hpos := hp.pos
  rw [qrAcceptedMod_eq p hp.ne_zero, maskCount]
  have hcount : ((List.range p).filter fun v => (bitSetOf (squaresList p)).testBit v).length =
      ((Finset.range p).filter fun v => v ∈ squaresList p).card := by
    simp only [testBit_bitSetOf]
    rfl
  have himg : ((Finset.range p).filter fun v => v ∈ squaresList p) =
      (Finset.range ((p + 1) / 2)).image fun i => i * i % p := by
    ext v
    simp only [Finset.mem_filter, Finset.mem_range, squaresList, List.mem_map, List.mem_range,
      Finset.mem_image]
    constructor
    · rintro ⟨_, i, hi, rfl⟩
      by_cases hh : i < (p + 1) / 2
      · exact ⟨i, hh, rfl⟩
      · exact ⟨p - i, by omega, sq_mod_reflect hi.le⟩
    · rintro ⟨i, hi, rfl⟩
      exact ⟨Nat.mod_lt _ hpos, i, by omega, rfl⟩
  rw [hcount, himg, Finset.card_image_of_injOn, Finset.card_range]
  intro i hi j hj h
  simp only [Finset.coe_range, Set.mem_Iio] at hi hj
  exact sq_mod_injOn hp (by omega) (by omega) h

theorem qrAcceptedMod_variant : ∀ p ∈ rocaVariantPrimes, qrAcceptedMod p = (p + 1) / 2 :=
  fun p hp => qrAcceptedMod_prime (rocaVariantPrimes_prime p hp) fun h => by
    rw [roca_tuples_eq.2.2.2.1, mem_primesBetween] at hp
    omega

end Paranoid
