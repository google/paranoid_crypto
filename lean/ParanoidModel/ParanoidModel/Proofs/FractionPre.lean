/-
Proofs/FractionPre.lean — the "pre" half of the lattice sandwich for CheckFraction (C05):

 1. row operations (`rowCombo3`) in which Props/C05Pre.lean `fraction_vector_in_lattice` writes the
    planted vector `(c·x, −a·x, c·(d·u − a·q))` of a prime `p = (a·w + c)/d` as an integer combination
    of the rows of the lattice the code hands to LLL (`fractionLattice`);
 2. its entries are small (the docstring's derivation, made exact);
 3. its row value is `x·d·p`: a multiple of `p` and not of `q` (`fraction_vector_value`), so
    `checkFraction` returns both primes whenever the reduced basis contains ± that row
    (Props/C05Pre.lean `fraction_sandwich`, with Proofs/Fraction.lean);
 4. a prime that is a `w`-bit word repeated `k` times, apart from a small deviation, has the
    form `(a·2^(w·k) + c)/(2^w − 1)` with explicit small `a`, `c`;
 5. `CheckBitPatterns` / `CheckPermutedBitPatterns` are "try `CheckFraction(n, d)` for each `d`
    of an explicit list, first success wins".

What is NOT proved (oracle assumption): that `lll.reduce` returns the planted vector.
-/
import ParanoidModel.Proofs.Fraction
import ParanoidModel.Proofs.Basic
import ParanoidModel.Model.RsaChecks
import ParanoidModel.Driver.RsaChecks
import Mathlib.Tactic.Ring
import Mathlib.Tactic.Linarith
import Mathlib.Tactic.LinearCombination
import Mathlib.Algebra.Order.Ring.Abs
import Mathlib.Algebra.Ring.GeomSum
import Mathlib.Data.Nat.Prime.Basic

namespace Paranoid

/-! ### 1. row operations -/

def rowSmul (c : Int) (r : List Int) : List Int := r.map (c * ·)
def rowAdd (r s : List Int) : List Int := List.zipWith (· + ·) r s
def rowCombo3 (c0 c1 c2 : Int) (r0 r1 r2 : List Int) : List Int :=
  rowAdd (rowAdd (rowSmul c0 r0) (rowSmul c1 r1)) (rowSmul c2 r2)

/-! ### 2. the planted vector is short -/

/-- `d·u − a·q`, the "error" of the approximation `d·u ≈ a·q` in the docstring. -/
def fracErr (n w q d : Nat) (a : Int) : Int := (d : Int) * ((n / w : Nat) : Int) - a * q

/-- the coefficient of the third lattice row that makes the planted vector short. -/
def fracK (n w q d : Nat) (a c : Int) : Int :=
  c * ((n / w * d / w : Nat) : Int) - a * ((n % w * d / w : Nat) : Int) - a * fracErr n w q d a

/-- docstring: `d*u*w + d*v = a*q*w + c*q`, i.e. `(d·u − a·q)·w = c·q − d·v`. -/
theorem fracErr_mul (p q d w : Nat) (a c : Int) (hfrac : (d : Int) * p = a * w + c) :
    fracErr (p * q) w q d a * w = c * q - (d : Int) * ((p * q % w : Nat) : Int) := by
  unfold fracErr
  -- `x % w = x − w·(x / w)` for the cast remainder
  push_cast [Int.emod_def]
  linear_combination (q : Int) * hfrac

/-- docstring: `d*v == c*q (mod w)`. -/
theorem frac_dv_cong (p q d w : Nat) (a c : Int) (hfrac : (d : Int) * p = a * w + c) :
    ((w : Int)) ∣ c * q - (d : Int) * ((p * q % w : Nat) : Int) :=
  ⟨fracErr (p * q) w q d a, by rw [← fracErr_mul p q d w a c hfrac]; ring⟩

/-- the third entry of the planted vector, with the explicit multiple `fracK` of the last row,
is exactly `c·(d·u − a·q)`. -/
theorem frac_third_entry (p q d w : Nat) (a c : Int) (hfrac : (d : Int) * p = a * w + c) :
    c * ((p * q / w * d % w : Nat) : Int) - a * ((p * q % w * d % w : Nat) : Int)
      + fracK (p * q) w q d a c * w = c * fracErr (p * q) w q d a := by
  have h := fracErr_mul p q d w a c hfrac
  unfold fracK
  unfold fracErr at h ⊢
  push_cast [Int.emod_def] at h ⊢
  linear_combination (-a) * h

/-- docstring: `abs(d*u - a*q) < h`: precisely `|d·u − a·q|·w < |c|·q + d·w`. -/
theorem fracErr_bound (p q d w : Nat) (a c : Int) (hd : 0 < d) (hw : 0 < w)
    (hfrac : (d : Int) * p = a * w + c) :
    |fracErr (p * q) w q d a| * w < |c| * q + (d : Int) * w := by
  have hv : ((p * q % w : Nat) : Int) < w := by exact_mod_cast Nat.mod_lt _ hw
  have hdI : (0 : Int) < (d : Int) := by exact_mod_cast hd
  calc |fracErr (p * q) w q d a| * w = |fracErr (p * q) w q d a * w| := by
        rw [abs_mul, abs_of_nonneg (Int.natCast_nonneg w)]
    _ = |c * q - (d : Int) * ((p * q % w : Nat) : Int)| := by rw [fracErr_mul p q d w a c hfrac]
    _ ≤ |c * q| + |(d : Int) * ((p * q % w : Nat) : Int)| := abs_sub _ _
    _ = |c| * q + (d : Int) * ((p * q % w : Nat) : Int) := by
        rw [abs_mul, abs_of_nonneg (Int.natCast_nonneg q),
          abs_of_nonneg (mul_nonneg hdI.le (Int.natCast_nonneg _))]
    _ < |c| * q + (d : Int) * w := (add_lt_add_iff_left _).mpr (mul_lt_mul_of_pos_left hv hdI)

/-- if moreover `q ≤ m·w` (balanced primes: `m = 1` when `q < w`, `m = 2` always for primes of
equal bit length) then `|d·u − a·q| < |c|·m + d` — the docstring's `h`. -/
theorem fracErr_lt (p q d w m : Nat) (a c : Int) (hd : 0 < d) (hw : 0 < w)
    (hq : q ≤ m * w) (hfrac : (d : Int) * p = a * w + c) :
    |fracErr (p * q) w q d a| < |c| * m + d := by
  have hwI : (0 : Int) < (w : Int) := by exact_mod_cast hw
  have hqI : (q : Int) ≤ (m : Int) * w := by exact_mod_cast hq
  refine lt_of_mul_lt_mul_right ((fracErr_bound p q d w a c hd hw hfrac).trans_le ?_) hwI.le
  have := mul_le_mul_of_nonneg_left hqI (abs_nonneg c)
  linarith

/-! ### 2b. size helpers -/

namespace FracPre

theorem balanced_q_lt (p q : Nat) (hp : 0 < p) (hL : bitLength p = bitLength q) :
    q < 2 * 2 ^ (bitLength (p * q) / 2) := by
  have hq : q ≠ 0 := by
    rintro rfl
    exact bitLength_ne_zero hp.ne' hL
  have hlt := lt_two_pow_bitLength q
  rw [two_pow_bitLength hq] at hlt
  -- `p·q ≥ 2^(2(L−1))`, so `bitLength (p·q) / 2 ≥ L − 1`
  have hn := bitLength_mul_ge (hL ▸ two_pow_le_of_bitLength p hp.ne') (two_pow_le_of_bitLength q hq)
  have := Nat.pow_le_pow_right (show 0 < 2 by norm_num)
    (show bitLength q - 1 ≤ bitLength (p * q) / 2 by omega)
  omega

end FracPre

/-- the docstring's `(c*d*u − a*d*v) % w`: it is congruent to the short entry `c·(d·u − a·q)`. -/
theorem frac_third_entry_emod (p q d w : Nat) (a c : Int) (hfrac : (d : Int) * p = a * w + c) :
    (c * d * ((p * q / w : Nat) : Int) - a * d * ((p * q % w : Nat) : Int)) % (w : Int) =
      (c * fracErr (p * q) w q d a) % (w : Int) := by
  have h := fracErr_mul p q d w a c hfrac
  have : c * d * ((p * q / w : Nat) : Int) - a * d * ((p * q % w : Nat) : Int) =
      c * fracErr (p * q) w q d a + (w : Int) * (a * fracErr (p * q) w q d a) := by
    unfold fracErr at h ⊢
    linear_combination (-a) * h
  rw [this, Int.add_mul_emod_self_left]

/-! ### 3. value of the planted row, sandwich -/

theorem rowValue_planted (w x : Nat) (a c : Int) :
    rowValue w (c * x) (-a * x) = x * (a * w + c) := by
  unfold rowValue; ring

theorem rowValue_neg (w : Nat) (cx v1 : Int) : rowValue w (-cx) (-v1) = -rowValue w cx v1 := by
  unfold rowValue; ring

theorem prime_not_dvd_two_pow_mul {q : Nat} (hq : q.Prime) (hq2 : q ≠ 2) (k d : Nat)
    (hqd : ¬ q ∣ d) : ¬ q ∣ 2 ^ k * d := by
  intro h
  rcases (Nat.Prime.dvd_mul hq).mp h with h | h
  · have := hq.dvd_of_dvd_pow h
    exact hq2 ((Nat.prime_dvd_prime_iff_eq hq Nat.prime_two).mp this)
  · exact hqd h

theorem fraction_vector_value {p q : Nat} (hq : q.Prime) (hpq : p ≠ q) (hp : p.Prime)
    (d w x : Nat) (a c : Int) (hfrac : (d : Int) * p = a * w + c) (hqxd : ¬ q ∣ x * d) :
    rowValue w (c * x) (-a * x) = (x : Int) * d * p ∧
    (p : Int) ∣ rowValue w (c * x) (-a * x) ∧ ¬ (q : Int) ∣ rowValue w (c * x) (-a * x) := by
  have hv : rowValue w (c * x) (-a * x) = (x : Int) * d * p := by
    rw [rowValue_planted, ← hfrac]; ring
  refine ⟨hv, ⟨(x : Int) * d, by rw [hv]; ring⟩, ?_⟩
  rw [hv]
  intro h
  have h' : q ∣ x * d * p := by exact_mod_cast h
  rcases (Nat.Prime.dvd_mul hq).mp h' with h1 | h1
  · exact hqxd h1
  · exact hpq ((Nat.prime_dvd_prime_iff_eq hq hp).mp h1).symm

/-! ### 4. repetitions are fractions -/

/-- the `w`-bit word `W` written `k` times: `W·(2^(w·k) − 1)/(2^w − 1)`. -/
def repeatWord (W w k : Nat) : Nat := W * ((2 ^ (w * k) - 1) / (2 ^ w - 1))

theorem repUnit_mul (w k : Nat) :
    (2 ^ w - 1) * ((2 ^ (w * k) - 1) / (2 ^ w - 1)) = 2 ^ (w * k) - 1 := by
  apply Nat.mul_div_cancel'
  have := Nat.sub_one_dvd_pow_sub_one (2 ^ w) k
  rwa [← pow_mul] at this

theorem repeatWord_mul (W w k : Nat) :
    ((2 : Int) ^ w - 1) * (repeatWord W w k : Int) = (W : Int) * 2 ^ (w * k) - W := by
  have hI : ((2 ^ w - 1 : Nat) : Int) * (((2 ^ (w * k) - 1) / (2 ^ w - 1) : Nat) : Int) =
      ((2 ^ (w * k) - 1 : Nat) : Int) := by exact_mod_cast repUnit_mul w k
  rw [Int.coe_nat_two_pow_pred, Int.coe_nat_two_pow_pred] at hI
  unfold repeatWord
  rw [Nat.cast_mul]
  linear_combination (W : Int) * hI

theorem repeatWord_succ (W w k : Nat) (hw : 0 < w) :
    repeatWord W w (k + 1) = repeatWord W w k * 2 ^ w + W := by
  have h1 := repeatWord_mul W w (k + 1)
  have h2 := repeatWord_mul W w k
  have hpos : (0 : Int) < (2 : Int) ^ w - 1 := by
    have : (2 : Int) ^ 1 ≤ 2 ^ w := pow_le_pow_right₀ (by norm_num) hw
    linarith
  have : ((2 : Int) ^ w - 1) * (repeatWord W w (k + 1) : Int) =
      ((2 : Int) ^ w - 1) * ((repeatWord W w k * 2 ^ w + W : Nat) : Int) := by
    rw [h1]
    push_cast
    have e : (2 : Int) ^ (w * (k + 1)) = 2 ^ (w * k) * 2 ^ w := by rw [Nat.mul_succ, pow_add]
    rw [e]
    linear_combination (-(2 : Int) ^ w) * h2
  exact_mod_cast mul_left_cancel₀ hpos.ne' this

theorem repeatWord_zero (W w : Nat) : repeatWord W w 0 = 0 := by simp [repeatWord]

/-- a repetition with a deviation `δ` (the deviating low-order bits):
`(2^w − 1)·(P + δ) = W·2^(w·k) + ((2^w − 1)·δ − W)`. -/
theorem repetition_dev (W w k : Nat) (δ : Int) :
    ((2 : Int) ^ w - 1) * ((repeatWord W w k : Int) + δ) =
      (W : Int) * 2 ^ (w * k) + (((2 : Int) ^ w - 1) * δ - W) := by
  have := repeatWord_mul W w k
  linear_combination this

theorem abs_pred_mul_sub_lt {A B δ W : Int} (hW0 : 0 ≤ W) (hW : W < A) (hδ : |δ| < B) :
    |(A - 1) * δ - W| < A * B := by
  have hA : 0 ≤ A - 1 := by linarith
  have hB : 0 < B := (abs_nonneg δ).trans_lt hδ
  calc |(A - 1) * δ - W| ≤ |(A - 1) * δ| + |W| := abs_sub _ _
    _ = (A - 1) * |δ| + W := by rw [abs_mul, abs_of_nonneg hA, abs_of_nonneg hW0]
    _ ≤ (A - 1) * (B - 1) + (A - 1) :=
        add_le_add (mul_le_mul_of_nonneg_left (Int.le_sub_one_of_lt hδ) hA)
          (Int.le_sub_one_of_lt hW)
    _ < A * B := by linarith

/-- size of the numerator's constant term: with `W < 2^w` and `|δ| < 2^t`,
`|(2^w − 1)·δ − W| < 2^(w+t)` (in particular `< 2^w·(2^t + 1)`). -/
theorem repetition_c_bound (W w t : Nat) (δ : Int) (hW : W < 2 ^ w) (hδ : |δ| < 2 ^ t) :
    |((2 : Int) ^ w - 1) * δ - W| < 2 ^ (w + t) := by
  rw [pow_add]
  exact abs_pred_mul_sub_lt (Int.natCast_nonneg W) (by exact_mod_cast hW) hδ

/-! ### 5. enumeration of the denominators -/

/-- the denominators `CheckBitPatterns` tries when every attempt fails (same definition as the
driver op `chk.bitpatterns_ds`, which the harness compares with the Python). -/
def bitPatternDenominators (n : Nat) (ps : List Nat) : List Nat :=
  (ps.filter (fun p => p ≤ bitLength n / 8)).map (fun p => 2 ^ p - 1)

/-- the denominators `CheckPermutedBitPatterns` tries when every attempt fails (driver op
`chk.permuted_ds`). -/
def permutedDenominators (n : Nat) : List Nat :=
  [8, 16, 32, 64].flatMap fun ws =>
    ((oddRange ws).map (permutedDenominator ws)).takeWhile (fun d => bitLength d ≤ bitLength n / 8)

theorem bitPatternDenominators_eq_driver : bitPatternDenominators = Driver.bitPatternDenominators := rfl
theorem permutedDenominators_eq_driver : permutedDenominators = Driver.permutedDenominators := rfl

def tryDenominators (n : Nat) (red : Nat → List (List Int)) : List Nat → Except PyErr KeyVerdict
  | [] => .ok .pass
  | d :: rest =>
    match checkFraction n (red d) with
    | .error e => .error e
    | .ok (f :: fs) => .ok ⟨true, f :: fs, false⟩
    | .ok [] => tryDenominators n red rest

theorem bitPatternsLoop_eq (n : Nat) (red : Nat → List (List Int)) (maxPs : Nat) :
    ∀ ps : List Nat, bitPatternsLoop n maxPs red ps =
      tryDenominators n red ((ps.filter (fun p => p ≤ maxPs)).map (fun p => 2 ^ p - 1))
  | [] => rfl
  | p :: rest => by
    unfold bitPatternsLoop
    by_cases h : p > maxPs
    · rw [if_pos h, List.filter_cons_of_neg (by simpa using h)]
      exact bitPatternsLoop_eq n red maxPs rest
    · rw [if_neg h, List.filter_cons_of_pos (by simpa using h), List.map_cons, tryDenominators]
      rw [bitPatternsLoop_eq n red maxPs rest]
      cases h' : checkFraction n (red (2 ^ p - 1)) with
      | error e => rfl
      | ok fs => cases fs <;> rfl

/-- first conjunct of `C05Pre.bitpatterns_enum`. -/
theorem vBitPatterns_eq (n : Nat) (ps : List Nat) (red : Nat → List (List Int)) :
    vBitPatterns n ps red = tryDenominators n red (bitPatternDenominators n ps) :=
  bitPatternsLoop_eq n red _ ps

theorem tryDenominators_append (n : Nat) (red : Nat → List (List Int)) (l2 : List Nat) :
    ∀ l1 : List Nat, tryDenominators n red (l1 ++ l2) =
      match tryDenominators n red l1 with
      | .ok ⟨false, _, _⟩ => tryDenominators n red l2
      | r => r
  | [] => by simp [tryDenominators, KeyVerdict.pass]
  | d :: rest => by
    rw [List.cons_append, tryDenominators, tryDenominators]
    cases h : checkFraction n (red d) with
    | error e => rfl
    | ok fs =>
      cases fs with
      | nil => exact tryDenominators_append n red l2 rest
      | cons f fs => rfl

theorem permutedInner_eq (n maxD ws : Nat) (red : Nat → List (List Int)) :
    ∀ l : List Nat, permutedInner n maxD ws red l =
      match tryDenominators n red
          ((l.map (permutedDenominator ws)).takeWhile (fun d => bitLength d ≤ maxD)) with
      | .error e => .error e
      | .ok ⟨false, _, _⟩ => .ok none
      | .ok v => .ok (some v)
  | [] => by simp [permutedInner, tryDenominators, KeyVerdict.pass]
  | ps :: rest => by
    unfold permutedInner
    simp only [List.map_cons]
    by_cases h : bitLength (permutedDenominator ws ps) > maxD
    · rw [if_pos h, List.takeWhile_cons_of_neg (by simpa using h)]
      simp [tryDenominators, KeyVerdict.pass]
    · rw [if_neg h, List.takeWhile_cons_of_pos (by simpa using h), tryDenominators]
      cases h' : checkFraction n (red (permutedDenominator ws ps)) with
      | error e => rfl
      | ok fs =>
        cases fs with
        | nil => exact permutedInner_eq n maxD ws red rest
        | cons f fs => rfl

theorem permutedOuter_eq (n maxD : Nat) (red : Nat → List (List Int)) :
    ∀ wss : List Nat, permutedOuter n maxD red wss =
      tryDenominators n red (wss.flatMap fun ws =>
        ((oddRange ws).map (permutedDenominator ws)).takeWhile (fun d => bitLength d ≤ maxD))
  | [] => rfl
  | ws :: rest => by
    rw [permutedOuter, List.flatMap_cons, tryDenominators_append, permutedInner_eq,
      ← permutedOuter_eq n maxD red rest]
    cases h : tryDenominators n red
        ((List.map (permutedDenominator ws) (oddRange ws)).takeWhile (fun d => bitLength d ≤ maxD)) with
    | error e => rfl
    | ok v =>
      obtain ⟨wk, fs, su⟩ := v
      cases wk <;> rfl

/-- first conjunct of `C05Pre.permuted_enum`. -/
theorem vPermuted_eq (n : Nat) (red : Nat → List (List Int)) :
    vPermuted n red = tryDenominators n red (permutedDenominators n) :=
  permutedOuter_eq n _ red _

theorem tryDenominators_skip (n : Nat) (red : Nat → List (List Int)) (ds : List Nat) :
    ∀ l1 : List Nat, (∀ d ∈ l1, checkFraction n (red d) = .ok []) →
      tryDenominators n red (l1 ++ ds) = tryDenominators n red ds
  | [], _ => rfl
  | d :: l1, h => by
    rw [List.cons_append, tryDenominators, h d List.mem_cons_self]
    exact tryDenominators_skip n red ds l1 fun x hx => h x (List.mem_cons_of_mem _ hx)

/-- the outcome is decided by the first attempt that does not answer `[]`. -/
theorem tryDenominators_cases (n : Nat) (red : Nat → List (List Int)) : ∀ ds : List Nat,
    ((∀ d ∈ ds, checkFraction n (red d) = .ok []) ∧ tryDenominators n red ds = .ok .pass) ∨
    ∃ l1 d l2, ds = l1 ++ d :: l2 ∧ (∀ d' ∈ l1, checkFraction n (red d') = .ok []) ∧
      ((∃ e, checkFraction n (red d) = .error e ∧ tryDenominators n red ds = .error e) ∨
       ∃ f fs, checkFraction n (red d) = .ok (f :: fs) ∧
        tryDenominators n red ds = .ok ⟨true, f :: fs, false⟩)
  | [] => Or.inl ⟨fun _ h => absurd h List.not_mem_nil, rfl⟩
  | d :: rest => by
    have hnil : ∀ d' ∈ ([] : List Nat), checkFraction n (red d') = .ok [] :=
      fun _ h => absurd h List.not_mem_nil
    cases h : checkFraction n (red d) with
    | error e =>
      exact Or.inr ⟨[], d, rest, rfl, hnil, Or.inl ⟨e, h, by rw [tryDenominators, h]⟩⟩
    | ok fs0 =>
      cases fs0 with
      | cons f fs =>
        exact Or.inr ⟨[], d, rest, rfl, hnil, Or.inr ⟨f, fs, h, by rw [tryDenominators, h]⟩⟩
      | nil =>
        have e : tryDenominators n red (d :: rest) = tryDenominators n red rest := by
          rw [tryDenominators, h]
        rw [e]
        rcases tryDenominators_cases n red rest with ⟨hall, hp⟩ | ⟨l1, d', l2, rfl, hall, hres⟩
        · exact Or.inl ⟨List.forall_mem_cons.mpr ⟨h, hall⟩, hp⟩
        · exact Or.inr ⟨d :: l1, d', l2, rfl, List.forall_mem_cons.mpr ⟨h, hall⟩, hres⟩

/-- `range(3, wsize, 2)`. -/
theorem mem_oddRange (ws ps : Nat) : ps ∈ oddRange ws ↔ 3 ≤ ps ∧ ps < ws ∧ ps % 2 = 1 := by
  unfold oddRange
  simp only [List.mem_map, List.mem_range]
  constructor
  · rintro ⟨i, hi, rfl⟩; omega
  · rintro ⟨h1, h2, h3⟩; exact ⟨(ps - 3) / 2, by omega, by omega⟩

/-- for odd `psize` the division in the denominator formula is exact. -/
theorem permutedDenominator_mul (ws ps : Nat) (hodd : ps % 2 = 1) :
    permutedDenominator ws ps * (2 ^ ws + 1) = (2 ^ ps - 1) * (2 ^ (ps * ws) + 1) := by
  unfold permutedDenominator
  apply Nat.div_mul_cancel
  apply Dvd.dvd.mul_left
  have := Odd.nat_add_dvd_pow_add_pow (2 ^ ws) 1 (Nat.odd_iff.mpr hodd)
  rwa [one_pow, ← pow_mul, Nat.mul_comm ws ps] at this

end Paranoid
