/-
Proofs/PrattCurves.lean — kernel-checked primality of the curve field primes and group orders
regenerated from `ec_util.CURVE_FACTORY`, by the Pratt certificates of Generated/Consts.lean
(section `pratt`, harness/consts/pratt.py). Each theorem evaluates the certificate check (in its
form `prattCheckFast`, which implies `prattCheck`) AND compares its subject with the curve constant,
so a changed constant or a stale certificate breaks the build. Primes whose certificate search failed are absent here and listed in
`Consts.prattStatus` (Props/C11Primes.lean `uncertified`).
-/
import ParanoidModel.Proofs.Pratt
import ParanoidModel.Proofs.EcCurves
namespace Paranoid.Pratt
open Paranoid Paranoid.Ec

/-- `(q, [(prime, witness, [(r, k)])])` as emitted by harness/consts/pratt.py. -/
def Cert.ofTuple (t : Nat × List (Nat × Nat × List (Nat × Nat))) : Cert :=
  ⟨t.1, t.2.map fun s => ⟨s.1, s.2.1, s.2.2⟩⟩

theorem secp256r1_p_prime : Nat.Prime secp256r1.p :=
  prime_of_fastCert (.ofTuple Consts.pratt_secp256r1_p) _ (by decide +kernel)
theorem secp256r1_n_prime : Nat.Prime secp256r1.n :=
  prime_of_fastCert (.ofTuple Consts.pratt_secp256r1_n) _ (by decide +kernel)
theorem secp384r1_p_prime : Nat.Prime secp384r1.p :=
  prime_of_fastCert (.ofTuple Consts.pratt_secp384r1_p) _ (by decide +kernel)
theorem secp384r1_n_prime : Nat.Prime secp384r1.n :=
  prime_of_fastCert (.ofTuple Consts.pratt_secp384r1_n) _ (by decide +kernel)
theorem secp192r1_p_prime : Nat.Prime secp192r1.p :=
  prime_of_fastCert (.ofTuple Consts.pratt_secp192r1_p) _ (by decide +kernel)
theorem secp192r1_n_prime : Nat.Prime secp192r1.n :=
  prime_of_fastCert (.ofTuple Consts.pratt_secp192r1_n) _ (by decide +kernel)
theorem secp224r1_p_prime : Nat.Prime secp224r1.p :=
  prime_of_fastCert (.ofTuple Consts.pratt_secp224r1_p) _ (by decide +kernel)
theorem secp224r1_n_prime : Nat.Prime secp224r1.n :=
  prime_of_fastCert (.ofTuple Consts.pratt_secp224r1_n) _ (by decide +kernel)
theorem secp521r1_p_prime : Nat.Prime secp521r1.p :=
  prime_of_fastCert (.ofTuple Consts.pratt_secp521r1_p) _ (by decide +kernel)
theorem secp521r1_n_prime : Nat.Prime secp521r1.n :=
  prime_of_fastCert (.ofTuple Consts.pratt_secp521r1_n) _ (by decide +kernel)
theorem secp256k1_p_prime : Nat.Prime secp256k1.p :=
  prime_of_fastCert (.ofTuple Consts.pratt_secp256k1_p) _ (by decide +kernel)
theorem secp256k1_n_prime : Nat.Prime secp256k1.n :=
  prime_of_fastCert (.ofTuple Consts.pratt_secp256k1_n) _ (by decide +kernel)
theorem brainpoolP256r1_p_prime : Nat.Prime brainpoolP256r1.p :=
  prime_of_fastCert (.ofTuple Consts.pratt_brainpoolP256r1_p) _ (by decide +kernel)
theorem brainpoolP256r1_n_prime : Nat.Prime brainpoolP256r1.n :=
  prime_of_fastCert (.ofTuple Consts.pratt_brainpoolP256r1_n) _ (by decide +kernel)
theorem brainpoolP384r1_p_prime : Nat.Prime brainpoolP384r1.p :=
  prime_of_fastCert (.ofTuple Consts.pratt_brainpoolP384r1_p) _ (by decide +kernel)
theorem brainpoolP384r1_n_prime : Nat.Prime brainpoolP384r1.n :=
  prime_of_fastCert (.ofTuple Consts.pratt_brainpoolP384r1_n) _ (by decide +kernel)
theorem brainpoolP512r1_p_prime : Nat.Prime brainpoolP512r1.p :=
  prime_of_fastCert (.ofTuple Consts.pratt_brainpoolP512r1_p) _ (by decide +kernel)
theorem brainpoolP512r1_n_prime : Nat.Prime brainpoolP512r1.n :=
  prime_of_fastCert (.ofTuple Consts.pratt_brainpoolP512r1_n) _ (by decide +kernel)

/-- regression: a certificate only proves the number it is about (the `c.p == q` conjunct). -/
example : (prattCheck (.ofTuple Consts.pratt_secp192r1_p) &&
    (Cert.ofTuple Consts.pratt_secp192r1_p).p == secp192r1.n) = false :=
  Bool.and_eq_false_imp.mpr fun _ => by decide +kernel
/-- … and an empty chain (what harness/consts/pratt.py emits when it has no certificate) proves nothing. -/
example : prattCheck ⟨secp192r1.p, []⟩ = false := by decide +kernel

end Paranoid.Pratt
