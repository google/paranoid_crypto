/-
Proofs/Permuted.lean — the fraction form of a word repetition whose adjacent limbs are swapped
(C05, `CheckPermutedBitPatterns`): the analogue of `repeatWord_mul` for the denominator
`D = (2^ps − 1)(2^(ps·ws) + 1)/(2^ws + 1)` the check enumerates.

Notation: `T = 2^ws` (limb base), `d0 = 2^ps − 1`, `Φ = (T^ps + 1)/(T + 1)` (`ps` odd), `D = d0·Φ`.
The top-aligned repetition of the `ps`-bit word `W` cut to `N` limbs is
`P_N = ⌊W·T^N / d0⌋`; with `u_i = W·T^i mod d0` (the word rotated) its limbs, most significant
first, are `λ_i = ⌊T·u_i / d0⌋`, i.e. `d0·λ_i = T·u_i − u_(i+1)`, and `u_(i+ps) = u_i`.
Swapping the limbs `(2j, 2j+1)` gives `Q_M` with `Q_(M+1) = Q_M·T² + λ_(2M+1)·T + λ_(2M)`, and

    D · Q_M = A_0 · T^(2M) − A_(2M),     A_s = −(T − 1)·B_s + u_s·T·Φ,
    B_s = Σ_{i<ps} (−1)^i u_(s+i) T^(ps−1−i)          (`swapped_fraction`)

with `|A_s| < 2·d0·T^ps < 2·(T + 1)·D`: numerator coefficients at most `ws + 2` bits longer than `D`.
(The docstring of CheckPermutedBitPatterns derives this "partially by experimentation".)
-/
import ParanoidModel.Proofs.FractionPre
import ParanoidModel.Model.Patterns
import Mathlib.Algebra.Order.Ring.Abs
import Mathlib.Tactic.LinearCombination
import Mathlib.Tactic.Ring
import Mathlib.Tactic.Linarith
import Mathlib.Tactic.Positivity

namespace Paranoid.Permuted
open Paranoid

/-! ### the operation on numbers (`swapLimbs`, `periodicTop`: Model/Patterns.lean) -/

/-- the word after `i` limbs: `W·T^i mod (2^ps − 1)` (a rotation of `W`). -/
def rot (W ps ws i : Nat) : Nat := W * (2 ^ ws) ^ i % (2 ^ ps - 1)

/-- the `i`-th limb from the top. -/
def limb (W ps ws i : Nat) : Nat := 2 ^ ws * rot W ps ws i / (2 ^ ps - 1)

/-! ### abstract algebra over ℤ -/

/-- Horner form of `Σ_{i<k} (−1)^i u_(s+i) T^(k−1−i)`. -/
def altHorner (u : Nat → Int) (T : Int) (s : Nat) : Nat → Int
  | 0 => 0
  | k + 1 => altHorner u T s k * T + (-1) ^ k * u (s + k)

/-- the numerator coefficient `A_s`. -/
def coefA (u : Nat → Int) (T Φ : Int) (ps s : Nat) : Int :=
  -(T - 1) * altHorner u T s ps + u s * T * Φ

theorem altHorner_shift (u : Nat → Int) (T : Int) (s : Nat) : ∀ k,
    altHorner u T s (k + 1) = u s * T ^ k - altHorner u T (s + 1) k
  | 0 => by simp [altHorner]
  | k + 1 => by
    rw [altHorner, altHorner_shift u T s k, altHorner]
    have : s + 1 + k = s + (k + 1) := by omega
    rw [this]; ring

/-- `B_(s+1) = u_s·(T^ps + 1) − T·B_s` for odd `ps` and `u` of period `ps`. -/
theorem altHorner_next (u : Nat → Int) (T : Int) (ps : Nat) (hodd : ps % 2 = 1)
    (hper : ∀ i, u (i + ps) = u i) (s : Nat) :
    altHorner u T (s + 1) ps = u s * (T ^ ps + 1) - T * altHorner u T s ps := by
  have h1 := altHorner_shift u T s ps
  have h2 : altHorner u T s (ps + 1) = altHorner u T s ps * T + (-1) ^ ps * u (s + ps) := rfl
  have hneg : ((-1 : Int)) ^ ps = -1 := Odd.neg_one_pow (Nat.odd_iff.mpr hodd)
  rw [hneg, hper] at h2
  linear_combination h1 - h2

/-- the local identity behind the induction: one swapped pair of limbs. -/
theorem coefA_step (u lam : Nat → Int) (T Φ d0 : Int) (ps : Nat) (hodd : ps % 2 = 1)
    (hper : ∀ i, u (i + ps) = u i) (hΦ : Φ * (T + 1) = T ^ ps + 1)
    (hlam : ∀ i, d0 * lam i = T * u i - u (i + 1)) (s : Nat) :
    coefA u T Φ ps (s + 2) =
      T ^ 2 * coefA u T Φ ps s - d0 * Φ * (lam (s + 1) * T + lam s) := by
  have hB1 := altHorner_next u T ps hodd hper s
  have hB2 := altHorner_next u T ps hodd hper (s + 1)
  have hl0 := hlam s
  have hl1 := hlam (s + 1)
  unfold coefA
  have e : s + 1 + 1 = s + 2 := rfl
  rw [e] at hB2 hl1
  linear_combination (-(T - 1)) * hB2 + ((T - 1) * T) * hB1 + Φ * hl0 + (Φ * T) * hl1 +
    ((T - 1) * (u (s + 1) - T * u s)) * hΦ

/-- the swapped number, most significant pair first. -/
def swapSum (lam : Nat → Int) (T : Int) : Nat → Int
  | 0 => 0
  | M + 1 => swapSum lam T M * T ^ 2 + lam (2 * M + 1) * T + lam (2 * M)

/-- **`D·Q_M = A_0·T^(2M) − A_(2M)`.** -/
theorem swapSum_fraction (u lam : Nat → Int) (T Φ d0 : Int) (ps : Nat) (hodd : ps % 2 = 1)
    (hper : ∀ i, u (i + ps) = u i) (hΦ : Φ * (T + 1) = T ^ ps + 1)
    (hlam : ∀ i, d0 * lam i = T * u i - u (i + 1)) : ∀ M,
    d0 * Φ * swapSum lam T M = coefA u T Φ ps 0 * T ^ (2 * M) - coefA u T Φ ps (2 * M)
  | 0 => by simp [swapSum]
  | M + 1 => by
    have ih := swapSum_fraction u lam T Φ d0 ps hodd hper hΦ hlam M
    have hs := coefA_step u lam T Φ d0 ps hodd hper hΦ hlam (2 * M)
    have e : 2 * (M + 1) = 2 * M + 2 := by ring
    rw [swapSum, e, hs, pow_add]
    linear_combination (T ^ 2) * ih

/-- `(T − 1)·|B_s| ≤ d0·(T^k − 1)` (`B_s` of length `k`) when `|u_i| ≤ d0`. -/
theorem altHorner_bound (u : Nat → Int) (T d0 : Int) (hT : 1 ≤ T) (hu : ∀ i, |u i| ≤ d0) (s : Nat) :
    ∀ k, (T - 1) * |altHorner u T s k| ≤ d0 * (T ^ k - 1)
  | 0 => by simp [altHorner]
  | k + 1 => by
    have hT0 : (0 : Int) ≤ T := by linarith
    have h1 : |altHorner u T s k * T + (-1) ^ k * u (s + k)| ≤ |altHorner u T s k| * T + d0 := by
      refine (abs_add_le _ _).trans (add_le_add (by rw [abs_mul, abs_of_nonneg hT0]) ?_)
      rw [abs_mul, abs_pow, abs_neg, abs_one, one_pow, one_mul]
      exact hu _
    have h2 := mul_le_mul_of_nonneg_left h1 (by linarith : (0 : Int) ≤ T - 1)
    have h3 := mul_le_mul_of_nonneg_right (altHorner_bound u T d0 hT hu s k) hT0
    rw [altHorner, pow_succ]
    linarith

/-- `|A_s| < 2·d0·T^ps`. -/
theorem coefA_bound (u : Nat → Int) (T Φ d0 : Int) (ps : Nat) (hT : 1 ≤ T) (hd0 : 0 < d0)
    (hu : ∀ i, |u i| ≤ d0) (hΦ0 : 0 ≤ Φ) (hΦ : Φ * (T + 1) = T ^ ps + 1) (s : Nat) :
    |coefA u T Φ ps s| < 2 * d0 * T ^ ps := by
  unfold coefA
  have hTps : 1 ≤ T ^ ps := one_le_pow₀ hT
  have h1 : |-(T - 1) * altHorner u T s ps| ≤ d0 * (T ^ ps - 1) := by
    rw [abs_mul, abs_neg, abs_of_nonneg (by linarith : (0 : Int) ≤ T - 1)]
    exact altHorner_bound u T d0 hT hu s ps
  -- `Φ ≥ 1`, so `Φ·T = T^ps + 1 − Φ ≤ T^ps`
  have hΦ1 : 1 ≤ Φ := by
    rcases hΦ0.lt_or_eq with h | h
    · exact h
    · rw [← h] at hΦ; linarith
  have h2 : |u s * T * Φ| ≤ d0 * T ^ ps := by
    rw [mul_assoc, abs_mul, abs_of_nonneg (by positivity : (0 : Int) ≤ T * Φ)]
    exact mul_le_mul (hu s) (by linarith) (by positivity) hd0.le
  have := abs_add_le (-(T - 1) * altHorner u T s ps) (u s * T * Φ)
  linarith

theorem two_mul_pow_le (T Φ d0 : Int) (ps : Nat) (hd0 : 0 ≤ d0) (hΦ : Φ * (T + 1) = T ^ ps + 1) :
    2 * d0 * T ^ ps ≤ 2 * (T + 1) * (d0 * Φ) := by
  have := mul_le_mul_of_nonneg_left (show T ^ ps ≤ Φ * (T + 1) by linarith) hd0
  linarith

/-! ### the digits of the repetition -/

theorem d0_pos (ps : Nat) (hps : 1 ≤ ps) : 0 < 2 ^ ps - 1 := by
  have : 2 ^ 1 ≤ 2 ^ ps := Nat.pow_le_pow_right (by norm_num) hps
  omega

/-- `u_(i+ps) = u_i`: `T^ps = (2^ps)^ws ≡ 1 (mod 2^ps − 1)`. -/
theorem rot_periodic (W ps ws i : Nat) : rot W ps ws (i + ps) = rot W ps ws i := by
  unfold rot
  have h : (2 ^ ws) ^ ps ≡ 1 [MOD 2 ^ ps - 1] := by
    rw [← pow_mul, Nat.mul_comm, pow_mul]
    simpa using (Nat.modEq_sub (Nat.one_le_two_pow (n := ps))).pow ws
  rw [pow_add, ← Nat.mul_assoc]
  have := (Nat.ModEq.refl (W * (2 ^ ws) ^ i)).mul h
  rwa [Nat.mul_one] at this

/-- `d0·λ_i = T·u_i − u_(i+1)`. -/
theorem limb_eq (W ps ws i : Nat) :
    (2 ^ ps - 1) * limb W ps ws i + rot W ps ws (i + 1) = 2 ^ ws * rot W ps ws i := by
  unfold limb
  have hr : rot W ps ws (i + 1) = 2 ^ ws * rot W ps ws i % (2 ^ ps - 1) := by
    unfold rot
    conv_rhs => rw [Nat.mul_mod, Nat.mod_mod, ← Nat.mul_mod]
    rw [pow_succ]
    congr 1; ring
  rw [hr]; exact Nat.div_add_mod _ _

theorem limb_eq_int (W ps ws i : Nat) :
    ((2 ^ ps - 1 : Nat) : Int) * (limb W ps ws i : Int) =
      (2 : Int) ^ ws * (rot W ps ws i : Int) - (rot W ps ws (i + 1) : Int) := by
  have h := limb_eq W ps ws i
  generalize 2 ^ ps - 1 = d at h ⊢
  rw [eq_sub_iff_add_eq]
  exact_mod_cast h

theorem limb_lt (W ps ws i : Nat) (hps : 1 ≤ ps) : limb W ps ws i < 2 ^ ws := by
  unfold limb
  have hd := d0_pos ps hps
  rw [Nat.div_lt_iff_lt_mul hd]
  exact Nat.mul_lt_mul_of_pos_left (Nat.mod_lt _ hd) (Nat.two_pow_pos ws)

/-- `W·T^N = d0·P_N + u_N` and one more limb: `P_(N+1) = P_N·T + λ_N`. -/
theorem periodicTop_succ (W ps ws N : Nat) (hps : 1 ≤ ps) :
    periodicTop W ps (ws * (N + 1)) = periodicTop W ps (ws * N) * 2 ^ ws + limb W ps ws N := by
  have hd := d0_pos ps hps
  unfold periodicTop
  have h0 := Nat.div_add_mod (W * 2 ^ (ws * N)) (2 ^ ps - 1)
  have h1 := limb_eq W ps ws N
  have hrot : rot W ps ws N = W * 2 ^ (ws * N) % (2 ^ ps - 1) := by unfold rot; rw [← pow_mul]
  have hlt : rot W ps ws (N + 1) < 2 ^ ps - 1 := Nat.mod_lt _ hd
  rw [← hrot] at h0
  have key : W * 2 ^ (ws * (N + 1)) =
      (2 ^ ps - 1) * (W * 2 ^ (ws * N) / (2 ^ ps - 1) * 2 ^ ws + limb W ps ws N) +
        rot W ps ws (N + 1) := by
    calc W * 2 ^ (ws * (N + 1)) = (W * 2 ^ (ws * N)) * 2 ^ ws := by
          rw [Nat.mul_succ, pow_add, Nat.mul_assoc]
      _ = ((2 ^ ps - 1) * (W * 2 ^ (ws * N) / (2 ^ ps - 1)) + rot W ps ws N) * 2 ^ ws := by
          rw [h0]
      _ = _ := by
          rw [Nat.add_mul, Nat.mul_comm (rot W ps ws N) _, ← h1]; ring
  rw [key, Nat.mul_add_div hd, Nat.div_eq_of_lt hlt, Nat.add_zero]

theorem periodicTop_zero (W ps : Nat) (hW : W < 2 ^ ps - 1) : periodicTop W ps 0 = 0 := by
  unfold periodicTop; simpa using Nat.div_eq_of_lt hW

/-- peeling the two lowest limbs of `P_(2M+2)`. -/
theorem periodicTop_peel (W ps ws M : Nat) (hps : 1 ≤ ps) :
    periodicTop W ps (ws * (2 * M + 2)) % 2 ^ ws = limb W ps ws (2 * M + 1) ∧
    periodicTop W ps (ws * (2 * M + 2)) / 2 ^ ws % 2 ^ ws = limb W ps ws (2 * M) ∧
    periodicTop W ps (ws * (2 * M + 2)) / 2 ^ ws / 2 ^ ws = periodicTop W ps (ws * (2 * M)) := by
  have hT : 0 < 2 ^ ws := Nat.two_pow_pos ws
  have e1 := periodicTop_succ W ps ws (2 * M + 1) hps
  have e0 := periodicTop_succ W ps ws (2 * M) hps
  have l1 := limb_lt W ps ws (2 * M + 1) hps
  have l0 := limb_lt W ps ws (2 * M) hps
  have hdiv1 : periodicTop W ps (ws * (2 * M + 2)) / 2 ^ ws = periodicTop W ps (ws * (2 * M + 1)) := by
    rw [e1, Nat.add_comm, Nat.add_mul_div_right _ _ hT, Nat.div_eq_of_lt l1, Nat.zero_add]
  refine ⟨?_, ?_, ?_⟩
  · rw [e1, Nat.add_comm, Nat.add_mul_mod_self_right, Nat.mod_eq_of_lt l1]
  · rw [hdiv1, e0, Nat.add_comm, Nat.add_mul_mod_self_right, Nat.mod_eq_of_lt l0]
  · rw [hdiv1, e0, Nat.add_comm, Nat.add_mul_div_right _ _ hT, Nat.div_eq_of_lt l0, Nat.zero_add]

/-- the swapped repetition is the sum `swapSum` of its limbs. -/
theorem swapLimbs_periodicTop (W ps ws : Nat) (hps : 1 ≤ ps) (hW : W < 2 ^ ps - 1) : ∀ M,
    (swapLimbs ws M (periodicTop W ps (ws * (2 * M))) : Int) =
      swapSum (fun i => (limb W ps ws i : Int)) ((2 : Int) ^ ws) M
  | 0 => by simp [swapLimbs, swapSum]
  | M + 1 => by
    have ih := swapLimbs_periodicTop W ps ws hps hW M
    obtain ⟨p1, p2, p3⟩ := periodicTop_peel W ps ws M hps
    have e : 2 * (M + 1) = 2 * M + 2 := by ring
    rw [e, swapLimbs, p1, p2, p3, swapSum]
    push_cast
    rw [ih]
    ring

/-- `Φ = (T^ps + 1)/(T + 1)`, exact for odd `ps`. -/
def phi (ws ps : Nat) : Nat := ((2 ^ ws) ^ ps + 1) / (2 ^ ws + 1)

theorem phi_mul (ws ps : Nat) (hodd : ps % 2 = 1) :
    phi ws ps * (2 ^ ws + 1) = (2 ^ ws) ^ ps + 1 := by
  unfold phi
  apply Nat.div_mul_cancel
  have := Odd.nat_add_dvd_pow_add_pow (2 ^ ws) 1 (Nat.odd_iff.mpr hodd)
  rwa [one_pow] at this

/-- the check's denominator is `d0·Φ`. -/
theorem permutedDenominator_eq (ws ps : Nat) (hodd : ps % 2 = 1) :
    permutedDenominator ws ps = (2 ^ ps - 1) * phi ws ps := by
  have h1 := permutedDenominator_mul ws ps hodd
  have h2 := phi_mul ws ps hodd
  have hpos : 0 < 2 ^ ws + 1 := by positivity
  apply Nat.eq_of_mul_eq_mul_right hpos
  rw [h1, Nat.mul_assoc, h2, ← pow_mul, Nat.mul_comm ws ps]

/-- **The swapped repetition is a fraction with the check's denominator.**
`D · swapLimbs(P_(2M)) = A_0·T^(2M) − A_(2M)`. -/
theorem swapped_fraction (W ps ws M : Nat) (hps : 1 ≤ ps) (hodd : ps % 2 = 1)
    (hW : W < 2 ^ ps - 1) :
    (permutedDenominator ws ps : Int) * (swapLimbs ws M (periodicTop W ps (ws * (2 * M))) : Int) =
      coefA (fun i => (rot W ps ws i : Int)) ((2 : Int) ^ ws) (phi ws ps) ps 0
          * ((2 : Int) ^ ws) ^ (2 * M)
        - coefA (fun i => (rot W ps ws i : Int)) ((2 : Int) ^ ws) (phi ws ps) ps (2 * M) := by
  rw [swapLimbs_periodicTop W ps ws hps hW M, permutedDenominator_eq ws ps hodd, Nat.cast_mul]
  exact swapSum_fraction (fun i => (rot W ps ws i : Int)) (fun i => (limb W ps ws i : Int))
    ((2 : Int) ^ ws) (phi ws ps) ((2 ^ ps - 1 : Nat) : Int) ps hodd
    (fun i => by simp only [rot_periodic]) (by exact_mod_cast phi_mul ws ps hodd)
    (limb_eq_int W ps ws) M

/-- the numerator coefficients are small: `|A_s| < 2·(2^ps − 1)·T^ps ≤ 2·(T + 1)·D`. -/
theorem swapped_coef_bound (W ps ws s : Nat) (hps : 1 ≤ ps) (hodd : ps % 2 = 1) :
    |coefA (fun i => (rot W ps ws i : Int)) ((2 : Int) ^ ws) (phi ws ps) ps s| <
      2 * ((2 ^ ps - 1 : Nat) : Int) * ((2 : Int) ^ ws) ^ ps ∧
    2 * ((2 ^ ps - 1 : Nat) : Int) * ((2 : Int) ^ ws) ^ ps ≤
      2 * (((2 : Int) ^ ws) + 1) * (permutedDenominator ws ps : Int) := by
  have hd := d0_pos ps hps
  have hΦ : ((phi ws ps : Nat) : Int) * (((2 : Int) ^ ws) + 1) = ((2 : Int) ^ ws) ^ ps + 1 := by
    exact_mod_cast phi_mul ws ps hodd
  constructor
  · apply coefA_bound _ _ _ _ ps (one_le_pow₀ (by norm_num)) (by exact_mod_cast hd) _
      (Int.natCast_nonneg _) hΦ
    intro i
    rw [abs_of_nonneg (Int.natCast_nonneg _)]
    exact_mod_cast (Nat.mod_lt _ hd).le
  · rw [permutedDenominator_eq ws ps hodd, Nat.cast_mul]
    exact two_mul_pow_le _ _ _ ps (Int.natCast_nonneg _) hΦ

end Paranoid.Permuted
