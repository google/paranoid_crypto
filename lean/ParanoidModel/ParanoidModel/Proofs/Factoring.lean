/-
Proofs/Factoring.lean — helper lemmas for C01/C04: what each factor-returning function can return
(the shape of a hit for the difference-of-squares loops, `fermatLoop_shape`, `hlbeBits_shape`;
everything CheckContinuedFraction and CheckLowHammingWeight can answer, `cfCheckLoop_cases`, `lhw_cases`;
soundness of the gcd-based returns). FactorHighAndLowBitsEqual as a whole: Proofs/HlbeComplete.lean.
-/
import ParanoidModel.Model.Factoring
import Mathlib.Tactic.Ring
import Mathlib.Tactic.Linarith

namespace Paranoid

theorem isSquare_iff (n : Nat) : isSquare n = true ↔ Nat.sqrt n * Nat.sqrt n = n := by
  simp [isSquare]

theorem isSquareI_iff (d : Int) :
    isSquareI d = true ↔ 0 ≤ d ∧ Nat.sqrt d.toNat * Nat.sqrt d.toNat = d.toNat := by
  cases d with
  | ofNat n => simp [isSquareI, isSquare]
  | negSucc n => simp [isSquareI]

theorem sq_sub_sq_nat (a s n : Nat) (h : s * s + n = a * a) : (a + s) * (a - s) = n := by
  have hs : s ≤ a := by
    by_contra hc
    have : a < s := Nat.lt_of_not_le hc
    have : a * a < s * s := Nat.mul_self_lt_mul_self this
    omega
  obtain ⟨k, rfl⟩ := Nat.exists_eq_add_of_le hs
  have : s + k - s = k := by omega
  rw [this]
  have e : (s + k) * (s + k) = s * s + (s + k + s) * k := by ring
  rw [e] at h
  omega

/-! ### FermatFactor -/

/-- the invariant `b2 = a² − n` moves with the loop. -/
theorem fermat_inv_step {n a b2 : Nat} (h : b2 + n = a * a) :
    b2 + a + (a + 1) + n = (a + 1) * (a + 1) := by
  have : (a + 1) * (a + 1) = a * a + a + (a + 1) := by ring
  omega

/-- with the invariant `b2 = a² − n` the loop is the search for the first `A` in `[a, a + steps)`
with `A² − n` a square. -/
theorem fermatLoop_eq_find (n : Nat) : ∀ (steps a b2 : Nat), b2 + n = a * a →
    fermatLoop steps a b2 = ((List.range' a steps).find? (fun A => isSquare (A * A - n))).map
      fun A => (A + Nat.sqrt (A * A - n), A - Nat.sqrt (A * A - n))
  | 0, _, _, _ => rfl
  | steps + 1, a, b2, hinv => by
    rw [fermatLoop, List.range'_succ, List.find?_cons, ← Nat.eq_sub_of_add_eq hinv]
    cases isSquare b2
    · exact fermatLoop_eq_find n steps (a + 1) _ (fermat_inv_step hinv)
    · rw [Nat.eq_sub_of_add_eq hinv]; rfl

theorem fermatLoop_shape (n steps a b2 p q : Nat) (hinv : b2 + n = a * a)
    (h : fermatLoop steps a b2 = some (p, q)) :
    ∃ S b, a ≤ S ∧ S < a + steps ∧ b * b + n = S * S ∧ p = S + b ∧ q = S - b := by
  rw [fermatLoop_eq_find n steps a b2 hinv, Option.map_eq_some_iff] at h
  obtain ⟨S, hS, hpq⟩ := h
  have hm := List.mem_range'_1.1 (List.mem_of_find?_eq_some hS)
  have hsq := (isSquare_iff _).1 (List.find?_some (p := fun A => isSquare (A * A - n)) hS)
  have hle : n ≤ S * S := Nat.le_trans (by omega) (Nat.mul_le_mul hm.1 hm.1)
  cases hpq
  exact ⟨S, _, hm.1, hm.2, by omega, rfl, rfl⟩

/-! ### FactorHighAndLowBitsEqual -/

/-- the inner `for _ in range(2**m)` loop either returns `[S - b, S + b]` for a square
`b² = S² - n` met on the way, or walks all `cnt` steps without meeting one. -/
theorem hlbeInner_cases (n step : Nat) : ∀ (cnt s : Nat),
    (∃ fs S b, hlbeInner n step cnt s = .inl fs ∧
      S ≤ s + cnt * step ∧ b * b + n = S * S ∧ fs = [S - b, S + b]) ∨
    (hlbeInner n step cnt s = .inr (s + cnt * step) ∧
      ∀ t, 1 ≤ t → t ≤ cnt →
        isSquareI (((s + t * step : Nat) : Int) * ((s + t * step : Nat) : Int) - n) = false)
  | 0, s => .inr ⟨by simp [hlbeInner], fun t h1 h2 => by omega⟩
  | cnt + 1, s => by
    unfold hlbeInner
    simp only
    have e : s + (cnt + 1) * step = s + step + cnt * step := by ring
    by_cases hsq : isSquareI (((s + step : Nat) : Int) * ((s + step : Nat) : Int) - n) = true
    · rw [if_pos hsq]
      obtain ⟨hd, hs⟩ := (isSquareI_iff _).1 hsq
      refine .inl ⟨_, s + step, _, rfl, by omega, ?_, rfl⟩
      generalize s + step = S at hd hs ⊢
      simp only [isqrt]
      rw [hs]
      zify
      rw [Int.toNat_of_nonneg hd]; ring
    · rw [if_neg hsq, e]
      rcases hlbeInner_cases n step cnt (s + step) with ⟨fs, S, b, h, hS⟩ | ⟨h1, h2⟩
      · exact .inl ⟨fs, S, b, h, hS⟩
      · refine .inr ⟨h1, fun t ht1 ht2 => ?_⟩
        obtain ⟨t, rfl⟩ : ∃ t', t = t' + 1 := ⟨t - 1, by omega⟩
        rcases Nat.eq_zero_or_pos t with rfl | ht
        · simpa using hsq
        · have := h2 t ht (by omega)
          rwa [show s + step + t * step = s + (t + 1) * step by ring] at this

/-- the bit-fixing walk from index `i` with `fuel` indices left moves `s` by at most
`2^(i+fuel) − 2^i`. -/
theorem hlbeBits_shape (n r mb : Nat) : ∀ (fuel i s : Nat) (fs : List Nat),
    hlbeBits n r mb fuel i s = some fs →
    ∃ S b, S + 2 ^ i ≤ s + 2 ^ (i + fuel) ∧ b * b + n = S * S ∧ fs = [S - b, S + b]
  | 0, _, _, _, h => by simp [hlbeBits] at h
  | fuel + 1, i, s, fs, h => by
    have hpow : 2 ^ (i + 1) ≤ 2 ^ (i + (fuel + 1)) :=
      Nat.pow_le_pow_right (by norm_num) (by omega)
    have hsucc : 2 ^ (i + 1) = 2 * 2 ^ i := by rw [Nat.pow_succ]; ring
    have hexp : i + 1 + fuel = i + (fuel + 1) := by omega
    unfold hlbeBits at h
    split at h
    · simp only at h
      have htot : 2 ^ (min mb i) * 2 ^ (i - min mb i) = 2 ^ i := by
        rw [← Nat.pow_add]; congr 1; omega
      rcases hlbeInner_cases n (2 ^ (i - min mb i)) (2 ^ (min mb i)) s with
        ⟨fs', S, b, hin, h1, h2, h3⟩ | ⟨hin, _⟩ <;> simp only [hin, htot] at h
      · cases h
        rw [htot] at h1
        exact ⟨S, b, by omega, h2, h3⟩
      · obtain ⟨S, b, h1, h2, h3⟩ := hlbeBits_shape n r mb fuel _ _ fs h
        rw [hexp] at h1
        exact ⟨S, b, by omega, h2, h3⟩
    · obtain ⟨S, b, h1, h2, h3⟩ := hlbeBits_shape n r mb fuel _ _ fs h
      rw [hexp] at h1
      exact ⟨S, b, by omega, h2, h3⟩

/-! ### gcd-based returns -/

def ProperSplit (n : Nat) (fs : List Nat) : Prop :=
  ∃ g, fs = [g, n / g] ∧ g ∣ n ∧ 1 < g ∧ g < n

theorem ProperSplit.prod {n fs} (h : ProperSplit n fs) : ∃ x y, fs = [x, y] ∧ x * y = n := by
  obtain ⟨g, rfl, hd, _, _⟩ := h
  exact ⟨g, n / g, rfl, Nat.mul_div_cancel' hd⟩

theorem ProperSplit.all_dvd {n fs} (h : ProperSplit n fs) : ∀ f ∈ fs, f ∣ n := by
  obtain ⟨g, rfl, hd, _, _⟩ := h
  exact List.forall_mem_cons.2 ⟨hd, List.forall_mem_singleton.2 (Nat.div_dvd_of_dvd hd)⟩

theorem ProperSplit.proper {n fs} (h : ProperSplit n fs) : ∀ f ∈ fs, 1 < f ∧ f < n := by
  obtain ⟨g, rfl, hd, h1, h2⟩ := h
  intro f hf
  simp only [List.mem_cons, List.not_mem_nil, or_false] at hf
  have hn : 0 < n := by omega
  have hg : 0 < g := by omega
  have hmul : g * (n / g) = n := Nat.mul_div_cancel' hd
  rcases hf with rfl | rfl
  · exact ⟨h1, h2⟩
  · constructor
    · by_contra hc
      have : n / g ≤ 1 := by omega
      have : g * (n / g) ≤ g * 1 := Nat.mul_le_mul_left g this
      omega
    · exact Nat.div_lt_self hn h1

theorem intGcd_dvd_right_nat (a : Int) (n : Nat) : Int.gcd a (n : Int) ∣ n := by
  have := Int.gcd_dvd_right a (n : Int)
  exact Int.natCast_dvd_natCast.mp this

theorem intGcd_dvd_left_nat (a : Int) (n : Nat) : Int.gcd (n : Int) a ∣ n := by
  have := Int.gcd_dvd_left (n : Int) a
  exact Int.natCast_dvd_natCast.mp this

theorem splitBy_sound (g n : Nat) (fs : List Nat) (hd : g ∣ n) (h : splitBy g n = some fs) :
    ProperSplit n fs := by
  unfold splitBy at h
  split at h
  · rename_i hc
    simp only [Option.some.injEq] at h
    exact ⟨g, h.symm, hd, hc.1, hc.2⟩
  · simp at h

/-! ### CheckContinuedFraction -/

theorem cfTryRoots_sound (n : Nat) (base : Int) (t : Nat) (fs : List Nat)
    (h : cfTryRoots n base t = some fs) : ProperSplit n fs := by
  unfold cfTryRoots at h
  split at h
  · rename_i fs' h1
    simp only [Option.some.injEq] at h
    subst h
    exact splitBy_sound _ _ _ (intGcd_dvd_left_nat _ _) h1
  · exact splitBy_sound _ _ _ (intGcd_dvd_left_nat _ _) h

theorem cfAttempt_sound (n x : Nat) (a b c : Int) (fs : List Nat)
    (h : cfAttempt n x a b c = some fs) : ProperSplit n fs := by
  unfold cfAttempt at h
  split at h
  · exact cfTryRoots_sound _ _ _ _ h
  · simp at h

theorem divmodRoundedR_total (a b : Int) (hb : b ≠ 0) : ∃ r, divmodRoundedR a b = .ok r := by
  unfold divmodRoundedR
  rw [if_neg hb]
  exact ⟨_, rfl⟩

/-- everything one round of the loop of `CheckContinuedFraction` can do (`x ≠ 0`, so that neither
division raises): go on, which needs `quot < bound`, or answer `(False, fs)` with `fs` empty or a
proper split. -/
theorem cfStep_cases (n x bound quot v : Nat) (hx : x ≠ 0) :
    (cfStep n x bound quot v = .ok none ∧ quot < bound) ∨
      ∃ fs, cfStep n x bound quot v = .ok (some (false, fs)) ∧ (fs = [] ∨ ProperSplit n fs) := by
  unfold cfStep
  have hx' : (x : Int) ≠ 0 := by exact_mod_cast hx
  obtain ⟨⟨r, c⟩, h1⟩ := divmodRoundedR_total ((n : Int) * v) x hx'
  obtain ⟨⟨a, b⟩, h2⟩ := divmodRoundedR_total r x hx'
  simp only [h1, h2]
  split
  · exact Or.inr ⟨_, rfl, Or.inr (cfAttempt_sound _ _ _ _ _ _ ‹_›)⟩
  · split
    · exact Or.inr ⟨_, rfl, Or.inl rfl⟩
    · exact Or.inl ⟨rfl, by omega⟩

/-- everything the loop can do: `(True, [])` after rounds with quotients below `bound` only, or
`(False, fs)`. -/
theorem cfCheckLoop_cases (n x bound : Nat) (hx : x ≠ 0) : ∀ l : List (Nat × Nat × Nat),
    (cfCheckLoop n x bound l = .ok (true, []) ∧ ∀ e ∈ l, e.1 < bound) ∨
      ∃ fs, cfCheckLoop n x bound l = .ok (false, fs) ∧ (fs = [] ∨ ProperSplit n fs)
  | [] => Or.inl ⟨rfl, fun _ h => absurd h List.not_mem_nil⟩
  | (quot, y, v) :: rest => by
    unfold cfCheckLoop
    rcases cfStep_cases n x bound quot v hx with ⟨h, hlt⟩ | ⟨fs, h, hfs⟩ <;> rw [h]
    · refine (cfCheckLoop_cases n x bound hx rest).imp_left fun ⟨h1, h2⟩ => ⟨h1, ?_⟩
      exact List.forall_mem_cons.2 ⟨hlt, h2⟩
    · exact Or.inr ⟨fs, rfl, hfs⟩

/-! ### CheckFraction -/

theorem checkFractionLoop_sound (n w : Nat) : ∀ (basis : List (List Int)) (fs : List Nat),
    checkFractionLoop n w basis = .ok fs → fs = [] ∨ ProperSplit n fs
  | [], fs, h => by
    simp only [checkFractionLoop, Except.ok.injEq] at h
    exact Or.inl h.symm
  | row :: rest, fs, h => by
    unfold checkFractionLoop at h
    split at h
    · split at h
      · rename_i fs' hs
        simp only [Except.ok.injEq] at h
        subst h
        exact Or.inr (splitBy_sound _ _ _ (intGcd_dvd_right_nat _ _) hs)
      · exact checkFractionLoop_sound n w rest fs h
    · simp at h

/-! ### FactorWithGuess / CheckSmallUpperDifferences -/

theorem fwgFinish_sound (n a d : Nat) (fs : List Nat) (h : fwgFinish n a d = some fs) :
    ProperSplit n fs := by
  unfold fwgFinish at h
  split at h
  · exact splitBy_sound _ _ _ (Nat.gcd_dvd_right _ _) h
  · simp at h

theorem fwgLoop_sound (n p0 q0 bound : Nat) : ∀ (l : List (Nat × Nat × Nat)) (fs : List Nat),
    fwgLoop n p0 q0 bound l = some fs → ProperSplit n fs
  | [], fs, h => by simp [fwgLoop] at h
  | (_, u, v) :: rest, fs, h => by
    unfold fwgLoop at h
    split at h
    · split at h
      · rename_i fs' hf
        simp only [Option.some.injEq] at h
        subst h
        exact fwgFinish_sound _ _ _ _ hf
      · split at h
        · simp at h
        · exact fwgLoop_sound n p0 q0 bound rest fs h
    · exact fwgLoop_sound n p0 q0 bound rest fs h

theorem factorWithGuess_sound (n p0 cbrt : Nat) (fs : List Nat)
    (h : factorWithGuess n p0 cbrt = .ok (some fs)) : ProperSplit n fs := by
  unfold factorWithGuess at h
  split at h
  · simp at h
  · simp only [Except.ok.injEq] at h
    exact fwgLoop_sound _ _ _ _ _ _ h

theorem sudLoop_sound (n cbrt : Nat) : ∀ (l : List Nat) (fs : List Nat),
    sudLoop n cbrt l = .ok (some fs) → ProperSplit n fs
  | [], fs, h => by simp [sudLoop] at h
  | d :: rest, fs, h => by
    unfold sudLoop at h
    simp only [bind, Except.bind] at h
    split at h
    · simp at h
    · rename_i r hr
      split at h
      · simp only [Except.ok.injEq, Option.some.injEq] at h
        subst h
        exact factorWithGuess_sound _ _ _ _ hr
      · exact sudLoop_sound n cbrt rest fs h

/-! ### Pollardpm1 -/

theorem pm1Decide_sound (p n : Nat) (hd : p ∣ n) (w : Bool) (fs : List Nat)
    (h : pm1Decide p n = (w, fs)) : fs = [] ∨ (w = true ∧ ProperSplit n fs) := by
  unfold pm1Decide at h
  split at h
  · rename_i fs' hs
    simp only [Prod.mk.injEq] at h
    obtain ⟨rfl, rfl⟩ := h
    exact Or.inr ⟨rfl, splitBy_sound _ _ _ hd hs⟩
  · split at h <;> simp only [Prod.mk.injEq] at h <;> exact Or.inl h.2.symm

theorem pollardPm1_sound (n m gb : Nat) (w : Bool) (fs : List Nat)
    (h : pollardPm1 n m gb = (w, fs)) : fs = [] ∨ (w = true ∧ ProperSplit n fs) := by
  unfold pollardPm1 at h
  split at h
  · exact pm1Decide_sound _ _ (intGcd_dvd_right_nat _ _) _ _ h
  · simp only [Prod.mk.injEq] at h
    exact Or.inl h.2.symm

/-! ### CheckLowHammingWeight -/

theorem lhwTry_found (n0 p q hw bit : Nat) (h : LHeap) (dp dq a b : Nat)
    (hf : lhwTry n0 p q hw bit h dp dq = .found a b) :
    bit = 0 ∧ a = p + dp ∧ b = q + dq ∧ a * b = n0 := by
  unfold lhwTry at hf
  simp only at hf
  split at hf
  · cases hf
  · split at hf
    · split at hf <;> cases hf
    · split at hf
      · simp only [LhwTry.found.injEq] at hf
        obtain ⟨rfl, rfl⟩ := hf
        exact ⟨by omega, rfl, rfl, by omega⟩
      · cases hf

def LHeap.All (P : LhwItem → Prop) : LHeap → Prop
  | .leaf => True
  | .node _ x l r => P x ∧ LHeap.All P l ∧ LHeap.All P r

theorem LHeap.all_mk {P : LhwItem → Prop} (x : LhwItem) (a b : LHeap) (hx : P x)
    (ha : a.All P) (hb : b.All P) : (LHeap.mk x a b).All P := by
  unfold LHeap.mk
  split
  · exact ⟨hx, ha, hb⟩
  · exact ⟨hx, hb, ha⟩

theorem LHeap.all_merge {P : LhwItem → Prop} (a b : LHeap) (ha : a.All P) (hb : b.All P) :
    (LHeap.merge a b).All P := by
  fun_induction LHeap.merge a b with
  | case1 h => exact hb
  | case2 h _ => exact ha
  | case3 r1 x l1 rr1 r2 y l2 rr2 hle ih =>
    exact LHeap.all_mk _ _ _ ha.1 ha.2.1 (ih ha.2.2 hb)
  | case4 r1 x l1 rr1 r2 y l2 rr2 hle ih =>
    exact LHeap.all_mk _ _ _ hb.1 hb.2.1 (ih ha hb.2.2)

theorem LHeap.all_push {P : LhwItem → Prop} (h : LHeap) (x : LhwItem) (hh : h.All P) (hx : P x) :
    (h.push x).All P :=
  LHeap.all_merge _ _ ⟨hx, trivial, trivial⟩ hh

theorem LHeap.all_pop {P : LhwItem → Prop} (h rest : LHeap) (x : LhwItem) (hh : h.All P)
    (hp : h.pop? = some (x, rest)) : P x ∧ rest.All P := by
  cases h with
  | leaf => cases hp
  | node r y l rr =>
    simp only [LHeap.pop?, Option.some.injEq, Prod.mk.injEq] at hp
    obtain ⟨rfl, rfl⟩ := hp
    exact ⟨hh.1, LHeap.all_merge _ _ hh.2.1 hh.2.2⟩

/-- the invariant of the search: both partial factors of every heap entry are positive. -/
def LhwPos (x : LhwItem) : Prop := 1 ≤ x.p ∧ 1 ≤ x.q

theorem lhwPush_all (h : LHeap) (p0 q0 hw bit rem : Nat) (hh : h.All LhwPos) (hp : 1 ≤ p0)
    (hq : 1 ≤ q0) : (lhwPush h p0 q0 hw bit rem).All LhwPos := by
  unfold lhwPush
  split
  · exact LHeap.all_push _ _ hh ⟨hp, hq⟩
  · exact hh

theorem lhwTry_cont_all (n0 p q hw bit : Nat) (h : LHeap) (dp dq : Nat) (h' : LHeap) (rp : Bool)
    (hh : h.All LhwPos) (hp : 1 ≤ p) (hq : 1 ≤ q)
    (ht : lhwTry n0 p q hw bit h dp dq = .cont h' rp) : h'.All LhwPos := by
  unfold lhwTry at ht
  simp only at ht
  split at ht
  · cases ht
  · split at ht
    · split at ht
      · simp only [LhwTry.cont.injEq] at ht
        rw [← ht.1]
        exact lhwPush_all _ _ _ _ _ _ hh (by omega) (by omega)
      · simp only [LhwTry.cont.injEq] at ht
        rw [← ht.1]; exact hh
    · split at ht
      · cases ht
      · simp only [LhwTry.cont.injEq] at ht
        rw [← ht.1]; exact hh

/-- what the inner loop may hand back: the two factors, both `≥ 2`, or a heap that keeps the
invariant. -/
def LhwGood (n : Nat) : Sum (Nat × Nat) LHeap → Prop
  | .inl pq => pq.1 * pq.2 = n ∧ 2 ≤ pq.1 ∧ 2 ≤ pq.2
  | .inr h => h.All LhwPos

/-- the `while bit >= 1` loop: a found pair is `(2p' + dp, 2q' + dq)` with `p', q' ≥ 1`, found at
`bit = 0`, where the tested product is `n` itself. -/
theorem lhwExtend_good (n hw : Nat) : ∀ (bit p q : Nat) (h : LHeap), h.All LhwPos → 1 ≤ p →
    1 ≤ q → LhwGood n (lhwExtend n hw bit p q h)
  | 0, _, _, h, hh, _, _ => by simpa [lhwExtend, LhwGood] using hh
  | bit + 1, p, q, h, hh, hp, hq => by
    have ih := fun h' (hh' : h'.All LhwPos) =>
      lhwExtend_good n hw bit (2 * p) (2 * q) h' hh' (by omega) (by omega)
    have hfound : ∀ {hh' dp dq a b}, lhwTry (n >>> (2 * bit)) (2 * p) (2 * q) hw bit hh' dp dq
        = .found a b → LhwGood n (.inl (a, b)) := by
      intro hh' dp dq a b hf
      obtain ⟨rfl, rfl, rfl, hab⟩ := lhwTry_found _ _ _ _ _ _ _ _ _ _ hf
      exact ⟨by simpa using hab, by show 2 ≤ 2 * p + dp; omega, by show 2 ≤ 2 * q + dq; omega⟩
    have hcont : ∀ {h0 dp dq h1 rp}, h0.All LhwPos →
        lhwTry (n >>> (2 * bit)) (2 * p) (2 * q) hw bit h0 dp dq = .cont h1 rp →
        h1.All LhwPos := by
      intro h0 dp dq h1 rp hh0 hc
      exact lhwTry_cont_all _ _ _ _ _ _ _ _ _ _ hh0 (by omega) (by omega) hc
    unfold lhwExtend
    simp only
    split
    · exact ih _ hh
    · rename_i a b h1; exact hfound h1
    · rename_i h1 rp1 hc1
      have hh1 := hcont hh hc1
      split
      · exact ih _ hh1
      · rename_i a b h2; exact hfound h2
      · rename_i h2 rp2 hc2
        have hh2 := hcont hh1 hc2
        split
        · exact ih _ hh2
        · rename_i a b h3; exact hfound h3
        · rename_i h3 rp3 hc3
          have hh3 := hcont hh2 hc3
          split
          · exact hh3
          · exact ih _ hh3

theorem lhwMain_good (n cutoff : Nat) : ∀ (fuel steps minv : Nat) (heap : LHeap) (a b : Nat),
    heap.All LhwPos → lhwMain n cutoff fuel steps minv heap = .inl (a, b) →
      a * b = n ∧ 2 ≤ a ∧ 2 ≤ b
  | 0, _, _, _, _, _, _, hf => by simp [lhwMain] at hf
  | fuel + 1, steps, minv, heap, a, b, hh, hf => by
    unfold lhwMain at hf
    split at hf
    · simp at hf
    · rename_i item rest hpop
      obtain ⟨hitem, hrest⟩ := LHeap.all_pop _ _ _ hh hpop
      simp only at hf
      split at hf
      · simp at hf
      · have hgood := lhwExtend_good n item.hw item.bit item.p item.q rest hrest hitem.1 hitem.2
        split at hf
        · rename_i pq hext
          simp only [Sum.inl.injEq] at hf
          subst hf
          rw [hext] at hgood
          exact hgood
        · rename_i heap' hext
          rw [hext] at hgood
          exact lhwMain_good n cutoff fuel _ _ _ a b hgood hf

/-- what CheckLowHammingWeight returns: no factors, or `(True, [p0, q0])` with `p0·q0 = n` and both
`≥ 2` (the search starts from `p = q = 1` and doubles both before it can report). -/
theorem lhw_cases (n cutoff maxsteps : Nat) :
    (checkLowHammingWeight n cutoff maxsteps).2 = [] ∨
    ∃ p0 q0, checkLowHammingWeight n cutoff maxsteps = (true, [p0, q0]) ∧
      p0 * q0 = n ∧ 2 ≤ p0 ∧ 2 ≤ q0 := by
  unfold checkLowHammingWeight
  simp only
  split
  · rename_i a b hm
    exact Or.inr ⟨a, b, rfl, lhwMain_good _ _ _ _ _ _ _ _
      (lhwPush_all LHeap.leaf 1 1 _ _ _ (show LHeap.leaf.All LhwPos from trivial) (Nat.le_refl 1)
        (Nat.le_refl 1)) hm⟩
  · exact Or.inl rfl

end Paranoid
