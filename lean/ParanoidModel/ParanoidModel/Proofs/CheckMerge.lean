/-
Proofs/CheckMerge.lean — the EXACT result list of a `TestInfo` after any history of util calls
on ANY initial `TestInfo` (entries of an earlier run, foreign names, duplicate names, any
order), and its consequence for `_CheckArtifacts` on pre-annotated artefacts.  Core Lean only.

A result list is determined by (1) the list of its names and (2) for every name the sub-list of
the entries carrying it (`namedAs`).  Both are computed here for `SetTestResult` and for a whole
history whose SetTestResult calls carry pairwise different names (one per check).
-/
import ParanoidModel.Proofs.CheckAll
namespace Paranoid

def namedAs (n : String) (l : List Entry) : List Entry := l.filter (fun x => x.name = n)

/-- what SetTestResult(e) does to the entries named `e.name`: the FIRST one becomes
`(name, old.result or e.result, max old.severity e.severity)`, later duplicates are untouched;
without any, `e` is the only one. -/
def mergeInto (l : List Entry) (e : Entry) : List Entry :=
  match l with
  | [] => [e]
  | x :: rest => mergeEntry (some x) e :: rest

/-- `SetTestResult` on the result list alone. -/
def setRes (l : List Entry) (e : Entry) : List Entry :=
  match l.find? (fun x => x.name = e.name) with
  | some _ => updateFirst e l
  | none => l ++ [e]

theorem setTestResult_results (ver : String) (ti : TestInfo) (e : Entry) :
    (setTestResult ver ti e).results = setRes ti.results e := rfl

/-- all SetTestResult calls of a history, on the result list. -/
def resAll (l : List Entry) (es : List Entry) : List Entry := es.foldl setRes l

theorem head_namedAs (n : String) (l : List Entry) :
    (namedAs n l).head? = l.find? (fun x => x.name = n) := by
  unfold namedAs
  exact List.head?_filter

theorem namedAs_eq_nil_iff (n : String) (l : List Entry) :
    namedAs n l = [] ↔ n ∉ l.map (·.name) := by
  unfold namedAs
  rw [List.filter_eq_nil_iff]
  simp only [decide_eq_true_eq, List.mem_map, not_exists, not_and]

theorem namedAs_setRes (l : List Entry) (e : Entry) (n : String) :
    namedAs n (setRes l e) = if n = e.name then mergeInto (namedAs n l) e else namedAs n l := by
  unfold setRes
  split
  · rename_i x hx
    rw [namedAs, filter_updateFirst, ← namedAs]
    by_cases hn : n = e.name
    · subst hn
      simp only [if_true]
      have hh := head_namedAs e.name l
      rw [hx] at hh
      cases hl : namedAs e.name l with
      | nil => rw [hl] at hh; cases hh
      | cons y ys => rfl
    · simp [hn]
  · rename_i hx
    have hnil : namedAs e.name l = [] := by
      have hh := head_namedAs e.name l
      rw [hx] at hh
      exact List.head?_eq_none_iff.1 hh
    by_cases hn : n = e.name
    · subst hn
      simp only [if_true]
      unfold namedAs at hnil ⊢
      rw [List.filter_append, hnil]
      simp [mergeInto]
    · have h1 : ¬ e.name = n := fun h => hn h.symm
      simp only [hn, if_false]
      unfold namedAs
      rw [List.filter_append]
      simp [h1]

/-- per name: after the SetTestResult calls `es` (pairwise different names) the entries named
`n` are the old ones with `e` merged into the first, where `e` is THE call named `n`; untouched
when no call carries that name. -/
theorem namedAs_resAll (l : List Entry) (es : List Entry) (hnd : (es.map (·.name)).Nodup)
    (n : String) :
    namedAs n (resAll l es) =
      match es.find? (fun x => x.name = n) with
      | some e => mergeInto (namedAs n l) e
      | none => namedAs n l := by
  induction es generalizing l with
  | nil => rfl
  | cons e es ih =>
    simp only [List.map_cons, List.nodup_cons] at hnd
    show namedAs n (resAll (setRes l e) es) = _
    rw [ih (setRes l e) hnd.2, namedAs_setRes, List.find?_cons]
    by_cases hn : n = e.name
    · subst hn
      rw [find_none_of_not_mem _ _ hnd.1]
      simp
    · have h1 : ¬ e.name = n := fun h => hn h.symm
      simp [hn, h1]

theorem names_setRes (l : List Entry) (e : Entry) :
    (setRes l e).map (·.name) =
      if e.name ∈ l.map (·.name) then l.map (·.name) else l.map (·.name) ++ [e.name] :=
  setTestResult_names "" ⟨false, l, [], ""⟩ e

/-- names: the old names in their order (entries are never reordered, removed or duplicated),
followed by the names of the calls that had no entry yet, in call order. -/
theorem names_resAll (l : List Entry) (es : List Entry) (hnd : (es.map (·.name)).Nodup) :
    (resAll l es).map (·.name) =
      l.map (·.name) ++ (es.map (·.name)).filter (fun m => decide (m ∉ l.map (·.name))) := by
  induction es generalizing l with
  | nil => simp [resAll]
  | cons e es ih =>
    simp only [List.map_cons, List.nodup_cons] at hnd
    show (resAll (setRes l e) es).map (·.name) = _
    rw [ih (setRes l e) hnd.2, names_setRes]
    by_cases hm : e.name ∈ l.map (·.name)
    · simp only [hm, if_true, List.map_cons, List.filter_cons, not_true_eq_false, decide_false,
        Bool.false_eq_true, if_false]
    · simp only [hm, if_false, List.map_cons, List.filter_cons, not_false_eq_true, decide_true,
        if_true, List.append_assoc, List.singleton_append]
      congr 2
      apply List.filter_congr
      intro m hmem
      have hne : m ≠ e.name := fun h => hnd.1 (h ▸ hmem)
      simp [hne]

theorem foldl_set_results (ver : String) : ∀ (es : List Entry) (ti : TestInfo),
    (es.foldl (setTestResult ver) ti).results = resAll ti.results es
  | [], _ => rfl
  | e :: es, ti => foldl_set_results ver es (setTestResult ver ti e)

theorem applyOps_results {ver : String} {ti t : TestInfo} {ops : List Op}
    (h : applyOps ver ti ops = .ok t) : t.results = resAll ti.results (entriesOf ops) := by
  obtain ⟨att, hr⟩ := runOps_eq_sets ver ops ti
  rw [← applyOps_eq_runOps h, hr]
  exact foldl_set_results ver _ ti

/-! ### `_CheckArtifacts` on a pre-annotated artefact -/

/-- the `test_result`s the steps pass to SetTestResult for the artefact `a` at position `j`
(one per step that applies to it), in the order the checks run. -/
def newEntries (var : Variant) (ver : String) (ec : List CheckSpec) (steps : List Step)
    (st : List Artifact) (j : Nat) (a : Artifact) : List Entry :=
  steps.filterMap (fun s => expectedEntry var ver ec s st j a)

theorem newEntries_nodup (var : Variant) (ver : String) (ec : List CheckSpec) (steps : List Step)
    (st : List Artifact) (j : Nat) (a : Artifact) (hnd : (steps.map (·.spec.name)).Nodup) :
    ((newEntries var ver ec steps st j a).map (·.name)).Nodup :=
  (names_filterMap_expected var ver ec steps st j a).nodup hnd

/-- no step is named `n`: no new entry is named `n`. -/
theorem find_newEntries_foreign (var : Variant) (ver : String) (ec : List CheckSpec)
    (steps : List Step) (st : List Artifact) (j : Nat) (a : Artifact) (n : String)
    (hn : n ∉ steps.map (·.spec.name)) :
    (newEntries var ver ec steps st j a).find? (fun x => x.name = n) = none :=
  find_none_of_not_mem n _ fun h => hn ((names_filterMap_expected var ver ec steps st j a).subset h)

/-- ANY artefact (pre-annotated or not) after `_CheckArtifacts`: result list, weak flag and
version in terms of what it carried before and of the new entries. -/
theorem actsBy_merge {var : Variant} {ver : String} {ec : List CheckSpec} {steps : List Step}
    {st : List Artifact} {j : Nat} {a a' : Artifact}
    (h : ActsBy ver (allOps var ver ec steps st) j a a') :
    a'.info.results = resAll a.info.results (newEntries var ver ec steps st j a) ∧
    a'.info.weak = (a.info.weak || (newEntries var ver ec steps st j a).any (·.result)) ∧
    a'.info.version =
      (if a.info.version = "" ∧ (newEntries var ver ec steps st j a).isEmpty = false then ver
       else a.info.version) := by
  obtain ⟨_, ho⟩ := h
  refine ⟨?_, ?_, ?_⟩
  · rw [applyOps_results ho, entriesOf_allOps]; rfl
  · rw [applyOps_weak ho, entriesOf_allOps]; rfl
  · rw [applyOps_version ho, entriesOf_allOps]; rfl

theorem nameCount_eq_length_namedAs (n : String) (l : List Entry) :
    nameCount n l = (namedAs n l).length := by
  unfold nameCount namedAs
  rw [List.countP_eq_length_filter]

end Paranoid
