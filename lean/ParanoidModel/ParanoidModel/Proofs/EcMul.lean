/-
Proofs/EcMul.lean — Multiply computes `k • P` for every integer `k`; the loop lemma of MultiplyAffine
(its integer statement is `C11.multiplyAffine_zsmul`).
-/
import ParanoidModel.Proofs.EcJacobian
namespace Paranoid.Ec
open Paranoid WeierstrassCurve
variable (c : Curve) [hp : Fact (Nat.Prime c.p)]

/-- the sign normalisation shared by MultiplyAffine and Multiply: `|k| • (±P) = k • P`. -/
theorem signed_smul (hc : c.Good) (P : Pt) (k : Int) (hP : onCurve c P = true) :
    onCurve c (if k < 0 then negate c P else P) = true ∧
    k.natAbs • toPoint c (if k < 0 then negate c P else P) = k • toPoint c P := by
  split
  · refine ⟨negate_onCurve c P hP, ?_⟩
    rw [negate_refines c hc P hP, ← natCast_zsmul, zsmul_neg, ← neg_zsmul]; congr 1; omega
  · refine ⟨hP, ?_⟩
    rw [← natCast_zsmul]; congr 1; omega

theorem ladder_step {G : Type*} [AddCommMonoid G] (A B : G) (n : Nat) :
    A + (n % 2) • B + (n / 2) • (B + B) = A + n • B := by
  rw [add_assoc, ← two_nsmul, ← mul_nsmul', ← add_nsmul]
  congr 2
  omega

theorem mulAffLoop_refines (hc : c.Good) : ∀ (fuel n : Nat) (res p : Pt),
    n < 2 ^ fuel → onCurve c res = true → onCurve c p = true →
    ∃ R, mulAffLoop c fuel n res p = .ok R ∧ onCurve c R = true ∧
      toPoint c R = toPoint c res + n • toPoint c p
  | 0, n, res, p, hn, hres, _ => by
    have : n = 0 := by simpa using hn
    subst this
    exact ⟨res, rfl, hres, by simp⟩
  | fuel + 1, n, res, p, hn, hres, hp' => by
    unfold mulAffLoop
    by_cases h0 : n = 0
    · subst h0
      exact ⟨res, by simp, hres, by simp⟩
    · rw [if_neg h0]
      obtain ⟨res', hr1, hr2, hr3⟩ : ∃ R, (if n % 2 = 1 then add c res p else .ok res) = .ok R ∧
          onCurve c R = true ∧ toPoint c R = toPoint c res + (n % 2) • toPoint c p := by
        by_cases hodd : n % 2 = 1
        · rw [if_pos hodd, hodd, one_smul]
          exact add_refines c hc res p hres hp'
        · rw [if_neg hodd]
          have : n % 2 = 0 := by omega
          exact ⟨res, rfl, hres, by simp [this]⟩
      obtain ⟨p2, hd1, hd2, hd3⟩ := double_refines c hc p hp'
      rw [hr1, hd1]
      have hn2 : n / 2 < 2 ^ fuel := by
        rw [pow_succ] at hn; omega
      obtain ⟨R, hR1, hR2, hR3⟩ := mulAffLoop_refines hc fuel (n / 2) res' p2 hn2 hr2 hd2
      exact ⟨R, hR1, hR2, by rw [hR3, hr3, hd3, ladder_step]⟩

theorem mulJLoop_refines (hc : c.Good) : ∀ (fuel n : Nat) (res pj : JPt) (A B : (W c).Point),
    n < 2 ^ fuel → JRep c res A → JRep c pj B → JRep c (mulJLoop c fuel n res pj) (A + n • B)
  | 0, n, res, pj, A, B, hn, hres, _ => by
    have : n = 0 := by simpa using hn
    subst this
    simpa [mulJLoop] using hres
  | fuel + 1, n, res, pj, A, B, hn, hres, hpj => by
    unfold mulJLoop
    by_cases h0 : n = 0
    · subst h0
      simpa using hres
    · rw [if_neg h0]
      have hn2 : n / 2 < 2 ^ fuel := by
        rw [pow_succ] at hn; omega
      have hres' : JRep c (if n % 2 = 1 then addJ c res pj else res) (A + (n % 2) • B) := by
        by_cases hodd : n % 2 = 1
        · rw [if_pos hodd, hodd, one_smul]; exact addJ_refines c hc hres hpj
        · rw [if_neg hodd]
          have : n % 2 = 0 := by omega
          simpa [this] using hres
      have := mulJLoop_refines hc fuel (n / 2) _ _ _ _ hn2 hres' (doubleJ_refines c hc hpj)
      rwa [ladder_step] at this

theorem multiplyNat_refines (hc : c.Good) (P : Pt) (n : Nat) (hP : onCurve c P = true) :
    ∃ R, multiplyNat c P n = .ok R ∧ onCurve c R = true ∧ toPoint c R = n • toPoint c P := by
  unfold multiplyNat
  by_cases h1 : n = 1
  · rw [if_pos h1, h1, one_smul]; exact ⟨P, rfl, hP, rfl⟩
  · rw [if_neg h1]
    have := mulJLoop_refines c hc (bitLength n) n infJ (affineToJ P) 0 (toPoint c P)
      (lt_two_pow_bitLength n) (jrep_infJ c) (jrep_affineToJ c hc P hP)
    rw [zero_add] at this
    exact jToAffine_refines c this

omit hp in
theorem multiply_aff (x y : Int) (k : Int) : multiply c (.aff x y) k =
    multiplyNat c (if k < 0 then negate c (.aff x y) else .aff x y) k.natAbs := rfl

/-- `Multiply(P, k)` is `k • P` for every integer `k` (zero, negative, beyond the group order). -/
theorem multiply_zsmul (hc : c.Good) (P : Pt) (k : Int) (hP : onCurve c P = true) :
    ∃ R, multiply c P k = .ok R ∧ onCurve c R = true ∧ toPoint c R = k • toPoint c P := by
  cases P with
  | inf => exact ⟨.inf, rfl, rfl, (zsmul_zero k).symm⟩
  | aff x y =>
    obtain ⟨hQ, hk⟩ := signed_smul c hc (.aff x y) k hP
    obtain ⟨R, h1, h2, h3⟩ := multiplyNat_refines c hc _ k.natAbs hQ
    exact ⟨R, h1, h2, by rw [h3, hk]⟩

end Paranoid.Ec
