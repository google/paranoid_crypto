/-
Proofs/NamedCurves.lean — what is evaluated or certified about each of the nine curve objects of
`ec_util.CURVE_FACTORY` (parameter check, Pratt certificates of the field prime and of the group
order, odd order), stated once for the list `namedCurveList` (Proofs/EcCurves); and the curve
objects of `namedFactory` are exactly these curves with fresh caches.
-/
import ParanoidModel.Proofs.PrattCurves
import ParanoidModel.Model.EcdsaChecks
namespace Paranoid.Ec
open Paranoid

theorem named_facts : ∀ c ∈ namedCurveList,
    c.paramsOK = true ∧ c.p.Prime ∧ c.n.Prime ∧ c.n % 2 = 1 :=
  forall_named.2
    ⟨⟨secp256r1_paramsOK, Pratt.secp256r1_p_prime, Pratt.secp256r1_n_prime, by decide +kernel⟩,
     ⟨secp384r1_paramsOK, Pratt.secp384r1_p_prime, Pratt.secp384r1_n_prime, by decide +kernel⟩,
     ⟨secp192r1_paramsOK, Pratt.secp192r1_p_prime, Pratt.secp192r1_n_prime, by decide +kernel⟩,
     ⟨secp224r1_paramsOK, Pratt.secp224r1_p_prime, Pratt.secp224r1_n_prime, by decide +kernel⟩,
     ⟨secp521r1_paramsOK, Pratt.secp521r1_p_prime, Pratt.secp521r1_n_prime, by decide +kernel⟩,
     ⟨secp256k1_paramsOK, Pratt.secp256k1_p_prime, Pratt.secp256k1_n_prime, by decide +kernel⟩,
     ⟨brainpoolP256r1_paramsOK, Pratt.brainpoolP256r1_p_prime, Pratt.brainpoolP256r1_n_prime,
      by decide +kernel⟩,
     ⟨brainpoolP384r1_paramsOK, Pratt.brainpoolP384r1_p_prime, Pratt.brainpoolP384r1_n_prime,
      by decide +kernel⟩,
     ⟨brainpoolP512r1_paramsOK, Pratt.brainpoolP512r1_p_prime, Pratt.brainpoolP512r1_n_prime,
      by decide +kernel⟩⟩

open EcdsaChecks in
theorem namedFactory_objs {cid : Nat} {obj : CurveObj} (h : (cid, some obj) ∈ namedFactory) :
    ∃ c ∈ namedCurveList, obj = ⟨c, []⟩ := by
  have : obj ∈ namedFactory.filterMap (·.2) := List.mem_filterMap.mpr ⟨_, h, rfl⟩
  rw [show namedFactory.filterMap (·.2) = namedCurveList.map (⟨·, []⟩) from rfl] at this
  obtain ⟨c, hc, rfl⟩ := List.mem_map.mp this
  exact ⟨c, hc, rfl⟩

end Paranoid.Ec
