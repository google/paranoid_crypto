/-
Proofs/BatchGcd.lean — rsa_util.BatchGCD: the remainder tree computes, for every value `v`,
`gcd v (∏ (other distinct values) * other)`.
-/
import ParanoidModel.Model.BatchGcd
import ParanoidModel.Proofs.NTheoryTree
import Mathlib.Data.Nat.GCD.BigOperators
import Mathlib.Algebra.BigOperators.Group.Finset.Basic
import Mathlib.Data.Finset.Dedup

namespace Paranoid

/-! ### remainder tree -/

/-- `rems_j ≡ X (mod nodes_j)` position by position (in particular equal lengths). -/
def RemInv (X : Nat) (rems nodes : List Nat) : Prop :=
  List.Forall₂ (fun r n => r ≡ X [MOD n]) rems nodes

theorem pyModNat_pos {r a : Nat} (h : 0 < a) : pyModNat r a = .ok (r % a) := by
  have : a ≠ 0 := by omega
  simp [pyModNat, this]

/-- one step down: if the parents' remainders are right, so are the children's, and no
exception is raised (positive nodes). -/
theorem remStep_inv (X : Nat) (level : List Nat) : ∀ (prev : List Nat),
    (∀ x ∈ level, 0 < x) → RemInv X prev (pairProd level) →
    ∃ rems, remStep level prev = .ok rems ∧ RemInv X rems level := by
  fun_induction pairProd level with
  | case1 a b rest ih =>
    intro prev hpos h
    cases h with
    | cons hr hrs =>
      rename_i r rs
      have ha : 0 < a := hpos a (by simp)
      have hb : 0 < b := hpos b (by simp)
      obtain ⟨rest', hrest, hF⟩ := ih rs (fun x hx => hpos x (by simp [hx])) hrs
      refine ⟨r % a :: r % b :: rest', ?_, ?_⟩
      · simp only [remStep, pyModNat_pos ha, pyModNat_pos hb, hrest]
        rfl
      · refine List.Forall₂.cons ?_ (List.Forall₂.cons ?_ hF)
        · exact (Nat.mod_modEq r a).trans (hr.of_mul_right b)
        · exact (Nat.mod_modEq r b).trans (hr.of_mul_left a)
  | case2 a =>
    intro prev hpos h
    cases h with
    | cons hr hrs =>
      cases hrs
      rename_i r
      refine ⟨[r], rfl, List.Forall₂.cons ?_ List.Forall₂.nil⟩
      simpa using hr
  | case3 =>
    intro prev hpos h
    cases h
    exact ⟨[], rfl, List.Forall₂.nil⟩

theorem remTree_append (A : List (List Nat)) (u prev : List Nat) :
    remTree (A ++ [u]) prev = remTree A prev >>= remStep u := by
  induction A generalizing prev with
  | nil => simp [remTree]
  | cons a A ih =>
    simp only [List.cons_append, remTree, ih, bind_assoc]

/-- ★ remainder-tree invariant: walking `levels u` from the root down with `[X]` at the root
ends, without exception, with `rem_j ≡ X (mod u_j)` at every leaf. -/
theorem remTree_inv (X : Nat) (u : List Nat) (hne : u ≠ []) (hpos : ∀ x ∈ u, 0 < x) :
    ∃ rems, remTree (levels u).reverse [X] = .ok rems ∧ RemInv X rems u := by
  induction h : u.length using Nat.strong_induction_on generalizing u with
  | _ n ih =>
    by_cases h2 : 2 ≤ u.length
    · obtain ⟨prev, hprev, hF⟩ := ih _ (by rw [← h]; exact pairProd_length_lt u h2) (pairProd u)
        (pairProd_ne_nil hne) (pairProd_pos hpos) rfl
      obtain ⟨rems, hrems, hG⟩ := remStep_inv X u prev hpos hF
      refine ⟨rems, ?_, hG⟩
      rw [levels_of_two_le h2, List.reverse_cons, remTree_append, hprev]
      exact hrems
    · match u, hne, h2 with
      | [a], _, _ =>
        refine ⟨[X], ?_, List.Forall₂.cons (Nat.ModEq.refl _) List.Forall₂.nil⟩
        rw [levels_of_lt_two (by simp)]
        rfl
      | _ :: _ :: _, _, h2 => simp at h2

/-! ### the dictionary -/

theorem lookupGcd_zip (X v : Nat) (rems u : List Nat) (h : RemInv X rems u) (hv : v ∈ u) :
    lookupGcd v (u.zip rems) = .ok (Nat.gcd v X) := by
  induction h with
  | nil => simp at hv
  | @cons r n rs ns hr _ ih =>
    simp only [List.zip_cons_cons, lookupGcd]
    by_cases hnv : n = v
    · subst hnv
      rw [if_pos rfl, Nat.gcd_comm n r, hr.gcd_eq, Nat.gcd_comm]
    · rw [if_neg hnv]
      apply ih
      rcases List.mem_cons.1 hv with h | h
      · exact absurd h.symm hnv
      · exact h

theorem lookupAll_ok (table : List (Nat × Nat)) (g : Nat → Nat) (values : List Nat)
    (h : ∀ v ∈ values, lookupGcd v table = .ok (g v)) :
    lookupAll table values = .ok (values.map g) := by
  induction values with
  | nil => rfl
  | cons v vs ih =>
    simp only [lookupAll, h v (by simp), ih (fun w hw => h w (by simp [hw]))]
    rfl

/-! ### BatchGCD -/

/-- the factor `other_values_prod` contributes: `None` and `0` count as `1`. -/
def otherVal : Option Nat → Nat
  | none => 1
  | some o => if o = 0 then 1 else o

theorem scaleT_eq (t : Nat) (other : Option Nat) : scaleT t other = t * otherVal other := by
  cases other with
  | none => simp [scaleT, otherVal]
  | some o => by_cases h : o = 0 <;> simp [scaleT, otherVal, h]

/-- entry of the result for `v`, in terms of the enumeration `u` of the value set. -/
def entryL (u : List Nat) (o : Nat) (v : Nat) : Nat := Nat.gcd v ((u.erase v).prod * o)

/-- pinned `BatchGCD`, general form: any non-empty list `u` of positive numbers containing every
value (duplicate-free or not). -/
theorem batchGCDPinnedWith_spec (u values : List Nat) (other : Option Nat)
    (hne : u ≠ []) (hpos : ∀ x ∈ u, 0 < x) (hsub : ∀ v ∈ values, v ∈ u) :
    batchGCDPinnedWith u values other = .ok (values.map (entryL u (otherVal other))) := by
  obtain ⟨rems, hrems, hinv⟩ := remTree_inv (sumOthers u * otherVal other) u hne hpos
  unfold batchGCDPinnedWith
  rw [extendedProductTree_eq u hne]
  simp only [bind, Except.bind, scaleT_eq, hrems]
  apply lookupAll_ok
  intro v hv
  rw [lookupGcd_zip _ v rems u hinv (hsub v hv)]
  congr 1
  unfold entryL
  rw [Nat.gcd_comm, Nat.gcd_comm v]
  exact ((sumOthers_modEq u v (hsub v hv)).mul_right _).gcd_eq

/-- repaired `BatchGCD`: same statement, the enumeration may even be empty when the batch is. -/
theorem batchGCDWith_spec (u values : List Nat) (other : Option Nat)
    (hpos : ∀ x ∈ u, 0 < x) (hsub : ∀ v ∈ values, v ∈ u) :
    batchGCDWith u values other = .ok (values.map (entryL u (otherVal other))) := by
  cases values with
  | nil => rfl
  | cons v vs =>
    have hne : u ≠ [] := List.ne_nil_of_mem (hsub v (by simp))
    exact batchGCDPinnedWith_spec u (v :: vs) other hne hpos hsub

theorem batchGCDWith_eq_pinned (u values : List Nat) (other : Option Nat) (h : values ≠ []) :
    batchGCDWith u values other = batchGCDPinnedWith u values other := by
  cases values with
  | nil => exact absurd rfl h
  | cons v vs => rfl

theorem batchGCDPinned_eq (values : List Nat) (other : Option Nat) (h : values ≠ []) :
    batchGCDPinned values other = batchGCD values other :=
  (batchGCDWith_eq_pinned _ values other h).symm

theorem batchGCDPinnedWith_nil (values : List Nat) (other : Option Nat) :
    batchGCDPinnedWith [] values other = .error .indexError := by
  unfold batchGCDPinnedWith
  rw [extendedProductTree_nil]
  rfl

/-! ### order-independent form -/

/-- entry of the result for `v` in terms of the SET of values: gcd of `v` with the product of
the other distinct values (times `o`). -/
def entry (s : Finset Nat) (o : Nat) (v : Nat) : Nat := Nat.gcd v ((∏ x ∈ s.erase v, x) * o)

theorem prod_erase_eq_finset (u : List Nat) (hnd : u.Nodup) (v : Nat) :
    (u.erase v).prod = ∏ x ∈ u.toFinset.erase v, x := by
  have h1 : (u.erase v).toFinset = u.toFinset.erase v := by
    ext x
    simp [hnd.mem_erase_iff]
  rw [← h1, List.prod_toFinset _ (hnd.erase v)]
  simp

theorem entryL_eq_entry (u : List Nat) (hnd : u.Nodup) (o v : Nat) :
    entryL u o v = entry u.toFinset o v := by
  unfold entryL entry
  rw [prod_erase_eq_finset u hnd v]

/-! ### `eraseDups` (first-occurrence enumeration used by the executable instance) -/

theorem nodup_eraseDups (l : List Nat) : l.eraseDups.Nodup := by
  induction h : l.length using Nat.strong_induction_on generalizing l with
  | _ n ih =>
    cases l with
    | nil => simp
    | cons a as =>
      rw [List.eraseDups_cons, List.nodup_cons]
      constructor
      · rw [List.mem_eraseDups]
        simp
      · apply ih _ _ _ rfl
        rw [← h]
        exact Nat.lt_succ_of_le (List.length_filter_le _ _)

/-! ### the executable instance and order independence -/

theorem batchGCDWith_spec_set (u values : List Nat) (other : Option Nat)
    (hpos : ∀ v ∈ values, 0 < v) (hnd : u.Nodup) (hmem : ∀ x, x ∈ u ↔ x ∈ values) :
    batchGCDWith u values other =
      .ok (values.map (entry values.toFinset (otherVal other))) := by
  rw [batchGCDWith_spec u values other (fun x hx => hpos x ((hmem x).1 hx))
    (fun v hv => (hmem v).2 hv)]
  congr 1
  apply List.map_congr_left
  intro v _
  rw [entryL_eq_entry u hnd, List.toFinset.ext hmem]

/-! ### zero values: the positivity hypothesis is needed -/

theorem remTree_zero (X : Nat) (u : List Nat) (h2 : 2 ≤ u.length) (h0 : u.prod = 0) :
    remTree (levels u).reverse [X] = .error .zeroDivision := by
  induction h : u.length using Nat.strong_induction_on generalizing u with
  | _ n ih =>
    rw [levels_of_two_le h2, List.reverse_cons, remTree_append]
    by_cases h3 : 2 ≤ (pairProd u).length
    · rw [ih _ (by rw [← h]; exact pairProd_length_lt u h2) (pairProd u) h3
        (by rw [pairProd_prod, h0]) rfl]
      rfl
    · match u, h2, h3, h0 with
      | [x, y], _, _, h0 =>
        have hxy : x = 0 ∨ y = 0 := by simpa using h0
        rw [show pairProd [x, y] = [x * y] from rfl, levels_of_lt_two (by simp)]
        by_cases hx : x = 0
        · subst hx; rfl
        · have hy : y = 0 := hxy.resolve_left hx
          subst hy
          simp [remTree, remStep, pyModNat, hx, bind, Except.bind, pure, Except.pure]
      | a :: b :: c :: t, _, h3, _ =>
        have := pairProd_length (a :: b :: c :: t)
        simp only [List.length_cons] at this h3
        omega
      | [], h2, _, _ => simp at h2
      | [_], h2, _, _ => simp at h2

/-! ### what a flag means -/

theorem entry_eq_one_iff (s : Finset Nat) (o v : Nat) :
    entry s o v = 1 ↔ Nat.Coprime v o ∧ ∀ w ∈ s, w ≠ v → Nat.Coprime v w := by
  unfold entry
  rw [← Nat.coprime_iff_gcd_eq_one, Nat.coprime_mul_iff_right, Nat.coprime_prod_right_iff]
  simp only [Finset.mem_erase, and_imp]
  constructor
  · rintro ⟨h1, h2⟩; exact ⟨h2, fun w hw hne => h1 w hne hw⟩
  · rintro ⟨h1, h2⟩; exact ⟨fun w hne hw => h2 w hw hne, h1⟩

theorem entry_dvd (s : Finset Nat) (o v : Nat) : entry s o v ∣ v := Nat.gcd_dvd_left _ _

theorem entry_pos (s : Finset Nat) (o v : Nat) (hv : 0 < v) : 0 < entry s o v :=
  Nat.gcd_pos_of_pos_left _ hv

theorem entry_eq_self_iff (s : Finset Nat) (o v : Nat) :
    entry s o v = v ↔ v ∣ (∏ x ∈ s.erase v, x) * o := Nat.gcd_eq_left_iff_dvd

/-! ### CheckGCD -/

theorem properFromOthers_some (n : Nat) : ∀ (l : List Nat) (h : Nat),
    properFromOthers n l = some h → 1 < h ∧ h < n ∧ h ∣ n
  | [], _, hh => by simp [properFromOthers] at hh
  | m :: rest, h, hh => by
    unfold properFromOthers at hh
    split at hh
    · rename_i hc
      simp only [Option.some.injEq] at hh
      subst hh
      exact ⟨hc.1, hc.2, Nat.gcd_dvd_left _ _⟩
    · exact properFromOthers_some n rest h hh

theorem properFromOthers_none (n : Nat) : ∀ (l : List Nat),
    properFromOthers n l = none → ∀ m ∈ l, ¬ (1 < Nat.gcd n m ∧ Nat.gcd n m < n)
  | [], _, _, hm => by simp at hm
  | m' :: rest, hh, m, hm => by
    unfold properFromOthers at hh
    split at hh
    · simp at hh
    · rename_i hc
      rcases List.mem_cons.mp hm with rfl | hin
      · exact hc
      · exact properFromOthers_none n rest hh m hin

theorem extraSplit_dvd (ns : List Nat) (n g : Nat) : ∀ f ∈ extraSplit ns n g, f ∣ n := by
  intro f hf
  unfold extraSplit at hf
  split at hf
  · split at hf
    · rename_i h hh
      have hd := (properFromOthers_some n ns h hh).2.2
      simp only [List.mem_cons, List.not_mem_nil, or_false] at hf
      rcases hf with rfl | rfl
      · exact hd
      · exact Nat.div_dvd_of_dvd hd
    · simp at hf
  · simp at hf

/-- after the D2 repair: a flagged key has a PROPER divisor among its recorded factors unless
the modulus divides another (distinct) modulus of the batch. -/
theorem checkGCDKeyR_proper (ns : List Nat) (n : Nat) (hn : 1 < n)
    (hflag : entry ns.toFinset 1 n ≠ 1) :
    (∃ f ∈ (checkGCDKeyR ns n (entry ns.toFinset 1 n)).2, 1 < f ∧ f < n) ∨
      ∃ m ∈ ns, m ≠ n ∧ n ∣ m := by
  have hdvd := entry_dvd ns.toFinset 1 n
  have hpos' := entry_pos ns.toFinset 1 n (by omega)
  have hle := Nat.le_of_dvd (by omega) hdvd
  unfold checkGCDKeyR
  rw [if_neg hflag]
  by_cases hgn : entry ns.toFinset 1 n = n
  · unfold extraSplit
    rw [if_pos hgn]
    split
    · rename_i h hh
      have := properFromOthers_some n ns h hh
      exact Or.inl ⟨h, by simp, this.1, this.2.1⟩
    · rename_i hnone
      right
      by_contra hcon
      apply hflag
      rw [entry_eq_one_iff]
      refine ⟨Nat.coprime_one_right n, fun w hw hne => ?_⟩
      have hwm : w ∈ ns := List.mem_toFinset.mp hw
      have hnot := properFromOthers_none n ns hnone w hwm
      have hgd : Nat.gcd n w ∣ n := Nat.gcd_dvd_left _ _
      have hgle := Nat.le_of_dvd (by omega) hgd
      have hgpos : 0 < Nat.gcd n w := Nat.gcd_pos_of_pos_left _ (by omega)
      rcases Nat.lt_or_ge 1 (Nat.gcd n w) with h1 | h1
      · have : Nat.gcd n w = n := by
          by_contra hne2
          exact hnot ⟨h1, by omega⟩
        exfalso
        apply hcon
        exact ⟨w, hwm, hne, Nat.gcd_eq_left_iff_dvd.mp this⟩
      · exact Nat.coprime_iff_gcd_eq_one.mpr (by omega)
  · exact Or.inl ⟨entry ns.toFinset 1 n, by simp, by omega, by omega⟩

end Paranoid
