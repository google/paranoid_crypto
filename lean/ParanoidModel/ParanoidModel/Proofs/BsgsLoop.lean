/-
Proofs/BsgsLoop.lean — the loop over `CURVE_FACTORY.items()` that `CheckWeakECPrivateKey.Check` and
`CheckECKeySmallDifference.Check` share: one discrete-log search per curve object that has keys, the
verdicts written back to the batch positions of the group, the `_table` states threaded through.
One loop, one theorem about what it returns (`genLoop_spec`, `genCheck_spec`), one about where a written
verdict comes from (`genLoop_written`); the two checks are instances.
-/
import ParanoidModel.Model.Bsgs
import ParanoidModel.Proofs.BsgsGroup
namespace Paranoid.Bsgs
open Paranoid Paranoid.Ec

/-- the common shape of `CheckWeakECPrivateKey.Check` / `CheckECKeySmallDifference.Check`:
`step e c st o = none` is `continue`; `some r` is the discrete-log search of the curve's group.  `σ` is the type of the `_table`
states. -/
def genLoop {σ ω : Type} (keys : List ECKey)
    (step : FEntry → Curve → σ → ω → Option (Except PyErr (List KV × σ))) :
    Factory → List σ → List ω → List KeyVerdict → Except PyErr (List KeyVerdict × List σ)
  | e :: es, st :: sts, o :: os, res =>
    match e.curve with
    | none => consState st (genLoop keys step es sts os res)
    | some c =>
      match step e c st o with
      | none => consState st (genLoop keys step es sts os res)
      | some (.error err) => .error err
      | some (.ok (vs, st')) =>
        consState st' (genLoop keys step es sts os (scatter res (keyIdxs e.id keys 0) vs))
  | _, _, _, res => .ok (res, [])

theorem consState_ok {σ} {st : σ} {r : Except PyErr (List KeyVerdict × List σ)}
    {res : List KeyVerdict} {sts : List σ} (h : r = .ok (res, sts)) :
    consState st r = .ok (res, st :: sts) := by subst h; rfl

theorem scatter_origin : ∀ (idxs : List Nat) (vs : List KV) (res : List KeyVerdict) (p : Nat) (kv : KV),
    (scatter res idxs vs)[p]? = some (some kv) →
    res[p]? = some (some kv) ∨ ∃ r : Nat, idxs[r]? = some p ∧ vs[r]? = some kv
  | [], _, res, p, kv, h => by simp only [scatter] at h; exact .inl h
  | _ :: _, [], res, p, kv, h => by simp only [scatter] at h; exact .inl h
  | i :: is, v :: vs, res, p, kv, h => by
    rw [scatter] at h
    rcases scatter_origin is vs _ p kv h with h1 | ⟨r, hr1, hr2⟩
    · rw [List.getElem?_set] at h1
      split at h1
      · rename_i hip
        split at h1
        · cases h1
          exact .inr ⟨0, by simp [hip], by simp⟩
        · cases h1
      · exact .inl h1
    · exact .inr ⟨r + 1, by simpa using hr1, by simpa using hr2⟩

theorem consState_inv {σ} {st : σ} {r : Except PyErr (List KeyVerdict × List σ)}
    {res : List KeyVerdict} {sts : List σ} (h : consState st r = .ok (res, sts)) :
    ∃ sts0, r = .ok (res, sts0) ∧ sts = st :: sts0 := by
  cases r with
  | error e => cases h
  | ok x =>
    obtain ⟨a, b⟩ := x
    simp only [consState, Except.ok.injEq, Prod.mk.injEq] at h
    exact ⟨b, by rw [h.1], h.2.symm⟩

/-- one successful round of the loop: the entry was skipped, or its group search returned `vs` and they
were scattered over the positions of the group. -/
theorem genLoop_cons_ok {σ ω : Type} {keys : List ECKey}
    {step : FEntry → Curve → σ → ω → Option (Except PyErr (List KV × σ))} {e : FEntry}
    {es : Factory} {st : σ} {sts : List σ} {o : ω} {os : List ω}
    {res res' : List KeyVerdict} {sts' : List σ}
    (h : genLoop keys step (e :: es) (st :: sts) (o :: os) res = .ok (res', sts')) :
    ∃ res0 st0 sts0, genLoop keys step es sts os res0 = .ok (res', sts0) ∧ sts' = st0 :: sts0 ∧
      (res0 = res ∧ st0 = st ∨ ∃ c vs, e.curve = some c ∧ step e c st o = some (.ok (vs, st0)) ∧
        res0 = scatter res (keyIdxs e.id keys 0) vs) := by
  rw [genLoop] at h
  split at h
  · obtain ⟨sts0, h0, hs⟩ := consState_inv h
    exact ⟨res, st, sts0, h0, hs, .inl ⟨rfl, rfl⟩⟩
  · rename_i c hcur
    split at h
    · obtain ⟨sts0, h0, hs⟩ := consState_inv h
      exact ⟨res, st, sts0, h0, hs, .inl ⟨rfl, rfl⟩⟩
    · cases h
    · rename_i vs st1 hstep
      obtain ⟨sts0, h0, hs⟩ := consState_inv h
      exact ⟨_, st1, sts0, h0, hs, .inr ⟨c, vs, hcur, hstep, rfl⟩⟩

/-- a verdict found in the result list was there before the loop, or is the answer of ONE group search
at the key's rank in its group. -/
theorem genLoop_origin {σ ω : Type} (keys : List ECKey)
    (step : FEntry → Curve → σ → ω → Option (Except PyErr (List KV × σ))) :
    ∀ (f : Factory) (sts : List σ) (os : List ω) (res res' : List KeyVerdict)
      (sts' : List σ), genLoop keys step f sts os res = .ok (res', sts') →
      ∀ (p : Nat) (kv : KV), res'[p]? = some (some kv) → res[p]? = some (some kv) ∨
        ∃ (e : FEntry) (c : Curve) (st : σ) (o : ω) (vs : List KV) (st1 : σ) (r : Nat),
          e ∈ f ∧ e.curve = some c ∧ step e c st o = some (.ok (vs, st1)) ∧
          (keyIdxs e.id keys 0)[r]? = some p ∧ vs[r]? = some kv
  | [], _, _, res, _, _, h, p, kv, hp => by
    simp only [genLoop, Except.ok.injEq, Prod.mk.injEq] at h; rw [h.1]; exact .inl hp
  | _ :: _, [], _, res, _, _, h, p, kv, hp => by
    simp only [genLoop, Except.ok.injEq, Prod.mk.injEq] at h; rw [h.1]; exact .inl hp
  | _ :: _, _ :: _, [], res, _, _, h, p, kv, hp => by
    simp only [genLoop, Except.ok.injEq, Prod.mk.injEq] at h; rw [h.1]; exact .inl hp
  | e :: es, st :: sts, o :: os, res, res', sts', h, p, kv, hp => by
    obtain ⟨res0, st0, sts0, h0, _, hround⟩ := genLoop_cons_ok h
    rcases genLoop_origin keys step es sts os res0 res' sts0 h0 p kv hp with h1 |
      ⟨e', c, st', o', vs, st1, r, he', rest⟩
    · rcases hround with ⟨rfl, _⟩ | ⟨c, vs, hcur, hstep, rfl⟩
      · exact .inl h1
      · rcases scatter_origin _ _ _ p kv h1 with h2 | ⟨r, hr1, hr2⟩
        · exact .inl h2
        · exact .inr ⟨e, c, st, o, vs, st0, r, List.mem_cons_self, hcur, hstep, hr1, hr2⟩
    · exact .inr ⟨e', c, st', o', vs, st1, r, List.mem_cons_of_mem e he', rest⟩
/-- a check (the loop started from the all-`None` list) on a factory with distinct ids: the verdict
found for the key at position `n`, on curve object `c`, is entry `r` of the answer of THE group
search of that curve object, `r` the rank of the key in its group. -/
theorem genLoop_written {σ ω : Type} {keys : List ECKey}
    {step : FEntry → Curve → σ → ω → Option (Except PyErr (List KV × σ))} {f : Factory}
    (hnd : (f.map (·.id)).Nodup) {sts : List σ} {os : List ω} {res' : List KeyVerdict}
    {sts' : List σ}
    (h : genLoop keys step f sts os (List.replicate keys.length none) = .ok (res', sts'))
    {n : Nat} {k : ECKey} {kv : KV} (hk : keys[n]? = some k) (hkv : res'[n]? = some (some kv))
    {c : Curve} (hc : factoryGet f k.curveType = some c) :
    ∃ (e : FEntry) (st : σ) (o : ω) (vs : List KV) (st1 : σ) (r : Nat),
      e.id = k.curveType ∧ step e c st o = some (.ok (vs, st1)) ∧
      (keyIdxs e.id keys 0)[r]? = some n ∧ (groupPoints e.id keys)[r]? = some k.pt ∧
      vs[r]? = some kv := by
  rcases genLoop_origin keys step f sts os _ res' sts' h n kv hkv with h0 |
    ⟨e, c', st, o, vs, st1, r, he, hcur, hstep, hr, hvs⟩
  · rw [List.getElem?_replicate] at h0
    split at h0 <;> cases h0
  · have hid : k.curveType = e.id := mem_keyIdxs_type e.id keys n k (List.mem_of_getElem? hr) hk
    have hcc := factoryGet_eq_of_mem hnd he
    rw [← hid, hc, hcur, Option.some.injEq] at hcc
    subst hcc
    obtain ⟨P, hP, k0, hk0, _, rfl⟩ := forall₂_idx (group_parallel e.id keys) r n hr
    rw [hk, Option.some.injEq] at hk0
    subst hk0
    exact ⟨e, st, o, vs, st1, r, hid.symm, hstep, hr, hP, hvs⟩

/-- what the search of curve object `c` (entry `e`, state `st`, oracle value `o`) owes to the loop: it
skips only an empty group; otherwise it returns one verdict per key of the group, that of the key `k`
at batch position `p` satisfying `Q e c st o p k`.  Either way the state left behind satisfies `Post`. -/
def StepOK {σ ω : Type} (keys : List ECKey) (Post : Curve → σ → Prop)
    (Q : FEntry → Curve → σ → ω → Nat → ECKey → KV → Prop) (e : FEntry) (c : Curve) (st : σ) (o : ω) :
    Option (Except PyErr (List KV × σ)) → Prop
  | none => groupPoints e.id keys = [] ∧ Post c st
  | some r => ∃ vs st', r = .ok (vs, st') ∧ Post c st' ∧ vs.length = (groupPoints e.id keys).length ∧
      ∀ (rk p : Nat) (k : ECKey), (keyIdxs e.id keys 0)[rk]? = some p → keys[p]? = some k →
        k.curveType = e.id → (groupPoints e.id keys)[rk]? = some k.pt →
        ∃ kv, vs[rk]? = some kv ∧ Q e c st o p k kv

/-- the loop never raises; the states it leaves satisfy `Post`; it writes an entry exactly for the keys
whose curve id has a curve object, and that entry satisfies `Q` for the state and oracle value of that
curve object. -/
theorem genLoop_spec {σ ω : Type} (keys : List ECKey)
    (step : FEntry → Curve → σ → ω → Option (Except PyErr (List KV × σ)))
    (Post : Curve → σ → Prop) (Q : FEntry → Curve → σ → ω → Nat → ECKey → KV → Prop) :
    ∀ (f : Factory) (sts : List σ) (os : List ω) (res : List KeyVerdict),
    (f.map (·.id)).Nodup →
    Forall₃ (fun e st o => ∀ c, e.curve = some c → StepOK keys Post Q e c st o (step e c st o)) f sts os →
    res.length = keys.length →
    ∃ res' sts', genLoop keys step f sts os res = .ok (res', sts') ∧
      res'.length = keys.length ∧
      List.Forall₂ (fun (e : FEntry) st => ∀ c, e.curve = some c → Post c st) f sts' ∧
      (∀ (p : Nat) (k : ECKey), keys[p]? = some k →
        (∀ e ∈ f, e.id = k.curveType → e.curve = none) → res'[p]? = res[p]?) ∧
      (∀ (p : Nat) (k : ECKey) (e : FEntry) (c : Curve), keys[p]? = some k → e ∈ f →
        e.id = k.curveType → e.curve = some c →
        ∃ st o kv, At₃ f sts os e st o ∧ res'[p]? = some (some kv) ∧ Q e c st o p k kv) := by
  intro f
  induction f with
  | nil =>
    intro sts os res _ hh hl
    cases sts <;> cases os <;> simp only [Forall₃] at hh
    exact ⟨res, [], rfl, hl, .nil, fun _ _ _ _ => rfl, fun _ _ e _ _ he => by simp at he⟩
  | cons e es ih =>
    intro sts os res hnd hh hl
    cases sts with
    | nil => simp only [Forall₃] at hh
    | cons st sts =>
    cases os with
    | nil => simp only [Forall₃] at hh
    | cons o os =>
    obtain ⟨ho, hrest⟩ := hh
    rw [List.map_cons, List.nodup_cons] at hnd
    obtain ⟨hnotin, hnd'⟩ := hnd
    have hother : ∀ e' ∈ es, e'.id ≠ e.id := fun e' he' h =>
      hnotin (List.mem_map.mpr ⟨e', he', h⟩)
    -- `continue`: no key of the batch belongs to a curve object of this entry
    have skip : (∀ c, e.curve = some c → Post c st) →
        (∀ (p : Nat) (k : ECKey), keys[p]? = some k → k.curveType = e.id → e.curve = none) →
        ∃ res' sts', consState st (genLoop keys step es sts os res) = .ok (res', sts') ∧
        res'.length = keys.length ∧
        List.Forall₂ (fun (e : FEntry) st => ∀ c, e.curve = some c → Post c st) (e :: es) sts' ∧
        (∀ (p : Nat) (k : ECKey), keys[p]? = some k →
          (∀ e' ∈ e :: es, e'.id = k.curveType → e'.curve = none) → res'[p]? = res[p]?) ∧
        (∀ (p : Nat) (k : ECKey) (e' : FEntry) (c : Curve), keys[p]? = some k → e' ∈ e :: es →
          e'.id = k.curveType → e'.curve = some c →
          ∃ st' o' kv, At₃ (e :: es) (st :: sts) (o :: os) e' st' o' ∧ res'[p]? = some (some kv) ∧
            Q e' c st' o' p k kv) := by
      intro hpost hnone
      obtain ⟨res', sts', h1, h2, h3, h4, h5⟩ := ih sts os res hnd' hrest hl
      refine ⟨res', st :: sts', consState_ok h1, h2, .cons hpost h3, ?_, ?_⟩
      · intro p k hk hall
        exact h4 p k hk (fun e' he' => hall e' (List.mem_cons_of_mem _ he'))
      · intro p k e' c hk he' hid hcur
        rcases List.mem_cons.mp he' with rfl | he'
        · rw [hnone p k hk hid.symm] at hcur; cases hcur
        · obtain ⟨st', o', kv, hat, rest⟩ := h5 p k e' c hk he' hid hcur
          exact ⟨st', o', kv, hat.cons _ _ _, rest⟩
    rw [genLoop]
    cases hcur : e.curve with
    | none => exact skip (fun c hc => by rw [hcur] at hc; cases hc) (fun _ _ _ _ => hcur)
    | some c =>
      simp only
      have hstep := ho c hcur
      cases hs : step e c st o with
      | none =>
        rw [hs] at hstep
        refine skip (fun c' hc' => by rw [hcur] at hc'; cases hc'; exact hstep.2) (fun p k hk hid => ?_)
        obtain ⟨r, _, hr⟩ := group_rank e.id keys p k hk hid
        rw [hstep.1] at hr
        cases hr
      | some r =>
        rw [hs] at hstep
        obtain ⟨vs, st', rfl, hpost, hvs, hq⟩ := hstep
        simp only
        have hpar := group_parallel e.id keys
        obtain ⟨s1, s2, s3⟩ := scatter_spec (keyIdxs e.id keys 0) vs res
          (keyIdxs_nodup e.id keys) (by rw [hvs, hpar.length_eq])
          (fun i hi => by rw [hl]; exact keyIdxs_lt e.id keys i hi)
        obtain ⟨res', sts', h1, h2', h3, h4, h5⟩ := ih sts os
          (scatter res (keyIdxs e.id keys 0) vs) hnd' hrest (by rw [s1, hl])
        refine ⟨res', st' :: sts', consState_ok h1, h2',
          .cons (fun c' hc' => by rw [hcur] at hc'; cases hc'; exact hpost) h3, ?_, ?_⟩
        · intro p k hk hall
          have hnot : p ∉ keyIdxs e.id keys 0 := by
            intro hp
            have := hall e List.mem_cons_self (mem_keyIdxs_type e.id keys p k hp hk).symm
            rw [hcur] at this; cases this
          rw [h4 p k hk (fun e' he' => hall e' (List.mem_cons_of_mem _ he')), s3 p hnot]
        · intro p k e' c' hk he' hid hcur'
          rcases List.mem_cons.mp he' with rfl | he'
          · rw [hcur] at hcur'; cases hcur'
            obtain ⟨r, hr1, hr2⟩ := group_rank e'.id keys p k hk hid.symm
            obtain ⟨kv, hkv, hqk⟩ := hq r p k hr1 hk hid.symm hr2
            -- later entries have other ids and leave the position alone
            have hkeep := h4 p k hk
              (fun e'' he'' hid'' => absurd (hid''.trans hid.symm) (hother e'' he''))
            exact ⟨st, o, kv, ⟨0, rfl, rfl, rfl⟩, by rw [hkeep, s2 r p kv hr1 hkv], hqk⟩
          · obtain ⟨st'', o', kv, hat, rest⟩ := h5 p k e' c' hk he' hid hcur'
            exact ⟨st'', o', kv, hat.cons _ _ _, rest⟩


/-- what a check leaves in the batch: one slot per key; no entry for a key whose curve id has no
curve object, an entry for every other key. -/
def RowShape (f : Factory) (keys : List ECKey) (res : List KeyVerdict) : Prop :=
  res.length = keys.length ∧
  (∀ (p : Nat) (k : ECKey), keys[p]? = some k → factoryGet f k.curveType = none → res[p]? = some none) ∧
  (∀ (p : Nat) (k : ECKey) (c : Curve), keys[p]? = some k → factoryGet f k.curveType = some c →
    ∃ kv, res[p]? = some (some kv))

/-- a whole `Check(artifacts)` (the loop started from the all-`None` list), in terms of
`CURVE_FACTORY.get(curve_id)`. -/
theorem genCheck_spec {σ ω : Type} (keys : List ECKey)
    (step : FEntry → Curve → σ → ω → Option (Except PyErr (List KV × σ)))
    (Post : Curve → σ → Prop) (Q : FEntry → Curve → σ → ω → Nat → ECKey → KV → Prop) (f : Factory)
    (sts : List σ) (os : List ω) (hnd : (f.map (·.id)).Nodup)
    (hh : Forall₃ (fun e st o => ∀ c, e.curve = some c → StepOK keys Post Q e c st o (step e c st o))
      f sts os) :
    ∃ res sts', genLoop keys step f sts os (List.replicate keys.length none) = .ok (res, sts') ∧
      List.Forall₂ (fun (e : FEntry) st => ∀ c, e.curve = some c → Post c st) f sts' ∧
      RowShape f keys res ∧
      ∀ (p : Nat) (k : ECKey) (e : FEntry) (c : Curve), keys[p]? = some k → e ∈ f →
        e.id = k.curveType → e.curve = some c →
        ∃ st o kv, At₃ f sts os e st o ∧ res[p]? = some (some kv) ∧ Q e c st o p k kv := by
  obtain ⟨res, sts', h1, h2, h3, h4, h5⟩ := genLoop_spec keys step Post Q f sts os
    (List.replicate keys.length none) hnd hh (by simp)
  refine ⟨res, sts', h1, h3, ⟨h2, fun p k hk hg => ?_, fun p k c hk hg => ?_⟩, h5⟩
  · rw [h4 p k hk ((factoryGet_none_iff hnd _).mp hg), List.getElem?_replicate,
      if_pos (List.getElem?_eq_some_iff.mp hk).1]
  · obtain ⟨e, he, hid, hcur⟩ := factoryGet_mem hg
    obtain ⟨_, _, kv, _, hkv, _⟩ := h5 p k e c hk he hid hcur
    exact ⟨kv, hkv⟩

/-- the group search of CheckWeakECPrivateKey (`if not keys: continue`). -/
def weakStep {τ} (I : TableImpl τ) (bound : Nat) (keys : List ECKey) (e : FEntry) (c : Curve)
    (st : StateG τ) (o : Nat × Nat) : Option (Except PyErr (List KV × StateG τ)) :=
  if (groupPoints e.id keys).isEmpty then none
  else some (match extendedBatchDLB I c bound st (groupPoints e.id keys) o.1 o.2 with
    | .error err => .error err
    | .ok (dls, st') => .ok (dls.map dlogVerdict, st'))

theorem weakKeyLoop_eq_gen {τ} (I : TableImpl τ) (keys : List ECKey) :
    ∀ (f : Factory) (sts : List (StateG τ)) (os : List (Nat × Nat)) (res : List KeyVerdict),
    weakKeyLoop I keys f sts os res = genLoop keys (weakStep I (2 ^ 32) keys) f sts os res
  | [], _, _, _ => rfl
  | _ :: _, [], _, _ => rfl
  | _ :: _, _ :: _, [], _ => rfl
  | e :: es, st :: sts, o :: os, res => by
    rw [weakKeyLoop, genLoop]
    cases hcur : e.curve with
    | none => simp only; rw [weakKeyLoop_eq_gen I keys es sts os res]
    | some c =>
      simp only [weakStep, extendedBatchDLG]
      by_cases hg : (groupPoints e.id keys).isEmpty = true
      · rw [if_pos hg, if_pos hg]; simp only; rw [weakKeyLoop_eq_gen I keys es sts os res]
      · rw [if_neg hg, if_neg hg]
        cases hx : extendedBatchDLB I c (2 ^ 32) st (groupPoints e.id keys) o.1 o.2 with
        | error err => rfl
        | ok r =>
          obtain ⟨dls, st'⟩ := r
          simp only
          rw [weakKeyLoop_eq_gen I keys es sts os _]

theorem weakStep_ok {τ} {I : TableImpl τ} {bound : Nat} {keys : List ECKey} {e : FEntry} {c : Curve}
    {st st' : StateG τ} {o : Nat × Nat} {vs : List KV}
    (h : weakStep I bound keys e c st o = some (.ok (vs, st'))) :
    ∃ dls, extendedBatchDLB I c bound st (groupPoints e.id keys) o.1 o.2 = .ok (dls, st') ∧
      vs = dls.map dlogVerdict := by
  unfold weakStep at h
  split at h
  · cases h
  · cases hx : extendedBatchDLB I c bound st (groupPoints e.id keys) o.1 o.2 with
    | error err => rw [hx] at h; cases h
    | ok r => rw [hx] at h; cases h; exact ⟨_, rfl, rfl⟩

/-- the step of CheckWeakECPrivateKey delivers what `ExtendedBatchDL` delivers for a non-empty
group. -/
theorem weakStep_stepOK {τ} {I : TableImpl τ} {bound : Nat} {keys : List ECKey}
    {Post : Curve → StateG τ → Prop}
    {Q : FEntry → Curve → StateG τ → Nat × Nat → Nat → ECKey → KV → Prop} {e : FEntry} {c : Curve}
    {st : StateG τ} {o : Nat × Nat} (hpost : Post c st)
    (h : groupPoints e.id keys ≠ [] → ∃ dls st',
      extendedBatchDLB I c bound st (groupPoints e.id keys) o.1 o.2 = .ok (dls, st') ∧
      Post c st' ∧ dls.length = (groupPoints e.id keys).length ∧
      ∀ (rk p : Nat) (k : ECKey) (x : Option Int), keys[p]? = some k →
        (groupPoints e.id keys)[rk]? = some k.pt → dls[rk]? = some x → Q e c st o p k (dlogVerdict x)) :
    StepOK keys Post Q e c st o (weakStep I bound keys e c st o) := by
  unfold weakStep
  by_cases hg : (groupPoints e.id keys).isEmpty = true
  · rw [if_pos hg]; exact ⟨List.isEmpty_iff.mp hg, hpost⟩
  · rw [if_neg hg]
    obtain ⟨dls, st', hr, hp', hl, hq⟩ := h (fun h0 => hg (by rw [h0]; rfl))
    rw [hr]
    refine ⟨_, st', rfl, hp', by rw [List.length_map, hl], fun rk p k _ hk _ hP => ?_⟩
    have hr : rk < dls.length := hl ▸ (List.getElem?_eq_some_iff.mp hP).1
    exact ⟨dlogVerdict dls[rk], by rw [List.getElem?_map, List.getElem?_eq_getElem hr]; rfl,
      hq rk p k _ hk hP (List.getElem?_eq_getElem hr)⟩

/-- the group search of CheckECKeySmallDifference (no `continue`). -/
def diffStepE {τ} (I : TableImpl τ) (maxDiff : Nat) (keys : List ECKey) (e : FEntry) (c : Curve)
    (st : StateG τ) (m : Nat) : Option (Except PyErr (List KV × StateG τ)) :=
  some (match batchDLOfDifferencesG I c st (groupPoints e.id keys) [] maxDiff m with
    | .error err => .error err
    | .ok (rels, st') => .ok (rels.map diffVerdict, st'))

theorem smallDiffLoop_eq_gen {τ} (I : TableImpl τ) (maxDiff : Nat) (keys : List ECKey) :
    ∀ (f : Factory) (sts : List (StateG τ)) (ms : List Nat) (res : List KeyVerdict),
    smallDiffLoop I keys maxDiff f sts ms res = genLoop keys (diffStepE I maxDiff keys) f sts ms res
  | [], _, _, _ => rfl
  | _ :: _, [], _, _ => rfl
  | _ :: _, _ :: _, [], _ => rfl
  | e :: es, st :: sts, m :: ms, res => by
    rw [smallDiffLoop, genLoop]
    cases hcur : e.curve with
    | none => simp only; rw [smallDiffLoop_eq_gen I maxDiff keys es sts ms res]
    | some c =>
      simp only [diffStepE]
      cases hx : batchDLOfDifferencesG I c st (groupPoints e.id keys) [] maxDiff m with
      | error err => rfl
      | ok r =>
        obtain ⟨rels, st'⟩ := r
        simp only
        rw [smallDiffLoop_eq_gen I maxDiff keys es sts ms _]

theorem diffStepE_ok {τ} {I : TableImpl τ} {maxDiff : Nat} {keys : List ECKey} {e : FEntry} {c : Curve}
    {st st' : StateG τ} {m : Nat} {vs : List KV}
    (h : diffStepE I maxDiff keys e c st m = some (.ok (vs, st'))) :
    ∃ rels, batchDLOfDifferencesG I c st (groupPoints e.id keys) [] maxDiff m = .ok (rels, st') ∧
      vs = rels.map diffVerdict := by
  unfold diffStepE at h
  cases hx : batchDLOfDifferencesG I c st (groupPoints e.id keys) [] maxDiff m with
  | error err => rw [hx] at h; cases h
  | ok r => rw [hx] at h; cases h; exact ⟨_, rfl, rfl⟩

theorem diffStepE_stepOK {τ} {I : TableImpl τ} {maxDiff : Nat} {keys : List ECKey}
    {Post : Curve → StateG τ → Prop}
    {Q : FEntry → Curve → StateG τ → Nat → Nat → ECKey → KV → Prop} {e : FEntry} {c : Curve}
    {st st' : StateG τ} {m : Nat} {rels : List (Option Rel)}
    (hr : batchDLOfDifferencesG I c st (groupPoints e.id keys) [] maxDiff m = .ok (rels, st'))
    (hp' : Post c st') (hl : rels.length = (groupPoints e.id keys).length)
    (hq : ∀ (rk p : Nat) (k : ECKey) (x : Option Rel), (keyIdxs e.id keys 0)[rk]? = some p →
      keys[p]? = some k → k.curveType = e.id → (groupPoints e.id keys)[rk]? = some k.pt →
      rels[rk]? = some x → Q e c st m p k (diffVerdict x)) :
    StepOK keys Post Q e c st m (diffStepE I maxDiff keys e c st m) := by
  unfold diffStepE
  rw [hr]
  refine ⟨_, st', rfl, hp', by rw [List.length_map, hl], fun rk p k hrk hk hid hP => ?_⟩
  have hlt : rk < rels.length := hl ▸ (List.getElem?_eq_some_iff.mp hP).1
  exact ⟨diffVerdict rels[rk], by rw [List.getElem?_map, List.getElem?_eq_getElem hlt]; rfl,
    hq rk p k _ hrk hk hid hP (List.getElem?_eq_getElem hlt)⟩

end Paranoid.Bsgs
