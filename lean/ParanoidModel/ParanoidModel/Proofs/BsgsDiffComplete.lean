/-
Proofs/BsgsDiffComplete.lean — BatchDLOfDifferences on finite reduced on-curve points flags BOTH keys
of every pair whose private keys differ by a non-zero amount below the table size; on arbitrary finite
points it never raises.
-/
import ParanoidModel.Proofs.BsgsDiff
import ParanoidModel.Proofs.BsgsMain
namespace Paranoid.Bsgs
open Paranoid Paranoid.Ec WeierstrassCurve

def Flagged (res : List (Option Rel)) (k : Nat) : Prop := ∃ r, res[k]? = some (some r)

theorem Flagged.set {res : List (Option Rel)} {k : Nat} (h : Flagged res k) (i : Nat) (r : Rel) :
    Flagged (res.set i (some r)) k := by
  obtain ⟨r0, h0⟩ := h
  have hk : k < res.length := (List.getElem?_eq_some_iff.mp h0).1
  by_cases hik : i = k
  · subst hik; exact ⟨r, by rw [List.getElem?_set, if_pos rfl, if_pos hk]⟩
  · exact ⟨r0, by rw [List.getElem?_set, if_neg hik]; exact h0⟩

theorem flagged_set_self {res : List (Option Rel)} {i : Nat} (hi : i < res.length) (r : Rel) :
    Flagged (res.set i (some r)) i := ⟨r, by rw [List.getElem?_set, if_pos rfl, if_pos hi]⟩

def IsAff : Pt → Prop
  | .aff _ _ => True
  | .inf => False

section group
variable (c : Curve) [hp : Fact (Nat.Prime c.p)]

/-- finite, on the curve, coordinates reduced (what `PublicPoint` of a valid key gives). -/
def GoodPt (P : Pt) : Prop := onCurve c P = true ∧ Reduced c P ∧ IsAff P

theorem GoodPt.repR {P : Pt} (h : GoodPt c P) : RepR c P (toPoint c P) := ⟨h.1, rfl, h.2.1⟩

omit hp in
theorem isAff_negate {P : Pt} (h : IsAff P) : IsAff (negate c P) := by
  cases P with
  | inf => exact h
  | aff x y => trivial

omit hp in
theorem fmtRel_total {q : Pt} (h : IsAff q) (dl : Int) : ∃ r, fmtRel q dl = .ok r := by
  cases q with
  | inf => exact absurd h id
  | aff x y => exact ⟨_, rfl⟩

/-- one `dl`: total, keeps the length and the flags; flags `i` (and the mirrored key) when
`dl • G` is the difference. -/
theorem diffTry_spec (hc : c.Good) (hG : onCurve c c.g = true) {p q : Pt} (hp' : IsAff p)
    (hq : IsAff q) (diff : Pt) (nOther i j : Nat) (res : List (Option Rel)) (dl : Int) :
    ∃ res', diffTry c p q diff nOther i j res dl = .ok res' ∧ res'.length = res.length ∧
      (∀ k, Flagged res k → Flagged res' k) ∧
      (multiply c c.g dl = .ok diff → (i < res.length → Flagged res' i) ∧
        (nOther ≤ j → j - nOther < res.length → Flagged res' (j - nOther))) := by
  obtain ⟨d2, hd1, _, _⟩ := multiply_zsmul c hc c.g dl hG
  obtain ⟨r, hr⟩ := fmtRel_total hq dl
  obtain ⟨r2, hr2⟩ := fmtRel_total hp' (-dl)
  unfold diffTry
  rw [hd1]
  simp only
  by_cases heq : diff = d2
  · rw [if_pos heq, hr]
    simp only
    by_cases hjn : j ≥ nOther
    · rw [if_pos hjn, hr2]
      refine ⟨_, rfl, by simp, fun k hk => (hk.set i r).set _ r2, fun _ => ⟨fun hi => ?_, fun _ hj => ?_⟩⟩
      · exact (flagged_set_self hi r).set _ r2
      · exact flagged_set_self (by simpa using hj) r2
    · rw [if_neg hjn]
      exact ⟨_, rfl, by simp, fun k hk => hk.set i r, fun _ =>
        ⟨fun hi => flagged_set_self hi r, fun h => absurd h hjn⟩⟩
  · rw [if_neg heq]
    exact ⟨res, rfl, rfl, fun k hk => hk, fun h => by cases h; exact absurd rfl heq⟩

def CloseG (size : Nat) (A B : (W c).Point) : Prop :=
  A ≠ B ∧ ∃ k : Int, A - B = k • Gp c ∧ k.natAbs < size

theorem xKey_ne_none {A : (W c).Point} (h : A ≠ 0) : ∃ xv, xKey c A = some xv := by
  cases A with
  | zero => exact absurd rfl h
  | some x y hxy => exact ⟨_, rfl⟩

/-- one pair. On ANY finite points and any `x` the step returns and keeps the length and the flags
(user points enter only through `Subtract`, total on all integer pairs, and the candidates are verified
by `Multiply(g, dl)`). The last clause needs more: good points, `nq = -Q`, `x` what `BatchAddX` returned,
a table complete up to `size`; then a `size`-close pair gets both keys flagged. `diffScan_spec` and
`diffOuter_spec` have the same two layers. -/
theorem diffStep_spec (hc : c.Good) (hG : onCurve c c.g = true) (look : Lookup) {p nq : Pt}
    (hp' : IsAff p) (hq : IsAff nq) (nOther i j : Nat) (res : List (Option Rel)) (x : Option Int) :
    ∃ res', diffStep c look p nOther i res j nq x = .ok res' ∧ res'.length = res.length ∧
      (∀ k, Flagged res k → Flagged res' k) ∧
      (∀ Q size V, Reduced c c.g → GoodPt c p → GoodPt c Q → nq = negate c Q →
        addX c p nq = .ok x → TableOK c look size V →
        CloseG c size (toPoint c p) (toPoint c Q) →
        (i < res.length → Flagged res' i) ∧
        (nOther ≤ j → j - nOther < res.length → Flagged res' (j - nOther))) := by
  have key : ∀ Q, GoodPt c p → GoodPt c Q → nq = negate c Q → addX c p nq = .ok x →
      x = xKey c (toPoint c p - toPoint c Q) ∧
        ∃ D, subtract c p (negate c nq) = .ok D ∧ RepR c D (toPoint c p - toPoint c Q) := by
    rintro Q hpg hQ rfl hx
    have hRnq := repR_negate c hc (hQ.repR c)
    have hRq := repR_negate c hc hRnq
    rw [neg_neg] at hRq
    obtain ⟨R, hR1, hR2⟩ := repR_add c hc (hpg.repR c) hRnq
    obtain ⟨D, hD1, hD2⟩ := repR_add c hc (hpg.repR c) (repR_negate c hc hRq)
    rw [← sub_eq_add_neg] at hD2
    rw [addX, hR1] at hx
    cases hx
    exact ⟨by rw [x?_eq_xKey c hc hR2, sub_eq_add_neg], D, hD1, hD2⟩
  unfold diffStep
  cases x with
  | none =>
    refine ⟨res, rfl, rfl, fun k hk => hk, ?_⟩
    intro Q size V _ hpg hQ hnq hx _ hclose
    exfalso
    obtain ⟨xv, hxv⟩ := xKey_ne_none c (sub_ne_zero.mpr hclose.1)
    cases (key Q hpg hQ hnq hx).1.trans hxv
  | some xv =>
    simp only
    cases hl : look (some xv) with
    | none =>
      refine ⟨res, rfl, rfl, fun k hk => hk, ?_⟩
      intro Q size V _ hpg hQ hnq hx htab hclose
      exfalso
      obtain ⟨_, k, hk, hlt⟩ := hclose
      obtain ⟨v', hv'⟩ := htab.2 k.natAbs hlt
      have : xKey c (k.natAbs • Gp c) = some xv := by
        rw [(key Q hpg hQ hnq hx).1, hk]
        rcases Int.natAbs_eq k with h | h
        · conv_rhs => rw [h, natCast_zsmul]
        · conv_rhs => rw [h, neg_zsmul, xKey_neg, natCast_zsmul]
      rw [this, hl] at hv'; cases hv'
    | some v =>
      simp only
      obtain ⟨D, hD1⟩ := subtract_total c hc.two p (negate c nq)
      rw [hD1]
      simp only
      obtain ⟨res1, h1, l1, m1, t1⟩ := diffTry_spec c hc hG hp' (isAff_negate c hq) D nOther i j res (v : Int)
      obtain ⟨res2, h2, l2, m2, t2⟩ := diffTry_spec c hc hG hp' (isAff_negate c hq) D nOther i j res1 (-(v : Int))
      rw [h1]; simp only; rw [h2]
      refine ⟨res2, rfl, by rw [l2, l1], fun k hk => m2 k (m1 k hk), ?_⟩
      intro Q size V hGr hpg hQ hnq hx htab hclose
      obtain ⟨hxk, D', hD1', hD2⟩ := key Q hpg hQ hnq hx
      cases hD1.symm.trans hD1'
      obtain ⟨_, k, hk, hlt⟩ := hclose
      -- v • G = ± (p - Q)
      have hkey : xKey c (v • Gp c) = xKey c (toPoint c p - toPoint c Q) := by
        rw [(htab.1 _ _ hl).2, hxk]
      rcases eq_or_neg_of_xKey c hkey with hv | hv
      · -- first try hits
        obtain ⟨M, hM1, hM2⟩ := multiply_repR c hc hG hGr (v : Int)
        rw [natCast_zsmul, hv] at hM2
        have := repR_inj c hc hM2 hD2
        subst this
        obtain ⟨f1, f2⟩ := t1 hM1
        exact ⟨fun hi => m2 _ (f1 hi), fun a b => m2 _ (f2 a b)⟩
      · obtain ⟨M, hM1, hM2⟩ := multiply_repR c hc hG hGr (-(v : Int))
        rw [neg_zsmul, natCast_zsmul, hv, neg_neg] at hM2
        have := repR_inj c hc hM2 hD2
        subst this
        obtain ⟨f1, f2⟩ := t2 hM1
        exact ⟨fun hi => f1 (by rw [l1]; exact hi), fun a b => f2 a (by rw [l1]; exact b)⟩

theorem diffScan_spec (hc : c.Good) (hG : onCurve c c.g = true) (look : Lookup) {p : Pt}
    (hp' : IsAff p) (nOther i : Nat) :
    ∀ (nqs : List Pt) (xs : List (Option Int)) (j : Nat) (res : List (Option Rel)),
    (∀ nq ∈ nqs, IsAff nq) →
    ∃ res', diffScan c look p nOther i nqs xs j res = .ok res' ∧
      res'.length = res.length ∧ (∀ k, Flagged res k → Flagged res' k) ∧
      (∀ Qs size V, Reduced c c.g → GoodPt c p → (∀ Q ∈ Qs, GoodPt c Q) → nqs = Qs.map (negate c) →
        List.Forall₂ (fun Q x => addX c p (negate c Q) = .ok x) Qs xs → TableOK c look size V →
        ∀ (k : Nat) (Q : Pt), Qs[k]? = some Q → CloseG c size (toPoint c p) (toPoint c Q) →
        (i < res.length → Flagged res' i) ∧
        (nOther ≤ j + k → j + k - nOther < res.length → Flagged res' (j + k - nOther)))
  | [], _, _, res, _ =>
    ⟨res, by simp [diffScan], rfl, fun k hk => hk, fun Qs _ _ _ _ _ hnq _ _ k Q hk => by
      rw [List.map_eq_nil_iff.mp hnq.symm] at hk; cases hk⟩
  | _ :: _, [], _, res, _ =>
    ⟨res, by simp [diffScan], rfl, fun k hk => hk, fun Qs _ _ _ _ _ _ hx _ k Q hk => by
      cases hx; cases hk⟩
  | nq :: nqs, x :: xs, j, res, h => by
    obtain ⟨res1, h1, l1, m1, t1⟩ := diffStep_spec c hc hG look hp' (h nq List.mem_cons_self)
      nOther i j res x
    obtain ⟨res2, h2, l2, m2, t2⟩ := diffScan_spec hc hG look hp' nOther i nqs xs (j + 1) res1
      (fun q hq => h q (List.mem_cons_of_mem _ hq))
    refine ⟨res2, by rw [diffScan, h1]; exact h2, by rw [l2, l1], fun k hk => m2 k (m1 k hk), ?_⟩
    intro Qs size V hGr hpg hg hnq hx htab k Q hk hclose
    cases hx with
    | cons hx0 hxs =>
      rw [List.map_cons, List.cons.injEq] at hnq
      cases k with
      | zero =>
        cases hk
        obtain ⟨f1, f2⟩ := t1 Q size V hGr hpg (hg Q List.mem_cons_self) hnq.1 (hnq.1 ▸ hx0) htab
          hclose
        exact ⟨fun hi => m2 _ (f1 hi), fun a b => m2 _ (f2 a b)⟩
      | succ k =>
        obtain ⟨f1, f2⟩ := t2 _ size V hGr hpg (fun Q hQ => hg Q (List.mem_cons_of_mem _ hQ)) hnq.2
          hxs htab k Q hk hclose
        rw [Nat.add_right_comm, Nat.add_assoc, l1] at f2
        exact ⟨fun hi => f1 (by rw [l1]; exact hi), f2⟩

theorem diffOuter_spec (hc : c.Good) (hG : onCurve c c.g = true) (look : Lookup) (nOther : Nat) :
    ∀ (ps : List Pt) (i : Nat) (negated : List Pt) (res : List (Option Rel)),
    (∀ P ∈ ps, IsAff P) → (∀ nq ∈ negated, IsAff nq) →
    ∃ res', diffOuter c look nOther ps i negated res = .ok res' ∧ res'.length = res.length ∧
      (∀ k, Flagged res k → Flagged res' k) ∧
      (∀ (points other : List Pt) size V, Reduced c c.g → other.length = nOther →
        (∀ Q ∈ other ++ points, GoodPt c Q) → ps = points.drop i →
        negated = ((other ++ points).take (nOther + i)).map (negate c) →
        res.length = points.length → TableOK c look size V →
        ∀ (i' j : Nat) (P Q : Pt), i ≤ i' → points[i']? = some P → j < nOther + i' →
        (other ++ points)[j]? = some Q → CloseG c size (toPoint c P) (toPoint c Q) →
        Flagged res' i' ∧ (nOther ≤ j → Flagged res' (j - nOther)))
  | [], i, _, res, _, _ => by
    refine ⟨res, rfl, rfl, fun k hk => hk, ?_⟩
    intro points other size V _ _ _ hps _ _ _ i' j P Q hi hP
    have := List.drop_eq_nil_iff.mp hps.symm
    exact absurd (List.getElem?_eq_some_iff.mp hP).1 (by omega)
  | p :: ps, i, negated, res, hps, hneg => by
    have hp' : IsAff p := hps p List.mem_cons_self
    obtain ⟨xs, hxs, _⟩ := batchAddX_total_any c hc.two p negated
    obtain ⟨res1, h1, l1, m1, t1⟩ := diffScan_spec c hc hG look hp' nOther i negated xs 0 res hneg
    obtain ⟨res2, h2, l2, m2, t2⟩ := diffOuter_spec hc hG look nOther ps (i + 1)
      (negated ++ [negate c p]) res1 (fun P hP => hps P (List.mem_cons_of_mem _ hP))
      (fun nq hnq => by
        rcases List.mem_append.mp hnq with h | h
        · exact hneg nq h
        · rw [List.mem_singleton] at h; subst h; exact isAff_negate c hp')
    refine ⟨res2, by rw [diffOuter, hxs]; simp only; rw [h1]; exact h2, by rw [l2, l1],
      fun k hk => m2 k (m1 k hk), ?_⟩
    intro points other size V hGr hno hL hpsd hnegd hl htab i' j P Q hii hP hj hQ hclose
    obtain ⟨hpi, hps'⟩ := drop_eq_cons hpsd
    have hi : i < points.length := (List.getElem?_eq_some_iff.mp hpi).1
    have hLp : (other ++ points)[nOther + i]? = some p := by
      rw [getElem?_L_right hno _ (by omega)]; simpa using hpi
    rcases Nat.eq_or_lt_of_le hii with he | hlt
    · subst he hnegd
      rw [hpi] at hP; cases hP
      have hxf := mapE_ok_iff.mp (batchAddX_eq_map c p _ ▸ hxs)
      obtain ⟨f1, f2⟩ := t1 _ size V hGr (hL p (List.mem_append_right _ (List.mem_of_getElem? hpi)))
        (fun Q hQ => hL Q (List.mem_of_mem_take hQ)) rfl (List.forall₂_map_left_iff.mp hxf) htab j Q
        (by rw [List.getElem?_take, if_pos hj]; exact hQ) hclose
      rw [Nat.zero_add, hl] at f2
      exact ⟨m2 _ (f1 (by omega)), fun a => m2 _ (f2 a (by omega))⟩
    · exact t2 points other size V hGr hno hL hps'
        (by rw [hnegd, ← Nat.add_assoc, take_succ_map _ hLp]) (by rw [l1, hl]) htab i' j P Q hlt hP hj
        hQ hclose

theorem CloseG.symm {size : Nat} {A B : (W c).Point} (h : CloseG c size A B) :
    CloseG c size B A := by
  obtain ⟨hne, k, hk, hlt⟩ := h
  exact ⟨fun h => hne h.symm, -k, by rw [neg_zsmul, ← hk, neg_sub], by simpa using hlt⟩

/-- the call on good points, given the table `st1` it uses (complete up to `size`): it returns, and
a key with a `size`-close companion at another position is flagged. (A companion later in `points`
is met in the companion's own round, which flags both.) -/
theorem batchDLOfDifferences_flags (hc : c.Good) (hG : onCurve c c.g = true) (hGr : Reduced c c.g)
    (st : EcState) (points other : List Pt) (hL : ∀ Q ∈ other ++ points, GoodPt c Q)
    (maxDiff m : Nat) {st1 : EcState} (h1 : ensureTableG listImpl c st maxDiff m = .ok st1)
    {size V : Nat} (htab : TableOK c st1.table.get? size V) :
    ∃ res st', batchDLOfDifferences c st points other maxDiff m = .ok (res, st') ∧
      (st' = st ∨ st' = st1) ∧ res.length = points.length ∧
      ∀ (i j : Nat) (P Q : Pt), points[i]? = some P → (other ++ points)[j]? = some Q →
        j ≠ other.length + i → CloseG c size (toPoint c P) (toPoint c Q) → Flagged res i := by
  by_cases hact : points.isEmpty ∨ points.length + other.length < 2
  · refine ⟨_, st, batchDLOfDifferencesG_ok.mpr ((if_pos hact).mpr ⟨rfl, rfl⟩), .inl rfl,
      by simp, ?_⟩
    intro i j P Q hP hQ hj
    exfalso
    have hi := (List.getElem?_eq_some_iff.mp hP).1
    have hjl := (List.getElem?_eq_some_iff.mp hQ).1
    rw [List.length_append] at hjl
    rcases hact with h | h
    · rw [List.isEmpty_iff] at h; subst h; simp at hi
    · omega
  · obtain ⟨res, h2, l2, _, t2⟩ := diffOuter_spec c hc hG (listImpl.get? st1.table) other.length
      points 0 (other.map (negate c)) (List.replicate points.length none)
      (fun P hP => (hL P (List.mem_append_right _ hP)).2.2)
      (fun nq hnq => by
        obtain ⟨q, hq, rfl⟩ := List.mem_map.mp hnq
        exact isAff_negate c (hL q (List.mem_append_left _ hq)).2.2)
    have t2 := t2 points other _ _ hGr rfl hL (by simp) (by simp) (by simp) htab
    refine ⟨res, st1, batchDLOfDifferencesG_ok.mpr (if_neg hact ▸ ⟨h1, h2⟩), .inr rfl,
      by simpa using l2, ?_⟩
    intro i j P Q hP hQ hj hclose
    rcases Nat.lt_or_gt_of_ne hj with hlt | hgt
    · exact (t2 i j P Q (Nat.zero_le _) hP hlt hQ hclose).1
    · have hQp : points[j - other.length]? = some Q := by
        rw [← getElem?_L_right rfl j (by omega)]; exact hQ
      have hLp : (other ++ points)[other.length + i]? = some P := by
        rw [getElem?_L_right rfl _ (by omega)]; simpa using hP
      have := (t2 (j - other.length) (other.length + i) Q P (Nat.zero_le _) hQp (by omega)
        hLp hclose.symm).2 (by omega)
      simpa using this

/-- **BatchDLOfDifferences totality and completeness** (C10). All points of the call finite, reduced
and on the curve; the state satisfies the table invariant. The call does not raise; the new state
satisfies the invariant with size `max(old, max_diff)` (unchanged when there is nothing to compare);
and every key `P` of `points` for which another key `Q` of the call (in `points` or
`other_points`, at another position) has `P - Q = k • G` with `P ≠ Q` and
`|k| < max(old table size, max_diff)` is flagged. -/
theorem batchDLOfDifferences_complete (hc : c.Good) (hG : onCurve c c.g = true)
    (hGr : Reduced c c.g) (st : EcState) (V : Nat) (hst : StateOK c st V) (points other : List Pt)
    (hL : ∀ Q ∈ other ++ points, GoodPt c Q) (maxDiff m : Nat)
    (hm : st.tableSize < maxDiff → 1 ≤ m) :
    ∃ res st', batchDLOfDifferences c st points other maxDiff m = .ok (res, st') ∧
      res.length = points.length ∧
      (∃ V', StateOK c st' V') ∧
      (st'.tableSize = st.tableSize ∨ st'.tableSize = max st.tableSize maxDiff) ∧
      ∀ (i j : Nat) (P Q : Pt), points[i]? = some P → (other ++ points)[j]? = some Q →
        j ≠ other.length + i →
        CloseG c (max st.tableSize maxDiff) (toPoint c P) (toPoint c Q) → Flagged res i := by
  obtain ⟨st1, h1, hsz, _, hok⟩ := ensureTable_spec c hc hG st maxDiff m hm
  have hst1 := hok V hst
  obtain ⟨res, st', hcall, hst', hlen, hfl⟩ := batchDLOfDifferences_flags c hc hG hGr st points other
    hL maxDiff m h1 hst1
  refine ⟨res, st', hcall, hlen, ?_, ?_, fun i j P Q hP hQ hj hcl => hfl i j P Q hP hQ hj (hsz ▸ hcl)⟩
  · rcases hst' with rfl | rfl
    · exact ⟨V, hst⟩
    · exact ⟨_, hst1⟩
  · rcases hst' with rfl | rfl
    · exact .inl rfl
    · exact .inr hsz

/-! ### totality on arbitrary finite points

Every user point enters only through `BatchAddX(p, list)` and `Subtract`, which are total on all
integer pairs, and the candidates are verified by `Multiply(g, dl)`: nothing can raise but the
formatting of ∞. No hypothesis on the curve membership of the points, nor on the dict: the first
layer of `diffOuter_spec`. -/

/-- **BatchDLOfDifferences** never raises: any state, ANY finite points (equal up to reduction
mod `p`, off the curve, `(0,0)`, …), one result per point. -/
theorem batchDLOfDifferences_total_any (hc : c.Good) (hG : onCurve c c.g = true) (st : EcState)
    (points other : List Pt) (hpts : ∀ P ∈ points, IsAff P) (hoth : ∀ P ∈ other, IsAff P)
    (maxDiff m : Nat) (hm : st.tableSize < maxDiff → 1 ≤ m) :
    ∃ rels st', batchDLOfDifferencesG listImpl c st points other maxDiff m = .ok (rels, st') ∧
      rels.length = points.length := by
  by_cases hact : points.isEmpty ∨ points.length + other.length < 2
  · exact ⟨_, st, batchDLOfDifferencesG_ok.mpr ((if_pos hact).mpr ⟨rfl, rfl⟩), by simp⟩
  · obtain ⟨st', hst', _⟩ := ensureTable_spec c hc hG st maxDiff m hm
    obtain ⟨res, hres, hl, _⟩ := diffOuter_spec c hc hG (listImpl.get? st'.table) other.length points 0
      (other.map (negate c)) (List.replicate points.length none) hpts
      (fun nq hnq => by
        obtain ⟨q, hq, rfl⟩ := List.mem_map.mp hnq
        exact isAff_negate c (hoth q hq))
    exact ⟨res, st', batchDLOfDifferencesG_ok.mpr (if_neg hact ▸ ⟨hst', hres⟩),
      by rw [hl]; simp⟩

end group
end Paranoid.Bsgs
