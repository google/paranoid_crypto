/-
Proofs/Checks.lean — lemmas about Model/Checks.lean: every `Check` call, `_CheckArtifacts`
and the entry points act on each artefact as ONE history of util calls (`stepOps`), and return
`True` exactly when one of those calls carried a positive result.  Core Lean only.
-/
import ParanoidModel.Model.Checks
import ParanoidModel.Proofs.Bookkeeping
namespace Paranoid

/-! ### position-wise relations between a batch before and after -/

def Pointwise (R : Nat → Artifact → Artifact → Prop) : Nat → List Artifact → List Artifact → Prop
  | _, [], [] => True
  | i, a :: as, b :: bs => R i a b ∧ Pointwise R (i + 1) as bs
  | _, [], _ :: _ => False
  | _, _ :: _, [] => False

variable {R S : Nat → Artifact → Artifact → Prop} {var : Variant} {ver : String}
  {ec : List CheckSpec} {steps : List Step} {arts arts' : List Artifact}

theorem pointwise_iff {i : Nat} {l l' : List Artifact} :
    Pointwise R i l l' ↔ l'.length = l.length ∧
      ∀ n a b, l[n]? = some a → l'[n]? = some b → R (i + n) a b := by
  induction l generalizing i l' with
  | nil => cases l' <;> simp [Pointwise]
  | cons x xs ih =>
    cases l' with
    | nil => simp [Pointwise]
    | cons y ys =>
      simp only [Pointwise, ih, List.length_cons, Nat.add_right_cancel_iff]
      refine ⟨fun ⟨h0, hl, hn⟩ => ⟨hl, fun n a b ha hb => ?_⟩, fun ⟨hl, hn⟩ =>
        ⟨hn 0 x y rfl rfl, hl, fun n a b ha hb => Nat.add_right_comm i 1 n ▸ hn (n + 1) a b ha hb⟩⟩
      cases n with
      | zero => cases ha; cases hb; exact h0
      | succ m => exact Nat.add_right_comm i 1 m ▸ hn m a b ha hb

theorem Pointwise.length {R : Nat → Artifact → Artifact → Prop} {i : Nat} {l l' : List Artifact}
    (h : Pointwise R i l l') : l'.length = l.length :=
  (pointwise_iff.1 h).1

theorem Pointwise.get {i : Nat}
    {l l' : List Artifact} (h : Pointwise R i l l') (n : Nat) (a b : Artifact)
    (ha : l[n]? = some a) (hb : l'[n]? = some b) : R (i + n) a b :=
  (pointwise_iff.1 h).2 n a b ha hb

theorem Pointwise.imp (h : ∀ i a b, R i a b → S i a b)
    {i : Nat} {l l' : List Artifact}
    (hp : Pointwise R i l l') : Pointwise S i l l' :=
  pointwise_iff.2 ⟨hp.length, fun n a b ha hb => h _ _ _ (hp.get n a b ha hb)⟩

theorem Pointwise.comp {i : Nat}
    {l1 l2 l3 : List Artifact} (h1 : Pointwise R i l1 l2) (h2 : Pointwise S i l2 l3) :
    Pointwise (fun j a c => ∃ b, R j a b ∧ S j b c) i l1 l3 := by
  refine pointwise_iff.2 ⟨h2.length.trans h1.length, fun n a c ha hc => ?_⟩
  have hn : n < l2.length := h1.length ▸ (List.getElem?_eq_some_iff.1 ha).1
  exact ⟨l2[n], h1.get n a _ ha (List.getElem?_eq_getElem hn),
    h2.get n _ c (List.getElem?_eq_getElem hn) hc⟩

theorem Pointwise.refl (h : ∀ i a, R i a a) (i : Nat)
    (l : List Artifact) : Pointwise R i l l :=
  pointwise_iff.2 ⟨rfl, fun n a b ha hb => by cases ha.symm.trans hb; exact h _ _⟩

theorem Pointwise.of_mem_right {i : Nat}
    {l l' : List Artifact} (h : Pointwise R i l l') (b : Artifact) (hb : b ∈ l') :
    ∃ j a, a ∈ l ∧ R j a b := by
  obtain ⟨n, hn⟩ := List.mem_iff_getElem?.1 hb
  have hl : n < l.length := h.length ▸ (List.getElem?_eq_some_iff.1 hn).1
  exact ⟨_, l[n], List.getElem_mem hl, h.get n _ b (List.getElem?_eq_getElem hl) hn⟩

theorem Pointwise.of_mem_left {R : Nat → Artifact → Artifact → Prop} {i : Nat}
    {l l' : List Artifact} (h : Pointwise R i l l') (a : Artifact) (ha : a ∈ l) :
    ∃ j b, b ∈ l' ∧ R j a b := by
  obtain ⟨n, hn⟩ := List.mem_iff_getElem?.1 ha
  have hl : n < l'.length := h.length ▸ (List.getElem?_eq_some_iff.1 hn).1
  exact ⟨_, l'[n], List.getElem_mem hl, h.get n a _ hn (List.getElem?_eq_getElem hl)⟩

/-- curve id and issuer / public point are never touched. -/
def SameKey (a b : Artifact) : Prop := b.curve = a.curve ∧ b.point = a.point

theorem SameKey.refl (a : Artifact) : SameKey a a := ⟨rfl, rfl⟩

theorem SameKey.trans {a b c : Artifact} (h1 : SameKey a b) (h2 : SameKey b c) : SameKey a c :=
  ⟨h2.1.trans h1.1, h2.2.trans h1.2⟩

theorem SameKey.freshKey {a b : Artifact} (h : SameKey a b) : freshKey b = freshKey a := by
  simp [Paranoid.freshKey, h.1, h.2]

theorem SameKey.keyId {a b : Artifact} (h : SameKey a b) (var : Variant) :
    keyId var b = keyId var a := by
  cases var <;> simp [Paranoid.keyId, h.1, h.2]

theorem SameKey.applicable {a b : Artifact} (h : SameKey a b) (c : CheckSpec) :
    applicable c b = applicable c a := by
  simp [Paranoid.applicable, known, h.1]

/-- the part of a batch no check ever changes. -/
def statics (l : List Artifact) : List Artifact := l.map freshKey

theorem Pointwise.map_eq {β : Type} (f : Artifact → β)
    (hf : ∀ i a b, R i a b → f b = f a) {i : Nat} {l l' : List Artifact}
    (h : Pointwise R i l l') : l'.map f = l.map f := by
  induction l generalizing i l' with
  | nil => cases l' with
    | nil => rfl
    | cons b bs => exact h.elim
  | cons a as ih => cases l' with
    | nil => exact h.elim
    | cons b bs => rw [List.map_cons, List.map_cons, hf _ _ _ h.1, ih h.2]

theorem exists_idx_cons {f : Nat → Artifact → Bool} {i : Nat} {x : Artifact} {xs : List Artifact} :
    (∃ n a, (x :: xs)[n]? = some a ∧ f (i + n) a = true) ↔
      f i x = true ∨ ∃ n a, xs[n]? = some a ∧ f (i + 1 + n) a = true := by
  constructor
  · rintro ⟨n, a, ha, hf⟩
    cases n with
    | zero => cases ha; exact .inl hf
    | succ m => exact .inr ⟨m, a, ha, by rwa [Nat.add_assoc, Nat.add_comm 1 m]⟩
  · rintro (h | ⟨n, a, ha, hf⟩)
    · exact ⟨0, x, rfl, h⟩
    · exact ⟨n + 1, a, ha, by rwa [Nat.add_assoc, Nat.add_comm 1 n] at hf⟩

/-- whether some position satisfies a test that only looks at the key is the same before and after. -/
theorem Pointwise.exists_congr {f : Nat → Artifact → Bool}
    (hf : ∀ i a b, SameKey a b → f i b = f i a)
    (hR : ∀ i a b, R i a b → SameKey a b) {l l' : List Artifact} (h : Pointwise R 0 l l') :
    (∃ n b, l'[n]? = some b ∧ f n b = true) ↔ ∃ n a, l[n]? = some a ∧ f n a = true := by
  constructor
  · rintro ⟨n, b, hb, hfb⟩
    have hn : n < l.length := h.length ▸ (List.getElem?_eq_some_iff.1 hb).1
    have ha := List.getElem?_eq_getElem hn
    exact ⟨n, l[n], ha, by rwa [← hf n _ _ (hR _ _ _ (h.get n _ b ha hb))]⟩
  · rintro ⟨n, a, ha, hfa⟩
    have hn : n < l'.length := h.length ▸ (List.getElem?_eq_some_iff.1 ha).1
    have hb := List.getElem?_eq_getElem hn
    exact ⟨n, l'[n], hb, by rwa [hf n _ _ (hR _ _ _ (h.get n a _ ha hb))]⟩

/-- some artefact is weak afterwards iff one was weak before or a positive result was set. -/
theorem exists_weak_iff {F : Nat → Artifact → Bool} {i : Nat} {l l' : List Artifact}
    (h : Pointwise (fun j a a' => a'.info.weak = (a.info.weak || F j a)) i l l') :
    (∃ a' ∈ l', a'.info.weak = true) ↔
      (∃ a ∈ l, a.info.weak = true) ∨ ∃ n a, l[n]? = some a ∧ F (i + n) a = true := by
  induction l generalizing i l' with
  | nil => cases l' with
    | nil => simp
    | cons b bs => exact h.elim
  | cons a as ih => cases l' with
    | nil => exact h.elim
    | cons b bs =>
      simp only [List.mem_cons, exists_eq_or_imp, exists_idx_cons, Bool.or_eq_true, ih h.2, h.1]
      exact or_or_or_comm

/-- did the history set a positive result? -/
def posFlag (ops : List Op) : Bool := (entriesOf ops).any (·.result)

theorem posFlag_append (o1 o2 : List Op) : posFlag (o1 ++ o2) = (posFlag o1 || posFlag o2) := by
  simp [posFlag, entriesOf_append, List.any_append]

theorem posFlag_flatMap {σ : Type} (f : σ → List Op) (ss : List σ) :
    posFlag (ss.flatMap f) = ss.any (fun s => posFlag (f s)) := by
  induction ss with
  | nil => rfl
  | cons s ss ih => simp only [List.flatMap_cons, posFlag_append, ih, List.any_cons]

/-- `a'` is `a` after the history `ops j a`, key untouched. -/
def ActsBy (ver : String) (ops : Nat → Artifact → List Op) (j : Nat) (a a' : Artifact) : Prop :=
  SameKey a a' ∧ applyOps ver a.info (ops j a) = .ok a'.info

/-! ### every check but CheckIssuerKey -/

/-- util calls of a check on the artefact at position `j`. -/
def genOps (c : CheckSpec) (v : Nat → Verdict) (j : Nat) (a : Artifact) : List Op :=
  if applicable c a then verdictOps c (v j) else []

/-- the calls of one check on one artefact: the entry, and — only with a positive verdict — the
factors and the info the verdict carries. -/
theorem mem_verdictOps (c : CheckSpec) (v : Verdict) (op : Op) :
    op ∈ verdictOps c v ↔ (v.positive = true ∧
      ((∃ p, v.factors = some p ∧ op = .attachFactors p.1 p.2) ∨
        ∃ p, v.info = some p ∧ op = .attachInfo p.1 p.2)) ∨ op = .setTestResult (entryFor c v) := by
  unfold verdictOps attachOps
  cases v.positive <;> cases v.factors <;> cases v.info <;> simp [or_assoc]

theorem entriesOf_verdictOps (c : CheckSpec) (v : Verdict) :
    entriesOf (verdictOps c v) = [entryFor c v] := by
  unfold verdictOps attachOps
  rw [entriesOf_append]
  split
  · cases v.factors <;> cases v.info <;> rfl
  · rfl

theorem entriesOf_genOps (c : CheckSpec) (v : Nat → Verdict) (j : Nat) (a : Artifact) :
    entriesOf (genOps c v j a) = if applicable c a then [entryFor c (v j)] else [] := by
  unfold genOps
  split
  · exact entriesOf_verdictOps c _
  · rfl

theorem posFlag_genOps (c : CheckSpec) (v : Nat → Verdict) (j : Nat) (a : Artifact) :
    posFlag (genOps c v j a) = (applicable c a && (v j).positive) := by
  unfold posFlag
  rw [entriesOf_genOps]
  split
  · rename_i h; simp [h, entryFor]
  · rename_i h; simp [h]

theorem checkOne_spec {c : CheckSpec} {a a' : Artifact} {v : Nat → Verdict}
    {j : Nat} {w : Bool} (h : checkOne ver c a (v j) = .ok (a', w)) :
    ActsBy ver (genOps c v) j a a' ∧ w = posFlag (genOps c v j a) := by
  rw [posFlag_genOps]
  unfold checkOne at h
  unfold ActsBy genOps
  split at h
  · rename_i happ
    split at h
    · rename_i t ht
      cases h
      exact ⟨⟨⟨rfl, rfl⟩, by simpa [happ] using ht⟩, by simp [happ]⟩
    · cases h
  · rename_i happ
    cases h
    exact ⟨⟨SameKey.refl _, by simp [happ, applyOps]⟩, by simp [happ]⟩

theorem runCheckFrom_spec {c : CheckSpec} {v : Nat → Verdict} {i : Nat}
    {w : Bool}
    (h : runCheckFrom ver c v i arts = .ok (arts', w)) :
    Pointwise (ActsBy ver (genOps c v)) i arts arts' ∧
      (w = true ↔ ∃ n a, arts[n]? = some a ∧ posFlag (genOps c v (i + n) a) = true) := by
  induction arts generalizing i arts' w with
  | nil => cases h; exact ⟨trivial, by simp⟩
  | cons a as ih =>
    unfold runCheckFrom at h
    split at h
    · cases h
    · rename_i a1 w1 h1
      split at h
      · cases h
      · rename_i as1 w2 h2
        cases h
        obtain ⟨p1, q1⟩ := checkOne_spec h1
        obtain ⟨p2, q2⟩ := ih h2
        exact ⟨⟨p1, p2⟩, by
          rw [exists_idx_cons (f := fun j a => posFlag (genOps c v j a)), Bool.or_eq_true, q1, q2]⟩

theorem genOps_sameKey (c : CheckSpec) (v : Nat → Verdict) (j : Nat) {a b : Artifact}
    (h : SameKey a b) : genOps c v j b = genOps c v j a := by
  simp [genOps, h.applicable]

/-! ### `_CheckArtifacts` as a fold of histories -/

theorem foldChecks_spec {σ : Type} (ver : String)
    (run : σ → List Artifact → Except PyErr (List Artifact × Bool))
    (ops : σ → List Artifact → Nat → Artifact → List Op)
    (good : σ → List Artifact → Prop)
    (hrun : ∀ s arts arts' w, run s arts = .ok (arts', w) →
      Pointwise (ActsBy ver (ops s (statics arts))) 0 arts arts' ∧
      (w = true ↔ ∃ n a, arts[n]? = some a ∧ posFlag (ops s (statics arts) n a) = true) ∧
      good s (statics arts))
    (hops : ∀ s st j a b, SameKey a b → ops s st j b = ops s st j a)
    (steps : List σ) (arts arts' : List Artifact) (r : Bool)
    (h : foldChecks run steps arts = .ok (arts', r)) :
    Pointwise (ActsBy ver (fun j a => steps.flatMap (fun s => ops s (statics arts) j a)))
      0 arts arts' ∧
    (r = true ↔ ∃ s ∈ steps, ∃ n a, arts[n]? = some a ∧
      posFlag (ops s (statics arts) n a) = true) ∧
    ∀ s ∈ steps, good s (statics arts) := by
  induction steps generalizing arts arts' r with
  | nil =>
    cases h
    exact ⟨Pointwise.refl (fun i a => ⟨SameKey.refl a, rfl⟩) 0 arts, by simp, by simp⟩
  | cons s ss ih =>
    unfold foldChecks at h
    split at h
    · cases h
    · rename_i arts1 r1 h1
      split at h
      · cases h
      · rename_i arts2 r2 h2
        cases h
        obtain ⟨p1, q1, g1⟩ := hrun s arts arts1 r1 h1
        obtain ⟨p2, q2, g2⟩ := ih arts1 arts' r2 h2
        have hst : statics arts1 = statics arts :=
          p1.map_eq freshKey fun _ _ _ hh => hh.1.freshKey
        rw [hst] at p2 q2 g2
        refine ⟨?_, ?_, ?_⟩
        · refine Pointwise.imp ?_ (Pointwise.comp p1 p2)
          rintro j a c ⟨b, ⟨hk1, ho1⟩, ⟨hk2, ho2⟩⟩
          refine ⟨hk1.trans hk2, ?_⟩
          simp only [List.flatMap_cons]
          rw [applyOps_append, ho1]
          dsimp only
          have : (ss.flatMap fun s => ops s (statics arts) j b) =
              (ss.flatMap fun s => ops s (statics arts) j a) := by
            congr 1; funext s; exact hops s _ j a b hk1
          rw [← this]; exact ho2
        · simp only [List.mem_cons, exists_eq_or_imp, Bool.or_eq_true, q1, q2]
          refine or_congr_right (exists_congr fun s => and_congr_right fun _ => ?_)
          exact p1.exists_congr (fun i a b hab => by rw [hops s _ i a b hab]) fun _ _ _ hh => hh.1
        · intro s' hs'
          rcases List.mem_cons.1 hs' with rfl | hs'
          · exact g1
          · exact g2 s' hs'

/-! ### CheckIssuerKey -/

/-- the SetTestResult calls of the copy-back loop that reach the signature `a`. -/
def issuerOps (var : Variant) (c : CheckSpec) : List Artifact → Artifact → List Op
  | [], _ => []
  | key :: keys, a =>
    (if keyId var a = keyId var key then
      match issuerEntry c key with
      | .ok en => [Op.setTestResult en]
      | .error _ => []
     else []) ++ issuerOps var c keys a

theorem mem_issuerOps {var : Variant} {c : CheckSpec} {keys : List Artifact} {a : Artifact}
    {op : Op} (h : op ∈ issuerOps var c keys a) : ∃ e, op = .setTestResult e := by
  induction keys with
  | nil => cases h
  | cons key keys ih =>
    simp only [issuerOps, List.mem_append] at h
    rcases h with h | h
    · split at h
      · split at h
        · exact ⟨_, List.mem_singleton.1 h⟩
        · cases h
      · cases h
    · exact ih h
theorem issuerOps_sameKey (var : Variant) (c : CheckSpec) (keys : List Artifact)
    {a b : Artifact} (h : SameKey a b) : issuerOps var c keys b = issuerOps var c keys a := by
  induction keys with
  | nil => rfl
  | cons key keys ih => simp only [issuerOps, h.keyId, ih]

theorem copyBack_spec (var : Variant) (ver : String) (e : Entry) (key : Artifact) (i : Nat)
    (arts : List Artifact) :
    Pointwise (ActsBy ver (fun _ a =>
      if keyId var a = keyId var key then [Op.setTestResult e] else [])) i arts
      (copyBack var ver e key arts) := by
  induction arts generalizing i with
  | nil => trivial
  | cons a as ih =>
    refine ⟨?_, ih (i + 1)⟩
    unfold ActsBy
    by_cases hk : keyId var a = keyId var key
    · simp only [hk, if_true]
      exact ⟨⟨rfl, rfl⟩, rfl⟩
    · simp only [hk, if_false]
      exact ⟨SameKey.refl a, rfl⟩

theorem copyBackAll_spec {c : CheckSpec} {keys : List Artifact}
    {i : Nat} {w : Bool}
    (h : copyBackAll var ver c keys arts = .ok (arts', w)) :
    Pointwise (ActsBy ver (fun _ a => issuerOps var c keys a)) i arts arts' ∧
      w = keys.any (·.info.weak) ∧ ∀ key ∈ keys, ∃ en, issuerEntry c key = .ok en := by
  induction keys generalizing arts arts' w with
  | nil =>
    cases h
    exact ⟨Pointwise.refl (fun _ a => ⟨SameKey.refl a, rfl⟩) i arts, rfl, by simp⟩
  | cons key keys ih =>
    unfold copyBackAll at h
    split at h
    · cases h
    · rename_i en hen
      split at h
      · cases h
      · rename_i arts2 w2 h2
        cases h
        obtain ⟨p2, q2, e2⟩ := ih h2
        refine ⟨?_, by simp [q2], ?_⟩
        · refine Pointwise.imp ?_ (Pointwise.comp (copyBack_spec var ver en key i arts) p2)
          rintro j a d ⟨b, ⟨hk1, ho1⟩, ⟨hk2, ho2⟩⟩
          refine ⟨hk1.trans hk2, ?_⟩
          simp only [issuerOps, hen]
          rw [applyOps_append, ho1]
          dsimp only
          rw [← issuerOps_sameKey var c keys hk1]; exact ho2
        · intro k hk
          rcases List.mem_cons.1 hk with rfl | hk
          · exact ⟨en, hen⟩
          · exact e2 k hk

/-- util calls of one `Check` call (any check) on the artefact at position `j`; `st` is the
static part of the batch. -/
def stepOps (var : Variant) (ver : String) (ec : List CheckSpec) (s : Step) (st : List Artifact)
    (j : Nat) (a : Artifact) : List Op :=
  if s.spec.issuer then
    match innerCheckAllEC ver ec s.inner (issuerKeys var st) with
    | .ok (keys', _) => issuerOps var s.spec keys' a
    | .error _ => []
  else genOps s.spec s.verdict j a

theorem stepOps_sameKey (var : Variant) (ver : String) (ec : List CheckSpec) (s : Step)
    (st : List Artifact) (j : Nat) (a b : Artifact) (h : SameKey a b) :
    stepOps var ver ec s st j b = stepOps var ver ec s st j a := by
  unfold stepOps
  split
  · split
    · exact issuerOps_sameKey var _ _ h
    · rfl
  · exact genOps_sameKey _ _ _ h

/-! de-duplication of the issuer keys -/

theorem keyId_freshKey (var : Variant) (a : Artifact) : keyId var (freshKey a) = keyId var a := by
  cases var <;> rfl

theorem issuerKeysAux_statics (var : Variant) (acc l : List Artifact) :
    issuerKeysAux var acc (statics l) = issuerKeysAux var acc l := by
  induction l generalizing acc with
  | nil => rfl
  | cons a as ih =>
    simp only [statics, List.map_cons, issuerKeysAux, keyId_freshKey] at *
    have : freshKey (freshKey a) = freshKey a := rfl
    rw [this]
    split
    · exact ih acc
    · exact ih _

theorem issuerKeys_statics (var : Variant) (l : List Artifact) :
    issuerKeys var (statics l) = issuerKeys var l := issuerKeysAux_statics var [] l

/-- `pks_pb`: the accumulator is kept, every batch element is represented, every new key is the
fresh ECKey of a batch element, and key ids stay pairwise distinct. -/
theorem issuerKeysAux_spec (var : Variant) (acc l : List Artifact) :
    (∀ k ∈ acc, k ∈ issuerKeysAux var acc l) ∧
    (∀ a ∈ l, ∃ k ∈ issuerKeysAux var acc l, keyId var k = keyId var a) ∧
    (∀ k ∈ issuerKeysAux var acc l, k ∈ acc ∨ ∃ a ∈ l, k = freshKey a) ∧
    ((acc.map (keyId var)).Nodup → ((issuerKeysAux var acc l).map (keyId var)).Nodup) := by
  induction l generalizing acc with
  | nil => simp [issuerKeysAux]
  | cons a as ih =>
    unfold issuerKeysAux
    split
    · rename_i hany
      obtain ⟨i1, i2, i3, i4⟩ := ih acc
      refine ⟨i1, ?_, ?_, i4⟩
      · intro b hb
        rcases List.mem_cons.1 hb with rfl | hb
        · rw [List.any_eq_true] at hany
          obtain ⟨k, hk, hkid⟩ := hany
          exact ⟨k, i1 k hk, by simpa using hkid⟩
        · exact i2 b hb
      · intro k hk
        rcases i3 k hk with h | ⟨b, hb, rfl⟩
        · exact Or.inl h
        · exact Or.inr ⟨b, List.mem_cons_of_mem _ hb, rfl⟩
    · rename_i hany
      obtain ⟨i1, i2, i3, i4⟩ := ih (acc ++ [freshKey a])
      refine ⟨fun k hk => i1 k (List.mem_append_left _ hk), ?_, ?_, ?_⟩
      · intro b hb
        rcases List.mem_cons.1 hb with rfl | hb
        · exact ⟨freshKey b, i1 _ (List.mem_append_right _ (List.mem_singleton.2 rfl)),
            keyId_freshKey var b⟩
        · exact i2 b hb
      · intro k hk
        rcases i3 k hk with h | ⟨b, hb, rfl⟩
        · rcases List.mem_append.1 h with h | h
          · exact Or.inl h
          · exact Or.inr ⟨a, List.mem_cons_self, List.mem_singleton.1 h⟩
        · exact Or.inr ⟨b, List.mem_cons_of_mem _ hb, rfl⟩
      · intro hnd
        apply i4
        rw [List.map_append, List.nodup_append]
        refine ⟨hnd, by simp, ?_⟩
        intro x hx y hy hxy
        simp only [List.map_cons, List.map_nil, List.mem_singleton] at hy
        subst hy; subst hxy
        rw [List.mem_map] at hx
        obtain ⟨k, hk, hkid⟩ := hx
        apply hany
        rw [List.any_eq_true]
        exact ⟨k, hk, by simpa [keyId_freshKey] using hkid⟩

theorem issuerKeys_cover (var : Variant) (l : List Artifact) (a : Artifact) (ha : a ∈ l) :
    ∃ k ∈ issuerKeys var l, keyId var k = keyId var a :=
  (issuerKeysAux_spec var [] l).2.1 a ha

theorem issuerKeys_from (var : Variant) (l : List Artifact) (k : Artifact)
    (hk : k ∈ issuerKeys var l) : ∃ a ∈ l, k = freshKey a := by
  rcases (issuerKeysAux_spec var [] l).2.2.1 k hk with h | h
  · cases h
  · exact h

theorem issuerKeys_nodup (var : Variant) (l : List Artifact) :
    ((issuerKeys var l).map (keyId var)).Nodup :=
  (issuerKeysAux_spec var [] l).2.2.2 (by simp)

/-! the inner CheckAllEC -/

/-- util calls of the inner `CheckAllEC` on the issuer key at position `k`. -/
def innerOps (ec : List CheckSpec) (inner : Nat → Nat → Verdict) (k : Nat) (key : Artifact) :
    List Op :=
  ec.zipIdx.flatMap (fun (s : CheckSpec × Nat) => genOps s.1 (inner s.2) k key)

theorem innerCheckAllEC_spec {inner : Nat → Nat → Verdict}
    {keys keys' : List Artifact} {r : Bool}
    (h : innerCheckAllEC ver ec inner keys = .ok (keys', r)) :
    Pointwise (ActsBy ver (innerOps ec inner)) 0 keys keys' := by
  have := (foldChecks_spec ver (fun (s : CheckSpec × Nat) => runCheck ver s.1 (inner s.2))
    (fun s _ j a => genOps s.1 (inner s.2) j a) (fun _ _ => True)
    (fun s arts arts' w hh => ⟨(runCheckFrom_spec hh).1,
      by simpa only [Nat.zero_add] using (runCheckFrom_spec hh).2, trivial⟩)
    (fun s _ j a b hab => genOps_sameKey _ _ _ hab) ec.zipIdx keys keys' r h).1
  exact this

/-! one step, any check -/

theorem posFlag_issuerOps (var : Variant) (c : CheckSpec) (keys : List Artifact)
    (a : Artifact) (hok : ∀ key ∈ keys, ∃ en, issuerEntry c key = .ok en) :
    posFlag (issuerOps var c keys a) = keys.any (fun key =>
      decide (keyId var a = keyId var key) && key.info.weak) := by
  induction keys with
  | nil => rfl
  | cons key keys ih =>
    simp only [issuerOps, posFlag_append, List.any_cons]
    rw [ih (fun k hk => hok k (List.mem_cons_of_mem _ hk))]
    congr 1
    obtain ⟨en, hen⟩ := hok key List.mem_cons_self
    by_cases hk : keyId var a = keyId var key
    · simp only [hk, if_true, hen, decide_true, Bool.true_and]
      unfold issuerEntry at hen
      split at hen
      · rename_i hw
        split at hen
        · cases hen; simp [posFlag, entriesOf, hw]
        · cases hen
      · rename_i hw
        cases hen; simp [posFlag, entriesOf, hw]
    · simp [hk, posFlag, entriesOf]

/-- for a CheckIssuerKey step: the inner CheckAllEC returned and every checked key got its
test_result (no `severity = None`). -/
def StepGood (var : Variant) (ver : String) (ec : List CheckSpec) (s : Step)
    (st : List Artifact) : Prop :=
  s.spec.issuer = true → ∃ keys' r', innerCheckAllEC ver ec s.inner (issuerKeys var st) =
    .ok (keys', r') ∧ ∀ key ∈ keys', ∃ en, issuerEntry s.spec key = .ok en

theorem runStep_spec (var : Variant) (ver : String) (ec : List CheckSpec) (s : Step)
    (arts arts' : List Artifact) (w : Bool) (h : runStep var ver ec s arts = .ok (arts', w)) :
    Pointwise (ActsBy ver (stepOps var ver ec s (statics arts))) 0 arts arts' ∧
      (w = true ↔ ∃ n a, arts[n]? = some a ∧
        posFlag (stepOps var ver ec s (statics arts) n a) = true) ∧
      StepGood var ver ec s (statics arts) := by
  unfold runStep at h
  by_cases hiss : s.spec.issuer = true
  · simp only [hiss, if_true] at h
    unfold checkIssuerKey at h
    split at h
    · cases h
    · rename_i keys' r' hin
      obtain ⟨p, q, hok⟩ := copyBackAll_spec (i := 0) h
      have hops : ∀ j a, stepOps var ver ec s (statics arts) j a = issuerOps var s.spec keys' a := by
        intro j a
        simp only [stepOps, hiss, if_true, issuerKeys_statics, hin]
      refine ⟨?_, ?_, fun _ => ⟨keys', r', by rw [issuerKeys_statics]; exact hin, hok⟩⟩
      · refine Pointwise.imp ?_ p
        intro j a b hab
        unfold ActsBy at *
        rw [hops]; exact hab
      · -- the return value: some checked key is weak ↔ some signature got a positive entry
        have hpw := innerCheckAllEC_spec hin
        rw [q, List.any_eq_true]
        constructor
        · rintro ⟨key, hkey, hweak⟩
          obtain ⟨_, k0, hk0, hact⟩ := hpw.of_mem_right key hkey
          obtain ⟨a, ha, rfl⟩ := issuerKeys_from var arts k0 hk0
          obtain ⟨n, hn⟩ := List.mem_iff_getElem?.1 ha
          refine ⟨n, a, hn, ?_⟩
          rw [hops, posFlag_issuerOps var s.spec keys' a hok, List.any_eq_true]
          refine ⟨key, hkey, ?_⟩
          have : keyId var key = keyId var a := by
            rw [hact.1.keyId, keyId_freshKey]
          simp [this, hweak]
        · rintro ⟨n, a, _, hf⟩
          rw [hops, posFlag_issuerOps var s.spec keys' a hok, List.any_eq_true] at hf
          obtain ⟨key, hkey, hf⟩ := hf
          simp only [Bool.and_eq_true, decide_eq_true_eq] at hf
          exact ⟨key, hkey, hf.2⟩
  · have hiss' : s.spec.issuer = false := by simpa using hiss
    simp only [hiss', Bool.false_eq_true, if_false] at h
    obtain ⟨p, q⟩ := runCheckFrom_spec h
    have hops : ∀ j a, stepOps var ver ec s (statics arts) j a = genOps s.spec s.verdict j a := by
      intro j a; simp [stepOps, hiss']
    refine ⟨?_, ?_, fun hh => by rw [hiss'] at hh; cases hh⟩
    · refine Pointwise.imp ?_ p
      intro j a b hab
      unfold ActsBy at *
      rw [hops]; exact hab
    · simpa only [hops, Nat.zero_add] using q

/-- all util calls of `_CheckArtifacts(arts, steps)` on the artefact at position `j`. -/
def allOps (var : Variant) (ver : String) (ec : List CheckSpec) (steps : List Step)
    (st : List Artifact) (j : Nat) (a : Artifact) : List Op :=
  steps.flatMap (fun s => stepOps var ver ec s st j a)

/-- every call in it is a SetTestResult, or the AttachFactors / AttachInfo of a positive verdict of
a step that is not CheckIssuerKey and applies to the artefact. -/
theorem mem_allOps {st : List Artifact} {j : Nat} {a : Artifact} {op : Op}
    (h : op ∈ allOps var ver ec steps st j a) :
    (∃ e, op = .setTestResult e) ∨ ∃ s ∈ steps, s.spec.issuer = false ∧
      applicable s.spec a = true ∧ (s.verdict j).positive = true ∧
      ((∃ p, (s.verdict j).factors = some p ∧ op = .attachFactors p.1 p.2) ∨
        ∃ p, (s.verdict j).info = some p ∧ op = .attachInfo p.1 p.2) := by
  simp only [allOps, List.mem_flatMap] at h
  obtain ⟨s, hs, hop⟩ := h
  unfold stepOps at hop
  split at hop
  · split at hop
    · exact .inl (mem_issuerOps hop)
    · cases hop
  · next hiss =>
    unfold genOps at hop
    split at hop
    · next happ =>
      rcases (mem_verdictOps _ _ _).1 hop with ⟨hp, h⟩ | h
      · exact .inr ⟨s, hs, by simpa using hiss, happ, hp, h⟩
      · exact .inl ⟨_, h⟩
    · cases hop

/-- MAIN LEMMA: `_CheckArtifacts` acts on the artefact at position `j` as the single history
`allOps … j a`, and returns True exactly when some artefact's history sets a positive result. -/
theorem checkArtifacts_spec {r : Bool}
    (h : checkArtifacts var ver ec steps arts = .ok (arts', r)) :
    Pointwise (ActsBy ver (allOps var ver ec steps (statics arts))) 0 arts arts' ∧
      (r = true ↔ ∃ n a, arts[n]? = some a ∧
        posFlag (allOps var ver ec steps (statics arts) n a) = true) ∧
      ∀ s ∈ steps, StepGood var ver ec s (statics arts) := by
  obtain ⟨p, q, g⟩ := foldChecks_spec ver (runStep var ver ec) (stepOps var ver ec)
    (StepGood var ver ec)
    (runStep_spec var ver ec) (stepOps_sameKey var ver ec) steps arts arts' r h
  refine ⟨p, ?_, g⟩
  simp only [q, allOps, posFlag_flatMap, List.any_eq_true]
  exact ⟨fun ⟨s, hs, n, a, ha, hf⟩ => ⟨n, a, ha, s, hs, hf⟩,
    fun ⟨n, a, ha, s, hs, hf⟩ => ⟨s, hs, n, a, ha, hf⟩⟩

/-- … read at one position of the batch. -/
theorem checkArtifacts_acts {r : Bool}
    (h : checkArtifacts var ver ec steps arts = .ok (arts', r)) {n : Nat} {a a' : Artifact}
    (ha : arts[n]? = some a) (ha' : arts'[n]? = some a') :
    ActsBy ver (allOps var ver ec steps (statics arts)) n a a' :=
  Nat.zero_add n ▸ (checkArtifacts_spec h).1.get n a a' ha ha'

theorem checkArtifacts_get {r : Bool}
    (h : checkArtifacts var ver ec steps arts = .ok (arts', r)) {n : Nat} {a' : Artifact}
    (ha' : arts'[n]? = some a') :
    ∃ a, arts[n]? = some a ∧ ActsBy ver (allOps var ver ec steps (statics arts)) n a a' := by
  have hn : n < arts.length :=
    (checkArtifacts_spec h).1.length ▸ (List.getElem?_eq_some_iff.1 ha').1
  exact ⟨arts[n], List.getElem?_eq_getElem hn,
    checkArtifacts_acts h (List.getElem?_eq_getElem hn) ha'⟩

end Paranoid
