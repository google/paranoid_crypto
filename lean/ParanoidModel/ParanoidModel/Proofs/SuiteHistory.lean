/-
Proofs/SuiteHistory.lean — the recorded p-values of a TestStructure ARE its history.

Proofs/Suite.lean relates the recorded state of a sub-test to the RECORDED p-value list only
(`Inv`).  Here: after any sequence of `Run`s the list recorded under a name is the concatenation,
in order, of every p-value any of the runs returned under that name (`returned`); the three
dictionaries have the same keys; the `finished` counter counts the UNDECIDED decisions made
during the last run (one per ITEM of the result, not one per name); every structure of
TestSource / TestBitString is the history of the outcomes of its own test.
Every step of the suite (`runItem`, `runItems`, `run`, `runHistory`) satisfies ONE relation, `Records`: levels
kept, the recorded lists grow by what the step returned, and `Tracked` (what the three dictionaries hold under a
name is the decision for the recorded list of that name) is kept; `Tracked` implies `Inv`.
Core Lean only, parametric in the number type.
-/
import ParanoidModel.Proofs.Suite
namespace Paranoid.Suite

variable {α : Type}

/-! ### what a history returned under a name -/

def itemVals (name : String) (items : List (String × α)) : List α :=
  (items.filter (fun it => it.1 = name)).map (·.2)

/-- the p-values one `Run` merges under `name`: none for InsufficientDataError, the number
itself under "result" for a single float / int. -/
def outcomeVals (name : String) (o : Outcome α) : List α :=
  match asNamed o with
  | none => []
  | some items => itemVals name items

/-- ALL p-values the runs `os` returned under `name`, in order. -/
def returned (name : String) (os : List (Outcome α)) : List α :=
  os.flatMap (outcomeVals name)

theorem itemVals_nil (name : String) : itemVals name ([] : List (String × α)) = [] := rfl

theorem itemVals_cons (name : String) (it : String × α) (its : List (String × α)) :
    itemVals name (it :: its) = (if it.1 = name then [it.2] else []) ++ itemVals name its := by
  unfold itemVals
  by_cases h : it.1 = name <;> simp [h]

theorem itemVals_append (name : String) (a b : List (String × α)) :
    itemVals name (a ++ b) = itemVals name a ++ itemVals name b := by
  simp [itemVals, List.filter_append]

theorem itemVals_of_not_mem (name : String) (items : List (String × α))
    (h : name ∉ items.map (·.1)) : itemVals name items = [] := by
  induction items with
  | nil => rfl
  | cons it its ih =>
    simp only [List.map_cons, List.mem_cons, not_or] at h
    rw [itemVals_cons, ih h.2, if_neg (fun h' => h.1 h'.symm)]
    rfl

theorem returned_nil (name : String) : returned name ([] : List (Outcome α)) = [] := rfl

theorem returned_cons (name : String) (o : Outcome α) (os : List (Outcome α)) :
    returned name (o :: os) = outcomeVals name o ++ returned name os := by
  simp [returned]

theorem returned_append (name : String) (a b : List (Outcome α)) :
    returned name (a ++ b) = returned name a ++ returned name b := by
  simp [returned]

/-! ### what is recorded is decided by the recorded p-values -/

/-- `Inv` read from the side of the p-values: a name without a list of p-values has no combined value and no
state; a name with the list `pv` has the decision for `pv` as its combined value and state (so no recorded list
is empty). -/
structure Tracked (N : Num α) (ts : TS α) : Prop where
  absent : ∀ name, dictGet name ts.pvalues = none →
    dictGet name ts.combined = none ∧ dictGet name ts.state = none
  present : ∀ name pv, dictGet name ts.pvalues = some pv → ∃ c st,
    stateOf N ts.fail ts.rep pv = .ok (c, st) ∧ dictGet name ts.combined = some c ∧
      dictGet name ts.state = some st
  keys : (ts.state.map (·.1)).Nodup

theorem tracked_init (N : Num α) (fail rep : α) (minRep : Nat) : Tracked N (TS.init fail rep minRep) :=
  ⟨fun _ _ => ⟨rfl, rfl⟩, fun _ _ h => (nomatch h), List.nodup_nil⟩

theorem Tracked.inv {N : Num α} {ts : TS α} (ht : Tracked N ts) : Inv N ts := by
  refine ⟨fun name st hst => ?_, fun name pv hpv => ?_, ht.keys⟩
  · cases hpv : dictGet name ts.pvalues with
    | none => rw [(ht.absent name hpv).2] at hst; cases hst
    | some pv =>
      obtain ⟨c, st', hd, hc, hs⟩ := ht.present name pv hpv
      rw [hs] at hst; cases hst
      exact ⟨pv, c, rfl, hc, hd⟩
  · obtain ⟨c, st, _, _, hs⟩ := ht.present name pv hpv
    exact ⟨st, hs⟩

/-- in terms of `pvalsOf`: nothing at all under the name, or the decision for `pvalsOf ts name`. -/
theorem Tracked.cases {N : Num α} {ts : TS α} (ht : Tracked N ts) (name : String) :
    (pvalsOf ts name = [] ∧ dictGet name ts.pvalues = none ∧ dictGet name ts.combined = none ∧
      dictGet name ts.state = none) ∨
    (∃ c st, stateOf N ts.fail ts.rep (pvalsOf ts name) = .ok (c, st) ∧
      dictGet name ts.pvalues = some (pvalsOf ts name) ∧ dictGet name ts.combined = some c ∧
      dictGet name ts.state = some st) := by
  unfold pvalsOf
  cases hpv : dictGet name ts.pvalues with
  | none => exact Or.inl ⟨rfl, rfl, ht.absent name hpv⟩
  | some pv =>
    obtain ⟨c, st, hd, hc, hs⟩ := ht.present name pv hpv
    exact Or.inr ⟨c, st, hd, rfl, hc, hs⟩

/-- what every step of the suite does to a structure: the levels stay, the list recorded under each name grows
by `vals name`, and `Tracked` is kept. -/
structure Records (N : Num α) (ts ts' : TS α) (vals : String → List α) : Prop where
  fail : ts'.fail = ts.fail
  rep : ts'.rep = ts.rep
  minRep : ts'.minRep = ts.minRep
  pvals : ∀ name, pvalsOf ts' name = pvalsOf ts name ++ vals name
  tracked : Tracked N ts → Tracked N ts'

theorem Records.trans {N : Num α} {a b c : TS α} {v w u : String → List α} (h1 : Records N a b v)
    (h2 : Records N b c w) (hu : ∀ name, u name = v name ++ w name) : Records N a c u :=
  ⟨h2.fail.trans h1.fail, h2.rep.trans h1.rep, h2.minRep.trans h1.minRep,
    fun name => by rw [h2.pvals, h1.pvals, hu, List.append_assoc], fun ht => h2.tracked (h1.tracked ht)⟩

/-- `Tracked`, the levels and `pvalsOf` do not mention `runs` and `finished`. -/
theorem Records.of_fields {N : Num α} {ts ts' : TS α} {v : String → List α} (hf : ts'.fail = ts.fail)
    (hr : ts'.rep = ts.rep) (hm : ts'.minRep = ts.minRep) (hp : ts'.pvalues = ts.pvalues)
    (hc : ts'.combined = ts.combined) (hs : ts'.state = ts.state) (hv : ∀ name, v name = []) :
    Records N ts ts' v :=
  ⟨hf, hr, hm, fun name => by rw [hv, List.append_nil, pvalsOf, pvalsOf, hp],
    fun ht => ⟨by rw [hp, hc, hs]; exact ht.absent, by rw [hp, hc, hs, hf, hr]; exact ht.present,
      by rw [hs]; exact ht.keys⟩⟩

theorem runItem_records (N : Num α) (acc acc' : TS α × Nat) (item : String × α)
    (h : runItem N acc item = .ok acc') :
    Records N acc.1 acc'.1 (fun name => itemVals name [item]) := by
  obtain ⟨c, st, hs⟩ := runItem_spec N acc acc' item h
  refine ⟨hs.fail, hs.rep, hs.minRep, fun name => ?_, fun ht => ⟨fun name hn => ?_, fun name pv hn => ?_, ?_⟩⟩
  · rw [itemVals_cons, itemVals_nil, List.append_nil]
    by_cases hi : name = item.1
    · subst hi
      rw [pvalsOf, hs.at_name.1, if_pos rfl]
    · rw [pvalsOf, pvalsOf, (hs.at_other hi).1, if_neg (Ne.symm hi), List.append_nil]
  · by_cases hi : name = item.1
    · subst hi
      rw [hs.at_name.1] at hn; cases hn
    · rw [(hs.at_other hi).1] at hn
      rw [(hs.at_other hi).2.1, (hs.at_other hi).2.2]
      exact ht.absent name hn
  · rw [hs.fail, hs.rep]
    by_cases hi : name = item.1
    · subst hi
      rw [hs.at_name.1] at hn; cases hn
      exact ⟨c, st, hs.decision, hs.at_name.2⟩
    · rw [(hs.at_other hi).1] at hn
      rw [(hs.at_other hi).2.1, (hs.at_other hi).2.2]
      exact ht.present name pv hn
  · rw [hs.state]; exact dictSet_keys_nodup _ _ _ ht.keys

theorem runItems_spec (N : Num α) (acc acc' : TS α × Nat) (items : List (String × α))
    (h : runItems N acc items = .ok acc') :
    Records N acc.1 acc'.1 (fun name => itemVals name items) ∧ acc'.1.runs = acc.1.runs := by
  induction items generalizing acc with
  | nil => cases h; exact ⟨.of_fields rfl rfl rfl rfl rfl rfl fun _ => rfl, rfl⟩
  | cons it its ih =>
    obtain ⟨acc1, h1, h⟩ := (runItems_cons_ok N acc acc' it its).mp h
    obtain ⟨c, st, hs⟩ := runItem_spec N acc acc1 it h1
    obtain ⟨hr, hruns⟩ := ih acc1 h
    exact ⟨(runItem_records N acc acc1 it h1).trans hr fun name => itemVals_append name [it] its,
      hruns.trans hs.runs⟩

theorem run_spec (N : Num α) (ts ts' : TS α) (o : Outcome α) (fin : Bool)
    (h : run N ts o = .ok (ts', fin)) :
    Records N ts ts' (fun name => outcomeVals name o) ∧ ts'.runs = ts.runs + 1 := by
  cases ho : asNamed o with
  | none =>
    rw [run_none N ts o ho] at h
    cases h
    exact ⟨.of_fields rfl rfl rfl rfl rfl rfl fun _ => by rw [outcomeVals, ho], rfl⟩
  | some items =>
    obtain ⟨ts1, u, h1, rfl, rfl⟩ := (run_named_ok N ts ts' o items fin ho).mp h
    obtain ⟨hr, hruns⟩ := runItems_spec N _ _ items h1
    have h0 : Records N ts { ts with runs := ts.runs + 1 } (fun _ => []) :=
      .of_fields rfl rfl rfl rfl rfl rfl fun _ => rfl
    have h2 : Records N ts1 { ts1 with finished := (u == 0) && decide (ts1.minRep ≤ ts1.runs) }
      (fun _ => []) := .of_fields rfl rfl rfl rfl rfl rfl fun _ => rfl
    exact ⟨(h0.trans hr fun _ => rfl).trans h2 fun name => by simp [outcomeVals, ho], hruns⟩

theorem runHistory_spec (N : Num α) (ts ts' : TS α) (os : List (Outcome α))
    (h : runHistory N ts os = .ok ts') :
    Records N ts ts' (fun name => returned name os) ∧ ts'.runs = ts.runs + os.length := by
  induction os generalizing ts with
  | nil => cases h; exact ⟨.of_fields rfl rfl rfl rfl rfl rfl fun _ => rfl, rfl⟩
  | cons o os ih =>
    obtain ⟨ts1, fin, h1, h⟩ := (runHistory_cons_ok N ts ts' o os).mp h
    obtain ⟨hr1, hn1⟩ := run_spec N ts ts1 o fin h1
    obtain ⟨hr, hn⟩ := ih ts1 h
    refine ⟨hr1.trans hr fun name => returned_cons name o os, ?_⟩
    rw [hn, hn1, List.length_cons]; omega

/-! ### a new structure after a history of runs -/

theorem pvalsOf_init (fail rep : α) (minRep : Nat) (name : String) :
    pvalsOf (TS.init fail rep minRep) name = [] := by
  simp [pvalsOf, TS.init, dictGet]

/-- what `runHistory N (TS.init fail rep minRep) os = .ok ts` says about `ts`. -/
structure IsHistory (N : Num α) (fail rep : α) (minRep : Nat) (os : List (Outcome α)) (ts : TS α) : Prop where
  fail : ts.fail = fail
  rep : ts.rep = rep
  minRep : ts.minRep = minRep
  runs : ts.runs = os.length
  tracked : Tracked N ts
  pvals : ∀ name, pvalsOf ts name = returned name os

theorem history_spec (N : Num α) (fail rep : α) (minRep : Nat) (os : List (Outcome α)) (ts : TS α)
    (h : runHistory N (TS.init fail rep minRep) os = .ok ts) : IsHistory N fail rep minRep os ts := by
  obtain ⟨hr, hruns⟩ := runHistory_spec N _ ts os h
  exact ⟨hr.fail, hr.rep, hr.minRep, by rw [hruns]; exact Nat.zero_add _, hr.tracked (tracked_init N fail rep minRep),
    fun name => by rw [hr.pvals, pvalsOf_init, List.nil_append]⟩

theorem stateOf_ne_nil (N : Num α) (fail rep : α) (pv : List α) (x : α × TState)
    (h : stateOf N fail rep pv = .ok x) : pv.isEmpty = false := by
  cases pv with
  | nil => cases h
  | cons y ys => rfl

/-- under `name` the structure holds nothing if the history returned nothing under it, and otherwise the
decision for everything the history returned. -/
theorem history_state (N : Num α) (fail rep : α) (minRep : Nat) (os : List (Outcome α))
    (ts : TS α) (h : runHistory N (TS.init fail rep minRep) os = .ok ts) (name : String) :
    (returned name os = [] ∧ dictGet name ts.pvalues = none ∧ dictGet name ts.combined = none ∧
      dictGet name ts.state = none) ∨
    (∃ c st, stateOf N fail rep (returned name os) = .ok (c, st) ∧
      dictGet name ts.pvalues = some (returned name os) ∧ dictGet name ts.combined = some c ∧
      dictGet name ts.state = some st) := by
  have hh := history_spec N fail rep minRep os ts h
  have := hh.tracked.cases name
  rwa [hh.pvals, hh.fail, hh.rep] at this

/-! ### `finished`: one decision per ITEM of the last result -/

def isUndecided (N : Num α) (fail rep : α) (pv : List α) : Bool :=
  match stateOf N fail rep pv with
  | .ok (_, .undecided) => true
  | _ => false

theorem runItem_counter (N : Num α) (acc acc' : TS α × Nat) (item : String × α)
    (h : runItem N acc item = .ok acc') :
    acc'.2 = acc.2 +
      (if isUndecided N acc.1.fail acc.1.rep (pvalsOf acc.1 item.1 ++ [item.2]) then 1 else 0) := by
  obtain ⟨c, st, hs⟩ := runItem_spec N acc acc' item h
  rw [hs.counter]
  unfold isUndecided
  rw [hs.decision]
  cases st <;> simp

/-- the counter `undecided` is zero at the end of the `for name, p_value in test_result` loop iff
it was zero and NONE of the decisions made on the way — one after each item, for the p-values of
that item's name seen so far — was UNDECIDED.  (No assumption on the names: with a name occurring
twice the first of its two decisions counts even though the second overwrites the state.) -/
theorem runItems_counter (N : Num α) (acc acc' : TS α × Nat) (items : List (String × α))
    (h : runItems N acc items = .ok acc') :
    acc'.2 = 0 ↔ acc.2 = 0 ∧
      ∀ pre it suf, items = pre ++ it :: suf →
        isUndecided N acc.1.fail acc.1.rep
          (pvalsOf acc.1 it.1 ++ itemVals it.1 (pre ++ [it])) = false := by
  induction items generalizing acc with
  | nil =>
    cases h
    simp
  | cons it0 its ih =>
    obtain ⟨acc1, h1, h⟩ := (runItems_cons_ok N acc acc' it0 its).mp h
    obtain ⟨c, st, hs⟩ := runItem_spec N acc acc1 it0 h1
    have hc := runItem_counter N acc acc1 it0 h1
    rw [ih acc1 h, hc, hs.fail, hs.rep]
    constructor
    · rintro ⟨h0, hrest⟩
      have hu : isUndecided N acc.1.fail acc.1.rep (pvalsOf acc.1 it0.1 ++ [it0.2]) = false := by
        cases hx : isUndecided N acc.1.fail acc.1.rep (pvalsOf acc.1 it0.1 ++ [it0.2]) with
        | false => rfl
        | true => rw [hx] at h0; simp at h0
      refine ⟨by rw [hu] at h0; simpa using h0, ?_⟩
      intro pre it suf heq
      cases pre with
      | nil =>
        simp only [List.nil_append, List.cons.injEq] at heq
        obtain ⟨rfl, _⟩ := heq
        rw [List.nil_append, itemVals_cons, itemVals_nil, if_pos rfl, List.append_nil]
        exact hu
      | cons p pre' =>
        simp only [List.cons_append, List.cons.injEq] at heq
        obtain ⟨rfl, heq⟩ := heq
        have := hrest pre' it suf heq
        rw [(runItem_records N acc acc1 it0 h1).pvals it.1, List.append_assoc, ← itemVals_append] at this
        exact this
    · rintro ⟨h0, hall⟩
      have hu := hall [] it0 its rfl
      rw [List.nil_append, itemVals_cons, itemVals_nil, if_pos rfl, List.append_nil] at hu
      refine ⟨by rw [hu, h0]; rfl, ?_⟩
      intro pre it suf heq
      have := hall (it0 :: pre) it suf (by rw [heq]; rfl)
      rw [(runItem_records N acc acc1 it0 h1).pvals it.1, List.append_assoc, ← itemVals_append]
      exact this

/-- `finished` after one `Run` that returned a result list, ANY names. -/
theorem run_finished_any_names (N : Num α) (ts ts' : TS α) (o : Outcome α)
    (items : List (String × α)) (fin : Bool) (ho : asNamed o = some items)
    (h : run N ts o = .ok (ts', fin)) :
    ts'.finished = true ↔
      (∀ pre it suf, items = pre ++ it :: suf →
        isUndecided N ts.fail ts.rep (pvalsOf ts it.1 ++ itemVals it.1 (pre ++ [it])) = false) ∧
      ts.minRep ≤ ts.runs + 1 := by
  obtain ⟨hpres, hruns⟩ := run_spec N ts ts' o fin h
  have hm := hpres.minRep
  obtain ⟨ts1, u, h1, rfl, rfl⟩ := (run_named_ok N ts ts' o items fin ho).mp h
  have := runItems_counter N _ (ts1, u) items h1
  simp only [true_and] at this
  have e1 : ts1.minRep = ts.minRep := hm
  have e2 : ts1.runs = ts.runs + 1 := hruns
  simp only [Bool.and_eq_true, beq_iff_eq, decide_eq_true_eq, this, e1, e2]
  rfl

theorem runHistory_snoc_ok (N : Num α) (ts ts' : TS α) (os : List (Outcome α)) (o : Outcome α) :
    runHistory N ts (os ++ [o]) = .ok ts' ↔
      ∃ ts1 fin, runHistory N ts os = .ok ts1 ∧ run N ts1 o = .ok (ts', fin) := by
  induction os generalizing ts with
  | nil =>
    rw [List.nil_append, runHistory_cons_ok]
    exact ⟨fun ⟨t, fin, h1, h2⟩ => ⟨ts, fin, rfl, by cases h2; exact h1⟩,
      fun ⟨t, fin, h1, h2⟩ => ⟨ts', fin, by cases h1; exact h2, rfl⟩⟩
  | cons o' os ih =>
    rw [List.cons_append, runHistory_cons_ok]
    simp only [ih, runHistory_cons_ok]
    exact ⟨fun ⟨t1, f1, h1, t2, f2, h2, h3⟩ => ⟨t2, f2, ⟨t1, f1, h1, h2⟩, h3⟩,
      fun ⟨t2, f2, ⟨t1, f1, h1, h2⟩, h3⟩ => ⟨t1, f1, h1, t2, f2, h2, h3⟩⟩

/-! ### TestSource / TestBitString: every structure is the history of its own test -/

/-- what test `i` returned in rounds `0 … k-1`. -/
def column (outcomes : Nat → Nat → Outcome α) (i k : Nat) : List (Outcome α) :=
  (List.range k).map (fun r => outcomes r i)

theorem column_succ (outcomes : Nat → Nat → Outcome α) (i k : Nat) :
    column outcomes i (k + 1) = column outcomes i k ++ [outcomes k i] := by
  simp [column, List.range_succ]

/-- a predicate on every position of a list of structures. -/
def AllIdx (P : Nat → TS α → Prop) : Nat → List (TS α) → Prop
  | _, [] => True
  | i, a :: as => P i a ∧ AllIdx P (i + 1) as

theorem AllIdx.get {P : Nat → TS α → Prop} {i : Nat} {l : List (TS α)} (h : AllIdx P i l)
    (n : Nat) (a : TS α) (ha : l[n]? = some a) : P (i + n) a := by
  induction l generalizing i n with
  | nil => simp at ha
  | cons x xs ih =>
    cases n with
    | zero =>
      simp only [List.getElem?_cons_zero, Option.some.injEq] at ha
      subst ha; exact h.1
    | succ m =>
      simp only [List.getElem?_cons_succ] at ha
      have := ih h.2 m ha
      rwa [Nat.add_assoc, Nat.add_comm 1 m] at this

theorem AllIdx.step {P Q : Nat → TS α → Prop} {R : Nat → TS α → TS α → Prop}
    (hstep : ∀ j a b, P j a → R j a b → Q j b) {i : Nat} {l l' : List (TS α)}
    (h : AllIdx P i l) (hpw : PW R i l l') : AllIdx Q i l' := by
  induction l generalizing i l' with
  | nil => cases l' with
    | nil => trivial
    | cons b bs => exact hpw.elim
  | cons a as ih => cases l' with
    | nil => exact hpw.elim
    | cons b bs => exact ⟨hstep i a b h.1 hpw.1, ih h.2 hpw.2⟩

theorem AllIdx.replicate {P : Nat → TS α → Prop} (x : TS α) (hx : ∀ j, P j x) (i n : Nat) :
    AllIdx P i (List.replicate n x) := by
  induction n generalizing i with
  | zero => trivial
  | succ n ih => exact ⟨hx i, ih (i + 1)⟩

/-- at the beginning of round `r` the structure at position `i` is the history of the outcomes
of test `i` in the rounds `0 … k-1`, was unfinished after each shorter history (so it was run
in each of those rounds), and `k = r` unless it is finished (so it is not run any more). -/
def ColumnHistory (N : Num α) (init : TS α) (outcomes : Nat → Nat → Outcome α) (r i : Nat)
    (ts : TS α) : Prop :=
  ∃ k, runHistory N init (column outcomes i k) = .ok ts ∧
    (ts.finished = false → k = r) ∧
    ∀ j, j < k → ∃ tsj, runHistory N init (column outcomes i j) = .ok tsj ∧ tsj.finished = false

theorem columnHistory_step (N : Num α) (init : TS α) (outcomes : Nat → Nat → Outcome α) (r i : Nat)
    (ts ts' : TS α) (ht : ColumnHistory N init outcomes r i ts)
    (hs : RoundStep N (outcomes r) i ts ts') : ColumnHistory N init outcomes (r + 1) i ts' := by
  obtain ⟨k, hh, hfin, hpre⟩ := ht
  rcases hs with ⟨hf, rfl⟩ | ⟨hf, fin, hrun⟩
  · exact ⟨k, hh, (fun h' => by rw [hf] at h'; cases h'), hpre⟩
  · have hkr := hfin hf
    subst hkr
    refine ⟨k + 1, ?_, fun _ => rfl, ?_⟩
    · rw [column_succ, runHistory_snoc_ok]
      exact ⟨ts, fin, hh, hrun⟩
    · intro j hj
      rcases Nat.lt_succ_iff_lt_or_eq.1 hj with hj | rfl
      · exact hpre j hj
      · exact ⟨ts, hh, hf⟩

theorem columnHistory_zero (N : Num α) (init : TS α) (outcomes : Nat → Nat → Outcome α) (i : Nat) :
    ColumnHistory N init outcomes 0 i init :=
  ⟨0, rfl, fun _ => rfl, fun j hj => (Nat.not_lt_zero j hj).elim⟩

theorem testSource_histories (N : Num α) (nTests : Nat) (fail rep : α) (minRep : Nat)
    (outcomes : Nat → Nat → Outcome α) (fuel : Nat) (tests : List (TS α)) (ret : Option Bool)
    (h : testSource N nTests fail rep minRep outcomes fuel = .ok (some (tests, ret))) :
    tests.length = nTests ∧
    ∀ i ts, tests[i]? = some ts →
      ∃ k, runHistory N (TS.init fail rep minRep) (column outcomes i k) = .ok ts ∧
        ts.finished = true ∧
        ∀ j, j < k → ∃ tsj, runHistory N (TS.init fail rep minRep) (column outcomes i j) = .ok tsj ∧
          tsj.finished = false := by
  rcases testSource_ok N nTests fail rep minRep outcomes fuel tests ret h with
    ⟨hn, rfl, -⟩ | ⟨-, -, hloop⟩
  · exact ⟨hn.symm, fun i ts hi => by simp at hi⟩
  · obtain ⟨r', hall, hl, hu⟩ := sourceLoop_invariant N outcomes
      (fun r l u => AllIdx (ColumnHistory N (TS.init fail rep minRep) outcomes r) 0 l ∧
        l.length = nTests ∧ u = unfinished l)
      (fun r l _ l1 u1 hP hr =>
        have hpw := runRound_spec N _ 0 l l1 u1 hr
        ⟨hP.1.step (fun j a b hp hs => columnHistory_step N _ outcomes r j a b hp hs) hpw.1,
          hpw.1.length_eq.trans hP.2.1, hpw.2⟩)
      fuel 0 _ tests nTests
      ⟨AllIdx.replicate _ (fun j => columnHistory_zero N _ outcomes j) 0 nTests, List.length_replicate,
        (unfinished_replicate fail rep minRep nTests).symm⟩ hloop
    refine ⟨hl, fun i ts hi => ?_⟩
    obtain ⟨k, hh, _, hpre⟩ := hall.get i ts hi
    rw [Nat.zero_add] at hh hpre
    exact ⟨k, hh, (unfinished_zero_iff _).1 hu.symm ts (List.mem_of_getElem? hi), hpre⟩

theorem runAll_histories (N : Num α) (outcome : Nat → Outcome α) (i : Nat) (init : TS α) (n : Nat)
    (tests : List (TS α)) (h : runAll N outcome i (List.replicate n init) = .ok tests) :
    tests.length = n ∧
    ∀ j ts, tests[j]? = some ts → runHistory N init [outcome (i + j)] = .ok ts := by
  have hpw := runAll_spec N outcome i _ tests h
  refine ⟨by rw [hpw.length_eq, List.length_replicate], fun j ts hj => ?_⟩
  have hall : AllIdx (fun _ a => a = init) i (List.replicate n init) :=
    AllIdx.replicate (P := fun _ a => a = init) init (fun _ => rfl) i n
  have := (hall.step (Q := fun j b => runHistory N init [outcome j] = .ok b)
    (fun j a b hp hs => by
      obtain ⟨fin, hrun⟩ := hs
      subst hp
      simp [runHistory, hrun]) hpw).get j ts hj
  exact this

end Paranoid.Suite
