/-
Proofs/BsgsDiffExact.lean — the EXACT set of keys flagged by `BatchDLOfDifferences`: a function of
the set of group elements of the call. The invariance theorems of C17 for the joint check
CheckECKeySmallDifference (Props/C17Ec.lean) rest on it.

`BsgsDiff` (soundness) says a recorded relation is true; `BsgsDiffComplete` says a pair closer than
`max(table size, max_diff)` is flagged.  Neither bounds the recorded `k`, so together they do not
determine WHO is flagged.  Here: every recorded `k` is `±table[x]`, hence `|k| < V` where `V` is the
number of multiples of `G` the table in use holds (`TableOK look V V`: complete up to `V`, values
below `V`; `PointTable(g, size)` with split `m` has `V = ceil(size/m)·m`), and conversely every pair
with `0 < |k| < V` is flagged.  So

    key `i` is flagged  ⇔  some OTHER key `Q` of the call has `P ≠ Q`, `P - Q = k • G`, `|k| < V`

(`batchDLOfDifferences_flagged_iff`), a condition on the multiset of points of the call and on `V` only.
What is recorded AS EVIDENCE (which partner `Q`, which `k`) is the last hit in scan order and DOES
depend on the order of the batch (Props/C17Ec.lean has the kernel-checked example; the real code
behaves the same).
-/
import ParanoidModel.Proofs.BsgsHistory
import ParanoidModel.Proofs.BsgsDiffComplete
namespace Paranoid.Bsgs
open Paranoid Paranoid.Ec WeierstrassCurve

section group
variable (c : Curve) [hp : Fact (Nat.Prime c.p)]

/-- `V` is a range of the table `BatchDLOfDifferences(max_diff)` uses when called in state `st`
(float oracle `m`): after the `if max_diff > self._table_size` update the table answers like an
exact table of the multiples `0 … V-1` of `G`.  A property of the curve object and of `max_diff`
only — no point list occurs. -/
def DiffRange (st : EcState) (maxDiff m V : Nat) : Prop :=
  ∃ st1, ensureTableG listImpl c st maxDiff m = .ok st1 ∧ TableIs c st1 ∧
    TableOK c st1.table.get? V V ∧ max st.tableSize maxDiff ≤ V

/-- every reachable state has such a range. -/
theorem diffRange_exists (hc : c.Good) (hG : onCurve c c.g = true) {st : EcState}
    (hst : TableIs c st) (maxDiff m : Nat) (hm : st.tableSize < maxDiff → 1 ≤ m) :
    ∃ V, DiffRange c st maxDiff m V := by
  obtain ⟨st1, h1, hsz, _⟩ := ensureTable_spec c hc hG st maxDiff m hm
  have ht1 := (ensureTable_tableIs c hst h1).1
  obtain ⟨V, hle, hV⟩ := tableOK_exact_of_tableIs c hc hG ht1
  exact ⟨V, st1, h1, ht1, hV, by rw [← hsz]; exact hle⟩

/-- ★ the exact flagged set of one `BatchDLOfDifferences` call.  All points of the call finite,
reduced, on the curve; `V` a range of the table in use (`DiffRange`: it depends on the state,
`max_diff` and the float `m` only).  The call returns, and the key at position `i` is flagged IF AND
ONLY IF some key `Q` of the call (`other_points ++ points`) satisfies `P ≠ Q`, `P - Q = k • G`,
`|k| < V` — a condition on the SET of group elements of the call.  (With fewer than two points
nothing is compared, nobody is flagged, and the right-hand side is false as well.) -/
theorem batchDLOfDifferences_flagged_iff (hc : c.Good) (hG : onCurve c c.g = true)
    (hGr : Reduced c c.g) (st : EcState) (maxDiff m V : Nat) (hV : DiffRange c st maxDiff m V)
    (points other : List Pt) (hL : ∀ Q ∈ other ++ points, GoodPt c Q) :
    ∃ res st', batchDLOfDifferences c st points other maxDiff m = .ok (res, st') ∧
      res.length = points.length ∧
      ∀ (i : Nat) (P : Pt), points[i]? = some P →
        (Flagged res i ↔ ∃ Q ∈ other ++ points, CloseG c V (toPoint c P) (toPoint c Q)) := by
  obtain ⟨st1, h1, _, htab, _⟩ := hV
  obtain ⟨res, st', hcall, _, hlen, hfl⟩ := batchDLOfDifferences_flags c hc hG hGr st points other
    hL maxDiff m h1 htab
  have hsound := batchDLOfDifferences_sound c hc hG st points other (fun Q hQ => (hL Q hQ).1)
    maxDiff m res st' hcall
  -- every recorded `k` is `±table[x]`, and the table values are below `V`
  have hbound : AllRel (fun _ r => r.dl.natAbs < V) res :=
    batchDLOfDifferencesG_inv listImpl c hcall fun st1' h1' => by
      rw [h1] at h1'; cases h1'
      intro i j p Q _ _ _ x _ xv v dl diff _ hv hdl _ _
      have hvV := (htab.1 _ v hv).1
      refine ⟨fun r hr => ?_, fun _ r hr => ?_⟩ <;> simp only [(fmtRel_ok hr).2] <;> omega
  refine ⟨res, st', hcall, hlen, fun i P hP => ⟨?_, ?_⟩⟩
  · rintro ⟨r, hr⟩
    obtain ⟨P', j, Q, hP', hQ, _, _, _, hrel, hne⟩ := hsound i r hr
    rw [hP] at hP'; cases hP'
    exact ⟨Q, List.mem_of_getElem? hQ, hne, r.dl, hrel, hbound i r hr⟩
  · rintro ⟨Q, hQ, hclose⟩
    obtain ⟨j, hj⟩ := List.getElem?_of_mem hQ
    refine hfl i j P Q hP hj (fun hji => ?_) hclose
    subst hji
    rw [getElem?_L_right rfl _ (by omega), Nat.add_sub_cancel_left, hP] at hj
    cases hj
    exact hclose.1 rfl

/-- ★ the flag of a key is a function of the SET of group elements of the call: two calls from the
same state with the same `max_diff` and float value — any two batches, orders, multiplicities,
splits into `points` / `other_points` — whose point lists denote the same set of group elements give
a key `P` occurring in both the same flag.  In particular: permuting the batch permutes the flags. -/
theorem batchDLOfDifferences_flag_set (hc : c.Good) (hG : onCurve c c.g = true)
    (hGr : Reduced c c.g) (st : EcState) (hst : TableIs c st) (maxDiff m : Nat)
    (hm : st.tableSize < maxDiff → 1 ≤ m)
    (points other points' other' : List Pt) (hL : ∀ Q ∈ other ++ points, GoodPt c Q)
    (hL' : ∀ Q ∈ other' ++ points', GoodPt c Q)
    (hset : ∀ A : (W c).Point, (∃ Q ∈ other ++ points, toPoint c Q = A) ↔
      (∃ Q ∈ other' ++ points', toPoint c Q = A)) :
    ∃ res st1 res' st1', batchDLOfDifferences c st points other maxDiff m = .ok (res, st1) ∧
      batchDLOfDifferences c st points' other' maxDiff m = .ok (res', st1') ∧
      ∀ (i i' : Nat) (P P' : Pt), points[i]? = some P → points'[i']? = some P' →
        toPoint c P = toPoint c P' → (Flagged res i ↔ Flagged res' i') := by
  obtain ⟨V, hV⟩ := diffRange_exists c hc hG hst maxDiff m hm
  obtain ⟨res, st1, h1, _, f1⟩ := batchDLOfDifferences_flagged_iff c hc hG hGr st maxDiff m V hV
    points other hL
  obtain ⟨res', st1', h1', _, f1'⟩ := batchDLOfDifferences_flagged_iff c hc hG hGr st maxDiff m V hV
    points' other' hL'
  refine ⟨res, st1, res', st1', h1, h1', ?_⟩
  intro i i' P P' hP hP' hPP
  rw [f1 i P hP, f1' i' P' hP', hPP]
  constructor
  · rintro ⟨Q, hQ, hcl⟩
    obtain ⟨Q', hQ', hQQ⟩ := (hset _).mp ⟨Q, hQ, rfl⟩
    exact ⟨Q', hQ', by rw [hQQ]; exact hcl⟩
  · rintro ⟨Q', hQ', hcl⟩
    obtain ⟨Q, hQ, hQQ⟩ := (hset _).mpr ⟨Q', hQ', rfl⟩
    exact ⟨Q, hQ, by rw [hQQ]; exact hcl⟩

end group
end Paranoid.Bsgs
