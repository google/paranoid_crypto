/-
Proofs/NTheory.lean — helper lemmas and main theorems for C19: the functions of
Model/NTheory.lean (2-adic inverse / inverse square root / square roots, continued fractions,
rounded division, sieve) satisfy their defining equations.
-/
import ParanoidModel.Model.NTheory
import ParanoidModel.Proofs.Basic
import Mathlib.Tactic.Ring
import Mathlib.Tactic.Linarith
import Mathlib.Tactic.LinearCombination
import Mathlib.Data.Nat.ModEq
import Mathlib.Algebra.Order.Ring.Abs
import Mathlib.Data.Nat.Prime.Defs
import Mathlib.Data.Nat.Sqrt

namespace Paranoid.NT

theorem two_pow_pos_int (t : Nat) : (0 : Int) < 2 ^ t := by positivity

theorem fMod2exp_cast (x : Int) (t : Nat) : ((fMod2exp x t : Nat) : Int) = x % 2 ^ t := by
  unfold fMod2exp
  exact Int.toNat_of_nonneg (Int.emod_nonneg _ (ne_of_gt (two_pow_pos_int t)))

theorem fMod2exp_lt (x : Int) (t : Nat) : fMod2exp x t < 2 ^ t := by
  have h := Int.emod_lt_of_pos x (two_pow_pos_int t)
  rw [← fMod2exp_cast] at h
  exact_mod_cast h

theorem dvd_fMod2exp_sub (x : Int) (t : Nat) : (2 : Int) ^ t ∣ (fMod2exp x t : Int) - x := by
  rw [fMod2exp_cast]
  have := Int.emod_add_mul_ediv x (2 ^ t)
  exact ⟨-(x / 2 ^ t), by linarith⟩

theorem modEq_iff_int_dvd {a b m : Nat} : a ≡ b [MOD m] ↔ (m : Int) ∣ (a : Int) - b := by
  rw [Nat.ModEq.comm, Nat.modEq_iff_dvd]

/-! ### Inverse2exp -/

theorem inv2Step_spec (n a t t' : Nat) (ht : t' ≤ 2 * t)
    (h : (2 : Int) ^ t ∣ (a : Int) * n - 1) :
    (2 : Int) ^ t' ∣ (inv2Step n a t' : Int) * n - 1 := by
  unfold inv2Step
  -- Newton: `a(2 − an)·n − 1 = −(an − 1)²`
  have h2 : (2 : Int) ^ t' ∣ ((a : Int) * n - 1) * ((a : Int) * n - 1) :=
    (pow_dvd_pow 2 ht).trans (by rw [two_mul, pow_add]; exact mul_dvd_mul h h)
  obtain ⟨d, hd⟩ := dvd_fMod2exp_sub ((a : Int) * (2 - (a : Int) * n)) t'
  obtain ⟨e, he⟩ := h2
  exact ⟨d * n - e, by linear_combination (n : Int) * hd - he⟩

theorem inverse2expLoop_spec (n k : Nat) : ∀ (fuel t a : Nat), 1 ≤ t → k < fuel + t →
    (2 : Int) ^ t ∣ (a : Int) * n - 1 →
    (2 : Int) ^ k ∣ (inverse2expLoop n k fuel t a : Int) * n - 1
  | 0, t, a, _, hk, h => by
    unfold inverse2expLoop
    exact dvd_trans (pow_dvd_pow 2 (by omega)) h
  | fuel + 1, t, a, ht, hk, h => by
    unfold inverse2expLoop
    split
    · apply inverse2expLoop_spec n k fuel _ _ (by omega) (by omega)
      exact inv2Step_spec n a t _ (by omega) h
    · exact dvd_trans (pow_dvd_pow 2 (by omega)) h

theorem inverse2expLoop_lt (n k : Nat) : ∀ (fuel t a : Nat), 1 ≤ t → t ≤ k → k < fuel + t → a < 2 ^ t →
    inverse2expLoop n k fuel t a < 2 ^ k
  | 0, t, a, _, hle, hk, _ => by omega
  | fuel + 1, t, a, ht, hle, hk, h => by
    unfold inverse2expLoop
    split
    · apply inverse2expLoop_lt n k fuel _ _ (by omega) (by omega) (by omega)
      exact fMod2exp_lt _ _
    · have : t = k := by omega
      subst this; exact h

theorem inverse2exp_base (n : Nat) (h : n % 2 = 1) : (2 : Int) ^ 2 ∣ ((n % 4 : Nat) : Int) * n - 1 := by
  have h4 : (2 : Int) ^ 2 = 4 := by norm_num
  rw [h4]
  have : n % 4 = 1 ∨ n % 4 = 3 := by omega
  rcases this with e | e <;> rw [e] <;> push_cast <;> omega

theorem inverse2exp_eq_none_iff (n k : Nat) : inverse2exp n k = none ↔ n % 2 = 0 := by
  unfold inverse2exp
  split <;> simp_all

theorem inverse2exp_correct (n k a : Nat) (h : inverse2exp n k = some a) :
    n % 2 = 1 ∧ a * n ≡ 1 [MOD 2 ^ k] := by
  unfold inverse2exp at h
  split at h
  · simp at h
  · rename_i hn
    have hodd : n % 2 = 1 := by omega
    simp only [Option.some.injEq] at h
    subst h
    refine ⟨hodd, ?_⟩
    apply modEq_iff_int_dvd.mpr
    push_cast
    exact inverse2expLoop_spec n k (k + 1) 2 (n % 4) (by omega) (by omega) (inverse2exp_base n hodd)

theorem inverse2exp_lt (n k a : Nat) (hk : 2 ≤ k) (h : inverse2exp n k = some a) : a < 2 ^ k := by
  unfold inverse2exp at h
  split at h
  · simp at h
  · simp only [Option.some.injEq] at h
    subst h
    apply inverse2expLoop_lt n k (k + 1) 2 (n % 4) (by omega) hk (by omega)
    have : n % 4 < 4 := Nat.mod_lt _ (by omega)
    simpa using this

/-! ### InverseSqrt2exp -/

/-- one Newton step for the inverse square root: precision `t ≥ 1` goes to `t' ≤ 2t - 2`. -/
theorem invSqrtStep_spec (n a t t' : Nat) (h1 : 1 ≤ t) (ht : t' + 2 ≤ 2 * t)
    (h : (2 : Int) ^ t ∣ (a : Int) * a * n - 1) :
    (2 : Int) ^ t' ∣ (invSqrtStep n a t' : Int) * (invSqrtStep n a t' : Int) * n - 1 := by
  unfold invSqrtStep
  obtain ⟨t0, rfl⟩ : ∃ t0, t = t0 + 1 := ⟨t - 1, by omega⟩
  obtain ⟨c, hc⟩ := h
  -- `a²n = 1 + 2η` with `η = 2^t0·c`; the new value is `x = a(1 − η)` and `x²n − 1 = η²(2η − 3)`
  rw [pow_succ', mul_assoc 2 ((2 : Int) ^ t0) c] at hc
  have h2 : (2 : Int) ^ t' ∣ (2 ^ t0 * c) * (2 ^ t0 * c) :=
    (pow_dvd_pow 2 (by omega : t' ≤ 2 * t0)).trans
      (by rw [two_mul, pow_add]; exact mul_dvd_mul (Dvd.intro _ rfl) (Dvd.intro _ rfl))
  generalize (2 : Int) ^ t0 * c = η at hc h2
  have hx : (a : Int) * (3 - (a : Int) * a * n) / 2 = a * (1 - η) := by
    rw [show (a : Int) * (3 - (a : Int) * a * n) = 2 * (a * (1 - η)) by linear_combination (-(a : Int)) * hc]
    exact Int.mul_ediv_cancel_left _ (by norm_num)
  rw [hx]
  obtain ⟨d, hd⟩ := dvd_fMod2exp_sub ((a : Int) * (1 - η)) t'
  obtain ⟨e, he⟩ := h2
  generalize (fMod2exp ((a : Int) * (1 - η)) t' : Int) = y at hd ⊢
  exact ⟨d * (y + a * (1 - η)) * n + e * (2 * η - 3), by
    linear_combination (y + a * (1 - η)) * n * hd + (1 - η) * (1 - η) * hc + (2 * η - 3) * he⟩

theorem inverseSqrt2expLoop_spec (n k : Nat) : ∀ (fuel t a : Nat), 3 ≤ t → k < fuel + t →
    (2 : Int) ^ t ∣ (a : Int) * a * n - 1 →
    (2 : Int) ^ k ∣ (inverseSqrt2expLoop n k fuel t a : Int) * (inverseSqrt2expLoop n k fuel t a : Int) * n - 1
  | 0, t, a, _, hk, h => by
    unfold inverseSqrt2expLoop
    exact dvd_trans (pow_dvd_pow 2 (by omega)) h
  | fuel + 1, t, a, ht, hk, h => by
    unfold inverseSqrt2expLoop
    split
    · apply inverseSqrt2expLoop_spec n k fuel _ _ (by omega) (by omega)
      exact invSqrtStep_spec n a t _ (by omega) (by omega) h
    · exact dvd_trans (pow_dvd_pow 2 (by omega)) h

theorem inverseSqrt2expLoop_lt (n k : Nat) : ∀ (fuel t a : Nat), 3 ≤ t → t ≤ k → k < fuel + t →
    a < 2 ^ t → inverseSqrt2expLoop n k fuel t a < 2 ^ k
  | 0, t, a, _, hle, hk, _ => by omega
  | fuel + 1, t, a, ht, hle, hk, h => by
    unfold inverseSqrt2expLoop
    split
    · apply inverseSqrt2expLoop_lt n k fuel _ _ (by omega) (by omega) (by omega)
      exact fMod2exp_lt _ _
    · have : t = k := by omega
      subst this; exact h

theorem mod_eq_one_of_int_dvd {x k : Nat} (hk : 1 ≤ k) (h : (2 : Int) ^ k ∣ (x : Int) - 1) :
    x % 2 ^ k = 1 := by
  have h1 : x ≡ 1 [MOD 2 ^ k] := by
    apply modEq_iff_int_dvd.mpr; push_cast; exact h
  have h2 : 1 < 2 ^ k := Nat.one_lt_two_pow (by omega)
  unfold Nat.ModEq at h1
  rw [h1, Nat.mod_eq_of_lt h2]

theorem mod8_of_sq_mul (a n : Nat) (h : a * a * n % 8 = 1) : n % 8 = 1 := by
  have key : ∀ x < 8, ∀ y < 8, x * x * y % 8 = 1 → y = 1 := by decide
  have e : (a % 8) * (a % 8) * (n % 8) ≡ a * a * n [MOD 8] :=
    ((Nat.mod_modEq a 8).mul (Nat.mod_modEq a 8)).mul (Nat.mod_modEq n 8)
  unfold Nat.ModEq at e
  rw [h] at e
  exact key _ (Nat.mod_lt _ (by omega)) _ (Nat.mod_lt _ (by omega)) e

theorem mod8_of_mod_two_pow {x k : Nat} (hk : 3 ≤ k) (h : x % 2 ^ k = 1) : x % 8 = 1 := by
  have hd : 8 ∣ 2 ^ k := by
    have : (8 : Nat) = 2 ^ 3 := by norm_num
    rw [this]; exact pow_dvd_pow 2 hk
  have := Nat.mod_mod_of_dvd x hd
  rw [h] at this
  omega

/-- soundness, every `k`: a returned value satisfies the docstring's equation literally. -/
theorem inverseSqrt2exp_sound (n k a : Nat) (h : inverseSqrt2exp n k = some a) :
    a * a * n % 2 ^ k = 1 := by
  unfold inverseSqrt2exp at h
  split at h
  · have := List.find?_some h
    simpa using this
  · rename_i hk
    split at h
    · simp at h
    · rename_i h8
      simp only [Option.some.injEq] at h
      subst h
      have h8' : n % 8 = 1 := by omega
      have base : (2 : Int) ^ 3 ∣ ((1 : Nat) : Int) * ((1 : Nat) : Int) * n - 1 := by
        have : (2 : Int) ^ 3 = 8 := by norm_num
        rw [this]; push_cast; omega
      have := inverseSqrt2expLoop_spec n k (k + 1) 3 1 (by omega) (by omega) base
      apply mod_eq_one_of_int_dvd (by omega)
      push_cast
      exact this

theorem sq_mul_mod (a n m : Nat) : (a % m) * (a % m) * n % m = a * a * n % m :=
  ((Nat.mod_modEq a m).mul (Nat.mod_modEq a m)).mul (Nat.ModEq.refl n)

/-- completeness, every `k`: `None` is returned only if the equation has no solution. -/
theorem inverseSqrt2exp_none (n k : Nat) (h : inverseSqrt2exp n k = none) (a : Nat) :
    a * a * n % 2 ^ k ≠ 1 := by
  unfold inverseSqrt2exp at h
  split at h
  · rw [List.find?_eq_none] at h
    have hm : a % 2 ^ k ∈ List.range (2 ^ k) :=
      List.mem_range.2 (Nat.mod_lt _ (Nat.two_pow_pos k))
    have := h _ hm
    rw [← sq_mul_mod]
    simpa using this
  · rename_i hk
    split at h
    · rename_i h8
      intro hc
      exact h8 (mod8_of_sq_mul a n (mod8_of_mod_two_pow (by omega) hc))
    · simp at h

theorem inverseSqrt2exp_none_iff (n k : Nat) :
    inverseSqrt2exp n k = none ↔ ∀ a, a * a * n % 2 ^ k ≠ 1 := by
  constructor
  · exact inverseSqrt2exp_none n k
  · intro h
    cases hr : inverseSqrt2exp n k with
    | none => rfl
    | some a => exact absurd (inverseSqrt2exp_sound n k a hr) (h a)

theorem inverseSqrt2exp_isSome_iff (n k : Nat) (hk : 3 ≤ k) :
    (inverseSqrt2exp n k).isSome = true ↔ n % 8 = 1 := by
  unfold inverseSqrt2exp
  have : ¬ k < 3 := by omega
  simp only [this, if_false]
  split <;> simp_all

theorem inverseSqrt2exp_lt (n k a : Nat) (h : inverseSqrt2exp n k = some a) : a < 2 ^ k := by
  unfold inverseSqrt2exp at h
  split at h
  · exact List.mem_range.1 (List.mem_of_find?_eq_some h)
  · split at h
    · simp at h
    · simp only [Option.some.injEq] at h
      subst h
      apply inverseSqrt2expLoop_lt n k (k + 1) 3 1 (by omega) (by omega) (by omega)
      norm_num

/-! ### Sqrt2exp -/

theorem two_pow_dvd_of_odd_mul : ∀ (j : Nat) (u v : Int), u % 2 = 1 →
    (2 : Int) ^ j ∣ u * v → (2 : Int) ^ j ∣ v := fun j u v hu h => by
  refine Int.dvd_of_dvd_mul_right_of_gcd_one h ?_
  rw [Int.gcd, Int.natAbs_pow]
  exact Nat.Coprime.pow_left j ((Nat.Prime.coprime_iff_not_dvd Nat.prime_two).mpr (by omega))

/-- for odd `r` and `k ≥ 1`: `x² ≡ r² (mod 2^(k+1))` iff `x ≡ ±r (mod 2^k)`. -/
theorem sq_sub_sq_dvd_iff {k : Nat} (hk : 1 ≤ k) (x r : Int) (hr : r % 2 = 1) :
    (2 : Int) ^ (k + 1) ∣ x * x - r * r ↔ (2 : Int) ^ k ∣ x - r ∨ (2 : Int) ^ k ∣ x - -r := by
  obtain ⟨j, rfl⟩ : ∃ j, k = j + 1 := ⟨k - 1, by omega⟩
  rw [sub_neg_eq_add]
  rcases Int.emod_two_eq_zero_or_one x with hx | hx
  · -- `x` even: `x² − r²` and `x ± r` are odd
    have h2 : ∀ i : Nat, (2 : Int) ∣ 2 ^ (i + 1) := fun i => Dvd.intro_left _ (pow_succ 2 i).symm
    have hxe : Even x := Int.even_iff.mpr hx
    have hro : ¬ Even r := by rw [Int.even_iff]; omega
    refine iff_of_false (fun h => ?_) (fun h => ?_)
    · have := Int.even_sub.mp (even_iff_two_dvd.mpr ((h2 (j + 1)).trans h))
      simp only [Int.even_mul, or_self, hxe, hro, iff_false, not_true_eq_false] at this
    · rcases h with h | h
      · exact hro ((Int.even_sub.mp (even_iff_two_dvd.mpr ((h2 j).trans h))).mp hxe)
      · exact hro ((Int.even_add.mp (even_iff_two_dvd.mpr ((h2 j).trans h))).mp hxe)
  -- `x − r = 2u`, `x + r = 2v` with `v − u = r` odd: exactly one of `u`, `v` is odd
  obtain ⟨u, hu⟩ : ∃ u, x - r = 2 * u := ⟨(x - r) / 2, by omega⟩
  obtain ⟨v, hv⟩ : ∃ v, x + r = 2 * v := ⟨(x + r) / 2, by omega⟩
  have e : x * x - r * r = 2 ^ 2 * (u * v) := by linear_combination (x + r) * hu + 2 * u * hv
  rw [e, hu, hv, pow_succ' 2 (j + 1), pow_succ' 2 j, ← mul_assoc, ← pow_two,
    mul_dvd_mul_iff_left (by norm_num), mul_dvd_mul_iff_left (by norm_num),
    mul_dvd_mul_iff_left (by norm_num)]
  constructor
  · intro h
    rcases Int.emod_two_eq_zero_or_one u with h0 | h1
    · exact Or.inl (two_pow_dvd_of_odd_mul j v u (by omega) (by rwa [mul_comm]))
    · exact Or.inr (two_pow_dvd_of_odd_mul j u v h1 h)
  · rintro (h | h)
    · exact Dvd.dvd.mul_right h v
    · exact Dvd.dvd.mul_left h u

theorem dvd_half_iff (H x a : Int) : H ∣ x - a ↔ 2 * H ∣ x - a ∨ 2 * H ∣ x - (H + a) := by
  constructor
  · rintro ⟨c, hc⟩
    rcases Int.emod_two_eq_zero_or_one c with h | h
    · exact Or.inl ⟨c / 2, by rw [hc, mul_assoc, mul_left_comm, show 2 * (c / 2) = c by omega]⟩
    · exact Or.inr ⟨c / 2, by
        rw [mul_assoc, mul_left_comm (2 : Int), show 2 * (c / 2) = c - 1 by omega]
        linear_combination hc⟩
  · rintro (⟨c, hc⟩ | ⟨c, hc⟩)
    · exact ⟨2 * c, by rw [hc]; ring⟩
    · exact ⟨2 * c + 1, by linear_combination hc⟩

theorem eq_of_dvd_sub_of_lt {M : Int} {x y : Nat} (h : M ∣ (x : Int) - y) (hx : (x : Int) < M)
    (hy : (y : Int) < M) : x = y := by
  have : (x : Int) - y = 0 := by
    apply Int.eq_zero_of_abs_lt_dvd h
    rw [abs_lt]; constructor <;> omega
  omega

theorem eq_of_dvd_sub_of_dvd_sub {K a : Int} {x y : Nat} (hx : K ∣ (x : Int) - a)
    (hy : K ∣ (y : Int) - a) (hxK : (x : Int) < K) (hyK : (y : Int) < K) : x = y :=
  eq_of_dvd_sub_of_lt (by have := Int.dvd_sub hx hy; rwa [sub_sub_sub_cancel_right] at this) hxK hyK

theorem ne_of_not_dvd_sub {K a b : Int} {x y : Nat} (hx : K ∣ (x : Int) - a) (hy : K ∣ (y : Int) - b)
    (h : ¬ K ∣ a - b) : x ≠ y := by
  rintro rfl
  exact h (by have := Int.dvd_sub hy hx; rwa [sub_sub_sub_cancel_left] at this)

/-- `±r`, `H ± r` are pairwise incongruent modulo `2H` for odd `r` and `4 ∣ H ≠ 0`. -/
theorem four_residues_nodup {Q r : Int} {y1 y2 y3 y4 : Nat} (hQ : 0 < Q) (hr : r % 2 = 1)
    (c1 : 8 * Q ∣ (y1 : Int) - r) (c2 : 8 * Q ∣ (y2 : Int) - -r)
    (c3 : 8 * Q ∣ (y3 : Int) - (4 * Q - r)) (c4 : 8 * Q ∣ (y4 : Int) - (4 * Q + r)) :
    [y1, y2, y3, y4].Nodup := by
  -- the differences of the residues are `2r + 4m` (not divisible by 4) or `±4Q`
  have two : ∀ m z : Int, z = 2 * r + 4 * m → ¬ 8 * Q ∣ z := fun m z hz ⟨c, hc⟩ => by
    rw [show 8 * Q * c = 4 * (2 * Q * c) by ring] at hc; omega
  have half : ∀ z : Int, (z = 4 * Q ∨ z = -(4 * Q)) → ¬ 8 * Q ∣ z := fun z hz h => by
    have h' : 8 * Q ∣ 4 * Q := by rcases hz with rfl | rfl; exacts [h, (Int.dvd_neg).mp h]
    have := Int.le_of_dvd (by linarith) h'
    linarith
  simp only [List.nodup_cons, List.mem_cons, List.not_mem_nil, or_false, not_or,
    List.nodup_nil, and_true, not_false_eq_true]
  exact ⟨⟨ne_of_not_dvd_sub c1 c2 (two 0 _ (by ring)), ne_of_not_dvd_sub c1 c3 (two (-Q) _ (by ring)),
      ne_of_not_dvd_sub c1 c4 (half _ (Or.inr (by ring)))⟩,
    ⟨ne_of_not_dvd_sub c2 c3 (half _ (Or.inr (by ring))),
      ne_of_not_dvd_sub c2 c4 (two (-r - Q) _ (by ring))⟩,
    ne_of_not_dvd_sub c3 c4 (two (-r) _ (by ring))⟩

theorem odd_of_mul_odd {a b : Nat} (h : a * b % 2 = 1) : a % 2 = 1 ∧ b % 2 = 1 := by
  have key : ∀ x < 2, ∀ y < 2, x * y % 2 = 1 → x = 1 ∧ y = 1 := by decide
  rw [Nat.mul_mod] at h
  exact key _ (Nat.mod_lt _ (by omega)) _ (Nat.mod_lt _ (by omega)) h

theorem odd_of_mul_mod_two_pow {a b k : Nat} (hk : 1 ≤ k) (h : a * b % 2 ^ k = 1) :
    a % 2 = 1 ∧ b % 2 = 1 := by
  have hd : 2 ∣ 2 ^ k := dvd_pow_self 2 (by omega)
  have h2 := Nat.mod_mod_of_dvd (a * b) hd
  rw [h] at h2
  exact odd_of_mul_odd (by omega)

/-- `r·s ≡ 1` and `s²·n ≡ 1` give `r² ≡ n`. -/
theorem sq_of_inverse_of_invSqrt (M r s n : Int) (h1 : M ∣ r * s - 1) (h2 : M ∣ s * s * n - 1) :
    M ∣ r * r - n := by
  have : r * r - n = (-(r * r)) * (s * s * n - 1) + n * (r * s + 1) * (r * s - 1) := by ring
  rw [this]
  exact Int.dvd_add (Dvd.dvd.mul_left h2 _) (Dvd.dvd.mul_left h1 _)

/-- what a correct answer of `Sqrt2exp(n, k)` is: all residues below `2^k`, each a square
root of `n`, pairwise distinct, and no root is missing. -/
def IsAllSqrts (n k : Nat) (l : List Nat) : Prop :=
  (∀ x ∈ l, x < 2 ^ k ∧ x * x ≡ n [MOD 2 ^ k]) ∧ l.Nodup ∧
  (∀ x, x < 2 ^ k → x * x ≡ n [MOD 2 ^ k] → x ∈ l)

theorem sqrt2exp_small_pred (n k x : Nat) :
    ((((x * x : Nat) : Int) - n) % 2 ^ k == 0) = true ↔ x * x ≡ n [MOD 2 ^ k] := by
  rw [beq_iff_eq]
  constructor
  · intro h
    apply modEq_iff_int_dvd.mpr
    push_cast
    exact Int.dvd_of_emod_eq_zero (by simpa using h)
  · intro h
    have := modEq_iff_int_dvd.mp h
    push_cast at this
    simpa using Int.emod_eq_zero_of_dvd this

/-- the last step of `Sqrt2exp` for `k = j + 2 + 1 ≥ 3`: for odd `r < 2^k` with `r² ≡ n (mod 2^k)` the list
`[r, 2^k − r, (2^(k−1) − r) mod 2^k, (2^(k−1) + r) mod 2^k]` is the set of square roots of `n`. -/
theorem sqrtRoots_isAllSqrts (j n r : Nat) (hr : r % 2 = 1) (hrlt : r < 2 ^ (j + 2 + 1))
    (hsq : (2 : Int) ^ (j + 2 + 1) ∣ (r : Int) * r - n) :
    IsAllSqrts n (j + 2 + 1) (sqrtRoots (j + 2 + 1) r) := by
  -- `x² ≡ n (mod 2^k)` iff `x ≡ ±r (mod 2^(k−1))` iff `x ≡ r, 2^(k−1) + r, −r, 2^(k−1) − r (mod 2^k)`
  have root : ∀ x : Nat, x * x ≡ n [MOD 2 ^ (j + 2 + 1)] ↔
      (2 : Int) ^ (j + 2 + 1) ∣ (x : Int) - r ∨
      (2 : Int) ^ (j + 2 + 1) ∣ (x : Int) - (2 ^ (j + 2) + r) ∨
      (2 : Int) ^ (j + 2 + 1) ∣ (x : Int) - -r ∨
      (2 : Int) ^ (j + 2 + 1) ∣ (x : Int) - (2 ^ (j + 2) - r) := fun x => by
    have e : x * x ≡ n [MOD 2 ^ (j + 2 + 1)] ↔ (2 : Int) ^ (j + 2 + 1) ∣ (x : Int) * x - r * r := by
      rw [modEq_iff_int_dvd]
      push_cast
      rw [show (x : Int) * x - r * r = (x : Int) * x - n - ((r : Int) * r - n) by ring]
      exact ⟨fun h => Int.dvd_sub h hsq, fun h => by simpa using Int.dvd_add h hsq⟩
    rw [e, sq_sub_sq_dvd_iff (by omega) x r (by omega), dvd_half_iff _ x r, dvd_half_iff _ x (-r),
      ← pow_succ', ← sub_eq_add_neg, or_assoc]
  have c1 : (2 : Int) ^ (j + 2 + 1) ∣ (r : Int) - r := by simp
  have c2 : (2 : Int) ^ (j + 2 + 1) ∣ ((2 ^ (j + 2 + 1) - r : Nat) : Int) - -r := by
    rw [Nat.cast_sub hrlt.le]; exact ⟨1, by push_cast; ring⟩
  have c3 := dvd_fMod2exp_sub ((2 : Int) ^ (j + 2) - r) (j + 2 + 1)
  have c4 := dvd_fMod2exp_sub ((2 : Int) ^ (j + 2) + r) (j + 2 + 1)
  have b2 : 2 ^ (j + 2 + 1) - r < 2 ^ (j + 2 + 1) := Nat.sub_lt (Nat.two_pow_pos _) (by omega)
  have b3 := fMod2exp_lt ((2 : Int) ^ (j + 2) - r) (j + 2 + 1)
  have b4 := fMod2exp_lt ((2 : Int) ^ (j + 2) + r) (j + 2 + 1)
  unfold sqrtRoots
  rw [Nat.add_sub_cancel]
  generalize fMod2exp ((2 : Int) ^ (j + 2) - r) (j + 2 + 1) = y3 at c3 b3 ⊢
  generalize fMod2exp ((2 : Int) ^ (j + 2) + r) (j + 2 + 1) = y4 at c4 b4 ⊢
  generalize 2 ^ (j + 2 + 1) - r = y2 at c2 b2 ⊢
  refine ⟨fun x hx => ?_, ?_, fun x hx hxn => ?_⟩
  · simp only [List.mem_cons, List.not_mem_nil, or_false] at hx
    rw [root]
    rcases hx with rfl | rfl | rfl | rfl
    exacts [⟨hrlt, Or.inl c1⟩, ⟨b2, Or.inr (Or.inr (Or.inl c2))⟩,
      ⟨b3, Or.inr (Or.inr (Or.inr c3))⟩, ⟨b4, Or.inr (Or.inl c4)⟩]
  · rw [show (2 : Int) ^ (j + 2 + 1) = 8 * 2 ^ j by rw [pow_add, pow_add]; ring] at c1 c2 c3 c4
    rw [show (2 : Int) ^ (j + 2) = 4 * 2 ^ j by rw [pow_add]; ring] at c3 c4
    exact four_residues_nodup (by positivity) (by omega) c1 c2 c3 c4
  · have cast : ∀ y : Nat, y < 2 ^ (j + 2 + 1) → (y : Int) < 2 ^ (j + 2 + 1) :=
      fun y h => by exact_mod_cast h
    simp only [List.mem_cons, List.not_mem_nil, or_false]
    rcases (root x).mp hxn with h | h | h | h
    · exact Or.inl (eq_of_dvd_sub_of_dvd_sub h c1 (cast x hx) (cast r hrlt))
    · exact Or.inr (Or.inr (Or.inr (eq_of_dvd_sub_of_dvd_sub h c4 (cast x hx) (cast y4 b4))))
    · exact Or.inr (Or.inl (eq_of_dvd_sub_of_dvd_sub h c2 (cast x hx) (cast y2 b2)))
    · exact Or.inr (Or.inr (Or.inl (eq_of_dvd_sub_of_dvd_sub h c3 (cast x hx) (cast y3 b3))))

theorem sq_mod8_odd (x n : Nat) (hn : n % 2 = 1) (h : x * x % 8 = n % 8) : n % 8 = 1 := by
  have key : ∀ a < 8, ∀ b < 8, b % 2 = 1 → a * a % 8 = b → b = 1 := by decide
  have e : (x % 8) * (x % 8) ≡ x * x [MOD 8] := (Nat.mod_modEq x 8).mul (Nat.mod_modEq x 8)
  unfold Nat.ModEq at e
  rw [h] at e
  exact key _ (Nat.mod_lt _ (by omega)) _ (Nat.mod_lt _ (by omega)) (by omega) e

/-- an answer `s` of `InverseSqrt2exp(n, k)` is odd, so `Inverse2exp(s, k)` answers, and its answer
is an odd square root of `n` modulo `2^k`. -/
theorem root_of_invSqrt {n k s : Nat} (hk : 3 ≤ k) (hs : inverseSqrt2exp n k = some s) :
    ∃ r, inverse2exp s k = some r ∧ r % 2 = 1 ∧ r < 2 ^ k ∧ (2 : Int) ^ k ∣ (r : Int) * r - n := by
  have hs1 := inverseSqrt2exp_sound n k s hs
  have hM1 : 1 % 2 ^ k = 1 := Nat.mod_eq_of_lt (Nat.one_lt_two_pow (by omega))
  cases hr : inverse2exp s k with
  | none =>
    rw [inverse2exp_eq_none_iff] at hr
    have := (odd_of_mul_odd (odd_of_mul_mod_two_pow (by omega) hs1).1).1
    omega
  | some r =>
    have hr1 := (inverse2exp_correct s k r hr).2
    have d1 : (2 : Int) ^ k ∣ (r : Int) * s - 1 := by simpa using modEq_iff_int_dvd.mp hr1
    have d2 : (2 : Int) ^ k ∣ (s : Int) * s * n - 1 := by
      simpa using modEq_iff_int_dvd.mp (hs1.trans hM1.symm)
    exact ⟨r, rfl, (odd_of_mul_mod_two_pow (by omega) (Eq.trans hr1 hM1)).1,
      inverse2exp_lt s k r (by omega) hr, sq_of_inverse_of_invSqrt _ _ _ _ d1 d2⟩

/-- main theorem for `Sqrt2exp` on odd `n`: the result is `ok` (the `2**k - None` path is
unreachable) and it is exactly the set of square roots. -/
theorem sqrt2exp_odd (n k : Nat) (hn : n % 2 = 1) :
    ∃ l, sqrt2exp n k = .ok l ∧ IsAllSqrts n k l ∧ (3 ≤ k → l = [] ∨ l.length = 4) := by
  unfold sqrt2exp
  have hn0 : ¬ n % 2 = 0 := by omega
  simp only [hn0, if_false]
  split
  · rename_i hk
    refine ⟨_, rfl, ⟨?_, ?_, ?_⟩, fun h => by omega⟩
    · intro x hx
      rw [List.mem_filter, List.mem_range] at hx
      refine ⟨hx.1, ?_⟩
      have := hx.2
      exact (sqrt2exp_small_pred n k x).1 (by simpa using this)
    · exact List.Nodup.sublist List.filter_sublist List.nodup_range
    · intro x hx hxn
      rw [List.mem_filter, List.mem_range]
      refine ⟨hx, ?_⟩
      have := (sqrt2exp_small_pred n k x).2 hxn
      simpa using this
  · rename_i hk
    have hk3 : 3 ≤ k := by omega
    cases hs : inverseSqrt2exp n k with
    | none =>
      refine ⟨[], rfl, ⟨by simp, List.nodup_nil, ?_⟩, fun _ => Or.inl rfl⟩
      intro x hx hxn
      exfalso
      have h8 : ¬ n % 8 = 1 := by
        intro h8
        have := (inverseSqrt2exp_isSome_iff n k hk3).2 h8
        rw [hs] at this; simp at this
      apply h8
      apply sq_mod8_odd x n hn
      have hd : 8 ∣ 2 ^ k := by
        have : (8 : Nat) = 2 ^ 3 := by norm_num
        rw [this]; exact pow_dvd_pow 2 hk3
      exact (Nat.ModEq.of_dvd hd hxn)
    | some s =>
      obtain ⟨r, hr, hodd, hlt, hd⟩ := root_of_invSqrt hk3 hs
      obtain ⟨j, rfl⟩ : ∃ j, k = j + 2 + 1 := ⟨k - 3, by omega⟩
      exact ⟨sqrtRoots _ r, by simp only [hr], sqrtRoots_isAllSqrts j n r hodd hlt hd,
        fun _ => Or.inr rfl⟩

theorem sqrt2expZ_neg (n : Nat) (k : Int) (hk : k < 0) : sqrt2expZ n k = .error .valueError := by
  simp [sqrt2expZ, hk]

theorem sqrt2expZ_nonneg (n k : Nat) : sqrt2expZ n (k : Int) = sqrt2exp n k := by
  simp [sqrt2expZ]

/-! ### ContinuedFraction -/

/-- Specification: Euclid's quotient sequence of `a / b`. -/
def euclidQuots (a b : Nat) : List Nat :=
  if h : b = 0 then [] else a / b :: euclidQuots b (a % b)
termination_by b
decreasing_by exact Nat.mod_lt _ (Nat.pos_of_ne_zero h)

/-- Specification: the convergents `(q_i, h_i, k_i)` of a quotient list by the textbook
recurrence `h_i = h_{i-1} q_i + h_{i-2}`, `k_i = k_{i-1} q_i + k_{i-2}`, started from
`(h_{-1}, h_{-2}, k_{-1}, k_{-2}) = (r, s, t, u)`. -/
def convergents : List Nat → Nat → Nat → Nat → Nat → List (Nat × Nat × Nat)
  | [], _, _, _, _ => []
  | q :: qs, r, s, t, u => (q, r * q + s, t * q + u) :: convergents qs (r * q + s) r (t * q + u) t

theorem euclidQuots_zero (a : Nat) : euclidQuots a 0 = [] := by
  rw [euclidQuots]; simp

theorem euclidQuots_pos (a b : Nat) (h : b ≠ 0) :
    euclidQuots a b = a / b :: euclidQuots b (a % b) := by
  rw [euclidQuots]; simp [h]

theorem cfLoop_succ (fuel a b r s t u : Nat) (hb : b ≠ 0) :
    cfLoop (fuel + 1) a b r s t u = (a / b, r * (a / b) + s, t * (a / b) + u) ::
      cfLoop fuel b (a % b) (r * (a / b) + s) r (t * (a / b) + u) t := by
  rw [cfLoop, if_neg hb]

theorem convergents_euclid (a b r s t u : Nat) (hb : b ≠ 0) :
    convergents (euclidQuots a b) r s t u = (a / b, r * (a / b) + s, t * (a / b) + u) ::
      convergents (euclidQuots b (a % b)) (r * (a / b) + s) r (t * (a / b) + u) t := by
  rw [euclidQuots_pos a b hb, convergents]

theorem two_mul_mod_lt {a b : Nat} (hb : 0 < b) (hba : b ≤ a) : 2 * (b * (a % b)) < a * b := by
  have hm : a % b < b := Nat.mod_lt _ hb
  have h0 : 2 * (a % b) < a := by
    have := Nat.div_add_mod a b
    have : b * 1 ≤ b * (a / b) := Nat.mul_le_mul_left b (Nat.div_pos hba hb)
    omega
  calc 2 * (b * (a % b)) = b * (2 * (a % b)) := by ring
    _ < b * a := Nat.mul_lt_mul_of_pos_left h0 hb
    _ = a * b := Nat.mul_comm _ _

/-- while `b ≤ a` the product `a·b` at least halves per step, so `fuel` with `a·b < 2^fuel`
is enough. -/
theorem cfLoop_eq : ∀ (fuel a b r s t u : Nat), b ≤ a → a * b < 2 ^ fuel →
    cfLoop fuel a b r s t u = convergents (euclidQuots a b) r s t u
  | 0, a, b, r, s, t, u, hba, hf => by
    have hb : b = 0 := by
      by_contra hb
      have := Nat.mul_pos (Nat.pos_of_ne_zero hb |>.trans_le hba) (Nat.pos_of_ne_zero hb)
      omega
    subst hb
    rw [euclidQuots_zero]; rfl
  | fuel + 1, a, b, r, s, t, u, hba, hf => by
    by_cases hb : b = 0
    · subst hb; rw [euclidQuots_zero, cfLoop, if_pos rfl]; rfl
    · have hbpos := Nat.pos_of_ne_zero hb
      have := two_mul_mod_lt hbpos hba
      rw [cfLoop_succ _ _ _ _ _ _ _ hb, convergents_euclid _ _ _ _ _ _ hb,
        cfLoop_eq fuel b (a % b) _ _ _ _ (Nat.mod_lt _ hbpos).le (by rw [pow_succ] at hf; omega)]

/-- `ContinuedFraction(a, b)` is the list of Euclid's quotients together with the
convergents given by the textbook recurrence; in particular the fuel never runs out. -/
theorem continuedFraction_eq (a b : Nat) :
    continuedFraction a b = convergents (euclidQuots a b) 1 0 0 1 := by
  unfold continuedFraction
  by_cases hb : b = 0
  · subst hb; rw [euclidQuots_zero, cfLoop, if_pos rfl]; rfl
  · have hbpos := Nat.pos_of_ne_zero hb
    have hm : a % b < b := Nat.mod_lt _ hbpos
    -- after the first step `a % b < b < 2^L`, so `b·(a % b) < 2^(2L)`
    have hL := lt_two_pow_bitLength b
    have h1 : b * (a % b) < 2 ^ bitLength b * 2 ^ bitLength b :=
      Nat.mul_lt_mul'' hL (hm.trans hL)
    rw [cfLoop_succ _ _ _ _ _ _ _ hb, convergents_euclid _ _ _ _ _ _ hb,
      cfLoop_eq _ b (a % b) _ _ _ _ hm.le
        (h1.trans_le (by rw [← pow_add, ← two_mul]; exact Nat.pow_le_pow_right (by norm_num) (by omega)))]

theorem convergents_map_fst : ∀ (qs : List Nat) (r s t u : Nat),
    (convergents qs r s t u).map (·.1) = qs
  | [], _, _, _, _ => rfl
  | q :: qs, r, s, t, u => by
    simp only [convergents, List.map_cons]
    rw [convergents_map_fst qs]

/-- consecutive convergents have determinants alternating `d, -d, d, …`: for each entry
`(q, r, t)` with predecessor `(r0, t0)`: `r·t0 − r0·t = d`. -/
def AltDet : Int → Nat → Nat → List (Nat × Nat × Nat) → Prop
  | _, _, _, [] => True
  | d, r0, t0, (_, r, t) :: rest => (r : Int) * t0 - (r0 : Int) * t = d ∧ AltDet (-d) r t rest

theorem convergents_altDet : ∀ (qs : List Nat) (r s t u : Nat),
    AltDet (-((r : Int) * u - (s : Int) * t)) r t (convergents qs r s t u)
  | [], _, _, _, _ => trivial
  | q :: qs, r, s, t, u => by
    simp only [convergents, AltDet]
    refine ⟨by push_cast; ring, ?_⟩
    have := convergents_altDet qs (r * q + s) r (t * q + u) t
    have e : -(((r * q + s : Nat) : Int) * t - (r : Int) * ((t * q + u : Nat) : Int)) =
        - -((r : Int) * u - (s : Int) * t) := by push_cast; ring
    rw [← e]; exact this

theorem altDet_coprime : ∀ (l : List (Nat × Nat × Nat)) (d : Int) (r0 t0 : Nat),
    (d = 1 ∨ d = -1) → AltDet d r0 t0 l → ∀ x ∈ l, Nat.Coprime x.2.1 x.2.2
  | [], _, _, _, _, _ => by simp
  | (q, r, t) :: rest, d, r0, t0, hd, h => by
    intro x hx
    simp only [AltDet] at h
    rcases List.mem_cons.1 hx with rfl | hx
    · -- Bézout: `r·t0 − r0·t = ±1`
      have : Int.gcd (r : Int) t ∣ 1 := Int.gcd_dvd_iff.mpr <| by
        rcases hd with rfl | rfl
        · exact ⟨t0, -r0, by push_cast; linear_combination -h.1⟩
        · exact ⟨-t0, r0, by push_cast; linear_combination h.1⟩
      exact Nat.dvd_one.mp (by rwa [Int.gcd_natCast_natCast] at this)
    · exact altDet_coprime rest (-d) r t (by rcases hd with rfl | rfl <;> simp) h.2 x hx

/-- indexed form: entries `i` and `i+1` satisfy `r_{i+1} t_i − r_i t_{i+1} = (−1)^i · (−d)`. -/
theorem altDet_index : ∀ (l : List (Nat × Nat × Nat)) (d : Int) (r0 t0 : Nat), AltDet d r0 t0 l →
    ∀ (i : Nat) (x y : Nat × Nat × Nat), l[i]? = some x → l[i + 1]? = some y →
      (y.2.1 : Int) * x.2.2 - (x.2.1 : Int) * y.2.2 = (-1) ^ i * (-d)
  | [], _, _, _, _, i, x, y, hx, _ => by simp at hx
  | [_], _, _, _, _, i, x, y, _, hy => by simp at hy
  | (q, r, t) :: (q', r', t') :: rest, d, r0, t0, h, i, x, y, hx, hy => by
    simp only [AltDet] at h
    cases i with
    | zero =>
      simp only [List.getElem?_cons_zero, Option.some.injEq, zero_add, List.getElem?_cons_succ] at hx hy
      subst hx hy
      simpa using h.2.1
    | succ i =>
      simp only [List.getElem?_cons_succ] at hx hy
      have := altDet_index ((q', r', t') :: rest) (-d) r t (by simp only [AltDet]; exact h.2) i x y hx hy
      rw [this, pow_succ]; ring

theorem euclidQuots_ne_nil (a b : Nat) (h : b ≠ 0) : euclidQuots a b ≠ [] := by
  rw [euclidQuots_pos a b h]; simp

theorem convergents_eq_nil {qs : List Nat} {r s t u : Nat} (h : convergents qs r s t u = []) :
    qs = [] := by
  cases qs with
  | nil => rfl
  | cons q qs => simp [convergents] at h

/-- A state `(a, b, r, s, t, u)` of the extended Euclid run on `(A, B)` that `ContinuedFraction`
performs: `a`, `b` are the current remainders, `(r, t)` the last convergent, `(s, u)` the one
before. -/
structure EState (A B a b r s t u : Nat) : Prop where
  hA : A = r * a + s * b
  hB : B = t * a + u * b
  hdet : (r : Int) * u - s * t = 1 ∨ (r : Int) * u - s * t = -1

theorem EState.init (A B : Nat) : EState A B A B 1 0 0 1 := ⟨by ring, by ring, by simp⟩

theorem EState.next {A B a b r s t u : Nat} (h : EState A B a b r s t u) :
    EState A B b (a % b) (r * (a / b) + s) r (t * (a / b) + u) t := by
  obtain ⟨hA, hB, hdet⟩ := h
  have hab := Nat.div_add_mod a b
  generalize a / b = k at *
  generalize a % b = rho at *
  refine ⟨by rw [hA, ← hab]; ring, by rw [hB, ← hab]; ring, ?_⟩
  have e : ((r * k + s : Nat) : Int) * t - r * (t * k + u : Nat) = -((r : Int) * u - s * t) := by
    push_cast; ring
  rw [e]
  rcases hdet with hd | hd <;> rw [hd] <;> simp

/-- `|r·B − t·A|` for the convergent `(r, t)` (what `FactorWithGuess` compares with its bound) is the
remainder `b`. -/
theorem EState.residual {A B a b r s t u : Nat} (h : EState A B a b r s t u) :
    ((r : Int) * B - t * A).natAbs = b := by
  obtain ⟨hA, hB, hdet⟩ := h
  have e : (r : Int) * B - t * A = ((r : Int) * u - s * t) * b := by
    rw [hA, hB]; push_cast; ring
  rw [e]
  rcases hdet with hd | hd <;> rw [hd] <;> simp

/-- the run ends with `b = 0`, `a = gcd`: the last convergent is `(A/g, B/g)`. -/
theorem convergents_last {A B : Nat} (b : Nat) : ∀ (a r s t u : Nat), EState A B a b r s t u →
    ∀ x, (convergents (euclidQuots a b) r s t u).getLast? = some x →
      x.2.1 * Nat.gcd a b = A ∧ x.2.2 * Nat.gcd a b = B := by
  induction b using Nat.strong_induction_on with
  | _ b ih =>
    intro a r s t u hst x hx
    by_cases hb : b = 0
    · subst hb
      rw [euclidQuots_zero] at hx
      simp [convergents] at hx
    · rw [convergents_euclid a b r s t u hb] at hx
      have hn := hst.next
      have hg : Nat.gcd b (a % b) = Nat.gcd a b := by
        rw [Nat.gcd_comm a b, Nat.gcd_rec b a, Nat.gcd_comm]
      by_cases hr : a % b = 0
      · rw [hr, euclidQuots_zero] at hx
        simp only [convergents, List.getLast?_singleton, Option.some.injEq] at hx
        subst hx
        rw [← hg, hr, Nat.gcd_zero_right, hn.hA, hn.hB, hr]
        simp
      · rw [List.getLast?_cons_of_ne_nil
          fun h => euclidQuots_ne_nil b (a % b) hr (convergents_eq_nil h)] at hx
        exact hg ▸ ih (a % b) (Nat.mod_lt _ (Nat.pos_of_ne_zero hb)) b _ _ _ _ hn x hx

/-- the last triple of `ContinuedFraction(a, b)` is `a/b` in lowest terms. -/
theorem continuedFraction_last (a b : Nat) (x : Nat × Nat × Nat)
    (h : (continuedFraction a b).getLast? = some x) :
    x.2.1 * Nat.gcd a b = a ∧ x.2.2 * Nat.gcd a b = b := by
  rw [continuedFraction_eq] at h
  exact convergents_last b a 1 0 0 1 (EState.init a b) x h

theorem continuedFraction_altDet (a b : Nat) : AltDet (-1) 1 0 (continuedFraction a b) := by
  rw [continuedFraction_eq]
  have := convergents_altDet (euclidQuots a b) 1 0 0 1
  simpa using this

/-! ### DivmodRounded before fix cdbbb74 (`divmodRounded`, `d = (b + 1) // 2`) -/

theorem dmrOffset_eq (b : Int) : dmrOffset b = (b + 1) / 2 := by
  unfold dmrOffset
  exact Int.fdiv_eq_ediv_of_nonneg _ (by norm_num)

theorem fmod_range_neg (a b : Int) (hb : b < 0) : b < a.fmod b ∧ a.fmod b ≤ 0 := by
  have h := Int.neg_fmod_neg (-a) (-b)
  simp only [neg_neg] at h
  have h1 := Int.fmod_nonneg_of_pos (-a) (b := -b) (by omega)
  have h2 := Int.fmod_lt_of_pos (-a) (b := -b) (by omega)
  omega

theorem divmodRounded_zero (a : Int) : divmodRounded a 0 = .error .zeroDivision := by
  simp [divmodRounded]

theorem divmodRounded_ok (a b : Int) (hb : b ≠ 0) :
    divmodRounded a b =
      .ok (Int.fdiv (a + dmrOffset b) b, Int.fmod (a + dmrOffset b) b - dmrOffset b) := by
  simp [divmodRounded, hb]

/-- quotient and remainder of `a + d` by `b ≠ 0`, the remainder moved back by the offset `d` (the
form of both variants of `DivmodRounded`): the identity, and the remainder range for either sign. -/
theorem divmodOffset_spec {a b d q r : Int}
    (h : (.ok (Int.fdiv (a + d) b, Int.fmod (a + d) b - d) : Except PyErr (Int × Int)) = .ok (q, r)) :
    q * b + r = a ∧ (0 < b → -d ≤ r ∧ r < b - d) ∧ (b < 0 → b - d < r ∧ r ≤ -d) := by
  cases h
  have := Int.fdiv_mul_add_fmod (a + d) b
  refine ⟨by omega, fun hp => ?_, fun hn => ?_⟩
  · have h1 := Int.fmod_nonneg_of_pos (a + d) hp
    have h2 := Int.fmod_lt_of_pos (a + d) hp
    omega
  · have h1 := fmod_range_neg (a + d) b hn
    omega

/-- exact remainder range for `b > 0`: `[-b/2, b/2)` for even `b`, but
`[-(b+1)/2, (b-1)/2)` for odd `b` (D16). -/
theorem divmodRounded_range_pos (a b q r : Int) (hb : 0 < b) (h : divmodRounded a b = .ok (q, r)) :
    -(b + b % 2) ≤ 2 * r ∧ 2 * r < b - b % 2 := by
  have := (divmodOffset_spec (divmodRounded_ok a b (by omega) ▸ h)).2.1 hb
  rw [dmrOffset_eq] at this
  omega

/-- exact remainder range for `b < 0`: `(b/2, -b/2]` (correct rounding for every negative
`b`, odd or even). -/
theorem divmodRounded_range_neg (a b q r : Int) (hb : b < 0) (h : divmodRounded a b = .ok (q, r)) :
    b < 2 * r ∧ 2 * r ≤ -b := by
  have := (divmodOffset_spec (divmodRounded_ok a b (by omega) ▸ h)).2.2 hb
  rw [dmrOffset_eq] at this
  omega

/-- `q` is a nearest integer to `a / b`: no multiple of `b` is closer to `a` than `q·b`. -/
def IsNearest (a b q : Int) : Prop := ∀ z : Int, |a - q * b| ≤ |a - z * b|

theorem abs_le_abs_mul_of_ne_zero (k c : Int) (hk : k ≠ 0) : |c| ≤ |k * c| := by
  rw [abs_mul]
  exact le_mul_of_one_le_left (abs_nonneg c) (Int.one_le_abs hk)

theorem isNearest_of_small_rem (a b q r : Int) (he : q * b + r = a) (hr : 2 * |r| ≤ |b|) :
    IsNearest a b q := by
  intro z
  have e1 : a - q * b = r := by omega
  rw [e1]
  by_cases hz : z = q
  · subst hz; rw [e1]
  · have hk : (q - z) ≠ 0 := by omega
    have e2 : a - z * b = r + (q - z) * b := by rw [← he]; ring
    rw [e2]
    have h1 : |(q - z) * b| ≤ |r + (q - z) * b| + |r| := by
      have : (q - z) * b = (r + (q - z) * b) - r := by ring
      calc |(q - z) * b| = |(r + (q - z) * b) - r| := by rw [← this]
        _ ≤ |r + (q - z) * b| + |r| := abs_sub _ _
    have h2 : |b| ≤ |(q - z) * b| := abs_le_abs_mul_of_ne_zero _ _ hk
    linarith

theorem two_mul_abs_le {r c : Int} (h1 : -c ≤ 2 * r) (h2 : 2 * r ≤ c) : 2 * |r| ≤ c := by
  rw [show 2 * |r| = |2 * r| by rw [abs_mul, abs_two]]
  exact abs_le.mpr ⟨h1, h2⟩

/-! ### DivmodRounded as shipped (`divmodRoundedR`, fixes/D16-divmod-rounded.diff) -/

theorem dmrOffsetR_eq (b : Int) : dmrOffsetR b = if 0 < b then b / 2 else (b + 1) / 2 := by
  unfold dmrOffsetR
  rw [Int.fdiv_eq_ediv_of_nonneg _ (by norm_num : (0 : Int) ≤ 2),
    Int.fdiv_eq_ediv_of_nonneg _ (by norm_num : (0 : Int) ≤ 2)]

theorem divmodRoundedR_ok (a b : Int) (hb : b ≠ 0) :
    divmodRoundedR a b =
      .ok (Int.fdiv (a + dmrOffsetR b) b, Int.fmod (a + dmrOffsetR b) b - dmrOffsetR b) := by
  simp [divmodRoundedR, hb]

theorem divmodRoundedR_range_pos (a b q r : Int) (hb : 0 < b)
    (h : divmodRoundedR a b = .ok (q, r)) : -b ≤ 2 * r ∧ 2 * r < b := by
  have := (divmodOffset_spec (divmodRoundedR_ok a b (by omega) ▸ h)).2.1 hb
  rw [dmrOffsetR_eq, if_pos hb] at this
  omega

theorem divmodRoundedR_range_neg (a b q r : Int) (hb : b < 0)
    (h : divmodRoundedR a b = .ok (q, r)) : b < 2 * r ∧ 2 * r ≤ -b := by
  have := (divmodOffset_spec (divmodRoundedR_ok a b (by omega) ▸ h)).2.2 hb
  rw [dmrOffsetR_eq, if_neg (by omega)] at this
  omega

theorem divmodRoundedR_spec (a b q r : Int) (h : divmodRoundedR a b = .ok (q, r)) :
    b ≠ 0 ∧ q * b + r = a ∧ 2 * |r| ≤ |b| := by
  by_cases hb : b = 0
  · subst hb; simp [divmodRoundedR] at h
  · refine ⟨hb, (divmodOffset_spec (divmodRoundedR_ok a b hb ▸ h)).1, ?_⟩
    rcases lt_or_gt_of_ne hb with hneg | hpos
    · have := divmodRoundedR_range_neg a b q r hneg h
      rw [abs_of_neg hneg]
      exact two_mul_abs_le (by omega) (by omega)
    · have := divmodRoundedR_range_pos a b q r hpos h
      rw [abs_of_pos hpos]
      exact two_mul_abs_le (by omega) (by omega)

theorem divmodRoundedR_nearest (a b q r : Int) (h : divmodRoundedR a b = .ok (q, r)) :
    IsNearest a b q := by
  obtain ⟨_, he, hr⟩ := divmodRoundedR_spec a b q r h
  exact isNearest_of_small_rem a b q r he hr

theorem divmodRoundedR_eq_pinned (a b : Int) (hb : b % 2 = 0 ∨ b < 0) :
    divmodRoundedR a b = divmodRounded a b := by
  have : dmrOffsetR b = dmrOffset b := by
    rw [dmrOffsetR_eq, dmrOffset_eq]
    split <;> omega
  unfold divmodRoundedR divmodRounded
  rw [this]

theorem quot_eq_of_rem_close {y q q' s s' : Int} (h : q * y + s = q' * y + s')
    (hlt : |s' - s| < |y|) : q = q' := by
  by_contra hne
  have := abs_le_abs_mul_of_ne_zero (q - q') y (sub_ne_zero.mpr hne)
  rw [show (q - q') * y = s' - s by linear_combination h] at this
  exact absurd hlt (not_lt.mpr this)

/-- closed form of the quotient, every non-zero divisor of either sign: `q = ⌊a/b + 1/2⌋`. -/
theorem divmodRoundedR_half_up (a b q r : Int) (h : divmodRoundedR a b = .ok (q, r)) :
    q = Int.fdiv (2 * a + b) (2 * b) := by
  obtain ⟨hb, he, _⟩ := divmodRoundedR_spec a b q r h
  -- `2a + b = q·(2b) + (2r + b)` with `2r + b` in the range of a floor remainder modulo `2b`
  refine quot_eq_of_rem_close (y := 2 * b) (s := 2 * r + b) (s' := Int.fmod (2 * a + b) (2 * b))
    ((show q * (2 * b) + (2 * r + b) = 2 * a + b by linear_combination 2 * he).trans
      (Int.fdiv_mul_add_fmod (2 * a + b) (2 * b)).symm) ?_
  rcases lt_or_gt_of_ne hb with hneg | hpos
  · have hr := divmodRoundedR_range_neg a b q r hneg h
    have h1 := fmod_range_neg (2 * a + b) (2 * b) (by omega)
    rw [abs_of_neg (by omega : 2 * b < 0), abs_lt]; constructor <;> omega
  · have hr := divmodRoundedR_range_pos a b q r hpos h
    have h1 := Int.fmod_nonneg_of_pos (2 * a + b) (b := 2 * b) (by omega)
    have h1' := Int.fmod_lt_of_pos (2 * a + b) (b := 2 * b) (by omega)
    rw [abs_of_pos (by omega : 0 < 2 * b), abs_lt]; constructor <;> omega

/-- the callers' divisors: every power of two, `2^0 = 1` included. -/
theorem divmodRoundedR_pow2 (a : Int) (j : Nat) :
    ∃ q r, divmodRoundedR a (2 ^ j) = .ok (q, r) ∧ q * 2 ^ j + r = a ∧
      -(2 : Int) ^ j ≤ 2 * r ∧ 2 * r < 2 ^ j ∧ IsNearest a (2 ^ j) q ∧
      q = Int.fdiv (2 * a + 2 ^ j) (2 * 2 ^ j) := by
  have hpos : (0 : Int) < 2 ^ j := Int.pow_pos (by decide)
  have h := divmodRoundedR_ok a (2 ^ j) (ne_of_gt hpos)
  have hr := divmodRoundedR_range_pos a _ _ _ hpos h
  exact ⟨_, _, h, (divmodRoundedR_spec a _ _ _ h).2.1, hr.1, hr.2,
    divmodRoundedR_nearest a _ _ _ h, divmodRoundedR_half_up a _ _ _ h⟩

/-- a pair with the identity and the half-open remainder range is unique. -/
theorem quot_unique_of_range (a b q r q' r' : Int) (hb : b ≠ 0)
    (he : q * b + r = a) (he' : q' * b + r' = a)
    (hp : 0 < b → (-b ≤ 2 * r ∧ 2 * r < b) ∧ (-b ≤ 2 * r' ∧ 2 * r' < b))
    (hn : b < 0 → (b < 2 * r ∧ 2 * r ≤ -b) ∧ (b < 2 * r' ∧ 2 * r' ≤ -b)) :
    q = q' ∧ r = r' := by
  have hq : q = q' := by
    refine quot_eq_of_rem_close (he.trans he'.symm) ?_
    rcases lt_or_gt_of_ne hb with hneg | hpos
    · obtain ⟨⟨a1, a2⟩, ⟨a3, a4⟩⟩ := hn hneg
      rw [abs_of_neg hneg, abs_lt]; constructor <;> omega
    · obtain ⟨⟨a1, a2⟩, ⟨a3, a4⟩⟩ := hp hpos
      rw [abs_of_pos hpos, abs_lt]; constructor <;> omega
  subst hq
  exact ⟨rfl, by omega⟩

/-! ### Sieve -/

theorem setIfInBounds_true_iff (t : Array Bool) (j m : Nat) :
    (t.setIfInBounds j false)[m]? = some true ↔ t[m]? = some true ∧ m ≠ j := by
  rw [Array.getElem?_setIfInBounds]
  by_cases h : j = m
  · subst h
    simp only [if_true]
    split <;> simp
  · rw [if_neg h]
    constructor
    · intro h1; exact ⟨h1, fun e => h e.symm⟩
    · intro h1; exact h1.1

/-- the inner loop clears exactly the indices `j, j+i, …, j+(cnt-1)i`. -/
theorem sieveMark_true_iff (i : Nat) : ∀ (cnt j : Nat) (t : Array Bool) (m : Nat),
    (sieveMark i cnt j t)[m]? = some true ↔ t[m]? = some true ∧ ∀ c < cnt, m ≠ j + c * i
  | 0, j, t, m => by simp [sieveMark]
  | cnt + 1, j, t, m => by
    unfold sieveMark
    rw [sieveMark_true_iff i cnt (j + i) _ m, setIfInBounds_true_iff]
    constructor
    · rintro ⟨⟨h1, h2⟩, h3⟩
      refine ⟨h1, ?_⟩
      intro c hc
      cases c with
      | zero => simpa using h2
      | succ c =>
        have := h3 c (by omega)
        rw [Nat.succ_mul]; omega
    · rintro ⟨h1, h3⟩
      refine ⟨⟨h1, by simpa using h3 0 (by omega)⟩, ?_⟩
      intro c hc
      have := h3 (c + 1) (by omega)
      rw [Nat.succ_mul] at this; omega

theorem sieveMark_size (i : Nat) : ∀ (cnt j : Nat) (t : Array Bool),
    (sieveMark i cnt j t).size = t.size
  | 0, _, _ => rfl
  | cnt + 1, j, t => by
    unfold sieveMark
    rw [sieveMark_size i cnt]; simp

/-- `rangeLen lo hi step` is the length of Python's `range(lo, hi, step)`. -/
theorem lt_rangeLen_iff (lo hi step c : Nat) (hs : 0 < step) :
    c < rangeLen lo hi step ↔ lo + c * step < hi := by
  unfold rangeLen
  rw [Nat.lt_iff_add_one_le, Nat.le_div_iff_mul_le hs, Nat.add_mul]
  omega

/-- for `m < n` the indices cleared for `i` are the multiples of `i` from `i²` on. -/
theorem marked_iff (n i m : Nat) (hi : 0 < i) (hm : m < n) :
    (∃ c, c < rangeLen (i * i) n i ∧ m = i * i + c * i) ↔ (i * i ≤ m ∧ i ∣ m) := by
  constructor
  · rintro ⟨c, _, rfl⟩
    exact ⟨by omega, ⟨i + c, by ring⟩⟩
  · rintro ⟨h1, ⟨k, rfl⟩⟩
    have hk : i ≤ k := Nat.le_of_mul_le_mul_left h1 hi
    refine ⟨k - i, ?_, ?_⟩
    · rw [lt_rangeLen_iff _ _ _ _ hi]
      have : i * i + (k - i) * i = i * k := by
        obtain ⟨d, rfl⟩ := Nat.exists_eq_add_of_le hk
        rw [Nat.add_sub_cancel_left]; ring
      omega
    · obtain ⟨d, rfl⟩ := Nat.exists_eq_add_of_le hk
      rw [Nat.add_sub_cancel_left]; ring

theorem lt_of_mul_self_le {p m : Nat} (h2 : 2 ≤ p) (h : p * p ≤ m) : p < m := by
  have := Nat.mul_le_mul_left p h2
  omega

theorem prime_of_no_small_factor (m : Nat) (h2 : 2 ≤ m)
    (h : ∀ p, Nat.Prime p → p * p ≤ m → ¬ p ∣ m) : Nat.Prime m := by
  by_contra hnp
  have hp : Nat.Prime (Nat.minFac m) := Nat.minFac_prime (by omega)
  have hsq := Nat.minFac_sq_le_self (by omega : 0 < m) hnp
  rw [Nat.pow_two] at hsq
  exact h _ hp hsq (Nat.minFac_dvd m)

theorem prime_no_small_factor (m p : Nat) (hm : Nat.Prime m) (hp : Nat.Prime p)
    (hsq : p * p ≤ m) : ¬ p ∣ m := by
  intro hd
  have := (Nat.prime_dvd_prime_iff_eq hp hm).1 hd
  subst this
  exact Nat.lt_irrefl _ (lt_of_mul_self_le hp.two_le hsq)

/-- loop invariant of `Sieve` before the iteration for `I`: the entry for `m` is still `True`
iff `m` has no prime factor `p < I` with `p² ≤ m`. -/
def SieveInv (n I : Nat) (t : Array Bool) : Prop :=
  ∀ m, t[m]? = some true ↔ (m < n ∧ ∀ p, Nat.Prime p → p < I → p * p ≤ m → ¬ p ∣ m)

theorem sieveInv_init (n : Nat) : SieveInv n 2 (Array.replicate n true) := by
  intro m
  rw [Array.getElem?_replicate]
  constructor
  · intro h
    split at h
    · rename_i hm
      exact ⟨hm, fun p hp hp2 => absurd hp.two_le (by omega)⟩
    · simp at h
  · rintro ⟨hm, _⟩
    simp [hm]

theorem sieveInv_step (n I : Nat) (t : Array Bool) (hI : 2 ≤ I) (h : SieveInv n I t) :
    SieveInv n (I + 1)
      (if t[I]? = some true then sieveMark I (rangeLen (I * I) n I) (I * I) t else t) := by
  intro m
  split
  · rename_i hT
    have hIinfo := (h I).1 hT
    have hIp : Nat.Prime I :=
      prime_of_no_small_factor I hI (fun p hp hsq =>
        hIinfo.2 p hp (lt_of_mul_self_le hp.two_le hsq) hsq)
    rw [sieveMark_true_iff, h m]
    constructor
    · rintro ⟨⟨hm, h1⟩, h2⟩
      refine ⟨hm, ?_⟩
      intro p hp hpI hsq
      rcases Nat.lt_succ_iff_lt_or_eq.1 hpI with hlt | rfl
      · exact h1 p hp hlt hsq
      · intro hd
        obtain ⟨c, hc, hmc⟩ := (marked_iff n p m (by omega) hm).2 ⟨hsq, hd⟩
        exact h2 c hc hmc
    · rintro ⟨hm, h1⟩
      refine ⟨⟨hm, fun p hp hlt => h1 p hp (by omega)⟩, ?_⟩
      intro c hc hmc
      have := (marked_iff n I m (by omega) hm).1 ⟨c, hc, hmc⟩
      exact h1 I hIp (by omega) this.1 this.2
  · rename_i hT
    rw [h m]
    constructor
    · rintro ⟨hm, h1⟩
      refine ⟨hm, ?_⟩
      intro p hp hpI hsq
      rcases Nat.lt_succ_iff_lt_or_eq.1 hpI with hlt | rfl
      · exact h1 p hp hlt hsq
      · -- `p = I` prime but `t[I]` not true: only possible when `I ≥ n`
        exfalso
        apply hT
        rw [h p]
        exact ⟨(lt_of_mul_self_le hp.two_le hsq).trans_le (by omega),
          fun q hq hqp hsq' => prime_no_small_factor p q hp hq hsq'⟩
    · rintro ⟨hm, h1⟩
      exact ⟨hm, fun p hp hlt => h1 p hp (by omega)⟩

theorem sieveOuter_inv (n : Nat) : ∀ (fuel I : Nat) (t : Array Bool), 2 ≤ I → SieveInv n I t →
    SieveInv n (I + fuel) (sieveOuter n fuel I t)
  | 0, I, t, _, h => by simpa [sieveOuter] using h
  | fuel + 1, I, t, hI, h => by
    unfold sieveOuter
    have := sieveOuter_inv n fuel (I + 1) _ (by omega) (sieveInv_step n I t hI h)
    have e : I + (fuel + 1) = I + 1 + fuel := by omega
    rw [e]; exact this

theorem sieveTable_true_iff (n m : Nat) :
    (sieveTable n)[m]? = some true ↔ m < n ∧ (m < 2 ∨ Nat.Prime m) := by
  unfold sieveTable isqrt
  rw [sieveOuter_inv n _ 2 _ (le_refl 2) (sieveInv_init n) m]
  constructor
  · rintro ⟨hm, h⟩
    refine ⟨hm, ?_⟩
    by_cases h2 : m < 2
    · exact Or.inl h2
    · right
      apply prime_of_no_small_factor m (by omega)
      intro p hp hsq
      apply h p hp _ hsq
      have : p ≤ Nat.sqrt n := Nat.le_sqrt.2 (by omega)
      omega
  · rintro ⟨hm, h⟩
    refine ⟨hm, ?_⟩
    intro p hp _ hsq
    rcases h with h2 | hpm
    · have := lt_of_mul_self_le hp.two_le hsq
      have := hp.two_le
      omega
    · exact prime_no_small_factor m p hpm hp hsq

theorem sieveCollect_eq (n : Nat) (t : Array Bool)
    (h : ∀ m, t[m]? = some true ↔ m < n ∧ (m < 2 ∨ Nat.Prime m)) :
    sieveCollect n t = (List.range n).filter (fun i => decide (Nat.Prime i)) := by
  unfold sieveCollect
  match n, h with
  | 0, _ => simp
  | 1, _ =>
    simp only [List.range_succ, List.range_zero, List.nil_append, List.filter_cons,
      Nat.not_prime_zero, decide_false, Bool.false_eq_true, if_false, List.filter_nil]
    split <;> rfl
  | k + 2, h =>
    rw [List.range_eq_range', List.range'_succ, List.range'_succ]
    have h0 : t[0]? = some true := (h 0).2 ⟨by omega, Or.inl (by omega)⟩
    have h1 : t[0 + 1]? = some true := (h 1).2 ⟨by omega, Or.inl (by omega)⟩
    simp only [List.filter_cons, h0, h1, decide_true, if_true, List.drop_succ_cons, List.drop_zero,
      Nat.not_prime_zero, decide_false, Bool.false_eq_true, if_false]
    apply List.filter_congr
    intro x hx
    rw [List.mem_range'_1] at hx
    have := h x
    by_cases hp : Nat.Prime x
    · simp [hp, this.2 ⟨by omega, Or.inr hp⟩]
    · have hne : ¬ t[x]? = some true := fun e => by
        rcases (this.1 e).2 with h2 | h2
        · omega
        · exact hp h2
      simp [hp, hne]

/-- `Sieve(n)` is the list of primes below `n`, in increasing order. -/
theorem sieve_eq (n : Nat) : sieve n = (List.range n).filter (fun i => decide (Nat.Prime i)) :=
  sieveCollect_eq n _ (sieveTable_true_iff n)

/-- the reads `table[i]` of the outer loop (`2 ≤ i ≤ isqrt n`) are within the table. -/
theorem sieve_index_in_bounds (n i : Nat) (h2 : 2 ≤ i) (hi : i ≤ isqrt n) : i < n := by
  exact lt_of_mul_self_le h2 (Nat.le_sqrt.1 hi)

end Paranoid.NT
