/-
Model/Nist.lean — mirrors paranoid_crypto/lib/randomness_tests/nist_suite.py (all tests of
NIST SP 800-22 except the all-float spectral test) and extended_nist_suite.py.

Floats never enter the model (DESIGN 3.1): every function returns the parameter choice (or
the Python exception), the exact integer counts and, where it is a single fraction, the exact
rational statistic as numerator/denominator.  Everything Python computes in floating point
from there on (forming the statistic, erfc, gammaincc, erf, log, sqrt, matrix_power, binom.cdf)
is the "float tail", re-evaluated by harness/corr/c12.py with mpmath.

Bit strings are Python ints (`bits`, LSB = first bit) together with their length `n`;
precondition of every function here, as of the Python code: `bits < 2^n`.
The bit primitives of util.py (owned by C15) and Berlekamp–Massey (C14) are NOT mirrored
here: simple list-level definitions are used instead and the per-block linear complexities
are oracle arguments.  The correspondence run of C12 compares against the real code and so
cross-checks those primitives as well.

Repaired behaviour is modelled for D4, D10–D14 (DESIGN section 6); the pinned behaviour of
the random-walk extremes (D4) is available through `Variant.pinned`.
No Mathlib.
-/
import ParanoidModel.Model.Basic
namespace Paranoid.Nist
open Paranoid

/-! ## bit strings as lists -/

/-- the `n` low bits of `x`, least significant first (definition). -/
def bitsSmall : Nat → Nat → List Bool
  | 0, _ => []
  | n + 1, x => (x % 2 == 1) :: bitsSmall n (x / 2)

/-- divide-and-conquer evaluation of `bitsSmall` (same value for every fuel, see
`Proofs/NistBits.lean: bitsDC_eq`), needed because `x / 2` on a 2^20-bit number is linear. -/
def bitsDC : Nat → Nat → Nat → List Bool
  | 0, n, x => bitsSmall n x
  | f + 1, n, x =>
    if n ≤ 32 then bitsSmall n x
    else bitsDC f (n / 2) (x % 2 ^ (n / 2)) ++ bitsDC f (n - n / 2) (x >>> (n / 2))

/-- `bits` as the list ε₁ … εₙ of NIST SP 800-22 (ε₁ = least significant bit). -/
def bitList (bits n : Nat) : List Bool := bitsDC 64 n bits

/-- number of ones (`util.BitCount`). -/
def ones (l : List Bool) : Nat := l.count true

/-- value of a little-endian bit list. -/
def natOfBits : List Bool → Nat
  | [] => 0
  | b :: l => (if b then 1 else 0) + 2 * natOfBits l

def absDiff (a b : Nat) : Nat := if a ≥ b then a - b else b - a

/-- `util.SplitSequence` on lists: `count` consecutive blocks of `m` bits. -/
def chunksAux (m : Nat) : Nat → List Bool → List (List Bool) → List (List Bool)
  | 0, _, acc => acc.reverse
  | k + 1, l, acc => chunksAux m k (l.drop m) (l.take m :: acc)

/-- the `length / m` complete blocks of `m` bits; the incomplete last block is ignored. -/
def chunks (l : List Bool) (m : Nat) : List (List Bool) := chunksAux m (l.length / m) l []

/-- groups of `r` consecutive elements (complete groups only); used for the matrices. -/
def groupsAux {α} (r : Nat) : Nat → List α → List (List α) → List (List α)
  | 0, _, acc => acc.reverse
  | k + 1, l, acc => groupsAux r k (l.drop r) (l.take r :: acc)

def groups {α} (l : List α) (r : Nat) : List (List α) := groupsAux r (l.length / r) l []

/-- `count[i]` = number of elements of `vals` equal to `i`, for `i < size`
(values `≥ size` are ignored). -/
def tally (size : Nat) (vals : List Nat) : Array Nat :=
  vals.foldl (fun a v => a.modify v (· + 1)) (Array.replicate size 0)

/-- histogram of a list of naturals as sorted `(value, multiplicity)` pairs. -/
def rleStep (acc : List (Nat × Nat)) (v : Nat) : List (Nat × Nat) :=
  match acc with
  | (w, c) :: rest => if w = v then (w, c + 1) :: rest else (v, 1) :: acc
  | [] => [(v, 1)]

def multiset (vals : List Nat) : List (Nat × Nat) :=
  ((vals.mergeSort (fun a b => a ≤ b)).foldl rleStep []).reverse

/-! ## 2.1 Frequency (monobit) -/

/-- `Frequency`: `ok (|2·#ones − n|, n)`; p = erfc(|S_n| / √n / √2).
`abs(s) / math.sqrt(0)` raises ZeroDivisionError. -/
def frequency (bits n : Nat) : Except PyErr (Nat × Nat) :=
  if n = 0 then .error .zeroDivision
  else .ok (absDiff (2 * ones (bitList bits n)) n, n)

/-! ## 2.2 Frequency within a block -/

/-- `m = 16; while n // m >= 100: m *= 2`. -/
def bfLoop : Nat → Nat → Nat → Nat
  | 0, _, m => m
  | f + 1, n, m => if n / m ≥ 100 then bfLoop f n (2 * m) else m

/-- block size chosen by `BlockFrequency`. -/
def bfBlockSize (n : Nat) : Nat := max 20 (bfLoop n n 16)

structure BlockFreqOut where
  m : Nat
  /-- number of ones in each block -/
  counts : List Nat
  /-- χ² = num / den with num = Σ (2·onesᵢ − m)², den = m -/
  num : Nat
  den : Nat
  deriving DecidableEq, Repr

def sqDev (m c : Nat) : Nat := absDiff (2 * c) m * absDiff (2 * c) m

/-- `BlockFrequencyImpl(blocks, m)` on the counts: χ² = 4m Σ (πᵢ − ½)² = Σ (2cᵢ − m)² / m;
p = igamc(N/2, χ²/2). -/
def blockFrequencyImpl (m : Nat) (counts : List Nat) : BlockFreqOut :=
  { m := m, counts := counts, num := (counts.map (sqDev m)).sum, den := m }

def blockFrequency (bits n : Nat) : Except PyErr BlockFreqOut :=
  if n < 100 then .error .insufficientData
  else .ok (blockFrequencyImpl (bfBlockSize n)
    ((chunks (bitList bits n) (bfBlockSize n)).map ones))

/-! ## 2.3 Runs -/

/-- number of positions where consecutive bits differ. -/
def transitions (l : List Bool) : Nat := (l.zip l.tail).countP (fun p => p.1 != p.2)

/-- `util.Runs`: number of maximal runs (0 for the empty string). -/
def runsCount (l : List Bool) : Nat := if l.isEmpty then 0 else transitions l + 1

inductive RunsOut
  /-- π(1−π) = 0: NIST 2.3.4 frequency pre-test fails, p = 0 (repaired behaviour, D13;
  the pinned code raises ZeroDivisionError here). -/
  | degenerate
  /-- `(ones, V_obs, n)`: p = erfc(|V·n − 2·ones·(n−ones)|·n / (2·√(2n)·ones·(n−ones))). -/
  | stat (pop v n : Nat)
  deriving DecidableEq, Repr

def runsOfCounts (pop v n : Nat) : RunsOut :=
  if pop = 0 ∨ pop = n then .degenerate else .stat pop v n

/-- `Runs`. `BitCount(bits) / 0` raises ZeroDivisionError. The code performs no other
pre-test: for every other π the formula is evaluated. -/
def runs (bits n : Nat) : Except PyErr RunsOut :=
  if n = 0 then .error .zeroDivision
  else .ok (runsOfCounts (ones (bitList bits n)) (runsCount (bitList bits n)) n)

/-! ## 2.4 Longest run of ones in a block -/

def lrStep (st : Nat × Nat) (b : Bool) : Nat × Nat :=
  if b then (st.1 + 1, max st.2 (st.1 + 1)) else (0, st.2)

/-- `util.LongestRunOfOnes` on a list. -/
def longestRun (l : List Bool) : Nat := (l.foldl lrStep (0, 0)).2

/-- parameter set `(M, v_lower, v_upper)` by `for p in params[::-1]: if n >= p[0]`. -/
def lrParams (n : Nat) : Option (Nat × Nat × Nat) :=
  if n ≥ 750000 then some (10000, 10, 16)
  else if n ≥ 6272 then some (128, 4, 9)
  else if n ≥ 128 then some (8, 1, 4)
  else none

/-- `idx = max(0, min(v_upper, x) - v_lower)`. -/
def lrClass (vl vu x : Nat) : Nat := min vu x - vl

structure LongestRunsOut where
  m : Nat
  vLower : Nat
  vUpper : Nat
  /-- `v[i]`, `i = 0 … v_upper − v_lower` -/
  hist : List Nat
  deriving DecidableEq, Repr

def longestRunsWith (l : List Bool) (m vl vu : Nat) : LongestRunsOut :=
  { m := m, vLower := vl, vUpper := vu,
    hist := (tally (vu - vl + 1) ((chunks l m).map (fun b => lrClass vl vu (longestRun b)))).toList }

def longestRuns (bits n : Nat) : Except PyErr LongestRunsOut :=
  match lrParams n with
  | none => .error .insufficientData
  | some (m, vl, vu) => .ok (longestRunsWith (bitList bits n) m vl vu)

/-! ## 2.5 Binary matrix rank -/

/-- plain Gaussian elimination over GF(2) on rows given as naturals: the first non-zero
row becomes a pivot row for its highest set bit. -/
def elimRow (r : Nat) (x : Nat) : Nat := if x.testBit r.log2 then x ^^^ r else x

def rankAux : Nat → List Nat → Nat
  | 0, _ => 0
  | _, [] => 0
  | f + 1, r :: rest =>
    if r = 0 then rankAux f rest else rankAux f (rest.map (elimRow r)) + 1

/-- `util.BinaryMatrixRank`. -/
def binaryRank (rows : List Nat) : Nat := rankAux rows.length rows

structure RankOut where
  r : Nat
  c : Nat
  k : Nat
  /-- true when `RankDistribution` answers with the `precomputed` asymptotic table -/
  approx : Bool
  /-- `v[i]` = number of matrices of rank `r − i` (`i < k`), `v[k]`: rank ≤ r − k -/
  hist : List Nat
  deriving DecidableEq, Repr

/-- `BinaryMatrixRankImpl` (+ the argument validation `ChiSquare` performs on the exact
`RankDistribution`: for `c < r` the probability of full rank is 0.0 → ValueError).
EXACT part only: the float `RankDistribution` can also UNDERFLOW to 0.0 (c ≫ r, large k) and make
`ChiSquare` raise ValueError; that is decided by an oracle in `binaryMatrixRankImplF`
(Model/NistFloat.lean), which is what the driver op `nist.rank` evaluates. -/
def binaryMatrixRankImpl (rows : List Nat) (r c k : Nat) : Except PyErr RankOut :=
  if r = 0 then .error .zeroDivision
  else if rows.length / r < 1 then .error .insufficientData
  else if r = c ∧ r ≥ 31 ∧ k ≤ 5 then
    .ok { r := r, c := c, k := k, approx := true,
          hist := (tally (k + 1) ((groups rows r).map (fun mat => min k (r - binaryRank mat)))).toList }
  else if k = 0 ∨ c < r then .error .valueError
  else
    .ok { r := r, c := c, k := k, approx := false,
          hist := (tally (k + 1) ((groups rows r).map (fun mat => min k (r - binaryRank mat)))).toList }

/-- `BinaryMatrixRank(bits, n, r, c, k, check_size)`. -/
def binaryMatrixRank (bits n r c k : Nat) (checkSize : Bool) : Except PyErr RankOut :=
  if min r c < k then .error .valueError
  else if checkSize ∧ n < 38 * r * c then .error .insufficientData
  else if c = 0 then .error .zeroDivision
  else binaryMatrixRankImpl ((chunks (bitList bits n) c).map natOfBits) r c k

/-! ## RankDistribution (exact rational arithmetic instead of floats) -/

/-- `prob_dependent = 2**(j - r)` (j ≤ r). -/
def pd (r j : Nat) : Rat := (2 : Rat) ^ j / (2 : Rat) ^ r

/-- one pass `for j in range(r - 1, -1, -1): res[j+1] += res[j]*(1 - pd); res[j] *= pd` on the entries
`res[j:]`: the descending loop processes the higher indices first, then index j. -/
def rankPass (r : Nat) : Nat → List Rat → List Rat
  | j, x :: y :: rest =>
    match rankPass r (j + 1) (y :: rest) with
    | y' :: rest' => (x * pd r j) :: (y' + x * (1 - pd r j)) :: rest'
    | [] => [x * pd r j]
  | _, l => l

/-- `res` after `for _ in range(c)`, starting from `[1.0, 0, …, 0]` (r + 1 entries). -/
def rankRes (r : Nat) : Nat → List Rat
  | 0 => 1 :: List.replicate r 0
  | c + 1 => rankPass r 0 (rankRes r c)

/-- `RankDistribution(r, c, k, allow_approximation=False)`: `res[-k:][::-1] + [sum(res[:-k])]`
(`res[-0:]` is the whole list, `res[:-0]` the empty one). -/
def rankDistribution (r c k : Nat) : List Rat :=
  if k = 0 then (rankRes r c).reverse ++ [0]
  else (rankRes r c).reverse.take k ++ [((rankRes r c).take (r + 1 - k)).sum]

/-! ## 2.7 Non-overlapping template matching -/

/-- `IsNonOverlappingTemplate(template, m)`: no proper prefix equals the suffix of the
same length. -/
def isNonOverlapping (t m : Nat) : Bool :=
  (List.range (m - 1)).all (fun j => t >>> (m - (j + 1)) != t % 2 ^ (j + 1))

/-- block-size ladder of `NonOverlappingTemplateMatching` (`m is None`). -/
def notmM (blockSize : Nat) : Option Nat :=
  if blockSize < 4 then none
  else if blockSize < 64 then some 2
  else if blockSize < 256 then some 3
  else if blockSize < 1024 then some 4
  else if blockSize < 2048 then some 5
  else if blockSize < 4096 then some 6
  else if blockSize < 8192 then some 7
  else if blockSize < 16384 then some 8
  else if blockSize < 32768 then some 9
  else some 10

def defaultTemplates (m : Nat) : List Nat := (List.range (2 ^ m)).filter (fun b => isNonOverlapping b m)

/-- rolling window: drop the oldest (lowest) bit, enter `b` at position `m − 1`. -/
def slide (top : Nat) (st : Nat × List Nat) (b : Bool) : Nat × List Nat :=
  (st.1 / 2 + (if b then top else 0), (st.1 / 2 + (if b then top else 0)) :: st.2)

/-- values of all `length − m + 1` windows of `m` consecutive bits (window starting at
position p has bit p as its least significant bit); order is irrelevant for counting.
`m ≥ 1`. -/
def windows (l : List Bool) (m : Nat) : List Nat :=
  if l.length < m then []
  else ((l.drop m).foldl (slide (2 ^ (m - 1))) (natOfBits (l.take m), [natOfBits (l.take m)])).2

/-- `util.FrequencyCount(block, n, m, wrap=False)`. -/
def countsNoWrap (l : List Bool) (m : Nat) : Array Nat := tally (2 ^ m) (windows l m)

/-- `util.FrequencyCount(bits, n, m)` (cyclic). -/
def countsWrap (l : List Bool) (m : Nat) : Array Nat := tally (2 ^ m) (windows (l ++ l.take (m - 1)) m)

def lookupAll (cnt : Array Nat) : List Nat → Except PyErr (List Nat)
  | [] => .ok []
  | b :: rest =>
    match cnt[b]? with
    | none => .error .indexError
    | some v =>
      match lookupAll cnt rest with
      | .error e => .error e
      | .ok vs => .ok (v :: vs)

structure NotmOut where
  m : Nat
  blockSize : Nat
  templates : List Nat
  /-- `counts[j][i]` = occurrences of template `i` in block `j`.
  mean = (blockSize − m + 1)/2^m, variance = blockSize·(1/2^m − (2m−1)/2^(2m)),
  χ²ᵢ = Σⱼ (wⱼᵢ − mean)²/variance, p = igamc(N/2, χ²/2). -/
  counts : List (List Nat)
  deriving DecidableEq, Repr

def notmBlocks (cnts : List (Array Nat)) (templates : List Nat) : Except PyErr (List (List Nat)) :=
  cnts.mapM (fun c => lookupAll c templates)

/-- `NonOverlappingTemplateMatchingImpl`. -/
def notmImpl (blocks : List (List Bool)) (blockSize m : Nat) (templates : List Nat) :
    Except PyErr NotmOut :=
  if templates.any (fun b => !isNonOverlapping b m) then .error .valueError
  else if m > blockSize ∧ !blocks.isEmpty then .error .valueError
  else
    match notmBlocks (blocks.map (fun b => countsNoWrap b m)) templates with
    | .error e => .error e
    | .ok counts => .ok { m := m, blockSize := blockSize, templates := templates, counts := counts }

/-- `NonOverlappingTemplateMatching(bits, n, blocks, m, templates)`; `m ≥ 1` when given. -/
def nonOverlapping (bits n nblocks : Nat) (m : Option Nat) (templates : Option (List Nat)) :
    Except PyErr NotmOut :=
  if nblocks = 0 then .error .zeroDivision
  else
    match m, templates with
    | none, some _ => .error .valueError
    | none, none =>
      match notmM (n / nblocks) with
      | none => .error .insufficientData
      | some m' => notmImpl (chunks (bitList bits n) (n / nblocks)) (n / nblocks) m' (defaultTemplates m')
    | some m', ts =>
      if n / nblocks = 0 then .error .zeroDivision
      else notmImpl (chunks (bitList bits n) (n / nblocks)) (n / nblocks) m'
        (match ts with | some t => t | none => defaultTemplates m')

/-! ## 2.8 Overlapping template matching -/

def orStep (m : Nat) (st : Nat × Nat) (b : Bool) : Nat × Nat :=
  if b then (st.1 + 1, if st.1 + 1 ≥ m then st.2 + 1 else st.2) else (0, st.2)

/-- `util.OverlappingRunsOfOnes(block, m)`: number of positions where `m` ones start. -/
def overlappingOnes (l : List Bool) (m : Nat) : Nat := (l.foldl (orStep m) (0, 0)).2

structure OtmOut where
  m : Nat
  blockSize : Nat
  /-- `v[i]`, `i = 0 … 5` (5 = "five or more"); expected distribution: exact Markov chain of
  `OverlappingTemplateMatchingDistribution(blockSize, m, 5)` -/
  hist : List Nat
  deriving DecidableEq, Repr

/-- `OverlappingTemplateMatching(bits, n, m, block_size)`, `m ≥ 1`. Repaired behaviour (D14):
InsufficientDataError when there is no complete block (pinned: nan). A block shorter than
`m + 4` cannot contain five occurrences: `ChiSquare` rejects the zero probability.
EXACT part only: underflow of the float matrix power (m ≳ 1071) → ValueError is decided by an oracle
in `overlappingWithF` (Model/NistFloat.lean), which is what the driver op `nist.otm` evaluates. -/
def overlappingWith (bits n m bs : Nat) : Except PyErr OtmOut :=
  if bs = 0 then .error .zeroDivision
  else if n / bs = 0 then .error .insufficientData
  else if bs < m + 4 then .error .valueError
  else .ok { m := m, blockSize := bs,
             hist := (tally 6 ((chunks (bitList bits n) bs).map (fun b => min 5 (overlappingOnes b m)))).toList }

/-- `if m is None: m = 9`. -/
def otmM (m : Option Nat) : Nat := match m with | some x => x | none => 9

/-- `if block_size is None: block_size = 2**(m + 1) + m - 1`. -/
def otmBlockSize (m : Nat) (blockSize : Option Nat) : Nat :=
  match blockSize with | some x => x | none => 2 ^ (m + 1) + m - 1

def overlapping (bits n : Nat) (m blockSize : Option Nat) : Except PyErr OtmOut :=
  overlappingWith bits n (otmM m) (otmBlockSize (otmM m) blockSize)

/-! ## 2.9 Maurer's universal test -/

/-- `Universal.min_n` (NIST SP 800-22 section 2.9.7). -/
def universalMinN : List (Nat × Nat) :=
  [(6, 387840), (7, 904960), (8, 2068480), (9, 4654080), (10, 10342400), (11, 22753280),
   (12, 49643520), (13, 107560960), (14, 231669760), (15, 496435200), (16, 1059061760)]

/-- block size L for input length n: the LARGEST admissible size, as NIST 2.9.7 prescribes
(repaired behaviour, D19). -/
def universalL (n : Nat) : Option Nat :=
  ((universalMinN.filter (fun p => p.2 ≤ n)).map (·.1)).max?

/-- pinned behaviour: `min(size for (size, bound) in min_n.items() if bound <= n)` — always 6. -/
def universalLPinned (n : Nat) : Option Nat :=
  ((universalMinN.filter (fun p => p.2 ≤ n)).map (·.1)).min?

/-- one step of the table walk: state `(tab, j, distances)`; `tab[b]` holds
(last position + 1), 0 = never seen, so `j − tab_py[b] = j + 1 − tab[b]`. -/
def uniStep (q : Nat) (st : Except PyErr (Array Nat × Nat × List Nat)) (b : Nat) :
    Except PyErr (Array Nat × Nat × List Nat) :=
  match st with
  | .error e => .error e
  | .ok (tab, j, ds) =>
    match tab[b]? with
    | none => .error .indexError
    | some last =>
      if j < q then .ok (tab.setIfInBounds b (j + 1), j + 1, ds)
      else .ok (tab.setIfInBounds b (j + 1), j + 1, (j + 1 - last) :: ds)

structure UniversalOut where
  blockSize : Nat
  q : Nat
  k : Nat
  /-- multiset of the K distances `j − tab[b]` as sorted (distance, multiplicity);
  f = (Σ mult·log₂ distance)/K -/
  dists : List (Nat × Nat)
  deriving DecidableEq, Repr

/-- `UniversalImpl(bits, n, block_size, q)`. -/
def universalImpl (bits n blockSize q : Nat) : Except PyErr UniversalOut :=
  if blockSize = 0 then .error .zeroDivision
  else if n / blockSize < q then .error .valueError          -- k < 0: math.sqrt(variance / k)
  else if blockSize > 16 then .error .valueError             -- not in distribution_table
  else if n / blockSize = q then .error .zeroDivision        -- 0 ** (-3 / block_size)
  else
    match ((chunks (bitList bits n) blockSize).map natOfBits).foldl (uniStep q)
        (.ok (Array.replicate (2 ^ blockSize) 0, 0, [])) with
    | .error e => .error e
    | .ok (_, _, ds) => .ok { blockSize := blockSize, q := q, k := n / blockSize - q, dists := multiset ds }

/-- `Universal(bits, n)`. -/
def universal (bits n : Nat) : Except PyErr UniversalOut :=
  match universalL n with
  | none => .error .insufficientData
  | some l => universalImpl bits n l (10 * 2 ^ l)

/-! ## 2.10 Linear complexity (per-block complexities are an oracle, C14) -/

/-- `-LfsrLogProbability(n, m)`: x with P(linear complexity = m) = 2^(−x). -/
def lfsrNegLogProb (n m : Nat) : Except PyErr Nat :=
  if n = 0 then .error .valueError
  else if m > n then .error .valueError
  else if m = 0 then .ok n
  else if m ≤ n / 2 then .ok (n + 1 - 2 * m)
  else .ok (2 * m - n)

/-- `berlekamp_massey.LfsrCount(n, m)`: number of n-bit sequences of linear complexity m. -/
def lfsrCount (n m : Nat) : Nat :=
  if m > n then 0
  else if m = 0 then 1
  else if m ≤ n / 2 then 2 * 4 ^ (m - 1)
  else 4 ^ (n - m)

/-- class of a complexity: `0` for ≤ median−3, `6` for ≥ median+3, else `c − median + 3`. -/
def lcClass (median c : Nat) : Nat :=
  if c + 3 ≤ median then 0 else if c ≥ median + 3 then 6 else c + 3 - median

structure LinCompOut where
  blockSize : Nat
  /-- `v[0..6]` -/
  hist : List Nat
  /-- q = −Σ LfsrLogProbability; second p-value = BinomialCdf(N − 1, q − 1) -/
  q : Nat
  nblocks : Nat
  deriving DecidableEq, Repr

def sumNegLogProb (m : Nat) : List Nat → Except PyErr Nat
  | [] => .ok 0
  | c :: rest =>
    match lfsrNegLogProb m c, sumNegLogProb m rest with
    | .ok a, .ok b => .ok (a + b)
    | .error e, _ => .error e
    | _, .error e => .error e

/-- `LinearComplexityImpl` given the complexities of the blocks (no block: `ChiSquare` divides
0.0 by 0.0). -/
def linearComplexityImpl (m : Nat) (cs : List Nat) : Except PyErr LinCompOut :=
  if cs.isEmpty then .error .zeroDivision else
  match sumNegLogProb m cs with
  | .error e => .error e
  | .ok q => .ok { blockSize := m, hist := (tally 7 (cs.map (lcClass ((m + 1) / 2)))).toList,
                   q := q, nblocks := cs.length }

/-- `LinearComplexity(bits, n, block_size)`; `cs` = oracle answers, one per block
(`cs.length = n / block_size` is the harness's obligation). -/
def linearComplexity (n blockSize : Nat) (cs : List Nat) : Except PyErr LinCompOut :=
  if blockSize < 10 then .error .insufficientData
  else if blockSize * 200 > n then .error .insufficientData
  else linearComplexityImpl blockSize cs

/-! ## 2.11 Serial, 2.12 Approximate entropy -/

/-- `[count[i] + count[i + 1] for i in range(0, len(count), 2)]`. -/
def pairSum : List Nat → List Nat
  | a :: b :: rest => (a + b) :: pairSum rest
  | _ => []

def sumSq (l : List Nat) : Nat := (l.map (fun x => x * x)).sum

/-- Σ count², for m = m_max, m_max − 1, …, 1 (in this order). -/
def sumSqChain : Nat → List Nat → List Nat
  | 0, _ => []
  | m + 1, cnt => sumSq cnt :: sumSqChain m (pairSum cnt)

/-- `max(2, min(22, n.bit_length() - 4))`. -/
def serialMMax (n : Nat) : Nat := max 2 (min 22 (bitLength n - 4))

structure SerialOut where
  mMax : Nat
  n : Nat
  /-- `sq[i]` = Σ_w count_{i+1}[w]², i = 0 … m_max − 1;  ψ²_m = 2^m·sq[m−1]/n − n, ψ²_0 = 0 -/
  sq : List Nat
  deriving DecidableEq, Repr

/-- `Serial(bits, n, m_max)`; `m_max ≥ 1` when given. -/
def serialWith (bits n mm : Nat) : Except PyErr SerialOut :=
  if mm > n then .error .valueError
  else .ok { mMax := mm, n := n, sq := (sumSqChain mm (countsWrap (bitList bits n) mm).toList).reverse }

def serial (bits n : Nat) (mMax : Option Nat) : Except PyErr SerialOut :=
  serialWith bits n (match mMax with | some x => x | none => serialMMax n)

/-- numerator of ψ²_m = (2^m Σ count² − n²)/n. -/
def psiNum (n m sq : Nat) : Int := (2 ^ m * sq : Nat) - (n * n : Nat)

/-- default `m_max` of `ApproximateEntropy`. -/
def apenMMax (n : Nat) : Nat :=
  if n < 2 ^ 16 then max 2 (bitLength n - 7)
  else if n < 2 ^ 20 then bitLength n - 8
  else if n < 2 ^ 24 then bitLength n - 9
  else min 22 (bitLength n - 10)

/-- nonzero counts as multiset, for m = top, top − 1, …, 2. -/
def apenChain : Nat → List Nat → List (List (Nat × Nat))
  | 0, _ => []
  | m + 1, cnt => multiset (cnt.filter (· ≠ 0)) :: apenChain m (pairSum cnt)

structure ApenOut where
  mMax : Nat
  n : Nat
  /-- `levels[i]` = multiset of the non-zero counts of (i+2)-bit patterns, i = 0 … m_max − 1;
  φ_m = Σ mult·(c/n)·ln(c/n); χ² = 2n(ln 2 − (φ_m − φ_{m+1})), clamped at 0 (D10) -/
  levels : List (List (Nat × Nat))
  deriving DecidableEq, Repr

/-- `ApproximateEntropy(bits, n, m_max)`; `m_max ≥ 1` when given. -/
def apenWith (bits n mm : Nat) : Except PyErr ApenOut :=
  if mm + 1 > n then .error .valueError
  else .ok { mMax := mm, n := n,
             levels := (apenChain mm (countsWrap (bitList bits n) (mm + 1)).toList).reverse }

def approximateEntropy (bits n : Nat) (mMax : Option Nat) : Except PyErr ApenOut :=
  apenWith bits n (match mMax with | some x => x | none => apenMMax n)

/-! ## 2.13–2.15 Random walk: cusum, random excursions, random excursions variant -/

inductive Variant | pinned | repaired
  deriving DecidableEq, Repr

/-- `RandomExcursionsDistribution(x, max_cnt)` for `|x| = x ≥ 1`, `max_cnt ≥ 1`, as exact
fractions (numerator, denominator): with t = 1/(2x): π₀ = 1 − t, π_k = t²(1 − t)^(k−1) for
0 < k < max_cnt, π_max = t(1 − t)^(max_cnt − 1). -/
def excursionPi (x maxCnt : Nat) : List (Nat × Nat) :=
  ((2 * x - 1, 2 * x) :: (List.range (maxCnt - 1)).map (fun j => ((2 * x - 1) ^ j, (2 * x) ^ (j + 2))))
    ++ [((2 * x - 1) ^ (maxCnt - 1), (2 * x) ^ maxCnt)]

/-- loop state of `RandomWalk`: `cur` = non-zero in-range states visited in the current
cycle (`cnt`), `done` = completed cycles (`cnts`). `maxOut`/`minOut` are the code's
`maxs`/`mins` inside the loop (only updated outside ±max_state2). -/
structure RW where
  s : Int
  maxOut : Int
  minOut : Int
  cur : List Int
  done : List (List Int)
  deriving DecidableEq, Repr

def rwInit : RW := { s := 0, maxOut := 0, minOut := 0, cur := [], done := [] }

def rwMove (m2 : Int) (st : RW) (s : Int) : RW :=
  if s > m2 then { st with s := s, maxOut := max st.maxOut s }
  else if s < -m2 then { st with s := s, minOut := min st.minOut s }
  else if s ≠ 0 then { st with s := s, cur := s :: st.cur }
  else { st with s := s, cur := [], done := st.cur :: st.done }

def rwStep (m2 : Int) (st : RW) (b : Bool) : RW := rwMove m2 st (st.s + (if b then 1 else -1))

/-- all cycles, `cnts` after the final `cnts.append(cnt)`. -/
def rwCycles (st : RW) : List (List Int) := st.cur :: st.done

def listMax : List Int → Option Int
  | [] => none
  | a :: l => match listMax l with | none => some a | some m => some (max a m)

def listMin : List Int → Option Int
  | [] => none
  | a :: l => match listMin l with | none => some a | some m => some (min a m)

/-- `maxs` after the loop.  pinned: `if maxs == 0: maxs = max(total_cnt)` (ValueError on an
empty dict); repaired (D4): the start value S₀ = 0 takes part. -/
def rwMax (v : Variant) (st : RW) : Except PyErr Int :=
  if st.maxOut ≠ 0 then .ok st.maxOut
  else match v, listMax (rwCycles st).flatten with
    | .pinned, none => .error .valueError
    | .pinned, some m => .ok m
    | .repaired, none => .ok 0
    | .repaired, some m => .ok (max m 0)

def rwMin (v : Variant) (st : RW) : Except PyErr Int :=
  if st.minOut ≠ 0 then .ok st.minOut
  else match v, listMin (rwCycles st).flatten with
    | .pinned, none => .error .valueError
    | .pinned, some m => .ok m
    | .repaired, none => .ok 0
    | .repaired, some m => .ok (min m 0)

/-- `v[min(max_cnt, cnt[x])] += 1 for cnt in cnts`. -/
def excursionHist (cycles : List (List Int)) (maxCnt : Nat) (x : Int) : List Nat :=
  (tally (maxCnt + 1) (cycles.map (fun c => min maxCnt (c.count x)))).toList

/-- states `-k, …, -1, 1, …, k` in the order of `range(-k, k + 1)`. -/
def stateRange (k : Nat) : List Int :=
  ((List.range k).map (fun i => -((k - i : Nat) : Int))) ++ ((List.range k).map (fun i => ((i + 1 : Nat) : Int)))

structure RandomWalkOut where
  n : Nat
  /-- max_k |S_k| -/
  zFwd : Nat
  /-- max_k |S_n − S_k| -/
  zBwd : Nat
  /-- number of cycles J (`len(cnts)`) -/
  cycles : Nat
  /-- for x in stateRange max_state: histogram `v[0..max_cnt]` — empty list when J < 500 -/
  exHists : List (List Nat)
  /-- for x in stateRange max_state_variant: total visits ξ(x) — empty list when J < 500 -/
  totals : List Nat
  deriving DecidableEq, Repr

def rwOut (n : Nat) (st : RW) (maxs mins : Int) (maxState maxCnt maxStateVariant : Nat) :
    RandomWalkOut :=
  { n := n,
    zFwd := (max maxs (-mins)).toNat,
    zBwd := (max (maxs - st.s) (st.s - mins)).toNat,
    cycles := (rwCycles st).length,
    exHists := if (rwCycles st).length ≥ 500
      then (stateRange maxState).map (excursionHist (rwCycles st) maxCnt) else [],
    totals := if (rwCycles st).length ≥ 500
      then (stateRange maxStateVariant).map (fun x => (rwCycles st).flatten.count x) else [] }

/-- `RandomWalk(bits, n, max_state, max_cnt, max_state_variant)` for `n ≥ 1`.
`CumulativeSumsPValue(0, z)` divides by √0 → ZeroDivisionError. With `max_cnt = 0` and
enough cycles `Igamc(0, ·)`'s χ² has zero expected counts → ZeroDivisionError is not modelled:
precondition `max_cnt ≥ 1`.  EXACT part only: for `max_cnt ≥ 1075` the float
`RandomExcursionsDistribution` underflows and Python divides by 0.0 — oracle in `randomWalkF`
(Model/NistFloat.lean), which is what the driver op `nist.randomwalk` evaluates. -/
def randomWalkOf (v : Variant) (n : Nat) (st : RW) (maxState maxCnt maxStateVariant : Nat) :
    Except PyErr RandomWalkOut :=
  match rwMax v st, rwMin v st with
  | .ok maxs, .ok mins => .ok (rwOut n st maxs mins maxState maxCnt maxStateVariant)
  | .error e, _ => .error e
  | _, .error e => .error e

/-- the walk: final loop state of `RandomWalk` on the bit list. -/
def rwRun (m2 : Nat) (l : List Bool) : RW := l.foldl (rwStep (m2 : Int)) rwInit

def randomWalk (v : Variant) (bits n maxState maxCnt maxStateVariant : Nat) :
    Except PyErr RandomWalkOut :=
  if n = 0 then .error .zeroDivision
  else randomWalkOf v n (rwRun (max maxState maxStateVariant) (bitList bits n))
    maxState maxCnt maxStateVariant

/-! ## extended_nist_suite -/

/-- ranks of the `size × size` matrices, `size = 64, 128, …` while `size² ≤ n`. -/
def largeRankLoop (l : List Bool) (n : Nat) : Nat → Nat → List (Nat × Nat)
  | 0, _ => []
  | f + 1, size =>
    if size * size ≤ n then
      (size, binaryRank ((chunks (l.take (size * size)) size).map natOfBits)) :: largeRankLoop l n f (2 * size)
    else []

/-- `LargeBinaryMatrixRank(bits, n)`: list of `(size, rank)`; p = ASYMPTOTIC_RANK_SF[size − rank]
(0 beyond the table). -/
def largeBinaryMatrixRank (bits n : Nat) : Except PyErr (List (Nat × Nat)) :=
  if n < 64 * 64 then .error .insufficientData
  else .ok (largeRankLoop (bitList bits n) n n 64)

structure ScatterOut where
  /-- effective length after truncation by `max_block_size` -/
  n : Nat
  /-- `size` of the i-th interleaved sequence -/
  sizes : List Nat
  /-- −Σ LfsrLogProbability(sizeᵢ, cᵢ); p = BinomialCdf(step − 1, q − 1) -/
  q : Nat
  deriving DecidableEq, Repr

def scatterN (n step : Nat) (maxBlock : Option Nat) : Nat :=
  match maxBlock with
  | some mb => if step * mb < n then step * mb else n
  | none => n

def scatterSizes (n step : Nat) : List Nat :=
  (List.range step).map (fun i => (n + step - 1 - i) / step)

def scatterSum : List Nat → List Nat → Except PyErr Nat
  | s :: ss, c :: cs =>
    match lfsrNegLogProb s c, scatterSum ss cs with
    | .ok a, .ok b => .ok (a + b)
    | .error e, _ => .error e
    | _, .error e => .error e
  | _, _ => .ok 0

/-- `LinearComplexityScatter(bits, n, step_size, max_block_size)` given the oracle
complexities of the `step_size` interleaved sequences; `step_size ≥ 1`. -/
def linearComplexityScatter (n step : Nat) (maxBlock : Option Nat) (cs : List Nat) :
    Except PyErr ScatterOut :=
  match scatterSum (scatterSizes (scatterN n step maxBlock) step) cs with
  | .error e => .error e
  | .ok q => .ok { n := scatterN n step maxBlock, sizes := scatterSizes (scatterN n step maxBlock) step, q := q }

end Paranoid.Nist
