/-
Model/EcAll.lean — end-to-end models of the two entry points `paranoid.CheckAllEC` and
`paranoid.CheckAllECDSASigs`, COMPOSED from the existing pieces.  No Mathlib.

    checkAllECFull         = Checks.checkAllEC .repaired O I arts
    checkAllECDSASigsFull  = Checks.checkAllECDSASigs .repaired O I arts

where the per-check per-artefact verdict oracle `O` (and, for CheckIssuerKey, the verdicts `I` of
the inner `paranoid.CheckAllEC` on the de-duplicated issuer keys) are no longer inputs: they are
COMPUTED, by check NAME over the regenerated registries `Consts.ecAllChecks` /
`Consts.ecdsaAllChecks`, from
  * Model/Bsgs.lean: `checkValidECKey`, `checkWeakCurve`, `checkWeakECPrivateKey`,
    `checkECKeySmallDifference` on `CURVE_FACTORY` as regenerated into Generated/Consts.lean, and
  * Model/EcdsaChecks.lean: `check k O factory sigs` for the six `BiasedBaseCheck`s and
    `CheckCr50U2f`.
What remains an oracle (explicit argument, recorded by the harness at the call site):
  * the float values `int(math.sqrt(·))` of BatchDL / PointTable (`EcOracle`),
  * the answers of the lattice solvers and the two Python `set` iteration orders
    (`EcdsaChecks.GroupOracle` per registered check and curve id),
and the state found in the process-wide `EcCurve` singletons: `_table` / `_table_size` (one
`StateG τ` per `CURVE_FACTORY` item, threaded through the checks in registry order — also through
the inner `CheckAllEC` of CheckIssuerKey, which uses the very same curve objects) and `_cache`
(inside `EcdsaChecks.Factory`, threaded through the nonce checks).

A registry name without a model is `Err.noModel` — never a silent pass.  A disagreement between a
check model and the bookkeeping layer about WHICH artefacts receive an entry
(`KeyVerdict = none` / `verdictOf = none` against `Checks.applicable`) is `Err.shape`; Props/EcAll
proves that it cannot happen with the regenerated factory.

Constructor / literal parameters: `EcParams.bound` is the literal `2**32` that `ExtendedBatchDL`
passes to `BatchDL`, `EcParams.maxDiff` the `max_diff` of the `CheckECKeySmallDifference`
singleton (`EcParams.real` = `2**32`, `2**24`); the quick tier of the harness runs the real code with
both reduced and tells the model the same numbers.

Verdict conversion (which `AttachInfo` each check makes — ec_single_checks.py,
ec_aggregate_checks.py):
  CheckWeakECPrivateKey       `(INFO_NAME_DISCRETE_LOG, format(int(dl), "x"))`
  CheckECKeySmallDifference   `(INFO_NAME_DISCRETE_LOG_DIFF, "key - (%x, %x) = %d * G" % (qx, qy, dl))`
  CheckValidECKey / CheckWeakCurve   nothing
-/
import ParanoidModel.Model.Bsgs
import ParanoidModel.Model.EcdsaChecks
namespace Paranoid.EcAll
open Paranoid Paranoid.Ec Paranoid.Bsgs

/-- what a run of the composed model can end with instead of a result. -/
inductive Err
  /-- the Python code raises this exception -/
  | py (e : PyErr)
  /-- a registered check has no model -/
  | noModel (name : String)
  /-- a check model and the bookkeeping layer disagree about which artefacts get an entry -/
  | shape
  deriving DecidableEq, Repr

def liftPy {α} : Except PyErr α → Except Err α
  | .ok a => .ok a
  | .error e => .error (.py e)

/-! ### `CURVE_FACTORY` and the parameters -/

/-- `ec_util.CURVE_FACTORY.items()` as regenerated from /repo (dict order, `None` entries kept). -/
def ecFactory : Bsgs.Factory :=
  Consts.ecCurveFactory.map fun e => ⟨e.1, e.2.map EcdsaChecks.curveOfTuple⟩

structure EcParams where
  /-- the literal `2**32` in `ExtendedBatchDL` -/
  bound : Nat
  /-- `CheckECKeySmallDifference._max_diff` -/
  maxDiff : Nat
  deriving DecidableEq, Repr

/-- the parameters of the registered singletons. -/
def EcParams.real : EcParams := ⟨2 ^ 32, 2 ^ 24⟩

/-- the float oracles of ONE `CheckAllEC` run, parallel to `CURVE_FACTORY.items()`. -/
structure EcOracle where
  /-- CheckWeakECPrivateKey: `(int(math.sqrt(bound * len(all_points))), int(math.sqrt(table_size)))` -/
  wk : List (Nat × Nat)
  /-- CheckECKeySmallDifference: `int(math.sqrt(max_diff))` -/
  sd : List Nat

/-! ### CheckWeakECPrivateKey with the literal `2**32` as a parameter -/

/-- `Bsgs.weakKeyLoop` with `ExtendedBatchDL`'s `2**32` replaced by `bound`
(`weakKeyLoopB I (2^32) = weakKeyLoop I`, Proofs/EcTotal). -/
def weakKeyLoopB {τ} (I : TableImpl τ) (bound : Nat) (keys : List ECKey) :
    Factory → List (StateG τ) → List (Nat × Nat) → List KeyVerdict →
    Except PyErr (List KeyVerdict × List (StateG τ))
  | e :: es, st :: sts, o :: os, res =>
    match e.curve with
    | none => consState st (weakKeyLoopB I bound keys es sts os res)
    | some c =>
      if (groupPoints e.id keys).isEmpty then
        consState st (weakKeyLoopB I bound keys es sts os res)
      else
        match extendedBatchDLB I c bound st (groupPoints e.id keys) o.1 o.2 with
        | .error err => .error err
        | .ok (dls, st') =>
          consState st' (weakKeyLoopB I bound keys es sts os
            (scatter res (keyIdxs e.id keys 0) (dls.map dlogVerdict)))
  | _, _, _, res => .ok (res, [])

def checkWeakECPrivateKeyB {τ} (I : TableImpl τ) (bound : Nat) (f : Factory)
    (sts : List (StateG τ)) (orc : List (Nat × Nat)) (keys : List ECKey) :=
  weakKeyLoopB I bound keys f sts orc (List.replicate keys.length none)

/-! ### verdict conversion -/

/-- `paranoid_pb2.ECKey` as the EC checks read it. -/
def keyOf (a : Artifact) : ECKey := ⟨a.curve, a.point.1, a.point.2⟩

def infoNameDiscreteLog : String := "DISCRETE_LOG"
def infoNameDiscreteLogDiff : String := "DISCRETE_LOG_DIFF"

/-- `"key - (%x, %x) = %d * G" % (q[0], q[1], dl)`. -/
def relString (r : Rel) : String :=
  "key - (" ++ Proto.hexInt r.qx ++ ", " ++ Proto.hexInt r.qy ++ ") = " ++ toString r.dl ++ " * G"

/-- the `util.AttachInfo(test_info, name, value)` call of a check. -/
def infoOf : Info → String × AttachedValue
  | .dlog v => (infoNameDiscreteLog, .raw (Proto.hexInt v))
  | .diff r => (infoNameDiscreteLogDiff, .raw (relString r))

def toVerdict (kv : KV) : Verdict := ⟨kv.result, none, kv.info.map infoOf⟩

/-- "negative, nothing attached". -/
def noVerdict : Verdict := ⟨false, none, none⟩

/-- verdict of the `j`-th registered check on the `i`-th artefact (positions without an entry are
never read by the bookkeeping layer: `shapeOK`). -/
def verdictAt (rows : List (List KeyVerdict)) (j i : Nat) : Verdict :=
  match rows[j]? with
  | some row =>
    match row[i]? with
    | some (some kv) => toVerdict kv
    | _ => noVerdict
  | none => noVerdict

/-! ### the registered EC checks, by name, with the `_table` state threaded through -/

/-- `Check(artifacts)` of the EC check registered under `name`. -/
def runEcCheckG {τ} (I : TableImpl τ) (p : EcParams) (o : EcOracle) (keys : List ECKey)
    (name : String) (sts : List (StateG τ)) :
    Except Err (List KeyVerdict × List (StateG τ)) :=
  if name = "CheckValidECKey" then
    match checkValidECKey ecFactory keys with
    | .error e => .error (.py e)
    | .ok row => .ok (row, sts)
  else if name = "CheckWeakCurve" then .ok (checkWeakCurve ecFactory keys, sts)
  else if name = "CheckWeakECPrivateKey" then
    liftPy (checkWeakECPrivateKeyB I p.bound ecFactory sts o.wk keys)
  else if name = "CheckECKeySmallDifference" then
    liftPy (checkECKeySmallDifferenceG I ecFactory sts o.sd keys p.maxDiff)
  else .error (.noModel name)

/-- the checks of a registry one after another on the same curve objects. -/
def ecVerdictsG {τ} (I : TableImpl τ) (p : EcParams) (o : EcOracle) (keys : List ECKey) :
    List String → List (StateG τ) → Except Err (List (List KeyVerdict) × List (StateG τ))
  | [], sts => .ok ([], sts)
  | name :: names, sts =>
    match runEcCheckG I p o keys name sts with
    | .error e => .error e
    | .ok (row, sts') =>
      match ecVerdictsG I p o keys names sts' with
      | .error e => .error e
      | .ok (rows, sts'') => .ok (row :: rows, sts'')

/-- one check: a verdict per artefact, and `SetTestResult` is called exactly for the artefacts the
bookkeeping layer writes an entry for. -/
def rowOK (c : CheckSpec) (arts : List Artifact) (row : List KeyVerdict) : Bool :=
  row.length == arts.length && (arts.zip row).all fun x => x.2.isSome == applicable c x.1

def shapeOK : List CheckSpec → List Artifact → List (List KeyVerdict) → Bool
  | [], _, [] => true
  | c :: cs, arts, row :: rows => !c.issuer && rowOK c arts row && shapeOK cs arts rows
  | _, _, _ => false

/-- no EC check runs an inner `CheckAllEC`. -/
def noInner : Nat → Nat → Nat → Verdict := fun _ _ _ => noVerdict

/-- the verdict rows of all registered EC checks on a batch of keys. -/
def ecRowsG {τ} (I : TableImpl τ) (p : EcParams) (o : EcOracle) (sts : List (StateG τ))
    (arts : List Artifact) : Except Err (List (List KeyVerdict) × List (StateG τ)) :=
  match ecVerdictsG I p o (arts.map keyOf) (ecAll.map (·.name)) sts with
  | .error e => .error e
  | .ok (rows, sts') => if shapeOK ecAll arts rows then .ok (rows, sts') else .error .shape

/-- `paranoid.CheckAllEC(ec_keys)`: annotated batch, return value, `_table` states afterwards. -/
def checkAllECFullG {τ} (I : TableImpl τ) (p : EcParams) (o : EcOracle) (sts : List (StateG τ))
    (arts : List Artifact) : Except Err ((List Artifact × Bool) × List (StateG τ)) :=
  match ecRowsG I p o sts arts with
  | .error e => .error e
  | .ok (rows, sts') =>
    match checkAllEC .repaired (verdictAt rows) noInner arts with
    | .error e => .error (.py e)
    | .ok r => .ok (r, sts')

/-- … on the association-list dict (the subject of Props/EcAll). -/
def checkAllECFull (p : EcParams) (o : EcOracle) (sts : List EcState) (arts : List Artifact) :=
  checkAllECFullG listImpl p o sts arts

/-! ### CheckAllECDSASigs -/

/-- `paranoid_pb2.ECDSASignature`: `test_info` and what the checks read. -/
structure SigArt where
  info : TestInfo
  sig : EcdsaChecks.Sig
  deriving DecidableEq, Repr

/-- the bookkeeping view: curve id and `PublicPoint` of `issuer_key_info`. -/
def SigArt.art (a : SigArt) : Artifact := ⟨a.info, a.sig.curve, a.sig.key⟩

/-- which `Check` method and constructor arguments a registered signature check has:
`BiasedBaseCheck(bias=hnp.Bias.X)` / `BiasedBaseCheck(lcg_params=(LcgName.X, SearchStrategy.DEFAULT))`
by enum VALUE, `CheckCr50U2f`; `none`: not a nonce check. (The harness compares this table with the
registered singletons: op `ecall.kinds`.) -/
def kindOfName (name : String) : Option EcdsaChecks.Kind :=
  if name = "CheckLCGNonceGMP" then some (.biased (.lcg 1 7))
  else if name = "CheckLCGNonceJavaUtilRandom" then some (.biased (.lcg 2 7))
  else if name = "CheckNonceMSB" then some (.biased (.bias 1))
  else if name = "CheckNonceCommonPrefix" then some (.biased (.bias 2))
  else if name = "CheckNonceCommonPostfix" then some (.biased (.bias 3))
  else if name = "CheckNonceGeneralized" then some (.biased (.bias 4))
  else if name = "CheckCr50U2f" then some .cr50
  else none

/-- what one registered signature check produced. -/
inductive StepOut
  /-- a nonce check: `(batch index, verdict)` in the order written, and its solver calls -/
  | direct (writes : List (Nat × Verdict)) (calls : List (Nat × List (List EcdsaChecks.Call)))
  /-- CheckIssuerKey: the verdict rows of the inner `CheckAllEC` on `pks_pb` -/
  | inner (rows : List (List KeyVerdict))

/-- the process-wide curve objects: `_table` states (parallel to `ecFactory`) and `_cache`s. -/
structure SigState (τ : Type) where
  tables : List (StateG τ)
  factory : EcdsaChecks.Factory

/-- oracles of one `CheckAllECDSASigs` run, by position `j` in the registry. -/
structure SigOracle where
  /-- solver answers and `set` orders of the `j`-th check, per curve id -/
  solver : Nat → Nat → EcdsaChecks.GroupOracle
  /-- float oracles of the inner `CheckAllEC` when the `j`-th check is CheckIssuerKey -/
  floats : Nat → EcOracle

/-- does the nonce check write an entry exactly for the artefacts the bookkeeping layer expects? -/
def writesOK (c : CheckSpec) (arts : List Artifact) (writes : List (Nat × Verdict)) : Bool :=
  !c.issuer && arts.zipIdx.all fun x =>
    (EcdsaChecks.verdictOf writes x.2).isSome == applicable c x.1

/-- `Check(artifacts)` of the signature check registered as `c` at position `j`. -/
def runSigStepG {τ} (I : TableImpl τ) (p : EcParams) (O : SigOracle) (arts : List Artifact)
    (sigs : List EcdsaChecks.Sig) (c : CheckSpec) (j : Nat) (st : SigState τ) :
    Except Err (StepOut × SigState τ) :=
  if c.name = "CheckIssuerKey" then
    if c.issuer then
      match ecRowsG I p (O.floats j) st.tables (issuerKeys .repaired arts) with
      | .error e => .error e
      | .ok (rows, tables') => .ok (.inner rows, ⟨tables', st.factory⟩)
    else .error .shape
  else
    match kindOfName c.name with
    | none => .error (.noModel c.name)
    | some k =>
      match EcdsaChecks.check k (O.solver j) st.factory sigs with
      | .error e => .error (.py e)
      | .ok res =>
        if writesOK c arts res.writes then
          .ok (.direct res.writes res.calls, ⟨st.tables, res.factory⟩)
        else .error .shape

/-- the registered checks one after another on the same curve objects. -/
def sigStepsG {τ} (I : TableImpl τ) (p : EcParams) (O : SigOracle) (arts : List Artifact)
    (sigs : List EcdsaChecks.Sig) :
    List (CheckSpec × Nat) → SigState τ → Except Err (List StepOut × SigState τ)
  | [], st => .ok ([], st)
  | cj :: rest, st =>
    match runSigStepG I p O arts sigs cj.1 cj.2 st with
    | .error e => .error e
    | .ok (out, st') =>
      match sigStepsG I p O arts sigs rest st' with
      | .error e => .error e
      | .ok (outs, st'') => .ok (out :: outs, st'')

/-- `O j i`: verdict of the `j`-th registered check on the `i`-th signature. -/
def sigVerdictAt (outs : List StepOut) (j i : Nat) : Verdict :=
  match outs[j]? with
  | some (.direct writes _) =>
    match EcdsaChecks.verdictOf writes i with
    | some v => v
    | none => noVerdict
  | _ => noVerdict

/-- `I j jj k`: verdict of the `jj`-th active EC check on the `k`-th distinct issuer key, when the
`j`-th registered check is CheckIssuerKey. -/
def sigInnerAt (outs : List StepOut) (j jj k : Nat) : Verdict :=
  match outs[j]? with
  | some (.inner rows) => verdictAt rows jj k
  | _ => noVerdict

structure SigRun (τ : Type) where
  /-- annotated batch and return value -/
  result : List Artifact × Bool
  /-- what every registered check produced (verdicts, solver calls, inner rows) -/
  outs : List StepOut
  /-- the curve objects afterwards -/
  state : SigState τ

/-- `paranoid.CheckAllECDSASigs(ecdsa_sigs)`. -/
def checkAllECDSASigsFullG {τ} (I : TableImpl τ) (p : EcParams) (O : SigOracle)
    (st : SigState τ) (sarts : List SigArt) : Except Err (SigRun τ) :=
  match sigStepsG I p O (sarts.map SigArt.art) (sarts.map SigArt.sig) ecdsaAll.zipIdx st with
  | .error e => .error e
  | .ok (outs, st') =>
    match checkAllECDSASigs .repaired (sigVerdictAt outs) (sigInnerAt outs)
        (sarts.map SigArt.art) with
    | .error e => .error (.py e)
    | .ok r => .ok ⟨r, outs, st'⟩

def checkAllECDSASigsFull (p : EcParams) (O : SigOracle) (st : SigState XTable)
    (sarts : List SigArt) := checkAllECDSASigsFullG listImpl p O st sarts

/-- the curve objects of a fresh process: empty tables, empty caches. -/
def SigState.fresh {τ} (I : TableImpl τ) : SigState τ :=
  ⟨ecFactory.map fun _ => StateG.init I, EcdsaChecks.namedFactory⟩

end Paranoid.EcAll
